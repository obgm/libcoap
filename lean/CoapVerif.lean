-- GENERATED by tools/gen_registry.py — do not edit.
import CoapVerif.AuditTool
import CoapVerif.Driver.All
import CoapVerif.Driver.AllocBlock
import CoapVerif.Driver.AllocOracle
import CoapVerif.Driver.AllocRecv
import CoapVerif.Driver.Async
import CoapVerif.Driver.Block
import CoapVerif.Driver.BlockAdl
import CoapVerif.Driver.BlockTok
import CoapVerif.Driver.BlockXmit
import CoapVerif.Driver.Build
import CoapVerif.Driver.Codec
import CoapVerif.Driver.Duplicate
import CoapVerif.Driver.EditSpec
import CoapVerif.Driver.Exchange
import CoapVerif.Driver.Hostile
import CoapVerif.Driver.LinkFormat
import CoapVerif.Driver.Lock
import CoapVerif.Driver.Msg
import CoapVerif.Driver.Observe
import CoapVerif.Driver.ObserveWait
import CoapVerif.Driver.Oscore
import CoapVerif.Driver.Persist
import CoapVerif.Driver.QBlock
import CoapVerif.Driver.Replay
import CoapVerif.Driver.ReplayB2
import CoapVerif.Driver.Server
import CoapVerif.Driver.ServerBlock
import CoapVerif.Driver.Sessions
import CoapVerif.Driver.Stream
import CoapVerif.Driver.TlsGate
import CoapVerif.Driver.Uri
import CoapVerif.Driver.WsWriter
import CoapVerif.Generated.BlockConst
import CoapVerif.Generated.Consts
import CoapVerif.Generated.Consts2
import CoapVerif.Generated.ObsConst
import CoapVerif.Generated.OptLen
import CoapVerif.Generated.Repeatable
import CoapVerif.Generated.ServerTables
import CoapVerif.Generated.ThreadCfg
import CoapVerif.Generated.UriTab
import CoapVerif.Lemmas.AllocBlock
import CoapVerif.Lemmas.AllocOracle
import CoapVerif.Lemmas.AllocRecv
import CoapVerif.Lemmas.AllocRecvSim
import CoapVerif.Lemmas.Async
import CoapVerif.Lemmas.AsyncPass
import CoapVerif.Lemmas.AsyncRefs
import CoapVerif.Lemmas.Block
import CoapVerif.Lemmas.BlockAdl
import CoapVerif.Lemmas.BlockCrcv
import CoapVerif.Lemmas.BlockCrcvHostile
import CoapVerif.Lemmas.BlockNet
import CoapVerif.Lemmas.BlockNetOnce
import CoapVerif.Lemmas.BlockNetTok
import CoapVerif.Lemmas.BlockNetTok1
import CoapVerif.Lemmas.BlockRecv
import CoapVerif.Lemmas.BlockRtag
import CoapVerif.Lemmas.BlockSrcvHostile
import CoapVerif.Lemmas.BlockTok
import CoapVerif.Lemmas.BlockXmit
import CoapVerif.Lemmas.Build
import CoapVerif.Lemmas.BuildDefs
import CoapVerif.Lemmas.CalcTimeout
import CoapVerif.Lemmas.Conserve
import CoapVerif.Lemmas.Edit
import CoapVerif.Lemmas.EditApi
import CoapVerif.Lemmas.EditDup
import CoapVerif.Lemmas.EditItems
import CoapVerif.Lemmas.EditPatch
import CoapVerif.Lemmas.EditRefine
import CoapVerif.Lemmas.EditTrace
import CoapVerif.Lemmas.EditWf
import CoapVerif.Lemmas.Encode
import CoapVerif.Lemmas.Exchange
import CoapVerif.Lemmas.ExchangeRun
import CoapVerif.Lemmas.ExchangeServer
import CoapVerif.Lemmas.ExchangeTimed
import CoapVerif.Lemmas.LinkFormat
import CoapVerif.Lemmas.Lock
import CoapVerif.Lemmas.MsgHold
import CoapVerif.Lemmas.MsgLayer
import CoapVerif.Lemmas.MsgLayerI
import CoapVerif.Lemmas.MsgLayerW
import CoapVerif.Lemmas.MsgLayerW08
import CoapVerif.Lemmas.MsgLayerWRefuse
import CoapVerif.Lemmas.MsgLayerX
import CoapVerif.Lemmas.MsgLedger
import CoapVerif.Lemmas.Observe
import CoapVerif.Lemmas.ObserveAbsent
import CoapVerif.Lemmas.ObserveCon
import CoapVerif.Lemmas.ObserveFrame
import CoapVerif.Lemmas.ObserveInv
import CoapVerif.Lemmas.ObserveKey
import CoapVerif.Lemmas.ObserveRef
import CoapVerif.Lemmas.ObserveRun
import CoapVerif.Lemmas.ObserveStale
import CoapVerif.Lemmas.ObserveToken
import CoapVerif.Lemmas.ObserveWait
import CoapVerif.Lemmas.ObserveWaitInv
import CoapVerif.Lemmas.ObserveWake
import CoapVerif.Lemmas.OptFilter
import CoapVerif.Lemmas.Oscore
import CoapVerif.Lemmas.OscoreCbor
import CoapVerif.Lemmas.OscoreCtx
import CoapVerif.Lemmas.OscoreCtxSeq
import CoapVerif.Lemmas.OscoreNonce
import CoapVerif.Lemmas.OscoreOpt
import CoapVerif.Lemmas.OscorePlain
import CoapVerif.Lemmas.OscoreSeq
import CoapVerif.Lemmas.Parse
import CoapVerif.Lemmas.PduFixed
import CoapVerif.Lemmas.PersistCnt
import CoapVerif.Lemmas.PersistCodec
import CoapVerif.Lemmas.PersistFs
import CoapVerif.Lemmas.PersistHist
import CoapVerif.Lemmas.PskSelect
import CoapVerif.Lemmas.QBlock
import CoapVerif.Lemmas.QBlock2
import CoapVerif.Lemmas.Replay
import CoapVerif.Lemmas.ReplayEndp
import CoapVerif.Lemmas.ReplayNonce
import CoapVerif.Lemmas.ReplayReqNonce
import CoapVerif.Lemmas.SchedInv
import CoapVerif.Lemmas.SendQueue
import CoapVerif.Lemmas.Server
import CoapVerif.Lemmas.ServerBlock
import CoapVerif.Lemmas.ServerProps
import CoapVerif.Lemmas.Sessions
import CoapVerif.Lemmas.SessionsClient
import CoapVerif.Lemmas.SessionsInv
import CoapVerif.Lemmas.SessionsTimeout
import CoapVerif.Lemmas.Stream
import CoapVerif.Lemmas.StreamFeed
import CoapVerif.Lemmas.StreamWs
import CoapVerif.Lemmas.StreamWsClose
import CoapVerif.Lemmas.StreamWsDefs
import CoapVerif.Lemmas.StreamWsFeed
import CoapVerif.Lemmas.StreamWsFrames
import CoapVerif.Lemmas.StreamWsHs
import CoapVerif.Lemmas.TimerAbs
import CoapVerif.Lemmas.TimerSim
import CoapVerif.Lemmas.TimerSimFull
import CoapVerif.Lemmas.TlsGate
import CoapVerif.Lemmas.TlsLedger
import CoapVerif.Lemmas.TlsMoves
import CoapVerif.Lemmas.TlsNack
import CoapVerif.Lemmas.TlsOrder
import CoapVerif.Lemmas.Uri
import CoapVerif.Lemmas.UriOpts
import CoapVerif.Lemmas.UriSplit
import CoapVerif.Lemmas.WkBlock
import CoapVerif.Lemmas.WkEtag
import CoapVerif.Lemmas.WkLive
import CoapVerif.Lemmas.WsWriter
import CoapVerif.Model.AllocBlock
import CoapVerif.Model.AllocOracle
import CoapVerif.Model.AllocRecv
import CoapVerif.Model.Async
import CoapVerif.Model.Block
import CoapVerif.Model.BlockAdl
import CoapVerif.Model.BlockCrcv
import CoapVerif.Model.BlockNet
import CoapVerif.Model.BlockNetTok
import CoapVerif.Model.BlockNetTok1
import CoapVerif.Model.BlockRtag
import CoapVerif.Model.BlockTok
import CoapVerif.Model.BlockXmit
import CoapVerif.Model.Build
import CoapVerif.Model.Duplicate
import CoapVerif.Model.Exchange
import CoapVerif.Model.Gate
import CoapVerif.Model.LinkFormat
import CoapVerif.Model.Lock
import CoapVerif.Model.MsgLayer
import CoapVerif.Model.MsgLayerI
import CoapVerif.Model.MsgLayerW
import CoapVerif.Model.MsgLayerX
import CoapVerif.Model.Observe
import CoapVerif.Model.ObserveKey
import CoapVerif.Model.ObserveToken
import CoapVerif.Model.ObserveWait
import CoapVerif.Model.OptFilter
import CoapVerif.Model.Oscore
import CoapVerif.Model.OscoreAssoc
import CoapVerif.Model.OscoreCtx
import CoapVerif.Model.OscoreDispatch
import CoapVerif.Model.OscoreSrv
import CoapVerif.Model.Parse
import CoapVerif.Model.Persist
import CoapVerif.Model.PersistList
import CoapVerif.Model.PskSelect
import CoapVerif.Model.QBlock
import CoapVerif.Model.Replay
import CoapVerif.Model.ReplayAbs
import CoapVerif.Model.ReplayB2
import CoapVerif.Model.SendQueue
import CoapVerif.Model.Server
import CoapVerif.Model.ServerBlock
import CoapVerif.Model.Sessions
import CoapVerif.Model.StreamReader
import CoapVerif.Model.TlsGate
import CoapVerif.Model.Uri
import CoapVerif.Model.WkBlock
import CoapVerif.Model.WkLive
import CoapVerif.Model.WsReader
import CoapVerif.Model.WsWriter
import CoapVerif.Props.C01
import CoapVerif.Props.C01Consts
import CoapVerif.Props.C02
import CoapVerif.Props.C02Consts
import CoapVerif.Props.C03
import CoapVerif.Props.C03Consts
import CoapVerif.Props.C04
import CoapVerif.Props.C04Consts
import CoapVerif.Props.C05
import CoapVerif.Props.C05Consts
import CoapVerif.Props.C06
import CoapVerif.Props.C06Consts
import CoapVerif.Props.C07
import CoapVerif.Props.C07Consts
import CoapVerif.Props.C07Late
import CoapVerif.Props.C07Loop
import CoapVerif.Props.C07Shared
import CoapVerif.Props.C07Sim
import CoapVerif.Props.C08
import CoapVerif.Props.C08Consts
import CoapVerif.Props.C09
import CoapVerif.Props.C09Consts
import CoapVerif.Props.C10
import CoapVerif.Props.C10Block
import CoapVerif.Props.C10Consts
import CoapVerif.Props.C11
import CoapVerif.Props.C11Consts
import CoapVerif.Props.C12
import CoapVerif.Props.C12Consts
import CoapVerif.Props.C13
import CoapVerif.Props.C13Consts
import CoapVerif.Props.C14
import CoapVerif.Props.C14Consts
import CoapVerif.Props.C15
import CoapVerif.Props.C15Consts
import CoapVerif.Props.C16
import CoapVerif.Props.C16Consts
import CoapVerif.Props.C17
import CoapVerif.Props.C17Consts
import CoapVerif.Props.C18
import CoapVerif.Props.C18Consts
import CoapVerif.Props.C18Recv
import CoapVerif.Props.C19
import CoapVerif.Props.C19Consts
import CoapVerif.Props.C20
import CoapVerif.Props.C20Consts
import CoapVerif.Spec.Block
import CoapVerif.Spec.Codec
import CoapVerif.Spec.Crypto.Aes
import CoapVerif.Spec.Crypto.Basic
import CoapVerif.Spec.Crypto.Ccm
import CoapVerif.Spec.Crypto.Sha256
import CoapVerif.Spec.Duplicate
import CoapVerif.Spec.Encode
import CoapVerif.Spec.LinkFormat
import CoapVerif.Spec.OptFilter
import CoapVerif.Spec.Oscore
import CoapVerif.Spec.OscoreCtx
import CoapVerif.Spec.OscoreCtxSeq
import CoapVerif.Spec.OscoreSeq
import CoapVerif.Spec.Persist
import CoapVerif.Spec.Replay
import CoapVerif.Spec.SendQueue
import CoapVerif.Spec.Server
import CoapVerif.Spec.Stream
import CoapVerif.Spec.StreamWs
import CoapVerif.Spec.Timer
import CoapVerif.Spec.TlsCreds
import CoapVerif.Spec.Uri
import CoapVerif.Spec.WsFrame
import CoapVerif.Util
