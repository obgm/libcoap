import CoapVerif.Model.Uri
import CoapVerif.Spec.Uri
/- Helper lemmas for C16, first part: the character and hex tables (T1) against the RFC classes, percent-decoding by
   cases (`pctDecode_rec`), options → string and back (`recover`), the segment loop as a fold over the raw segments,
   dots(), the optlist builders and the buffer writers segment by segment. -/
namespace Coap.UriL
open Coap Coap.MU Coap.Spec.Uri

/-! ### the escape tables (T1) against RFC 7252 §6.5 -/

theorem tab_getD (tab : List Bool) (f : UInt8 → Bool) (h : tab = (List.range 256).map fun n => f (UInt8.ofNat n))
    (c : UInt8) : tab.getD c.toNat false = f c := by
  simp [h, List.getD, c.toNat_lt]

/-- evaluated by the kernel alone: the elaborator's evaluator needs a raised recursion limit for 256 entries -/
theorem unescTabs_eq :
    Generated.Uri.unescPathTab = pathPlainTab ∧ Generated.Uri.unescQueryTab = queryPlainTab := by decide +kernel

theorem unescPath_fun : unescPath = pathPlain := funext (tab_getD _ _ unescTabs_eq.1)
theorem unescQuery_fun : unescQuery = queryPlain := funext (tab_getD _ _ unescTabs_eq.2)

theorem hexUp_eq (n : Nat) : hexUp n = hexUpper n := rfl

/-! ### hex tables (T1) against RFC 3986 HEXDIG -/

/-- `isxdigit` and `hexchar_to_dec` together are HEXDIG (the second table is arbitrary off the hex digits) -/
theorem hex_tab :
    List.zipWith (fun x d => if x then some d else none) Generated.Uri.xdigitTab Generated.Uri.hexDecTab =
      (List.range 256).map fun n => hexDigitVal (UInt8.ofNat n) := by decide +kernel

theorem hexDigitVal_eq (c : UInt8) : hexDigitVal c = if isXdigit c then some (hexDec c) else none := by
  have h := congrArg (fun l => l[c.toNat]?) hex_tab
  simp only [List.getElem?_zipWith, List.getElem?_map, List.getElem?_range c.toNat_lt, Option.map_some,
    UInt8.ofNat_toNat] at h
  rw [isXdigit, hexDec, List.getD_eq_getElem?_getD, List.getD_eq_getElem?_getD]
  cases hx : Generated.Uri.xdigitTab[c.toNat]? with
  | none => simp [hx] at h
  | some x =>
    cases hd : Generated.Uri.hexDecTab[c.toNat]? with
    | none => simp [hx, hd] at h
    | some d => rw [hx, hd] at h; exact (Option.some.inj h).symm

theorem isXdigit_eq (c : UInt8) : isXdigit c = (hexDigitVal c).isSome := by
  rw [hexDigitVal_eq]; cases isXdigit c <;> rfl

theorem hexDigitVal_inv (c : UInt8) (x : Nat) (h : hexDigitVal c = some x) :
    c.toNat = x + 48 ∧ x < 10 ∨ (c.toNat = x + 55 ∨ c.toNat = x + 87) ∧ 10 ≤ x ∧ x < 16 := by
  revert h
  unfold hexDigitVal
  refine ite_ind (P := fun v => v = some x → _) (fun _ h => ?_) fun _ =>
    ite_ind (P := fun v => v = some x → _) (fun _ h => ?_) fun _ =>
    ite_ind (P := fun v => v = some x → _) (fun _ h => ?_) fun _ h => nomatch h
  · have := Option.some.inj h; exact Or.inl (by omega)
  · have := Option.some.inj h; exact Or.inr ⟨Or.inl (by omega), by omega⟩
  · have := Option.some.inj h; exact Or.inr ⟨Or.inr (by omega), by omega⟩

theorem hexDec_eq (c : UInt8) (x : Nat) (h : hexDigitVal c = some x) : hexDec c = x := by
  rw [hexDigitVal_eq] at h
  split at h
  · exact Option.some.inj h
  · cases h

theorem hexVal_hexUpper : ∀ n, n < 16 → hexDigitVal (hexUpper n) = some n := by decide

/-! ### percent-decoding by cases -/

theorem pctDecode_plain (c : UInt8) (r : Bytes) (hc : c ≠ 0x25) :
    pctDecode (c :: r) = (pctDecode r).map (c :: ·) := by
  rw [pctDecode.eq_def]
  simp only [hc, if_false]
  cases pctDecode r <;> rfl

theorem pctDecode_pct (a b : UInt8) (r : Bytes) :
    pctDecode (0x25 :: a :: b :: r) =
      match hexDigitVal a, hexDigitVal b, pctDecode r with
      | some x, some y, some t => some (UInt8.ofNat (x * 16 + y) :: t)
      | _, _, _ => none := by
  rw [pctDecode.eq_def]
  rfl

theorem pctDecode_cons_plain (c : UInt8) (r t : Bytes) (h : c ≠ 0x25) (ht : pctDecode r = some t) :
    pctDecode (c :: r) = some (c :: t) := by
  rw [pctDecode_plain c r h, ht]; rfl

theorem pctDecode_esc (a b : UInt8) (r t : Bytes) (x y : Nat) (hx : hexDigitVal a = some x) (hy : hexDigitVal b = some y)
    (ht : pctDecode r = some t) : pctDecode (0x25 :: a :: b :: r) = some (UInt8.ofNat (x * 16 + y) :: t) := by
  rw [pctDecode_pct, hx, hy, ht]

theorem pctDecode_isSome_plain (c : UInt8) (r : Bytes) (hc : c ≠ 0x25) :
    (pctDecode (c :: r)).isSome = (pctDecode r).isSome := by
  rw [pctDecode_plain c r hc, Option.isSome_map]

theorem pctDecode_isSome_esc (a b : UInt8) (r : Bytes) :
    (pctDecode (0x25 :: a :: b :: r)).isSome = (isXdigit a && isXdigit b && (pctDecode r).isSome) := by
  rw [isXdigit_eq, isXdigit_eq, pctDecode_pct]
  cases hexDigitVal a <;> cases hexDigitVal b <;> cases pctDecode r <;> rfl

theorem pctDecode_rec {motive : (s d : Bytes) → pctDecode s = some d → Prop} (nil : motive [] [] rfl)
    (plain : ∀ c r t (hc : c ≠ 0x25) (ht : pctDecode r = some t), motive r t ht →
      motive (c :: r) (c :: t) (pctDecode_cons_plain c r t hc ht))
    (esc : ∀ a b r x y t (hx : hexDigitVal a = some x) (hy : hexDigitVal b = some y) (ht : pctDecode r = some t),
      motive r t ht → motive (0x25 :: a :: b :: r) (UInt8.ofNat (x * 16 + y) :: t) (pctDecode_esc a b r t x y hx hy ht))
    (s d : Bytes) (h : pctDecode s = some d) : motive s d h := by
  induction s using pctDecode.induct generalizing d with
  | case1 => cases h; exact nil
  | case2 a b r x y t ht hy hx ih =>
    cases (pctDecode_esc a b r t x y hx hy ht).symm.trans h
    exact esc a b r x y t hx hy ht (ih t ht)
  | case3 a b r hno =>
    have h' := h
    rw [pctDecode_pct] at h'
    split at h'
    · exact (hno _ _ _ ‹_› ‹_› ‹_›).elim
    · cases h'
  | case4 r hshort =>
    match r, hshort, h with
    | [], _, h => cases h
    | [a], _, h => cases h
    | a :: b :: r', hshort, _ => exact (hshort a b r' rfl).elim
  | case5 c r hc t ht ih =>
    cases (pctDecode_cons_plain c r t hc ht).symm.trans h
    exact plain c r t hc ht (ih t ht)
  | case6 c r hc hnone =>
    have h' := h
    rw [pctDecode_plain c r hc, hnone] at h'
    cases h'

theorem decodeAll_rec {motive : (raws ds : List Bytes) → decodeAll raws = some ds → Prop} (nil : motive [] [] rfl)
    (cons : ∀ r d rs t (hd : pctDecode r = some d) (ht : decodeAll rs = some t), motive rs t ht →
      motive (r :: rs) (d :: t) (by rw [decodeAll, hd, ht]))
    (raws ds : List Bytes) (h : decodeAll raws = some ds) : motive raws ds h := by
  induction raws generalizing ds with
  | nil => cases h; exact nil
  | cons r rs ih =>
    have h' := h
    rw [decodeAll] at h'
    split at h'
    · cases h'; exact cons _ _ _ _ ‹_› ‹_› (ih _ _)
    · cases h'

theorem pctDecode_eq_nil (s d : Bytes) (h : pctDecode s = some d) : s = [] ↔ d = [] := by
  induction s, d, h using pctDecode_rec with
  | nil => exact Iff.rfl
  | plain => exact ⟨nofun, nofun⟩
  | esc => exact ⟨nofun, nofun⟩

theorem replacePercents_eq (seg d : Bytes) (h : pctDecode seg = some d) : replacePercents seg = d := by
  induction seg, d, h using pctDecode_rec with
  | nil => rfl
  | plain c r t hc ht ih =>
    match r, ih with
    | [], ih => cases ih; rfl
    | [a], ih => cases ih; rfl
    | a :: b :: r', ih => rw [replacePercents, if_neg hc, ih]
  | esc a b r x y t hx hy ht ih =>
    rw [replacePercents, if_pos rfl, hexDec_eq _ _ hx, hexDec_eq _ _ hy, ih, UInt8.ofNat_mod_size]

/-! ### options → string -/

theorem escSeg_eq : escSeg = pctEncode := by
  funext plain seg
  induction seg with
  | nil => rfl
  | cons c r ih => simp only [escSeg, pctEncode, ih, hexUp_eq]

theorem escSeg_length (unesc : UInt8 → Bool) (seg : Bytes) : (escSeg unesc seg).length = escLen unesc seg := by
  induction seg with
  | nil => rfl
  | cons c r ih =>
    by_cases h : unesc c = true <;> simp [escSeg, escLen, h, ih] <;> omega

theorem optVal_id (seg : Bytes) (h : seg.length < 65536) : optVal seg = seg := by
  unfold optVal
  rw [Nat.mod_eq_of_lt h, List.take_length]

theorem map_optVal (segs : List Bytes) (h : ∀ s ∈ segs, s.length < 65536) : segs.map optVal = segs :=
  (List.map_congr_left fun s hs => optVal_id s (h s hs)).trans (List.map_id' segs)

/-- what the write pass emits for every option but the first -/
def tailStr (sep : UInt8) (l : List Bytes) : Bytes := (l.map (fun s => sep :: s)).flatten

theorem writePass_succ (unesc : UInt8 → Bool) (sep : UInt8) (segs : List Bytes) (n : Nat) :
    writePass unesc sep (n + 1) segs = tailStr sep (segs.map (escSeg unesc)) := by
  induction segs generalizing n with
  | nil => rfl
  | cons s r ih => simp [writePass, tailStr, ih (n + 1)]

theorem joinSep_cons (sep : UInt8) (s : Bytes) (r : List Bytes) : joinSep sep (s :: r) = s ++ tailStr sep r := by
  induction r generalizing s with
  | nil => simp [joinSep, tailStr]
  | cons t r ih => simp [joinSep, tailStr, ih t]

theorem writePass_zero (unesc : UInt8 → Bool) (sep : UInt8) (segs : List Bytes) :
    writePass unesc sep 0 segs = joinSep sep (segs.map (escSeg unesc)) := by
  cases segs with
  | nil => rfl
  | cons s r => simp [writePass, writePass_succ, joinSep_cons]

theorem tailStr_length (unesc : UInt8 → Bool) (sep : UInt8) (segs : List Bytes) :
    (tailStr sep (segs.map (escSeg unesc))).length = lenSum unesc segs := by
  induction segs with
  | nil => rfl
  | cons s r ih =>
    simp [tailStr, lenSum, escSeg_length] at ih ⊢
    omega

theorem writePass_length (unesc : UInt8 → Bool) (sep : UInt8) (segs : List Bytes) :
    (writePass unesc sep 0 segs).length = lenPass unesc segs := by
  cases segs with
  | nil => rfl
  | cons s r =>
    have := tailStr_length unesc sep r
    simp [writePass, writePass_succ, lenPass, lenSum, escSeg_length, this]

/-- undoes the NULL-for-empty convention of `getQuery` (C16 `query_injective`, the cache key of C20) -/
theorem getD_ite_nil (l : Bytes) : (if l = [] then none else some l).getD [] = l := by
  split
  · rename_i h; rw [h]; rfl
  · rfl

/-! ### decoding what was composed -/

theorem byte_of_nibbles (c : UInt8) : UInt8.ofNat (c.toNat / 16 * 16 + c.toNat % 16) = c := by
  have : c.toNat / 16 * 16 + c.toNat % 16 = c.toNat := by omega
  rw [this]; simp

theorem pctDecode_encode (plain : UInt8 → Bool) (hp : plain 0x25 = false) (seg : Bytes) :
    pctDecode (pctEncode plain seg) = some seg := by
  induction seg with
  | nil => rfl
  | cons c r ih =>
    by_cases h : plain c = true
    · have hc : c ≠ 0x25 := by intro e; rw [e, hp] at h; exact Bool.false_ne_true h
      simp only [pctEncode, h, if_true]
      exact pctDecode_cons_plain _ _ _ hc ih
    · have h1 := hexVal_hexUpper (c.toNat / 16) (by have := c.toNat_lt; omega)
      have h2 := hexVal_hexUpper (c.toNat % 16) (by omega)
      simp only [pctEncode, h, Bool.false_eq_true, if_false]
      rw [pctDecode_esc _ _ _ _ _ _ h1 h2 ih, byte_of_nibbles]

/-- the characters an encoded segment consists of never end the component and never separate segments -/
structure Safe (plain stop sep : UInt8 → Bool) (sepc : UInt8) : Prop where
  plain_ok : ∀ c, plain c = true → stop c = false ∧ sep c = false
  pct_ok : stop 0x25 = false ∧ sep 0x25 = false
  hex_ok : ∀ n, n < 16 → stop (hexUpper n) = false ∧ sep (hexUpper n) = false
  sep_stop : stop sepc = false
  sep_sep : sep sepc = true
  plain_pct : plain 0x25 = false

theorem splitAcc_enc {plain stop sep : UInt8 → Bool} {sepc : UInt8} (hs : Safe plain stop sep sepc)
    (seg rest cur : Bytes) :
    splitAcc stop sep (pctEncode plain seg ++ rest) cur = splitAcc stop sep rest (cur ++ pctEncode plain seg) := by
  induction seg generalizing cur with
  | nil => simp [pctEncode]
  | cons c r ih =>
    by_cases h : plain c = true
    · have ⟨h1, h2⟩ := hs.plain_ok c h
      simp [pctEncode, h, splitAcc, h1, h2, ih]
    · have ⟨p1, p2⟩ := hs.pct_ok
      have ⟨a1, a2⟩ := hs.hex_ok (c.toNat / 16) (by have := c.toNat_lt; omega)
      have ⟨b1, b2⟩ := hs.hex_ok (c.toNat % 16) (by omega)
      simp [pctEncode, h, splitAcc, p1, p2, a1, a2, b1, b2, ih]

theorem splitAcc_join {plain stop sep : UInt8 → Bool} {sepc : UInt8} (hs : Safe plain stop sep sepc)
    (s : Bytes) (r : List Bytes) (cur : Bytes) :
    splitAcc stop sep (pctEncode plain s ++ tailStr sepc (r.map (pctEncode plain))) cur =
      (cur ++ pctEncode plain s) :: r.map (pctEncode plain) := by
  induction r generalizing s cur with
  | nil =>
    have := splitAcc_enc hs s [] cur
    simp [tailStr, splitAcc] at this ⊢
    exact this
  | cons t r ih =>
    have := ih t []
    simp [tailStr, splitAcc_enc hs] at this
    simp [tailStr, splitAcc_enc hs, splitAcc, hs.sep_stop, hs.sep_sep, this]

theorem decodeAll_enc (plain : UInt8 → Bool) (hp : plain 0x25 = false) (segs : List Bytes) :
    decodeAll (segs.map (pctEncode plain)) = some segs := by
  induction segs with
  | nil => rfl
  | cons s r ih => simp [decodeAll, pctDecode_encode plain hp, ih]

/-- splitting and decoding the composed string gives the segments back ([] comes back as the one empty segment) -/
theorem recover {plain stop sep : UInt8 → Bool} {sepc : UInt8} (hs : Safe plain stop sep sepc) (segs : List Bytes) :
    decodeAll (rawSegs stop sep (joinSep sepc (segs.map (pctEncode plain)))) = some (if segs = [] then [[]] else segs) := by
  cases segs with
  | nil => simp [joinSep, rawSegs, splitAcc, decodeAll, pctDecode]
  | cons s r =>
    have h := splitAcc_join hs s r []
    simp only [List.map_cons, joinSep_cons, rawSegs, h, List.nil_append]
    have := decodeAll_enc plain hs.plain_pct (s :: r)
    simpa using this

theorem compose_injective {plain stop sep : UInt8 → Bool} {sepc : UInt8} (hs : Safe plain stop sep sepc) (a b : List Bytes)
    (h : joinSep sepc (a.map (pctEncode plain)) = joinSep sepc (b.map (pctEncode plain))) : norm a = norm b := by
  have ha := recover hs a
  rw [h, recover hs b] at ha
  have hn : ∀ x : List Bytes, norm (if x = [] then [[]] else x) = norm x := by
    intro x; split
    · rename_i hx; rw [hx]; rfl
    · rfl
  rw [← hn a, ← hn b, Option.some.inj ha]

theorem plain_ne {plain : UInt8 → Bool} {c : UInt8} (h : plain c = true) (k : UInt8) (hk : plain k = false) :
    (c == k) = false :=
  beq_eq_false_iff_ne.mpr fun e => by rw [e, hk] at h; cases h

theorem pathSafe : Safe pathPlain pathStop pathSep 0x2f where
  plain_ok := fun c h => by
    simp only [pathStop, pathSep, plain_ne h 0x3f (by decide), plain_ne h 0x23 (by decide), plain_ne h 0x2f (by decide),
      Bool.or_self, and_self]
  pct_ok := by decide
  hex_ok := by decide
  sep_stop := by decide
  sep_sep := by decide
  plain_pct := by decide

theorem querySafe : Safe queryPlain queryStop querySep 0x26 where
  plain_ok := fun c h => by
    simp only [queryStop, querySep, plain_ne h 0x23 (by decide), plain_ne h 0x26 (by decide), and_self]
  pct_ok := by decide
  hex_ok := by decide
  sep_stop := by decide
  sep_sep := by decide
  plain_pct := by decide

/-! ### the segment loop -/

theorem pStop_eq : pStop = pathStop := rfl
theorem pSep_eq : pSep = pathSep := rfl
theorem qStop_eq : qStop = queryStop := rfl
theorem qSep_eq : qSep = querySep := rfl

/-- if the handler, given a segment as (pointer into the buffer, length), always succeeds with a result that
depends on the segment's bytes only, the loop is a fold over the raw segments -/
theorem segLoop_eq {σ : Type} (h : Bytes → Nat → σ → R σ) (step : Bytes → σ → σ) (stop sep : UInt8 → Bool)
    (hh : ∀ seg rest st, h (seg ++ rest) seg.length st = R.ok (step seg st)) (q cur : Bytes) (st : σ) :
    segLoop h stop sep q (cur ++ q) cur.length st = R.ok ((splitAcc stop sep q cur).foldl (fun s seg => step seg s) st) := by
  induction q generalizing cur st with
  | nil =>
    have := hh cur [] st
    simp at this
    simp [segLoop, splitAcc, this]
  | cons c q' ih =>
    by_cases h1 : stop c = true
    · simp [segLoop, splitAcc, h1, hh]
    · by_cases h2 : sep c = true
      · have := ih [] (step cur st)
        simp at this
        simp [segLoop, splitAcc, h1, h2, hh, this]
      · have := ih (cur ++ [c]) st
        simp at this
        simp [segLoop, splitAcc, h1, h2, this]

/-! ### dots() -/

/-- is the first "character" of the segment a dot, and how many bytes is it -/
def dotLen : Bytes → Option Nat
  | [] => none
  | c :: t =>
    if c = 0x25 ∧ (c :: t).length ≥ 3 then
      match t with
      | a :: b :: _ => if a = 0x32 then (if b = 0x45 ∨ b = 0x65 then some 3 else none) else none
      | _ => none
    else if c = 0x2e then some 1 else none

def dotKind (seg : Bytes) : Nat :=
  if seg = [] then 0 else
  match dotLen seg with
  | none => 0
  | some k =>
    if seg.length - k = 0 then 1 else
    match dotLen (seg.drop k) with
    | none => 0
    | some k2 => if seg.length - k - k2 = 0 then 2 else 0

theorem dotChar_eq (seg rest : Bytes) (hne : seg ≠ []) : dotChar (seg ++ rest) seg.length = R.ok (dotLen seg) := by
  match seg, hne with
  | c :: t, _ =>
    have h0 : rdb (c :: t ++ rest) 0 = R.ok c := rfl
    unfold dotChar dotLen
    rw [h0, R.bind_ok]
    dsimp only
    by_cases hc : c = 0x25 ∧ (c :: t).length ≥ 3
    · rw [if_pos hc, if_pos hc]
      match t, hc.2 with
      | a :: b :: t2, _ =>
        have h1 : rdb (c :: a :: b :: t2 ++ rest) 1 = R.ok a := rfl
        have h2 : rdb (c :: a :: b :: t2 ++ rest) 2 = R.ok b := rfl
        rw [h1, R.bind_ok, h2, R.bind_ok]
        dsimp only
        rw [apply_ite R.ok, apply_ite R.ok]
        rfl
    · rw [if_neg hc, if_neg hc, apply_ite R.ok]
      rfl

theorem dots_eq (seg rest : Bytes) : dots (seg ++ rest) seg.length = R.ok (dotKind seg) := by
  by_cases hne : seg = []
  · subst hne; simp [dots, dotKind]
  · have hl : seg.length ≠ 0 := by simpa using hne
    unfold dots dotKind
    rw [dotChar_eq seg rest hne]
    simp only [hl, hne, if_false]
    cases hk : dotLen seg with
    | none => rfl
    | some k =>
      by_cases h0 : seg.length - k = 0
      · simp [h0]
      · simp only [h0, if_false]
        have hlen : seg.length - k = (seg.drop k).length := List.length_drop.symm
        have hne2 : seg.drop k ≠ [] := fun e => h0 (by rw [hlen, e, List.length_nil])
        rw [List.drop_append_of_le_length (by omega), hlen, dotChar_eq _ rest hne2]
        cases dotLen (seg.drop k) with
        | none => rfl
        | some k2 => by_cases h3 : seg.length - k - k2 = 0 <;> simp [h3]

/-! ### dots() against the decoded value -/

theorem byte_2e (x y : Nat) (hx : x < 16) (hy : y < 16) (h : UInt8.ofNat (x * 16 + y) = 0x2e) : x = 2 ∧ y = 14 := by
  have := congrArg UInt8.toNat h
  simp at this
  omega

theorem esc_dot (a b : UInt8) (x y : Nat) (hx : hexDigitVal a = some x) (hy : hexDigitVal b = some y) :
    UInt8.ofNat (x * 16 + y) = 0x2e ↔ a = 0x32 ∧ (b = 0x45 ∨ b = 0x65) := by
  have ha : a = 0x32 ↔ x = 2 := by
    have := hexDigitVal_inv a x hx
    rw [← UInt8.toNat_inj]
    change a.toNat = 50 ↔ _
    exact ⟨fun e => by omega, fun e => by omega⟩
  have hb : (b = 0x45 ∨ b = 0x65) ↔ y = 14 := by
    have := hexDigitVal_inv b y hy
    rw [← UInt8.toNat_inj, ← UInt8.toNat_inj]
    change (b.toNat = 69 ∨ b.toNat = 101) ↔ _
    exact ⟨fun e => by omega, fun e => by omega⟩
  rw [ha, hb]
  have hx16 : x < 16 := by have := hexDigitVal_inv a x hx; omega
  have hy16 : y < 16 := by have := hexDigitVal_inv b y hy; omega
  exact ⟨byte_2e x y hx16 hy16, fun ⟨e1, e2⟩ => by rw [e1, e2]; rfl⟩

theorem dotLen_decode (seg d : Bytes) (h : pctDecode seg = some d) :
    (∀ k, dotLen seg = some k → ∃ d', d = 0x2e :: d' ∧ pctDecode (seg.drop k) = some d') ∧
    (dotLen seg = none → d.head? ≠ some 0x2e) := by
  induction seg, d, h using pctDecode_rec with
  | nil => simp [dotLen]
  | plain c r t hc ht =>
    by_cases h2 : c = 0x2e
    · subst h2; simp [dotLen, ht]
    · simp [dotLen, hc, h2]
  | esc a b r x y t hx hy ht =>
    have key := esc_dot a b x y hx hy
    generalize UInt8.ofNat (x * 16 + y) = v at key
    by_cases ha : a = 0x32
    · by_cases hb : b = 0x45 ∨ b = 0x65
      · have e : v = 0x2e := key.mpr ⟨ha, hb⟩
        simp [dotLen, ha, hb, e, ht]
      · have ne : v ≠ 0x2e := fun e => hb (key.mp e).2
        simp [dotLen, ha, hb, ne]
    · have ne : v ≠ 0x2e := fun e => ha (key.mp e).1
      simp [dotLen, ha, ne]

theorem dotKind_decode (seg d : Bytes) (h : pctDecode seg = some d) :
    dotKind seg = if d = dot1 then 1 else if d = dot2 then 2 else 0 := by
  have tz : ∀ (s : Bytes) k, s.length - k = 0 ↔ s.drop k = [] := fun s k => by
    rw [Nat.sub_eq_zero_iff_le, List.drop_eq_nil_iff]
  unfold dotKind
  by_cases hne : seg = []
  · subst hne; cases h; rfl
  · rw [if_neg hne]
    have ⟨h1, h2⟩ := dotLen_decode seg d h
    cases hk : dotLen seg with
    | none =>
      have hh := h2 hk
      rw [if_neg (fun e => hh (by rw [e]; rfl)), if_neg (fun e => hh (by rw [e]; rfl))]
    | some k =>
      obtain ⟨d', rfl, hdec⟩ := h1 k hk
      have ⟨g1, g2⟩ := dotLen_decode _ d' hdec
      simp only [tz, pctDecode_eq_nil _ _ hdec, dot1, dot2, List.cons.injEq, true_and]
      by_cases e : d' = []
      · rw [if_pos e, if_pos e]
      · rw [if_neg e, if_neg e]
        cases hk2 : dotLen (seg.drop k) with
        | none =>
          have hh := g2 hk2
          exact (if_neg (fun e2 => hh (by rw [e2]; rfl))).symm
        | some k2 =>
          obtain ⟨d'', rfl, hdec2⟩ := g1 k2 hk2
          simp only [← List.length_drop, List.length_eq_zero_iff, pctDecode_eq_nil _ _ hdec2, List.cons.injEq, true_and]

/-- the `switch (dots(...))` of the two path splitters, read on the decoded segment -/
theorem dotKind_switch {α : Type} (seg d : Bytes) (h : pctDecode seg = some d) (x y z : α) :
    (if dotKind seg = 1 then x else if dotKind seg = 2 then y else z) =
      if d = dot1 then x else if d = dot2 then y else z := by
  rw [dotKind_decode seg d h]
  by_cases e1 : d = dot1
  · rw [if_pos e1, if_pos e1, if_pos rfl]
  · by_cases e2 : d = dot2
    · rw [if_neg e1, if_pos e2, if_neg e1, if_pos e2]; rfl
    · rw [if_neg e1, if_neg e2, if_neg e1, if_neg e2]; rfl

/-! ### the optlist builders -/

theorem copySeg_eq (seg rest : Bytes) : copySeg (seg ++ rest) seg.length = R.ok seg := by
  simp [copySeg]

theorem addOpt_eq (seg rest : Bytes) (acc : List Bytes) :
    addOpt (seg ++ rest) seg.length acc = R.ok (acc ++ [replacePercents seg]) := by
  simp [addOpt, copySeg_eq]

/-- what coap_path_into_optlist does with one raw segment -/
def pathStepM (seg : Bytes) (acc : List Bytes) : List Bytes :=
  if dotKind seg = 1 then acc else if dotKind seg = 2 then acc.dropLast else acc ++ [replacePercents seg]

theorem pathHandlerOpt_eq (seg rest : Bytes) (acc : List Bytes) :
    pathHandlerOpt (seg ++ rest) seg.length acc = R.ok (pathStepM seg acc) := by
  unfold pathHandlerOpt
  rw [dots_eq]
  dsimp only
  rw [addOpt_eq, ← apply_ite R.ok, ← apply_ite R.ok]
  rfl

theorem fold_decoded {σ : Type} (stepM : Bytes → σ → σ) (stepS : σ → Bytes → σ)
    (hstep : ∀ r d st, pctDecode r = some d → stepM r st = stepS st d)
    (raws ds : List Bytes) (h : decodeAll raws = some ds) (st : σ) :
    raws.foldl (fun s seg => stepM seg s) st = ds.foldl stepS st := by
  induction raws, ds, h using decodeAll_rec generalizing st with
  | nil => rfl
  | cons r d rs t hd ht ih => rw [List.foldl_cons, List.foldl_cons, hstep r d st hd, ih]

theorem pathStepM_eq (r d : Bytes) (acc : List Bytes) (hd : pctDecode r = some d) :
    pathStepM r acc = resolveStep acc d := by
  rw [pathStepM, dotKind_switch r d hd, replacePercents_eq r d hd]; rfl

theorem foldl_snoc {α : Type} (ds acc : List α) : ds.foldl (fun s d => s ++ [d]) acc = acc ++ ds := by
  induction ds generalizing acc with
  | nil => simp
  | cons d t ih => rw [List.foldl_cons, ih, List.append_assoc]; rfl

theorem pathOpts_fold (input : Bytes) :
    pathOpts input = R.ok ((rawSegs pathStop pathSep input).foldl (fun s seg => pathStepM seg s) []) :=
  segLoop_eq pathHandlerOpt pathStepM pStop pSep pathHandlerOpt_eq input [] []

theorem queryOpts_fold (input : Bytes) :
    queryOpts input = R.ok ((rawSegs queryStop querySep input).foldl (fun s seg => s ++ [replacePercents seg]) []) :=
  segLoop_eq addOpt (fun seg s => s ++ [replacePercents seg]) qStop qSep addOpt_eq input [] []

theorem splitPath_some (input : Bytes) (segs : List Bytes) (h : Spec.Uri.splitPath input = some segs) :
    ∃ ds, decodeAll (rawSegs pathStop pathSep input) = some ds ∧ segs = resolve ds := by
  unfold Spec.Uri.splitPath at h
  split at h
  · exact ⟨_, ‹_›, (Option.some.inj h).symm⟩
  · cases h

/-! ### dot segments at the level of S -/

theorem resolve_no_dots (segs acc : List Bytes) (ha : dot1 ∉ acc ∧ dot2 ∉ acc) :
    dot1 ∉ segs.foldl resolveStep acc ∧ dot2 ∉ segs.foldl resolveStep acc := by
  refine foldl_inv (fun acc => dot1 ∉ acc ∧ dot2 ∉ acc) (fun acc s ha => ?_) segs acc ha
  have drop : ∀ x, x ∉ acc → x ∉ acc.dropLast := fun x hx h => hx ((List.dropLast_sublist _).subset h)
  unfold resolveStep
  refine ite_ind (P := fun l => dot1 ∉ l ∧ dot2 ∉ l) (fun _ => ha) fun e1 =>
    ite_ind (P := fun l => dot1 ∉ l ∧ dot2 ∉ l) (fun _ => ⟨drop _ ha.1, drop _ ha.2⟩) fun e2 => ?_
  simp only [List.mem_append, List.mem_singleton, not_or]
  exact ⟨⟨ha.1, fun e => e1 e.symm⟩, ⟨ha.2, fun e => e2 e.symm⟩⟩

theorem resolve_id (segs acc : List Bytes) (h : dot1 ∉ segs ∧ dot2 ∉ segs) : segs.foldl resolveStep acc = acc ++ segs := by
  induction segs generalizing acc with
  | nil => simp
  | cons s r ih =>
    simp only [List.mem_cons, not_or] at h
    have e1 : s ≠ dot1 := fun e => h.1.1 e.symm
    have e2 : s ≠ dot2 := fun e => h.2.1 e.symm
    simp only [List.foldl_cons, resolveStep, e1, e2, if_false]
    rw [ih _ ⟨h.1.2, h.2.2⟩]; simp

theorem splitPath_joinSep {plain : UInt8 → Bool} (hs : Safe plain pathStop pathSep 0x2f) (segs : List Bytes)
    (hne : segs ≠ []) (hd : dot1 ∉ segs ∧ dot2 ∉ segs) :
    Spec.Uri.splitPath (joinSep 0x2f (segs.map (pctEncode plain))) = some segs := by
  rw [Spec.Uri.splitPath, recover hs segs, if_neg hne]
  exact congrArg some ((resolve_id segs [] hd).trans (List.nil_append segs))

theorem allEncSafe : Safe (fun _ => false) pathStop pathSep 0x2f where
  plain_ok := by intro c h; cases h
  pct_ok := by decide
  hex_ok := by decide
  sep_stop := by decide
  sep_sep := by decide
  plain_pct := rfl

/-! ### the buffer writers: check_segment / decode_segment -/

theorem drop3 (a b c : UInt8) (t rest : Bytes) : (a :: b :: c :: t ++ rest).drop 3 = t ++ rest := rfl

theorem checkSegment_plain (fuel : Nat) (c : UInt8) (s : Bytes) (len n : Nat) (hc : c ≠ 0x25) :
    checkSegment (fuel + 1) (c :: s) (len + 1) n = checkSegment fuel s len (n + 1) := by
  simp only [checkSegment, Nat.add_one_ne_zero, if_false, rdb, List.getElem?_cons_zero, R.bind_ok, hc,
    List.drop_succ_cons, List.drop_zero, Nat.add_sub_cancel]

theorem checkSegment_esc (fuel : Nat) (a b : UInt8) (s : Bytes) (len n : Nat) :
    checkSegment (fuel + 1) (0x25 :: a :: b :: s) (len + 3) n =
      if isXdigit a && isXdigit b then checkSegment fuel s len (n + 1) else R.rej := by
  have h3 : ¬ len + 3 < 3 := by omega
  have h0 : len + 3 ≠ 0 := by omega
  simp only [checkSegment, h0, h3, if_false, if_true, rdb, List.getElem?_cons_zero, List.getElem?_cons_succ, R.bind_ok,
    List.drop_succ_cons, List.drop_zero, Nat.add_sub_cancel]
  cases isXdigit a <;> cases isXdigit b <;> rfl

theorem decodeSegment_plain (fuel : Nat) (c : UInt8) (s : Bytes) (len : Nat) (hc : c ≠ 0x25) :
    decodeSegment (fuel + 1) (c :: s) (len + 1) = (decodeSegment fuel s len).bind fun t => R.ok (c :: t) := by
  simp only [decodeSegment, Nat.add_one_ne_zero, if_false, rdb, List.getElem?_cons_zero, R.bind_ok, hc,
    List.drop_succ_cons, List.drop_zero, Nat.add_sub_cancel]
  rfl

theorem decodeSegment_esc (fuel : Nat) (a b : UInt8) (s : Bytes) (len : Nat) :
    decodeSegment (fuel + 1) (0x25 :: a :: b :: s) (len + 3) =
      (decodeSegment fuel s len).bind fun t => R.ok (UInt8.ofNat ((hexDec a * 16 + hexDec b) % 256) :: t) := by
  have h3 : ¬ len + 3 < 3 := by omega
  have h0 : len + 3 ≠ 0 := by omega
  simp only [decodeSegment, h0, h3, if_false, if_true, rdb, List.getElem?_cons_zero, List.getElem?_cons_succ, R.bind_ok,
    List.drop_succ_cons, List.drop_zero, Nat.add_sub_cancel]
  rfl

/-- `k`: spare turns of fuel (the escape case of the induction has two) -/
theorem checkSegment_eq (seg rest : Bytes) (k n : Nat) :
    checkSegment (k + seg.length + 1) (seg ++ rest) seg.length n =
      match pctDecode seg with
      | some d => R.ok (n + d.length)
      | none => R.rej := by
  induction seg using pctDecode.induct generalizing n k with
  | case1 => rfl
  | case2 a b r _ _ _ _ _ _ ih | case3 a b r _ ih =>
    simp only [List.cons_append, List.length_cons, ← Nat.add_assoc]
    rw [checkSegment_esc, isXdigit_eq, isXdigit_eq, show k + r.length + 3 = k + 2 + r.length + 1 by omega, ih,
      pctDecode_pct]
    cases pctDecode r with
    | none => cases hexDigitVal a <;> cases hexDigitVal b <;> rfl
    | some t =>
      cases hexDigitVal a <;> cases hexDigitVal b <;> try rfl
      simp only [Option.isSome_some, Bool.and_self, if_true, List.length_cons, Nat.add_assoc, Nat.add_comm 1]
  | case4 r hshort =>
    match r, hshort with
    | [], _ => rfl
    | [a], _ => rfl
    | a :: b :: r', hshort => exact (hshort a b r' rfl).elim
  | case5 c r hc _ _ ih | case6 c r hc _ ih =>
    rw [List.cons_append, List.length_cons, ← Nat.add_assoc, checkSegment_plain _ _ _ _ _ hc, ih, pctDecode_plain c r hc]
    cases pctDecode r with
    | none => rfl
    | some t => simp only [Option.map_some, List.length_cons, Nat.add_assoc, Nat.add_comm 1]

theorem decodeSegment_eq (seg d rest : Bytes) (h : pctDecode seg = some d) (k : Nat) :
    decodeSegment (k + seg.length + 1) (seg ++ rest) seg.length = R.ok d := by
  induction seg, d, h using pctDecode_rec generalizing k with
  | nil => rfl
  | plain c r t hc ht ih =>
    rw [List.cons_append, List.length_cons, ← Nat.add_assoc, decodeSegment_plain _ _ _ _ hc, ih]
    rfl
  | esc a b r x y t hx hy ht ih =>
    simp only [List.cons_append, List.length_cons, ← Nat.add_assoc]
    rw [decodeSegment_esc, show k + r.length + 3 = k + 2 + r.length + 1 by omega, ih, hexDec_eq _ _ hx, hexDec_eq _ _ hy, UInt8.ofNat_mod_size]
    rfl

/-- what write_option() does with one raw segment, with the three tests of the C code: nothing if it is malformed or does
not fit.  `writeS_eq` (Lemmas/UriSplit) is the form to read it through: appended iff `usedBy + optSize d ≤ buflen`. -/
def writeS (seg : Bytes) (st : Cnt) : Cnt :=
  if st.buflen - usedBy st.segs = 0 then st else
  match pctDecode seg with
  | none => st
  | some d =>
    if optHdr (st.buflen - usedBy st.segs) d.length = 0 then st
    else if st.buflen - usedBy st.segs - optHdr (st.buflen - usedBy st.segs) d.length < d.length then st
    else { st with segs := st.segs ++ [d] }

theorem writeOption_eq (seg rest : Bytes) (st : Cnt) :
    writeOption (seg ++ rest) seg.length st = R.ok (writeS seg st) := by
  have hc := checkSegment_eq seg rest 0 0
  rw [Nat.zero_add] at hc
  unfold writeOption writeS
  rw [hc]
  cases hd : pctDecode seg with
  | none => exact (apply_ite R.ok _ _ _).symm
  | some d =>
    have hdec := decodeSegment_eq seg d rest hd 0
    rw [Nat.zero_add] at hdec
    simp only [Nat.zero_add, hdec]
    rw [← apply_ite R.ok, ← apply_ite R.ok, ← apply_ite R.ok]

def pathStepBuf (seg : Bytes) (st : Cnt) : Cnt :=
  if dotKind seg = 1 then st else if dotKind seg = 2 then backupSegment st else writeS seg st

theorem pathHandlerBuf_eq (seg rest : Bytes) (st : Cnt) :
    pathHandlerBuf (seg ++ rest) seg.length st = R.ok (pathStepBuf seg st) := by
  unfold pathHandlerBuf
  rw [dots_eq]
  dsimp only
  rw [writeOption_eq, ← apply_ite R.ok, ← apply_ite R.ok]
  rfl

theorem splitPathBuf_fold (input : Bytes) (buflen : Nat) :
    MU.splitPath input buflen =
      R.ok ((rawSegs pathStop pathSep input).foldl (fun s seg => pathStepBuf seg s) ⟨buflen, []⟩).segs := by
  have h : segLoop pathHandlerBuf pStop pSep input input 0 ⟨buflen, []⟩ = _ :=
    segLoop_eq pathHandlerBuf pathStepBuf pStop pSep pathHandlerBuf_eq input [] ⟨buflen, []⟩
  rw [MU.splitPath, h]
  rfl

theorem splitQueryBuf_fold (input : Bytes) (buflen : Nat) :
    MU.splitQuery input buflen =
      R.ok ((rawSegs queryStop querySep input).foldl (fun s seg => writeS seg s) ⟨buflen, []⟩).segs := by
  have h : segLoop writeOption qStop qSep input input 0 ⟨buflen, []⟩ = _ :=
    segLoop_eq writeOption writeS qStop qSep writeOption_eq input [] ⟨buflen, []⟩
  rw [MU.splitQuery, h]
  rfl

end Coap.UriL
