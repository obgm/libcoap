import CoapVerif.Lemmas.Uri
/- Helper lemmas for C16, second part: coap_split_uri_sub against Spec.Uri.splitUri (loops of the C code against the
   structural functions of S), what an accepted URI looks like (inversion of Spec.Uri.splitUri), no read outside the
   input (`*_not_oob`), the URI texts S accepts by construction (`splitUri_compose`); then the buffer accounting of
   coap_split_path / coap_split_query. -/
namespace Coap.UriL
open Coap Coap.MU Coap.Spec.Uri

/-! ### the scanning loops of coap_split_uri_sub -/

/-- `while (len && cond(*q)) { ++q; --len; }` is "break at the first byte that fails cond" -/
theorem spanWhile_eq_breakAt (cond p : UInt8 → Bool) (h : ∀ c, p c = !cond c) (s : Bytes) :
    spanWhile cond s = breakAt p s := by
  induction s with
  | nil => rfl
  | cons c r ih =>
    by_cases hc : cond c = true
    · rw [spanWhile, breakAt.eq_2, ih]
      simp [h, hc]
    · simp [spanWhile, breakAt, h, hc]

theorem spanWhile_ne (k : UInt8) (s : Bytes) : spanWhile (· != k) s = breakAt (· == k) s :=
  spanWhile_eq_breakAt _ _ (fun c => by cases h : (c == k) <;> simp [bne, h]) s

theorem findSchemeEnd_short (s : Bytes) (h : s.length < 3) : findSchemeEnd s = none := by
  induction s with
  | nil => rfl
  | cons c r ih =>
    have hr : r.length < 3 := by simp at h; omega
    have ht : ¬ (r.take 2 = [0x2f, 0x2f]) := by
      intro e
      have := congrArg List.length e
      simp at this h
      omega
    simp [findSchemeEnd, ht, ih hr]

theorem findScheme_spec (s : Bytes) :
    match findSchemeEnd s with
    | none => (findScheme s).2.length < 3
    | some (n, rest) => findScheme s = (n, 0x3a :: 0x2f :: 0x2f :: rest) := by
  induction s with
  | nil => simp [findSchemeEnd, findScheme]
  | cons c r ih =>
    by_cases h1 : c = 0x3a ∧ r.take 2 = [0x2f, 0x2f]
    · obtain ⟨hc, ht⟩ := h1
      have hr : r = 0x2f :: 0x2f :: r.drop 2 := by
        have := List.take_append_drop 2 r
        rw [ht] at this
        exact this.symm
      simp only [findSchemeEnd, hc, ht, and_self, if_true]
      rw [findScheme]
      simp [ht, ← hr]
    · by_cases h3 : (c :: r).length ≥ 3
      · have hcond : ((c :: r).length ≥ 3 && !(c == 0x3a && r.take 2 == [0x2f, 0x2f])) = true := by
          simp only [Bool.and_eq_true, decide_eq_true_eq, Bool.not_eq_true', Bool.and_eq_false_iff]
          refine ⟨h3, ?_⟩
          by_cases hc : c = 0x3a
          · right
            have : ¬ r.take 2 = [0x2f, 0x2f] := fun e => h1 ⟨hc, e⟩
            simpa using this
          · left; simpa using hc
        rw [findSchemeEnd, if_neg h1, findScheme, if_pos hcond]
        cases hf : findSchemeEnd r with
        | none => simp only [hf] at ih ⊢; exact ih
        | some nr =>
          obtain ⟨n, rest⟩ := nr
          simp only [hf] at ih ⊢
          rw [ih]
      · have hlt : (c :: r).length < 3 := by omega
        have hcond : ((c :: r).length ≥ 3 && !(c == 0x3a && r.take 2 == [0x2f, 0x2f])) = false := by
          simp only [Bool.and_eq_false_iff, decide_eq_false_iff_not]
          left; exact h3
        rw [findSchemeEnd_short _ hlt, findScheme, hcond]
        simpa using hlt

theorem escapesOk_eq (s : Bytes) : MU.escapesOk s = Spec.Uri.escapesOk s := by
  unfold Spec.Uri.escapesOk
  induction s using MU.escapesOk.induct with
  | case1 => rfl
  | case2 a b r' hx ih => rw [MU.escapesOk, if_pos rfl, if_pos hx, ih, pctDecode_isSome_esc, hx, Bool.true_and]
  | case3 a b r' hx =>
    rw [MU.escapesOk, if_pos rfl, if_neg hx, pctDecode_isSome_esc, Bool.eq_false_iff.mpr hx, Bool.false_and]
  | case4 c a b r' hc ih => rw [MU.escapesOk, if_neg hc, ih, pctDecode_isSome_plain _ _ hc]
  | case5 r hr =>
    match r, hr with
    | [], _ => rfl
    | [a], _ => rfl
    | a :: b :: r', hr => exact absurd rfl (hr a b r')
  | case6 c r hr hc ih =>
    rw [MU.escapesOk, if_neg hc, ih, pctDecode_isSome_plain _ _ hc]
    exact hr

theorem decimal_acc_le (ds : Bytes) (v : Nat) : v ≤ ds.foldl (fun a c => a * 10 + (c.toNat - 48)) v := by
  refine foldl_inv (v ≤ ·) (fun a c h => ?_) ds v (Nat.le_refl v)
  show v ≤ a * 10 + (c.toNat - 48)
  omega

/-- the early exit of the port loop (`uri_port <= UINT16_MAX`) never changes the verdict -/
theorem portLoop_spec (ds : Bytes) (v : Nat) :
    (ds.foldl (fun a c => a * 10 + (c.toNat - 48)) v ≤ 65535 → portLoop ds v = ds.foldl (fun a c => a * 10 + (c.toNat - 48)) v) ∧
    (¬ ds.foldl (fun a c => a * 10 + (c.toNat - 48)) v ≤ 65535 → ¬ portLoop ds v ≤ 65535) := by
  induction ds generalizing v with
  | nil => simp [portLoop]
  | cons c r ih =>
    simp only [List.foldl_cons]
    have hm := decimal_acc_le r (v * 10 + (c.toNat - 48))
    by_cases hv : v ≤ 65535
    · rw [portLoop, if_pos hv]
      exact ih _
    · rw [portLoop, if_neg hv]
      constructor
      · intro h; omega
      · intro _; exact hv

/-! ### coap_split_uri_sub block by block -/

theorem pathAndQuery_eq (u : MU.Uri) (q : Bytes) (hp : u.path = []) (hq : u.query = []) :
    pathAndQuery u q =
      match pathQuery q with
      | some pq => R.ok { u with path := pq.1, query := pq.2 }
      | none => R.rej := by
  obtain ⟨sc, ho, po, pa, qu⟩ := u
  simp only at hp hq
  subst hp; subst hq
  have e0 : Spec.Uri.escapesOk [] = true := rfl
  cases q with
  | nil => simp [pathAndQuery, pathQuery, MU.escapesOk, e0]
  | cons c r =>
    unfold pathAndQuery pathQuery
    simp only [escapesOk_eq, spanWhile_ne]
    by_cases hc : c = 0x2f
    · simp only [hc, if_true]
      generalize breakAt (· == 0x3f) r = pr
      obtain ⟨p1, p2⟩ := pr
      cases p2 with
      | nil => by_cases h1 : Spec.Uri.escapesOk p1 = true <;> simp [h1, e0]
      | cons d qr =>
        by_cases hd : d = 0x3f
        · by_cases h1 : Spec.Uri.escapesOk p1 = true <;> by_cases h2 : Spec.Uri.escapesOk qr = true <;> simp [hd, h1, h2]
        · simp [hd]
    · simp only [hc, if_false]
      by_cases hd : c = 0x3f
      · by_cases h2 : Spec.Uri.escapesOk r = true <;> simp [hd, h2, e0]
      · simp [hd]

/-- the "Uri-Host" block of coap_split_uri_sub -/
def hostM (u1 : MU.Uri) (p : Bytes) : R (MU.Uri × Bytes × Bool) :=
  match p with
  | c :: r =>
    if c = 0x5b then
      let hq := spanWhile (· != 0x5d) r
      match hq.2 with
      | [] => R.rej
      | _ :: q' => if hq.1.isEmpty then R.rej else R.ok ({ u1 with host := hq.1 }, q', false)
    else
      let unix := p.length ≥ 3 && c == 0x25 && (p.drop 1).head? == some 0x32 &&
                  ((p.drop 2).head? == some 0x46 || (p.drop 2).head? == some 0x66)
      let hq := spanWhile (fun c => c != 0x3a && c != 0x2f && c != 0x3f) p
      if hq.1.isEmpty then R.rej
      else R.ok ({ u1 with host := hq.1, port := if unix then 0 else u1.port }, hq.2, unix)
  | [] => R.rej

/-- the "Uri-Port" block -/
def portM (u2 : MU.Uri) (q : Bytes) (unix : Bool) : R (MU.Uri × Bytes) :=
  match q with
  | c :: r =>
    if c = 0x3a then
      if unix then R.rej else
      let dq := spanWhile isDigitC r
      if dq.1.isEmpty then R.ok (u2, dq.2)
      else
        let v := portLoop dq.1 0
        if v > 65535 then R.rej else R.ok ({ u2 with port := v % 65536 }, dq.2)
    else R.ok (u2, q)
  | [] => R.ok (u2, q)

def afterScheme (u1 : MU.Uri) (p : Bytes) : R MU.Uri :=
  match hostM u1 p with
  | .rej => R.rej
  | .oob => R.oob
  | .ok (u2, q, unix) =>
    match portM u2 q unix with
    | .rej => R.rej
    | .oob => R.oob
    | .ok (u3, q2) => pathAndQuery u3 q2

/-- the body of `splitUriSub` with its Uri-Host / Uri-Port blocks, which the model has inline, under the names `hostM` /
`portM` / `afterScheme` (verbatim copies): every proof about `splitUriSub` starts here -/
theorem splitUriSub_unfold (proxy : Bool) (s : Bytes) :
    splitUriSub proxy s =
      match s with
      | [] => R.rej
      | c0 :: _ =>
        let u0 : MU.Uri := ⟨0, [], Generated.Uri.defaultPort, [], []⟩
        if c0 = 0x2f then
          if proxy then R.rej else pathAndQuery u0 s
        else
          let sp := findScheme s
          if sp.2.length < 3 then R.rej else
          match Generated.Uri.schemes.find? (fun e => e.1 == sp.1) with
          | none => R.rej
          | some (_, dport, proxyOnly, id) =>
            if !proxy && proxyOnly then R.rej else
            if (id = 1 && !supportedAt 0) || (id = 2 && !supportedAt 1) || (id = 3 && !supportedAt 2) ||
               (id = 6 && !supportedAt 3) || (id = 7 && !supportedAt 4) || id > 7 then R.rej else
            afterScheme { u0 with scheme := id, port := dport } (sp.2.drop 3) := by
  cases s with
  | nil => rfl
  | cons c0 t => rfl

theorem hostStop_not (c : UInt8) :
    (c == 0x3a || c == 0x2f || c == 0x3f) = !(c != 0x3a && c != 0x2f && c != 0x3f) := by
  cases h1 : (c == 0x3a) <;> cases h2 : (c == 0x2f) <;> cases h3 : (c == 0x3f) <;> simp [bne, h1, h2, h3]

theorem hostM_eq (u1 : MU.Uri) (p : Bytes) (hu : unixStart p = false) :
    hostM u1 p =
      match hostPart p with
      | none => R.rej
      | some hr => R.ok ({ u1 with host := hr.1 }, hr.2, false) := by
  cases p with
  | nil => rfl
  | cons c r =>
    have hb2 : spanWhile (fun c => c != 0x3a && c != 0x2f && c != 0x3f) (c :: r) =
        breakAt (fun c => c == 0x3a || c == 0x2f || c == 0x3f) (c :: r) :=
      spanWhile_eq_breakAt _ _ hostStop_not _
    unfold hostM hostPart
    simp only [spanWhile_ne, hb2]
    by_cases hc : c = 0x5b
    · simp only [hc, if_true]
      generalize breakAt (· == 0x5d) r = hr
      obtain ⟨h1, h2⟩ := hr
      cases h2 with
      | nil => rfl
      | cons d rest => by_cases he : h1.isEmpty = true <;> simp [he]
    · simp only [hc, if_false]
      have hux : ((c :: r).length ≥ 3 && c == 0x25 && ((c :: r).drop 1).head? == some 0x32 &&
                  (((c :: r).drop 2).head? == some 0x46 || ((c :: r).drop 2).head? == some 0x66)) = false := by
        cases r with
        | nil => simp
        | cons a r1 =>
          cases r1 with
          | nil => simp
          | cons b r2 =>
            simp [unixStart] at hu
            simp
            intro h1 h2
            exact hu h1 h2
      simp only [hux]
      generalize breakAt (fun c => c == 0x3a || c == 0x2f || c == 0x3f) (c :: r) = hr
      obtain ⟨h1, h2⟩ := hr
      by_cases he : h1.isEmpty = true <;> simp [he]

theorem isDigit_not (c : UInt8) : (!Spec.Uri.isDigit c) = !isDigitC c := rfl

theorem portM_eq (u2 : MU.Uri) (q : Bytes) :
    portM u2 q false =
      match portPart q with
      | none => R.rej
      | some pr => R.ok ({ u2 with port := match pr.1 with | some n => n | none => u2.port }, pr.2) := by
  obtain ⟨sc, ho, po, pa, qu⟩ := u2
  cases q with
  | nil => rfl
  | cons c r =>
    have hb : spanWhile isDigitC r = breakAt (fun c => !Spec.Uri.isDigit c) r :=
      spanWhile_eq_breakAt _ _ (fun c => isDigit_not c) r
    unfold portM portPart
    simp only [hb]
    by_cases hc : c = 0x3a
    · simp only [hc, if_true]
      generalize breakAt (fun c => !Spec.Uri.isDigit c) r = dr
      obtain ⟨d1, d2⟩ := dr
      by_cases he : d1.isEmpty = true
      · simp [he]
      · by_cases hd : decimal d1 ≤ 65535
        · have : portLoop d1 0 = decimal d1 := (portLoop_spec d1 0).1 hd
          simp [he, hd, this, Nat.mod_eq_of_lt (show decimal d1 < 65536 by omega)]
        · have := (portLoop_spec d1 0).2 hd
          simp [he, hd, this]
    · simp [hc]

/-- every scheme of the table passes the `switch (uri->scheme)` of this build (T1: table and *_is_supported()) -/
theorem schemes_supported : ∀ e ∈ Generated.Uri.schemes,
    ((e.2.2.2 = 1 && !supportedAt 0) || (e.2.2.2 = 2 && !supportedAt 1) || (e.2.2.2 = 3 && !supportedAt 2) ||
     (e.2.2.2 = 6 && !supportedAt 3) || (e.2.2.2 = 7 && !supportedAt 4) || e.2.2.2 > 7) = false := by decide

def partsOf (u : MU.Uri) : UriParts := ⟨u.scheme, u.host, u.port, u.path, u.query⟩
def uriOf (u : UriParts) : MU.Uri := ⟨u.scheme, u.host, u.port, u.path, u.query⟩

theorem partsOf_uriOf (u : UriParts) : partsOf (uriOf u) = u := rfl

theorem afterScheme_eq (u1 : MU.Uri) (p : Bytes) (hu : unixStart p = false) (hp : u1.path = []) (hq : u1.query = []) :
    afterScheme u1 p =
      match (match hostPart p with
        | none => none
        | some (h, rest1) =>
          match portPart rest1 with
          | none => none
          | some (port, rest2) =>
            match pathQuery rest2 with
            | none => none
            | some (pa, qu) =>
              some (⟨u1.scheme, h, (match port with | some n => n | none => u1.port), pa, qu⟩ : UriParts)) with
      | some parts => R.ok (uriOf parts)
      | none => R.rej := by
  unfold afterScheme
  rw [hostM_eq u1 p hu]
  cases hostPart p with
  | none => rfl
  | some hr =>
    obtain ⟨h, rest1⟩ := hr
    simp only
    rw [portM_eq]
    cases portPart rest1 with
    | none => rfl
    | some pr =>
      obtain ⟨port, rest2⟩ := pr
      simp only
      rw [pathAndQuery_eq _ _ (by exact hp) (by exact hq)]
      cases pathQuery rest2 with
      | none => rfl
      | some pq => rfl

/-- `hu`: D16f, an authority that starts with "%2F" is outside S -/
theorem splitUriSub_eq (proxy : Bool) (s : Bytes) (hu : unixAuthority s = false) :
    splitUriSub proxy s =
      match splitUri Generated.Uri.schemes proxy s with
      | some parts => R.ok (uriOf parts)
      | none => R.rej := by
  rw [splitUriSub_unfold]
  cases s with
  | nil => rfl
  | cons c0 t =>
    simp only
    by_cases hc : c0 = 0x2f
    · simp only [hc, if_true, splitUri]
      cases proxy with
      | true => rfl
      | false =>
        simp only [Bool.false_eq_true, if_false]
        rw [pathAndQuery_eq _ _ rfl rfl]
        cases pathQuery (0x2f :: t) with
        | none => rfl
        | some pq => rfl
    · simp only [unixAuthority, hc, if_false] at hu
      have hfs := findScheme_spec (c0 :: t)
      simp only [hc, if_false, splitUri]
      cases hf : findSchemeEnd (c0 :: t) with
      | none =>
        simp only [hf] at hfs
        simp only [hfs, if_true]
      | some nr =>
        obtain ⟨n, rest⟩ := nr
        simp only [hf] at hfs hu
        rw [hfs]
        simp only [List.length_cons, List.drop_succ_cons, List.drop_zero]
        rw [if_neg (by omega)]
        cases hfind : Generated.Uri.schemes.find? (fun e => e.1 == n) with
        | none => rfl
        | some e =>
          obtain ⟨nm, dport, proxyOnly, id⟩ := e
          have hsup := schemes_supported _ (List.mem_of_find?_eq_some hfind)
          simp only at hsup
          simp only [hsup]
          by_cases hpx : (proxyOnly && !proxy) = true
          · have : (!proxy && proxyOnly) = true := by rw [Bool.and_comm]; exact hpx
            simp only [hpx, this, if_true]
          · have : ¬ (!proxy && proxyOnly) = true := by rw [Bool.and_comm]; exact hpx
            simp only [hpx, this, if_false, Bool.false_eq_true]
            exact afterScheme_eq _ _ hu rfl rfl

/-! ### what an accepted URI looks like -/

theorem schemes_range : ∀ e ∈ Generated.Uri.schemes, e.2.2.2 < 8 ∧ e.2.1 < 65536 := by decide

/-- the last step of `pathQuery`, under a name: `unfold pathQuery; split at h` takes the inner `match s` first, and `cases h`
then fails (dependent elimination); `pathQuery_fin` gets at this step without touching the first -/
def pqFin (pr : Bytes × Bytes) : Option (Bytes × Bytes) :=
  match pr.2 with
  | [] => if Spec.Uri.escapesOk pr.1 then some (pr.1, []) else none
  | c :: q => if c = 0x3f ∧ Spec.Uri.escapesOk pr.1 ∧ Spec.Uri.escapesOk q then some (pr.1, q) else none

theorem pathQuery_fin (r : Bytes) : ∃ pr, pathQuery r = pqFin pr := ⟨_, rfl⟩

theorem pathQuery_inv (r p q : Bytes) (h : pathQuery r = some (p, q)) :
    Spec.Uri.escapesOk p = true ∧ Spec.Uri.escapesOk q = true := by
  obtain ⟨pr, e⟩ := pathQuery_fin r
  rw [e] at h
  unfold pqFin at h
  split at h
  · split at h
    · cases h; exact ⟨‹_›, rfl⟩
    · cases h
  · split at h
    · rename_i hc
      cases h; exact hc.2
    · cases h

theorem portPart_inv (r rest : Bytes) (n : Nat) (h : portPart r = some (some n, rest)) : n ≤ 65535 := by
  unfold portPart at h
  split at h
  · split at h
    · simp only at h
      split at h
      · simp at h
      · split at h
        · simp only [Option.some.injEq, Prod.mk.injEq] at h
          rw [← h.1]; assumption
        · cases h
    · simp at h
  · simp at h

theorem hostPart_unix (rest h r1 : Bytes) (hu : unixStart rest = true) (hh : hostPart rest = some (h, r1)) :
    unixStart h = true := by
  unfold unixStart at hu
  split at hu
  · rename_i a b c t
    simp only [Bool.and_eq_true, beq_iff_eq, Bool.or_eq_true] at hu
    obtain ⟨⟨ha, hb⟩, hc⟩ := hu
    subst ha; subst hb
    unfold hostPart at hh
    simp only [show ¬ ((0x25 : UInt8) = 0x5b) by decide, if_false] at hh
    have e : breakAt (fun c => c == 0x3a || c == 0x2f || c == 0x3f) (0x25 :: 0x32 :: c :: t) =
        (0x25 :: 0x32 :: c :: (breakAt (fun c => c == 0x3a || c == 0x2f || c == 0x3f) t).1,
         (breakAt (fun c => c == 0x3a || c == 0x2f || c == 0x3f) t).2) := by
      rcases hc with hc | hc <;> subst hc <;> simp [breakAt]
    rw [e] at hh
    simp only [List.isEmpty_cons, Bool.false_eq_true, if_false, Option.some.injEq, Prod.mk.injEq] at hh
    rw [← hh.1]
    rcases hc with hc | hc <;> subst hc <;> rfl
  · cases hu

/-- what `Spec.Uri.splitUri` (with the scheme table of T1) guarantees of the parts it returns for `s` -/
structure Accepted (s : Bytes) (parts : UriParts) : Prop where
  scheme_lt : parts.scheme < 8
  port_lt : parts.port < 65536
  path_ok : Spec.Uri.escapesOk parts.path = true
  query_ok : Spec.Uri.escapesOk parts.query = true
  /-- D16f: an authority in Unix-socket notation gives a host in that notation -/
  unix_host : unixAuthority s = true → unixStart parts.host = true

theorem splitUri_inv (proxy : Bool) (s : Bytes) (parts : UriParts)
    (h : splitUri Generated.Uri.schemes proxy s = some parts) : Accepted s parts := by
  unfold splitUri at h
  split at h
  · cases h
  · rename_i c0 t
    split at h
    · -- an absolute path
      rename_i hc
      split at h
      · cases h
      · split at h
        · rename_i p q hpq
          have ⟨e1, e2⟩ := pathQuery_inv _ _ _ hpq
          cases h
          exact ⟨by simp, by simp, e1, e2, fun hu => by simp [unixAuthority, hc] at hu⟩
        · cases h
    · -- scheme, authority, path and query: one `match` of `splitUri` after the other
      rename_i hc
      split at h
      · cases h
      · rename_i n rest hf
        split at h
        · cases h
        · rename_i nm dport proxyOnly id hfind
          have hr := schemes_range _ (List.mem_of_find?_eq_some hfind)
          split at h
          · cases h
          · split at h
            · cases h
            · rename_i ho rest1 hh
              split at h
              · cases h
              · rename_i port rest2 hpp
                split at h
                · cases h
                · rename_i p q hpq
                  have ⟨e1, e2⟩ := pathQuery_inv _ _ _ hpq
                  cases h
                  refine ⟨hr.1, ?_, e1, e2, fun hu => ?_⟩
                  · cases port with
                    | none => exact hr.2
                    | some n => exact Nat.lt_succ_of_le (portPart_inv _ _ _ hpp)
                  · simp only [unixAuthority, hc, if_false, hf] at hu
                    exact hostPart_unix rest ho rest1 hu hh

/-! ### coap_split_uri_sub never leaves the input, Unix-socket authorities included -/

theorem ite_not_oob {α : Type} (c : Prop) [Decidable c] (a b : R α) (ha : a ≠ R.oob) (hb : b ≠ R.oob) :
    (if c then a else b) ≠ R.oob :=
  ite_ind (P := (· ≠ R.oob)) (fun _ => ha) (fun _ => hb)

theorem pathAndQuery_not_oob (u : MU.Uri) (q : Bytes) : pathAndQuery u q ≠ R.oob := by
  cases q with
  | nil => exact ite_not_oob _ _ _ nofun nofun
  | cons c r =>
    unfold pathAndQuery
    dsimp only
    generalize (if c = 0x2f then spanWhile (· != 0x3f) r else ([], c :: r)) = pq
    obtain ⟨p1, p2⟩ := pq
    cases p2 with
    | nil => exact ite_not_oob _ _ _ nofun nofun
    | cons d qr => exact ite_not_oob _ _ _ (ite_not_oob _ _ _ nofun nofun) nofun

theorem hostM_not_oob (u1 : MU.Uri) (p : Bytes) : hostM u1 p ≠ R.oob := by
  cases p with
  | nil => simp [hostM]
  | cons c r =>
    unfold hostM
    dsimp only
    apply ite_not_oob
    · generalize spanWhile (· != 0x5d) r = hq
      obtain ⟨h1, h2⟩ := hq
      cases h2 with
      | nil => simp
      | cons d q' => exact ite_not_oob _ _ _ nofun nofun
    · exact ite_not_oob _ _ _ nofun nofun

theorem portM_not_oob (u2 : MU.Uri) (q : Bytes) (unix : Bool) : portM u2 q unix ≠ R.oob := by
  cases q with
  | nil => simp [portM]
  | cons c r =>
    unfold portM
    dsimp only
    exact ite_not_oob _ _ _
      (ite_not_oob _ _ _ nofun (ite_not_oob _ _ _ nofun (ite_not_oob _ _ _ nofun nofun))) nofun

theorem afterScheme_not_oob (u1 : MU.Uri) (p : Bytes) : afterScheme u1 p ≠ R.oob := by
  unfold afterScheme
  cases hh : hostM u1 p with
  | oob => exact absurd hh (hostM_not_oob u1 p)
  | rej => nofun
  | ok r =>
    obtain ⟨u2, q, unix⟩ := r
    dsimp only
    cases hp : portM u2 q unix with
    | oob => exact absurd hp (portM_not_oob u2 q unix)
    | rej => nofun
    | ok r2 => exact pathAndQuery_not_oob r2.1 r2.2

theorem splitUriSub_not_oob (proxy : Bool) (s : Bytes) : splitUriSub proxy s ≠ R.oob := by
  rw [splitUriSub_unfold]
  cases s with
  | nil => simp
  | cons c0 t =>
    dsimp only
    apply ite_not_oob
    · exact ite_not_oob _ _ _ nofun (pathAndQuery_not_oob _ _)
    · apply ite_not_oob
      · nofun
      · cases Generated.Uri.schemes.find? (fun e => e.1 == (findScheme (c0 :: t)).1) with
        | none => simp
        | some e =>
          obtain ⟨nm, dport, proxyOnly, id⟩ := e
          dsimp only
          exact ite_not_oob _ _ _ nofun (ite_not_oob _ _ _ nofun (afterScheme_not_oob _ _))

/-! ### S recognises what it should: composing a URI text from its parts and splitting it again -/

theorem findSchemeEnd_append (n x : Bytes) (h : (0x3a : UInt8) ∉ n) :
    findSchemeEnd (n ++ 0x3a :: 0x2f :: 0x2f :: x) = some (n, x) := by
  induction n with
  | nil => simp [findSchemeEnd]
  | cons c r ih =>
    simp only [List.mem_cons, not_or] at h
    have hc : ¬ (c = 0x3a) := fun e => h.1 e.symm
    simp only [List.cons_append, findSchemeEnd, hc, false_and, if_false, ih h.2]

/-- a text that starts with a scheme name and "://" is no absolute path, and S finds the authority behind the name -/
theorem scheme_text (n x : Bytes) (h1 : n.head? ≠ some 0x2f) (h2 : (0x3a : UInt8) ∉ n) :
    ∃ c t, n ++ 0x3a :: 0x2f :: 0x2f :: x = c :: t ∧ ¬ c = 0x2f ∧ findSchemeEnd (c :: t) = some (n, x) := by
  have hfe := findSchemeEnd_append n x h2
  match n, h1, hfe with
  | [], _, hfe => exact ⟨0x3a, _, rfl, by decide, hfe⟩
  | c :: t, h1, hfe => exact ⟨c, _, rfl, by simpa using h1, hfe⟩

theorem breakAt_append (p : UInt8 → Bool) (a b : Bytes) (ha : ∀ c ∈ a, p c = false)
    (hb : b = [] ∨ ∃ c t, b = c :: t ∧ p c = true) : breakAt p (a ++ b) = (a, b) := by
  induction a with
  | nil =>
    rcases hb with e | ⟨c, t, e, hc⟩
    · subst e; rfl
    · subst e; simp [breakAt, hc]
  | cons c r ih =>
    have h1 := ha c (by simp)
    have h2 := ih (fun x hx => ha x (by simp [hx]))
    simp [breakAt, h1, h2]

def hostText (h : Bytes) (v6 : Bool) : Bytes := if v6 then 0x5b :: h ++ [0x5d] else h
def portText : Option Bytes → Bytes
  | none => []
  | some d => 0x3a :: d

def TailStart (rest : Bytes) : Prop := rest = [] ∨ ∃ t, rest = 0x2f :: t ∨ rest = 0x3f :: t

def HostOk (h : Bytes) (v6 : Bool) : Prop :=
  h ≠ [] ∧ (if v6 then (0x5d : UInt8) ∉ h else h.head? ≠ some 0x5b ∧ ∀ c ∈ h, c ≠ 0x3a ∧ c ≠ 0x2f ∧ c ≠ 0x3f)

def PortOk : Option Bytes → Prop
  | none => True
  | some d => (∀ c ∈ d, Spec.Uri.isDigit c = true) ∧ decimal d ≤ 65535

def portValue (dflt : Nat) : Option Bytes → Nat
  | none => dflt
  | some d => if d = [] then dflt else decimal d

theorem hostPart_text (h : Bytes) (v6 : Bool) (r : Bytes) (hh : HostOk h v6)
    (hr : r = [] ∨ ∃ c t, r = c :: t ∧ (c = 0x3a ∨ c = 0x2f ∨ c = 0x3f)) :
    hostPart (hostText h v6 ++ r) = some (h, r) := by
  obtain ⟨hne, hc⟩ := hh
  have hemp : h.isEmpty = false := by cases h with | nil => exact absurd rfl hne | cons _ _ => rfl
  cases v6 with
  | true =>
    simp only [if_true] at hc
    have hb : breakAt (· == 0x5d) (h ++ 0x5d :: r) = (h, 0x5d :: r) :=
      breakAt_append _ h _ (fun c hcm => by
        have : c ≠ 0x5d := fun e => hc (e ▸ hcm)
        simpa using this) (Or.inr ⟨0x5d, r, rfl, by simp⟩)
    simp only [hostText, if_true, List.cons_append, List.append_assoc, List.nil_append, hostPart, hb, hemp]
    simp
  | false =>
    simp only [Bool.false_eq_true, if_false] at hc
    obtain ⟨hhead, hall⟩ := hc
    cases h with
    | nil => exact absurd rfl hne
    | cons c0 t =>
      have hc0 : ¬ (c0 = 0x5b) := by simpa using hhead
      have hb : breakAt (fun c => c == 0x3a || c == 0x2f || c == 0x3f) ((c0 :: t) ++ r) = (c0 :: t, r) := by
        apply breakAt_append
        · intro c hcm
          have ⟨a1, a2, a3⟩ := hall c hcm
          simp [a1, a2, a3]
        · rcases hr with e | ⟨c, t', e, hcc⟩
          · exact Or.inl e
          · refine Or.inr ⟨c, t', e, ?_⟩
            rcases hcc with e | e | e <;> subst e <;> rfl
      simp only [hostText, Bool.false_eq_true, if_false, List.cons_append] at hb ⊢
      simp only [hostPart, hc0, if_false, hb]
      simp

theorem portPart_text (ds : Option Bytes) (rest : Bytes) (hp : PortOk ds) (hr : TailStart rest) :
    portPart (portText ds ++ rest) = some ((match ds with | none => none | some d => if d = [] then none else some (decimal d)), rest) := by
  have hrest : rest = [] ∨ ∃ c t, rest = c :: t ∧ (!Spec.Uri.isDigit c) = true := by
    rcases hr with e | ⟨t, e | e⟩
    · exact Or.inl e
    · exact Or.inr ⟨0x2f, t, e, by decide⟩
    · exact Or.inr ⟨0x3f, t, e, by decide⟩
  cases ds with
  | none =>
    simp only [portText, List.nil_append]
    rcases hr with e | ⟨t, e | e⟩ <;> subst e <;> simp [portPart]
  | some d =>
    obtain ⟨hd, hle⟩ := hp
    have hb : breakAt (fun c => !Spec.Uri.isDigit c) (d ++ rest) = (d, rest) :=
      breakAt_append _ d rest (fun c hc => by simp [hd c hc]) hrest
    simp only [portText, List.cons_append, portPart, if_true, hb]
    cases d with
    | nil => simp
    | cons c t => simp [hle]

theorem portText_tail (ds : Option Bytes) (rest : Bytes) (hr : TailStart rest) :
    portText ds ++ rest = [] ∨ ∃ c t, portText ds ++ rest = c :: t ∧ (c = 0x3a ∨ c = 0x2f ∨ c = 0x3f) := by
  cases ds with
  | none =>
    rcases hr with e | ⟨t, e | e⟩
    · exact Or.inl e
    · exact Or.inr ⟨0x2f, t, e, Or.inr (Or.inl rfl)⟩
    · exact Or.inr ⟨0x3f, t, e, Or.inr (Or.inr rfl)⟩
  | some d => exact Or.inr ⟨0x3a, d ++ rest, rfl, Or.inl rfl⟩

theorem schemes_names : ∀ e ∈ Generated.Uri.schemes,
    e.1.head? ≠ some 0x2f ∧ (0x3a : UInt8) ∉ e.1 ∧
    Generated.Uri.schemes.find? (fun x => x.1 == e.1) = some e := by decide

theorem splitUri_compose (proxy : Bool) (e : Bytes × Nat × Bool × Nat) (he : e ∈ Generated.Uri.schemes)
    (hpx : e.2.2.1 = true → proxy = true) (h : Bytes) (v6 : Bool) (ds : Option Bytes) (rest path query : Bytes)
    (hh : HostOk h v6) (hp : PortOk ds) (hr : TailStart rest) (hpq : pathQuery rest = some (path, query)) :
    splitUri Generated.Uri.schemes proxy (e.1 ++ [0x3a, 0x2f, 0x2f] ++ hostText h v6 ++ portText ds ++ rest) =
      some ⟨e.2.2.2, h, portValue e.2.1 ds, path, query⟩ := by
  obtain ⟨n1, n2, n3⟩ := schemes_names e he
  obtain ⟨name, dport, proxyOnly, id⟩ := e
  dsimp only at *
  have hs : name ++ [0x3a, 0x2f, 0x2f] ++ hostText h v6 ++ portText ds ++ rest =
      name ++ 0x3a :: 0x2f :: 0x2f :: (hostText h v6 ++ (portText ds ++ rest)) := by simp
  obtain ⟨c0, t, e, hc0, hfe⟩ := scheme_text name (hostText h v6 ++ (portText ds ++ rest)) n1 n2
  rw [hs, e]
  have hr2 := portText_tail ds rest hr
  have hpo : (proxyOnly && !proxy) = false := by
    cases proxyOnly with
    | false => rfl
    | true => simp [hpx rfl]
  simp only [splitUri, hc0, if_false, hfe, n3, hpo, Bool.false_eq_true,
    hostPart_text h v6 _ hh hr2, portPart_text ds rest hp hr, hpq]
  cases ds with
  | none => rfl
  | some d =>
    by_cases hd : d = [] <;> simp [portValue, hd]

theorem unixAuthority_text (n x : Bytes) (h1 : n.head? ≠ some 0x2f) (h2 : (0x3a : UInt8) ∉ n) :
    unixAuthority (n ++ 0x3a :: 0x2f :: 0x2f :: x) = unixStart x := by
  obtain ⟨c, t, e, hc, hf⟩ := scheme_text n x h1 h2
  rw [e]
  simp only [unixAuthority, hc, if_false, hf]

theorem unixStart_bracket (x : Bytes) : unixStart (0x5b :: x) = false := by
  match x with
  | [] | [_] | _ :: _ :: _ => rfl

/-! ### the buffer accounting of coap_split_path / coap_split_query -/

theorem usedBy_append (segs : List Bytes) (d : Bytes) : usedBy (segs ++ [d]) = usedBy segs + optSize d := by
  simp [usedBy, List.sum_append]

theorem usedBy_cons (d : Bytes) (segs : List Bytes) : usedBy (d :: segs) = optSize d + usedBy segs := by
  simp [usedBy]

theorem usedBy_dropLast_le (segs : List Bytes) : usedBy segs.dropLast ≤ usedBy segs := by
  induction segs with
  | nil => simp
  | cons a r ih =>
    cases r with
    | nil => simp [usedBy]
    | cons b r' =>
      rw [List.dropLast_cons_cons, usedBy_cons, usedBy_cons]
      omega

theorem pctDecode_length_le (s d : Bytes) (h : pctDecode s = some d) : d.length ≤ s.length := by
  induction s, d, h using pctDecode_rec with
  | nil => exact Nat.le_refl 0
  | plain c r t hc ht ih => exact Nat.succ_le_succ ih
  | esc a b r x y t hx hy ht ih => simp only [List.length_cons]; omega

theorem optSize_le (d : Bytes) : optSize d ≤ d.length + 3 ∧ (d.length < 269 → optSize d ≤ d.length + 2) := by
  unfold optSize
  split
  · omega
  · split <;> omega

theorem optSize_pos (d : Bytes) : 1 ≤ optSize d := by
  unfold optSize
  split
  · omega
  · split <;> omega

/-- the three tests of write_option() / make_decoded_option() pass iff header and value fit into the room left -/
theorem optHdr_iff (room : Nat) (d : Bytes) :
    (¬ room = 0 ∧ ¬ optHdr room d.length = 0 ∧ ¬ room - optHdr room d.length < d.length) ↔ optSize d ≤ room := by
  by_cases h0 : room = 0
  · subst h0
    have := optSize_pos d
    simp only [not_true, false_and, false_iff]
    omega
  · unfold optHdr optSize
    rw [if_neg h0]
    by_cases h1 : d.length < 13
    · rw [if_pos h1, if_pos h1]; omega
    · rw [if_neg h1, if_neg h1]
      by_cases h2 : d.length < 269
      · rw [if_pos h2, if_pos h2]; split <;> omega
      · rw [if_neg h2, if_neg h2]; split <;> omega

theorem writeS_eq (seg : Bytes) (st : Cnt) :
    writeS seg st =
      match pctDecode seg with
      | some d => if usedBy st.segs + optSize d ≤ st.buflen then { st with segs := st.segs ++ [d] } else st
      | none => st := by
  unfold writeS
  cases pctDecode seg with
  | none => simp only [ite_self]
  | some d =>
    have hi := optHdr_iff (st.buflen - usedBy st.segs) d
    have hsz : usedBy st.segs + optSize d ≤ st.buflen ↔ optSize d ≤ st.buflen - usedBy st.segs := by
      have := optSize_pos d; omega
    simp only
    by_cases hfit : usedBy st.segs + optSize d ≤ st.buflen
    · have ⟨h0, h1, h2⟩ := hi.mpr (hsz.mp hfit)
      rw [if_pos hfit, if_neg h0, if_neg h1, if_neg h2]
    · rw [if_neg hfit]
      split
      · rfl
      · split
        · rfl
        · split
          · rfl
          · exact absurd (hsz.mpr (hi.mp ⟨‹_›, ‹_›, ‹_›⟩)) hfit

theorem writeS_fits (seg d : Bytes) (st : Cnt) (hd : pctDecode seg = some d)
    (hfit : usedBy st.segs + optSize d ≤ st.buflen) : writeS seg st = { st with segs := st.segs ++ [d] } := by
  rw [writeS_eq, hd]; exact if_pos hfit

theorem writeS_cases (seg d : Bytes) (st : Cnt) (hd : pctDecode seg = some d) :
    writeS seg st = st ∨ writeS seg st = { st with segs := st.segs ++ [d] } := by
  rw [writeS_eq, hd]
  by_cases hfit : usedBy st.segs + optSize d ≤ st.buflen
  · exact Or.inr (if_pos hfit)
  · exact Or.inl (if_neg hfit)

theorem writeS_inv (seg : Bytes) (st : Cnt) (h : usedBy st.segs ≤ st.buflen) :
    usedBy (writeS seg st).segs ≤ (writeS seg st).buflen ∧ (writeS seg st).buflen = st.buflen := by
  rw [writeS_eq]
  split
  · split
    · exact ⟨by rw [usedBy_append]; assumption, rfl⟩
    · exact ⟨h, rfl⟩
  · exact ⟨h, rfl⟩

theorem pathStepBuf_inv (seg : Bytes) (st : Cnt) (h : usedBy st.segs ≤ st.buflen) :
    usedBy (pathStepBuf seg st).segs ≤ (pathStepBuf seg st).buflen ∧ (pathStepBuf seg st).buflen = st.buflen := by
  unfold pathStepBuf
  by_cases h1 : dotKind seg = 1
  · simp [h1, h]
  · by_cases h2 : dotKind seg = 2
    · simp only [h2, if_true, backupSegment]
      exact ⟨Nat.le_trans (usedBy_dropLast_le _) h, rfl⟩
    · simp only [h1, h2, if_false]
      exact writeS_inv seg st h

theorem fold_usedBy_le (step : Bytes → Cnt → Cnt)
    (hstep : ∀ seg st, usedBy st.segs ≤ st.buflen → usedBy (step seg st).segs ≤ (step seg st).buflen ∧ (step seg st).buflen = st.buflen)
    (raws : List Bytes) (st : Cnt) (h : usedBy st.segs ≤ st.buflen) :
    usedBy (raws.foldl (fun s seg => step seg s) st).segs ≤ st.buflen := by
  have := foldl_inv (fun s => usedBy s.segs ≤ s.buflen ∧ s.buflen = st.buflen)
    (fun s seg ⟨h1, h2⟩ => ⟨(hstep seg s h1).1, (hstep seg s h1).2.trans h2⟩) raws st ⟨h, rfl⟩
  exact this.2 ▸ this.1

theorem pathStepBuf_fits (r d : Bytes) (st : Cnt) (hd : pctDecode r = some d)
    (hfit : usedBy st.segs + optSize d ≤ st.buflen) : pathStepBuf r st = ⟨st.buflen, resolveStep st.segs d⟩ := by
  rw [pathStepBuf, dotKind_switch r d hd, resolveStep]
  split
  · rfl
  · split
    · rfl
    · exact writeS_fits r d st hd hfit

theorem pathStepBuf_cases (r d : Bytes) (st : Cnt) (hd : pctDecode r = some d) :
    pathStepBuf r st = st ∨ pathStepBuf r st = ⟨st.buflen, resolveStep st.segs d⟩ := by
  rw [pathStepBuf, dotKind_switch r d hd, resolveStep]
  split
  · exact Or.inl rfl
  · split
    · exact Or.inr rfl
    · exact writeS_cases r d st hd

theorem usedBy_resolveStep (segs : List Bytes) (d : Bytes) : usedBy (resolveStep segs d) ≤ usedBy segs + optSize d := by
  unfold resolveStep
  split
  · omega
  · split
    · have := usedBy_dropLast_le segs; omega
    · rw [usedBy_append]; omega

/-- with room for every decoded segment (dot segments included) nothing is ever omitted -/
theorem fold_buf (step : Bytes → Cnt → Cnt) (stepS : List Bytes → Bytes → List Bytes)
    (hfit : ∀ r d st, pctDecode r = some d → usedBy st.segs + optSize d ≤ st.buflen →
      step r st = ⟨st.buflen, stepS st.segs d⟩)
    (hused : ∀ segs d, usedBy (stepS segs d) ≤ usedBy segs + optSize d)
    (raws ds : List Bytes) (h : decodeAll raws = some ds) (st : Cnt)
    (hroom : usedBy st.segs + usedBy ds ≤ st.buflen) :
    raws.foldl (fun s seg => step seg s) st = ⟨st.buflen, ds.foldl stepS st.segs⟩ := by
  induction raws, ds, h using decodeAll_rec generalizing st with
  | nil => rfl
  | cons r d rs t hd ht ih =>
    rw [usedBy_cons] at hroom
    have := hused st.segs d
    rw [List.foldl_cons, hfit r d st hd (by omega), ih _ (by simp only; omega)]
    rfl

/-- below the minimum segments are omitted, never altered -/
theorem fold_buf_sub (step : Bytes → Cnt → Cnt) (stepS : List Bytes → Bytes → List Bytes)
    (hstep : ∀ r d st, pctDecode r = some d → step r st = st ∨ step r st = ⟨st.buflen, stepS st.segs d⟩)
    (raws ds : List Bytes) (h : decodeAll raws = some ds) (st : Cnt) :
    ∃ ds' : List Bytes, ds'.Sublist ds ∧ raws.foldl (fun s seg => step seg s) st = ⟨st.buflen, ds'.foldl stepS st.segs⟩ := by
  induction raws, ds, h using decodeAll_rec generalizing st with
  | nil => exact ⟨[], List.Sublist.refl _, rfl⟩
  | cons r d rs t hd ht ih =>
    rw [List.foldl_cons]
    rcases hstep r d st hd with e | e
    · obtain ⟨ds', hsub, hf⟩ := ih st
      exact ⟨ds', List.Sublist.cons _ hsub, by rw [e, hf]⟩
    · obtain ⟨ds', hsub, hf⟩ := ih ⟨st.buflen, stepS st.segs d⟩
      exact ⟨d :: ds', List.Sublist.cons_cons _ hsub, by rw [e, hf]; rfl⟩

def rawLen (raws : List Bytes) : Nat := (raws.map List.length).sum

/-- the raw segments and the separators between them are disjoint parts of the input -/
theorem splitAcc_len (stop sep : UInt8 → Bool) (q cur : Bytes) :
    rawLen (splitAcc stop sep q cur) + (splitAcc stop sep q cur).length ≤ cur.length + q.length + 1 ∧
    1 ≤ (splitAcc stop sep q cur).length := by
  induction q generalizing cur with
  | nil => simp [splitAcc, rawLen]
  | cons c r ih =>
    by_cases h1 : stop c = true
    · simp [splitAcc, h1, rawLen]
    · by_cases h2 : sep c = true
      · have := ih []
        simp [rawLen] at this
        simp [splitAcc, h1, h2, rawLen]
        omega
      · have := ih (cur ++ [c])
        simp only [rawLen] at this
        simp [splitAcc, h1, h2, rawLen] at this ⊢
        omega

theorem rawSegs_pos (stop sep : UInt8 → Bool) (input : Bytes) : 1 ≤ (rawSegs stop sep input).length :=
  (splitAcc_len stop sep input []).2

theorem decodeAll_length (raws ds : List Bytes) (h : decodeAll raws = some ds) : ds.length = raws.length := by
  induction raws, ds, h using decodeAll_rec with
  | nil => rfl
  | cons r d rs t hd ht ih => rw [List.length_cons, List.length_cons, ih]

theorem splitQuery_ne_nil (input : Bytes) (qs : List Bytes) (h : Spec.Uri.splitQuery input = some qs) : qs ≠ [] := by
  intro e
  have h1 := rawSegs_pos queryStop querySep input
  rw [← decodeAll_length _ _ h, e] at h1
  exact absurd h1 (by decide)

theorem usedBy_le_raw (raws ds : List Bytes) (h : decodeAll raws = some ds) :
    usedBy ds ≤ rawLen raws + 3 * raws.length ∧
    ((∀ d ∈ ds, d.length < 269) → usedBy ds ≤ rawLen raws + 2 * raws.length) := by
  induction raws, ds, h using decodeAll_rec with
  | nil => exact ⟨Nat.le_refl 0, fun _ => Nat.le_refl 0⟩
  | cons r d rs t hd ht ih =>
    have hl := pctDecode_length_le r d hd
    have hr : rawLen (r :: rs) = r.length + rawLen rs := by simp [rawLen]
    rw [usedBy_cons, hr, List.length_cons]
    constructor
    · have := (optSize_le d).1
      omega
    · intro hs
      have h1 := (optSize_le d).2 (hs d List.mem_cons_self)
      have h2 := ih.2 (fun x hx => hs x (List.mem_cons_of_mem _ hx))
      omega

theorem splitPathBuf_eq (input : Bytes) (buflen : Nat) (ds : List Bytes)
    (hd : decodeAll (rawSegs pathStop pathSep input) = some ds) (hb : usedBy ds ≤ buflen) :
    MU.splitPath input buflen = R.ok (resolve ds) := by
  rw [splitPathBuf_fold, fold_buf pathStepBuf resolveStep pathStepBuf_fits usedBy_resolveStep _ ds hd ⟨buflen, []⟩
    (by simpa [usedBy] using hb)]
  rfl

theorem splitQueryBuf_eq (input : Bytes) (buflen : Nat) (ds : List Bytes)
    (hd : decodeAll (rawSegs queryStop querySep input) = some ds) (hb : usedBy ds ≤ buflen) :
    MU.splitQuery input buflen = R.ok ds := by
  rw [splitQueryBuf_fold, fold_buf writeS (fun s d => s ++ [d]) writeS_fits
    (fun segs d => Nat.le_of_eq (usedBy_append segs d)) _ ds hd ⟨buflen, []⟩ (by simpa [usedBy] using hb), foldl_snoc]
  rfl

/-- the two documented-minimum bounds in terms of the input -/
theorem usedBy_le_input (stop sep : UInt8 → Bool) (input : Bytes) (ds : List Bytes)
    (hd : decodeAll (rawSegs stop sep input) = some ds) :
    usedBy ds ≤ input.length + 2 * (rawSegs stop sep input).length + 1 ∧
    ((∀ d ∈ ds, d.length < 269) → usedBy ds ≤ input.length + 2 * (rawSegs stop sep input).length) := by
  have ⟨a1, a2⟩ := usedBy_le_raw _ ds hd
  have ⟨b1, b2⟩ := splitAcc_len stop sep input []
  simp only [List.length_nil, Nat.zero_add] at b1
  unfold rawSegs at *
  constructor
  · omega
  · intro hs
    have := a2 hs
    omega

end Coap.UriL
