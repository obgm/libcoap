import CoapVerif.Lemmas.ObserveRun
/- Global invariants of the Observe model over ALL event sequences, each proved once against the micro transitions of
   Lemmas/ObserveRun.lean and lifted to `step` / `run` (`run_resInv`): `OrdInv` (versions of the notifications to one entry increase),
   `ValInv` (the Observe value is start value + version), `CadInv` / `NonCntOk` (at least every sixth notification Confirmable),
   `LiveInv` / `PdInv` (a clean entry has been told the current state), `LowInv` and `run_verLe` (the version against the events of
   a run). -/
namespace Coap.Observe
open Coap.Generated

theorem Trans.preserves {A : Nat → Nat → Nat → Prop} {Q : Res → List Out → Prop}
    (hQ : ∀ y o y' acc, Q y acc → Micro A y o y' → Q y' (acc ++ o)) {y y' : Res} {o : List Out} (h : Trans A y o y') :
    ∀ acc, Q y acc → Q y' (acc ++ o) := by
  induction h with
  | refl => intro acc hq; simpa using hq
  | step hm _ ih =>
    intro acc hq
    rw [← List.append_assoc]
    exact ih _ (hQ _ _ _ _ hq hm)

/-- `Q` holds of every resource together with the datagrams written about it so far -/
def ResInv (Q : Res → List Out → Prop) (st : State) (acc : List Out) : Prop :=
  ∀ y ∈ st.res, Q y (acc.filter (fromRes y.id))

theorem step_resInv {Q : Res → List Out → Prop} (st : State) (e : Event) (acc : List Out) (hid : IdsNodup st)
    (hQ : ∀ y o y' a, Q y a → Micro (RegEv e) y o y' → Q y' (a ++ o)) (h : ResInv Q st acc) :
    ResInv Q (step st e).1 (acc ++ (step st e).2) := by
  intro y' hy'
  obtain ⟨y, hy, ht⟩ := (step_rel st e hid).exists_right y' hy'
  rw [List.filter_append, ht.fixed.1]
  exact ht.preserves hQ _ (h y hy)

theorem run_resInv {Q : Res → List Out → Prop} (ok : Event → Prop)
    (hQ : ∀ e, ok e → ∀ y o y' a, Q y a → Micro (RegEv e) y o y' → Q y' (a ++ o)) :
    ∀ (evs : List Event) (st : State) (acc : List Out), IdsNodup st → (∀ e ∈ evs, ok e) → ResInv Q st acc →
      ResInv Q (run st evs).1 (acc ++ (run st evs).2)
  | [], st, acc, _, _, h => by simpa [run_nil] using h
  | e :: es, st, acc, hid, hok, h => by
    rw [run_cons]
    dsimp only
    rw [← List.append_assoc]
    exact run_resInv ok hQ es _ _ (step_idsNodup st e hid) (fun e' he' => hok e' (List.mem_cons_of_mem _ he'))
      (step_resInv st e acc hid (hQ e (hok e (List.mem_cons_self ..))) h)

theorem run_resInv_nil {Q : Res → List Out → Prop} (hQ : ∀ e y o y' a, Q y a → Micro (RegEv e) y o y' → Q y' (a ++ o))
    (evs : List Event) (st : State) (hid : IdsNodup st) (h : ∀ y ∈ st.res, Q y []) :
    ResInv Q (run st evs).1 (run st evs).2 := by
  have := run_resInv (fun _ => True) (fun e _ => hQ e) evs st [] hid (fun _ _ => trivial) h
  rwa [List.nil_append] at this

/-- a 2.05 notification (as opposed to a response, a retransmission, a 4.04 goodbye) -/
def isNotif (o : Out) : Bool := o.tag == .note && o.code == 69

theorem isNotif_resp {out : Out} (h : out.tag = .resp) : isNotif out = false := by
  unfold isNotif; rw [h]; rfl

theorem isNotif_noteOut (c n tok code : Nat) (obs : Option Nat) (isCon : Bool) (mid rid ver : Nat) :
    isNotif (noteOut c n tok code obs isCon mid rid ver) = (code == 69) := rfl

def notifsTo (c tok : Nat) (l : List Out) : List Out := (l.filter (toST c tok)).filter isNotif

theorem notifsTo_append (c tok : Nat) (a b : List Out) : notifsTo c tok (a ++ b) = notifsTo c tok a ++ notifsTo c tok b := by
  unfold notifsTo; rw [List.filter_append, List.filter_append]

theorem notifsTo_nil (c tok : Nat) : notifsTo c tok [] = [] := rfl

theorem Visits.bye_outs {r : Res} {subs subs' : List Sub} {pd : Bool} {outs : List Out}
    (h : Visits true r subs subs' pd outs) : ∀ out ∈ outs, isNotif out = false := by
  intro out ho
  obtain ⟨o, _, s, pd1, po, hv, hpo⟩ := h.visit_of_out out ho
  cases hv with
  | skip | defer => cases hpo
  | bye m n => rw [List.mem_singleton.mp hpo]; rfl
  | error _ _ _ hd => cases hd
  | sent _ _ _ hd => cases hd

theorem notifsTo_nonNotif (c tok : Nat) (acc outs : List Out) (h : ∀ out ∈ outs, isNotif out = false) :
    notifsTo c tok (acc ++ outs) = notifsTo c tok acc := by
  rw [notifsTo_append]
  have : notifsTo c tok outs = [] := by
    unfold notifsTo
    rw [List.filter_eq_nil_iff]
    intro a ha
    rw [h a (List.mem_filter.mp ha).1]; simp
  rw [this, List.append_nil]

theorem notifsTo_resp (c tok : Nat) (acc : List Out) {out : Out} (h : out.tag = .resp) :
    notifsTo c tok (acc ++ [out]) = notifsTo c tok acc :=
  notifsTo_nonNotif c tok acc [out] fun a ha => by rw [List.mem_singleton.mp ha]; exact isNotif_resp h

theorem notifsTo_filter {c tok : Nat} {outs po : List Out} (h : outs.filter (toST c tok) = po) :
    notifsTo c tok outs = po.filter isNotif := by
  unfold notifsTo; rw [h]

theorem notifsTo_of_filter (c tok : Nat) (acc outs : List Out) (po : List Out) (h : outs.filter (toST c tok) = po) :
    notifsTo c tok (acc ++ outs) = notifsTo c tok acc ++ po.filter isNotif := by
  rw [notifsTo_append, notifsTo_filter h]

/-- the walk over `y.subs` found entry `o1` of (c, tok) stale and sent it a notification (message id `m`, the `n`-th datagram
    to that client); `subs'` and `outs` are what the walk left and wrote -/
structure SentTo (c tok : Nat) (y : Res) (subs' : List Sub) (outs : List Out) (o1 : Sub) (m n : Nat) : Prop where
  mem : o1 ∈ y.subs
  isTarget : matchST c tok o1 = true
  stale : y.dirty = true ∨ o1.dirty = true
  entry : ∀ o' ∈ subs', matchST c tok o' = true →
    some { o1 with dirty := false, mid := m, nonCnt := nextNonCnt y o1, lastVer := some y.ver } = some o'
  out : outs.filter (toST c tok) = [noteOut o1.sess n o1.token 69 (some y.observe) (wantCon y o1) m y.id y.ver]

/-- A walk seen from one target (c, tok).  Either no 2.05 goes to it, and an entry of the target left behind was there before
    with the same NON counter and is dirty only if it or the resource was; or its entry was stale and is sent a notification. -/
theorem Visits.notif_target {y : Res} {subs' : List Sub} {pd : Bool} {outs : List Out} (c tok : Nat)
    (hv : Visits false y y.subs subs' pd outs) (hn : NoDup y) :
    (notifsTo c tok outs = [] ∧
      ∀ o' ∈ subs', matchST c tok o' = true → ∃ o1 ∈ y.subs, matchST c tok o1 = true ∧ o1.nonCnt = o'.nonCnt ∧
        (o'.dirty = true → y.dirty = true ∨ o1.dirty = true)) ∨
    ∃ o1 m n, SentTo c tok y subs' outs o1 m n := by
  rcases hv.target c tok hn with ⟨_, h2, h3⟩ | ⟨o1, ho1, hm1, s, pd1, po, hvis, h4, _, h6⟩
  · refine Or.inl ⟨notifsTo_filter h3, fun o' ho' hmo => ?_⟩
    rw [h2 o' ho'] at hmo; cases hmo
  · cases hvis with
    | skip hyd hod =>
      refine Or.inl ⟨notifsTo_filter h6, fun o' ho' hmo => ?_⟩
      rw [← Option.some.inj (h4 o' ho' hmo)]
      exact ⟨o1, ho1, hm1, rfl, fun hd => Or.inr hd⟩
    | defer hst =>
      refine Or.inl ⟨notifsTo_filter h6, fun o' ho' hmo => ?_⟩
      rw [← Option.some.inj (h4 o' ho' hmo)]
      exact ⟨o1, ho1, hm1, rfl, fun _ => hst⟩
    | bye m n hst hd => cases hd
    | error m n hst hd he =>
      refine Or.inl ⟨notifsTo_filter h6, fun o' ho' hmo => ?_⟩
      cases h4 o' ho' hmo
    | sent m n hst hd he => exact Or.inr ⟨o1, m, n, ho1, hm1, hst, h4, h6⟩

/-- ordering invariant for one target (session c, token tok) on one resource y: the notifications written to it carry strictly
    increasing versions, none newer than the resource, and one that carries the resource's CURRENT version leaves neither
    the resource nor the entry dirty (so it will not be repeated: `Visit.skip`). -/
structure OrdInv (c tok : Nat) (y : Res) (acc : List Out) : Prop where
  nodup : NoDup y
  sorted : (notifsTo c tok acc).Pairwise (fun a b => a.ver < b.ver)
  bound : ∀ a ∈ notifsTo c tok acc, a.ver ≤ y.ver ∧
    (a.ver = y.ver → y.dirty = false ∧ ∀ o ∈ y.subs, matchST c tok o = true → o.dirty = false)

theorem OrdInv.congr {c tok : Nat} {y : Res} {acc acc' : List Out} (h : OrdInv c tok y acc)
    (he : notifsTo c tok acc' = notifsTo c tok acc) : OrdInv c tok y acc' :=
  ⟨h.nodup, he ▸ h.sorted, he ▸ h.bound⟩

theorem OrdInv.same_acc {c tok : Nat} {y y' : Res} {acc : List Out} (h : OrdInv c tok y acc) (hn : NoDup y')
    (hv : y.ver ≤ y'.ver)
    (hb : y'.ver = y.ver → y.dirty = false → y'.dirty = false ∧
      ∀ o' ∈ y'.subs, matchST c tok o' = true → o'.dirty = true → ∃ o ∈ y.subs, matchST c tok o = true ∧ o.dirty = true) :
    OrdInv c tok y' acc := by
  refine ⟨hn, h.sorted, ?_⟩
  intro a ha
  obtain ⟨h1, h2⟩ := h.bound a ha
  refine ⟨Nat.le_trans h1 hv, ?_⟩
  intro he
  have hvv : y'.ver = y.ver := by omega
  obtain ⟨h3, h4⟩ := h2 (by omega)
  obtain ⟨h5, h6⟩ := hb hvv h3
  refine ⟨h5, ?_⟩
  intro o' ho' hm
  cases hd : o'.dirty with
  | false => rfl
  | true =>
    obtain ⟨o, ho, hmo, hdo⟩ := h6 o' ho' hm hd
    rw [h4 o ho hmo] at hdo; cases hdo

/-- the one transition that adds to the sequence: a notification to the entry of (c, tok), which was stale -/
theorem OrdInv.sent {c tok : Nat} {y : Res} {acc : List Out} (h : OrdInv c tok y acc) {subs' : List Sub} {pd : Bool}
    {o : List Out} {o1 : Sub} {m n : Nat} (hs : SentTo c tok y subs' o o1 m n)
    (hn' : NoDup { y with subs := subs', pdirty := pd, dirty := false }) :
    OrdInv c tok { y with subs := subs', pdirty := pd, dirty := false } (acc ++ o) := by
  obtain ⟨ho1, hm1, hst, h4, h6⟩ := hs
  have heq : notifsTo c tok (acc ++ o) = notifsTo c tok acc ++ [noteOut o1.sess n o1.token 69 (some y.observe) (wantCon y o1) m y.id y.ver] := by
    rw [notifsTo_of_filter c tok acc o _ h6]; rfl
  -- everything told before is older: a notification with the current version would have left resource and entry clean
  have hlt : ∀ a ∈ notifsTo c tok acc, a.ver < y.ver := by
    intro a ha
    obtain ⟨h1, h2⟩ := h.bound a ha
    rcases Nat.lt_or_ge a.ver y.ver with hl | hg
    · exact hl
    · exfalso
      obtain ⟨h3, h4'⟩ := h2 (Nat.le_antisymm h1 hg)
      rcases hst with hst | hst
      · rw [h3] at hst; cases hst
      · rw [h4' o1 ho1 hm1] at hst; cases hst
  refine ⟨hn', ?_, ?_⟩
  · rw [heq, List.pairwise_append]
    refine ⟨h.sorted, List.pairwise_singleton _ _, ?_⟩
    intro a ha b hb
    rw [List.mem_singleton.mp hb]
    exact hlt a ha
  · intro a ha
    rw [heq] at ha
    rcases List.mem_append.mp ha with ha | ha
    · have := hlt a ha
      exact ⟨Nat.le_of_lt this, fun he' => absurd he' (Nat.ne_of_lt this)⟩
    · rw [List.mem_singleton.mp ha]
      refine ⟨Nat.le_refl _, fun _ => ⟨rfl, ?_⟩⟩
      intro o' ho' hmo
      rw [← Option.some.inj (h4 o' ho' hmo)]

theorem OrdInv.micro {A : Nat → Nat → Nat → Prop} (c tok : Nat) (y : Res) (o : List Out) (y' : Res) (acc : List Out)
    (h : OrdInv c tok y acc) (hm : Micro A y o y') : OrdInv c tok y' (acc ++ o) := by
  cases hm with
  | le hle =>
    rw [List.append_nil]
    refine h.same_acc ((ResEvo.of_leF (A := A) hle).noDup h.nodup) (by rw [hle.ver]; exact Nat.le_refl _) ?_
    intro _ hd
    refine ⟨by rw [hle.dirty]; exact hd, ?_⟩
    intro o' ho' hmo hdo
    obtain ⟨o1, ho1, hc⟩ := hle.mem_sub ho'
    exact ⟨o1, ho1, by rw [matchST_coreF hc]; exact hmo, by rw [coreF_dirty hc]; exact hdo⟩
  | errFlag b =>
    rw [List.append_nil]
    exact h.same_acc h.nodup (Nat.le_refl _) (fun _ hd => ⟨hd, fun o' ho' hmo hdo => ⟨o', ho', hmo, hdo⟩⟩)
  | change =>
    rw [List.append_nil]
    refine h.same_acc h.nodup (Nat.le_succ _) ?_
    intro he; simp at he
  | register c' tok' key m out hA hal herr htag =>
    have hf := addToRes_fields y c' tok' key m
    have h1 : OrdInv c tok y (acc ++ [out]) := h.congr (notifsTo_resp c tok acc htag)
    refine h1.same_acc (addToRes_noDup y c' tok' key m h.nodup) (by rw [hf.ver]; exact Nat.le_refl _) ?_
    intro _ hd
    refine ⟨by rw [hf.dirty]; exact hd, ?_⟩
    intro o' ho' hmo hdo
    rcases mem_addToRes ho' with rfl | ho1
    · cases hdo
    · exact ⟨o', ho1, hmo, hdo⟩
  | resp out htag _ =>
    exact h.congr (notifsTo_resp c tok acc htag)
  | notify hal hv =>
    rename_i subs' pd
    have hn' : NoDup { y with subs := subs', pdirty := pd, dirty := false } := List.Pairwise.sublist hv.idLe h.nodup
    rcases hv.notif_target c tok h.nodup with ⟨h3, h2⟩ | ⟨o1, m, n, hs⟩
    · have h1 : OrdInv c tok y (acc ++ o) := h.congr (by rw [notifsTo_append, h3, List.append_nil])
      refine h1.same_acc hn' (Nat.le_refl _) (fun _ hyd => ⟨rfl, ?_⟩)
      intro o' ho' hmo hdo
      obtain ⟨o1, ho1, hm1, _, hd⟩ := h2 o' ho' hmo
      rcases hd hdo with hd | hd
      · rw [hyd] at hd; cases hd
      · exact ⟨o1, ho1, hm1, hd⟩
    · exact h.sent hs hn'
  | bye pd' hal hv =>
    have h1 : OrdInv c tok y (acc ++ o) := h.congr (notifsTo_nonNotif c tok acc o hv.bye_outs)
    exact h1.same_acc (NoDup.of_nil rfl) (Nat.le_refl _) (fun _ _ => ⟨rfl, fun o' ho' => by cases ho'⟩)
  | clean hc =>
    rw [List.append_nil]
    exact h.same_acc h.nodup (Nat.le_refl _) (fun _ _ => ⟨rfl, fun o' ho' hmo hdo => ⟨o', ho', hmo, hdo⟩⟩)
  | delete pd =>
    rw [List.append_nil]
    exact h.same_acc (NoDup.of_nil rfl) (Nat.le_refl _) (fun _ _ => ⟨rfl, fun o' ho' => by cases ho'⟩)
theorem Visit.notif_fields {d : Bool} {r : Res} {o : Sub} {s : Option Sub} {pd : Bool} {outs : List Out}
    (h : Visit d r o s pd outs) : ∀ out ∈ outs, isNotif out = true → out.obs = some r.observe ∧ out.ver = r.ver := by
  intro out ho hn
  cases h with
  | skip => cases ho
  | defer => cases ho
  | bye m n => rw [List.mem_singleton.mp ho, isNotif_noteOut] at hn; cases hn
  | error m n => rw [List.mem_singleton.mp ho, isNotif_noteOut] at hn; cases hn
  | sent m n => rw [List.mem_singleton.mp ho]; exact ⟨rfl, rfl⟩

theorem Visits.notif_fields {d : Bool} {r : Res} {subs subs' : List Sub} {pd : Bool} {outs : List Out}
    (h : Visits d r subs subs' pd outs) : ∀ out ∈ outs, isNotif out = true → out.obs = some r.observe ∧ out.ver = r.ver := by
  intro out ho
  obtain ⟨o, _, s, pd1, po, hv, hpo⟩ := h.visit_of_out out ho
  exact hv.notif_fields out hpo

theorem Micro.notif_fields {A : Nat → Nat → Nat → Prop} {y y' : Res} {o : List Out} (hm : Micro A y o y') :
    ∀ a ∈ o, isNotif a = true → a.obs = some y.observe ∧ a.ver = y.ver := by
  intro a ha hn
  cases hm with
  | le | errFlag | change | clean | delete => cases ha
  | register c tok key m out _ _ _ htag => rw [List.mem_singleton.mp ha, isNotif_resp htag] at hn; cases hn
  | resp out htag => rw [List.mem_singleton.mp ha, isNotif_resp htag] at hn; cases hn
  | notify _ hv => exact hv.notif_fields a ha hn
  | bye _ _ hv => rw [hv.bye_outs a ha] at hn; cases hn

theorem Micro.observe_ver {A : Nat → Nat → Nat → Prop} {y y' : Res} {o : List Out} (hm : Micro A y o y') :
    (y'.observe = y.observe ∧ y'.ver = y.ver) ∨ (y'.observe = nextObserve y.observe ∧ y'.ver = y.ver + 1) := by
  cases hm with
  | le hle => exact Or.inl ⟨hle.observe, hle.ver⟩
  | change => exact Or.inr ⟨rfl, rfl⟩
  | register c tok key m out =>
    have hf := addToRes_fields y c tok key m
    exact Or.inl ⟨hf.observe, hf.ver⟩
  | _ => exact Or.inl ⟨rfl, rfl⟩

/-- the Observe value of a notification is the start value plus the number of effective changes, mod 2^24; `b`: the start value,
    extrapolated back to version 0 -/
structure ValInv (b : Nat) (y : Res) (acc : List Out) : Prop where
  cur : y.observe = (b + y.ver) % 16777216
  outs : ∀ a ∈ acc, isNotif a = true → a.obs = some ((b + a.ver) % 16777216)

theorem ValInv.micro {A : Nat → Nat → Nat → Prop} (b : Nat) (y : Res) (o : List Out) (y' : Res) (acc : List Out)
    (h : ValInv b y acc) (hm : Micro A y o y') : ValInv b y' (acc ++ o) := by
  refine ⟨?_, ?_⟩
  · rcases hm.observe_ver with ⟨h1, h2⟩ | ⟨h1, h2⟩
    · rw [h1, h2]; exact h.cur
    · rw [h1, h2, h.cur]; exact (Nat.add_mod (b + y.ver) 1 16777216).symm
  · intro a ha hn
    rcases List.mem_append.mp ha with ha | ha
    · exact h.outs a ha hn
    · obtain ⟨h1, h2⟩ := hm.notif_fields a ha hn
      rw [h1, h2, h.cur]

theorem run_ordInv (st : State) (evs : List Event) (hid : IdsNodup st) (hnd : NoDupSt st) (c tok : Nat) :
    ResInv (OrdInv c tok) (run st evs).1 (run st evs).2 :=
  run_resInv_nil (fun _ y o y' a hq hm => OrdInv.micro c tok y o y' a hq hm) evs st hid
    (fun y hy => ⟨hnd y hy, List.Pairwise.nil, fun a ha => by cases ha⟩)

theorem run_valInv (st : State) (evs : List Event) (hid : IdsNodup st) (base : Nat → Nat)
    (h0 : ∀ y ∈ st.res, y.observe = (base y.id + y.ver) % 16777216) :
    ResInv (fun y acc => ValInv (base y.id) y acc) (run st evs).1 (run st evs).2 :=
  run_resInv_nil (Q := fun y acc => ValInv (base y.id) y acc)
    (fun _ y o y' a hq hm => by
      show ValInv (base y'.id) y' (a ++ o)
      rw [hm.fixed.1]; exact ValInv.micro (base y.id) y o y' a hq hm)
    evs st hid (fun y hy => ⟨h0 y hy, fun a ha => by cases ha⟩)

def isConOut (o : Out) : Bool := o.kind == .con

/-- length of the run of Non-confirmables at the end of `l`, when `n` of them preceded `l` -/
def runLen : Nat → List Bool → Nat
  | n, [] => n
  | _, true :: l => runLen 0 l
  | n, false :: l => runLen (n + 1) l

/-- no run of Non-confirmables ever exceeds COAP_OBS_MAX_NON -/
def windowOk : Nat → List Bool → Bool
  | _, [] => true
  | _, true :: l => windowOk 0 l
  | n, false :: l => Nat.ble (n + 1) obsMaxNon && windowOk (n + 1) l

theorem runLen_snoc (b : Bool) : ∀ (l : List Bool) (n : Nat), runLen n (l ++ [b]) = if b then 0 else runLen n l + 1
  | [], n => by cases b <;> rfl
  | true :: l, n => by simp only [List.cons_append, runLen]; exact runLen_snoc b l 0
  | false :: l, n => by simp only [List.cons_append, runLen]; exact runLen_snoc b l (n + 1)

theorem windowOk_snoc (b : Bool) : ∀ (l : List Bool) (n : Nat),
    windowOk n (l ++ [b]) = (windowOk n l && (b || Nat.ble (runLen n l + 1) obsMaxNon))
  | [], n => by cases b <;> simp [windowOk, runLen]
  | true :: l, n => by simp only [List.cons_append, windowOk, runLen]; exact windowOk_snoc b l 0
  | false :: l, n => by
    simp only [List.cons_append, windowOk, runLen]
    rw [windowOk_snoc b l (n + 1), Bool.and_assoc]

theorem windowOk_allFalse : ∀ (w post : List Bool) (n : Nat), windowOk n (w ++ post) = true → (∀ x ∈ w, x = false) →
    n + w.length ≤ obsMaxNon ∨ w = []
  | [], _, _, _, _ => Or.inr rfl
  | true :: w, _, _, _, hf => by have := hf true (List.mem_cons_self ..); cases this
  | false :: w, post, n, h, hf => by
    simp only [List.cons_append, windowOk, Bool.and_eq_true, Nat.ble_eq] at h
    left
    rcases windowOk_allFalse w post (n + 1) h.2 (fun x hx => hf x (List.mem_cons_of_mem _ hx)) with h1 | h1
    · simp only [List.length_cons]; omega
    · subst h1; simp only [List.length_cons, List.length_nil]; omega

theorem windowOk_window : ∀ (pre w post : List Bool) (n : Nat), windowOk n (pre ++ w ++ post) = true →
    w.length = obsMaxNon + 1 → true ∈ w
  | [], w, post, n, h, hl => by
    cases hc : w.contains true with
    | true => simpa using hc
    | false =>
      exfalso
      have hf : ∀ x ∈ w, x = false := by
        intro x hx
        cases x with
        | false => rfl
        | true =>
          have : w.contains true = true := List.contains_iff_mem.mpr hx
          rw [hc] at this; cases this
      rcases windowOk_allFalse w post n (by simpa using h) hf with h1 | h1
      · omega
      · subst h1; simp at hl
  | true :: pre, w, post, n, h, hl => by
    simp only [List.cons_append, windowOk] at h
    exact windowOk_window pre w post 0 h hl
  | false :: pre, w, post, n, h, hl => by
    simp only [List.cons_append, windowOk, Bool.and_eq_true] at h
    exact windowOk_window pre w post (n + 1) h.2 hl

theorem wantCon_false_iff (r : Res) (o : Sub) :
    wantCon r o = false ↔ (r.fCon = false ∧ (r.fNonAlways = true ∨ o.nonCnt < obsMaxNon)) := by
  unfold wantCon
  cases r.fCon <;> cases r.fNonAlways <;> simp

theorem isConOut_noteOut (c n tok code : Nat) (obs : Option Nat) (isCon : Bool) (mid rid ver : Nat) :
    isConOut (noteOut c n tok code obs isCon mid rid ver) = isCon := by
  cases isCon <;> rfl

/-- the message types (true = CON) of the notifications to (c, tok) among `acc` -/
def kindsTo (c tok : Nat) (acc : List Out) : List Bool := (notifsTo c tok acc).map isConOut

/-- the idea is `cnt`: the run of Non-confirmables at the end of the sequence is no longer than the entry's NON counter, which
    never exceeds COAP_OBS_MAX_NON -/
structure CadInv (c tok : Nat) (y : Res) (acc : List Out) : Prop where
  nodup : NoDup y
  flag : y.fNonAlways = false
  window : windowOk 0 (kindsTo c tok acc) = true
  cnt : ∀ o ∈ y.subs, matchST c tok o = true → runLen 0 (kindsTo c tok acc) ≤ o.nonCnt ∧ o.nonCnt ≤ obsMaxNon

theorem CadInv.same_acc {c tok : Nat} {y y' : Res} {acc acc' : List Out} (h : CadInv c tok y acc)
    (he : notifsTo c tok acc' = notifsTo c tok acc) (hn : NoDup y') (hf : y'.fNonAlways = y.fNonAlways)
    (hs : ∀ o' ∈ y'.subs, matchST c tok o' = true → ∃ o ∈ y.subs, matchST c tok o = true ∧ o.nonCnt = o'.nonCnt) :
    CadInv c tok y' acc' := by
  have hk : kindsTo c tok acc' = kindsTo c tok acc := by unfold kindsTo; rw [he]
  refine ⟨hn, hf.trans h.flag, hk ▸ h.window, ?_⟩
  intro o' ho' hm
  obtain ⟨o, ho, hmo, hc⟩ := hs o' ho' hm
  rw [hk, ← hc]
  exact h.cnt o ho hmo

theorem CadInv.sent {c tok : Nat} {y : Res} {acc : List Out} (h : CadInv c tok y acc) {subs' : List Sub} {pd : Bool}
    {o : List Out} {o1 : Sub} {m n : Nat} (hs : SentTo c tok y subs' o o1 m n)
    (hn' : NoDup { y with subs := subs', pdirty := pd, dirty := false }) :
    CadInv c tok { y with subs := subs', pdirty := pd, dirty := false } (acc ++ o) := by
  obtain ⟨ho1, hm1, _, h4, h6⟩ := hs
  have heq : kindsTo c tok (acc ++ o) = kindsTo c tok acc ++ [wantCon y o1] := by
    unfold kindsTo
    rw [notifsTo_of_filter c tok acc o _ h6, List.map_append]
    show _ ++ [isConOut (noteOut o1.sess n o1.token 69 (some y.observe) (wantCon y o1) m y.id y.ver)] = _
    rw [isConOut_noteOut]
  obtain ⟨hc1, hc2⟩ := h.cnt o1 ho1 hm1
  have hmax : obsMaxNon ≤ 255 := by decide
  -- a Non-confirmable is chosen only below COAP_OBS_MAX_NON (NOTIFY_NON_ALWAYS is off)
  have hnon : wantCon y o1 = false → o1.nonCnt < obsMaxNon := by
    intro hw
    have := (wantCon_false_iff y o1).mp hw
    rw [h.flag] at this
    rcases this.2 with h' | h'
    · cases h'
    · exact h'
  refine ⟨hn', h.flag, ?_, ?_⟩
  · rw [heq, windowOk_snoc, h.window]
    cases hw : wantCon y o1 with
    | true => rfl
    | false =>
      have := hnon hw
      simp only [Bool.true_and, Bool.false_or, Nat.ble_eq]
      omega
  · intro o' ho' hmo
    rw [← Option.some.inj (h4 o' ho' hmo), heq, runLen_snoc]
    dsimp only
    unfold nextNonCnt
    cases hw : wantCon y o1 with
    | true => exact ⟨Nat.le_refl _, Nat.zero_le _⟩
    | false =>
      have := hnon hw
      simp only [h.flag, Bool.or_false, Bool.false_eq_true, if_false]
      omega

theorem CadInv.micro {A : Nat → Nat → Nat → Prop} (c tok : Nat) (y : Res) (o : List Out) (y' : Res) (acc : List Out)
    (hA : ¬ A y.id c tok) (h : CadInv c tok y acc) (hm : Micro A y o y') : CadInv c tok y' (acc ++ o) := by
  cases hm with
  | le hle =>
    refine h.same_acc (by rw [List.append_nil]) ((ResEvo.of_leF (A := A) hle).noDup h.nodup) hle.fNonAlways ?_
    intro o' ho' hmo
    obtain ⟨o1, ho1, hc⟩ := hle.mem_sub ho'
    exact ⟨o1, ho1, by rw [matchST_coreF hc]; exact hmo, coreF_nonCnt hc⟩
  | errFlag | change | clean =>
    exact h.same_acc (by rw [List.append_nil]) h.nodup rfl (fun o' ho' hmo => ⟨o', ho', hmo, rfl⟩)
  | register c' tok' key m out hA' hal herr htag =>
    have hf := addToRes_fields y c' tok' key m
    refine h.same_acc (notifsTo_resp c tok acc htag)
      (addToRes_noDup y c' tok' key m h.nodup) hf.fNonAlways ?_
    intro o' ho' hmo
    rcases mem_addToRes ho' with rfl | ho1
    · exfalso
      simp [matchST] at hmo
      exact hA (hmo.1 ▸ hmo.2 ▸ hA')
    · exact ⟨o', ho1, hmo, rfl⟩
  | resp out htag _ =>
    exact h.same_acc (notifsTo_resp c tok acc htag) h.nodup rfl
      (fun o' ho' hmo => ⟨o', ho', hmo, rfl⟩)
  | notify hal hv =>
    rename_i subs' pd
    have hn' : NoDup { y with subs := subs', pdirty := pd, dirty := false } := List.Pairwise.sublist hv.idLe h.nodup
    rcases hv.notif_target c tok h.nodup with ⟨h3, h2⟩ | ⟨o1, m, n, hs⟩
    · refine h.same_acc (by rw [notifsTo_append, h3, List.append_nil]) hn' rfl ?_
      intro o' ho' hmo
      obtain ⟨o1, ho1, hm1, hc, _⟩ := h2 o' ho' hmo
      exact ⟨o1, ho1, hm1, hc⟩
    · exact h.sent hs hn'
  | bye pd' hal hv =>
    exact h.same_acc (notifsTo_nonNotif c tok acc o hv.bye_outs) (NoDup.of_nil rfl) rfl (fun o' ho' => by cases ho')
  | delete pd =>
    exact h.same_acc (by rw [List.append_nil]) (NoDup.of_nil rfl) rfl (fun o' ho' => by cases ho')

theorem nextNonCnt_le (r : Res) (o : Sub) (h : o.nonCnt ≤ obsMaxNon) : nextNonCnt r o ≤ obsMaxNon := by
  unfold nextNonCnt
  split
  · exact Nat.zero_le _
  · rename_i hc
    simp at hc
    have := (wantCon_false_iff r o).mp hc.1
    simp [hc.2] at this
    have hmax : obsMaxNon ≤ 255 := by decide
    omega

def NonCntOk (y : Res) : Prop := ∀ o ∈ y.subs, o.nonCnt ≤ obsMaxNon

theorem NonCntOk.micro {A : Nat → Nat → Nat → Prop} (y : Res) (o : List Out) (y' : Res) (h : NonCntOk y) (hm : Micro A y o y') :
    NonCntOk y' := by
  cases hm with
  | le hle =>
    intro o' ho'
    obtain ⟨o1, ho1, hc⟩ := hle.mem_sub ho'
    rw [← coreF_nonCnt hc]; exact h o1 ho1
  | errFlag | change | resp | clean => exact h
  | register c' tok' key m out hA' hal herr htag =>
    intro o' ho'
    rcases mem_addToRes ho' with rfl | ho1
    · exact Nat.zero_le _
    · exact h o' ho1
  | notify hal hv =>
    intro o' ho'
    obtain ⟨o1, ho1, pd1, po, hvis, _⟩ := hv.visit_of_sub o' ho'
    have := h o1 ho1
    cases hvis with
    | skip => exact this
    | defer => exact this
    | bye _ _ _ hd => cases hd
    | sent => exact nextNonCnt_le y o1 this
  | bye | delete => intro o' ho'; cases ho'

theorem run_cadInv (st : State) (evs : List Event) (hid : IdsNodup st) (rid c tok : Nat)
    (hok : ∀ e ∈ evs, ¬ RegEv e rid c tok)
    (h0 : ∀ y ∈ st.res, y.id = rid → NoDup y ∧ y.fNonAlways = false ∧ NonCntOk y) :
    ResInv (fun y acc => y.id = rid → CadInv c tok y acc) (run st evs).1 (run st evs).2 := by
  have := run_resInv (Q := fun y acc => y.id = rid → CadInv c tok y acc) (fun e => ¬ RegEv e rid c tok)
    (fun e he y o y' a hq hm hy' => by
      have hyid : y.id = rid := hm.fixed.1 ▸ hy'
      exact CadInv.micro c tok y o y' a (by rw [hyid]; exact he) (hq hyid) hm)
    evs st [] hid hok (fun y hy hyid => by
      obtain ⟨h1, h2, h3⟩ := h0 y hy hyid
      exact ⟨h1, h2, rfl, fun o ho _ => ⟨Nat.zero_le _, h3 o ho⟩⟩)
  simpa using this

/-- datagram `a` told (session c, token tok) the resource state with Observe value `obs` and version `ver` (a 2.05 notification,
    or the 2.05 response to its registration) -/
def Told (a : Out) (c tok obs ver : Nat) : Prop :=
  (a.tag = .note ∨ a.tag = .resp) ∧ a.c = c ∧ a.token = tok ∧ a.code = 69 ∧ a.obs = some obs ∧ a.ver = ver

/-- a dirty entry keeps its resource `partiallydirty` (the second half of `LiveInv`, which does not look at the outputs) -/
def PdInv (y : Res) : Prop := ∀ o ∈ y.subs, o.dirty = true → y.pdirty = true

theorem PdInv.micro {A : Nat → Nat → Nat → Prop} (y : Res) (o : List Out) (y' : Res) (h : PdInv y) (hm : Micro A y o y') : PdInv y' := by
  cases hm with
  | le hle =>
    intro o' ho' hod
    obtain ⟨o1, ho1, hc⟩ := hle.mem_sub ho'
    rw [hle.pdirty]
    exact h o1 ho1 (coreF_dirty hc ▸ hod)
  | errFlag b => exact h
  | change => exact h
  | register c' tok' key m out =>
    have hf := addToRes_fields y c' tok' key m
    intro o' ho' hod
    rw [hf.pdirty]
    rcases mem_addToRes ho' with rfl | ho1
    · cases hod
    · exact h o' ho1 hod
  | resp out => exact h
  | notify hal hv =>
    intro o' ho' hod
    obtain ⟨o1, ho1, pd1, po, hvis, _, hpd⟩ := hv.visit_of_sub o' ho'
    cases hvis with
    | skip hyd hod1 => rw [hod1] at hod; cases hod
    | defer => exact hpd rfl
    | bye _ _ _ hd => cases hd
    | sent => cases hod
  | bye pd' hal hv => intro o' ho'; cases ho'
  | clean hc => exact h
  | delete pd => intro o' ho'; cases ho'

/-- a clean entry of a clean (alive) resource has been told the resource's current state; a dirty entry keeps the resource
    `partiallydirty` -/
structure LiveInv (y : Res) (acc : List Out) : Prop where
  told : y.alive = true → y.dirty = false → ∀ o ∈ y.subs, o.dirty = false → ∃ a ∈ acc, Told a o.sess o.token y.observe y.ver
  pd : ∀ o ∈ y.subs, o.dirty = true → y.pdirty = true

theorem LiveInv.micro {A : Nat → Nat → Nat → Prop} (y : Res) (o : List Out) (y' : Res) (acc : List Out)
    (h : LiveInv y acc) (hm : Micro A y o y') : LiveInv y' (acc ++ o) := by
  refine ⟨?_, PdInv.micro y o y' h.pd hm⟩
  cases hm with
  | le hle =>
    rw [List.append_nil]
    intro hal hd o' ho' hod
    obtain ⟨o1, ho1, hc⟩ := hle.mem_sub ho'
    rw [hle.observe, hle.ver, ← coreF_sess hc, ← coreF_token hc]
    exact h.told (hle.alive ▸ hal) (hle.dirty ▸ hd) o1 ho1 (coreF_dirty hc ▸ hod)
  | errFlag b => rw [List.append_nil]; exact h.told
  | change => exact fun _ hd => by cases hd
  | register c' tok' key m out hA' hal herr htag hc ht hcode hobs hver hres =>
    have hf := addToRes_fields y c' tok' key m
    intro hal' hd o' ho' hod
    rw [hf.observe, hf.ver]
    rcases mem_addToRes ho' with rfl | ho1
    · exact ⟨out, by simp, Or.inr htag, hc, ht, hcode, hobs, hver⟩
    · obtain ⟨a, ha, hta⟩ := h.told hal (hf.dirty ▸ hd) o' ho1 hod
      exact ⟨a, List.mem_append_left _ ha, hta⟩
  | resp out htag _ =>
    intro hal hd o' ho' hod
    obtain ⟨a, ha, hta⟩ := h.told hal hd o' ho' hod
    exact ⟨a, List.mem_append_left _ ha, hta⟩
  | notify hal hv =>
    intro _ _ o' ho' hod
    obtain ⟨o1, ho1, pd1, po, hvis, hpo, _⟩ := hv.visit_of_sub o' ho'
    cases hvis with
    | skip hyd hod1 =>
      obtain ⟨a, ha, hta⟩ := h.told hal hyd _ ho1 hod1
      exact ⟨a, List.mem_append_left _ ha, hta⟩
    | defer => cases hod
    | bye _ _ _ hd => cases hd
    | sent m n hst hd he =>
      refine ⟨_, List.mem_append_right _ (hpo _ (List.mem_cons_self ..)), ?_⟩
      simp [Told, noteOut]
  | bye | delete => exact fun h' => by cases h'
  | clean hc =>
    rw [List.append_nil]
    intro hal _ o' ho' hod
    rcases hc with hc | hc
    · rw [hc] at hal; cases hal
    · exact h.told hal hc o' ho' hod

theorem run_liveInv (st : State) (evs : List Event) (hid : IdsNodup st) (h0 : ∀ y ∈ st.res, LiveInv y []) :
    ResInv LiveInv (run st evs).1 (run st evs).2 :=
  run_resInv_nil (fun _ y o y' a hq hm => LiveInv.micro y o y' a hq hm) evs st hid h0

/-! ### the hypothesis "fewer than 2^23 changes" tied to the EVENTS of a run: the ghost version moves only with `chg` /
    `del` events, by at most one per event -/
def VerLe (k : Nat) (a b : List Res) : Prop := All2 (fun y' y => y'.id = y.id ∧ y'.ver ≤ y.ver + k) a b

theorem VerLe.refl (a : List Res) : VerLe 0 a a := All2.refl (fun _ => ⟨rfl, Nat.le_refl _⟩) a

theorem VerLe.of_eq {a b : List Res} (h : a = b) : VerLe 0 a b := h ▸ VerLe.refl a

theorem run_verLe (evs : List Event) (st : State) :
    ∀ y ∈ (run st evs).1.res, ∃ y0 ∈ st.res, y.id = y0.id ∧ y.ver ≤ y0.ver + chgTotal evs := fun y hy =>
  let ⟨y0, hy0, h⟩ := (run_evo evs st).exists_right y hy
  ⟨y0, hy0, h.id, h.ver⟩

/-- versions only grow, and a notification never reports an older version than the resource had at the start -/
structure LowInv (v0 : Nat) (y : Res) (acc : List Out) : Prop where
  cur : v0 ≤ y.ver
  outs : ∀ a ∈ acc, isNotif a = true → v0 ≤ a.ver

theorem LowInv.micro {A : Nat → Nat → Nat → Prop} (v0 : Nat) (y : Res) (o : List Out) (y' : Res) (acc : List Out)
    (h : LowInv v0 y acc) (hm : Micro A y o y') : LowInv v0 y' (acc ++ o) := by
  refine ⟨?_, ?_⟩
  · rcases hm.observe_ver with ⟨_, h2⟩ | ⟨_, h2⟩
    · rw [h2]; exact h.cur
    · rw [h2]; exact Nat.le_succ_of_le h.cur
  · intro a ha hn
    rcases List.mem_append.mp ha with ha | ha
    · exact h.outs a ha hn
    · rw [(hm.notif_fields a ha hn).2]; exact h.cur

theorem run_lowInv (st : State) (evs : List Event) (hid : IdsNodup st) (v0 : Nat → Nat) (h0 : ∀ y ∈ st.res, v0 y.id ≤ y.ver) :
    ResInv (fun y acc => LowInv (v0 y.id) y acc) (run st evs).1 (run st evs).2 :=
  run_resInv_nil (Q := fun y acc => LowInv (v0 y.id) y acc)
    (fun _ y o y' a hq hm => by
      show LowInv (v0 y'.id) y' (a ++ o)
      rw [hm.fixed.1]; exact LowInv.micro (v0 y.id) y o y' a hq hm)
    evs st hid (fun y hy => ⟨h0 y hy, fun a ha => by cases ha⟩)

end Coap.Observe
