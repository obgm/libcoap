import CoapVerif.Lemmas.Exchange
/-
Helper lemmas for C07: whole runs of the client (`Client.run`) under D1 ("one exchange outstanding per session": the
application sends a Confirmable request only when the message layer is idle).  The message layer is then always
`Idle` or `Wt n` (the request waiting for its ACK), nothing is ever held back on the delay queue, and the ACK / RST
datagrams and the handler calls of the WHOLE run are functions of the received datagrams alone.
-/
namespace Coap.Exch

/-- the layer under D1: idle, or exactly the Confirmable request waiting for its ACK -/
def LOk (L : Layer) : Prop := L = Idle ∨ ∃ n, L = Wt n ∧ n.d.type = .con

/-- an event is admissible in state `c` under D1: whatever arrives arrives (ANY datagram), time passes at will, the
    application sends requests — a Non-confirmable one at any time, a Confirmable one only when the layer is idle -/
def EvD1 (c : Client) : CEvent → Prop
  | .appSend _ d _ => isRequest d.code = true ∧ (d.type = .non ∨ (d.type = .con ∧ c.L = Idle))
  | _ => True

def RunD1 : Client → List CEvent → Prop
  | _, [] => True
  | c, e :: es => EvD1 c e ∧ RunD1 (c.step e).1 es

/-- message ids for which the received datagrams of a run oblige the client to send an ACK or a RST: every
    Confirmable response (duplicate or not), and every Non-confirmable response the handler FAILed -/
def owed : List CEvent → List Nat
  | [] => []
  | .rx _ d ok :: es =>
    (if isResponse d.code = true ∧ (d.type = .con ∨ (d.type = .non ∧ ok = false)) then [d.mid] else []) ++ owed es
  | _ :: es => owed es

def replies : List Out → List Nat
  | [] => []
  | .tx d :: o => (if d.type = .ack ∨ d.type = .rst then [d.mid] else []) ++ replies o
  | _ :: o => replies o

def handlerCalls : List Out → List (Dgram × Bool)
  | [] => []
  | .callResponse d ok :: o => (d, ok) :: handlerCalls o
  | _ :: o => handlerCalls o

/-- the handler calls that the single-slot duplicate filter (`last_con_mid`, `last_ack_mid`) lets through, as a
    function of the received datagrams alone: a CON response unless its mid is that of the previous CON response, a
    piggybacked response unless its mid is that of the previous piggybacked response, every NON response -/
def expectedCalls (lc la : Option Nat) : List CEvent → List (Dgram × Bool)
  | [] => []
  | .rx _ d ok :: es =>
    if isResponse d.code = true then
      match d.type with
      | .con => if lc = some d.mid then expectedCalls lc la es else (d, ok) :: expectedCalls (some d.mid) la es
      | .ack => if la = some d.mid then expectedCalls lc la es else (d, ok) :: expectedCalls lc (some d.mid) es
      | .non => (d, ok) :: expectedCalls lc la es
      | .rst => expectedCalls lc la es
    else expectedCalls lc la es
  | _ :: es => expectedCalls lc la es

/-- the content of `last_con_mid` after a run, as a function of the received datagrams alone -/
def lastConAfter (lc : Option Nat) : List CEvent → Option Nat
  | [] => lc
  | .rx _ d _ :: es => lastConAfter (if isResponse d.code = true ∧ d.type = .con then some d.mid else lc) es
  | _ :: es => lastConAfter lc es

def lastAckAfter (la : Option Nat) : List CEvent → Option Nat
  | [] => la
  | .rx _ d _ :: es => lastAckAfter (if isResponse d.code = true ∧ d.type = .ack then some d.mid else la) es
  | _ :: es => lastAckAfter la es

theorem replies_append (a b : List Out) : replies (a ++ b) = replies a ++ replies b := by
  induction a with
  | nil => rfl
  | cons x a ih => cases x <;> simp [replies, ih]

theorem handlerCalls_append (a b : List Out) : handlerCalls (a ++ b) = handlerCalls a ++ handlerCalls b := by
  induction a with
  | nil => rfl
  | cons x a ih => cases x <;> simp [handlerCalls, ih]

theorem owed_cons (e : CEvent) (es : List CEvent) : owed (e :: es) = owed [e] ++ owed es := by
  cases e <;> simp [owed]

theorem owed_append (es1 es2 : List CEvent) : owed (es1 ++ es2) = owed es1 ++ owed es2 := by
  induction es1 with
  | nil => rfl
  | cons e es ih =>
    rw [List.cons_append, owed_cons, ih, owed_cons e es, List.append_assoc]

theorem lastConAfter_cons (lc : Option Nat) (e : CEvent) (es : List CEvent) :
    lastConAfter lc (e :: es) = lastConAfter (lastConAfter lc [e]) es := by
  cases e <;> rfl

theorem lastAckAfter_cons (la : Option Nat) (e : CEvent) (es : List CEvent) :
    lastAckAfter la (e :: es) = lastAckAfter (lastAckAfter la [e]) es := by
  cases e <;> rfl

theorem expectedCalls_cons (lc la : Option Nat) (e : CEvent) (es : List CEvent) :
    expectedCalls lc la (e :: es) =
      expectedCalls lc la [e] ++ expectedCalls (lastConAfter lc [e]) (lastAckAfter la [e]) es := by
  cases e with
  | appSend now d T => simp [expectedCalls, lastConAfter, lastAckAfter]
  | tick now => simp [expectedCalls, lastConAfter, lastAckAfter]
  | rx now d ok =>
    by_cases hr : isResponse d.code = true
    · cases hty : d.type
      · by_cases hl : lc = some d.mid <;> simp [expectedCalls, lastConAfter, lastAckAfter, hr, hty, hl]
      · simp [expectedCalls, lastConAfter, lastAckAfter, hr, hty]
      · by_cases hl : la = some d.mid <;> simp [expectedCalls, lastConAfter, lastAckAfter, hr, hty, hl]
      · simp [expectedCalls, lastConAfter, lastAckAfter, hr, hty]
    · simp [expectedCalls, lastConAfter, lastAckAfter, hr]

theorem Client.run_cons (c : Client) (e : CEvent) (es : List CEvent) :
    Client.run c (e :: es) =
      ((Client.run (c.step e).1 es).1, (c.step e).2 ++ (Client.run (c.step e).1 es).2) := rfl

theorem Client.run_append (c : Client) (es1 es2 : List CEvent) :
    Client.run c (es1 ++ es2) =
      ((Client.run (Client.run c es1).1 es2).1, (Client.run c es1).2 ++ (Client.run (Client.run c es1).1 es2).2) := by
  induction es1 generalizing c with
  | nil => simp [Client.run]
  | cons e es ih =>
    rw [List.cons_append, Client.run_cons, ih, Client.run_cons]
    simp [List.append_assoc]

theorem RunD1_append (es1 es2 : List CEvent) (c : Client) :
    RunD1 c (es1 ++ es2) ↔ RunD1 c es1 ∧ RunD1 (Client.run c es1).1 es2 := by
  induction es1 generalizing c with
  | nil => simp [RunD1, Client.run]
  | cons e es ih =>
    rw [List.cons_append, Client.run_cons]
    simp only [RunD1, ih, and_assoc]

/-- one step from `c` on event `e` with result `r` does what D1 promises: the layer stays `Idle` / `Wt`, and the ACK / RST
    datagrams, the handler calls and the two duplicate-filter slots are the functions of `e` defined above -/
def StepOk (c : Client) (e : CEvent) (r : Client × List Out) : Prop :=
  LOk r.1.L ∧
  replies r.2 = owed [e] ∧
  handlerCalls r.2 = expectedCalls c.lastCon c.lastAck [e] ∧
  r.1.lastCon = lastConAfter c.lastCon [e] ∧
  r.1.lastAck = lastAckAfter c.lastAck [e]

theorem LOk_Idle : LOk Idle := Or.inl rfl
theorem LOk_Wt (n : Node) (h : n.d.type = .con) : LOk (Wt n) := Or.inr ⟨n, rfl, h⟩

theorem LOk_delayq {L : Layer} (h : LOk L) : L.delayq = [] := by
  rcases h with rfl | ⟨n, rfl, _⟩ <;> rfl

namespace Layer

theorem cancelAll_LOk (now : Nat) (tok : Bytes) (L : Layer) (hL : LOk L) :
    ∃ L1, LOk L1 ∧ cancelAll now tok L = (L1, []) := by
  rcases hL with rfl | ⟨n, rfl, hc⟩
  · exact ⟨Idle, LOk_Idle, cancelAll_Idle now tok⟩
  · by_cases ht : n.d.token = tok
    · exact ⟨Idle, LOk_Idle, cancelAll_Wt now tok n ht hc⟩
    · exact ⟨Wt n, LOk_Wt n hc, by simp [cancelAll, cancelByToken, Wt, ht]⟩

theorem tickAll_LOk (now : Nat) (L : Layer) (hL : LOk L) :
    LOk (tickAll now L).1 ∧ replies (tickAll now L).2 = [] ∧ handlerCalls (tickAll now L).2 = [] := by
  unfold tickAll
  rcases hL with rfl | ⟨n, rfl, hc⟩
  · rw [tick_Idle]
    exact ⟨LOk_Idle, rfl, rfl⟩
  · have hrep : ∀ k, replies (List.replicate k (Out.tx n.d)) = [] ∧ handlerCalls (List.replicate k (Out.tx n.d)) = [] := by
      intro k
      induction k with
      | zero => exact ⟨rfl, rfl⟩
      | succ k ih => simp [List.replicate_succ, replies, handlerCalls, hc, ih]
    obtain ⟨k, ⟨n', hd, h, _⟩ | h⟩ := tick_Wt_shape now _ n hc
    · rw [h]
      exact ⟨LOk_Wt n' (hd ▸ hc), (hrep k).1, (hrep k).2⟩
    · rw [h]
      exact ⟨LOk_Idle, by rw [replies_append, (hrep k).1]; rfl, by rw [handlerCalls_append, (hrep k).2]; rfl⟩

end Layer

theorem tick_D1 (c : Client) (now : Nat) (hL : LOk c.L) : StepOk c (.tick now) (c.tick now) := by
  obtain ⟨h1, h2, h3⟩ := Layer.tickAll_LOk now c.L hL
  exact ⟨h1, by simpa [owed, Client.tick] using h2, by simpa [expectedCalls, Client.tick] using h3, rfl, rfl⟩

theorem appSend_D1 (c : Client) (now : Nat) (d : Dgram) (T : Nat) (hL : LOk c.L)
    (he : EvD1 c (.appSend now d T)) : StepOk c (.appSend now d T) (c.appSend now d T) := by
  obtain ⟨_, hd | ⟨hd, hI⟩⟩ := he
  · have : c.appSend now d T = (c, [Out.tx d]) := by
      simp [Client.appSend, Layer.send, hd]
    rw [this]
    exact ⟨hL, by simp [replies, owed, hd], by simp [handlerCalls, expectedCalls], rfl, rfl⟩
  · rw [appSend_Idle c now d T hI hd]
    exact ⟨LOk_Wt _ hd, by simp [replies, owed, hd], by simp [handlerCalls, expectedCalls], rfl, rfl⟩

theorem unmodelled_D1 (c : Client) (now : Nat) (d : Dgram) (ok : Bool) (hL : LOk c.L)
    (hr : isResponse d.code = false) : StepOk c (.rx now d ok) (c, [Out.unmodelled]) :=
  ⟨hL, by simp [replies, owed, hr], by simp [handlerCalls, expectedCalls, hr],
   by simp [lastConAfter, hr], by simp [lastAckAfter, hr]⟩

theorem rx_con_D1 (c : Client) (now : Nat) (d : Dgram) (ok : Bool) (hL : LOk c.L)
    (hty : d.type = .con) (hr : isResponse d.code = true) : StepOk c (.rx now d ok) (c.rx now d ok) := by
  obtain ⟨L1, hL1, hca⟩ := Layer.cancelAll_LOk now d.token c.L hL
  rw [rx_con_eq c now d ok L1 hca hty hr]
  by_cases hdup : c.lastCon = some d.mid
  · cases hro : c.lastResOk <;>
      simp [StepOk, hdup, hL1, replies, handlerCalls, owed, expectedCalls, lastConAfter, lastAckAfter, hr, hty,
        ackFor, rstFor]
  · cases ok <;>
      simp [StepOk, hdup, hL1, replies, handlerCalls, owed, expectedCalls, lastConAfter, lastAckAfter, hr, hty,
        ackFor, rstFor]

theorem rx_non_D1 (c : Client) (now : Nat) (d : Dgram) (ok : Bool) (hL : LOk c.L)
    (hty : d.type = .non) (hr : isResponse d.code = true) : StepOk c (.rx now d ok) (c.rx now d ok) := by
  obtain ⟨L1, hL1, hca⟩ := Layer.cancelAll_LOk now d.token c.L hL
  rw [rx_non_eq c now d ok L1 hca hty hr]
  cases ok <;>
    simp [StepOk, hL1, replies, handlerCalls, owed, expectedCalls, lastConAfter, lastAckAfter, hr, hty, rstFor]

theorem lookup_LOk (L : Layer) (hL : LOk L) (now mid : Nat) :
    ∃ sent q L1, Layer.removeByMid mid L.sendq = (sent, q) ∧
      (if sent.isSome = true then Layer.release now { L with sendq := q } else ({ L with sendq := q }, [])) = (L1, []) ∧
      LOk L1 := by
  rcases hL with rfl | ⟨n, rfl, hc⟩
  · exact ⟨none, [], Idle, by simp [Idle, Layer.removeByMid], by simp [Idle], LOk_Idle⟩
  · by_cases hm : n.d.mid = mid
    · exact ⟨some n, [], Idle, by simp [Wt, Layer.removeByMid, hm], by simp [Wt, Layer.release_Wt_removed], LOk_Idle⟩
    · exact ⟨none, [n], Wt n, by simp [Wt, Layer.removeByMid, hm], by simp [Wt], LOk_Wt n hc⟩

theorem rx_rst_D1 (c : Client) (now : Nat) (d : Dgram) (ok : Bool) (hL : LOk c.L)
    (hcc : codeClassOk d.code = true) (hty : d.type = .rst) : StepOk c (.rx now d ok) (c.rx now d ok) := by
  obtain ⟨sent, q, L1, h1, h2, hL1⟩ := lookup_LOk c.L hL now d.mid
  have hrx : c.rx now d ok = ({ c with L := L1 },
      match sent with
      | some n => if n.d.type = .con then [Out.callNack .rst n.d.mid] else []
      | none => [Out.callNack .rst d.mid]) := by
    unfold Client.rx
    simp only [hcc, hty, h1, h2]
    cases sent <;> simp
  rw [hrx]
  refine ⟨hL1, ?_, ?_, by simp [lastConAfter, hty], by simp [lastAckAfter, hty]⟩
  · cases sent with
    | none => simp [replies, owed, hty]
    | some n => by_cases hn : n.d.type = .con <;> simp [replies, owed, hty, hn]
  · cases sent with
    | none => by_cases hr : isResponse d.code = true <;> simp [handlerCalls, expectedCalls, hty, hr]
    | some n =>
      by_cases hn : n.d.type = .con <;> by_cases hr : isResponse d.code = true <;>
        simp [handlerCalls, expectedCalls, hty, hn, hr]

theorem rx_ack_D1 (c : Client) (now : Nat) (d : Dgram) (ok : Bool) (hL : LOk c.L)
    (hcc : codeClassOk d.code = true) (hty : d.type = .ack) : StepOk c (.rx now d ok) (c.rx now d ok) := by
  obtain ⟨sent, q, L1, h1, h2, hL1⟩ := lookup_LOk c.L hL now d.mid
  by_cases hr : isResponse d.code = true
  · rw [rx_ack_rsp_eq c now d ok hty hr sent q L1 h1 h2]
    by_cases hdup : c.lastAck = some d.mid <;>
      simp [StepOk, hdup, hL1, replies, handlerCalls, owed, expectedCalls, lastConAfter, lastAckAfter, hr, hty]
  · have hr' : isResponse d.code = false := by simpa using hr
    rw [rx_ack_eq c now d ok hcc hty sent q L1 h1 h2]
    by_cases hem : isEmpty d.code = true
    · rw [if_pos hem]
      exact ⟨hL1, by simp [replies, owed, hr'], by simp [handlerCalls, expectedCalls, hr'],
        by simp [lastConAfter, hr'], by simp [lastAckAfter, hr']⟩
    · rw [if_neg hem]
      by_cases hrq : isRequest d.code = true
      · rw [if_pos hrq]
        refine ⟨hL1, ?_, ?_, by simp [lastConAfter, hr'], by simp [lastAckAfter, hr']⟩
        · cases sent <;> simp [replies, owed, hr']
        · cases sent <;> simp [handlerCalls, expectedCalls, hr']
      · rw [if_neg hrq, if_neg hr]
        exact unmodelled_D1 c now d ok hL hr'

theorem rx_D1 (c : Client) (now : Nat) (d : Dgram) (ok : Bool) (hL : LOk c.L) :
    StepOk c (.rx now d ok) (c.rx now d ok) := by
  have hun : isResponse d.code = false → c.rx now d ok = (c, [Out.unmodelled]) →
      StepOk c (.rx now d ok) (c.rx now d ok) := fun hr' hrx => hrx ▸ unmodelled_D1 c now d ok hL hr'
  by_cases hcc : codeClassOk d.code = true
  · cases hty : d.type with
    | ack => exact rx_ack_D1 c now d ok hL hcc hty
    | rst => exact rx_rst_D1 c now d ok hL hcc hty
    | con =>
      by_cases hr : isResponse d.code = true
      · exact rx_con_D1 c now d ok hL hty hr
      · have hr' : isResponse d.code = false := by simpa using hr
        exact hun hr' (by unfold Client.rx; simp [hcc, hty, hr'])
    | non =>
      by_cases hr : isResponse d.code = true
      · exact rx_non_D1 c now d ok hL hty hr
      · have hr' : isResponse d.code = false := by simpa using hr
        exact hun hr' (by unfold Client.rx; simp [hcc, hty, hr'])
  · have hr' : isResponse d.code = false := by
      cases h : isResponse d.code with
      | false => rfl
      | true => exact absurd (isResponse_codeClassOk h) hcc
    exact hun hr' (by unfold Client.rx; simp [hcc])

theorem step_D1 (c : Client) (e : CEvent) (hL : LOk c.L) (he : EvD1 c e) : StepOk c e (c.step e) := by
  cases e with
  | appSend now d T => exact appSend_D1 c now d T hL he
  | rx now d ok => exact rx_D1 c now d ok hL
  | tick now => exact tick_D1 c now hL

theorem run_D1 (es : List CEvent) (c : Client) (hL : LOk c.L) (h : RunD1 c es) :
    LOk (Client.run c es).1.L ∧
    replies (Client.run c es).2 = owed es ∧
    handlerCalls (Client.run c es).2 = expectedCalls c.lastCon c.lastAck es ∧
    (Client.run c es).1.lastCon = lastConAfter c.lastCon es ∧
    (Client.run c es).1.lastAck = lastAckAfter c.lastAck es := by
  induction es generalizing c with
  | nil => exact ⟨hL, rfl, rfl, rfl, rfl⟩
  | cons e es ih =>
    obtain ⟨he, hrest⟩ := h
    obtain ⟨s1, s2, s3, s4, s5⟩ := step_D1 c e hL he
    obtain ⟨r1, r2, r3, r4, r5⟩ := ih (c.step e).1 s1 hrest
    rw [Client.run_cons]
    refine ⟨r1, ?_, ?_, ?_, ?_⟩
    · rw [replies_append, s2, r2, owed_cons e es]
    · rw [handlerCalls_append, s3, r3, s4, s5, expectedCalls_cons _ _ e es]
    · rw [r4, s4, lastConAfter_cons _ e es]
    · rw [r5, s5, lastAckAfter_cons _ e es]

theorem run_LOk (es : List CEvent) (c : Client) (hL : LOk c.L) (h : RunD1 c es) : LOk (Client.run c es).1.L :=
  (run_D1 es c hL h).1

theorem run_lastCon (es : List CEvent) (c : Client) (hL : LOk c.L) (h : RunD1 c es) :
    (Client.run c es).1.lastCon = lastConAfter c.lastCon es :=
  (run_D1 es c hL h).2.2.2.1

theorem run_lastAck (es : List CEvent) (c : Client) (hL : LOk c.L) (h : RunD1 c es) :
    (Client.run c es).1.lastAck = lastAckAfter c.lastAck es :=
  (run_D1 es c hL h).2.2.2.2

def callMids (ty : MType) : List (Dgram × Bool) → List Nat
  | [] => []
  | (d, _) :: r => if d.type = ty then d.mid :: callMids ty r else callMids ty r

/-- no element equals its predecessor; `prev` is the predecessor of the head (the content of the filter slot) -/
def noRepeat : Option Nat → List Nat → Prop
  | _, [] => True
  | prev, m :: ms => prev ≠ some m ∧ noRepeat (some m) ms

instance decNoRepeat : (prev : Option Nat) → (l : List Nat) → Decidable (noRepeat prev l)
  | _, [] => isTrue trivial
  | prev, m :: ms => @instDecidableAnd (prev ≠ some m) (noRepeat (some m) ms) inferInstance (decNoRepeat (some m) ms)

theorem expectedCalls_noRepeat (es : List CEvent) :
    ∀ lc la, noRepeat la (callMids .ack (expectedCalls lc la es)) ∧
      noRepeat lc (callMids .con (expectedCalls lc la es)) := by
  induction es with
  | nil => intro lc la; exact ⟨trivial, trivial⟩
  | cons e es ih =>
    intro lc la
    cases e with
    | appSend now d T => exact ih lc la
    | tick now => exact ih lc la
    | rx now d ok =>
      by_cases hr : isResponse d.code = true
      · cases hty : d.type with
        | con =>
          by_cases hl : lc = some d.mid
          · simpa [expectedCalls, hr, hty, hl] using ih (some d.mid) la
          · simpa [expectedCalls, hr, hty, hl, callMids, noRepeat] using ih (some d.mid) la
        | non => simpa [expectedCalls, hr, hty, callMids] using ih lc la
        | ack =>
          by_cases hl : la = some d.mid
          · simpa [expectedCalls, hr, hty, hl] using ih lc (some d.mid)
          · simpa [expectedCalls, hr, hty, hl, callMids, noRepeat] using ih lc (some d.mid)
        | rst => simpa [expectedCalls, hr, hty] using ih lc la
      · simpa [expectedCalls, hr] using ih lc la

instance (c : Client) : (e : CEvent) → Decidable (EvD1 c e)
  | .appSend _ d _ =>
    inferInstanceAs (Decidable (isRequest d.code = true ∧ (d.type = .non ∨ (d.type = .con ∧ c.L = Idle))))
  | .rx _ _ _ => isTrue trivial
  | .tick _ => isTrue trivial

instance decRunD1 : (c : Client) → (es : List CEvent) → Decidable (RunD1 c es)
  | _, [] => isTrue trivial
  | c, e :: es => @instDecidableAnd (EvD1 c e) (RunD1 (c.step e).1 es) inferInstance (decRunD1 (c.step e).1 es)

/-- a Confirmable request is sent (and retransmitted once by the tick at 3100: not an ACK / RST); its separate CON
    response (mid 50) arrives, then — after another timer tick — a duplicate
    of it, then a different CON response (mid 51) that the handler FAILs, then a NON response (mid 52, verdict OK):
    the run is admissible under D1, the client acknowledges 50 twice (the duplicate is re-acknowledged), resets 51,
    owes nothing for the NON, and the handler is called three times (not for the duplicate) -/
example :
    let req : Dgram := { type := .con, code := 1, mid := 1, token := [7] }
    let r1 : Dgram := { type := .con, code := 69, mid := 50, token := [7] }
    let r2 : Dgram := { type := .con, code := 69, mid := 51, token := [7] }
    let r3 : Dgram := { type := .non, code := 69, mid := 52, token := [9] }
    let es : List CEvent :=
      [.appSend 1000 req 2000, .tick 3100, .rx 3200 r1 true, .tick 3300, .rx 3400 r1 true, .rx 3500 r2 false,
       .rx 3600 r3 true]
    RunD1 {} es ∧
    replies (Client.run {} es).2 = [50, 50, 51] ∧
    owed es = [50, 50, 51] ∧
    handlerCalls (Client.run {} es).2 = [(r1, true), (r2, false), (r3, true)] ∧
    (handlerCalls (Client.run {} es).2).length = 3 ∧
    (Client.run {} es).2.head? = some (Out.tx req) ∧ (Client.run {} es).2[1]? = some (Out.tx req) ∧
    (Client.run {} es).1.L = Idle := by
  decide

end Coap.Exch
