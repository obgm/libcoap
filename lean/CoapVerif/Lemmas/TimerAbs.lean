import CoapVerif.Lemmas.SendQueue
/-
What the invariant of M (Lemmas/SchedInv.lean), its counters (Lemmas/Conserve.lean) and both simulations of M by the timer
specification S (Lemmas/TimerSim.lean inside the narrow scope, Lemmas/TimerSimFull.lean for every run) are built on: `absP`, the
delta list read as S's pending list — `SQ.absFrom` with the pending message in the place of the identity (`absP_fst`: same
deadlines) — with `pend_enqueue` / `pend_remove` against S's `pinsert` / `premove`; the observations M and S both show; `NodeOk`;
S's `Orig`; `Punctual`; the counters of one (session, mid).
-/
namespace Coap.Sim
open Coap Coap.SQ Coap.Msg Coap.Timer

/-- the pending message a queue node stands for (`t0` is a ghost of S: erased) -/
def toP (mx : Nat → Nat) (n : Node) : PMsg :=
  { sess := n.sess, mid := n.mid, T := n.timeout, cnt := n.cnt, maxRtx := mx n.sess, t0 := 0 }

/-- absolute deadlines (running sums of the relative times) paired with the pending message -/
def absP (mx : Nat → Nat) (b : Nat) : List Node → List (Nat × PMsg)
  | [] => []
  | n :: r => (b + n.t, toP mx n) :: absP mx (b + n.t) r

def er (p : Nat × PMsg) : Nat × PMsg := (p.1, { p.2 with t0 := 0 })

@[simp] theorem toP_t (mx : Nat → Nat) (n : Node) (x : Nat) : toP mx { n with t := x } = toP mx n := rfl

@[simp] theorem er_fst (p : Nat × PMsg) : (er p).1 = p.1 := rfl

@[simp] theorem er_toP (mx : Nat → Nat) (d : Nat) (n : Node) : er (d, toP mx n) = (d, toP mx n) := rfl

theorem absP_length (mx : Nat → Nat) (b : Nat) (l : List Node) : (absP mx b l).length = l.length := by
  induction l generalizing b with
  | nil => rfl
  | cons n r ih => simp [absP, ih]

theorem absP_fst (mx : Nat → Nat) (b : Nat) (l : List Node) :
    (absP mx b l).map (·.1) = (absFrom b l).map (·.deadline) := by
  induction l generalizing b with
  | nil => rfl
  | cons n r ih => simp [absP, absFrom, ih]

theorem mem_absP_of_mem (mx : Nat → Nat) (b : Nat) (l : List Node) (n : Node) (h : n ∈ l) :
    ∃ d, (d, toP mx n) ∈ absP mx b l := by
  induction l generalizing b with
  | nil => cases h
  | cons a r ih =>
    simp only [List.mem_cons] at h
    rcases h with rfl | h
    · exact ⟨b + n.t, by simp [absP]⟩
    · obtain ⟨d, hd⟩ := ih (b + a.t) h
      exact ⟨d, by simp [absP, hd]⟩

theorem absP_insertAfter (mx : Nat → Nat) (b : Nat) (l : List Node) (n : Node) :
    absP mx b (insertAfter l n) = pinsert (absP mx b l) (b + n.t, toP mx n) := by
  induction l generalizing b n with
  | nil => simp [insertAfter, absP, pinsert]
  | cons q r ih =>
    by_cases h : q.t ≤ n.t
    · have e1 : b + q.t + (n.t - q.t) = b + n.t := by omega
      simp [insertAfter, h, absP, pinsert, ih, e1]
    · have e1 : b + n.t + (q.t - n.t) = b + q.t := by omega
      simp [insertAfter, h, absP, pinsert, e1]

theorem absP_insertNode (mx : Nat → Nat) (b : Nat) (l : List Node) (n : Node) :
    absP mx b (insertNode l n) = pinsert (absP mx b l) (b + n.t, toP mx n) := by
  rw [insertNode_eq_insertAfter]; exact absP_insertAfter mx b l n

theorem absP_enqueue (mx : Nat → Nat) (q : Queue) (now delay : Nat) (n : Node) (hb : q.base ≤ now) :
    absP mx (enqueue q now delay n).base (enqueue q now delay n).nodes =
      pinsert (absP mx q.base q.nodes) (now + delay, toP mx n) := by
  rcases q with ⟨base, nodes⟩
  rcases nodes with _ | ⟨hd, r⟩
  · simp [enqueue, absP, pinsert]
  · have e1 : base + (now - base + delay) = now + delay := by simp only [] at hb; omega
    simp only [enqueue]
    rw [absP_insertNode]
    simp [e1]

theorem absP_popNext (mx : Nat → Nat) (b : Nat) (l : List Node) (n : Node) (rest : List Node)
    (h : popNext l = some (n, rest)) : absP mx b l = (b + n.t, toP mx n) :: absP mx b rest := by
  rcases l with _ | ⟨a, _ | ⟨q, r⟩⟩
  · simp [popNext] at h
  · simp [popNext] at h; obtain ⟨rfl, rfl⟩ := h; simp [absP]
  · simp [popNext] at h; obtain ⟨rfl, rfl⟩ := h
    have e1 : b + (q.t + a.t) = b + a.t + q.t := by omega
    simp [absP, e1]

theorem absP_removeNode (mx : Nat → Nat) (b : Nat) (l : List Node) (s id : Nat) :
    absP mx b (removeNode l s id).2 = (premove (absP mx b l) s id).2 ∧
    (removeNode l s id).1.map (toP mx) = (premove (absP mx b l) s id).1 := by
  induction l generalizing b with
  | nil => exact ⟨rfl, rfl⟩
  | cons n r ih =>
    by_cases h : n.sess = s ∧ n.mid = id
    · have h' : (toP mx n).sess = s ∧ (toP mx n).mid = id := h
      rcases r with _ | ⟨q, r'⟩
      · simp [removeNode, h, absP, premove, h']
      · have e1 : b + (q.t + n.t) = b + n.t + q.t := by omega
        simp [removeNode, h, absP, premove, h', e1]
    · have h' : ¬ ((toP mx n).sess = s ∧ (toP mx n).mid = id) := h
      rcases hr : removeNode r s id with ⟨res, r'⟩
      have := ih (b + n.t)
      rw [hr] at this
      simp only [removeNode, h, if_false, hr, absP, premove, h']
      rcases hp : premove (absP mx (b + n.t) r) s id with ⟨res2, r2⟩
      rw [hp] at this
      simp only [] at this ⊢
      exact ⟨by rw [this.1], this.2⟩

theorem pinsert_er (l : List (Nat × PMsg)) (e : Nat × PMsg) : (pinsert l e).map er = pinsert (l.map er) (er e) := by
  induction l with
  | nil => rfl
  | cons x r ih =>
    by_cases h : x.1 ≤ e.1
    · simp [pinsert, h, ih]
    · simp [pinsert, h]

theorem pend_enqueue {mx : Nat → Nat} {q : Queue} {pend : List (Nat × PMsg)} {now : Nat}
    (hp : pend.map er = absP mx q.base q.nodes) (hb : q.base ≤ now) (d : Nat) (n : Node) (e : Nat × PMsg)
    (he : er e = (now + d, toP mx n)) :
    (pinsert pend e).map er = absP mx (enqueue q now d n).base (enqueue q now d n).nodes := by
  rw [absP_enqueue mx q now d n hb, pinsert_er, hp, he]

theorem premove_er (l : List (Nat × PMsg)) (s mid : Nat) :
    (premove l s mid).2.map er = (premove (l.map er) s mid).2 ∧
    (premove l s mid).1.map (fun m => { m with t0 := 0 }) = (premove (l.map er) s mid).1 := by
  induction l with
  | nil => exact ⟨rfl, rfl⟩
  | cons x r ih =>
    by_cases h : x.2.sess = s ∧ x.2.mid = mid
    · have h' : (er x).2.sess = s ∧ (er x).2.mid = mid := h
      simp only [premove, h, h', and_self, if_true, List.map_cons]
      exact ⟨trivial, rfl⟩
    · have h' : ¬ ((er x).2.sess = s ∧ (er x).2.mid = mid) := h
      rcases hr : premove r s mid with ⟨res, r'⟩
      rcases hr2 : premove (r.map er) s mid with ⟨res2, r2⟩
      rw [hr, hr2] at ih
      simp only [premove, h, if_false, hr, List.map_cons, h', hr2]
      simp only [] at ih ⊢
      exact ⟨by rw [ih.1], ih.2⟩

/-! ### observations: what M and S both show to the outside -/

inductive Obs where
  | tx (t s mid cnt : Nat) (con : Bool)
  | nackRetries (t s mid : Nat)
  | nackRst (t s mid : Nat)
  deriving Repr, DecidableEq

/-- M: transmissions and outcome NACKs (D14: `known = true`); the returned wait and the result of `coap_send` are
not events of S -/
def obsM : Out → Option Obs
  | .tx t s mid cnt con => some (.tx t s mid cnt con)
  | .nack t s .retries mid true => some (.nackRetries t s mid)
  | .nack t s .rst mid true => some (.nackRst t s mid)
  | _ => none

/-- S: the same, ghost labels dropped; the silent completion by an ACK is not visible outside -/
def obsS : TOut → Option Obs
  | .tx t s mid k _ _ _ => some (.tx t s mid k true)
  | .nackRetries t s mid => some (.nackRetries t s mid)
  | .nackRst t s mid => some (.nackRst t s mid)
  | .acked .. => none

def mxOf (par : Nat → Sess) : Nat → Nat := fun s => (par s).maxRtx

/-- a queued node inside the scope of C06: Confirmable, token as submitted, stored timeout positive, retransmission
counter within the limit, `timeout << MAX_RETRANSMIT` fits 64 bits, and `P` (where it comes from) -/
def NodeOk (par : Nat → Sess) (P : Nat → Nat → Nat → Prop) (n : Node) : Prop :=
  n.con = true ∧ n.tok = n.mid ∧ 0 < n.timeout ∧ n.cnt ≤ (par n.sess).maxRtx ∧
  n.timeout * 2 ^ (par n.sess).maxRtx < 2 ^ 64 ∧ P n.sess n.mid n.timeout

theorem nodeOk_tfree (par : Nat → Sess) (P : Nat → Nat → Nat → Prop) : TFree (NodeOk par P) := fun _ _ h => h

variable {par : Nat → Sess} {P : Nat → Nat → Nat → Prop}

theorem nodeOk_resend {n : Node} (hn : NodeOk par P n)
    (h256 : (par n.sess).maxRtx < 256) (hc : n.cnt < (par n.sess).maxRtx) :
    n.cnt + 1 < 256 ∧ n.timeout * 2 ^ (n.cnt + 1) < 2 ^ 64 ∧ NodeOk par P { n with cnt := n.cnt + 1 } := by
  obtain ⟨hcon, htok, hT, _, h64, hP⟩ := hn
  have hle : n.timeout * 2 ^ (n.cnt + 1) ≤ n.timeout * 2 ^ (par n.sess).maxRtx :=
    Nat.mul_le_mul_left _ (Nat.pow_le_pow_right (by decide) hc)
  exact ⟨Nat.lt_of_le_of_lt hc h256, Nat.lt_of_le_of_lt hle h64, hcon, htok, hT, hc, h64, hP⟩

/-- `con_active` (a `uint8_t`) after a free slot is taken -/
theorem slot_take {ca ns : Nat} (h : ca < ns) : (ca + 1) % 256 ≤ ns :=
  Nat.le_trans (Nat.mod_le _ _) h

/-- `con_active` after a slot is released and taken again -/
theorem slot_le {ca ns : Nat} (hle : ca ≤ ns) (hns : 1 ≤ ns) : ca - 1 < ns ∧ (ca - 1 + 1) % 256 ≤ ns := by
  have h : ca - 1 < ns := by omega
  exact ⟨h, slot_take h⟩

theorem getS_setS (l : L) (s s' : Nat) (se : Sess) :
    ((l.setS s se).getS s' = se ∧ s' = s) ∨ (l.setS s se).getS s' = l.getS s' := by
  by_cases h : s = s'
  · subst h
    by_cases hl : s < l.sess.length
    · exact Or.inl ⟨getS_setS_same hl, rfl⟩
    · right; simp [L.getS, L.setS, List.getD_eq_getElem?_getD, hl]
  · exact Or.inr (getS_setS_other h)

theorem est_fix (se : Sess) (h : se.est = true) : ({ se with est := true } : Sess) = se := by
  cases se; simp_all

def NothingDue (l : L) : Prop := ∀ d, Spec.SQ.earliest (abs l.q) = some d → l.now < d

theorem nothingDue_iff (l : L) : NothingDue l ↔ ∀ h r, l.q.nodes = h :: r → l.now < l.q.base + h.t := by
  unfold NothingDue
  rcases l with ⟨now, ⟨base, nodes⟩, sess, out⟩
  rcases nodes with _ | ⟨hd, r⟩
  · simp [abs, absFrom, Spec.SQ.earliest]
  · simp [abs, absFrom, Spec.SQ.earliest]

theorem dueLoop_round (f : Nat) (l : L) (hb : l.q.base ≤ l.now) :
    (NothingDue l ∧ dueLoop (f + 1) l = l) ∨
    ∃ hd r rest, l.q.nodes = hd :: r ∧ l.q.base + hd.t ≤ l.now ∧ popNext l.q.nodes = some (hd, rest) ∧
      dueLoop (f + 1) l = dueLoop f (retransmit { l with q := { l.q with nodes := rest } } hd) := by
  have stop : (∀ h r, l.q.nodes = h :: r → l.now < l.q.base + h.t) → NothingDue l ∧ dueLoop (f + 1) l = l :=
    fun h => ⟨(nothingDue_iff l).2 h, dueLoop_not_due _ l ((nothingDue_iff l).2 h)⟩
  cases hn : l.q.nodes with
  | nil => exact Or.inl (stop fun h r hh => by rw [hn] at hh; cases hh)
  | cons hd r =>
    by_cases hdue : l.q.base + hd.t ≤ l.now
    · obtain ⟨rest, hpop, _, hloop⟩ := dueLoop_due f l hd r hn hb hdue
      exact Or.inr ⟨hd, r, rest, rfl, hdue, hn ▸ hpop, hloop⟩
    · exact Or.inl (stop fun h r' hh => by rw [hn] at hh; cases hh; omega)

theorem er_eq_toP {d d' : Nat} {m : PMsg} {mx : Nat → Nat} {n : Node} (h : er (d, m) = (d', toP mx n)) :
    d = d' ∧ m.sess = n.sess ∧ m.mid = n.mid ∧ m.T = n.timeout ∧ m.cnt = n.cnt ∧ m.maxRtx = mx n.sess := by
  simp only [er, toP, Prod.mk.injEq, PMsg.mk.injEq] at h
  exact ⟨h.1, h.2.1, h.2.2.1, h.2.2.2.1, h.2.2.2.2.1, h.2.2.2.2.2.1⟩

theorem premove_none (l : List (Nat × PMsg)) (s mid : Nat) (h : (premove l s mid).1 = none) :
    (premove l s mid).2 = l := by
  induction l with
  | nil => rfl
  | cons x r ih =>
    by_cases hk : x.2.sess = s ∧ x.2.mid = mid
    · simp [premove, hk] at h
    · rcases hr : premove r s mid with ⟨res, r'⟩
      rw [hr] at ih
      simp only [premove, hk, if_false, hr] at h ⊢
      simp only [] at ih
      rw [ih h]

theorem pend_remove {mx : Nat → Nat} {b : Nat} {l : List Node} {pend : List (Nat × PMsg)}
    (hp : pend.map er = absP mx b l) (s mid : Nat) :
    ((removeNode l s mid).1 = none ∧ premove pend s mid = (none, pend) ∧
      pend.map er = absP mx b (removeNode l s mid).2) ∨
    ∃ n rest m pr, removeNode l s mid = (some n, rest) ∧ premove pend s mid = (some m, pr) ∧
      pr.map er = absP mx b rest := by
  have h1 := absP_removeNode mx b l s mid
  have h2 := premove_er pend s mid
  rw [hp] at h2
  have h4 := h2.2
  rw [← h1.2] at h4
  have hr : (premove pend s mid).2.map er = absP mx b (removeNode l s mid).2 := by rw [h2.1, h1.1]
  have hpn := premove_none pend s mid
  generalize removeNode l s mid = rm at h4 hr ⊢
  generalize premove pend s mid = pm at hpn h4 hr ⊢
  rcases rm with ⟨_ | n, rest⟩ <;> rcases pm with ⟨_ | m, pr⟩
  · obtain rfl : pr = pend := hpn rfl
    exact Or.inl ⟨rfl, rfl, hr⟩
  · cases h4
  · cases h4
  · exact Or.inr ⟨n, rest, m, pr, rfl, rfl, hr⟩

theorem timer_run_append (ts : TS) (a b : List TEv) : Timer.run ts (a ++ b) = Timer.run (Timer.run ts a) b := by
  simp [Timer.run, List.foldl_append]

/-- a session of the scope: established, nothing delayed, socket open, 1 ≤ NSTART, MAX_RETRANSMIT < 256,
`con_active ≤ NSTART` -/
def SessOk (se : Sess) : Prop :=
  se.est = true ∧ se.delayq = [] ∧ se.sockOpen = true ∧ 1 ≤ se.nstart ∧ se.maxRtx < 256 ∧ se.conActive ≤ se.nstart

instance (se : Sess) : Decidable (SessOk se) := by unfold SessOk; infer_instance

def parOf (sess : List Sess) : Nat → Sess := fun s => sess.getD s {}

theorem parOf_ok (sess : List Sess) (h : ∀ se ∈ sess, SessOk se) (s : Nat) : SessOk (parOf sess s) := by
  unfold parOf
  by_cases hs : s < sess.length
  · have : sess.getD s {} = sess[s] := by simp [List.getD_eq_getElem?_getD, hs]
    rw [this]; exact h _ (List.getElem_mem hs)
  · have : sess.getD s {} = {} := by simp [List.getD_eq_getElem?_getD, Nat.le_of_not_lt hs]
    rw [this]; decide

end Coap.Sim

/-! ## S level: where the ghost labels of a transmission come from -/
namespace Coap.Timer

/-- every label `(T, MAX_RETRANSMIT)` carried by a pending entry or a transmission is the label of a `send` (`Q`), and
the first transmission `tx t0 … 0 t0 …` of that message is among the outputs -/
def Orig (Q : Nat → Nat → Nat → Nat → Prop) (ts : TS) : Prop :=
  (∀ p ∈ ts.pend, Q p.2.sess p.2.mid p.2.T p.2.maxRtx ∧
    TOut.tx p.2.t0 p.2.sess p.2.mid 0 p.2.t0 p.2.T p.2.maxRtx ∈ ts.outs) ∧
  (∀ t s mid k t0 T mx, TOut.tx t s mid k t0 T mx ∈ ts.outs →
    Q s mid T mx ∧ TOut.tx t0 s mid 0 t0 T mx ∈ ts.outs)

theorem fire_orig {Q : Nat → Nat → Nat → Nat → Prop} (fuel : Nat) (ts : TS) (h : Orig Q ts) : Orig Q (fire fuel ts) := by
  refine fire_rule fuel ts h ?_ ?_
  · intro now d m r outs _ _ h
    have hhd := h.1 (d, m) (by simp)
    simp only [] at hhd
    constructor
    · intro p hp
      rcases mem_pinsert.1 hp with rfl | hp
      · exact ⟨hhd.1, List.mem_cons_of_mem _ hhd.2⟩
      · have := h.1 p (List.mem_cons_of_mem _ hp)
        exact ⟨this.1, List.mem_cons_of_mem _ this.2⟩
    · intro t s mid k t0 T mx ho
      rcases List.mem_cons.1 ho with ho | ho
      · cases ho
        exact ⟨hhd.1, List.mem_cons_of_mem _ hhd.2⟩
      · have := h.2 _ _ _ _ _ _ _ ho
        exact ⟨this.1, List.mem_cons_of_mem _ this.2⟩
  · intro now d m r outs _ _ h
    constructor
    · intro p hp
      have := h.1 p (List.mem_cons_of_mem _ hp)
      exact ⟨this.1, List.mem_cons_of_mem _ this.2⟩
    · intro t s mid k t0 T mx ho
      rcases List.mem_cons.1 ho with ho | ho
      · cases ho
      · have := h.2 _ _ _ _ _ _ _ ho
        exact ⟨this.1, List.mem_cons_of_mem _ this.2⟩

theorem step_orig {Q : Nat → Nat → Nat → Nat → Prop} (ts : TS) (ev : TEv) (h : Orig Q ts)
    (hQ : ∀ s mid T mx, ev = .send s mid T mx → Q s mid T mx) : Orig Q (step ts ev) := by
  refine step_rule ts ev (fun _ => h) ?_ ?_ ?_
  · intro s mid T mx he
    have hq := hQ s mid T mx he
    constructor
    · intro p hp
      rcases mem_pinsert.1 hp with rfl | hp
      · exact ⟨hq, by simp⟩
      · have := h.1 p hp
        exact ⟨this.1, List.mem_cons_of_mem _ this.2⟩
    · intro t s' mid' k t0 T' mx' ho
      rcases List.mem_cons.1 ho with ho | ho
      · cases ho
        exact ⟨hq, by simp⟩
      · have := h.2 _ _ _ _ _ _ _ ho
        exact ⟨this.1, List.mem_cons_of_mem _ this.2⟩
  · intro now' f _ _
    exact fire_orig f { ts with now := now' } h
  · intro s mid m r o _ ho hr
    constructor
    · intro p hp
      have := h.1 p (mem_premove (s := s) (mid := mid) (by rw [hr]; exact hp))
      exact ⟨this.1, List.mem_cons_of_mem _ this.2⟩
    · intro t s' mid' k t0 T' mx' h'
      have := h.2 _ _ _ _ _ _ _ (ho.mem_tx h')
      exact ⟨this.1, List.mem_cons_of_mem _ this.2⟩

theorem run_orig {Q : Nat → Nat → Nat → Nat → Prop} (evs : List TEv) (ts : TS) (h : Orig Q ts)
    (hQ : ∀ s mid T mx, TEv.send s mid T mx ∈ evs → Q s mid T mx) : Orig Q (run ts evs) :=
  foldl_inv_mem (Orig Q) evs (fun ev he ts h => step_orig ts ev h (fun s mid T mx e => hQ s mid T mx (e ▸ he))) ts h

theorem orig_init (Q : Nat → Nat → Nat → Nat → Prop) (now0 : Nat) : Orig Q (init now0) := by
  constructor <;> simp [init]

theorem runOk_append (ts : TS) (a b : List TEv) : RunOk ts (a ++ b) ↔ RunOk ts a ∧ RunOk (run ts a) b := by
  induction a generalizing ts with
  | nil => simp [RunOk, run]
  | cons e a ih =>
    simp only [List.cons_append, RunOk, run, List.foldl_cons]
    rw [ih]
    simp only [run, and_assoc]

end Coap.Timer

namespace Coap.Sim
open Coap Coap.SQ Coap.Msg Coap.Timer

/-- an I/O step, a submission or an arrival is *punctual* if the clock has not been moved past a pending deadline
(what fires, fires at its deadline) -/
def EvPunct (l : L) : Ev → Prop
  | .setNow _ => True
  | _ => ∀ e ∈ abs l.q, l.now ≤ e.deadline

def Punctual (l : L) : List Ev → Prop
  | [] => True
  | ev :: evs => EvPunct l ev ∧ Punctual (Msg.step l ev) evs

instance (l : L) : Decidable (NothingDue l) :=
  match h : Spec.SQ.earliest (abs l.q) with
  | none => isTrue (by intro d hd; rw [h] at hd; cases hd)
  | some d =>
    if hlt : l.now < d then isTrue (by intro d' hd; rw [h] at hd; cases hd; exact hlt)
    else isFalse (fun hn => hlt (hn d h))

instance (l : L) (ev : Ev) : Decidable (EvPunct l ev) := by
  cases ev <;> simp only [EvPunct] <;> infer_instance

instance decPunctual : (evs : List Ev) → (l : L) → Decidable (Punctual l evs)
  | [], _ => isTrue trivial
  | ev :: evs, l => by
    unfold Punctual
    exact @instDecidableAnd _ _ _ (decPunctual evs _)

/-! ## the counters of one (session, mid), on M and on S -/

/-- number of `coap_send` calls for (s, mid) -/
def subC (s mid : Nat) : List Ev → Nat
  | [] => 0
  | ev :: r => (match ev with
      | .submit s' _ m' _ => if s' = s ∧ m' = mid then 1 else 0
      | _ => 0) + subC s mid r

/-- 1 if the output is an outcome NACK (too many retries / RST, carrying the sent PDU) of (s, mid) -/
def nackW (s mid : Nat) (o : Out) : Nat :=
  match obsM o with
  | some (.nackRetries _ s' m') => if s' = s ∧ m' = mid then 1 else 0
  | some (.nackRst _ s' m') => if s' = s ∧ m' = mid then 1 else 0
  | _ => 0

def nackC (s mid : Nat) : List Out → Nat
  | [] => 0
  | o :: r => nackW s mid o + nackC s mid r

def pendC (s mid : Nat) : List Node → Nat
  | [] => 0
  | n :: r => (if n.sess = s ∧ n.mid = mid then 1 else 0) + pendC s mid r

/-- 1 if the event is an ACK for (s, mid) that finds the message in the send queue (the silent completion) -/
def ackW (s mid : Nat) (l : L) : Ev → Nat
  | .rxAck s' m' => if (s' = s ∧ m' = mid) ∧ (removeNode l.q.nodes s' m').1 ≠ none then 1 else 0
  | _ => 0

def ackC (s mid : Nat) : L → List Ev → Nat
  | _, [] => 0
  | l, ev :: evs => ackW s mid l ev + ackC s mid (Msg.step l ev) evs

def ackS (s mid : Nat) : List TOut → Nat
  | [] => 0
  | o :: r => (match o with
      | .acked _ s' m' => if s' = s ∧ m' = mid then 1 else 0
      | _ => 0) + ackS s mid r

def nackS (s mid : Nat) : List TOut → Nat
  | [] => 0
  | o :: r => (match o with
      | .nackRetries _ s' m' => if s' = s ∧ m' = mid then 1 else 0
      | .nackRst _ s' m' => if s' = s ∧ m' = mid then 1 else 0
      | _ => 0) + nackS s mid r

def obsN (s mid : Nat) : List Obs → Nat
  | [] => 0
  | o :: r => (match o with
      | .nackRetries _ s' m' => if s' = s ∧ m' = mid then 1 else 0
      | .nackRst _ s' m' => if s' = s ∧ m' = mid then 1 else 0
      | _ => 0) + obsN s mid r

theorem oc_split (s mid : Nat) (outs : List TOut) : oc s mid outs = nackS s mid outs + ackS s mid outs := by
  induction outs with
  | nil => rfl
  | cons o r ih => cases o <;> simp only [oc, outW, nackS, ackS, ih] <;> omega

theorem nackS_obs (s mid : Nat) (outs : List TOut) : nackS s mid outs = obsN s mid (outs.filterMap obsS) := by
  induction outs with
  | nil => rfl
  | cons o r ih => cases o <;> simp [nackS, obsS, obsN, List.filterMap_cons, ih]

theorem nackC_obs (s mid : Nat) (out : List Out) : nackC s mid out = obsN s mid (out.filterMap obsM) := by
  induction out with
  | nil => rfl
  | cons o r ih =>
    simp only [nackC, nackW, List.filterMap_cons, ih]
    cases ho : obsM o with
    | none => simp
    | some b => cases b <;> simp [obsN]

theorem pc_er (s mid : Nat) (l : List (Nat × PMsg)) : pc s mid (l.map er) = pc s mid l := by
  induction l with
  | nil => rfl
  | cons x r ih => simp only [List.map_cons, pc, ih]; rfl

theorem pc_absP (s mid : Nat) (mx : Nat → Nat) (b : Nat) (ns : List Node) :
    pc s mid (absP mx b ns) = pendC s mid ns := by
  induction ns generalizing b with
  | nil => rfl
  | cons n r ih => simp only [absP, pc, pendC, ih]; rfl

theorem ackS_fire (s mid : Nat) (f : Nat) (ts : TS) : ackS s mid (fire f ts).outs = ackS s mid ts.outs :=
  fire_rule (I := fun t => ackS s mid t.outs = ackS s mid ts.outs) f ts rfl
    (fun _ _ _ _ _ _ _ h => by simpa [ackS] using h) (fun _ _ _ _ _ _ _ h => by simpa [ackS] using h)

theorem ackS_tick (s mid : Nat) (ts : TS) (t : Nat) :
    ackS s mid (Timer.step ts (.tick t)).outs = ackS s mid ts.outs := by
  simp only [Timer.step]
  split
  · rw [ackS_fire]
  · rfl

theorem ackS_tickN (s mid : Nat) (ts : TS) (t k : Nat) :
    ackS s mid (Timer.step ts (.tickN t k)).outs = ackS s mid ts.outs := by
  simp only [Timer.step]
  split
  · rw [ackS_fire]
  · rfl

theorem ackS_send (s mid : Nat) (ts : TS) (s' m' T mx : Nat) :
    ackS s mid (Timer.step ts (.send s' m' T mx)).outs = ackS s mid ts.outs := by
  simp [Timer.step, ackS]

theorem ackS_rst (s mid : Nat) (ts : TS) (s' m' : Nat) :
    ackS s mid (Timer.step ts (.rst s' m')).outs = ackS s mid ts.outs := by
  simp only [Timer.step]
  rcases premove ts.pend s' m' with ⟨_ | m, r⟩ <;> simp [ackS]

theorem ackS_ack (s mid : Nat) (ts : TS) (s' m' : Nat) :
    ackS s mid (Timer.step ts (.ack s' m')).outs =
      ackS s mid ts.outs + (if (s' = s ∧ m' = mid) ∧ (premove ts.pend s' m').1 ≠ none then 1 else 0) := by
  simp only [Timer.step]
  rcases premove ts.pend s' m' with ⟨_ | m, r⟩
  · simp
  · by_cases h : s' = s ∧ m' = mid
    · simp [ackS, h]; omega
    · simp [ackS, h]

/-- M: number of transmissions (first or repeated) of the Confirmable (s, mid) -/
def txC (s mid : Nat) : List Out → Nat
  | [] => 0
  | o :: r => (match o with
      | .tx _ s' m' _ true => if s' = s ∧ m' = mid then 1 else 0
      | _ => 0) + txC s mid r

end Coap.Sim
