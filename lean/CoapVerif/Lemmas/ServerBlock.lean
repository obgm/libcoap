import CoapVerif.Model.ServerBlock
/-
C10, block mode (Model/ServerBlock.lean): every request leaves the block mode of its session as it found it, so over any
datagram sequence every session keeps the configured mode (`ModeInv`); and in single-body mode a Block1 fragment with
the More bit never reaches the handler.  The lemmas and the two predicates they need (`ModeInv`, `SingleFor`) stand in the
model's namespace `Coap.Server.MB`.
-/
namespace Coap.Server.MB
open Coap Coap.Server Coap.Server.M Coap.Block

theorem blockStage_mode (s : BSess) (cfg : Cfg) (tbl : Table) (rq : Request) (c : Call) :
    (blockStage s cfg tbl rq c).2.mode = s.mode := by
  unfold blockStage
  dsimp only
  cases resOf tbl c.who with
  | none => rfl
  | some x =>
    dsimp only
    by_cases hobs : x.2.2 = true ∧ (rq.msg.code = 1 ∨ rq.msg.code = 5) ∧ hasOpt c.opts 6 = true
    · rw [if_pos hobs]
    rw [if_neg hobs]
    generalize putBlock _ s.srcv x.1 c.opts rq.msg.payload = p
    obtain ⟨l, q⟩ := p
    cases q with
    | oos => rfl
    | skip code ro diag => rfl
    | call d o t os ro a =>
      dsimp only
      by_cases hc : ¬ inIvs Generated.Server.codeOk rq.verdict.code = true
      · rw [if_pos hc]
      · rw [if_neg hc]

theorem decisionB_mode (s : BSess) (cfg : Cfg) (tbl : Table) (rq : Request) :
    (serverDecisionB s cfg tbl rq).2.mode = s.mode := by
  unfold serverDecisionB
  dsimp only
  split
  · rfl
  · split
    · rfl
    · split
      · exact blockStage_mode _ _ _ _ _
      · split <;> rfl

theorem lookup_filter_ne {β : Type} (p q : Nat) (l : List (Nat × β)) (h : q ≠ p) :
    (l.filter fun e => e.1 != p).lookup q = l.lookup q := by
  induction l with
  | nil => rfl
  | cons a r ih =>
    obtain ⟨k, v⟩ := a
    by_cases hk : k = p
    · subst hk
      have : (q == k) = false := beq_false_of_ne h
      simp [List.lookup_cons, this, ih]
    · simp [List.lookup_cons, hk, ih]

theorem get_set (h : BHist) (p q : Nat) (s : BSess) : (h.set p s).get q = if q = p then s else h.get q := by
  unfold BHist.set BHist.get
  dsimp only
  by_cases hq : q = p
  · subst hq
    simp [List.lookup]
  · rw [if_neg hq]
    have : (q == p) = false := by simp [hq]
    simp only [List.lookup, this]
    rw [lookup_filter_ne p q h.sess hq]

theorem set_cfgMode (h : BHist) (p : Nat) (s : BSess) : (h.set p s).cfgMode = h.cfgMode := rfl

def ModeInv (h : BHist) : Prop := ∀ p, (h.get p).mode = h.cfgMode

theorem fresh_inv (mode : Nat) : ModeInv (BHist.fresh mode) := by
  intro p; rfl

theorem stepB_inv (cfg : Cfg) (tbl : Table) (h : BHist) (ev : BEv) (hi : ModeInv h) :
    ModeInv (stepB cfg tbl h ev).2 ∧ (stepB cfg tbl h ev).2.cfgMode = h.cfgMode := by
  unfold stepB
  dsimp only
  refine ⟨?_, rfl⟩
  intro p
  rw [get_set, set_cfgMode]
  by_cases hp : p = ev.peer
  · rw [if_pos hp, decisionB_mode]
    exact hi ev.peer
  · rw [if_neg hp]
    exact hi p

theorem finalB_inv (cfg : Cfg) (tbl : Table) : ∀ (evs : List BEv) (h : BHist), ModeInv h →
    ModeInv (finalB cfg tbl h evs) ∧ (finalB cfg tbl h evs).cfgMode = h.cfgMode
  | [], _, hi => ⟨hi, rfl⟩
  | ev :: r, h, hi =>
    let ⟨a, b⟩ := stepB_inv cfg tbl h ev hi
    let ⟨c, d⟩ := finalB_inv cfg tbl r _ a
    ⟨c, d.trans b⟩

theorem runB_modes (cfg : Cfg) (tbl : Table) : ∀ (evs : List BEv) (h : BHist), ModeInv h →
    ∀ x, x ∈ runB cfg tbl h evs → x.2 = h.cfgMode := by
  intro evs
  induction evs with
  | nil => intro h hi x hx; cases hx
  | cons ev r ih =>
    intro h hi x hx
    obtain ⟨a, b⟩ := stepB_inv cfg tbl h ev hi
    simp only [runB, List.mem_cons] at hx
    rcases hx with hx | hx
    · rw [hx]
      dsimp only
      rw [a ev.peer, b]
    · rw [ih _ a x hx, b]

theorem putRun_more_no_call {os : Opts} {lgs : List (Nat × (Nat × Srcv))} {ri fmt : Nat} {st : Option Srcv} {num szx : Nat}
    {payload : Bytes} {size1 : Option Nat} :
    ∀ d o t os' ro a, (putRun os lgs ri fmt st num true szx payload size1).2 ≠ Put.call d o t os' ro a := by
  intro d o t os' ro a
  unfold putRun
  dsimp only
  split <;> simp

theorem putBlock_more_no_call (mode : Nat) (lgs : List (Nat × (Nat × Srcv))) (ri : Option Nat) (os : Opts) (payload : Bytes)
    (hs : singleBody mode = true) (num szx : Nat) (hb : (firstOpt os 27).bind block = some (num, true, szx)) :
    ∀ d o t os' ro a, (putBlock mode lgs ri os payload).2 ≠ Put.call d o t os' ro a := by
  intro d o t os' ro a
  unfold putBlock
  extract_lets
  by_cases h292 : hasOpt os 292 = true
  · rw [if_pos h292]; exact Put.noConfusion
  rw [if_neg h292, hb]
  dsimp -zeta only
  rw [if_neg (fun h => Bool.noConfusion h.2)]
  by_cases hlen : ((firstOpt os 27).getD []).length > 3
  · rw [if_pos hlen]; exact Put.noConfusion
  rw [if_neg hlen]
  extract_lets
  rw [if_neg (not_not_intro hs)]
  split
  · exact Put.noConfusion
  cases ri with
  | none => exact Put.noConfusion
  | some ri =>
    dsimp -zeta only
    extract_lets st
    cases st with
    | none => exact putRun_more_no_call d o t os' ro a
    | some st =>
      dsimp only
      split
      · exact Put.noConfusion
      · exact putRun_more_no_call d o t os' ro a

theorem singleBody_setSingle (m : Nat) : singleBody (setSingle m) = true := by
  unfold setSingle
  by_cases h : singleBody m = true
  · rw [if_pos h]; exact h
  · rw [if_neg h]
    unfold singleBody at h ⊢
    have : m / 2 % 2 = 0 := by
      rcases Nat.mod_two_eq_zero_or_one (m / 2) with h0 | h1
      · exact h0
      · exact absurd (by simp [h1]) h
    have h2 : (m + 2) / 2 % 2 = 1 := by omega
    simp
    omega

/-- the request is handled in single-body mode: configured, or FETCH, or a force-single-body resource -/
def SingleFor (mode : Nat) (tbl : Table) (rq : Request) (c : Call) : Prop :=
  singleBody mode = true ∨ rq.msg.code = 5 ∨
    ∃ ri fl obs, resOf tbl c.who = some (ri, fl, obs) ∧ flag fl F_FORCE_SINGLE_BODY = true

theorem blockStage_more_no_call (s : BSess) (cfg : Cfg) (tbl : Table) (rq : Request) (c : Call) (num szx : Nat)
    (hb : (firstOpt c.opts 27).bind block = some (num, true, szx)) (hsingle : SingleFor s.mode tbl rq c) :
    (blockStage s cfg tbl rq c).1.o.call = none := by
  unfold blockStage
  dsimp only
  cases hr : resOf tbl c.who with
  | none => rfl
  | some x =>
    obtain ⟨ri, fl, obs⟩ := x
    dsimp only
    by_cases hobs : obs = true ∧ (rq.msg.code = 1 ∨ rq.msg.code = 5) ∧ hasOpt c.opts 6 = true
    · rw [if_pos hobs]; rfl
    rw [if_neg hobs]
    have hf : singleBody (if rq.msg.code = 5 ∨ flag fl F_FORCE_SINGLE_BODY = true then setSingle s.mode else s.mode) = true := by
      by_cases hc : rq.msg.code = 5 ∨ flag fl F_FORCE_SINGLE_BODY = true
      · rw [if_pos hc]; exact singleBody_setSingle _
      · rw [if_neg hc]
        rcases hsingle with h | h | ⟨ri', fl', obs', h1, h2⟩
        · exact h
        · exact absurd (Or.inl h) hc
        · rw [hr] at h1
          cases h1
          exact absurd (Or.inr h2) hc
    have hp := putBlock_more_no_call _ s.srcv ri c.opts rq.msg.payload hf num szx hb
    generalize putBlock _ s.srcv ri c.opts rq.msg.payload = p at hp
    obtain ⟨l, q⟩ := p
    cases q with
    | oos => rfl
    | skip code ro diag => rfl
    | call d o t os' ro a => exact absurd rfl (hp d o t os' ro a)

end Coap.Server.MB
