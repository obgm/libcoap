import CoapVerif.Model.ObserveWait
import CoapVerif.Util
/- C06 section (12), the wait `coap_io_prepare_io_lkd` returns on C11's server model (Model/ObserveWait.lean):
`NoExpired` (no idle session past its timeout), established by `reclaim` and hence by `io`; the session loop returns a positive
value not above what it was given (`idleFold_bounds`). -/
namespace Coap.ObsWait
open Coap.Observe

/-- no unreferenced server session is past its idle timeout (what the session loop of `coap_io_prepare_io_lkd` — `reclaim` —
leaves behind) -/
def NoExpired (st : State) : Prop :=
  ∀ c s, st.sess c = some s → s.ref = 0 → st.now < s.lastRxTx + st.stTicks

theorem reclaim_noExpired (st : State) : NoExpired (reclaim st) := by
  intro c s hs hr
  simp only [reclaim] at hs ⊢
  cases h : st.sess c with
  | none => simp [h] at hs
  | some s0 =>
    simp only [h] at hs
    split at hs
    · cases hs
    · rename_i hne
      cases hs
      omega

theorem idleStep_bounds (st : State) (hid : NoExpired st) (t c : Nat) (ht : 0 < t) :
    0 < idleStep st t c ∧ idleStep st t c ≤ t := by
  unfold idleStep
  cases h : st.sess c with
  | none => exact ⟨ht, Nat.le_refl _⟩
  | some s =>
    simp only
    by_cases hr : s.ref = 0
    · have := hid c s h hr
      simp only [hr, if_true]
      by_cases hc : t = 0 ∨ s.lastRxTx + st.stTicks - st.now < t
      · simp only [hc, if_true]
        rcases hc with hc | hc
        · omega
        · omega
      · simp only [hc, if_false]
        exact ⟨ht, Nat.le_refl _⟩
    · simp only [hr, if_false]
      exact ⟨ht, Nat.le_refl _⟩

theorem idleFold_bounds (st : State) (hid : NoExpired st) (l : List Nat) (t : Nat) (ht : 0 < t) :
    0 < l.foldl (idleStep st) t ∧ l.foldl (idleStep st) t ≤ t :=
  foldl_inv (fun t' => 0 < t' ∧ t' ≤ t)
    (fun t' c h => ⟨(idleStep_bounds st hid t' c h.1).1, Nat.le_trans (idleStep_bounds st hid t' c h.1).2 h.2⟩)
    l t ⟨ht, Nat.le_refl _⟩

theorem io_noExpired (st : State) : NoExpired (io st).1 := by
  rcases h1 : checkNotify st with ⟨st1, o1⟩
  rcases h2 : retransmitDue (st1.sendq.length + 1) st1 with ⟨st2, o2⟩
  have : (io st).1 = reclaim st2 := by simp only [io, h1, h2]
  rw [this]
  exact reclaim_noExpired _

end Coap.ObsWait
