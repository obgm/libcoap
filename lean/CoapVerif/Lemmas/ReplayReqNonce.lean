import CoapVerif.Lemmas.ReplayEndp
/- C15 — whole histories of an endpoint (`nrun`).  Invariant `RInv` of recipient context and association table: every
association that can protect a response holds the nonce of a request whose Partial IV is RECORDED in the replay window (so
no later request can bring it again) and that no response has used yet; different tokens hold different nonces.  It needs
fix 60e0cb3: a request caught by the Appendix B.1.2 trap leaves no association.  It is kept along every history (a restart
begins a new life); under it the own Partial IVs of a history are those of a history of the sending process (`nrun_srun`),
and along a history without a restart the nonces of requests that responses are protected with (`Nonce.ofReq`,
`association->nonce`) are pairwise distinct (`nrun_ofReqs`): the two halves of `nonce_never_reused`.
-/
namespace Coap.Replay
variable {cfg : Cfg} {e : Endp} {v v' : View} {as : Nat → Option Assoc} {A : List Nat} {F F' : Nat} {N : List Nat}

/-- the endpoint after a history -/
def nfinal (cfg : Cfg) : Endp → List NOp → Endp
  | e, [] => e
  | e, op :: ops => nfinal cfg (nstep cfg e op).1 ops

theorem nfinal_append (cfg : Cfg) (a b : List NOp) : ∀ e, nfinal cfg e (a ++ b) = nfinal cfg (nfinal cfg e a) b := by
  induction a with
  | nil => intro e; rfl
  | cons x a ih => intro e; simp only [List.cons_append, nfinal]; exact ih _

/-- `A`, `F` as in `Good`; `N`: the Partial IVs of the requests whose nonce a response has used so far in this life. -/
structure RInv (v : View) (as : Nat → Option Assoc) (A : List Nat) (F : Nat) (N : List Nat) : Prop where
  good : Good v A F
  inA : ∀ t a, as t = some a → a.client = false → ∃ p, a.nonce = .ofReq p ∧ p ∈ A ∧ p ∉ N
  inj : ∀ t1 t2 a1 a2, as t1 = some a1 → as t2 = some a2 → a1.client = false → a2.client = false →
    a1.nonce = a2.nonce → t1 = t2
  used : ∀ p ∈ N, p ∈ A

theorem rinv_start (F : Nat) : RInv Recip.fresh.view (fun _ => none) [] F [] :=
  ⟨good_fresh F, fun _ _ h => by simp at h, fun _ _ _ _ h => by simp at h, fun _ h => by simp at h⟩

theorem RInv.peerNonces (h : RInv v as A F N) : PeerNonces as :=
  fun t a ha hc => (h.inA t a ha hc).imp fun _ hp => hp.1

/-- the association of a token is deleted, or taken by a request of the endpoint's own -/
theorem rinv_unset (h : RInv v as A F N) (t : Nat) (w : Option Assoc) (hw : ∀ a, w = some a → a.client = true) :
    RInv v (setAssoc as t w) A F N := by
  have no : ∀ {a : Assoc}, w = some a → a.client = false → False := fun e hc => by
    rw [hw _ e] at hc; cases hc
  refine ⟨h.good, ?_, ?_, h.used⟩
  · intro t' a ha hc
    rcases setAssoc_some ha with ⟨_, e⟩ | ⟨_, ha⟩
    · exact (no e hc).elim
    · exact h.inA t' a ha hc
  · intro t1 t2 a1 a2 h1 h2 c1 c2 hn
    rcases setAssoc_some h1 with ⟨_, e⟩ | ⟨_, h1⟩
    · exact (no e c1).elim
    rcases setAssoc_some h2 with ⟨_, e⟩ | ⟨_, h2⟩
    · exact (no e c2).elim
    exact h.inj t1 t2 a1 a2 h1 h2 c1 c2 hn

theorem rinv_erase (h : RInv v as A F N) (t : Nat) : RInv v (setAssoc as t none) A F N :=
  rinv_unset h t none nofun

/-- a verified request with a Partial IV that was never recorded takes the association of its token -/
theorem rinv_set_srv {p : Nat}
    (h : RInv v as A F N) (g' : Good v' (p :: A) F') (hp : p ∉ A) (t : Nat) (w : Assoc) (hn : w.nonce = .ofReq p) :
    RInv v' (setAssoc as t (some w)) (p :: A) F' N := by
  -- no old association holds the nonce of `p`: their Partial IVs are recorded, `p` was not
  have other : ∀ {t' a}, as t' = some a → a.client = false → a.nonce ≠ w.nonce := fun ha hc e => by
    obtain ⟨q, hq1, hq2, _⟩ := h.inA _ _ ha hc
    rw [hn, hq1] at e
    injection e with hpq
    exact hp (hpq ▸ hq2)
  refine ⟨g', ?_, ?_, fun q hq => List.mem_cons_of_mem _ (h.used q hq)⟩
  · intro t' a ha hc
    rcases setAssoc_some ha with ⟨_, e⟩ | ⟨_, ha⟩
    · cases e; exact ⟨p, hn, List.mem_cons_self, fun hN => hp (h.used p hN)⟩
    · obtain ⟨q, h1, h2, h3⟩ := h.inA t' a ha hc
      exact ⟨q, h1, List.mem_cons_of_mem _ h2, h3⟩
  · intro t1 t2 a1 a2 h1 h2 c1 c2 hnn
    rcases setAssoc_some h1 with ⟨e1, e⟩ | ⟨_, h1⟩ <;> rcases setAssoc_some h2 with ⟨e2, e'⟩ | ⟨_, h2⟩
    · rw [e1, e2]
    · cases e; exact (other h2 c2 hnn.symm).elim
    · cases e'; exact (other h1 c1 hnn).elim
    · exact h.inj t1 t2 a1 a2 h1 h2 c1 c2 hnn

theorem respond_rinv (h : RInv e.rcp.view e.assocs A F N)
    (t : Nat) (o s : Bool) :
    RInv (respond e t o s).1.rcp.view (respond e t o s).1.assocs A F (ofReqsOf (nemit (respond e t o s).2) ++ N) ∧
      ∀ p ∈ ofReqsOf (nemit (respond e t o s).2), p ∉ N := by
  have none : ∀ p ∈ ([] : List Nat), p ∉ N := fun _ h => (List.not_mem_nil h).elim
  rcases respond_cases e t o s with h' | ⟨_, h'⟩ | ⟨a, _, _, _, _, h'⟩ | ⟨a, ha, hc, _, _, h'⟩ <;> rw [h']
  · exact ⟨h, none⟩
  · exact ⟨h, none⟩
  · exact ⟨ite_ind (P := (RInv _ · A F N)) (fun _ => h) (fun _ => rinv_erase h t), none⟩
  · -- the nonce of the request goes out: its Partial IV is recorded and unused so far, and the association is erased
    obtain ⟨q, hq, hqA, hqN⟩ := h.inA t a ha hc
    rw [hq]
    have he := rinv_erase h t
    refine ⟨⟨he.good, ?_, he.inj, ?_⟩, fun p hp => List.mem_singleton.mp hp ▸ hqN⟩
    · intro t' a' ha' hc'
      obtain ⟨p', h1, h2, h3⟩ := he.inA t' a' ha' hc'
      refine ⟨p', h1, h2, ?_⟩
      intro hm
      rcases List.mem_cons.mp hm with hpq | hm
      · -- the other association would hold the same nonce: same token, but that one is erased
        rcases setAssoc_some ha' with ⟨_, e⟩ | ⟨ht', ha''⟩
        · cases e
        · exact ht' (h.inj t' t a' a ha'' ha hc' hc (by rw [h1, hq, hpq]))
      · exact h3 hm
    · intro p' hp'
      rcases List.mem_cons.mp hp' with rfl | hp'
      · exact hqA
      · exact h.used p' hp'

theorem nstep_rinv (h : RInv e.rcp.view e.assocs A F N)
    (op : NOp) (hc : ∀ f, op ≠ .crash f) :
    ∃ A' F', RInv (nstep cfg e op).1.rcp.view (nstep cfg e op).1.assocs A' F' (ofReqsOf (nemit (nstep cfg e op).2) ++ N) ∧
      ∀ p ∈ ofReqsOf (nemit (nstep cfg e op).2), p ∉ N := by
  cases op with
  | crash f => exact absurd rfl (hc f)
  | sendRsp t o s => exact ⟨A, F, respond_rinv h t o s⟩
  | sendReq t o d =>
    refine ⟨A, F, ?_⟩
    simp only [nstep]
    cases hp : (ownPiv e.sys).2 with
    | none => exact ⟨h, nofun⟩
    | some p =>
      refine ⟨rinv_unset h t _ fun a ha => ?_, nofun⟩
      cases Option.some.inj ha
      cases e.assocs t <;> rfl
  | reqIn t ev obs =>
    -- a refused request leaves the window as it was
    have keep : (recv cfg e.rcp ev).2 ≠ .acc → (recv cfg e.rcp ev).1.view = e.rcp.view := fun hn =>
      (recv_good (cfg := cfg) ev h.good).elim (fun ha => absurd ha.1 hn) fun h => h.2.2
    rcases reqIn_shape cfg e t ev obs with ⟨ha, w, hw, he⟩ | ⟨hch, he⟩ | ⟨hn, as, has, he⟩ <;> rw [he] <;> dsimp only
    · rcases recv_good (cfg := cfg) ev h.good with ⟨_, _, hpA, g', _⟩ | ⟨hna, _⟩
      · exact ⟨_, _, rinv_set_srv h g' hpA t w hw, nofun⟩
      · exact absurd ha hna
    · have : ofReqsOf (nemit (.chal (ownPiv e.sys).2)) = [] := by cases (ownPiv e.sys).2 <;> rfl
      rw [this, keep (by rw [hch]; nofun)]
      exact ⟨A, F, rinv_erase h t, nofun⟩
    · rw [keep hn]
      rcases has with rfl | rfl
      · exact ⟨A, F, h, nofun⟩
      · exact ⟨A, F, rinv_erase h t, nofun⟩

/-- a restart begins a new life, with a fresh window and an empty table -/
theorem nstep_rinv_any (h : RInv e.rcp.view e.assocs A F N) (op : NOp) :
    ∃ A' F' N', RInv (nstep cfg e op).1.rcp.view (nstep cfg e op).1.assocs A' F' N' := by
  by_cases hc : ∃ f, op = .crash f
  · obtain ⟨f, rfl⟩ := hc
    exact ⟨[], 0, [], rinv_start 0⟩
  · obtain ⟨A', F', h', _⟩ := nstep_rinv (cfg := cfg) h op fun f hf => hc ⟨f, hf⟩
    exact ⟨A', F', _, h'⟩

theorem nrun_rinv (cfg : Cfg) (ops : List NOp) : ∀ (e : Endp) (A : List Nat) (F : Nat) (N : List Nat),
    RInv e.rcp.view e.assocs A F N → ∃ A' F' N', RInv (nfinal cfg e ops).rcp.view (nfinal cfg e ops).assocs A' F' N' := by
  induction ops with
  | nil => intro _ A F N h; exact ⟨A, F, N, h⟩
  | cons op ops ih =>
    intro e A F N h
    obtain ⟨A', F', N', h'⟩ := nstep_rinv_any (cfg := cfg) h op
    exact ih _ _ _ _ h'

theorem nrun_srun (cfg : Cfg) (ops : List NOp) : ∀ (e : Endp) (A : List Nat) (F : Nat) (N : List Nat),
    RInv e.rcp.view e.assocs A F N →
    ∃ sops, sops.length ≤ ops.length ∧ ownsOf (nonces (nrun cfg e ops)) = pivs (srun e.sys sops) := by
  induction ops with
  | nil => intro _ _ _ _ _; exact ⟨[], Nat.le_refl _, rfl⟩
  | cons op ops ih =>
    intro e A F N h
    obtain ⟨A', F', N', h'⟩ := nstep_rinv_any (cfg := cfg) h op
    obtain ⟨sops, hl, hs⟩ := ih _ _ _ _ h'
    rw [nrun, nonces, ownsOf_append, hs]
    rcases nstep_sys (cfg := cfg) h.peerNonces op with ⟨e1, e2⟩ | ⟨sop, e1, e2⟩ <;> rw [e1, e2]
    · exact ⟨sops, Nat.le_succ_of_le hl, rfl⟩
    · exact ⟨sop :: sops, Nat.succ_le_succ hl, (pivs_cons _ _).symm⟩

theorem nrun_ofReqs (cfg : Cfg) (ops : List NOp) : ∀ (e : Endp) (A : List Nat) (F : Nat) (N : List Nat),
    RInv e.rcp.view e.assocs A F N → (∀ op ∈ ops, ∀ f, op ≠ .crash f) →
    (∀ p ∈ ofReqsOf (nonces (nrun cfg e ops)), p ∉ N) ∧ (ofReqsOf (nonces (nrun cfg e ops))).Nodup := by
  induction ops with
  | nil => intro _ _ _ _ _ _; exact ⟨fun _ h => (List.not_mem_nil h).elim, List.Pairwise.nil⟩
  | cons op ops ih =>
    intro e A F N h hc
    obtain ⟨A', F', h', hnew⟩ := nstep_rinv (cfg := cfg) h op (hc op List.mem_cons_self)
    obtain ⟨hfut, hnd⟩ := ih _ _ _ _ h' (fun o ho => hc o (List.mem_cons_of_mem _ ho))
    rw [nrun, nonces, ofReqsOf_append]
    exact nodup_append_fresh (pairwise_of_length_le_one (nemit_length _).2) hnew hfut hnd

theorem mem_ownsOf {l : List Nonce} {p : Nat} (h : Nonce.own p ∈ l) : p ∈ ownsOf l := by
  induction l with
  | nil => cases h
  | cons x l ih =>
    rcases List.mem_cons.mp h with rfl | h'
    · simp [ownsOf]
    · cases x <;> simp [ownsOf, ih h']

theorem mem_ofReqsOf {l : List Nonce} {p : Nat} (h : Nonce.ofReq p ∈ l) : p ∈ ofReqsOf l := by
  induction l with
  | nil => cases h
  | cons x l ih =>
    rcases List.mem_cons.mp h with rfl | h'
    · simp [ofReqsOf]
    · cases x <;> simp [ofReqsOf, ih h']

theorem nodup_of_halves (l : List Nonce) (h1 : (ownsOf l).Nodup) (h2 : (ofReqsOf l).Nodup) : l.Nodup := by
  induction l with
  | nil => exact List.Pairwise.nil
  | cons x l ih =>
    cases x with
    | own p =>
      simp only [ownsOf, ofReqsOf, List.nodup_cons] at h1 h2
      exact List.nodup_cons.mpr ⟨fun hm => h1.1 (mem_ownsOf hm), ih h1.2 h2⟩
    | ofReq p =>
      simp only [ownsOf, ofReqsOf, List.nodup_cons] at h1 h2
      exact List.nodup_cons.mpr ⟨fun hm => h2.1 (mem_ofReqsOf hm), ih h1 h2.2⟩

end Coap.Replay
