import CoapVerif.Model.AllocOracle
import CoapVerif.Lemmas.Sessions
/-
C18 — the allocator level (Model/AllocOracle.lean), under the helper scripts (Props/C18), the Block-layer containers
(Lemmas/AllocBlock) and the receive path (Lemmas/AllocRecv): an allocator call is used through its outcome (`Granted` / `Refused`),
what the three calls keep every helper keeps (`Closed`), and each helper of the PDU layer is described once.
The file holds three namespaces, none named after it: its lemmas carry the full names under which the documents and the
namespace audit of C18 refer to them — `Coap.AllocBlock` (`Own`, `Granted`, `Refused`), `Coap.C18` (`Heap.Replays`, `AllTrue`, `Closed`,
`Regrown`, `Owns`, the PDU helpers; audited with Props/C18) and `Coap.AllocRecv` (`pduInit_own`, `resize_own`).
Two vocabularies for "what is live": the list-exact one (`Regrown`, `Owns`, `pduInit_ledger`: `live` as a list equation) serves the
theorems that say "the ledger is exactly as before" of ONE call; `Own` (a set with soundness of the heap) is the invariant of runs.
-/
namespace Coap.AllocBlock
open Coap Coap.AllocOracle

/-- the heap has seen no invalid free (`ok`), hands out fresh serials, and its live objects are exactly the pairwise distinct
objects `o` of the container plus the objects `L` of everybody else -/
structure Own (o L : List Nat) (h : Heap) : Prop where
  ok : h.ok = true
  nodup : h.live.Nodup
  fresh : ∀ i ∈ h.live, i < h.next
  onodup : o.Nodup
  mem : ∀ i, i ∈ h.live ↔ i ∈ o ∨ i ∈ L
  disj : ∀ i ∈ o, i ∉ L

theorem Own.perm {o o' L : List Nat} {h : Heap} (hO : Own o L h) (hp : o'.Perm o) : Own o' L h :=
  { ok := hO.ok, nodup := hO.nodup, fresh := hO.fresh, onodup := hp.nodup_iff.mpr hO.onodup,
    mem := fun i => by rw [hO.mem i, hp.mem_iff],
    disj := fun i hi => hO.disj i (hp.mem_iff.mp hi) }

theorem Own.init (h : Heap) (hok : h.ok = true) (hn : h.live.Nodup) (hf : ∀ i ∈ h.live, i < h.next) : Own [] h.live h :=
  { ok := hok, nodup := hn, fresh := hf, onodup := List.nodup_nil, mem := fun i => by simp, disj := fun i hi => by simp at hi }

theorem Own.init_empty (orc : Oracle) : Own [] [] ({ orc := orc } : Heap) :=
  { ok := rfl, nodup := List.nodup_nil, fresh := (fun i hi => nomatch hi), onodup := List.nodup_nil,
    mem := fun i => by simp, disj := (fun i hi => nomatch hi) }

theorem Own.live_nil {h : Heap} (hO : Own [] [] h) : h.live = [] :=
  List.eq_nil_iff_forall_not_mem.mpr fun i hi => ((hO.mem i).mp hi).elim List.not_mem_nil List.not_mem_nil

/-- a refused request (`coap_malloc_type` or `coap_realloc_type`): only the oracle has moved -/
structure Refused (h h1 : Heap) : Prop where
  live : h1.live = h.live
  next : h1.next = h.next
  ok : h1.ok = h.ok
  trace : h1.trace = h.trace
  reqs : h1.reqs = h.reqs + 1
  head : h.orc.head = false

/-- a granted `coap_malloc_type`: the next serial, live, on the ledger -/
structure Granted (h : Heap) (i : Nat) (h1 : Heap) : Prop where
  id : i = h.next
  live : h1.live = i :: h.live
  next : h1.next = h.next + 1
  ok : h1.ok = h.ok
  trace : h1.trace = h.trace ++ [.alloc i]
  reqs : h1.reqs = h.reqs + 1
  head : h.orc.head = true

theorem alloc_none {h h1 : Heap} (e : h.alloc = (none, h1)) : Refused h h1 := by
  unfold Heap.alloc at e
  split at e
  · cases e
  · cases e; exact ⟨rfl, rfl, rfl, rfl, rfl, Bool.eq_false_iff.mpr ‹_›⟩

theorem alloc_some {h h1 : Heap} {i : Nat} (e : h.alloc = (some i, h1)) : Granted h i h1 := by
  unfold Heap.alloc at e
  split at e
  · cases e; exact ⟨rfl, rfl, rfl, rfl, rfl, rfl, ‹_›⟩
  · cases e

theorem Own.refused {o L : List Nat} {h h1 : Heap} (hO : Own o L h) (r : Refused h h1) : Own o L h1 :=
  { ok := by rw [r.ok]; exact hO.ok, nodup := by rw [r.live]; exact hO.nodup,
    fresh := by rw [r.live, r.next]; exact hO.fresh, onodup := hO.onodup,
    mem := by rw [r.live]; exact hO.mem, disj := hO.disj }

theorem Own.alloc_none {o L : List Nat} {h h1 : Heap} (hO : Own o L h) (e : h.alloc = (none, h1)) : Own o L h1 :=
  hO.refused (AllocBlock.alloc_none e)

theorem Own.alloc_some {o L : List Nat} {h h1 : Heap} {i : Nat} (hO : Own o L h) (e : h.alloc = (some i, h1)) :
    Own (i :: o) L h1 := by
  have g := AllocBlock.alloc_some e
  have e0 := g.id
  have hni : i ∉ h.live := fun hi => by have := hO.fresh i hi; omega
  have hno : i ∉ o := fun hi => hni ((hO.mem i).mpr (Or.inl hi))
  have hnL : i ∉ L := fun hi => hni ((hO.mem i).mpr (Or.inr hi))
  refine { ok := by rw [g.ok]; exact hO.ok, nodup := by rw [g.live]; exact List.nodup_cons.mpr ⟨hni, hO.nodup⟩,
           fresh := ?_, onodup := List.nodup_cons.mpr ⟨hno, hO.onodup⟩, mem := ?_, disj := ?_ }
  · rw [g.live, g.next]
    intro j hj
    rcases List.mem_cons.mp hj with hj | hj
    · omega
    · have := hO.fresh j hj; omega
  · intro j
    rw [g.live]
    simp only [List.mem_cons, hO.mem j, or_assoc]
  · intro j hj
    rcases List.mem_cons.mp hj with hj | hj
    · rw [hj]; exact hnL
    · exact hO.disj j hj

theorem Own.free_head {o L : List Nat} {h : Heap} {i : Nat} (hO : Own (i :: o) L h) : Own o L (h.free i) := by
  have hil : i ∈ h.live := (hO.mem i).mpr (Or.inl (List.mem_cons_self))
  have hnd := List.nodup_cons.mp hO.onodup
  refine { ok := ?_, nodup := ?_, fresh := ?_, onodup := hnd.2, mem := ?_, disj := ?_ }
  · simp [Heap.free, hO.ok, hil]
  · simpa [Heap.free] using hO.nodup.erase i
  · intro j hj
    have : j ∈ h.live := List.mem_of_mem_erase (by simpa [Heap.free] using hj)
    simpa [Heap.free] using hO.fresh j this
  · intro j
    have : (h.free i).live = h.live.erase i := rfl
    rw [this, hO.nodup.mem_erase_iff, hO.mem j]
    simp only [List.mem_cons]
    constructor
    · rintro ⟨hne, (hj | hj) | hj⟩
      · exact absurd hj hne
      · exact Or.inl hj
      · exact Or.inr hj
    · rintro (hj | hj)
      · exact ⟨fun e => hnd.1 (e ▸ hj), Or.inl (Or.inr hj)⟩
      · exact ⟨fun e => hO.disj i List.mem_cons_self (e ▸ hj), Or.inr hj⟩
  · intro j hj
    exact hO.disj j (List.mem_cons_of_mem _ hj)

theorem realloc_some {h h1 : Heap} {i j : Nat} (e : h.realloc i = (some j, h1)) : (h.free i).alloc = (some j, h1) := by
  unfold Heap.realloc at e
  split at e
  · rename_i hh
    cases e
    simp [Heap.alloc, Heap.free, hh]
  · cases e

theorem realloc_none {h h1 : Heap} {i : Nat} (e : h.realloc i = (none, h1)) : Refused h h1 := by
  unfold Heap.realloc at e
  split at e
  · cases e
  · cases e; exact ⟨rfl, rfl, rfl, rfl, rfl, Bool.eq_false_iff.mpr ‹_›⟩

theorem Own.realloc_none {o L : List Nat} {h h1 : Heap} {i : Nat} (hO : Own o L h) (e : h.realloc i = (none, h1)) :
    Own o L h1 :=
  hO.refused (AllocBlock.realloc_none e)

theorem Own.realloc_some {o L : List Nat} {h h1 : Heap} {i j : Nat} (hO : Own (i :: o) L h)
    (e : h.realloc i = (some j, h1)) : Own (j :: o) L h1 :=
  (Own.free_head hO).alloc_some (AllocBlock.realloc_some e)

end Coap.AllocBlock

namespace Coap.C18
open Coap Coap.AllocOracle
open Coap.Sessions (runLedger ledgerOk AllocEvent)
open Coap.AllocBlock (alloc_none alloc_some realloc_none realloc_some)

/-- the heap invariant: replaying the trace gives `live` as long as no bad free happened, `none` afterwards -/
def _root_.Coap.AllocOracle.Heap.Replays (h : Heap) : Prop := runLedger h.trace [] = if h.ok then some h.live else none

theorem replays_append {h h' : Heap} (evs : List AllocEvent) (hr : h.Replays) (ht : h'.trace = h.trace ++ evs)
    (hs : (if h'.ok then some h'.live else none) = (if h.ok then some h.live else none).bind (runLedger evs)) :
    h'.Replays := by
  unfold Heap.Replays at *
  rw [ht, Sessions.runLedger_append, hr, hs]

theorem replays_init (orc : Oracle) : ({ orc := orc } : Heap).Replays := by
  simp [Heap.Replays, runLedger]

def AllTrue (o : Oracle) : Prop := ∀ b ∈ o, b = true

theorem head_allTrue (o : Oracle) (ho : AllTrue o) : o.head = true := by
  cases o with
  | nil => rfl
  | cons b r => exact ho b (by simp)
theorem tail_allTrue (o : Oracle) (ho : AllTrue o) : AllTrue o.tail := by
  cases o with
  | nil => exact ho
  | cons b r => intro x hx; exact ho x (List.mem_cons_of_mem b hx)

theorem alloc_granted (h : Heap) (ho : AllTrue h.orc) : ∃ h1, h.alloc = (some h.next, h1) ∧ AllTrue h1.orc := by
  unfold Heap.alloc
  rw [if_pos (head_allTrue _ ho)]
  exact ⟨_, rfl, tail_allTrue _ ho⟩

theorem realloc_granted (h : Heap) (id : Nat) (ho : AllTrue h.orc) :
    ∃ h1, h.realloc id = (some h.next, h1) ∧ AllTrue h1.orc := by
  unfold Heap.realloc
  rw [if_pos (head_allTrue _ ho)]
  exact ⟨_, rfl, tail_allTrue _ ho⟩

/-- the common ending of `coap_add_token`, `coap_add_option` and `coap_add_data`: `r` is the result of growing the buffer;
when that failed the caller's PDU `p` is returned with `fail`, otherwise `ok` with the grown PDU `q` the bytes were stored in -/
def stored {α : Type} (r : Nat × OPdu × Heap) (fail : α) (p : OPdu) (ok : α) (q : OPdu) : α × OPdu × Heap :=
  if r.1 = 0 then (fail, p, r.2.2) else (ok, q, r.2.2)

theorem stored_heap {α : Type} (r : Nat × OPdu × Heap) (fail : α) (p : OPdu) (ok : α) (q : OPdu) :
    (stored r fail p ok q).2.2 = r.2.2 := by
  unfold stored; split <;> rfl

theorem addToken_cases (p : OPdu) (d : Bytes) (h : Heap) :
    addToken p d h = (0, p, h) ∨
    ∃ bias, M.tokBias d.length = some bias ∧ p.buf.length = 0 ∧
      addToken p d h = stored (checkResize p (d.length + bias) h) 0 p 1
        { (checkResize p (d.length + bias) h).2.1 with
          tokLen := d.length, buf := if d.length ≠ 0 then M.tokHdr d.length bias ++ d else [], maxOpt := 0, data := none } := by
  unfold addToken
  simp only
  by_cases he : p.buf.length ≠ 0
  · rw [if_pos he]; exact Or.inl rfl
  · rw [if_neg he]
    cases hb : M.tokBias d.length with
    | none => exact Or.inl rfl
    | some bias => exact Or.inr ⟨bias, rfl, Decidable.not_not.mp he, rfl⟩

theorem addOption_cases (p : OPdu) (num : Nat) (v : Bytes) (h : Heap) :
    addOption p num v h = (.val 0, p, h) ∨ addOption p num v h = (.unmodelled, p, h) ∨
    addOption p num v h =
      stored (checkResize p (p.buf.length + M.optEncodeSize (num - p.maxOpt) v.length) h) (.val 0) p
        (.val (M.optEncodeSize (num - p.maxOpt) v.length))
        { (checkResize p (p.buf.length + M.optEncodeSize (num - p.maxOpt) v.length) h).2.1 with
          buf := (checkResize p (p.buf.length + M.optEncodeSize (num - p.maxOpt) v.length) h).2.1.buf ++
            M.optEncode (num - p.maxOpt) v, maxOpt := num } := by
  unfold addOption
  by_cases h1 : p.data.isSome = true
  · rw [if_pos h1]; exact Or.inl rfl
  · rw [if_neg h1]
    by_cases h2 : v.length > 65804
    · rw [if_pos h2]; exact Or.inl rfl
    · rw [if_neg h2]
      by_cases h3 : num = p.maxOpt ∧ ¬ M.repeatable num
      · rw [if_pos h3]; exact Or.inl rfl
      · rw [if_neg h3]
        by_cases h4 : num = 35 ∨ num = 39 ∨ num < p.maxOpt ∨ num ≥ 65536
        · rw [if_pos h4]; exact Or.inr (Or.inl rfl)
        · rw [if_neg h4]; exact Or.inr (Or.inr rfl)

theorem addData_cases (p : OPdu) (d : Bytes) (h : Heap) :
    addData p d h = (1, p, h) ∨ addData p d h = (0, p, h) ∨
    (p.data.isSome = false ∧ addData p d h = stored (resize p (p.buf.length + d.length + 1) h) 0 p 1
      { (resize p (p.buf.length + d.length + 1) h).2.1 with
        buf := (resize p (p.buf.length + d.length + 1) h).2.1.buf ++ 0xFF :: d,
        data := some ((resize p (p.buf.length + d.length + 1) h).2.1.buf.length + 1) }) := by
  unfold addData
  by_cases h0 : d.length = 0
  · rw [if_pos h0]; exact Or.inl rfl
  · rw [if_neg h0]
    by_cases h1 : p.data.isSome = true
    · rw [if_pos h1]; exact Or.inr (Or.inl rfl)
    · rw [if_neg h1]; exact Or.inr (Or.inr ⟨by simpa using h1, rfl⟩)

/-! ## every access to the heap goes through the allocator

`Closed P`: the three allocator calls preserve `P`.  Every helper of the model reaches the heap only through them, so it
preserves `P` as well (the lemmas of namespace `Closed`, one per helper, up to whole scripts).  Used with `P` = the ledger
invariant `Replays` and with "the oracle refuses nothing any more". -/

structure Closed (P : Heap → Prop) : Prop where
  alloc : ∀ h, P h → P h.alloc.2
  free : ∀ h id, P h → P (h.free id)
  realloc : ∀ h id, P h → P (h.realloc id).2

theorem allTrue_closed : Closed fun h => AllTrue h.orc :=
  ⟨fun h ho => by obtain ⟨h1, e, h1o⟩ := alloc_granted h ho; rw [e]; exact h1o, fun _ _ ho => ho,
   fun h id ho => by obtain ⟨h1, e, h1o⟩ := realloc_granted h id ho; rw [e]; exact h1o⟩

theorem orcNil_closed : Closed fun h => h.orc = [] where
  alloc h ho := by unfold Heap.alloc; rw [ho]; rfl
  free _ _ ho := ho
  realloc h _ ho := by unfold Heap.realloc; rw [ho]; rfl

theorem allTrue_of_nil {h : Heap} (ho : h.orc = []) : AllTrue h.orc := by
  rw [ho]; exact fun _ hb => nomatch hb

theorem ledger_replay (h : Heap) (id : Nat) (hr : h.Replays) :
    h.alloc.2.Replays ∧ (h.free id).Replays ∧ (h.realloc id).2.Replays := by
  refine ⟨?_, ?_, ?_⟩
  · unfold Heap.alloc
    split
    · exact replays_append [.alloc h.next] hr rfl (by cases h.ok <;> rfl)
    · exact hr
  · exact replays_append [.free id] hr rfl (by
      by_cases hm : id ∈ h.live <;> cases hok : h.ok <;> simp [Heap.free, runLedger, hm, hok])
  · unfold Heap.realloc
    split
    · exact replays_append [.free id, .alloc h.next] hr rfl (by
        by_cases hm : id ∈ h.live <;> cases h.ok <;> simp [runLedger, hm])
    · exact hr

theorem replays_closed : Closed Heap.Replays :=
  ⟨fun h hr => (ledger_replay h 0 hr).1, fun h id hr => (ledger_replay h id hr).2.1, fun h id hr => (ledger_replay h id hr).2.2⟩

namespace Closed
variable {P : Heap → Prop} (c : Closed P)
include c

theorem alloc_eq {h h1 : Heap} {r : Option Nat} (e : h.alloc = (r, h1)) (hp : P h) : P h1 := by
  have := c.alloc h hp
  rw [e] at this
  exact this

theorem realloc_eq {h h1 : Heap} {id : Nat} {r : Option Nat} (e : h.realloc id = (r, h1)) (hp : P h) : P h1 := by
  have := c.realloc h id hp
  rw [e] at this
  exact this

theorem pduDelete (p : OPdu) (h : Heap) (hp : P h) : P (pduDelete p h) :=
  c.free _ _ (c.free _ _ hp)

theorem resize (p : OPdu) (n : Nat) (h : Heap) (hp : P h) : P (resize p n h).2.2 := by
  unfold AllocOracle.resize
  split
  · split
    · exact hp
    · split
      · exact c.realloc_eq (by assumption) hp
      · exact c.realloc_eq (by assumption) hp
  · exact hp

theorem checkResize (p : OPdu) (n : Nat) (h : Heap) (hp : P h) : P (checkResize p n h).2.2 := by
  unfold AllocOracle.checkResize
  split
  · simp only
    split
    · split
      · exact hp
      · exact c.resize _ _ _ hp
    · exact c.resize _ _ _ hp
  · exact hp

theorem pduInit (size : Nat) (h : Heap) (hp : P h) : P (pduInit size h).2 := by
  unfold AllocOracle.pduInit
  split
  · exact c.alloc_eq (by assumption) hp
  · have h1 := c.alloc_eq (by assumption) hp
    split
    · exact c.free _ _ h1
    · split
      · exact c.free _ _ (c.alloc_eq (by assumption) h1)
      · exact c.alloc_eq (by assumption) h1

theorem addToken (p : OPdu) (d : Bytes) (h : Heap) (hp : P h) : P (addToken p d h).2.2 := by
  rcases addToken_cases p d h with e | ⟨bias, _, _, e⟩
  · rw [e]; exact hp
  · rw [e, stored_heap]; exact c.checkResize _ _ _ hp

theorem addOption (p : OPdu) (num : Nat) (v : Bytes) (h : Heap) (hp : P h) : P (addOption p num v h).2.2 := by
  rcases addOption_cases p num v h with e | e | e
  · rw [e]; exact hp
  · rw [e]; exact hp
  · rw [e, stored_heap]; exact c.checkResize _ _ _ hp

theorem addData (p : OPdu) (d : Bytes) (h : Heap) (hp : P h) : P (addData p d h).2.2 := by
  rcases addData_cases p d h with e | e | ⟨_, e⟩
  · rw [e]; exact hp
  · rw [e]; exact hp
  · rw [e, stored_heap]; exact c.resize _ _ _ hp

theorem addOpts (l : List Opt) (p : OPdu) (h : Heap) (hp : P h) : P (addOpts l p h).2.2 := by
  induction l generalizing p h with
  | nil => exact hp
  | cons o r ih =>
    unfold AllocOracle.addOpts
    have := c.addOption p o.num o.val h hp
    simp only
    split
    · exact this
    · split
      · exact this
      · exact ih _ _ this

theorem optlistDelete (l : List Opt) (h : Heap) (hp : P h) : P (optlistDelete l h) := by
  induction l generalizing h with
  | nil => exact hp
  | cons o r ih => exact ih _ (c.free _ _ hp)

theorem freeAll (l : List Nat) (h : Heap) (hp : P h) : P (freeAll l h) := by
  induction l generalizing h with
  | nil => exact hp
  | cons o r ih => exact ih _ (c.free _ _ hp)

theorem pduDuplicate (old : OPdu) (sm : Nat) (tok : Bytes) (h : Heap) (hp : P h) : P (pduDuplicate old sm tok h).2 := by
  unfold AllocOracle.pduDuplicate
  have hi := c.pduInit (max old.maxSize sm) h hp
  split
  · rename_i e; rw [e] at hi; exact hi
  · rename_i p h1 e
    rw [e] at hi
    simp only
    have ht := c.addToken p tok h1 hi
    split
    · exact c.pduDelete _ _ ht
    · have hz := c.resize (AllocOracle.addToken p tok h1).2.1
        ((optRegion old).length + etl (AllocOracle.addToken p tok h1).2.1) (AllocOracle.addToken p tok h1).2.2 ht
      split
      · exact c.pduDelete _ _ hz
      · exact hz

theorem deriveKey (p : OPdu) (h : Heap) (hp : P h) : P (deriveKey p h).2 := by
  unfold AllocOracle.deriveKey
  split
  · exact hp
  · split
    · exact c.alloc_eq (by assumption) hp
    · exact c.alloc_eq (by assumption) hp

theorem deleteObserver (tok : Bytes) (o : Obs) (h : Heap) (hp : P h) : P (deleteObserver tok o h).2.2 := by
  unfold AllocOracle.deleteObserver
  split
  · exact hp
  · simp only
    unfold deleteObserverInternal
    split
    · exact hp
    · exact c.free _ _ (c.free _ _ (c.pduDelete _ _ hp))

theorem replaceStep (req : OPdu) (o : Obs) (h : Heap) (hp : P h) : P (replaceStep req o h).2.2 := by
  unfold AllocOracle.replaceStep
  have hk := c.deriveKey req h hp
  simp only
  split
  · split
    · exact c.deleteObserver _ _ _ hk
    · exact hk
  · exact hk

theorem freeKey (k1 : Option (Nat × KeyMat)) (h : Heap) (hp : P h) : P (freeKey k1 h) := by
  unfold AllocOracle.freeKey
  split
  · exact c.free _ _ hp
  · exact hp

theorem copyPayload (req p : OPdu) (h : Heap) (hp : P h) : P (copyPayload req p h).2.2 := by
  unfold AllocOracle.copyPayload
  split
  · exact c.addData _ _ _ hp
  · exact hp

theorem lateKey (req : OPdu) (k1 : Option (Nat × KeyMat)) (h : Heap) (hp : P h) : P (lateKey req k1 h).2 := by
  unfold AllocOracle.lateKey
  split
  · exact hp
  · exact c.deriveKey _ _ hp

theorem finishSub (req : OPdu) (tok : Bytes) (k1 : Option (Nat × KeyMat)) (o : Obs) (sid : Nat) (p : OPdu) (h : Heap)
    (hp : P h) : P (finishSub req tok k1 o sid p h).2.2 := by
  unfold AllocOracle.finishSub
  have ha := c.copyPayload req p h hp
  generalize AllocOracle.copyPayload req p h = a at ha
  simp only
  split
  · exact c.free _ _ (c.freeKey _ _ (c.pduDelete _ _ ha))
  · have hk := c.lateKey req k1 a.2.2 ha
    generalize AllocOracle.lateKey req k1 a.2.2 = k2 at hk
    split
    · exact c.free _ _ (c.pduDelete _ _ hk)
    · exact hk

theorem createSub (req : OPdu) (sm : Nat) (tok : Bytes) (k1 : Option (Nat × KeyMat)) (o : Obs) (h : Heap) (hp : P h) :
    P (createSub req sm tok k1 o h).2.2 := by
  unfold AllocOracle.createSub
  split
  · exact c.freeKey _ _ (c.alloc_eq (by assumption) hp)
  · rename_i sid h2 e
    have hd := c.pduDuplicate req sm tok h2 (c.alloc_eq e hp)
    split
    · rename_i e3; rw [e3] at hd; exact c.free _ _ (c.freeKey _ _ hd)
    · rename_i e3; rw [e3] at hd; exact c.finishSub _ _ _ _ _ _ _ hd

theorem addObserver (req : OPdu) (sm : Nat) (tok : Bytes) (o : Obs) (h : Heap) (hp : P h) :
    P (addObserver req sm tok o h).2.2 := by
  unfold AllocOracle.addObserver
  split
  · exact hp
  · exact c.createSub _ _ _ _ _ _ (c.replaceStep _ _ _ hp)

end Closed

/-- what a helper that may grow the buffer of `p` does to the PDU and the ledger (`r` = result code, PDU, heap): a failure
(`r.1 = 0`) leaves both as they were; the header object stays; the buffer stays, or a new one takes its place in the live set -/
structure Regrown (p : OPdu) (h : Heap) (r : Nat × OPdu × Heap) : Prop where
  fail : r.1 = 0 → r.2.1 = p ∧ r.2.2.live = h.live
  id : r.2.1.id = p.id
  live : r.2.2.live = h.live ∧ r.2.1.bufId = p.bufId ∨ r.2.2.live = r.2.1.bufId :: h.live.erase p.bufId

theorem Regrown.refl (p : OPdu) (h : Heap) (rc : Nat) : Regrown p h (rc, p, h) :=
  ⟨fun _ => ⟨rfl, rfl⟩, rfl, Or.inl ⟨rfl, rfl⟩⟩

theorem Regrown.stored {p q : OPdu} {h : Heap} {r : Nat × OPdu × Heap} (g : Regrown p h r) {rc : Nat} (hrc : rc ≠ 0)
    (hid : q.id = r.2.1.id) (hb : q.bufId = r.2.1.bufId) : Regrown p h (stored r 0 p rc q) := by
  unfold C18.stored
  by_cases hz : r.1 = 0
  · rw [if_pos hz]
    obtain ⟨_, hl⟩ := g.fail hz
    exact ⟨fun _ => ⟨rfl, hl⟩, rfl, Or.inl ⟨hl, rfl⟩⟩
  · rw [if_neg hz]
    refine ⟨fun h0 => absurd h0 hrc, hid.trans g.id, ?_⟩
    show r.2.2.live = h.live ∧ q.bufId = p.bufId ∨ r.2.2.live = q.bufId :: h.live.erase p.bufId
    rw [hb]
    exact g.live

/-- the PDU's two blocks are the two newest live objects, on top of `L` -/
def Owns (p : OPdu) (L live : List Nat) : Prop := live = p.bufId :: p.id :: L

theorem owns_delete (p : OPdu) (L : List Nat) (h : Heap) (ho : Owns p L h.live) : (pduDelete p h).live = L := by
  unfold Owns at ho
  simp [pduDelete, Heap.free, ho]

theorem Regrown.owns {p : OPdu} {h : Heap} {r : Nat × OPdu × Heap} (g : Regrown p h r) {L : List Nat}
    (ho : Owns p L h.live) : Owns r.2.1 L r.2.2.live := by
  unfold Owns at *
  rw [g.id]
  rcases g.live with ⟨hl, hb⟩ | hl
  · rw [hl, hb]; exact ho
  · rw [hl, ho]; simp

theorem resize_spec (p : OPdu) (n : Nat) (h : Heap) : Regrown p h (resize p n h) := by
  unfold resize
  by_cases hg : n > p.allocSize
  · rw [if_pos hg]
    by_cases hm : p.maxSize ≠ 0 ∧ n > p.maxSize
    · rw [if_pos hm]; exact .refl ..
    · rw [if_neg hm]
      rcases hr : h.realloc p.bufId with ⟨_ | b, h1⟩
      · have r := realloc_none hr
        exact ⟨fun _ => ⟨rfl, r.live⟩, rfl, Or.inl ⟨r.live, rfl⟩⟩
      · exact ⟨fun hz => absurd hz (Nat.succ_ne_zero 0), rfl, Or.inr (alloc_some (realloc_some hr)).live⟩
  · rw [if_neg hg]; exact ⟨fun hz => absurd hz (Nat.succ_ne_zero 0), rfl, Or.inl ⟨rfl, rfl⟩⟩

theorem resize_keeps (p : OPdu) (n : Nat) (h : Heap) :
    (resize p n h).2.1 = { p with bufId := (resize p n h).2.1.bufId, allocSize := (resize p n h).2.1.allocSize } := by
  unfold resize
  split
  · split
    · rfl
    · split <;> rfl
  · rfl

theorem checkResize_spec (p : OPdu) (n : Nat) (h : Heap) : Regrown p h (checkResize p n h) := by
  unfold checkResize
  by_cases hg : n > p.allocSize
  · rw [if_pos hg]
    simp only
    by_cases hm : p.maxSize ≠ 0 ∧ grow 64 n (max 256 (p.allocSize * 2)) > p.maxSize
    · rw [if_pos hm]
      by_cases hs : p.maxSize < n
      · rw [if_pos hs]; exact .refl ..
      · rw [if_neg hs]; exact resize_spec p p.maxSize h
    · rw [if_neg hm]; exact resize_spec p _ h
  · rw [if_neg hg]; exact .refl ..

theorem checkResize_keeps (p : OPdu) (n : Nat) (h : Heap) :
    (checkResize p n h).2.1 =
      { p with bufId := (checkResize p n h).2.1.bufId, allocSize := (checkResize p n h).2.1.allocSize } := by
  unfold checkResize
  split
  · simp only
    split
    · split
      · rfl
      · exact resize_keeps p p.maxSize h
    · exact resize_keeps p _ h
  · rfl

theorem addToken_spec (p : OPdu) (d : Bytes) (h : Heap) : Regrown p h (addToken p d h) := by
  rcases addToken_cases p d h with e | ⟨bias, _, _, e⟩
  · rw [e]; exact .refl ..
  · rw [e]; exact (checkResize_spec p _ h).stored (by decide) rfl rfl

theorem addData_spec (p : OPdu) (d : Bytes) (h : Heap) : Regrown p h (addData p d h) := by
  rcases addData_cases p d h with e | e | ⟨_, e⟩
  · rw [e]; exact .refl ..
  · rw [e]; exact .refl ..
  · rw [e]; exact (resize_spec p _ h).stored (by decide) rfl rfl

theorem pduInit_ledger (size : Nat) (h : Heap) :
    ((pduInit size h).1 = none → (pduInit size h).2.live = h.live) ∧
    (∀ p, (pduInit size h).1 = some p → (pduInit size h).2.live = p.bufId :: p.id :: h.live) := by
  unfold pduInit
  rcases ha : h.alloc with ⟨_ | pid, h1⟩
  · exact ⟨fun _ => (alloc_none ha).live, fun p hp => nomatch hp⟩
  · have h1l := (alloc_some ha).live
    simp only
    have hfree : (h1.free pid).live = h.live := by simp [Heap.free, h1l]
    split
    · exact ⟨fun _ => hfree, fun p hp => nomatch hp⟩
    · rcases hb : h1.alloc with ⟨_ | bid, h2⟩
      · have t1 := (alloc_none hb).live
        exact ⟨fun _ => by simp [Heap.free, t1, h1l], fun p hp => nomatch hp⟩
      · have t1 := (alloc_some hb).live
        refine ⟨fun hn => (nomatch hn), fun p hp => ?_⟩
        cases hp
        rw [t1, h1l]

theorem resize_allTrue (p : OPdu) (n : Nat) (h : Heap) (ho : AllTrue h.orc) (hfit : p.maxSize = 0 ∨ n ≤ p.maxSize) :
    (resize p n h).1 = 1 := by
  unfold resize
  split
  · split
    · omega
    · obtain ⟨h1, e, _⟩ := realloc_granted h p.bufId ho
      rw [e]
  · rfl

theorem pduInit_allTrue (size : Nat) (h : Heap) (ho : AllTrue h.orc) (hs : size ≤ 8388864 - 6) :
    ∃ p h2, pduInit size h = (some p, h2) ∧ AllTrue h2.orc ∧ p.maxSize = size ∧ p.buf = [] ∧ p.allocSize = min size 256 := by
  obtain ⟨h1, ea, ha⟩ := alloc_granted h ho
  obtain ⟨h2, eb, hb⟩ := alloc_granted h1 ha
  unfold pduInit
  rw [ea]
  simp only
  rw [if_neg (by omega), eb]
  exact ⟨_, _, rfl, hb, rfl, rfl, rfl⟩

theorem checkResize_allTrue (p : OPdu) (n : Nat) (h : Heap) (ho : AllTrue h.orc) (hfit : p.maxSize = 0 ∨ n ≤ p.maxSize) :
    (checkResize p n h).1 = 1 := by
  unfold checkResize
  split
  · simp only
    split
    · rename_i hbig
      split
      · omega
      · exact resize_allTrue p p.maxSize h ho (Or.inr (Nat.le_refl _))
    · rename_i hsmall
      exact resize_allTrue p _ h ho (by omega)
  · rfl

theorem addToken_allTrue (p : OPdu) (d : Bytes) (h : Heap) (ho : AllTrue h.orc) (b : Nat) (hemp : p.buf = [])
    (hb : M.tokBias d.length = some b) (hfit : p.maxSize = 0 ∨ d.length + b ≤ p.maxSize) :
    ∃ q h1, addToken p d h = (1, q, h1) ∧ AllTrue h1.orc ∧ q.maxSize = p.maxSize ∧ q.tokLen = d.length ∧ q.data = none := by
  unfold addToken
  simp only [hemp, List.length_nil, ne_eq, not_true_eq_false, if_false, hb]
  have h1 := checkResize_allTrue p (d.length + b) h ho hfit
  have h3 := congrArg OPdu.maxSize (checkResize_keeps p (d.length + b) h)
  simp only [h1, Nat.succ_ne_zero, if_false]
  exact ⟨_, _, rfl, allTrue_closed.checkResize p (d.length + b) h ho, h3, rfl, rfl⟩

theorem addData_allTrue (p : OPdu) (d : Bytes) (h : Heap) (ho : AllTrue h.orc) (hmax : p.maxSize = 0) (hd : p.data = none) :
    (addData p d h).1 = 1 := by
  unfold addData
  split
  · rfl
  · split
    · rename_i hs; rw [hd] at hs; simp at hs
    · have hr := resize_allTrue p (p.buf.length + d.length + 1) h ho (Or.inl hmax)
      simp only [hr, Nat.succ_ne_zero, if_false]

end Coap.C18

namespace Coap.AllocRecv
open Coap Coap.AllocOracle Coap.AllocBlock

theorem pduInit_own {o L : List Nat} {h : Heap} (size : Nat) (hO : Own o L h) :
    match (pduInit size h).1 with
    | none => Own o L (pduInit size h).2
    | some p => Own (p.bufId :: p.id :: o) L (pduInit size h).2 := by
  unfold pduInit
  rcases hA : h.alloc with ⟨_ | pid, h1⟩
  · have := hO.alloc_none hA; simpa using this
  · have h1O := hO.alloc_some hA
    simp only
    by_cases hs : size > 8388864 - 6
    · simp only [hs, if_true]; exact Own.free_head h1O
    · simp only [hs, if_false]
      rcases hB : h1.alloc with ⟨_ | b, h2⟩
      · have := h1O.alloc_none hB
        exact Own.free_head this
      · have h2O := h1O.alloc_some hB
        exact h2O

theorem resize_own {o L : List Nat} {h : Heap} {p : OPdu} (n : Nat) (hO : Own (p.bufId :: o) L h) :
    Own ((resize p n h).2.1.bufId :: o) L (resize p n h).2.2 ∧ (resize p n h).2.1.id = p.id := by
  unfold resize
  by_cases h1 : n > p.allocSize
  · rw [if_pos h1]
    by_cases h2 : p.maxSize ≠ 0 ∧ n > p.maxSize
    · rw [if_pos h2]; exact ⟨hO, rfl⟩
    · rw [if_neg h2]
      rcases hR : h.realloc p.bufId with ⟨_ | b, h'⟩
      · have := hO.realloc_none hR
        exact ⟨this, rfl⟩
      · have := hO.realloc_some hR
        exact ⟨this, rfl⟩
  · rw [if_neg h1]; exact ⟨hO, rfl⟩

end Coap.AllocRecv
