import CoapVerif.Lemmas.Encode
import CoapVerif.Lemmas.OscoreOpt
/- Helper lemmas for C14: the OSCORE plaintext (§5.3: code ‖ class E options ‖ 0xFF payload) round-trips — the
RFC 7252 §3.1 option codec on the inner message, from the 13/14-scheme lemmas of C01 (Lemmas/Encode.lean);
the inner / outer recombination (`split_merge`, requests and responses). -/
namespace Coap
open Coap.Spec.Crypto Coap.Spec.Oscore

theorem oscore_extNib_eq (v : Nat) : Coap.Spec.Oscore.extNib v = Spec.nib v := rfl
theorem oscore_extBytes_eq (v : Nat) : Coap.Spec.Oscore.extBytes v = Spec.extBytes v := rfl

/-- what the RFC 7252 §3.1 option format can carry: ascending numbers starting at `prev`, deltas and value lengths
at most 65804 (= 65535 + 269) -/
def optsWire : Nat → List Opt → Bool
  | _, [] => true
  | prev, o :: os => decide (prev ≤ o.1) && decide (o.1 - prev ≤ 65804) && decide (o.2.length ≤ 65804) && optsWire o.1 os

theorem optsWire_cons (prev : Nat) (o : Opt) (os : List Opt) :
    optsWire prev (o :: os) = true ↔ prev ≤ o.1 ∧ o.1 - prev ≤ 65804 ∧ o.2.length ≤ 65804 ∧ optsWire o.1 os = true := by
  simp [optsWire, and_assoc]

theorem optsWire_of_sorted : ∀ (os : List Opt) (prev : Nat), os.Pairwise (fun a b => a.1 ≤ b.1) →
    (∀ o ∈ os, prev ≤ o.1 ∧ o.1 ≤ 65535 ∧ o.2.length ≤ 65804) → optsWire prev os = true := by
  intro os
  induction os with
  | nil => intro _ _ _; rfl
  | cons o os ih =>
    intro prev hs h
    rw [List.pairwise_cons] at hs
    obtain ⟨h1, h2, h3⟩ := h o (by simp)
    rw [optsWire_cons]
    refine ⟨h1, by omega, h3, ih o.1 hs.2 ?_⟩
    intro x hx
    obtain ⟨_, h5, h6⟩ := h x (by simp [hx])
    exact ⟨hs.1 x hx, h5, h6⟩

theorem oscore_encOpts_length (os : List Opt) : ∀ prev, os.length ≤ (Coap.Spec.Oscore.encOpts prev os).length := by
  induction os with
  | nil => intro _; simp [Coap.Spec.Oscore.encOpts]
  | cons o os ih =>
    intro prev
    obtain ⟨n, v⟩ := o
    have := ih n
    simp [Coap.Spec.Oscore.encOpts]; omega

theorem decOpts_encOpts : ∀ (os : List Opt) (prev fuel : Nat) (rest : Bytes),
    optsWire prev os = true → (rest = [] ∨ ∃ t, rest = 0xFF :: t) → os.length < fuel →
    decOpts fuel prev (Coap.Spec.Oscore.encOpts prev os ++ rest) = some (os, rest) := by
  intro os
  induction os with
  | nil =>
    intro prev fuel rest _ hr hf
    obtain ⟨fuel, rfl⟩ : ∃ f, fuel = f + 1 := ⟨fuel - 1, by simp at hf; omega⟩
    rcases hr with rfl | ⟨t, rfl⟩
    · simp [Coap.Spec.Oscore.encOpts, decOpts]
    · simp [Coap.Spec.Oscore.encOpts, decOpts]
  | cons o os ih =>
    intro prev fuel rest hok hr hf
    obtain ⟨fuel, rfl⟩ : ∃ f, fuel = f + 1 := ⟨fuel - 1, by simp at hf; omega⟩
    obtain ⟨n, v⟩ := o
    rw [optsWire_cons] at hok
    obtain ⟨hp, hd, hl, hrest⟩ := hok
    simp only at hp hd hl hrest
    obtain ⟨hff, hdn, hln⟩ := hdr_byte (n - prev) v.length
    have hE1 := ext_roundtrip (n - prev)
      (Spec.extBytes v.length ++ (v ++ (Coap.Spec.Oscore.encOpts n os ++ rest))) hd
    have hE2 := ext_roundtrip v.length (v ++ (Coap.Spec.Oscore.encOpts n os ++ rest)) hl
    have hpd : prev + (n - prev) = n := by omega
    have hih := ih n fuel rest hrest hr (by simp at hf; omega)
    simp only [Coap.Spec.Oscore.encOpts, oscore_extNib_eq, oscore_extBytes_eq, List.cons_append, List.append_assoc, decOpts,
      hff, if_false, hdn, hln, hE1, hE2, hpd, List.length_append, List.take_left', List.drop_left', hih]
    simp

theorem decPlain_encPlain (code : Nat) (inner : List Opt) (payload : Bytes) (hc : code < 256)
    (hw : optsWire 0 inner = true) : decPlain (encPlain code inner payload) = some (code, inner, payload) := by
  have hcode : (UInt8.ofNat code).toNat = code := toNat_ofNat_lt code hc
  have hlen := oscore_encOpts_length inner 0
  unfold encPlain decPlain
  simp only
  by_cases hp : payload = []
  · subst hp
    simp only [if_true]
    rw [decOpts_encOpts inner 0 _ [] hw (Or.inl rfl) (by simp; omega)]
    simp [hcode]
  · simp only [hp, if_false]
    rw [decOpts_encOpts inner 0 _ (0xFF :: payload) hw (Or.inr ⟨payload, rfl⟩) (by simp; omega)]
    simp [hcode, hp]

/-! ### inner / outer recombination; responses with the recipient's Observe value (D14.3) -/

/-- the recipient may rewrite inner options by an `f` that keeps option numbers: requests `f = id`, responses `f` sets the
Observe value -/
theorem split_merge (f : Opt → Opt) (hf : ∀ o, (f o).1 = o.1) (hU : ∀ o, classUOnly o.1 = true → f o = o)
    (os : List Opt) (ov : Bytes) (hs : os.Pairwise (fun a b => a.1 ≤ b.1)) (hno : ∀ o ∈ os, o.1 ≠ optOscore) :
    mergeOpts (withOscore (outerOpts os) ov) ((os.filter fun o => !classUOnly o.1).map f) = os.map f := by
  have hq : ∀ (q : Nat → Bool) (l : List Opt), (l.map f).filter (fun o => q o.1) = (l.filter (fun o => q o.1)).map f := by
    intro q l
    rw [List.filter_map]
    congr 1
    apply List.filter_congr
    intro o _
    exact congrArg q (hf o)
  unfold mergeOpts
  rw [kept_outer_eq os ov hs]
  have hs' : (os.map f).Pairwise (fun a b => a.1 ≤ b.1) := by
    rw [List.pairwise_map]
    exact hs.imp (fun {a b} h => by rw [hf, hf]; exact h)
  have hA : os.filter (fun o => classUOnly o.1 && decide (o.1 ≠ 9)) =
      (os.map f).filter (fun o => classUOnly o.1 && decide (o.1 ≠ 9)) := by
    rw [hq (fun n => classUOnly n && decide (n ≠ 9))]
    symm
    rw [List.map_congr_left (g := id), List.map_id]
    intro o ho
    exact hU o (Bool.and_eq_true_iff.mp (List.mem_filter.mp ho).2).1
  have hB : (os.filter fun o => !classUOnly o.1).map f =
      (os.map f).filter (fun o => !(classUOnly o.1 && decide (o.1 ≠ 9))) := by
    rw [hq (fun n => !(classUOnly n && decide (n ≠ 9)))]
    congr 1
    apply List.filter_congr
    intro o ho
    have := hno o ho
    simp [this]
  rw [hA, hB]
  exact merge_filter_sorted (fun n => classUOnly n && decide (n ≠ 9)) _ hs'

theorem split_merge_response (os : List Opt) (ov obs : Bytes) (hs : os.Pairwise (fun a b => a.1 ≤ b.1))
    (hno : ∀ o ∈ os, o.1 ≠ optOscore) :
    mergeOpts (withOscore (outerOpts os) ov) ((innerOpts false os).map (obsSet obs)) = os.map (obsSet obs) := by
  have hin : (innerOpts false os).map (obsSet obs) = (os.filter fun o => !classUOnly o.1).map (obsSet obs) := by
    unfold innerOpts
    rw [List.map_map]
    apply List.map_congr_left
    intro o _
    by_cases h6 : o.1 = optObserve <;> simp [obsSet, h6]
  rw [hin]
  refine split_merge (obsSet obs) (obsSet_fst obs) (fun o hu => if_neg fun h6 => ?_) os ov hs hno
  rw [h6] at hu
  cases hu

theorem innerOpts_wire (req : Bool) (os : List Opt) (hs : os.Pairwise (fun a b => a.1 ≤ b.1))
    (hw : ∀ o ∈ os, o.1 ≤ 65535 ∧ o.2.length ≤ 65804) : optsWire 0 (innerOpts req os) = true := by
  have hf : ∀ c : Opt, (if c.1 = optObserve ∧ ¬ req then ((c.1, []) : Opt) else c).1 = c.1 := by
    intro c; split <;> rfl
  apply optsWire_of_sorted
  · unfold innerOpts
    rw [List.pairwise_map]
    refine List.Pairwise.imp ?_ (List.Pairwise.filter _ hs)
    intro a b hab
    rw [hf a, hf b]; exact hab
  · intro x hx
    unfold innerOpts at hx
    rw [List.mem_map] at hx
    obtain ⟨y, hy, rfl⟩ := hx
    obtain ⟨h1, h2⟩ := hw y (List.mem_filter.mp hy).1
    split
    · exact ⟨Nat.zero_le _, h1, by simp⟩
    · exact ⟨Nat.zero_le _, h1, h2⟩

theorem obsSet_lambda (obs : Bytes) : (fun o : Opt => if o.1 = optObserve then (o.1, obs) else o) = obsSet obs := rfl

end Coap
