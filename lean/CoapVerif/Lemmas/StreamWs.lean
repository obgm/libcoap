import CoapVerif.Model.WsReader
import CoapVerif.Lemmas.Parse
/- C05, WebSocket part.  Two lemmas the correspondence proof M_ws = S_ws (Lemmas/StreamWs{Defs,Hs,Frames,Feed}) starts from:
   the line end of the model (`strchr`) and of the specification are the same function (`lfIdx_eq`), and one round of
   `coap_ws_rd_http_header` in closed form (`rdHttpHeader_round`).  The rest of the file is a result of its own, used by
   nothing else: the reader on bytes without a line end, with its EXACT final state (`noLF` … `feed_noLF`) — the
   correspondence proof determines the final state only up to the fields the invariant leaves free. -/
namespace Coap
open Coap.M Coap.M.Ws Coap.Spec.Stream.Ws

def noLF (l : Bytes) : Prop := ∀ b ∈ l, b ≠ 10

theorem lfIdx_eq (l : Bytes) : lfIdx l = lfIndex l := by
  induction l with
  | nil => rfl
  | cons b r ih => simp only [lfIdx, lfIndex, ih]

theorem lfIndex_none (l : Bytes) (h : noLF l) : lfIndex l = none := by
  induction l with
  | nil => rfl
  | cons b r ih =>
    have hb : b ≠ 10 := h b (by simp)
    have hr : noLF r := fun x hx => h x (by simp [hx])
    simp only [lfIndex, if_neg hb, ih hr]
    split <;> rfl

theorem lfIdx_none (l : Bytes) (h : noLF l) : lfIdx l = none := (lfIdx_eq l).trans (lfIndex_none l h)

theorem noLF_append {a b : Bytes} (ha : noLF a) (hb : noLF b) : noLF (a ++ b) := by
  intro x hx
  rcases List.mem_append.mp hx with h | h
  · exact ha x h
  · exact hb x h

theorem noLF_take {a : Bytes} (n : Nat) (ha : noLF a) : noLF (a.take n) :=
  fun x hx => ha x (List.mem_of_mem_take hx)

theorem noLF_drop {a : Bytes} (n : Nat) (ha : noLF a) : noLF (a.drop n) :=
  fun x hx => ha x (List.mem_of_mem_drop hx)

theorem lineLoop_noLF (mode : Mode) (accept : Bytes) (fuel : Nat) (st : St) (h : lfIdx st.httpHdr = none) :
    lineLoop mode accept fuel st = .cont st := by
  cases fuel <;> simp [lineLoop, h]

/-- the model's test `buf.length ≥ httpCap` (the terminator written behind the bytes read) never fires: `n` leaves room
for it -/
theorem rdHttpHeader_round (mode : Mode) (accept : Bytes) (fuel : Nat) (st : St) (av : Bytes) (n : Nat)
    (hup : st.up = false) (hn : n = min fsCap (httpCap - 1 - st.httpHdr.length)) :
    rdHttpHeader mode accept (fuel + 1) st av =
      if httpCap - 1 ≤ st.httpHdr.length then R.rej
      else if av = [] then R.ok (st, av)
      else match lineLoop mode accept ((st.httpHdr ++ av.take n).length + 1) { st with httpHdr := st.httpHdr ++ av.take n } with
        | .fail => R.rej
        | .oob => R.oob
        | .up st' => R.ok (st', av.drop n)
        | .cont st' => rdHttpHeader mode accept fuel st' (av.drop n) := by
  have hrem : (if httpCap - 1 - st.httpHdr.length > fsCap then fsCap else httpCap - 1 - st.httpHdr.length) = n := by
    rw [hn]; split <;> omega
  simp only [rdHttpHeader, hup, Bool.false_eq_true, if_false, hrem]
  by_cases hlong : httpCap - 1 ≤ st.httpHdr.length
  · rw [if_pos hlong, if_pos (by simp only [fsCap] at hn; omega)]
  have hpos : 0 < n ∧ n ≤ httpCap - 1 - st.httpHdr.length := by simp only [fsCap] at hn; omega
  rw [if_neg hlong, if_neg (by omega)]
  by_cases hav : av = []
  · rw [if_pos hav, if_pos (by rw [hav, List.take_nil]; rfl)]
  have hgot : 0 < (av.take n).length := by
    have := List.length_pos_iff.mpr hav
    rw [List.length_take]; omega
  have hbuf : ¬ (st.httpHdr ++ av.take n).length ≥ httpCap := by
    rw [List.length_append, List.length_take]; simp only [httpCap] at hpos hlong ⊢; omega
  rw [if_neg hav, if_neg (by omega), if_neg hbuf]
  rfl

theorem rdHttp_noLF (mode : Mode) (accept : Bytes) : ∀ (fuel : Nat) (st : St) (av : Bytes),
    st.up = false → noLF st.httpHdr → noLF av → av.length < fuel →
    rdHttpHeader mode accept fuel st av =
      if st.httpHdr.length + av.length < httpCap - 1 then R.ok ({ st with httpHdr := st.httpHdr ++ av }, []) else R.rej := by
  intro fuel
  induction fuel with
  | zero => intro st av _ _ _ h; omega
  | succ f ih =>
    intro st av hup hh hav hf
    rw [rdHttpHeader_round mode accept f st av _ hup rfl]
    by_cases hlong : httpCap - 1 ≤ st.httpHdr.length
    · rw [if_pos hlong, if_neg (by omega)]
    rw [if_neg hlong]
    by_cases h0 : av = []
    · subst h0
      rw [if_pos rfl, if_pos (by simp only [List.length_nil]; omega), List.append_nil]
    rw [if_neg h0]
    generalize hn : min fsCap (httpCap - 1 - st.httpHdr.length) = n
    have hpos : 0 < n ∧ n ≤ httpCap - 1 - st.httpHdr.length := by simp only [fsCap] at hn; omega
    have hlen := List.length_pos_iff.mpr h0
    have hno := noLF_append hh (noLF_take n hav)
    rw [lineLoop_noLF mode accept _ _ (lfIdx_none _ hno)]
    dsimp only
    rw [ih { st with httpHdr := st.httpHdr ++ av.take n } (av.drop n) hup hno (noLF_drop n hav)
      (by rw [List.length_drop]; omega)]
    have hsum : (st.httpHdr ++ av.take n).length + (av.drop n).length = st.httpHdr.length + av.length := by
      rw [List.length_append, List.length_take, List.length_drop]; omega
    simp only [hsum, List.append_assoc, List.take_append_drop]

/-- the state in which only the first `h` bytes of the handshake have been buffered -/
def hsState (h : Bytes) : St := { httpHdr := h }

theorem readSession_noLF (mode : Mode) (accept : Bytes) (fuel : Nat) (h av : Bytes) (hh : noLF h) (hav : noLF av) :
    readSession mode accept (fuel + 1) (hsState h) av =
      if h.length + av.length < httpCap - 1 then ([], .open (hsState (h ++ av)), []) else ([], .closed, av) := by
  have hr := rdHttp_noLF mode accept (av.length + 2) (hsState h) av rfl hh hav (by omega)
  simp only [hsState] at hr ⊢
  simp only [readSession, wsRead, Bool.not_false, if_true, hr]
  by_cases hlt : h.length + av.length < httpCap - 1
  · simp [hlt]
  · simp [hlt]

theorem feedChunk_noLF (mode : Mode) (accept : Bytes) (fuel idle : Nat) (h av : Bytes) (hh : noLF h) (hav : noLF av)
    (hroom : h.length < httpCap - 1) :
    feedChunk mode accept (fuel + 1) idle (hsState h) av =
      if h.length + av.length < httpCap - 1 then ([], .open (hsState (h ++ av)), false) else ([], .closed, false) := by
  rcases av with _ | ⟨a, av⟩
  · simp [feedChunk, hroom]
  · have hne : ¬ (a :: av).length = 0 := by simp
    simp only [feedChunk, if_neg hne, readSession_noLF mode accept _ h (a :: av) hh hav]
    by_cases hlt : h.length + (a :: av).length < httpCap - 1
    · simp only [if_pos hlt]
      have : ¬ ([] : Bytes).length = (a :: av).length := by simp
      rw [if_neg this]
      cases fuel <;> simp [feedChunk]
    · simp only [if_neg hlt]

/-- every way of delivering bytes that contain no line end to a fresh WS session: they are buffered while
fewer than 159 have arrived, the session is closed by the chunk with which the 159th arrives -/
theorem feed_noLF (mode : Mode) (accept : Bytes) : ∀ (chunks : List Bytes) (h : Bytes), noLF h → noLF chunks.flatten →
    h.length < httpCap - 1 →
    feed mode accept (hsState h) chunks =
      if h.length + chunks.flatten.length < httpCap - 1 then ([], .open (hsState (h ++ chunks.flatten)), false)
      else ([], .closed, false) := by
  intro chunks
  induction chunks with
  | nil => intro h hh _ hroom; simp [feed, hroom]
  | cons c cs ih =>
    intro h hh hfl hroom
    have hc : noLF c := fun x hx => hfl x (by simp [hx])
    have hcs : noLF cs.flatten := fun x hx => hfl x (by simp only [List.flatten_cons, List.mem_append]; exact Or.inr hx)
    have e : 6 * (c.length + 1) = (6 * c.length + 5) + 1 := by omega
    simp only [feed, e, feedChunk_noLF mode accept _ 0 h c hh hc hroom]
    by_cases hlt : h.length + c.length < httpCap - 1
    · simp only [if_pos hlt]
      rw [ih (h ++ c) (noLF_append hh hc) hcs (by rw [List.length_append]; exact hlt)]
      simp only [List.flatten_cons, List.length_append, List.append_assoc, List.nil_append, Nat.add_assoc]
    · simp only [if_neg hlt]
      have : ¬ (h.length + (c :: cs).flatten.length < httpCap - 1) := by
        simp only [List.flatten_cons, List.length_append]; omega
      rw [if_neg this]

end Coap
