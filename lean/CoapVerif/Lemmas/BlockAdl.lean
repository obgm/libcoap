import CoapVerif.Model.BlockAdl
/-! Lemmas for Model/BlockAdl.lean: the release-callback ledger of a session over calls of
coap_add_data_large_request / _response that supersede a transfer still in progress. -/

namespace Coap.Block

/-! ## the exits agree with `adlRel` (and through `adlRel_spec` with `addDataLarge`) -/

theorem adlExitFinish_rel (maxSize tokOpts rem : Nat) (lg : Option Nat) :
    (adlExitFinish maxSize tokOpts rem lg).rel = adlRelFinish maxSize tokOpts rem lg.isSome := by
  unfold adlExitFinish adlRelFinish
  by_cases hc : rem ≠ 0 ∧ tokOpts + 1 + rem > maxSize
  · rw [if_pos hc, if_pos hc]; cases lg <;> rfl
  · rw [if_neg hc, if_neg hc]; cases lg <;> rfl

theorem adlExitLgTail_rel (maxSize tokLen base d b2 length extra : Nat) (sb : BlockB) :
    (adlExitLgTail maxSize tokLen base d b2 length extra sb).rel = adlRelLgTail maxSize tokLen base d b2 length extra sb := by
  unfold adlExitLgTail adlRelLgTail
  simp only
  split
  · split
    · rfl
    · exact adlExitFinish_rel _ _ _ _
  · exact adlExitFinish_rel _ _ _ _

theorem adlExitBody_rel (maxSize tokLen base d tokOpts0 b2 length extra : Nat) (blk : Option Nat) (isReq : Bool) :
    (adlExitBody maxSize tokLen base d tokOpts0 b2 length extra blk isReq 0).rel =
      adlRelBody maxSize tokLen base d tokOpts0 b2 length extra blk := by
  unfold adlExitBody adlRelBody
  dsimp only
  by_cases hfit : adlAvail maxSize tokOpts0 tokLen < 16 ∧ ((length : Int) > adlAvail maxSize tokOpts0 tokLen ∨ blk.isSome)
  · rw [if_pos hfit, if_pos hfit]; rfl
  rw [if_neg hfit, if_neg hfit]
  by_cases hlg : (blk.isSome ∧ length > 2 ^ (b2 + 4)) ∨ (length : Int) > adlAvail maxSize tokOpts0 tokLen
  · rw [if_pos hlg, if_pos hlg, if_neg (by decide : ¬ (0 = 1)), if_neg (fun h => absurd h.1 (by decide) : ¬ (0 = 2 ∧ isReq = true))]
    cases setupBlockB maxSize (tokOpts0 + extra) 0 b2 length with
    | none => rfl
    | some sb => exact adlExitLgTail_rel _ _ _ _ _ _ _ _
  · rw [if_neg hlg, if_neg hlg]
    exact adlExitFinish_rel _ _ _ _

/-- without allocation failure the exit of the request path is what `adlRel` says -/
theorem adlExitReq_rel (maxSize tokLen optBytes lastOpt : Nat) (blk : Option Nat) (maxBlk length rtagLen : Nat) :
    (adlExitReq maxSize tokLen optBytes lastOpt blk maxBlk length rtagLen 0).rel =
      adlRel maxSize tokLen optBytes lastOpt blk maxBlk length rtagLen := by
  unfold adlExitReq adlRel
  exact adlExitBody_rel _ _ _ _ _ _ _ _ _ _

/-! ## the ledger -/

/-- how often the release callback of body `b` has run -/
def ran (s : AdlSess) (b : Nat) : Nat := s.rel.count b
/-- how many linked lg_xmits hold the release callback of body `b` -/
def held (s : AdlSess) (b : Nat) : Nat := (s.xmits.map (·.body)).count b

/-- the body of the transfer a call supersedes -/
def superseded (s : AdlSess) (key : Nat) (ex : AdlExit) : Option Nat :=
  if ex = .refused then none else (findKey s.xmits key).map (·.body)

def AdlExit.isLinked : AdlExit → Bool
  | .linked _ => true
  | _ => false

theorem count_cons_nat (a b : Nat) (l : List Nat) : (a :: l).count b = l.count b + (if a = b then 1 else 0) := by
  rw [List.count_cons]
  by_cases h : a = b
  · simp [h]
  · simp [h]

theorem removeKey_count (l : List XmitEnt) (k b : Nat) :
    ((removeKey l k).map (·.body)).count b + (if (findKey l k).map (·.body) = some b then 1 else 0) =
      (l.map (·.body)).count b := by
  induction l with
  | nil => simp [removeKey, findKey]
  | cons e rest ih =>
    by_cases hk : e.key = k
    · simp only [removeKey, findKey, if_pos hk, List.map_cons, Option.map_some]
      rw [count_cons_nat]
      by_cases hb : e.body = b
      · simp [hb]
      · simp [hb]
    · simp only [removeKey, findKey, if_neg hk, List.map_cons]
      rw [count_cons_nat, count_cons_nat]
      omega

theorem removeKey_none (l : List XmitEnt) (k : Nat) (h : findKey l k = none) : removeKey l k = l := by
  induction l with
  | nil => rfl
  | cons e rest ih =>
    by_cases hk : e.key = k
    · simp [findKey, hk] at h
    · simp only [findKey, if_neg hk] at h
      simp only [removeKey, if_neg hk, ih h]

/-- the search in front: the local variable is NULL afterwards; the list is the old one without the first element with
the key; that element's callback has run once -/
theorem adlSupersede_spec (s : AdlSess) (key : Nat) :
    (adlSupersede s key).2 = none ∧
    (adlSupersede s key).1.xmits = removeKey s.xmits key ∧
    (∀ b, ran (adlSupersede s key).1 b = ran s b + (if (findKey s.xmits key).map (·.body) = some b then 1 else 0)) := by
  unfold adlSupersede
  cases hf : findKey s.xmits key with
  | none =>
    refine ⟨rfl, (removeKey_none _ _ hf).symm, ?_⟩
    intro b; simp
  | some e =>
    refine ⟨rfl, rfl, ?_⟩
    intro b
    show (e.body :: s.rel).count b = s.rel.count b + _
    rw [count_cons_nat]
    by_cases hb : e.body = b
    · simp [hb]
    · simp [hb]

/-- every exit that enters the function, as one record: the search result, the new lg_xmit in front if linked, the
callback of the body handed in run once otherwise (whichever arm of `fail:` / success path does it) -/
theorem adlCall_eq (s : AdlSess) (key body : Nat) (ex : AdlExit) (hne : ex ≠ .refused) :
    adlCall s key body ex =
      { xmits := (if ex.isLinked then [{ key := key, body := body }] else []) ++ (adlSupersede s key).1.xmits,
        rel := if ex.isLinked then (adlSupersede s key).1.rel else body :: (adlSupersede s key).1.rel } := by
  have h1 := (adlSupersede_spec s key).1
  cases ex with
  | refused => exact absurd rfl hne
  | failSearch =>
    show ({ (adlSupersede s key).1 with rel := adlFailPath (adlSupersede s key).2 body (adlSupersede s key).1.rel } : AdlSess) = _
    rw [h1]; rfl
  | failNew => rfl
  | linked blk => rfl
  | released => rfl

theorem ite_body (body b : Nat) (l : Bool) :
    (if body = b ∧ l = false then 1 else 0) = if l then 0 else (if body = b then 1 else 0) := by
  cases l <;> simp

theorem adlCall_spec (s : AdlSess) (key body : Nat) (ex : AdlExit) :
    (adlCall s key body ex).xmits =
      (if ex.isLinked then [{ key := key, body := body }] else []) ++
        (if ex = .refused then s.xmits else removeKey s.xmits key) ∧
    (∀ b, ran (adlCall s key body ex) b =
      ran s b + (if body = b ∧ ex.isLinked = false then 1 else 0) + (if superseded s key ex = some b then 1 else 0)) := by
  obtain ⟨_, h2, h3⟩ := adlSupersede_spec s key
  by_cases hne : ex = .refused
  · subst hne
    refine ⟨rfl, ?_⟩
    intro b
    have e1 : ran (adlCall s key body .refused) b = ran s b + (if body = b then 1 else 0) := count_cons_nat _ _ _
    have e2 : superseded s key .refused = none := rfl
    rw [e1, e2, ite_body]
    simp [AdlExit.isLinked]
  · rw [adlCall_eq s key body ex hne]
    refine ⟨by rw [h2, if_neg hne], ?_⟩
    intro b
    have e2 : superseded s key ex = (findKey s.xmits key).map (·.body) := by unfold superseded; rw [if_neg hne]
    rw [e2, ite_body]
    have h3b := h3 b
    cases hl : ex.isLinked with
    | true =>
      show ran (adlSupersede s key).1 b = _
      rw [h3b]; simp
    | false =>
      show (body :: (adlSupersede s key).1.rel).count b = _
      rw [count_cons_nat]
      have : (adlSupersede s key).1.rel.count b = ran (adlSupersede s key).1 b := rfl
      rw [this, h3b]
      simp only [Bool.false_eq_true, if_false]
      omega

theorem held_cons (e : XmitEnt) (l : List XmitEnt) (r : List Nat) (b : Nat) :
    held { xmits := e :: l, rel := r } b = held { xmits := l, rel := r } b + (if e.body = b then 1 else 0) := by
  unfold held
  exact count_cons_nat _ _ _

theorem adlCall_ledger (s : AdlSess) (key body : Nat) (ex : AdlExit) (b : Nat) :
    ran (adlCall s key body ex) b + held (adlCall s key body ex) b =
      ran s b + held s b + (if body = b then 1 else 0) := by
  obtain ⟨hx, hr⟩ := adlCall_spec s key body ex
  rw [hr b, ite_body]
  have hh : held (adlCall s key body ex) b =
      (if ex.isLinked then (if body = b then 1 else 0) else 0) +
        ((if ex = .refused then s.xmits else removeKey s.xmits key).map (·.body)).count b := by
    unfold held
    rw [hx]
    cases ex.isLinked with
    | true =>
      simp only [if_true, List.cons_append, List.nil_append, List.map_cons]
      rw [count_cons_nat]; omega
    | false => simp
  rw [hh]
  have hrm := removeKey_count s.xmits key b
  unfold superseded
  by_cases hne : ex = .refused
  · subst hne
    have e0 : ∀ (α : Type) (x y : α), (if AdlExit.refused = AdlExit.refused then x else y) = x := fun _ _ _ => if_pos rfl
    have e1 : AdlExit.refused.isLinked = false := rfl
    have e2 : ¬ ((none : Option Nat) = some b) := by intro h; cases h
    rw [e0, e0, e1, if_neg e2]
    unfold held
    simp only [Bool.false_eq_true, if_false]
    omega
  · rw [if_neg hne, if_neg hne]
    unfold held
    cases ex.isLinked with
    | true => simp only [if_true]; omega
    | false => simp only [Bool.false_eq_true, if_false]; omega

theorem adlReleaseAll_ledger (s : AdlSess) (b : Nat) :
    (adlReleaseAll s).xmits = [] ∧ ran (adlReleaseAll s) b = ran s b + held s b := by
  refine ⟨rfl, ?_⟩
  show (s.xmits.map (·.body) ++ s.rel).count b = _
  rw [List.count_append]
  unfold ran held
  omega

/-- ledger invariant of a run: bodies 0..n-1 have been handed over; each of them has either had its callback run
exactly once or is held by exactly one linked lg_xmit; no other callback has run -/
def AdlInv (st : AdlSess × Nat) : Prop := ∀ b, ran st.1 b + held st.1 b = if b < st.2 then 1 else 0

theorem adlEvStep_inv (st : AdlSess × Nat) (e : AdlEv) (h : AdlInv st) : AdlInv (adlEvStep st e) := by
  intro b
  have hb := h b
  -- expiry and the session's end release everything that is held
  have hrel : ran (adlReleaseAll st.1) b + held (adlReleaseAll st.1) b = if b < st.2 then 1 else 0 := by
    have h0 : held (adlReleaseAll st.1) b = 0 := rfl
    rw [(adlReleaseAll_ledger st.1 b).2, h0]
    exact hb
  cases e with
  | call key ex =>
    show ran (adlCall st.1 key st.2 ex) b + held (adlCall st.1 key st.2 ex) b = if b < st.2 + 1 then 1 else 0
    rw [adlCall_ledger, hb]
    by_cases h1 : b < st.2
    · have : ¬ st.2 = b := by omega
      have h2 : b < st.2 + 1 := by omega
      simp [h1, h2, this]
    · by_cases h3 : st.2 = b
      · subst h3
        simp
      · have h2 : ¬ b < st.2 + 1 := by omega
        simp [h1, h2, h3]
  | expire => exact hrel
  | free => exact hrel

theorem adlFold_inv (evs : List AdlEv) (st : AdlSess × Nat) : AdlInv st → AdlInv (evs.foldl adlEvStep st) :=
  foldl_inv AdlInv adlEvStep_inv evs st

theorem adlInv_init : AdlInv ({}, 0) := by
  intro b
  simp [ran, held]

/-! ## one transfer per key -/

theorem removeKey_keys_sub (l : List XmitEnt) (k x : Nat) (h : x ∈ (removeKey l k).map (·.key)) : x ∈ l.map (·.key) := by
  induction l with
  | nil => simp [removeKey] at h
  | cons e rest ih =>
    by_cases hk : e.key = k
    · simp only [removeKey, if_pos hk] at h
      exact List.mem_cons_of_mem _ h
    · simp only [removeKey, if_neg hk, List.map_cons, List.mem_cons] at h
      rcases h with h | h
      · rw [h]; exact List.mem_cons_self
      · exact List.mem_cons_of_mem _ (ih h)

theorem removeKey_nodup (l : List XmitEnt) (k : Nat) (h : (l.map (·.key)).Nodup) :
    ((removeKey l k).map (·.key)).Nodup ∧ k ∉ (removeKey l k).map (·.key) := by
  induction l with
  | nil => simp [removeKey]
  | cons e rest ih =>
    rw [List.map_cons, List.nodup_cons] at h
    by_cases hk : e.key = k
    · simp only [removeKey, if_pos hk]
      exact ⟨h.2, by rw [← hk]; exact h.1⟩
    · simp only [removeKey, if_neg hk, List.map_cons]
      obtain ⟨i1, i2⟩ := ih h.2
      refine ⟨List.nodup_cons.mpr ⟨fun hm => h.1 (removeKey_keys_sub _ _ _ hm), i1⟩, ?_⟩
      intro hm
      rcases List.mem_cons.mp hm with hm | hm
      · exact hk hm.symm
      · exact i2 hm

/-- a session never holds two transfers with one key (the search supersedes THE transfer with the key) -/
theorem adlEvStep_keys (st : AdlSess × Nat) (e : AdlEv) (h : (st.1.xmits.map (·.key)).Nodup) :
    ((adlEvStep st e).1.xmits.map (·.key)).Nodup := by
  cases e with
  | call key ex =>
    show ((adlCall st.1 key st.2 ex).xmits.map (·.key)).Nodup
    rw [(adlCall_spec st.1 key st.2 ex).1]
    obtain ⟨i1, i2⟩ := removeKey_nodup st.1.xmits key h
    cases ex with
    | refused => simpa [AdlExit.isLinked] using h
    | failSearch => simpa [AdlExit.isLinked] using i1
    | failNew => simpa [AdlExit.isLinked] using i1
    | linked blk =>
      simp only [AdlExit.isLinked, if_true, reduceCtorEq, if_false, List.cons_append, List.nil_append, List.map_cons]
      exact List.nodup_cons.mpr ⟨i2, i1⟩
    | released => simpa [AdlExit.isLinked] using i1
  | expire => exact List.nodup_nil
  | free => exact List.nodup_nil

theorem adlFold_keys (evs : List AdlEv) (st : AdlSess × Nat) : (st.1.xmits.map (·.key)).Nodup →
    ((evs.foldl adlEvStep st).1.xmits.map (·.key)).Nodup :=
  foldl_inv (fun st => (st.1.xmits.map (·.key)).Nodup) adlEvStep_keys evs st

end Coap.Block
