import CoapVerif.Lemmas.OscoreCbor
/- Helper lemmas for C14: libcoap's nonce construction (buffer writes) is the §5.2 nonce; the nonce is injective in
(kid, Partial IV) for Partial IVs in minimal-length encoding; `pivBytes` is the minimal-length encoding. -/
namespace Coap
open Coap.Spec.Crypto Coap.Spec.Oscore

theorem leftPad_length (k : Nat) (b : Bytes) (h : b.length ≤ k) : (leftPad k b).length = k := by
  rw [leftPad, List.length_append, List.length_replicate]; omega

/-! ### buffer writes -/
section Writes
open Coap.M.Oscore

theorem writeAt_zero : ∀ (ds old post : Bytes), old.length = ds.length → writeAt (old ++ post) 0 ds = ds ++ post := by
  intro ds
  induction ds with
  | nil =>
    intro old post h
    have : old = [] := List.eq_nil_of_length_eq_zero h
    subst this
    cases post <;> rfl
  | cons d ds ih =>
    intro old post h
    cases old with
    | nil => simp at h
    | cons o old =>
      simp only [List.length_cons, Nat.add_right_cancel_iff] at h
      simp only [List.cons_append, writeAt, ih old post h]

theorem writeAt_append (pre old post ds : Bytes) (h : old.length = ds.length) :
    writeAt (pre ++ (old ++ post)) pre.length ds = pre ++ (ds ++ post) := by
  induction pre with
  | nil => simpa using writeAt_zero ds old post h
  | cons b pre ih => simp only [List.cons_append, List.length_cons, writeAt, ih]

theorem xorLoop_eq_xorKs : ∀ (a ks : Bytes), a.length ≤ ks.length → xorLoop a ks = xorKs a ks := by
  intro a
  induction a with
  | nil => intro ks _; cases ks <;> rfl
  | cons x a ih =>
    intro ks h
    cases ks with
    | nil => simp at h
    | cons k ks =>
      simp only [List.length_cons, Nat.add_le_add_iff_right] at h
      simp only [xorLoop, xorKs, ih ks h]

/-- a `memcpy` that ends at the end of a zeroed field of `n` bytes leaves the data left-padded to `n` -/
theorem writeAt_field (pre post ds : Bytes) (n : Nat) (h : ds.length ≤ n) :
    writeAt (pre ++ (List.replicate n 0 ++ post)) (pre.length + (n - ds.length)) ds = pre ++ (leftPad n ds ++ post) := by
  have e : List.replicate n (0 : UInt8) = List.replicate (n - ds.length) 0 ++ List.replicate ds.length 0 := by
    rw [List.replicate_append_replicate]; congr 1; omega
  have hl : pre.length + (n - ds.length) = (pre ++ List.replicate (n - ds.length) (0 : UInt8)).length := by
    rw [List.length_append, List.length_replicate]
  rw [e, List.append_assoc, ← List.append_assoc pre, hl, writeAt_append _ _ _ _ (List.length_replicate ..), leftPad,
    List.append_assoc, List.append_assoc]

theorem nonce_buffer (kid piv : Bytes) (hk : kid.length ≤ 7) (hp : piv.length ≤ 5) :
    writeAt (writeAt (UInt8.ofNat (kid.length % 256) :: List.replicate 12 0) (8 - kid.length) kid) (13 - piv.length) piv =
      noncePlain kid piv := by
  have h1 := writeAt_field [UInt8.ofNat kid.length] (List.replicate 5 0) kid 7 hk
  have h2 := writeAt_field (UInt8.ofNat kid.length :: leftPad 7 kid) [] piv 5 hp
  rw [List.length_cons, leftPad_length 7 kid hk, List.append_nil, List.append_nil] at h2
  rw [Nat.mod_eq_of_lt (by omega), show 8 - kid.length = [UInt8.ofNat kid.length].length + (7 - kid.length) by
    rw [List.length_singleton]; omega, show 13 - piv.length = 7 + 1 + (5 - piv.length) by omega]
  exact (congrArg (writeAt · _ piv) h1).trans h2

theorem generateNonce_eq (civ kid piv : Bytes) (hk : kid.length ≤ 7) (hp : piv.length ≤ 5) (hc : 13 ≤ civ.length) :
    generateNonce civ kid piv = R.ok (nonce civ kid piv) := by
  have h1 : ¬ kid.length > 8 := by omega
  have h2 : ¬ piv.length > 13 := by omega
  have h3 : ¬ civ.length < 13 := by omega
  simp only [generateNonce, h1, h2, h3, if_false, nonce_buffer kid piv hk hp]
  rw [xorLoop_eq_xorKs _ _ (by
    rw [noncePlain, List.length_cons, List.length_append, leftPad_length 7 kid hk, leftPad_length 5 piv hp]; exact hc)]
  rfl

end Writes

/-! ### minimal-length Partial IVs -/

/-- what libcoap's sender guarantees of a Partial IV (`coap_encode_var_safe8` of the sequence number, 0 ↦ one zero
byte): it is not empty and has no leading zero byte, except that the value 0 is the single byte 0x00 -/
def pivMinimal (p : Bytes) : Bool :=
  match p with
  | [] => false
  | [_] => true
  | b :: _ :: _ => b != 0

theorem replicate_append_minimal (k : Nat) (p q : Bytes) (hq : pivMinimal q = true) (hp : p ≠ [])
    (h : List.replicate k (0 : UInt8) ++ p = q) : k = 0 := by
  cases k with
  | zero => rfl
  | succ k =>
    subst h
    rw [List.replicate_succ] at hq
    cases hr : List.replicate k (0 : UInt8) ++ p with
    | nil => simp [hp] at hr
    | cons c r => simp [hr, pivMinimal] at hq

theorem leftPad_minimal_inj (k : Nat) (p q : Bytes) (hp : p.length ≤ k) (hq : q.length ≤ k)
    (mp : pivMinimal p = true) (mq : pivMinimal q = true) (h : leftPad k p = leftPad k q) : p = q := by
  -- were `q` longer, its head would be one of `p`'s padding zeros
  have aux : ∀ p q : Bytes, q.length ≤ k → pivMinimal p = true → pivMinimal q = true → leftPad k p = leftPad k q →
      p.length ≤ q.length → p = q := by
    intro p q hq mp mq h hl
    have np : p ≠ [] := by intro e; subst e; exact absurd mp (by decide)
    unfold leftPad at h
    rw [show k - p.length = (k - q.length) + (q.length - p.length) by omega, ← List.replicate_append_replicate,
      List.append_assoc] at h
    have h' := List.append_cancel_left h
    rw [replicate_append_minimal _ p q mq np h'] at h'
    exact h'
  rcases Nat.le_total p.length q.length with hl | hl
  · exact aux p q hq mp mq h hl
  · exact (aux q p hp mq mp h.symm hl).symm

theorem nonce_fields (civ kid kid' piv piv' : Bytes) (hk : kid.length ≤ 7) (hk' : kid'.length ≤ 7)
    (h : nonce civ kid piv = nonce civ kid' piv') : kid = kid' ∧ leftPad 5 piv = leftPad 5 piv' := by
  have h0 := xorKs_inj _ _ _ h
  unfold noncePlain at h0
  injection h0 with hlen hrest
  have hl : kid.length = kid'.length := u8_ofNat_inj (by omega) (by omega) hlen
  obtain ⟨ha, hb⟩ := List.append_inj hrest (by rw [leftPad_length 7 kid hk, leftPad_length 7 kid' hk'])
  unfold leftPad at ha
  rw [hl] at ha
  exact ⟨List.append_cancel_left ha, hb⟩

theorem nonce_inj (civ kid kid' piv piv' : Bytes) (hk : kid.length ≤ 7) (hk' : kid'.length ≤ 7)
    (hp : piv.length ≤ 5) (hp' : piv'.length ≤ 5) (mp : pivMinimal piv = true) (mp' : pivMinimal piv' = true)
    (h : nonce civ kid piv = nonce civ kid' piv') : kid = kid' ∧ piv = piv' := by
  obtain ⟨ha, hb⟩ := nonce_fields civ kid kid' piv piv' hk hk' h
  exact ⟨ha, leftPad_minimal_inj 5 piv piv' hp hp' mp mp' hb⟩

/-! ### `pivBytes` is the minimal-length encoding of a sequence number -/

def beVal (b : Bytes) : Nat := b.foldl (fun acc x => acc * 256 + x.toNat) 0

theorem beVal_append_single (b : Bytes) (x : UInt8) : beVal (b ++ [x]) = beVal b * 256 + x.toNat := by
  simp [beVal, List.foldl_append]

theorem beVal_natBE : ∀ (fuel n : Nat), n < 256 ^ fuel → beVal (natBE fuel n) = n := by
  intro fuel
  induction fuel with
  | zero => intro n h; simp at h; subst h; rfl
  | succ f ih =>
    intro n h
    unfold natBE
    by_cases h0 : n = 0
    · simp [h0, beVal]
    · simp only [h0, if_false, beVal_append_single]
      rw [ih (n / 256) (by rw [Nat.pow_succ] at h; omega), UInt8.toNat_ofNat']
      omega

theorem natBE_length : ∀ (fuel k n : Nat), n < 256 ^ k → (natBE fuel n).length ≤ k := by
  intro fuel
  induction fuel with
  | zero => intro k n _; simp [natBE]
  | succ f ih =>
    intro k n h
    unfold natBE
    by_cases h0 : n = 0
    · simp [h0]
    · cases k with
      | zero => simp at h; omega
      | succ k =>
        have := ih k (n / 256) (by rw [Nat.pow_succ] at h; omega)
        simp [h0]; omega

theorem natBE_head : ∀ (fuel n : Nat), n ≠ 0 → n < 256 ^ fuel → ∃ b r, natBE fuel n = b :: r ∧ b ≠ 0 := by
  intro fuel
  induction fuel with
  | zero => intro n h0 h; simp at h; omega
  | succ f ih =>
    intro n h0 h
    unfold natBE
    simp only [h0, if_false]
    by_cases hq : n / 256 = 0
    · refine ⟨UInt8.ofNat (n % 256), [], ?_, ?_⟩
      · cases f <;> simp [natBE, hq]
      · intro e
        have := congrArg UInt8.toNat e
        rw [UInt8.toNat_ofNat'] at this
        simp at this
        omega
    · obtain ⟨b, r, e, hb⟩ := ih (n / 256) hq (by rw [Nat.pow_succ] at h; omega)
      exact ⟨b, r ++ [UInt8.ofNat (n % 256)], by rw [e]; rfl, hb⟩

theorem pivBytes_minimal (n : Nat) (h : n < 2 ^ 64) : pivMinimal (pivBytes n) = true := by
  unfold pivBytes
  by_cases h0 : n = 0
  · simp [h0, pivMinimal]
  · simp only [h0, if_false]
    obtain ⟨b, r, e, hb⟩ := natBE_head 8 n h0 (by omega)
    rw [e]
    cases r <;> simp [pivMinimal, hb]

theorem pivBytes_ne_nil (n : Nat) (h : n < 2 ^ 64) : pivBytes n ≠ [] := by
  intro e
  have := pivBytes_minimal n h
  rw [e] at this
  simp [pivMinimal] at this

theorem pivBytes_length (n : Nat) (h : n < 2 ^ 40) : (pivBytes n).length ≤ 5 := by
  unfold pivBytes
  by_cases h0 : n = 0
  · simp [h0]
  · simp only [h0, if_false]
    exact natBE_length 8 5 n (by omega)

theorem beVal_pivBytes (n : Nat) (h : n < 2 ^ 64) : beVal (pivBytes n) = n := by
  unfold pivBytes
  by_cases h0 : n = 0
  · simp [h0, beVal]
  · simp only [h0, if_false]
    exact beVal_natBE 8 n (by omega)

theorem pivBytes_inj (n m : Nat) (hn : n < 2 ^ 64) (hm : m < 2 ^ 64) (h : pivBytes n = pivBytes m) : n = m := by
  rw [← beVal_pivBytes n hn, ← beVal_pivBytes m hm, h]

/-- the link between C15's "no Partial IV twice" and "no nonce twice" (sequence numbers below 2^40, encoded as the sender
encodes them, D14.4) -/
theorem nonce_pivBytes_inj (civ kid kid' : Bytes) (seq seq' : Nat) (hk : kid.length ≤ 7) (hk' : kid'.length ≤ 7)
    (hs : seq < 2 ^ 40) (hs' : seq' < 2 ^ 40) (h : nonce civ kid (pivBytes seq) = nonce civ kid' (pivBytes seq')) :
    kid = kid' ∧ seq = seq' := by
  obtain ⟨h1, h2⟩ := nonce_inj civ kid kid' _ _ hk hk' (pivBytes_length seq hs) (pivBytes_length seq' hs')
    (pivBytes_minimal seq (by omega)) (pivBytes_minimal seq' (by omega)) h
  exact ⟨h1, pivBytes_inj seq seq' (by omega) (by omega) h2⟩

theorem nonces_pairwise_ne (civ kid : Bytes) (seqs : List Nat) (hk : kid.length ≤ 7)
    (hs : ∀ s ∈ seqs, s < 2 ^ 40) (hd : seqs.Pairwise (· ≠ ·)) :
    (seqs.map fun s => nonce civ kid (pivBytes s)).Pairwise (· ≠ ·) :=
  List.pairwise_map.mpr (hd.imp_of_mem fun ha hb hab h => hab (nonce_pivBytes_inj civ kid kid _ _ hk hk (hs _ ha) (hs _ hb) h).2)

end Coap
