import CoapVerif.Model.MsgLayerX
import CoapVerif.Lemmas.MsgLayer
/-
Helper lemmas for the extended message layer (Model/MsgLayerX.lean): the walk through the events of `stepX` for a property that
survives what they are made of (`EvtX.stepX`); with keepalive off, on UDP sessions, `stepX` is `step` for every event but `rxNon`
(`stepX_base`); an arrival takes out of the send queue only nodes it may conclude (`countGe_disp`).  Core Lean only.
-/
namespace Coap.MsgX
open Coap.SQ Coap.Msg

/-! ### the keepalive bookkeeping never touches the base layer -/

@[simp] theorem setK_l (lx : LX) (s : Nat) (k : KA) : (lx.setK s k).l = lx.l := rfl
@[simp] theorem setK_pt (lx : LX) (s : Nat) (k : KA) : (lx.setK s k).pingTimeout = lx.pingTimeout := rfl
@[simp] theorem setK_prng (lx : LX) (s : Nat) (k : KA) : (lx.setK s k).prng = lx.prng := rfl

/-- `touch` is a fold of `setK`s -/
theorem touch_keeps (lx : LX) (old : Nat) :
    (touch lx old).l = lx.l ∧ (touch lx old).pingTimeout = lx.pingTimeout ∧ (touch lx old).prng = lx.prng :=
  foldl_inv (fun lx' : LX => lx'.l = lx.l ∧ lx'.pingTimeout = lx.pingTimeout ∧ lx'.prng = lx.prng)
    (fun _ o h => by cases o <;> exact h) _ lx ⟨rfl, rfl, rfl⟩

@[simp] theorem touch_l (lx : LX) (old : Nat) : (touch lx old).l = lx.l := (touch_keeps lx old).1
@[simp] theorem touch_pt (lx : LX) (old : Nat) : (touch lx old).pingTimeout = lx.pingTimeout := (touch_keeps lx old).2.1
@[simp] theorem touch_prng (lx : LX) (old : Nat) : (touch lx old).prng = lx.prng := (touch_keeps lx old).2.2
@[simp] theorem lift_l (lx : LX) (l' : L) : (lx.lift l').l = l' := by simp [LX.lift]
@[simp] theorem lift_pt (lx : LX) (l' : L) : (lx.lift l').pingTimeout = lx.pingTimeout := by simp [LX.lift]
@[simp] theorem lift_prng (lx : LX) (l' : L) : (lx.lift l').prng = lx.prng := by simp [LX.lift]
@[simp] theorem read_l (lx : LX) (s : Nat) : (lx.read s).l = lx.l := rfl
@[simp] theorem read_pt (lx : LX) (s : Nat) : (lx.read s).pingTimeout = lx.pingTimeout := rfl
@[simp] theorem read_prng (lx : LX) (s : Nat) : (lx.read s).prng = lx.prng := rfl

/-! ### the keepalive loop and `removeAt`, for any property -/

theorem sendPing_l (lx : LX) (s : Nat) :
    (sendPing lx s).1.l = lx.l ∨ ∃ mid, (sendPing lx s).1.l = (sendCore lx.l s true mid lx.prng noTok).1 := by
  unfold sendPing
  simp only []
  cases !(lx.l.getS s).est || (lx.l.getS s).conActive != 0
  · cases !(lx.l.getS s).sockOpen
    · exact .inr ⟨_, rfl⟩
    · exact .inl rfl
  · exact .inl rfl

theorem pingOne_l (lx : LX) (s t : Nat) :
    (pingOne lx s t).1.l = lx.l ∨ ∃ mid, (pingOne lx s t).1.l = (sendCore lx.l s true mid lx.prng noTok).1 := by
  unfold pingOne
  simp only []
  cases (lx.l.getS s).est && decide (lx.pingTimeout > 0)
  · exact .inl rfl
  · by_cases h : (lx.getK s).lastRxTx + lx.pingTimeout * 1000 ≤ lx.l.now
    · simp only [if_true, h]
      have := sendPing_l lx s
      generalize sendPing lx s = r at this ⊢
      obtain ⟨lx', res⟩ := r
      cases res <;> exact this
    · simp only [if_true, h, if_false, true_or]

theorem pingLoop_inv {P : L → Prop} (ping : ∀ l s mid r, P l → P (sendCore l s true mid r noTok).1) :
    ∀ (k s : Nat) (lx : LX) (t : Nat), P lx.l → P (pingLoop k s lx t).1.l
  | 0, _, _, _, h => h
  | k + 1, s, lx, t, h => by
    have h1 : P (pingOne lx s t).1.l := by
      rcases pingOne_l lx s t with e | ⟨mid, e⟩ <;> rw [e]
      · exact h
      · exact ping _ _ _ _ h
    exact pingLoop_inv ping k (s + 1) (pingOne lx s t).1 (pingOne lx s t).2 h1

theorem prepareCoreX_inv {P : L → Prop} (lx : LX) (due : P (dueLoopX lx.pingTimeout lx.prng (dueFuel lx.l) lx.l))
    (ping : ∀ l s mid r, P l → P (sendCore l s true mid r noTok).1) : P (prepareCoreX lx).1.l := by
  have := pingLoop_inv ping (dueLoopX lx.pingTimeout lx.prng (dueFuel lx.l) lx.l).sess.length 0
    (lx.lift (dueLoopX lx.pingTimeout lx.prng (dueFuel lx.l) lx.l))
    (queueWait (dueLoopX lx.pingTimeout lx.prng (dueFuel lx.l) lx.l)) (by rw [lift_l]; exact due)
  exact this

theorem subQ_removeAt : ∀ (l : List Node) (i : Nat), SubQ (removeAt l i) l
  | [], _ => fun _ _ h => h
  | n :: r, 0 => fun b e he => by
    exact List.mem_cons_of_mem _ (absFrom_inherit b n r ▸ he)
  | n :: r, i + 1 => fun b e he => by
    simp only [removeAt, absFrom, List.mem_cons] at he ⊢
    exact he.imp_right (subQ_removeAt r i _ e)

theorem without_removeAt : ∀ {l : List Node} {i : Nat} {q : Node} {rest : List Node}, l.drop i = q :: rest →
    Without l q (removeAt l i)
  | [], i, q, rest, h => by simp at h
  | a :: r, 0, q, rest, h => by
    simp at h; obtain ⟨rfl, rfl⟩ := h
    refine ⟨List.mem_cons_self, fun hw => ?_, subQ_removeAt _ 0⟩
    cases r with
    | nil => rfl
    | cons b r' => simp only [removeAt, wsum, hw]
  | a :: r, i + 1, q, rest, h => by
    simp at h
    have ih := without_removeAt h
    refine ⟨List.mem_cons_of_mem _ ih.mem, fun hw => ?_, subQ_removeAt _ _⟩
    have := ih.sum hw
    simp only [removeAt, wsum]
    omega

end Coap.MsgX

namespace Coap.Msg
open Coap.SQ Coap.MsgX

variable {P : L → Prop}

namespace Disp

/-- for every start index and whatever index the walk goes on with: the index arithmetic of `cancelWalk` (where a message released
during the walk lands) does not matter to a property that survives a matching node leaving the queue -/
theorem cancelWalk {s tok : Nat} (D : Disp (fun n => n.sess = s ∧ n.tok = tok) P) :
    ∀ (fuel : Nat) (l : L) (i : Nat), P l → P (MsgX.cancelWalk fuel l s tok i)
  | 0, _, _, h => h
  | fuel + 1, l, i, h => by
    unfold MsgX.cancelWalk
    split
    · exact h
    · rename_i q rest hd
      split
      · rename_i hk
        apply cancelWalk D fuel
        cases hc : q.con
        · exact D.dropNon l q _ h (without_removeAt hd) hk hc
        · have hqs : q.sess = s := hk.1
          subst hqs
          exact D.finish l q _ h (without_removeAt hd) hk
      · exact cancelWalk D fuel l (i + 1) h

theorem rxRstX {s mid : Nat} (D : Disp (fun n => n.sess = s ∧ n.mid = mid) P) (lx : LX)
    (h : P lx.l) : P (MsgX.rxRstX lx s mid).l := by
  unfold MsgX.rxRstX
  simp only []
  split
  · rcases removeNode_cases lx.l.q.nodes s mid with e | ⟨n, rest, e, rfl, h2, hwo⟩ <;> rw [e] <;>
      simp only [lift_l, setK_l]
    · exact D.emit lx.l _ h
    · exact D.finish lx.l n rest h hwo ⟨rfl, h2⟩
  · rw [lift_l]; exact D.rxRst lx.l h

theorem rxAckP {s mid : Nat} (D : Disp (fun n => n.sess = s ∧ n.mid = mid) P) (l : L) (dup : Bool)
    (h : P l) : P (MsgX.rxAckP l s mid dup) := by
  unfold MsgX.rxAckP
  exact ite_ind (fun _ => D.rxAck l h) fun _ => D.emit _ _ (D.rxAck l h)

end Disp

end Coap.Msg

namespace Coap.MsgX
open Coap.SQ Coap.Msg

variable {P : L → Prop}

namespace EvX

def gone : EvX → Node → Prop
  | .base e => e.gone
  | .rxAckP s m _ => fun n => n.sess = s ∧ n.mid = m
  | _ => fun _ => False

def fails : EvX → Nat → Prop
  | .base e => e.fails
  | _ => fun _ => False

end EvX

namespace EvtX

variable {R : Node → Prop} {F : Nat → Prop}

theorem io (E : EvtX R F P) (lx : LX) (h : P lx.l) : P (prepareCoreX lx).1.l :=
  prepareCoreX_inv lx (dueLoopX_inv _ _ (E.retx _ _) _ _ h) fun l s mid r => E.send l s true mid r noTok

theorem stepX {e : EvX} (E : EvtX e.gone e.fails P) (lx : LX) (h : P lx.l) : P (MsgX.stepX lx e).l := by
  have rx : ∀ (lx1 : LX) (s : Nat), P lx1.l → P (if (lx.l.getS s).sockOpen then afterRxX lx1 else lx).l :=
    fun lx1 s h1 => by
      split
      · exact E.io lx1 h1
      · exact h
  cases e with
  | base e =>
    cases e with
    | setNow t => exact E.now _ t h
    | submit s con mid r => simp only [MsgX.stepX, lift_l]; rw [← submitT_eq_submit]; exact E.submitT _ _ _ _ _ _ h
    | prepare => exact E.emit _ _ (E.io lx h)
    | rxAck s mid => exact rx _ s (by rw [lift_l]; exact E.toDisp.rxAck lx.l h)
    | rxRst s mid => exact rx _ s (E.toDisp.rxRstX (lx.read s) h)
    | rxNon s mid tok => exact rx _ s (by rw [lift_l]; exact E.emit _ _ (E.toDisp.cancelWalk _ lx.l 0 h))
    | rxBad s mid => exact rx _ s (by rw [lift_l]; exact E.toDisp.rxBad lx.l h)
    | hold s => simp only [MsgX.stepX, lift_l]; exact E.hold lx.l s h
    | connect s => simp only [MsgX.stepX, lift_l]; exact E.connected lx.l s h
    | disconnect s =>
      simp only [MsgX.stepX]; split
      · rw [lift_l]
        unfold disconnectP
        cases lx.proto s with
        | udp => exact E.fail lx.l s h rfl
        | dtls => exact E.hold _ s (E.fail lx.l s h rfl)
      · exact h
  | submitT s con mid r tok => simp only [MsgX.stepX, lift_l]; exact E.submitT _ _ _ _ _ _ h
  | icmp s => exact rx _ s (by rw [lift_l]; unfold icmp; split <;> exact E.emit _ _ h)
  | keepalive secs => exact h
  | rxAckP s mid tok => exact rx _ s (by rw [setK_l, lift_l]; exact E.toDisp.rxAckP lx.l _ h)

theorem runX (E : ∀ e, EvtX (EvX.gone e) (EvX.fails e) P) (evs : List EvX) (lx : LX) (h : P lx.l) :
    P (MsgX.runX lx evs).l :=
  foldl_inv (P ·.l) (fun lx e h => (E e).stepX lx h) evs lx h

end EvtX

theorem stepX_reach (lx : LX) (e : EvX) : Reach lx.l (stepX lx e).l := (reach_evtX lx.l).stepX lx (Reach.refl _)

theorem runX_reach (evs : List EvX) (lx : LX) : Reach lx.l (runX lx evs).l :=
  EvtX.runX (fun _ => reach_evtX lx.l) evs lx (Reach.refl _)

theorem wfX_step (lx : LX) (e : EvX) (h : WF lx.l) : WF (stepX lx e).l := (stepX_reach lx e).wf h

theorem initX_l (t0 : Nat) (ss : List Sess) : (initX t0 ss).l = init t0 ss := rfl

/-! ### with keepalive off the extended model is the base model -/

theorem pingOne_off (lx : LX) (s t : Nat) (h : lx.pingTimeout = 0) : pingOne lx s t = (lx, t) := by
  unfold pingOne; simp [h]

theorem pingLoop_off : ∀ (k s : Nat) (lx : LX) (t : Nat), lx.pingTimeout = 0 → pingLoop k s lx t = (lx, t)
  | 0, _, _, _, _ => rfl
  | k + 1, s, lx, t, h => by
    unfold pingLoop
    rw [pingOne_off lx s t h]
    exact pingLoop_off k (s + 1) lx t h

theorem prepareCoreX_off (lx : LX) (h : lx.pingTimeout = 0) :
    (prepareCoreX lx).1.l = (prepareCore lx.l).1 ∧ (prepareCoreX lx).2 = (prepareCore lx.l).2 ∧
    (prepareCoreX lx).1.pingTimeout = 0 := by
  unfold prepareCoreX prepareCore queueWait
  simp only []
  rw [pingLoop_off _ _ _ _ (by simpa using h), h, dueLoopX_zero]
  cases (dueLoop (dueFuel lx.l) lx.l).q.nodes <;> simp [h]

/-- UDP only: `disconnectP` treats the other transports differently.  Not `rxNon`: the extended model walks the send queue as
`coap_cancel_all_messages` does, the base model restarts from its head after every removal; they differ only when a message carrying
the same token is released from the delay queue during the walk. -/
theorem stepX_base (lx : LX) (e : Ev) (h : lx.pingTimeout = 0) (hn : ∀ s mid tok, e ≠ .rxNon s mid tok)
    (hu : ∀ s, lx.proto s = .udp) :
    (stepX lx (.base e)).l = step lx.l e ∧ (stepX lx (.base e)).pingTimeout = 0 := by
  -- a datagram arrives: after the dispatch branch, the I/O step without pings
  have rx : ∀ (s : Nat) (l1 : L), (afterRxX ((lx.read s).lift l1)).l = afterRx l1 ∧
      (afterRxX ((lx.read s).lift l1)).pingTimeout = 0 := by
    intro s l1
    have := prepareCoreX_off ((lx.read s).lift l1) (by simpa using h)
    simp only [afterRxX, afterRx]
    exact ⟨by rw [this.1]; simp, this.2.2⟩
  cases e with
  | setNow t => exact ⟨rfl, h⟩
  | submit s con mid r => simp [stepX, step, h]
  | prepare =>
    have := prepareCoreX_off lx h
    simp only [stepX, step, prepareX, prepare]
    rcases hp : prepareCore lx.l with ⟨l', w⟩
    rw [hp] at this
    simp only [] at this ⊢
    rw [this.1, this.2.1]
    exact ⟨rfl, this.2.2⟩
  | rxAck s mid =>
    simp only [stepX, step]; split
    · exact rx s _
    · exact ⟨rfl, h⟩
  | rxRst s mid =>
    simp only [stepX, step]; split
    · have e1 : rxRstX (lx.read s) s mid = (lx.read s).lift (rxRst lx.l s mid) := by
        unfold rxRstX; simp [h]
      rw [e1]
      exact rx s _
    · exact ⟨rfl, h⟩
  | rxNon s mid tok => exact absurd rfl (hn s mid tok)
  | rxBad s mid =>
    simp only [stepX, step]; split
    · exact rx s _
    · exact ⟨rfl, h⟩
  | hold s => simp [stepX, h]
  | connect s => simp [stepX, step, h]
  | disconnect s =>
    simp only [stepX, step]; split
    · simp [h, hu s, disconnectP]
    · exact ⟨rfl, h⟩

/-! ### a piggy-backed response concludes the message it acknowledges and no other -/

theorem drain_countP_ge (p : Node → Bool) (hp : TStable p) (fuel : Nat) (l : L) (s k : Nat)
    (h : k ≤ l.q.nodes.countP p) : k ≤ (drain fuel l s).q.nodes.countP p :=
  drain_inv (P := fun l' => k ≤ l'.q.nodes.countP p)
    (fun l1 n rest h1 _ _ => by rw [drainOne_countP hp]; exact Nat.le_trans h1 (Nat.le_add_right _ _)) fuel l h

theorem connected_countP_ge (p : Node → Bool) (hp : TStable p) (l : L) (s k : Nat)
    (h : k ≤ l.q.nodes.countP p) : k ≤ (connected l s).q.nodes.countP p := by
  unfold connected
  exact drain_countP_ge p hp _ _ s k h

theorem release_countP_ge (p : Node → Bool) (hp : TStable p) (l : L) (s k : Nat)
    (h : k ≤ l.q.nodes.countP p) : k ≤ (release l s).q.nodes.countP p := by
  unfold release
  simp only []
  split
  · exact h
  · split
    · exact connected_countP_ge p hp _ s k h
    · exact h

/-- a branch of `coap_dispatch` takes out of the send queue only nodes it may conclude (`R`): every other message (counted by any
predicate `p` that is false on those) stays, and `coap_session_connected` only adds -/
theorem countGe_disp {R : Node → Prop} {p : Node → Bool} (hp : TStable p) (k : Nat) (hR : ∀ n, R n → p n = false) :
    Disp R (fun l => k ≤ l.q.nodes.countP p) where
  emit _ _ h := h
  finish _ n _ h hwo hn := release_countP_ge p hp _ _ k (by rw [hwo.count p hp, hR n hn] at h; exact h)
  dropNon _ n _ h hwo hn _ := by rw [hwo.count p hp, hR n hn] at h; exact h

theorem rxAckP_countP_le (p : Node → Bool) (hp : TStable p) (l : L) (s mid : Nat) (dup : Bool)
    (hn : ∀ n : Node, n.sess = s → n.mid = mid → p n = false) :
    l.q.nodes.countP p ≤ (rxAckP l s mid dup).q.nodes.countP p :=
  (countGe_disp hp _ fun n h => hn n h.1 h.2).rxAckP l dup (Nat.le_refl _)

theorem proto_udp_of_nil (lx : LX) (h : lx.dtls = []) (s : Nat) : lx.proto s = .udp := by
  simp [LX.proto, h]

/-- `COAP_PROTO_NOT_RELIABLE` holds for both transports M covers: the guards of the `con_active` updates are open
for a DTLS session exactly as for a UDP session -/
theorem notReliable_datagram (p : Proto) : p.notReliable = true := by cases p <;> rfl

end Coap.MsgX
