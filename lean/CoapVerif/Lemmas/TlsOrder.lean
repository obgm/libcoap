import CoapVerif.Lemmas.TlsMoves
/-
C19 helper lemmas: the FIRST-TRANSMISSION ledger of a DTLS session, over whole histories — before, at and AFTER the
establishment (ACK-driven flushes of the delay queue, retransmissions, give-ups, teardown).

`Out.tx` carries the node's retransmit_cnt: a first transmission is a `tx` with a message serial and count 0.  `Ord N` is
preserved by every function of M on a DTLS session, whatever the TLS library answers: the serials below `N` of the first
transmissions so far, followed by the serials of the never-transmitted messages of the delay queue, are STRICTLY INCREASING
(each message at most once, in submission order), and a tracked serial is still queued, or was transmitted, or the session
failed / was freed.
-/
namespace Coap.TlsGate
open Ctx

/-- the message serial if this output is a FIRST transmission (retransmit_cnt 0) of a message (not an acknowledgement) -/
def Out.firstSn : Out → Option Nat
  | .tx _ _ (some j) cnt => if cnt = 0 then some j else none
  | _ => none

/-- the serials below `N` of the first transmissions in a trace, in trace order -/
def firsts (N : Nat) (l : List Out) : List Nat := (l.filterMap Out.firstSn).filter (· < N)

/-- a NACK other than the advisory ICMP notification: the session was given up (coap_session_disconnected_lkd), a message
was given up (retransmissions exhausted, RST) -/
def Out.isFail : Out → Bool
  | .nack r _ _ => r != .icmp
  | _ => false

/-- the serials of the messages in the delay queue that have never been transmitted (retransmit_cnt 0), in queue order -/
def fresh0 (dq : List QMsg) : List Nat := (dq.filter (·.cnt == 0)).map (·.sn)

theorem firsts_append (N : Nat) (a b : List Out) : firsts N (a ++ b) = firsts N a ++ firsts N b := by
  simp [firsts, List.filterMap_append]

@[simp] theorem firsts_nil (N : Nat) : firsts N [] = [] := rfl

theorem firsts_quiet (N : Nat) (l : List Out) (h : ∀ o ∈ l, ∀ j, o.firstSn = some j → N ≤ j) : firsts N l = [] := by
  unfold firsts
  rw [List.filter_eq_nil_iff]
  intro j hj
  simp only [List.mem_filterMap] at hj
  obtain ⟨o, ho, hoj⟩ := hj
  have := h o ho j hoj
  simp; omega

theorem mem_firsts {N j : Nat} {l : List Out} : j ∈ firsts N l ↔ j ∈ l.filterMap Out.firstSn ∧ j < N := by
  simp [firsts]

theorem firsts_lt {N j : Nat} {l : List Out} (h : j ∈ firsts N l) : j < N := (mem_firsts.mp h).2

theorem fresh0_append (a b : List QMsg) : fresh0 (a ++ b) = fresh0 a ++ fresh0 b := by simp [fresh0]

theorem mem_fresh0 {j : Nat} {l : List QMsg} : j ∈ fresh0 l ↔ ∃ q ∈ l, q.cnt = 0 ∧ q.sn = j := by
  simp [fresh0, and_assoc]

/-- the first-transmission ledger.  `N`: the serials of interest are those below it; `f0` = the serials below `N` first transmitted in
EARLIER events, `g0` = a NACK other than the ICMP notification was raised in an earlier event (`c.out` holds this event's outputs only:
`ord_rebase`); `t`: the message with serial `k` is being tracked -/
structure Ord (N : Nat) (f0 : List Nat) (g0 t : Bool) (k : Nat) (c : Ctx) : Prop where
  /-- earlier first transmissions, this event's, then the never-transmitted part of the delay queue: strictly increasing -/
  srt : (f0 ++ firsts N c.out ++ fresh0 c.s.delayq).Pairwise (· < ·)
  lt : ∀ j ∈ fresh0 c.s.delayq, j < c.s.next
  nx : N ≤ c.s.next
  f0lt : ∀ j ∈ f0, j < N
  proto : c.s.proto = .dtls
  /-- the tracked message: still queued and never transmitted, or transmitted, or the session was given up / freed -/
  trk : t = true → k < N ∧ (k ∈ fresh0 c.s.delayq ∨ k ∈ f0 ++ firsts N c.out ∨ g0 = true ∨ c.out.any Out.isFail = true ∨
                             c.s.freed = true)

section
variable {N : Nat} {f0 : List Nat} {g0 t : Bool} {k : Nat} {c : Ctx}

/-- the general step: the ledger's list at `c'` is again increasing (in every use: a sublist of the one at `c`, or that with a
fresh serial at the end), and the tracked serial, if it was queued or transmitted, still is, or the queue was given up -/
theorem ord_step {c' : Ctx} (h : Ord N f0 g0 t k c) (hs : (f0 ++ firsts N c'.out ++ fresh0 c'.s.delayq).Pairwise (· < ·))
    (hlt : ∀ j ∈ fresh0 c'.s.delayq, j < c'.s.next) (hnx : c.s.next ≤ c'.s.next) (hp : c'.s.proto = c.s.proto)
    (htrk : k < N → k ∈ fresh0 c.s.delayq ∨ k ∈ f0 ++ firsts N c.out →
      k ∈ fresh0 c'.s.delayq ∨ k ∈ f0 ++ firsts N c'.out ∨ c'.out.any Out.isFail = true ∨ c'.s.freed = true)
    (hfl : c.out.any Out.isFail = true → c'.out.any Out.isFail = true) (hfr : c.s.freed = true → c'.s.freed = true) :
    Ord N f0 g0 t k c' := by
  refine ⟨hs, hlt, Nat.le_trans h.nx hnx, h.f0lt, hp ▸ h.proto, fun ht => ⟨(h.trk ht).1, ?_⟩⟩
  rcases (h.trk ht).2 with b | b | b | b | b
  · exact (htrk (h.trk ht).1 (Or.inl b)).imp id fun y => y.imp id Or.inr
  · exact (htrk (h.trk ht).1 (Or.inr b)).imp id fun y => y.imp id Or.inr
  · exact Or.inr (Or.inr (Or.inl b))
  · exact Or.inr (Or.inr (Or.inr (Or.inl (hfl b))))
  · exact Or.inr (Or.inr (Or.inr (Or.inr (hfr b))))

theorem ord_keep {c' : Ctx} (h : Ord N f0 g0 t k c) (hf : firsts N c'.out = firsts N c.out)
    (hdq : fresh0 c'.s.delayq = fresh0 c.s.delayq) (hnx : c.s.next ≤ c'.s.next) (hp : c'.s.proto = c.s.proto)
    (hfl : c.out.any Out.isFail = true → c'.out.any Out.isFail = true) (hfr : c.s.freed = true → c'.s.freed = true) :
    Ord N f0 g0 t k c' :=
  ord_step h (by rw [hf, hdq]; exact h.srt) (fun j hj => Nat.lt_of_lt_of_le (h.lt j (hdq ▸ hj)) hnx) hnx hp
    (fun _ x => by rw [hf, hdq]; exact x.imp id Or.inl) hfl hfr

theorem ord_outs (l : List Out) (hl : ∀ o ∈ l, ∀ j, o.firstSn = some j → N ≤ j) (h : Ord N f0 g0 t k c) :
    Ord N f0 g0 t k { c with out := c.out ++ l } :=
  ord_keep h (by simp [firsts_append, firsts_quiet N l hl]) rfl (Nat.le_refl _) rfl
    (fun hb => by simp only [List.any_append, hb, Bool.true_or]) id

theorem ord_emit (o : Out) (ho : ∀ j, o.firstSn = some j → N ≤ j) (h : Ord N f0 g0 t k c) : Ord N f0 g0 t k (c.emit o) :=
  ord_outs [o] (by simpa using ho) h

theorem ord_emit_noFirst (o : Out) (h : Ord N f0 g0 t k c) (ho : o.firstSn = none := by rfl) : Ord N f0 g0 t k (c.emit o) :=
  ord_emit o (by simp [ho]) h

theorem ord_outs_noFirst (l : List Out) (hl : ∀ o ∈ l, o.firstSn = none) (h : Ord N f0 g0 t k c) :
    Ord N f0 g0 t k { c with out := c.out ++ l } :=
  ord_outs l (fun o ho j hj => by rw [hl o ho] at hj; cases hj) h

theorem ord_upd (f : Sess → Sess) (h : Ord N f0 g0 t k c) (hdq : (f c.s).delayq = c.s.delayq := by rfl)
    (hnx : c.s.next ≤ (f c.s).next := by exact Nat.le_refl _) (hp : (f c.s).proto = c.s.proto := by rfl)
    (hfr : c.s.freed = true → (f c.s).freed = true := by exact id) : Ord N f0 g0 t k (c.upd f) :=
  ord_keep h rfl (by show fresh0 (f c.s).delayq = _; rw [hdq]) hnx hp id hfr

theorem Out.silent_firstSn {o : Out} (h : o.silent = true) : o.firstSn = none ∧ o.isFail = false := by
  cases o <;> first | exact ⟨rfl, rfl⟩ | cases h

theorem ord_tame {c' : Ctx} (h : Ord N f0 g0 t k c) (tm : Tame c c') : Ord N f0 g0 t k c' := by
  obtain ⟨l, ho, hs, _⟩ := tm.out
  refine ord_keep h ?_ (by rw [tm.dq]) (Nat.le_of_eq tm.nx.symm) tm.proto (fun hb => ?_) (fun hf => tm.fr ▸ hf)
  · have hq : ∀ o ∈ l, ∀ j, o.firstSn = some j → N ≤ j := fun o ho j hj => by
      rw [(Out.silent_firstSn (hs o ho)).1] at hj; cases hj
    rw [ho, firsts_append, firsts_quiet N l hq, List.append_nil]
  · rw [ho, List.any_append, hb, Bool.true_or]

/-- the delay queue is given up (coap_session_disconnected_lkd, coap_session_mfree) -/
theorem ord_dropq (f : Sess → Sess) (hdq : (f c.s).delayq = []) (hnx : c.s.next ≤ (f c.s).next)
    (hp : (f c.s).proto = c.s.proto) (hfr : c.s.freed = true → (f c.s).freed = true)
    (hg : c.out.any Out.isFail = true ∨ (f c.s).freed = true) (h : Ord N f0 g0 t k c) : Ord N f0 g0 t k (c.upd f) := by
  have he : fresh0 (c.upd f).s.delayq = [] := by show fresh0 (f c.s).delayq = []; rw [hdq]; rfl
  refine ord_step h ?_ (fun j hj => by rw [he] at hj; cases hj) hnx hp (fun _ _ => Or.inr (Or.inr hg)) id hfr
  rw [he]
  exact List.Pairwise.sublist (List.Sublist.append (List.Sublist.refl _) (List.nil_sublist _)) h.srt

/-- a message that may be handed to coap_send_pdu: a retransmission, or a message whose serial has just been handed out -/
def Adm (N : Nat) (m : QMsg) (c : Ctx) : Prop :=
  m.cnt ≠ 0 ∨ (N ≤ m.sn ∧ (∀ j ∈ fresh0 c.s.delayq, j < m.sn) ∧ m.sn < c.s.next)

theorem ord_enq (m : QMsg) (f : Sess → Sess) (hm : Adm N m c) (hdq : (f c.s).delayq = c.s.delayq ++ [m])
    (hnx : (f c.s).next = c.s.next) (hp : (f c.s).proto = c.s.proto) (hfr : (f c.s).freed = c.s.freed)
    (h : Ord N f0 g0 t k c) : Ord N f0 g0 t k (c.upd f) := by
  rcases hm with hm | ⟨m1, m2, m3⟩
  · refine ord_keep h rfl ?_ (by show c.s.next ≤ (f c.s).next; omega) hp id (by show _ → (f c.s).freed = true; rw [hfr]; exact id)
    show fresh0 (f c.s).delayq = _
    rw [hdq, fresh0_append]
    simp [fresh0, hm]
  · have hfa : fresh0 (f c.s).delayq = fresh0 c.s.delayq ++ (if m.cnt = 0 then [m.sn] else []) := by
      rw [hdq, fresh0_append]
      by_cases hc : m.cnt = 0 <;> simp [fresh0, hc]
    have hsub : (fresh0 (f c.s).delayq).Sublist (fresh0 c.s.delayq ++ [m.sn]) := by
      rw [hfa]; split <;> simp
    refine ord_step h ?_ (fun j hj => ?_) (Nat.le_of_eq hnx.symm) hp (fun _ x => ?_) id
      (fun b => by show (f c.s).freed = true; rw [hfr]; exact b)
    · show (f0 ++ firsts N c.out ++ fresh0 (f c.s).delayq).Pairwise (· < ·)
      refine List.Pairwise.sublist (List.Sublist.append (List.Sublist.refl _) hsub) ?_
      rw [← List.append_assoc, List.pairwise_append]
      refine ⟨h.srt, by simp, ?_⟩
      intro x hx y hy
      simp at hy; subst hy
      simp only [List.mem_append] at hx
      rcases hx with (hx | hx) | hx
      · have := h.f0lt x hx; omega
      · have := firsts_lt hx; omega
      · exact m2 x hx
    · show j < (f c.s).next
      rw [hnx]
      have := hsub.subset hj
      simp only [List.mem_append, List.mem_singleton] at this
      rcases this with hj | rfl
      · exact h.lt j hj
      · exact m3
    · exact x.imp (fun b => by show k ∈ fresh0 (f c.s).delayq; rw [hfa]; exact List.mem_append_left _ b) Or.inl

/-- coap_session_connected takes the head of the delay queue off and hands it to the transport: if it has never been
transmitted this is its first transmission, and it moves from the queue part of the ledger to the transmitted part -/
theorem ord_pop_emit (q : QMsg) (rest : List QMsg) (tls : Bool) (v : View) (ca : Nat) (hd : c.s.delayq = q :: rest)
    (h : Ord N f0 g0 t k c) :
    Ord N f0 g0 t k ((c.upd fun s => { s with conActive := ca, delayq := rest }).emit (.tx tls v (some q.sn) q.cnt)) := by
  have hout : firsts N (c.out ++ [Out.tx tls v (some q.sn) q.cnt]) =
      firsts N c.out ++ (if q.cnt = 0 ∧ q.sn < N then [q.sn] else []) := by
    rw [firsts_append]
    congr 1
    by_cases h1 : q.cnt = 0 <;> by_cases h2 : q.sn < N <;> simp [firsts, Out.firstSn, h1, h2]
  have hq0 : fresh0 c.s.delayq = (if q.cnt = 0 then [q.sn] else []) ++ fresh0 rest := by
    rw [hd]; by_cases h1 : q.cnt = 0 <;> simp [fresh0, h1]
  have hsub : (f0 ++ (firsts N c.out ++ (if q.cnt = 0 ∧ q.sn < N then [q.sn] else [])) ++ fresh0 rest).Sublist
      (f0 ++ firsts N c.out ++ fresh0 c.s.delayq) := by
    rw [hq0]
    simp only [List.append_assoc]
    refine List.Sublist.append (List.Sublist.refl _) (List.Sublist.append (List.Sublist.refl _) ?_)
    refine List.Sublist.append ?_ (List.Sublist.refl _)
    by_cases h1 : q.cnt = 0 <;> by_cases h2 : q.sn < N <;> simp [h1, h2]
  refine ord_step h ?_ (fun j hj => ?_) (Nat.le_refl _) rfl (fun hk x => ?_) (fun b => ?_) id
  · show (f0 ++ firsts N (c.out ++ [_]) ++ fresh0 rest).Pairwise (· < ·)
    rw [hout]
    exact List.Pairwise.sublist hsub h.srt
  · exact h.lt j (by rw [hq0]; exact List.mem_append_right _ hj)
  · show k ∈ fresh0 rest ∨ k ∈ f0 ++ firsts N (c.out ++ [_]) ∨ _
    rw [hout]
    rcases x with b | b
    · rw [hq0] at b
      rcases List.mem_append.mp b with b | b
      · -- the tracked serial is the head: this is its first transmission
        by_cases h1 : q.cnt = 0
        · simp only [h1, if_true, List.mem_singleton] at b
          subst b
          right; left
          simp [h1, hk]
        · simp [h1] at b
      · left; exact b
    · right; left
      simp only [List.mem_append] at b ⊢
      exact b.imp id Or.inl
  · show (c.out ++ [_]).any Out.isFail = true
    simp only [List.any_append, b, Bool.true_or]

theorem nackOf_noFirst (r : Nack) (l : List QMsg) : ∀ o ∈ l.map (nackOf r), o.firstSn = none := by
  intro o ho
  simp only [List.mem_map] at ho
  obtain ⟨q, _, rfl⟩ := ho
  rfl

theorem discOuts_noFirst (r : Nack) (c : Ctx) : ∀ o ∈ c.discOuts r, o.firstSn = none := by
  intro o ho
  rcases discOuts_nack r c o ho with ⟨q, rfl⟩ | rfl <;> rfl

theorem discOuts_fail (r : Nack) (hr : r ≠ .icmp) (c : Ctx) : (c.discOuts r).any Out.isFail = true := by
  have hall : ∀ o ∈ c.discOuts r, o.isFail = true := fun o ho => by
    rcases discOuts_nack r c o ho with ⟨q, rfl⟩ | rfl <;> simp [nackOf, Out.isFail, hr]
  have hne : c.discOuts r ≠ [] := by
    unfold Ctx.discOuts
    simp only
    cases c.discFirst r ++ c.discDq r ++ c.discLg r <;> simp
  obtain ⟨o, tl, e⟩ := List.exists_cons_of_ne_nil hne
  rw [e, List.any_cons, hall o (e ▸ List.mem_cons_self ..), Bool.true_or]

theorem disconnected_ord (r : Nack) (h : Ord N f0 g0 t k c) : Ord N f0 g0 t k (c.disconnected r) := by
  have h1 := ord_outs_noFirst _ (discOuts_noFirst r c) h
  rcases disconnected_cases r c with ⟨_, e⟩ | ⟨hr, tm⟩
  · rw [e]; exact h1
  · refine ord_tame ?_ tm
    unfold discCore
    refine ord_upd _ (ord_outs_noFirst _ (nackOf_noFirst _ _) ?_)
    refine ord_dropq _ rfl (Nat.le_refl _) rfl id (Or.inl ?_) h1
    show (c.out ++ c.discOuts r).any Out.isFail = true
    simp only [List.any_append, discOuts_fail r hr c, Bool.or_true]

theorem adm_tx (tls : Bool) (v : View) (m : QMsg) (ack : Bool) (hm : Adm N m c) :
    ∀ j, (Out.tx tls v (m.snOf ack) m.cnt).firstSn = some j → N ≤ j := by
  intro j hj
  unfold QMsg.snOf at hj
  cases ack
  · simp only [Bool.false_eq_true, if_false, Out.firstSn] at hj
    rcases hm with hm | ⟨hm, _⟩
    · simp [hm] at hj
    · split at hj
      · cases hj; exact hm
      · cases hj
  · simp [Out.firstSn] at hj

theorem sessionFree_ord (h : Ord N f0 g0 t k c) : Ord N f0 g0 t k c.sessionFree := by
  unfold Ctx.sessionFree
  simp only
  exact ord_dropq _ rfl (Nat.le_refl _) rfl (fun _ => rfl) (Or.inr rfl)
    (ord_outs_noFirst _ (nackOf_noFirst _ _) (ord_tame (ord_upd _ h) (tame_sessionClose _)))

theorem adm_next (m : QMsg) (hm : m.sn = c.s.next) (h : Ord N f0 g0 t k c) :
    Adm N m (c.upd fun s => { s with next := s.next + 1 }) :=
  Or.inr ⟨by rw [hm]; exact h.nx, fun j hj => by rw [hm]; exact h.lt j hj, by simp [Ctx.upd, hm]⟩

theorem ord_next (h : Ord N f0 g0 t k c) : Ord N f0 g0 t k (c.upd fun s => { s with next := s.next + 1 }) :=
  ord_upd _ h (hnx := Nat.le_succ _)

theorem adm_emit (m : QMsg) (o : Out) (hm : Adm N m c) : Adm N m (c.emit o) := hm

/-! ## through M: the ledger is closed under every move -/

theorem fresh0_subset {l l' : List QMsg} (h : ∀ q ∈ l', q ∈ l) : ∀ j ∈ fresh0 l', j ∈ fresh0 l :=
  fun _ hj => mem_fresh0.mpr ((mem_fresh0.mp hj).imp fun q hq => ⟨h q hq.1, hq.2⟩)

theorem Adm.mono {m : QMsg} {c c' : Ctx} (h : Adm N m c) (hdq : ∀ j ∈ fresh0 c'.s.delayq, j ∈ fresh0 c.s.delayq)
    (hnx : c.s.next ≤ c'.s.next) : Adm N m c' :=
  h.imp id fun ⟨a, b, d⟩ => ⟨a, fun j hj => b j (hdq j hj), Nat.lt_of_lt_of_le d hnx⟩

theorem disconnected_adm {m : QMsg} (r : Nack) (h : Adm N m c) : Adm N m (c.disconnected r) := by
  rcases disconnected_cases r c with ⟨_, e⟩ | ⟨_, tm⟩
  · rw [e]; exact h
  · exact Adm.mono (c := discCore c r) (h.mono (fun _ hj => by cases hj) (Nat.le_refl _)) (fun j hj => tm.dq ▸ hj)
      (Nat.le_of_eq tm.nx.symm)

/-- the ledger with what it knows about the PDU inside coap_send_internal (the ghost `f` of `Mv`): it is admissible -/
structure OrdF (N : Nat) (f0 : List Nat) (g0 t : Bool) (k : Nat) (f : Option QMsg) (c : Ctx) : Prop where
  ord : Ord N f0 g0 t k c
  adm : ∀ m, f = some m → Adm N m c

theorem ord_mv {g f p c g' f' p' c'} (mv : Mv g f p c g' f' p' c') (h : OrdF N f0 g0 t k f c) : OrdF N f0 g0 t k f' c' := by
  induction mv with
  | refl => exact h
  | trans _ _ ih1 ih2 => exact ih2 (ih1 h)
  | tame tm => exact ⟨ord_tame h.ord tm, fun m e => (h.adm m e).mono (fun _ hj => tm.dq ▸ hj) (Nat.le_of_eq tm.nx.symm)⟩
  | disc c r => exact ⟨disconnected_ord r h.ord, fun m e => disconnected_adm r (h.adm m e)⟩
  | free c => exact ⟨sessionFree_ord h.ord, fun _ e => nomatch e⟩
  | openSt _ => exact h
  | openEst _ => exact h
  | relax => exact h
  | mint m hm => exact ⟨ord_next h.ord, fun m' e => Option.some.inj e ▸ adm_next m hm h.ord⟩
  | burn => exact ⟨ord_next h.ord, fun m e => (h.adm m e).mono (fun _ hj => hj) (Nat.le_succ _)⟩
  | csm v =>
    refine ⟨ord_emit _ (fun j hj => ?_) (ord_next h.ord), fun m e => (h.adm m e).mono (fun _ hj => hj) (Nat.le_succ _)⟩
    cases hj
    exact h.ord.nx
  | enq m => exact ⟨ord_enq m _ (h.adm m rfl) rfl rfl rfl rfl h.ord, fun _ e => nomatch e⟩
  | txF m ack tls v _ => exact ⟨ord_emit _ (adm_tx tls v m ack (h.adm m rfl)) h.ord, h.adm⟩
  | keepF m => exact ⟨ord_upd _ h.ord, fun _ e => nomatch e⟩
  | dropF m => exact ⟨h.ord, fun _ e => nomatch e⟩
  | popTx q rest tls v ca hd _ =>
    refine ⟨ord_pop_emit q rest tls v ca hd h.ord, fun m e => ?_⟩
    exact (h.adm m e).mono (fresh0_subset fun x hx => by rw [hd]; exact List.mem_cons_of_mem _ hx) (Nat.le_refl _)
  | dropN q => exact h
  | report r q => exact ⟨ord_emit_noFirst _ h.ord, h.adm⟩
  | anon r => exact ⟨ord_emit_noFirst _ h.ord, h.adm⟩
  | requeue q hp => exact absurd hp (by rw [h.ord.proto]; decide)
  | @park _ _ _ c m _ hc =>
    refine ⟨ord_enq m _ (Or.inl hc) rfl rfl rfl rfl h.ord, fun m' e => (h.adm m' e).mono (fun j hj => ?_) (Nat.le_refl _)⟩
    have e0 : fresh0 (c.s.delayq ++ [m]) = fresh0 c.s.delayq := by rw [fresh0_append]; simp [fresh0, hc]
    exact e0 ▸ hj
  | @txN _ _ c m ack tls v _ hc _ => exact ⟨ord_emit _ (adm_tx (c := c) tls v m ack (Or.inl hc)) h.ord, h.adm⟩
  | req tok payload => exact ⟨ord_emit_noFirst _ h.ord, h.adm⟩
  | rsp tok code => exact ⟨ord_emit_noFirst _ h.ord, h.adm⟩
  -- every other move leaves the delay queue, the serial counter and the trace alone
  | _ => exact ⟨ord_upd _ h.ord, h.adm⟩

theorem ord_mv0 {g p c g' p' c'} (mv : Mv g none p c g' none p' c') (h : Ord N f0 g0 t k c) : Ord N f0 g0 t k c' :=
  (ord_mv mv ⟨h, fun _ e => nomatch e⟩).ord

/-- coap_retransmit: the PDU goes out (or to the delay queue) with retransmit_cnt ≥ 1 — never a first transmission -/
theorem retransmit_ord (mid : Nat) (h : Ord N f0 g0 t k c) : Ord N f0 g0 t k (c.retransmit mid) :=
  ord_mv0 (mv_retransmit (g := false) (p := []) mid) h

theorem dtlsEstablishClient_ord (h : Ord N f0 g0 t k c) : Ord N f0 g0 t k c.dtlsEstablishClient :=
  ord_mv0 (mv_dtlsEstablishClient (g := false) (p := [])) h

theorem stepCtx_ord (s : Sess) (e : Ev) (orc : List Orc) (h : Ord N f0 g0 t k { s := s, orc := orc }) :
    Ord N f0 g0 t k (s.stepCtx e orc) :=
  ord_mv0 (mv_stepCtx (g := false) (p := []) s e orc) h

/-! ## from one event to the next, whole histories -/

theorem ord_rebase (orc : List Orc) (h : Ord N f0 g0 t k c) :
    Ord N (f0 ++ firsts N c.out) (g0 || c.out.any Out.isFail) t k { s := c.s, orc := orc } := by
  refine ⟨by simpa using h.srt, h.lt, h.nx, ?_, h.proto, ?_⟩
  · intro j hj
    simp only [List.mem_append] at hj
    rcases hj with hj | hj
    · exact h.f0lt j hj
    · exact firsts_lt hj
  · intro ht
    obtain ⟨b1, b2⟩ := h.trk ht
    refine ⟨b1, ?_⟩
    rcases b2 with b | b | b | b | b
    · exact Or.inl b
    · exact Or.inr (Or.inl (by simpa using b))
    · exact Or.inr (Or.inr (Or.inl (by simp [b])))
    · exact Or.inr (Or.inr (Or.inl (by simp [b])))
    · exact Or.inr (Or.inr (Or.inr (Or.inr b)))

theorem run_ord (s : Sess) (evs : List (Ev × List Orc)) (h : Ord N f0 g0 t k { s := s }) :
    Ord N (f0 ++ firsts N (s.run evs).2) (g0 || (s.run evs).2.any Out.isFail) t k { s := (s.run evs).1 } := by
  refine Sess.run_ind (P := fun s tr => Ord N (f0 ++ firsts N tr) (g0 || tr.any Out.isFail) t k { s := s })
    (fun s tr e o h => ?_) evs s [] (by simpa using h)
  rw [firsts_append, List.any_append, ← List.append_assoc, ← Bool.or_assoc]
  exact ord_rebase [] (stepCtx_ord s e o (ord_keep h rfl rfl (Nat.le_refl _) rfl id id))

end
end Coap.TlsGate
