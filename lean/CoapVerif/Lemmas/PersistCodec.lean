import CoapVerif.Model.Persist
/- C17: the three record formats of `CoapVerif.Model.Persist` — what the writers emit, the readers read back. -/
namespace Coap.Persist

theorem le_length (k n : Nat) : (le k n).length = k := by
  induction k generalizing n with
  | zero => rfl
  | succ k ih => rw [le, List.length_cons, ih]

theorem unle_le (k n : Nat) (h : n < 256 ^ k) : unle (le k n) = n := by
  induction k generalizing n with
  | zero => rw [Nat.lt_one_iff.1 h]; rfl
  | succ k ih =>
    have h2 : n / 256 < 256 ^ k := Nat.div_lt_of_lt_mul (by rw [Nat.mul_comm]; exact h)
    rw [le, unle, ih _ h2, UInt8.toNat_ofNat', Nat.mod_mod_of_dvd _ (by decide)]
    exact Nat.mod_add_div n 256

theorem rdN_append (n : Nat) (a rest : Bytes) (hn : a.length = n) (h : 0 < n := by decide) :
    rdN n (a ++ rest) = some (a, rest) := by
  subst hn
  unfold rdN
  have h1 : ¬ (a.length = 0 ∨ (a ++ rest).length < a.length) := by
    simp only [List.length_append]
    omega
  rw [if_neg h1]
  simp

theorem rdN0_append (a rest : Bytes) : rdN0 a.length (a ++ rest) = some (a, rest) := by
  unfold rdN0
  by_cases h : a.length = 0
  · have : a = [] := List.eq_nil_of_length_eq_zero h
    subst this; simp
  · rw [if_neg h]; exact rdN_append _ a rest rfl (by omega)

theorem badLen_false (n : Nat) (h : n ≤ maxLen) : badLen n = false := by
  simp [badLen, maxLen] at *
  omega

theorem unle_le_len (n : Nat) (h : n ≤ maxLen) : unle (le szLen n) = n := by
  apply unle_le
  simp [szLen, maxLen] at *
  omega

theorem rdN_le (k n : Nat) (rest : Bytes) (h : 0 < k := by decide) :
    rdN k (le k n ++ rest) = some (le k n, rest) :=
  rdN_append k _ _ (le_length _ _) h

/-- record well-formedness: what the writer can emit and the reader accepts -/
structure DynRec.WF (r : DynRec) : Prop where
  proto : r.proto < 2 ^ 32
  name_le : r.name.length ≤ maxLen
  pkt_pos : 0 < r.pkt.length
  pkt_le : r.pkt.length ≤ maxLen

theorem dynRead_enc (r : DynRec) (rest : Bytes) (h : r.WF) :
    dynRead (encDyn r ++ rest) = ([szProto, szLen] ++ nz r.name.length ++ [szLen, r.pkt.length], some (r, rest)) := by
  have e : encDyn r ++ rest = le szProto r.proto ++ (le szLen r.name.length ++ (r.name ++
      (le szLen r.pkt.length ++ (r.pkt ++ rest)))) := by
    simp [encDyn, List.append_assoc]
  have hp : unle (le szProto r.proto) = r.proto := unle_le _ _ (by simpa [szProto] using h.proto)
  rw [e]
  unfold dynRead
  simp only [rdN_le szProto _ _, rdN_le szLen _ _, unle_le_len _ h.name_le, unle_le_len _ h.pkt_le,
    badLen_false _ h.name_le, badLen_false _ h.pkt_le, rdN0_append, rdN_append _ _ _ rfl h.pkt_pos, hp]
  simp

structure ObsRec.WF (r : ObsRec) : Prop where
  key : r.key < 2 ^ 64
  proto : r.proto < 2 ^ 32
  listen : r.listen.length = szAddr
  tuple : r.tuple.length = szTuple
  pkt_pos : 0 < r.pkt.length
  pkt_le : r.pkt.length ≤ maxLen
  osc : ∀ o, r.osc = some o → 0 < o.length ∧ o.length ≤ maxLen

theorem unle_le_minusOne : unle (le szLen minusOne) = minusOne := by
  apply unle_le
  decide

theorem ne_minusOne_of_le (n : Nat) (h : n ≤ maxLen) : ¬ (n = minusOne) := by
  simp [maxLen, minusOne] at *
  omega

theorem obsRead_enc (r : ObsRec) (rest : Bytes) (h : r.WF) :
    obsRead (encObs r ++ rest) = ((obsWrites r).map List.length, some (r, rest)) := by
  obtain ⟨key, proto, listen, tuple, pkt, osc⟩ := r
  obtain ⟨hkey, hproto, hl, ht, hpp, hpl, hosc⟩ := h
  have hk : unle (le szKey key) = key := unle_le _ _ hkey
  have hp : unle (le szProto proto) = proto := unle_le _ _ hproto
  cases osc with
  | none =>
    have e : encObs ⟨key, proto, listen, tuple, pkt, none⟩ ++ rest =
        le szKey key ++ (le szProto proto ++ (listen ++ (tuple ++ (le szLen pkt.length ++ (pkt ++
          (le szLen minusOne ++ rest)))))) := by
      simp [encObs, obsWrites, List.append_assoc]
    rw [e]
    unfold obsRead
    simp only [rdN_le szKey _ _, rdN_le szProto _ _, rdN_le szLen _ _, rdN_append _ _ _ hl, rdN_append _ _ _ ht,
      unle_le_len _ hpl, badLen_false _ hpl, rdN_append _ _ _ rfl hpp, hp, hk, unle_le_minusOne]
    simp [obsWrites, le_length, hl, ht]
  | some o =>
    have ho := hosc o rfl
    have e : encObs ⟨key, proto, listen, tuple, pkt, some o⟩ ++ rest =
        le szKey key ++ (le szProto proto ++ (listen ++ (tuple ++ (le szLen pkt.length ++ (pkt ++
          (le szLen o.length ++ (o ++ rest))))))) := by
      simp [encObs, obsWrites, List.append_assoc]
    rw [e]
    unfold obsRead
    simp only [rdN_le szKey _ _, rdN_le szProto _ _, rdN_le szLen _ _, rdN_append _ _ _ hl, rdN_append _ _ _ ht,
      unle_le_len _ hpl, badLen_false _ hpl, rdN_append _ _ _ rfl hpp, hp, hk,
      unle_le_len _ ho.2, badLen_false _ ho.2, rdN_append _ _ _ rfl ho.1, if_neg (ne_minusOne_of_le _ ho.2)]
    simp [obsWrites, le_length, hl, ht]

structure CntRec.WF (r : CntRec) : Prop where
  clean : ∀ b ∈ r.name, b ≠ 0 ∧ b ≠ 32 ∧ b ≠ 10     -- no NUL, space, newline in the resource name
  len : r.name.length + 13 ≤ cntBuf - 1             -- the line fits fgets' buffer
  val : r.val < 2 ^ 32

theorem isDigit_ne (b c : UInt8) (h : isDigit b = true) (hc : isDigit c = false := by decide) : b ≠ c := by
  intro e
  subst e
  rw [h] at hc
  exact Bool.noConfusion hc

theorem isDigit_not_space (b : UInt8) (h : isDigit b = true) : isSpace b = false := by
  have h1 : 48 ≤ b.toNat ∧ b.toNat ≤ 57 := by simpa [isDigit] using h
  have h2 : b ≠ 32 := isDigit_ne b 32 h
  simp [isSpace, h2]
  omega

theorem toNat_digit (n : Nat) (h : n < 10) : (UInt8.ofNat (48 + n)).toNat = 48 + n := by
  rw [UInt8.toNat_ofNat']; exact Nat.mod_eq_of_lt (by omega)

theorem isDigit_ofNat (n : Nat) (h : n < 10) : isDigit (UInt8.ofNat (48 + n)) = true := by
  rw [isDigit, toNat_digit n h]
  simp only [Bool.and_eq_true, decide_eq_true_eq]
  omega

theorem decF_digit (f n : Nat) : ∀ b ∈ decF f n, isDigit b = true := by
  induction f generalizing n with
  | zero => simp [decF]
  | succ f ih =>
    intro b hb
    unfold decF at hb
    split at hb
    · simp only [List.mem_singleton] at hb
      subst hb
      exact isDigit_ofNat n (by assumption)
    · simp only [List.mem_append, List.mem_singleton] at hb
      rcases hb with hb | hb
      · exact ih _ b hb
      · subst hb
        exact isDigit_ofNat (n % 10) (by omega)

theorem decF_length_le (f n : Nat) : (decF f n).length ≤ f := by
  induction f generalizing n with
  | zero => simp [decF]
  | succ f ih =>
    unfold decF
    split
    · simp
    · have := ih (n / 10)
      simp
      omega

theorem decF_ne_nil (f n : Nat) : decF (f + 1) n ≠ [] := by
  unfold decF
  split <;> simp

theorem atoiGo_digit (acc n : Nat) (h : n < 10) (rest : Bytes) :
    atoiGo acc (UInt8.ofNat (48 + n) :: rest) = atoiGo (acc * 10 + n) rest := by
  simp only [atoiGo, isDigit_ofNat n h, toNat_digit n h, Nat.add_sub_cancel_left, if_true]

theorem atoiGo_decF (f n : Nat) (h : n < 10 ^ f) (rest : Bytes) :
    atoiGo 0 (decF f n ++ rest) = atoiGo n rest := by
  induction f generalizing n rest with
  | zero => rw [Nat.lt_one_iff.1 h]; rfl
  | succ f ih =>
    unfold decF
    split
    · next hlt => rw [List.singleton_append, atoiGo_digit 0 n hlt rest, Nat.zero_mul, Nat.zero_add]
    · have h2 : n / 10 < 10 ^ f := Nat.div_lt_of_lt_mul (by rw [Nat.mul_comm]; exact h)
      rw [List.append_assoc, ih _ h2, List.singleton_append,
        atoiGo_digit (n / 10) (n % 10) (Nat.mod_lt _ (by decide)) rest, Nat.div_add_mod']

theorem atoi_of_digit (d : UInt8) (tl : Bytes) (h : isDigit d = true) :
    atoi (d :: tl) = atoiGo 0 (d :: tl) % 2 ^ 32 := by
  unfold atoi
  have e : List.dropWhile isSpace (d :: tl) = d :: tl := by
    simp [isDigit_not_space d h]
  rw [e]
  split
  · rename_i heq
    injection heq with h1 h2
    exact absurd h1 (isDigit_ne d 45 h)
  · rename_i heq
    injection heq with h1 h2
    exact absurd h1 (isDigit_ne d 43 h)
  · rfl

theorem atoi_decimal (n : Nat) (h : n < 2 ^ 32) (rest : Bytes) : atoi (decimal n ++ 10 :: rest) = n := by
  unfold decimal
  have hne := decF_ne_nil 9 n
  have hd := decF_digit 10 n
  have hgo : atoiGo 0 (decF 10 n ++ 10 :: rest) = n := atoiGo_decF 10 n (Nat.lt_trans h (by decide)) (10 :: rest)
  generalize decF 10 n = l at hne hd hgo
  cases l with
  | nil => exact absurd rfl hne
  | cons d tl => rw [List.cons_append, atoi_of_digit d _ (hd d List.mem_cons_self), ← List.cons_append, hgo,
      Nat.mod_eq_of_lt h]

theorem takeWhile_all {α} (p : α → Bool) (l : List α) (h : ∀ b ∈ l, p b = true) : l.takeWhile p = l := by
  have := List.takeWhile_append_of_pos (l₂ := []) h
  rwa [List.append_nil, List.takeWhile_nil, List.append_nil] at this

theorem takeWhile_stop {α} (p : α → Bool) (l : List α) (x : α) (tl : List α)
    (h : ∀ b ∈ l, p b = true) (hx : p x = false) : (l ++ x :: tl).takeWhile p = l := by
  rw [List.takeWhile_append_of_pos h, List.takeWhile_cons_of_neg (by rw [hx]; decide), List.append_nil]

theorem lineOf_append (n : Nat) (a rest : Bytes) (h : ∀ b ∈ a, b ≠ 10) (hl : a.length + 1 ≤ n) :
    lineOf n (a ++ 10 :: rest) = a ++ [10] := by
  induction a generalizing n with
  | nil =>
    cases n with
    | zero => simp at hl
    | succ n => simp [lineOf]
  | cons b t ih =>
    cases n with
    | zero => simp at hl
    | succ n =>
      have hb : b ≠ 10 := h b (by simp)
      simp only [List.cons_append, lineOf, if_neg hb]
      rw [ih n (fun c hc => h c (by simp [hc])) (by simp at hl; omega)]

/-- `cntLine` on a non-empty stream, given the line `fgets` returns and the key `strchr` delimits -/
theorem cntLine_some {bs line key : Bytes} (hne : bs ≠ []) (hline : lineOf (cntBuf - 1) bs = line)
    (hkey : (cstr line).takeWhile (· ≠ 32) = key) (hk : key.length ≠ (cstr line).length) :
    cntLine bs = some (some ⟨key, atoi ((cstr line).drop (key.length + 1))⟩, bs.drop line.length) := by
  subst hline hkey
  cases bs with
  | nil => exact absurd rfl hne
  | cons b t => exact if_neg hk

theorem cstr_clean (l : Bytes) (h : ∀ b ∈ l, b ≠ 0) : cstr l = l :=
  takeWhile_all _ l fun b hb => decide_eq_true (h b hb)

theorem cntLine_enc (r : CntRec) (rest : Bytes) (h : r.WF) :
    cntLine (encCnt r ++ rest) = some (some r, rest) := by
  obtain ⟨name, val⟩ := r
  obtain ⟨hclean, hlen, hval⟩ := h
  have hlen : name.length + 13 ≤ cntBuf - 1 := hlen
  have hat : atoi (decF 10 val ++ [10]) = val := atoi_decimal val hval []
  have hdig := decF_digit 10 val
  have hdl := decF_length_le 10 val
  unfold encCnt decimal
  rw [cstr_clean name fun b hb => (hclean b hb).1]
  generalize decF 10 val = ds at hat hdig hdl
  -- the stream is `line ++ rest` with `line = name ++ ' ' :: ds ++ ['\n']`; only the newline is a newline, nothing is NUL
  have e : name ++ [32] ++ ds ++ [10] ++ rest = (name ++ 32 :: ds) ++ 10 :: rest := by
    simp only [List.append_assoc, List.cons_append, List.nil_append]
  have eline : (name ++ 32 :: ds) ++ [10] = name ++ 32 :: (ds ++ [10]) := List.append_assoc _ _ _
  have hbody : ∀ b ∈ name ++ 32 :: ds, b ≠ 0 ∧ b ≠ 10 :=
    List.forall_mem_append.2 ⟨fun b hb => ⟨(hclean b hb).1, (hclean b hb).2.2⟩,
      List.forall_mem_cons.2 ⟨by decide, fun b hb =>
        ⟨isDigit_ne b 0 (hdig b hb), isDigit_ne b 10 (hdig b hb)⟩⟩⟩
  have hcstr : cstr ((name ++ 32 :: ds) ++ [10]) = (name ++ 32 :: ds) ++ [10] :=
    cstr_clean _ (List.forall_mem_append.2 ⟨fun b hb => (hbody b hb).1, List.forall_mem_singleton.2 (by decide)⟩)
  have hlen' : (name ++ 32 :: ds).length = name.length + (ds.length + 1) := by
    rw [List.length_append, List.length_cons]
  rw [e, cntLine_some (line := (name ++ 32 :: ds) ++ [10]) (key := name) (List.append_ne_nil_of_right_ne_nil _ (List.cons_ne_nil _ _))
    (lineOf_append _ _ _ (fun b hb => (hbody b hb).2) (by rw [hlen']; omega))
    (by rw [hcstr, eline]
        exact takeWhile_stop _ name 32 _ (fun b hb => decide_eq_true (hclean b hb).2.1) (by decide))
    (by rw [hcstr, List.length_append, hlen']; omega)]
  rw [hcstr, List.append_cons _ 10 rest, List.drop_left, eline, List.append_cons name 32,
    List.drop_left' (l₁ := name ++ [32]) (l₂ := ds ++ [10]) (i := name.length + 1) List.length_append, hat]

example : DynRec.WF ⟨1, [97], [80, 3]⟩ := ⟨by decide, by decide, by decide, by decide⟩
example : DynRec.WF ⟨1, [], [80, 3]⟩ := ⟨by decide, by decide, by decide, by decide⟩

example : ObsRec.WF ⟨5, 1, List.replicate 32 0, List.replicate 64 0, [64, 1], none⟩ :=
  ⟨by decide, by decide, by decide, by decide, by decide, by decide, by intro o ho; cases ho⟩

example : ObsRec.WF ⟨5, 1, List.replicate 32 0, List.replicate 64 0, [64, 1], some [7]⟩ :=
  ⟨by decide, by decide, by decide, by decide, by decide, by decide,
   by intro o ho; cases ho; exact ⟨by decide, by decide⟩⟩

example : CntRec.WF ⟨[97, 47, 98], 1234⟩ := ⟨by decide, by decide, by decide⟩

end Coap.Persist
