import CoapVerif.Model.Persist
/- C17: how the op sequences of the updaters act on the file system.  `Safe` / `Shape`: an update cannot touch a save
file before its final `rename`, hence is atomic under process kill.  `Body` / `frame` / `writesOf`: a rewrite leaves in
the save file what its body wrote.  Then the copy loops are brought into these forms, and the three save files with their
two updaters each are instances of one interface (`RecFile`), which carries what an update leaves, on bytes and on records. -/
namespace Coap.Persist
open Op Name

/-- ops of an update of file `F` before its `rename`: reads anywhere, writes only to `F`'s temporary file -/
def Safe (F : FileId) : Op → Prop
  | .fopen _ .r => True
  | .fopen n _ => n = tmp F
  | .fread _ _ => True
  | .fgets _ _ => True
  | .fwrite n _ => n = tmp F
  | .fflush n => n = tmp F
  | .fclose n => n = tmp F ∨ ∃ G, n = main G
  | .rename _ _ => False
  | .remove _ => False

def NoMainWr (fs : FS) : Prop := ∀ G, fs.wr (main G) = none

theorem upd_ne {f : Name → Option Bytes} {n m : Name} {v} (h : m ≠ n) : upd f n v m = f m := if_neg h

theorem upd_same {f : Name → Option Bytes} {n : Name} {v} : upd f n v n = v := by
  simp [upd]

theorem upd_tmp_main {f : Name → Option Bytes} {F : FileId} {v} (G : FileId) : upd f (tmp F) v (main G) = f (main G) :=
  upd_ne Name.noConfusion

theorem step_safe (F : FileId) (fs : FS) (op : Op) (hs : Safe F op) (hw : NoMainWr fs) :
    NoMainWr (step fs op) ∧ ∀ G, (step fs op).disk (main G) = fs.disk (main G) := by
  -- an op on the temporary file changes `wr` and `disk` at `tmp F` only
  have hwr : ∀ d w r, NoMainWr ⟨d, upd fs.wr (tmp F) w, r⟩ := fun _ w _ G => (upd_tmp_main (f := fs.wr) (F := F) (v := w) G).trans (hw G)
  have hdk : ∀ v (G : FileId), upd fs.disk (tmp F) v (main G) = fs.disk (main G) := fun v G => upd_tmp_main G
  cases op with
  | fopen n m =>
    cases m with
    | r => simp only [step]; cases fs.disk n <;> exact ⟨hw, fun _ => rfl⟩
    | _ => obtain rfl : n = tmp F := hs; simp only [step]; exact ⟨hwr _ _ _, hdk _⟩
  | fread n _ | fgets n _ => simp only [step]; cases fs.rd n <;> exact ⟨hw, fun _ => rfl⟩
  | fwrite n bs =>
    obtain rfl : n = tmp F := hs
    simp only [step]
    cases fs.wr (tmp F) with
    | none => exact ⟨hw, fun _ => rfl⟩
    | some b => exact ⟨hwr _ _ _, fun _ => rfl⟩
  | fflush n =>
    obtain rfl : n = tmp F := hs
    simp only [step]
    cases fs.wr (tmp F) with
    | none => exact ⟨hw, fun _ => rfl⟩
    | some b => exact ⟨hwr _ _ _, hdk (flushed fs (tmp F))⟩
  | fclose n =>
    rcases hs with rfl | ⟨G0, rfl⟩
    · exact ⟨hwr _ _ _, hdk (flushed fs (tmp F))⟩
    · -- closing a save file that is open for reading only: nothing to flush
      have hf : flushed fs (main G0) = fs.disk (main G0) := by unfold flushed; rw [hw G0]
      -- `wr` and `disk` are updated at `main G0`: with `none`, which it held, and with its own contents
      exact ⟨fun G => Coap.ite_ind (P := (· = none)) (fun _ => rfl) fun _ => hw G,
        fun G => Coap.ite_ind (P := (· = fs.disk (main G))) (fun h => by rw [hf, h]) fun _ => rfl⟩
  | rename _ _ | remove _ => exact hs.elim

theorem exec_safe (F : FileId) (ops : List Op) (fs : FS) (hs : ∀ op ∈ ops, Safe F op) (hw : NoMainWr fs) :
    NoMainWr (exec fs ops) ∧ ∀ G, (exec fs ops).disk (main G) = fs.disk (main G) :=
  Coap.foldl_inv_mem (fun s => NoMainWr s ∧ ∀ G, s.disk (main G) = fs.disk (main G)) ops
    (fun op hop s h =>
      have h1 := step_safe F s op (hs op hop) h.1
      ⟨h1.1, fun G => (h1.2 G).trans (h.2 G)⟩)
    fs ⟨hw, fun _ => rfl⟩

theorem exec_append (fs : FS) (a b : List Op) : exec fs (a ++ b) = exec (exec fs a) b :=
  List.foldl_append

theorem crashDisk_main (fs : FS) (hw : NoMainWr fs) (keep : Name → Nat) (G : FileId) :
    crashDisk fs keep (main G) = fs.disk (main G) := by
  simp only [crashDisk, hw G]
  cases fs.disk (main G) <;> rfl

/-- `ops = pre` without the `rename`: a deletion that finds no save file stops after the failed `fopen` -/
def Shape (F : FileId) (ops : List Op) : Prop :=
  ∃ pre, (∀ op ∈ pre, Safe F op) ∧ (ops = pre ∨ ops = pre ++ [rename (tmp F) (main F)])

theorem exec_shape {F : FileId} {ops : List Op} (hsh : Shape F ops) (fs : FS) (hw : NoMainWr fs) :
    NoMainWr (exec fs ops) ∧ ∀ G, G ≠ F → (exec fs ops).disk (main G) = fs.disk (main G) := by
  obtain ⟨pre, hpre, h | h⟩ := hsh
  · rw [h]
    exact ⟨(exec_safe F pre fs hpre hw).1, fun G _ => (exec_safe F pre fs hpre hw).2 G⟩
  · have h1 := exec_safe F pre fs hpre hw
    rw [h, exec_append]
    generalize exec fs pre = fs1 at h1 ⊢
    simp only [exec, List.foldl, step]
    cases fs1.disk (tmp F) with
    | none => exact ⟨h1.1, fun G _ => h1.2 G⟩
    | some c =>
      refine ⟨h1.1, fun G hG => ?_⟩
      have hne : main G ≠ main F := fun h => hG (Name.main.inj h)
      show upd (upd fs1.disk (main F) (some c)) (tmp F) none (main G) = fs.disk (main G)
      rw [upd_tmp_main, upd_ne hne]
      exact h1.2 G

theorem shape_atomic (F : FileId) (ops : List Op) (hsh : Shape F ops) (fs : FS) (hw : NoMainWr fs) (k : Nat)
    (keep : Name → Nat) :
    (∀ G, crashDisk (exec fs (ops.take k)) keep (main G) = fs.disk (main G)) ∨
    (∀ G, crashDisk (exec fs (ops.take k)) keep (main G) = (exec fs ops).disk (main G)) := by
  -- killed before the `rename`: only safe ops have run
  have hsafe : ∀ pre : List Op, (∀ op ∈ pre, Safe F op) → ∀ G,
      crashDisk (exec fs (pre.take k)) keep (main G) = fs.disk (main G) := by
    intro pre hpre G
    have := exec_safe F (pre.take k) fs (fun o ho => hpre o (List.mem_of_mem_take ho)) hw
    rw [crashDisk_main _ this.1, this.2]
  have hall := exec_shape hsh fs hw
  obtain ⟨pre, hpre, h | h⟩ := hsh
  · rw [h]
    exact Or.inl (hsafe pre hpre)
  · by_cases hk : k ≤ pre.length
    · rw [h, List.take_append_of_le_length hk]
      exact Or.inl (hsafe pre hpre)
    · rw [List.take_of_length_le (by rw [h, List.length_append, List.length_singleton]; omega)]
      exact Or.inr fun G => crashDisk_main _ hall.1 keep G

def writesOf (n : Name) : List Op → Bytes
  | [] => []
  | .fwrite m bs :: r => if m = n then bs ++ writesOf n r else writesOf n r
  | _ :: r => writesOf n r

def Body (F : FileId) : Op → Prop
  | .fread _ _ => True
  | .fgets _ _ => True
  | .fwrite n _ => n = tmp F
  | _ => False

theorem Body.safe {F : FileId} {op : Op} (h : Body F op) : Safe F op := by
  cases op with
  | fread _ _ => trivial
  | fgets _ _ => trivial
  | fwrite _ _ => exact h
  | _ => exact h.elim

theorem writesOf_append (n : Name) (a b : List Op) : writesOf n (a ++ b) = writesOf n a ++ writesOf n b := by
  induction a with
  | nil => rfl
  | cons op r ih =>
    cases op with
    | fwrite m bs =>
      simp only [List.cons_append, writesOf, ih]
      split
      · rw [List.append_assoc]
      · rfl
    | _ => exact ih

theorem step_body {F : FileId} {op : Op} (hop : Body F op) {fs : FS} {buf : Bytes} (hw : fs.wr (tmp F) = some buf) :
    (step fs op).wr (tmp F) = some (buf ++ writesOf (tmp F) [op]) ∧ (step fs op).disk = fs.disk := by
  cases op with
  | fread n _ | fgets n _ =>
    simp only [step]
    cases fs.rd n <;> exact ⟨hw.trans (congrArg some (List.append_nil buf).symm), rfl⟩
  | fwrite n bs =>
    obtain rfl : n = tmp F := hop
    have hs : step fs (fwrite (tmp F) bs) = { fs with wr := upd fs.wr (tmp F) (some (buf ++ bs)) } := by
      simp only [step, hw]
    rw [hs]
    exact ⟨upd_same.trans (by rw [writesOf, if_pos rfl, writesOf, List.append_nil]), rfl⟩
  | _ => exact hop.elim

theorem exec_body (F : FileId) (ops : List Op) : ∀ (fs : FS) (buf : Bytes), (∀ op ∈ ops, Body F op) →
    fs.wr (tmp F) = some buf →
    (exec fs ops).wr (tmp F) = some (buf ++ writesOf (tmp F) ops) ∧ (exec fs ops).disk = fs.disk := by
  induction ops with
  | nil => intro fs buf _ h; exact ⟨by rw [writesOf, List.append_nil]; exact h, rfl⟩
  | cons op r ih =>
    intro fs buf hb hw
    obtain ⟨h1, h2⟩ := step_body (hb op List.mem_cons_self) hw
    obtain ⟨h3, h4⟩ := ih (step fs op) _ (fun o ho => hb o (List.mem_cons_of_mem _ ho)) h1
    exact ⟨h3.trans (by rw [List.append_assoc, ← writesOf_append]; rfl), h4.trans h2⟩

/-- the common frame of all six updaters: open, body, flush, close, [close the original], rename -/
def frame (F : FileId) (body : List Op) (closeMain : Bool) : List Op :=
  [fopen (main F) .r, fopen (tmp F) .wp] ++ body ++ [fflush (tmp F), fclose (tmp F)] ++
  (if closeMain then [fclose (main F)] else []) ++ [rename (tmp F) (main F)]

theorem flushed_eq {fs : FS} {n : Name} {c buf : Bytes} (hd : fs.disk n = some c) (hw : fs.wr n = some buf) :
    flushed fs n = some (c ++ buf) := by
  unfold flushed; rw [hw, hd]; rfl

/-- no hypothesis on the file system: only the temporary file's contents and buffer have to be followed -/
theorem frame_result (F : FileId) (body : List Op) (closeMain : Bool) (fs : FS) (hb : ∀ op ∈ body, Body F op) :
    (exec fs (frame F body closeMain)).disk (main F) = some (writesOf (tmp F) body) := by
  have hne : tmp F ≠ main F := Name.noConfusion
  -- `fopen "w+"` creates the temporary file empty, with an empty buffer
  let fs2 := exec fs [fopen (main F) .r, fopen (tmp F) .wp]
  have h2 : fs2.wr (tmp F) = some [] ∧ fs2.disk (tmp F) = some [] := by
    simp only [fs2, exec, List.foldl, step]; exact ⟨upd_same, upd_same⟩
  let fs3 := exec fs2 body
  obtain ⟨h3w, h3d⟩ := exec_body F body fs2 [] hb h2.1
  have h3w : fs3.wr (tmp F) = some (writesOf (tmp F) body) := h3w
  have h3d : fs3.disk (tmp F) = some [] := by rw [show fs3.disk = fs2.disk from h3d]; exact h2.2
  let fs4 := step fs3 (fflush (tmp F))
  have h4 : fs4.disk (tmp F) = some (writesOf (tmp F) body) ∧ fs4.wr (tmp F) = some [] := by
    simp only [fs4, step, h3w]
    exact ⟨upd_same.trans (flushed_eq h3d h3w), upd_same⟩
  let fs5 := step fs4 (fclose (tmp F))
  have h5 : fs5.disk (tmp F) = some (writesOf (tmp F) body) :=
    upd_same.trans ((flushed_eq h4.1 h4.2).trans (by rw [List.append_nil]))
  let fs6 := exec fs5 (if closeMain then [fclose (main F)] else [])
  have h6 : fs6.disk (tmp F) = some (writesOf (tmp F) body) := by
    cases closeMain with
    | false => exact h5
    | true =>
      show upd fs5.disk (main F) (flushed fs5 (main F)) (tmp F) = _
      rw [upd_ne hne]; exact h5
  have hall : exec fs (frame F body closeMain) = step fs6 (rename (tmp F) (main F)) := by
    simp only [frame, exec_append]
    rfl
  rw [hall]
  simp only [step, h6]
  rw [upd_ne hne.symm]; exact upd_same

theorem frame_shape {F : FileId} {ops body : List Op} {closeMain : Bool} (hb : ∀ op ∈ body, Body F op)
    (he : ops = frame F body closeMain) : Shape F ops := by
  refine ⟨[fopen (main F) .r, fopen (tmp F) .wp] ++ body ++ [fflush (tmp F), fclose (tmp F)] ++
      (if closeMain then [fclose (main F)] else []), ?_, Or.inr he⟩
  intro op h
  simp only [List.mem_append, List.mem_cons, List.not_mem_nil, or_false] at h
  rcases h with (((rfl | rfl) | h) | (rfl | rfl)) | h
  · trivial
  · rfl
  · exact (hb op h).safe
  · rfl
  · exact Or.inl rfl
  · cases closeMain with
    | false => cases h
    | true => obtain rfl := List.mem_singleton.1 h; exact Or.inr ⟨F, rfl⟩

theorem readsFrom_body (F : FileId) (n : Name) (szs : List Nat) : ∀ op ∈ readsFrom n szs, Body F op := by
  intro op h; obtain ⟨s, _, rfl⟩ := List.mem_map.1 h; trivial

theorem writesTo_body (F : FileId) (ws : List Bytes) : ∀ op ∈ writesTo (tmp F) ws, Body F op := by
  intro op h; obtain ⟨s, _, rfl⟩ := List.mem_map.1 h; rfl

theorem writesOf_reads (n m : Name) (szs : List Nat) : writesOf n (readsFrom m szs) = [] := by
  induction szs with
  | nil => rfl
  | cons s r ih => exact ih

theorem writesOf_writes (n : Name) (ws : List Bytes) : writesOf n (writesTo n ws) = ws.flatten := by
  induction ws with
  | nil => rfl
  | cons s r ih =>
    show writesOf n (fwrite n s :: writesTo n r) = _
    rw [writesOf, if_pos rfl, ih, List.flatten_cons]

theorem dynWrites_flatten (r : DynRec) : (dynWrites r).flatten = encDyn r := by
  by_cases h : r.name.length = 0
  · have : r.name = [] := List.eq_nil_of_length_eq_zero h
    simp [dynWrites, encDyn, this]
  · simp [dynWrites, encDyn, h]

theorem forall_mem_ite_nil {α} {P : α → Prop} {c : Prop} [Decidable c] {l : List α} (h : ∀ x ∈ l, P x) :
    ∀ x ∈ (if c then l else []), P x :=
  Coap.ite_ind (P := fun l => ∀ x ∈ l, P x) (fun _ => h) fun _ _ hx => nomatch hx

theorem dynCopy_spec (name : Bytes) : ∀ fuel bs, (∀ op ∈ dynCopy name fuel bs, Body .dyn op) ∧
    writesOf (tmp .dyn) (dynCopy name fuel bs) = ((dynAll fuel bs).filter (·.name ≠ name)).flatMap encDyn := by
  intro fuel
  induction fuel with
  | zero => exact fun _ => ⟨fun _ h => (nomatch h), rfl⟩
  | succ fuel ih =>
    intro bs
    simp only [dynCopy, dynAll]
    rcases dynRead bs with ⟨szs, _ | ⟨r, rest⟩⟩
    · exact ⟨readsFrom_body _ _ _, writesOf_reads _ _ _⟩
    · refine ⟨List.forall_mem_append.2 ⟨List.forall_mem_append.2
        ⟨readsFrom_body _ _ _, forall_mem_ite_nil (writesTo_body _ _)⟩, (ih rest).1⟩, ?_⟩
      simp only [writesOf_append, writesOf_reads, (ih rest).2, List.nil_append]
      by_cases hn : r.name ≠ name
      · simp [hn, writesOf_writes, dynWrites_flatten]
      · simp [hn, writesOf]

theorem obsCopy_spec (key : Nat) : ∀ fuel bs, (∀ op ∈ obsCopy key fuel bs, Body .obs op) ∧
    writesOf (tmp .obs) (obsCopy key fuel bs) = ((obsAll fuel bs).filter (·.key ≠ key)).flatMap encObs := by
  intro fuel
  induction fuel with
  | zero => exact fun _ => ⟨fun _ h => (nomatch h), rfl⟩
  | succ fuel ih =>
    intro bs
    simp only [obsCopy, obsAll]
    rcases obsRead bs with ⟨szs, _ | ⟨r, rest⟩⟩
    · exact ⟨readsFrom_body _ _ _, writesOf_reads _ _ _⟩
    · refine ⟨List.forall_mem_append.2 ⟨List.forall_mem_append.2
        ⟨readsFrom_body _ _ _, forall_mem_ite_nil (writesTo_body _ _)⟩, (ih rest).1⟩, ?_⟩
      simp only [writesOf_append, writesOf_reads, (ih rest).2, List.nil_append]
      by_cases hn : r.key ≠ key
      · simp [hn, writesOf_writes, encObs]
      · simp [hn, writesOf]

theorem cntCopy_spec (name : Bytes) : ∀ fuel bs, (∀ op ∈ cntCopy name fuel bs, Body .cnt op) ∧
    writesOf (tmp .cnt) (cntCopy name fuel bs) = ((cntAll fuel bs).filter (·.name ≠ name)).flatMap encCnt := by
  intro fuel
  induction fuel with
  | zero => exact fun _ => ⟨fun _ h => (nomatch h), rfl⟩
  | succ fuel ih =>
    intro bs
    simp only [cntCopy, cntAll]
    rcases cntLine bs with _ | ⟨_ | r, rest⟩
    · exact ⟨List.forall_mem_singleton.2 trivial, rfl⟩
    · exact ⟨List.forall_mem_singleton.2 trivial, rfl⟩
    · refine ⟨List.forall_mem_append.2 ⟨List.forall_mem_cons.2
        ⟨trivial, forall_mem_ite_nil (List.forall_mem_singleton.2 rfl)⟩, (ih rest).1⟩, ?_⟩
      by_cases hn : r.name ≠ name
      · simp [hn, writesOf, (ih rest).2]
      · simp [hn, writesOf, (ih rest).2]

theorem dynCopy_safe (name : Bytes) : ∀ fuel bs, ∀ op ∈ dynCopy name fuel bs, Safe .dyn op :=
  fun fuel bs op ho => ((dynCopy_spec name fuel bs).1 op ho).safe

theorem obsCopy_safe (key : Nat) : ∀ fuel bs, ∀ op ∈ obsCopy key fuel bs, Safe .obs op :=
  fun fuel bs op ho => ((obsCopy_spec key fuel bs).1 op ho).safe

theorem cntCopy_safe (name : Bytes) : ∀ fuel bs, ∀ op ∈ cntCopy name fuel bs, Safe .cnt op :=
  fun fuel bs op ho => ((cntCopy_spec name fuel bs).1 op ho).safe

inductive Updater
  | dynAdded (r : DynRec)
  | dynDeleted (name : Bytes)
  | obsAdded (r : ObsRec)
  | obsDeleted (key : Nat)
  | cntTrack (r : CntRec)
  | cntDeleted (name : Bytes)

def Updater.file : Updater → FileId
  | .dynAdded _ | .dynDeleted _ => .dyn
  | .obsAdded _ | .obsDeleted _ => .obs
  | .cntTrack _ | .cntDeleted _ => .cnt

def Updater.ops (fs : FS) : Updater → List Op
  | .dynAdded r => Persist.dynAdded fs r
  | .dynDeleted n => Persist.dynDeleted fs n
  | .obsAdded r => Persist.obsAdded fs r
  | .obsDeleted k => Persist.obsDeleted fs k
  | .cntTrack r => Persist.cntTrack fs r
  | .cntDeleted n => Persist.cntDeleted fs n

theorem content_of_missing {fs : FS} {n : Name} (h : exists? fs n = false) : content fs n = [] := by
  unfold exists? at h; unfold content
  cases hd : fs.disk n with
  | none => rfl
  | some c => rw [hd] at h; cases h

theorem exec_fopen_missing {fs : FS} {n : Name} (h : exists? fs n = false) :
    exec fs [fopen n .r] = fs ∧ fs.disk n = none := by
  unfold exists? at h
  cases hd : fs.disk n with
  | none => exact ⟨by simp only [exec, List.foldl, step, hd], rfl⟩
  | some c => rw [hd] at h; cases h

abbrev onFile {β : Type} (loop : Nat → Bytes → β) (F : FileId) (fs : FS) : β :=
  loop ((content fs (main F)).length + 1) (content fs (main F))

/-- A save file of libcoap's observe persistence (`dyn_resource_save_file`, `observe_save_file`, `obs_cnt_save_file` of
`coap_persist_startup`): records written one behind the other by `enc`.  `all` is the loop of the file's loader, `copy k`
the loop its two call-outs share, which writes every record it decodes again except the one whose `key` is `k`; `add` puts a
new record behind that copy, `del` is the copy alone.  The structure is a `Prop` indexed by these functions and not a record
holding them: out of a record, every use at one of the three files makes the unifier unfold the model's loops through the
projections, down to `exec` of a whole updater (millions of heartbeats per use); indexed, `dynFile fs`, `Persist.dynAdded fs r`
… are met syntactically.  `onFile` is an `abbrev` for the same reason (lazy unfolding would take `dynAll` first). -/
structure RecFile {α κ : Type} [DecidableEq κ] (F : FileId) (enc : α → Bytes) (key : α → κ)
    (all : Nat → Bytes → List α) (copy : κ → Nat → Bytes → List Op) (add : FS → α → List Op) (del : FS → κ → List Op) :
    Prop where
  all_nil : ∀ fuel, all (fuel + 1) [] = []
  copy_spec : ∀ k fuel bs, (∀ op ∈ copy k fuel bs, Body F op) ∧
    writesOf (tmp F) (copy k fuel bs) = ((all fuel bs).filter (key · ≠ k)).flatMap enc
  add_eq : ∀ fs r, ∃ wr, (∀ op ∈ wr, Body F op) ∧ writesOf (tmp F) wr = enc r ∧
    add fs r = frame F ((if exists? fs (main F) then onFile (copy (key r)) F fs else []) ++ wr) (exists? fs (main F))
  del_eq : ∀ fs k, del fs k = if exists? fs (main F) then [fopen (main F) .r, fopen (tmp F) .wp] ++ onFile (copy k) F fs ++
    [fflush (tmp F), fclose (tmp F), fclose (main F), rename (tmp F) (main F)] else [fopen (main F) .r]

theorem file_roundtrip {α} (enc : α → Bytes) (all : Nat → Bytes → List α) (P : α → Prop)
    (hnil : ∀ fuel, all (fuel + 1) [] = [])
    (hcons : ∀ fuel r rest, P r → all (fuel + 1) (enc r ++ rest) = r :: all fuel rest) :
    ∀ (recs : List α), (∀ r ∈ recs, P r) → ∀ fuel, recs.length < fuel → all fuel (recs.flatMap enc) = recs := by
  intro recs
  induction recs with
  | nil =>
    intro _ fuel hf
    cases fuel with
    | zero => exact absurd hf (Nat.not_lt_zero _)
    | succ f => exact hnil f
  | cons r rs ih =>
    intro h fuel hf
    cases fuel with
    | zero => exact absurd hf (Nat.not_lt_zero _)
    | succ f =>
      rw [List.flatMap_cons, hcons f r _ (h r List.mem_cons_self),
        ih (fun x hx => h x (List.mem_cons_of_mem _ hx)) f (Nat.lt_of_succ_lt_succ hf)]

theorem length_le_flatMap {α} (enc : α → Bytes) (recs : List α) (h : ∀ r ∈ recs, enc r ≠ []) :
    recs.length ≤ (recs.flatMap enc).length := by
  induction recs with
  | nil => exact Nat.le_refl _
  | cons r rs ih =>
    have := List.length_pos_iff.2 (h r List.mem_cons_self)
    have := ih fun x hx => h x (List.mem_cons_of_mem _ hx)
    rw [List.flatMap_cons, List.length_cons, List.length_append]; omega

theorem forall_mem_filter {α} {P : α → Prop} {l : List α} (p : α → Bool) (hl : ∀ x ∈ l, P x) :
    ∀ x ∈ l.filter p, P x := fun x hx => hl x (List.mem_filter.1 hx).1

theorem forall_mem_filter_append {α} {P : α → Prop} {l : List α} (p : α → Bool) {r : α} (hl : ∀ x ∈ l, P x)
    (hr : P r) : ∀ x ∈ l.filter p ++ [r], P x :=
  List.forall_mem_append.2 ⟨forall_mem_filter p hl, List.forall_mem_singleton.2 hr⟩

section
variable {α κ : Type} [DecidableEq κ] {F : FileId} {enc : α → Bytes} {key : α → κ} {all : Nat → Bytes → List α}
  {copy : κ → Nat → Bytes → List Op} {add : FS → α → List Op} {del : FS → κ → List Op}
  (R : RecFile F enc key all copy add del)
include R

theorem RecFile.deleted (fs : FS) (k : κ) : Shape F (del fs k) ∧ (exec fs (del fs k)).disk (main F) =
    if exists? fs (main F) then some (((onFile all F fs).filter (key · ≠ k)).flatMap enc) else none := by
  have hb : ∀ op ∈ onFile (copy k) F fs, Body F op := (R.copy_spec k _ _).1
  cases hex : exists? fs (main F) with
  | true =>
    have he : del fs k = frame F (onFile (copy k) F fs) true := by
      rw [R.del_eq, hex, if_pos rfl]
      simp only [frame, if_true, List.append_assoc, List.cons_append, List.nil_append]
    exact ⟨frame_shape hb he, by rw [he, frame_result _ _ _ fs hb, onFile, (R.copy_spec k _ _).2]; rfl⟩
  | false =>
    have he : del fs k = [fopen (main F) .r] := by rw [R.del_eq, hex]; rfl
    rw [he, (exec_fopen_missing hex).1]
    exact ⟨⟨[fopen (main F) .r], List.forall_mem_singleton.2 trivial, Or.inl rfl⟩, (exec_fopen_missing hex).2⟩

theorem RecFile.added (fs : FS) (r : α) : Shape F (add fs r) ∧ (exec fs (add fs r)).disk (main F) =
    some (((onFile all F fs).filter (key · ≠ key r)).flatMap enc ++ enc r) := by
  obtain ⟨wr, hb, hw, he⟩ := R.add_eq fs r
  have hbody : ∀ op ∈ (if exists? fs (main F) then onFile (copy (key r)) F fs else []) ++ wr, Body F op :=
    List.forall_mem_append.2 ⟨forall_mem_ite_nil (R.copy_spec _ _ _).1, hb⟩
  refine ⟨frame_shape hbody he, ?_⟩
  rw [he, frame_result _ _ _ fs hbody, writesOf_append, hw]
  congr 2
  cases h : exists? fs (main F) with
  | true => exact (R.copy_spec _ _ _).2
  | false => unfold onFile; rw [content_of_missing h, R.all_nil]; rfl

variable {WF : α → Prop} (hd : ∀ fuel r rest, WF r → all (fuel + 1) (enc r ++ rest) = r :: all fuel rest)
include hd

theorem RecFile.decoded_of_records (fs : FS) (recs : List α) (h : fs.disk (main F) = some (recs.flatMap enc))
    (hw : ∀ r ∈ recs, WF r) : onFile all F fs = recs := by
  simp only [onFile, content, h, Option.getD_some]
  refine file_roundtrip enc all WF R.all_nil hd recs hw _ (Nat.lt_succ_of_le (length_le_flatMap enc recs fun r hr he => ?_))
  -- a record is never empty: the reader finds none in the empty stream
  have := hd 0 r [] (hw r hr)
  rw [he, List.nil_append, R.all_nil] at this; cases this

theorem RecFile.records_added (fs : FS) (recs : List α) (h : fs.disk (main F) = some (recs.flatMap enc))
    (hw : ∀ x ∈ recs, WF x) (r : α) (hr : WF r) :
    onFile all F (exec fs (add fs r)) = recs.filter (key · ≠ key r) ++ [r] := by
  refine R.decoded_of_records hd _ _ ?_ (forall_mem_filter_append _ hw hr)
  rw [(R.added fs r).2, R.decoded_of_records hd fs recs h hw, List.flatMap_append, List.flatMap_singleton]

theorem RecFile.records_deleted (fs : FS) (recs : List α) (h : fs.disk (main F) = some (recs.flatMap enc))
    (hw : ∀ x ∈ recs, WF x) (k : κ) : onFile all F (exec fs (del fs k)) = recs.filter (key · ≠ k) := by
  refine R.decoded_of_records hd _ _ ?_ (forall_mem_filter _ hw)
  rw [(R.deleted fs k).2, R.decoded_of_records hd fs recs h hw, exists?, h]; rfl

end

theorem dynRF : RecFile .dyn encDyn (·.name) dynAll dynCopy Persist.dynAdded Persist.dynDeleted :=
  ⟨fun _ => rfl, dynCopy_spec, fun _ r => ⟨writesTo (tmp .dyn) (dynWrites r), writesTo_body _ _,
    (writesOf_writes _ _).trans (dynWrites_flatten r), rfl⟩, fun _ _ => rfl⟩

theorem obsRF : RecFile .obs encObs (·.key) obsAll obsCopy Persist.obsAdded Persist.obsDeleted :=
  ⟨fun _ => rfl, obsCopy_spec, fun _ r => ⟨writesTo (tmp .obs) (obsWrites r), writesTo_body _ _, writesOf_writes _ _, rfl⟩,
    fun _ _ => rfl⟩

theorem cntRF : RecFile .cnt encCnt (·.name) cntAll cntCopy Persist.cntTrack Persist.cntDeleted :=
  ⟨fun _ => rfl, cntCopy_spec, fun _ r => ⟨[fwrite (tmp .cnt) (encCnt r)], List.forall_mem_singleton.2 rfl,
    by rw [writesOf, if_pos rfl, writesOf, List.append_nil],
    by simp only [Persist.cntTrack, frame, onFile, List.append_assoc, List.cons_append, List.nil_append]⟩, fun _ _ => rfl⟩

theorem updater_shape (u : Updater) (fs : FS) : Shape u.file (u.ops fs) := by
  cases u with
  | dynAdded r => exact (dynRF.added fs r).1
  | obsAdded r => exact (obsRF.added fs r).1
  | cntTrack r => exact (cntRF.added fs r).1
  | dynDeleted n => exact (dynRF.deleted fs n).1
  | obsDeleted k => exact (obsRF.deleted fs k).1
  | cntDeleted n => exact (cntRF.deleted fs n).1

end Coap.Persist
