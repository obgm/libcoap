import CoapVerif.Lemmas.EditRefine
/-
M-side lemmas for the editors (C04) and the builders (C01): every API call on the representing PDU, for
every capacity, is a deterministic function on the abstract message (`abs*`: return code and message after — refusals
included): per function `X_total` (and `addOptionInternal_conc`), all calls `call_conc`, whole scripts `run_conc`; and `Shape`
is kept (`absCall_shape`).  The `X_conc` lemmas of the files below say what M.X does on the representing PDU under
hypotheses or as one `if`; `X_total` is the same for every argument, as `absX`.
-/
namespace Coap
open Coap.M

/-- placing option `n` (append behind the highest number, or insert in the middle): needs room for its encoding
relative to the option before it; `rc` = encoded size -/
def absPlace (ms : Nat) (a : Msg) (n : Nat) (v : Bytes) : Nat × Msg :=
  if ms = 0 ∨ (conc ms a).buf.length + (Spec.encOpt (n - prevNum n a.opts) v).length ≤ ms
  then ((Spec.encOpt (n - prevNum n a.opts) v).length, { a with opts := Spec.insertStable n v a.opts })
  else (0, a)

/-- the optional implicit Hop-Limit of coap_add_option_internal (D13): the message after it, and `hop_limit_added` -/
def absHop (ms : Nat) (a : Msg) (n : Nat) : Msg × Bool :=
  if Spec.hopApplies a.code n a.opts then ((absPlace ms a 16 [16]).2, decide ((absPlace ms a 16 [16]).1 ≠ 0)) else (a, false)

/-- coap_add_option_internal (a refused option takes its implicit Hop-Limit with it) -/
def absAdd (ms : Nat) (a : Msg) (n : Nat) (v : Bytes) : Nat × Msg :=
  if v.length > 65804 then (0, a) else
  if n = lastNum a.opts ∧ ¬ repeatable n then (0, a) else
  if (absPlace ms (absHop ms a n).1 n v).1 = 0 then (0, a) else absPlace ms (absHop ms a n).1 n v

/-- coap_insert_option -/
def absInsert (ms : Nat) (a : Msg) (n : Nat) (v : Bytes) : Nat × Msg :=
  if v.length > 65804 then (0, a) else
  if n ≥ lastNum a.opts then absAdd ms a n v else absPlace ms a n v

/-- coap_update_option -/
def absUpdate (ms : Nat) (a : Msg) (n : Nat) (v : Bytes) : Nat × Msg :=
  if v.length > 65804 then (0, a) else
  if Spec.hasOpt n a.opts = true then
    if (conc ms { a with opts := Spec.replaceFirst n v a.opts }).buf.length ≤ (conc ms a).buf.length ∨ ms = 0 ∨
       (conc ms { a with opts := Spec.replaceFirst n v a.opts }).buf.length ≤ ms
    then (1, { a with opts := Spec.replaceFirst n v a.opts }) else (0, a)
  else absInsert ms a n v

/-- coap_remove_option -/
def absRemove (a : Msg) (n : Nat) : Nat × Msg :=
  if Spec.hasOpt n a.opts = true then (1, { a with opts := Spec.removeFirst n a.opts }) else (0, a)

/-- coap_update_token -/
def absSetToken (ms : Nat) (a : Msg) (t : Bytes) : Nat × Msg :=
  if t.length > 65804 then (0, a) else
  if (Spec.encToken t).length ≤ (Spec.encToken a.token).length ∨ ms = 0 ∨ (conc ms { a with token := t }).buf.length ≤ ms
  then (1, { a with token := t }) else (0, a)

/-- coap_add_token -/
def absAddToken (ms : Nat) (a : Msg) (t : Bytes) : Nat × Msg :=
  if (conc ms a).buf ≠ [] ∨ t.length > 65804 ∨ (ms ≠ 0 ∧ (Spec.extBytes t.length).length + t.length > ms) then (0, a)
  else (1, { a with token := t })

/-- coap_add_data -/
def absAddData (ms : Nat) (a : Msg) (d : Bytes) : Nat × Msg :=
  if d = [] then (1, a) else
  if a.payload ≠ [] ∨ (ms ≠ 0 ∧ (conc ms a).buf.length + d.length + 1 > ms) then (0, a) else (1, { a with payload := d })

def absCall (ms : Nat) (a : Msg) : Call → Nat × Msg
  | .addToken t => absAddToken ms a t
  | .addOption n v => if a.payload ≠ [] then (0, a) else absAdd ms a n v
  | .insertOption n v => absInsert ms a n v
  | .updateOption n v => absUpdate ms a n v
  | .removeOption n => absRemove a n
  | .updateToken t => absSetToken ms a t
  | .addData d => absAddData ms a d

/-- `coap_option_num_t` is `uint16_t` -/
def callNumOk : Call → Prop
  | .addOption n _ => n ≤ 65535
  | .insertOption n _ => n ≤ 65535
  | .updateOption n _ => n ≤ 65535
  | .removeOption n => n ≤ 65535
  | _ => True

instance (c : Call) : Decidable (callNumOk c) := by
  cases c <;> unfold callNumOk <;> infer_instance

theorem applyEdit_update_present (hop : Bool) (a : Msg) (n : Nat) (v : Bytes) (h : Spec.hasOpt n a.opts = true) :
    Spec.applyEdit hop a (.update n v) = { a with opts := Spec.replaceFirst n v a.opts } := by
  simp [Spec.applyEdit, h]

theorem applyEdit_update_absent (hop : Bool) (a : Msg) (n : Nat) (v : Bytes) (h : Spec.hasOpt n a.opts = false) :
    Spec.applyEdit hop a (.update n v) = { a with opts := Spec.addSem hop n v a.opts } := by
  simp [Spec.applyEdit, h]

theorem absUpdate_absent (ms : Nat) (a : Msg) (n : Nat) (v : Bytes) (h : Spec.hasOpt n a.opts = false) :
    absUpdate ms a n v = absInsert ms a n v := by
  unfold absUpdate
  rw [h, if_neg Bool.false_ne_true]
  by_cases hv : v.length > 65804
  · rw [if_pos hv, absInsert, if_pos hv]
  · rw [if_neg hv]

theorem appendOption_total (ms : Nat) (a : Msg) (n : Nat) (v : Bytes) (hs : Shape a)
    (hn : lastNum a.opts ≤ n) (hn2 : n ≤ 65535) :
    appendOption (conc ms a) n v = R.ok ((absPlace ms a n v).1, conc ms (absPlace ms a n v).2) := by
  have hall : ∀ o ∈ a.opts, o.1 ≤ n := fun o ho => Nat.le_trans (le_lastNum a.opts hs.2.1 o ho) hn
  unfold absPlace
  rw [prevNum_all n a.opts hall]
  by_cases hfit : ms = 0 ∨ (conc ms a).buf.length + (Spec.encOpt (n - lastNum a.opts) v).length ≤ ms
  · rw [if_pos hfit, appendOption_conc ms a n v hn hn2 hfit, insertStable_append n v a.opts hs.2.1 hn]
  · rw [if_neg hfit]
    have hδ : (n - lastNum a.opts) % 65536 = n - lastNum a.opts := Nat.mod_eq_of_lt (by omega)
    have hsz := optEncodeSize_encOpt (n - lastNum a.opts) v
    exact appendOption_refused ms a n v (by rw [hδ, hsz]; omega)

theorem insertBody_total (ms : Nat) (a : Msg) (n : Nat) (v : Bytes) (hs : Shape a) (hn : n < lastNum a.opts) :
    insertBody (conc ms a) n v = R.ok ((absPlace ms a n v).1, conc ms (absPlace ms a n v).2) := by
  rw [insertBody_conc ms a n v hs hn]
  unfold absPlace
  split <;> rfl

theorem lastNum_hasOpt (os : List (Nat × Bytes)) (h : lastNum os ≠ 0) : Spec.hasOpt (lastNum os) os = true := by
  rcases List.eq_nil_or_concat os with rfl | ⟨init, l, hl⟩
  · simp [lastNum] at h
  · rw [List.concat_eq_append] at hl
    subst hl
    rw [lastNum_eq_lastD, lastD_append_cons, lastD_nil]
    simp [Spec.hasOpt]

theorem ins3_eq (pdu : Pdu) (n : Nat) (v : Bytes) :
    ins3 pdu n v = if v.length > 65804 then R.ok (0, pdu) else if n ≥ pdu.maxOpt then add2 pdu n v else insertBody pdu n v := rfl

theorem R_bind_ret {α : Type} (x : R α) : (x >>= fun r => R.ok r) = x := by cases x <;> rfl

theorem encOpt_length_pos (d : Nat) (v : Bytes) : (Spec.encOpt d v).length ≠ 0 := by
  rw [encOpt_length]; omega

theorem absPlace_cases (ms : Nat) (a : Msg) (n : Nat) (v : Bytes) :
    ((absPlace ms a n v).1 = (Spec.encOpt (n - prevNum n a.opts) v).length ∧ (absPlace ms a n v).1 ≠ 0 ∧
      (absPlace ms a n v).2 = { a with opts := Spec.insertStable n v a.opts }) ∨
    ((absPlace ms a n v).1 = 0 ∧ (absPlace ms a n v).2 = a ∧ ms ≠ 0) := by
  unfold absPlace
  split
  · exact Or.inl ⟨rfl, encOpt_length_pos _ _, rfl⟩
  · rename_i h
    exact Or.inr ⟨rfl, rfl, fun h0 => h (Or.inl h0)⟩

theorem absPlace_zero (ms : Nat) (a : Msg) (n : Nat) (v : Bytes) (h : (absPlace ms a n v).1 = 0) :
    (absPlace ms a n v).2 = a :=
  (absPlace_cases ms a n v).elim (fun k => absurd h k.2.1) (fun k => k.2.1)

theorem absHop_cases (ms : Nat) (a : Msg) (n : Nat) :
    ((absHop ms a n).2 = false ∧ (absHop ms a n).1 = a) ∨
    ((absHop ms a n).2 = true ∧ Spec.hopApplies a.code n a.opts = true ∧ Spec.hasOpt 16 a.opts = false ∧
      (absHop ms a n).1 = { a with opts := Spec.insertStable 16 [16] a.opts }) := by
  unfold absHop
  by_cases hhop : Spec.hopApplies a.code n a.opts = true
  · rw [if_pos hhop]
    rcases absPlace_cases ms a 16 [16] with ⟨_, k1, k2⟩ | ⟨k1, k2, _⟩
    · exact Or.inr ⟨decide_eq_true k1, hhop, (hopApplies_iff.1 hhop).2, k2⟩
    · exact Or.inl ⟨decide_eq_false (not_not_intro k1), k2⟩
  · rw [if_neg hhop]; exact Or.inl ⟨rfl, rfl⟩

theorem removeFirst_insertStable (n : Nat) (v : Bytes) (os : List (Nat × Bytes)) (h : Spec.hasOpt n os = false) :
    Spec.removeFirst n (Spec.insertStable n v os) = os := by
  rw [insertStable_cut, removeFirst_cut v _ fun o ho => hasOpt_none h o ((List.takeWhile_sublist _).subset ho)]
  exact List.takeWhile_append_dropWhile

theorem hasOpt_insertStable (n : Nat) (v : Bytes) (os : List (Nat × Bytes)) :
    Spec.hasOpt n (Spec.insertStable n v os) = true := by
  unfold Spec.hasOpt
  rw [List.any_eq_true]
  exact ⟨(n, v), (mem_insertStable n v os (n, v)).mpr (Or.inl rfl), by simp⟩

theorem add2_hop (pdu : Pdu) (h : pdu.maxOpt < 16) : add2 pdu 16 [16] = appendOption pdu 16 [16] := by
  have h1 : ¬ (16 = pdu.maxOpt ∧ ¬ repeatable 16 = true) := by omega
  have h2 : ¬ (16 < pdu.maxOpt) := by omega
  simp [add2, addInternalK, h2]
  rw [R_bind_ret, if_neg (by omega)]

theorem forall_insertStable {P : Nat × Bytes → Prop} (n : Nat) (v : Bytes) (os : List (Nat × Bytes))
    (h : ∀ o ∈ os, P o) (hv : P (n, v)) : ∀ o ∈ Spec.insertStable n v os, P o :=
  fun o ho => ((mem_insertStable n v os o).mp ho).elim (fun e => e ▸ hv) (h o)

theorem forall_replaceFirst {P : Nat × Bytes → Prop} (n : Nat) (v : Bytes) (os : List (Nat × Bytes))
    (h : ∀ o ∈ os, P o) (hv : P (n, v)) : ∀ o ∈ Spec.replaceFirst n v os, P o := by
  induction os with
  | nil => exact h
  | cons x os ih =>
    obtain ⟨hx, hos⟩ := List.forall_mem_cons.mp h
    unfold Spec.replaceFirst
    split
    · exact List.forall_mem_cons.mpr ⟨hv, hos⟩
    · exact List.forall_mem_cons.mpr ⟨hx, ih hos⟩

theorem Shape_insert (a : Msg) (n : Nat) (v : Bytes) (hs : Shape a) (hn : n ≤ 65535) (hv : v.length ≤ 65804) :
    Shape { a with opts := Spec.insertStable n v a.opts } :=
  ⟨hs.1, insertStable_sorted n v a.opts hs.2.1, forall_insertStable n v a.opts hs.2.2 ⟨hn, hv⟩⟩

theorem absPlace_shape (ms : Nat) (a : Msg) (n : Nat) (v : Bytes) (hs : Shape a) (hn : n ≤ 65535) (hv : v.length ≤ 65804) :
    Shape (absPlace ms a n v).2 := by
  unfold absPlace
  split
  · exact Shape_insert a n v hs hn hv
  · exact hs

/-- the implicit Hop-Limit insertion of coap_add_option_internal (result ignored by the caller) -/
theorem ins3_hop (ms : Nat) (a : Msg) (hs : Shape a) (hh : Spec.hasOpt 16 a.opts = false) :
    ins3 (conc ms a) 16 [16] = R.ok ((absPlace ms a 16 [16]).1, conc ms (absPlace ms a 16 [16]).2) := by
  have hne : lastNum a.opts ≠ 16 := by
    intro h
    have := lastNum_hasOpt a.opts (by omega)
    rw [h, hh] at this
    cases this
  rw [ins3_eq]
  have hl : ¬ (([16] : Bytes).length > 65804) := by simp
  rw [if_neg hl, conc_maxOpt]
  by_cases hge : 16 ≥ lastNum a.opts
  · rw [if_pos hge, add2_hop _ (by rw [conc_maxOpt]; omega)]
    exact appendOption_total ms a 16 [16] hs hge (by omega)
  · rw [if_neg hge]
    exact insertBody_total ms a 16 [16] hs (by omega)

theorem hopCond_conc (ms : Nat) (a : Msg) (n : Nat) (hs : Shape a) :
    (((conc ms a).code ≠ 0 ∧ (conc ms a).code < 32) ∧ (n = 35 ∨ n = 39) ∧ ¬ hasOption (conc ms a) 16 = true) ↔
      Spec.hopApplies a.code n a.opts = true := by
  rw [hasOption_conc ms a hs 16]
  rw [conc_code]
  simp [Spec.hopApplies]
  constructor
  · rintro ⟨⟨h1, h2⟩, h3, h4⟩; exact ⟨⟨⟨by omega, h2⟩, h3⟩, h4⟩
  · rintro ⟨⟨⟨h1, h2⟩, h3⟩, h4⟩; exact ⟨⟨by omega, h2⟩, h3, h4⟩

theorem absHop_shape (ms : Nat) (a : Msg) (n : Nat) (hs : Shape a) : Shape (absHop ms a n).1 := by
  unfold absHop
  split
  · exact absPlace_shape ms a 16 [16] hs (by omega) (by simp)
  · exact hs

/-- the implicit Hop-Limit step of coap_add_option_internal on the representing PDU: the PDU after it and `hop_limit_added` -/
theorem hopStep_conc (ms : Nat) (a : Msg) (n : Nat) (hs : Shape a) :
    (if ((conc ms a).code ≠ 0 ∧ (conc ms a).code < 32) ∧ (n = 35 ∨ n = 39) ∧ ¬ hasOption (conc ms a) 16 = true
      then (ins3 (conc ms a) 16 [16] >>= fun r => R.ok (r.2, decide (r.1 ≠ 0))) else R.ok (conc ms a, false) : R (Pdu × Bool)) =
      R.ok (conc ms (absHop ms a n).1, (absHop ms a n).2) := by
  unfold absHop
  by_cases hhop : Spec.hopApplies a.code n a.opts = true
  · rw [if_pos ((hopCond_conc ms a n hs).mpr hhop), ins3_hop ms a hs ((hopApplies_iff.1 hhop).2), if_pos hhop]; rfl
  · rw [if_neg (fun h => hhop ((hopCond_conc ms a n hs).mp h)), if_neg hhop]

theorem absPlace_fields (ms : Nat) (a : Msg) (n : Nat) (v : Bytes) :
    (absPlace ms a n v).2.code = a.code ∧ (absPlace ms a n v).2.type = a.type ∧ (absPlace ms a n v).2.mid = a.mid ∧
    (absPlace ms a n v).2.token = a.token ∧ (absPlace ms a n v).2.payload = a.payload := by
  unfold absPlace
  split <;> exact ⟨rfl, rfl, rfl, rfl, rfl⟩

theorem addInternalK_eq (ins : Pdu → Nat → Bytes → R (Nat × Pdu)) (pdu : Pdu) (n : Nat) (v : Bytes) :
    addInternalK ins pdu n v =
      if v.length > 65804 then R.ok (0, pdu) else
      if n = pdu.maxOpt ∧ ¬ repeatable n then R.ok (0, pdu) else
      (if (pdu.code ≠ 0 ∧ pdu.code < 32) ∧ (n = 35 ∨ n = 39) ∧ ¬ hasOption pdu 16
        then (ins pdu 16 [16] >>= fun r => R.ok (r.2, decide (r.1 ≠ 0))) else R.ok (pdu, false) : R (Pdu × Bool)) >>= fun ph =>
      (if n < ph.1.maxOpt then ins ph.1 n v else appendOption ph.1 n v) >>= fun r =>
      if r.1 = 0 ∧ ph.2 = true then (removeOption r.2 16 >>= fun r2 => R.ok (0, r2.2)) else R.ok r := rfl

theorem addOptionInternal_conc (ms : Nat) (a : Msg) (n : Nat) (v : Bytes) (hs : Shape a) (hn : n ≤ 65535) :
    addOptionInternal (conc ms a) n v = R.ok ((absAdd ms a n v).1, conc ms (absAdd ms a n v).2) := by
  unfold absAdd addOptionInternal
  rw [addInternalK_eq]
  by_cases hv : v.length > 65804
  · simp only [hv, if_true]
  · simp only [hv, if_false]
    rw [conc_maxOpt]
    by_cases hrep : n = lastNum a.opts ∧ ¬ repeatable n = true
    · rw [if_pos hrep, if_pos hrep]
    · rw [if_neg hrep, if_neg hrep]
      have hs1 := absHop_shape ms a n hs
      rw [hopStep_conc ms a n hs, R.bind_ok]
      simp only []
      rw [conc_maxOpt]
      -- either path places the option
      have hplace : (if n < lastNum (absHop ms a n).1.opts then ins3 (conc ms (absHop ms a n).1) n v
            else appendOption (conc ms (absHop ms a n).1) n v) =
          R.ok ((absPlace ms (absHop ms a n).1 n v).1, conc ms (absPlace ms (absHop ms a n).1 n v).2) := by
        by_cases hlt : n < lastNum (absHop ms a n).1.opts
        · rw [if_pos hlt, ins3_eq, if_neg hv, conc_maxOpt, if_neg (by omega)]
          exact insertBody_total ms _ n v hs1 hlt
        · rw [if_neg hlt]
          exact appendOption_total ms _ n v hs1 (by omega) hn
      rw [hplace, R.bind_ok]
      simp only []
      by_cases hz : (absPlace ms (absHop ms a n).1 n v).1 = 0
      · rw [if_pos hz, absPlace_zero ms _ n v hz]
        rcases absHop_cases ms a n with ⟨hb, he⟩ | ⟨hb, _, h16, he⟩
        · rw [hb, if_neg (fun h => by cases h.2), hz, he]
        · -- refused with the Hop-Limit in: it is taken out again
          rw [hb, if_pos ⟨hz, rfl⟩, removeOption_conc ms _ 16 hs1, he,
            if_pos (hasOpt_insertStable 16 [16] a.opts), R.bind_ok]
          show R.ok (0, conc ms { a with opts := Spec.removeFirst 16 (Spec.insertStable 16 [16] a.opts) }) = _
          rw [removeFirst_insertStable 16 [16] a.opts h16]
      · rw [if_neg hz, if_neg (fun h => hz h.1)]

theorem insertOption_total (ms : Nat) (a : Msg) (n : Nat) (v : Bytes) (hs : Shape a) (hn : n ≤ 65535) :
    insertOption (conc ms a) n v = R.ok ((absInsert ms a n v).1, conc ms (absInsert ms a n v).2) := by
  unfold absInsert insertOption insertK
  rw [conc_maxOpt]
  by_cases hv : v.length > 65804
  · simp only [hv, if_true]
  · simp only [hv, if_false]
    by_cases hge : n ≥ lastNum a.opts
    · rw [if_pos hge, if_pos hge]
      exact addOptionInternal_conc ms a n v hs hn
    · rw [if_neg hge, if_neg hge]
      exact insertBody_total ms a n v hs (by omega)

theorem updateOption_total (ms : Nat) (a : Msg) (n : Nat) (v : Bytes) (hs : Shape a) (hn : n ≤ 65535) :
    updateOption (conc ms a) n v = R.ok ((absUpdate ms a n v).1, conc ms (absUpdate ms a n v).2) := by
  unfold absUpdate
  by_cases hv : v.length > 65804
  · simp only [hv, if_true, updateOption]
  · rw [if_neg hv]
    cases hh : Spec.hasOpt n a.opts with
    | true =>
      rw [updateOption_found ms a n v hs (by omega) hh]
      simp only [if_true]
      split <;> rfl
    | false =>
      have : (false = true) = False := by simp
      simp only [this, if_false]
      unfold updateOption
      simp only [hv, if_false, items_conc ms a hs, findEq_none n a.opts _ _ hh]
      exact insertOption_total ms a n v hs hn

theorem removeOption_total (ms : Nat) (a : Msg) (n : Nat) (hs : Shape a) :
    removeOption (conc ms a) n = R.ok ((absRemove a n).1, conc ms (absRemove a n).2) := by
  rw [removeOption_conc ms a n hs]
  unfold absRemove
  split <;> rfl

theorem encToken_nil_iff (t : Bytes) : Spec.encToken t = [] ↔ t = [] := by
  constructor
  · intro h
    have := congrArg List.length h
    rw [encToken_length] at this
    simp only [List.length_nil] at this
    exact List.eq_nil_of_length_eq_zero (by omega)
  · rintro rfl; rfl

theorem conc_buf_nil (ms : Nat) (a : Msg) (h : (conc ms a).buf = []) : a = ⟨a.type, a.code, a.mid, [], [], []⟩ := by
  have hl := conc_buf_length ms a
  rw [h] at hl
  simp only [List.length_nil] at hl
  have h1 : a.token = [] := List.eq_nil_of_length_eq_zero (by omega)
  have h2 : a.opts = [] := List.eq_nil_of_length_eq_zero (by have := encOpts_length_ge 0 a.opts; omega)
  have h3 : a.payload = [] := by
    by_cases hp : a.payload = []
    · exact hp
    · have : (Spec.encPayload a.payload).length = a.payload.length + 1 := by simp [Spec.encPayload, hp]
      omega
  cases a
  simp only at h1 h2 h3
  subst h1 h2 h3
  rfl

theorem addToken_total (ms : Nat) (a : Msg) (t : Bytes) :
    addToken (conc ms a) t = R.ok ((absAddToken ms a t).1, conc ms (absAddToken ms a t).2) := by
  unfold absAddToken
  by_cases h : (conc ms a).buf ≠ [] ∨ t.length > 65804 ∨ (ms ≠ 0 ∧ (Spec.extBytes t.length).length + t.length > ms)
  · rw [if_pos h]; exact addToken_refused ms a t h
  · rw [if_neg h]
    have ha := conc_buf_nil ms a (Classical.not_not.mp fun hb => h (Or.inl hb))
    have h' : ¬ (t.length > 65804 ∨ (ms ≠ 0 ∧ (Spec.extBytes t.length).length + t.length > ms)) := fun x => h (Or.inr x)
    have := addToken_conc ms a.type a.code a.mid t (by omega) (by omega)
    rw [← ha] at this
    rw [this]
    show _ = R.ok (1, conc ms { a with token := t })
    rw [ha]

theorem addData_total (ms : Nat) (a : Msg) (d : Bytes) :
    addData (conc ms a) d = R.ok ((absAddData ms a d).1, conc ms (absAddData ms a d).2) := by
  unfold absAddData
  by_cases hd : d = []
  · subst hd; rw [if_pos rfl]; exact addData_empty ms a
  · rw [if_neg hd]
    by_cases h : a.payload ≠ [] ∨ (ms ≠ 0 ∧ (conc ms a).buf.length + d.length + 1 > ms)
    · rw [if_pos h]; exact addData_refused ms a d hd h
    · rw [if_neg h]
      have h' : ¬ (ms ≠ 0 ∧ (conc ms a).buf.length + d.length + 1 > ms) := fun x => h (Or.inr x)
      exact addData_conc ms a d (Classical.not_not.mp fun hp => h (Or.inl hp)) hd (by omega)

theorem updateToken_total (ms : Nat) (a : Msg) (t : Bytes) :
    updateToken (conc ms a) t = R.ok ((absSetToken ms a t).1, conc ms (absSetToken ms a t).2) := by
  by_cases hb : (conc ms a).buf = []
  · -- empty PDU: coap_update_token falls through to coap_add_token, whose capacity test says the same here
    have ha := conc_buf_nil ms a hb
    have hut : updateToken (conc ms a) t = addToken (conc ms a) t := by
      unfold updateToken; rw [hb]; simp
    have hlen : (conc ms { a with token := t }).buf.length = (Spec.extBytes t.length).length + t.length := by
      rw [conc_buf_length, ha]
      rfl
    have he : absAddToken ms a t = absSetToken ms a t := by
      unfold absAddToken absSetToken
      rw [hlen, show a.token = [] by rw [ha], encToken_length, show (Spec.encToken ([] : Bytes)).length = 0 from rfl]
      by_cases hv : t.length > 65804
      · rw [if_pos (Or.inr (Or.inl hv)), if_pos hv]
      · rw [if_neg hv]
        by_cases hfit : (Spec.extBytes t.length).length + t.length ≤ 0 ∨ ms = 0 ∨
            (Spec.extBytes t.length).length + t.length ≤ ms
        · rw [if_pos hfit, if_neg]
          rintro (h | h)
          · exact h hb
          · omega
        · rw [if_neg hfit, if_pos (Or.inr (by omega))]
    rw [hut, addToken_total, he]
  · rw [updateToken_nonempty ms a t hb]
    unfold absSetToken
    split
    · rfl
    · split <;> rfl

theorem call_conc (ms : Nat) (a : Msg) (c : Call) (hs : Shape a) (hc : callNumOk c) :
    call (conc ms a) c = R.ok ((absCall ms a c).1, conc ms (absCall ms a c).2) := by
  cases c with
  | addToken t => exact addToken_total ms a t
  | addOption n v =>
    show addOption (conc ms a) n v = R.ok ((if a.payload ≠ [] then (0, a) else absAdd ms a n v).1,
      conc ms (if a.payload ≠ [] then (0, a) else absAdd ms a n v).2)
    unfold addOption
    by_cases hp : a.payload = []
    · have hd := conc_data_none ms hp
      have : ¬ (a.payload ≠ []) := by simp [hp]
      rw [hd, if_neg this]
      exact addOptionInternal_conc ms a n v hs hc
    · have hd : (conc ms a).data.isSome = true := by simp [conc, hp]
      have hp' : a.payload ≠ [] := hp
      rw [hd, if_pos hp']; rfl
  | insertOption n v => exact insertOption_total ms a n v hs hc
  | updateOption n v => exact updateOption_total ms a n v hs hc
  | removeOption n => exact removeOption_total ms a n hs
  | updateToken t => exact updateToken_total ms a t
  | addData d => exact addData_total ms a d

theorem Shape_remove (a : Msg) (n : Nat) (hs : Shape a) : Shape { a with opts := Spec.removeFirst n a.opts } := by
  obtain ⟨h1, h2, h3⟩ := hs
  exact ⟨h1, removeFirst_sorted n a.opts h2, fun o ho => h3 o ((removeFirst_sublist n a.opts).subset ho)⟩

theorem Shape_replace (a : Msg) (n : Nat) (v : Bytes) (hs : Shape a) (hn : n ≤ 65535) (hv : v.length ≤ 65804) :
    Shape { a with opts := Spec.replaceFirst n v a.opts } :=
  ⟨hs.1, replaceFirst_sorted n v a.opts hs.2.1, forall_replaceFirst n v a.opts hs.2.2 ⟨hn, hv⟩⟩

theorem absAdd_shape (ms : Nat) (a : Msg) (n : Nat) (v : Bytes) (hs : Shape a) (hn : n ≤ 65535) :
    Shape (absAdd ms a n v).2 := by
  unfold absAdd
  simp only [apply_ite Prod.snd]
  refine ite_ind (fun _ => hs) fun hv => ite_ind (fun _ => hs) fun _ => ite_ind (fun _ => hs) fun _ => ?_
  exact absPlace_shape _ _ _ _ (absHop_shape ms a n hs) hn (by omega)

theorem absInsert_shape (ms : Nat) (a : Msg) (n : Nat) (v : Bytes) (hs : Shape a) (hn : n ≤ 65535) :
    Shape (absInsert ms a n v).2 := by
  unfold absInsert
  simp only [apply_ite Prod.snd]
  exact ite_ind (fun _ => hs) fun hv =>
    ite_ind (fun _ => absAdd_shape ms a n v hs hn) fun _ => absPlace_shape ms a n v hs hn (by omega)

theorem absCall_shape (ms : Nat) (a : Msg) (c : Call) (hs : Shape a) (hc : callNumOk c) : Shape (absCall ms a c).2 := by
  have tok : ∀ t : Bytes, ¬ t.length > 65804 → Shape { a with token := t } := fun t ht => ⟨Nat.le_of_not_gt ht, hs.2⟩
  cases c with
  | addToken t =>
    show Shape (absAddToken ms a t).2
    unfold absAddToken
    simp only [apply_ite Prod.snd]
    exact ite_ind (fun _ => hs) fun h => tok t fun x => h (Or.inr (Or.inl x))
  | addOption n v =>
    show Shape (if a.payload ≠ [] then (0, a) else absAdd ms a n v).2
    simp only [apply_ite Prod.snd]
    exact ite_ind (fun _ => hs) fun _ => absAdd_shape ms a n v hs hc
  | insertOption n v => exact absInsert_shape ms a n v hs hc
  | updateOption n v =>
    show Shape (absUpdate ms a n v).2
    unfold absUpdate
    simp only [apply_ite Prod.snd]
    refine ite_ind (fun _ => hs) fun hv => ite_ind (fun _ => ?_) fun _ => absInsert_shape ms a n v hs hc
    exact ite_ind (fun _ => Shape_replace a n v hs hc (by omega)) fun _ => hs
  | removeOption n =>
    show Shape (absRemove a n).2
    unfold absRemove
    simp only [apply_ite Prod.snd]
    exact ite_ind (fun _ => Shape_remove a n hs) fun _ => hs
  | updateToken t =>
    show Shape (absSetToken ms a t).2
    unfold absSetToken
    simp only [apply_ite Prod.snd]
    exact ite_ind (fun _ => hs) fun hv => ite_ind (fun _ => tok t hv) fun _ => hs
  | addData d =>
    show Shape (absAddData ms a d).2
    unfold absAddData
    simp only [apply_ite Prod.snd]
    exact ite_ind (fun _ => hs) fun _ => ite_ind (fun _ => hs) fun _ => ⟨hs.1, hs.2⟩

/-- a whole script on the abstract message: return codes in call order, message after -/
def absRun (ms : Nat) : Msg → List Call → List Nat × Msg
  | a, [] => ([], a)
  | a, c :: cs => ((absCall ms a c).1 :: (absRun ms (absCall ms a c).2 cs).1, (absRun ms (absCall ms a c).2 cs).2)

theorem run_conc (ms : Nat) (cs : List Call) : ∀ (a : Msg), Shape a → (∀ c ∈ cs, callNumOk c) →
    run (conc ms a) cs = R.ok ((absRun ms a cs).1, conc ms (absRun ms a cs).2) ∧ Shape (absRun ms a cs).2 := by
  induction cs with
  | nil => intro a hs _; exact ⟨rfl, hs⟩
  | cons c cs ih =>
    intro a hs hc
    have hc1 := hc c (List.mem_cons_self ..)
    obtain ⟨i1, i2⟩ := ih (absCall ms a c).2 (absCall_shape ms a c hs hc1) (fun x hx => hc x (List.mem_cons_of_mem _ hx))
    refine ⟨?_, i2⟩
    simp only [run, call_conc ms a c hs hc1, i1, absRun]

end Coap
