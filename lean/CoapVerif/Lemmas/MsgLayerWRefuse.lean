import CoapVerif.Lemmas.MsgLayerW
/-
C06, socket-write failures, the branch the `w_*_partial` theorems exclude (`dev = true` because `coap_send` was refused):

* `submitW_refused`: when the write of a FIRST transmission fails inside `coap_send` (`coap_send_internal`:
  `bytes_written < 0` → `goto error`), the call reports COAP_INVALID_MID (`.sub none`) and NOTHING else changes: send
  queue, every session (`con_active`, delay queue), clock are what they were — only the write attempt and the result are
  in the output list, one oracle answer is consumed, `dev` is set.
* `rebase` / `*_rebase`: no function of the write-failure model ever READS the output list, the `failed` marks or `dev`:
  running any function on a state whose output list has older entries appended (`rebase`) is the same as appending them
  afterwards.  So the whole later run after a refused `coap_send` is, event for event, the run that would have happened
  had `coap_send` never been called (with the oracle one answer further): same queue, same deadlines, same sessions, the
  same new outputs — no NACK for the refused message, no later transmission of it (`runW_after_refused`).
Core Lean only.
-/
namespace Coap.MsgW
open Coap.SQ Coap.Msg

/-- older outputs `o` appended to the output list (it is newest-first) -/
def appOut (l : L) (o : List Out) : L := { l with out := l.out ++ o }

@[simp] theorem appOut_getS (l : L) (o : List Out) (s : Nat) : (appOut l o).getS s = l.getS s := rfl
@[simp] theorem appOut_setS (l : L) (o : List Out) (s : Nat) (se : Sess) : (appOut l o).setS s se = appOut (l.setS s se) o := rfl
@[simp] theorem appOut_emit (l : L) (o : List Out) (x : Out) : (appOut l o).emit x = appOut (l.emit x) o := rfl
@[simp] theorem appOut_waitAck (l : L) (o : List Out) (n : Node) : waitAck (appOut l o) n = appOut (waitAck l n) o := rfl
@[simp] theorem appOut_now (l : L) (o : List Out) : (appOut l o).now = l.now := rfl
@[simp] theorem appOut_q (l : L) (o : List Out) : (appOut l o).q = l.q := rfl
@[simp] theorem appOut_sess (l : L) (o : List Out) : (appOut l o).sess = l.sess := rfl
@[simp] theorem appOut_out (l : L) (o : List Out) : (appOut l o).out = l.out ++ o := rfl
@[simp] theorem appOut_setQ (l : L) (o : List Out) (q : Queue) : ({ appOut l o with q := q } : L) = appOut { l with q := q } o := rfl
theorem appOut_setQ' (l : L) (o : List Out) (q : Queue) :
    ({ now := l.now, q := q, sess := (appOut l o).sess, out := (appOut l o).out } : L) = appOut { l with q := q } o := rfl
@[simp] theorem appOut_setNow (l : L) (o : List Out) (t : Nat) : ({ appOut l o with now := t } : L) = appOut { l with now := t } o := rfl

/-- the same state with older outputs `o` under the output list: the positions of the failed attempts (counted from the
oldest output) move up by `o.length`, older marks `fl` and an older `dev` flag `d` are kept -/
def rebase (o : List Out) (fl : List Nat) (d : Bool) (lw : LW) : LW :=
  { l := appOut lw.l o, wf := lw.wf, failed := lw.failed.map (· + o.length) ++ fl, dev := lw.dev || d }

@[simp] theorem rebase_l (o : List Out) (fl : List Nat) (d : Bool) (lw : LW) : (rebase o fl d lw).l = appOut lw.l o := rfl
@[simp] theorem rebase_wf (o : List Out) (fl : List Nat) (d : Bool) (lw : LW) : (rebase o fl d lw).wf = lw.wf := rfl
@[simp] theorem rebase_setL (o : List Out) (fl : List Nat) (d : Bool) (lw : LW) (l : L) :
    ({ rebase o fl d lw with l := appOut l o } : LW) = rebase o fl d { lw with l := l } := rfl
@[simp] theorem rebase_setDev (o : List Out) (fl : List Nat) (d : Bool) (lw : LW) :
    ({ rebase o fl d lw with dev := true } : LW) = rebase o fl d { lw with dev := true } := by
  simp [rebase]

section
variable (o : List Out) (fl : List Nat) (d : Bool)

theorem write_rebase (lw : LW) (s mid cnt : Nat) (con : Bool) :
    write (rebase o fl d lw) s mid cnt con = ((write lw s mid cnt con).1, rebase o fl d (write lw s mid cnt con).2) := by
  rcases lw with ⟨l, wf, failed, dev⟩
  rcases wf with _ | ⟨b, t⟩
  · simp [write, rebase, appOut, L.emit]
  · cases b <;> simp [write, rebase, appOut, L.emit, Nat.add_comm]

theorem drainRound_rebase (lw : LW) (s : Nat) (n : Node) (rest : List Node) :
    drainRound (rebase o fl d lw) s n rest =
      ((drainRound lw s n rest).1, rebase o fl d (drainRound lw s n rest).2) := by
  unfold drainRound
  simp only [rebase_l, appOut_getS, appOut_setS, rebase_setL, write_rebase]
  cases n.con <;> rfl

theorem drainW_rebase : ∀ (fuel : Nat) (lw : LW) (s : Nat),
    drainW fuel (rebase o fl d lw) s = rebase o fl d (drainW fuel lw s)
  | 0, _, _ => rfl
  | fuel + 1, lw, s => by
    have ih := drainW_rebase fuel
    unfold drainW
    simp only [rebase_l, appOut_getS, drainRound_rebase]
    cases (lw.l.getS s).delayq with
    | nil => rfl
    | cons n rest =>
      simp only [apply_ite (rebase o fl d)]
      refine ite_congr rfl (fun _ => rfl) (fun _ => ?_)
      refine ite_congr rfl (fun _ => rfl) (fun _ => ?_)
      refine ite_congr rfl (fun _ => ?_) (fun _ => ih _ _)
      simp [rebase]

theorem connectedW_rebase (lw : LW) (s : Nat) :
    connectedW (rebase o fl d lw) s = rebase o fl d (connectedW lw s) := by
  unfold connectedW
  simp only [rebase_l, appOut_getS, appOut_setS, rebase_setL, drainW_rebase]

theorem releaseW_rebase (lw : LW) (s : Nat) :
    releaseW (rebase o fl d lw) s = rebase o fl d (releaseW lw s) := by
  unfold releaseW
  simp only [rebase_l, appOut_getS, appOut_setS, rebase_setL, connectedW_rebase, apply_ite (rebase o fl d)]

theorem submitW_rebase (lw : LW) (s : Nat) (con : Bool) (mid r : Nat) :
    submitW (rebase o fl d lw) s con mid r = rebase o fl d (submitW lw s con mid r) := by
  unfold submitW
  simp only [rebase_l, appOut_getS, appOut_setS, appOut_emit, rebase_setL, write_rebase, appOut_waitAck,
    apply_ite (rebase o fl d)]
  refine ite_congr rfl (fun _ => rfl) (fun _ => ?_)
  refine ite_congr rfl (fun _ => rfl) (fun _ => ?_)
  refine ite_congr rfl (fun _ => ?_) (fun _ => rfl)
  simp [rebase]

theorem retransmitW_rebase (lw : LW) (n : Node) :
    retransmitW (rebase o fl d lw) n = rebase o fl d (retransmitW lw n) := by
  unfold retransmitW
  simp only [rebase_l, appOut_getS, appOut_setS, appOut_emit, appOut_now, appOut_q, appOut_setQ',
    rebase_setL, write_rebase, releaseW_rebase, apply_ite (rebase o fl d)]

theorem dueLoopW_rebase : ∀ (fuel : Nat) (lw : LW),
    dueLoopW fuel (rebase o fl d lw) = rebase o fl d (dueLoopW fuel lw)
  | 0, _ => rfl
  | fuel + 1, lw => by
    have ih := dueLoopW_rebase fuel
    unfold dueLoopW
    simp only [rebase_l, appOut_q, appOut_now]
    cases lw.l.q.nodes with
    | nil => rfl
    | cons h t =>
      simp only [apply_ite (rebase o fl d)]
      refine ite_congr rfl (fun _ => ?_) (fun _ => rfl)
      cases popNext (h :: t) with
      | none => rfl
      | some p =>
        simp only [appOut_setQ', rebase_setL, retransmitW_rebase]
        exact ih _

theorem dueFuel_appOut (l : L) (o : List Out) : dueFuel (appOut l o) = dueFuel l := rfl

theorem prepareCoreW_rebase (lw : LW) :
    prepareCoreW (rebase o fl d lw) = (rebase o fl d (prepareCoreW lw).1, (prepareCoreW lw).2) := by
  unfold prepareCoreW
  simp only [rebase_l, dueFuel_appOut, dueLoopW_rebase, appOut_q, appOut_now]
  cases (dueLoopW (dueFuel lw.l) lw).l.q.nodes <;> rfl

theorem prepareW_rebase (lw : LW) :
    prepareW (rebase o fl d lw) = rebase o fl d (prepareW lw) := by
  unfold prepareW
  simp only [prepareCoreW_rebase, rebase_l, appOut_emit, appOut_now, rebase_setL]

theorem afterRxW_rebase (lw : LW) :
    afterRxW (rebase o fl d lw) = rebase o fl d (afterRxW lw) := by
  unfold afterRxW
  rw [prepareCoreW_rebase]

theorem rxAckW_rebase (lw : LW) (s mid : Nat) :
    rxAckW (rebase o fl d lw) s mid = rebase o fl d (rxAckW lw s mid) := by
  unfold rxAckW
  simp only [rebase_l, appOut_q]
  rcases removeNode lw.l.q.nodes s mid with ⟨sent, rest⟩
  cases sent with
  | none => rfl
  | some n => simp only [appOut_setQ, rebase_setL, releaseW_rebase]

theorem rxRstW_rebase (lw : LW) (s mid : Nat) :
    rxRstW (rebase o fl d lw) s mid = rebase o fl d (rxRstW lw s mid) := by
  unfold rxRstW
  simp only [rebase_l, appOut_q]
  rcases removeNode lw.l.q.nodes s mid with ⟨sent, rest⟩
  cases sent with
  | none => rfl
  | some n =>
    simp only [appOut_setQ, rebase_setL, releaseW_rebase, apply_ite (rebase o fl d)]
    refine ite_congr rfl (fun _ => rfl) (fun _ => rfl)

theorem rxBadW_rebase (lw : LW) (s mid : Nat) :
    rxBadW (rebase o fl d lw) s mid = rebase o fl d (rxBadW lw s mid) := by
  unfold rxBadW
  simp only [rebase_l, appOut_q]
  rcases removeNode lw.l.q.nodes s mid with ⟨sent, rest⟩
  cases sent with
  | none => rfl
  | some n =>
    simp only [appOut_setQ, rebase_setL, releaseW_rebase]
    rfl

theorem cancelTokenW_rebase : ∀ (fuel : Nat) (lw : LW) (s tok : Nat),
    cancelTokenW fuel (rebase o fl d lw) s tok = rebase o fl d (cancelTokenW fuel lw s tok)
  | 0, _, _, _ => rfl
  | fuel + 1, lw, s, tok => by
    unfold cancelTokenW
    simp only [rebase_l, appOut_q, appOut_setQ, rebase_setL]
    rcases removeTok lw.l.q.nodes s tok with ⟨sent, rest⟩
    cases sent with
    | none => rfl
    | some n =>
      simp only []
      cases n.con
      · simp only [Bool.false_eq_true, if_false]; exact cancelTokenW_rebase fuel _ s tok
      · simp only [if_true, releaseW_rebase]; exact cancelTokenW_rebase fuel _ s tok

theorem rxNonW_rebase (lw : LW) (s mid tok : Nat) :
    rxNonW (rebase o fl d lw) s mid tok = rebase o fl d (rxNonW lw s mid tok) := by
  unfold rxNonW
  simp only [rebase_l, appOut_q, cancelTokenW_rebase, appOut_emit, appOut_now, rebase_setL]

theorem nackAll_appOut (s : Nat) (r : Reason) : ∀ (ns : List Node) (l : L),
    nackAll (appOut l o) s r ns = appOut (nackAll l s r ns) o
  | [], _ => rfl
  | n :: ns, l => by
    unfold nackAll
    cases n.con
    · simp only [Bool.false_eq_true, if_false]; exact nackAll_appOut s r ns l
    · simp only [if_true, appOut_emit, appOut_now]; exact nackAll_appOut s r ns _

theorem discHead_appOut (l : L) (s : Nat) : discHead (appOut l o) s = appOut (discHead l s) o := by
  unfold discHead
  simp only [appOut_getS, appOut_q]
  rcases hf : l.q.nodes.find? (fun n => n.sess = s) with _ | n
  · simp only [hf, nackAll_appOut, appOut_emit, appOut_now]
    split <;> rfl
  · simp only [hf, nackAll_appOut, appOut_emit, appOut_now]
    split <;> rfl

theorem discTail_appOut (l : L) (s : Nat) (se : Sess) : discTail (appOut l o) s se = appOut (discTail l s se) o := by
  unfold discTail
  simp only [appOut_setS, appOut_q]
  rcases hc : cancelSession (l.setS s { se with est := true, conActive := 0, delayq := [] }).q.nodes s with ⟨gone, rest⟩
  simp only [appOut_setQ, nackAll_appOut, appOut_getS, appOut_setS]

theorem disconnect_appOut (l : L) (s : Nat) : disconnect (appOut l o) s = appOut (disconnect l s) o := by
  rw [disconnect_eq, disconnect_eq, discHead_appOut, discTail_appOut, appOut_getS]

theorem stepW_rebase (lw : LW) (ev : Ev) :
    stepW (rebase o fl d lw) ev = rebase o fl d (stepW lw ev) := by
  cases ev with
  | setNow t => rfl
  | submit s con mid r => exact submitW_rebase o fl d lw s con mid r
  | prepare => exact prepareW_rebase o fl d lw
  | rxAck s mid | rxRst s mid | rxBad s mid | rxNon s mid tok =>
    -- the dispatch branch, then the I/O step, on an open socket
    simp only [stepW, rebase_l, appOut_getS, rxAckW_rebase, rxRstW_rebase, rxBadW_rebase, rxNonW_rebase, afterRxW_rebase]
    split <;> rfl
  | hold s => rfl
  | connect s => exact connectedW_rebase o fl d lw s
  | disconnect s =>
    simp only [stepW, rebase_l, appOut_getS, disconnect_appOut, rebase_setL]; split <;> rfl

theorem runW_rebase (evs : List Ev) (lw : LW) : runW (rebase o fl d lw) evs = rebase o fl d (runW lw evs) :=
  List.foldl_hom (rebase o fl d) (stepW_rebase o fl d)

end

/-- the state with an empty output list and no ghost marks: what the functions of the model can see -/
def bare (lw : LW) : LW := { l := { lw.l with out := [] }, wf := lw.wf, failed := [], dev := false }

theorem rebase_bare (lw : LW) : rebase lw.l.out lw.failed lw.dev (bare lw) = lw := by
  rcases lw with ⟨⟨now, q, sess, out⟩, wf, failed, dev⟩
  simp [rebase, bare, appOut]

/-- the three hypotheses are `refused lw s con = true` (Lemmas/MsgLayerW.lean) spelt out -/
theorem submitW_refused (lw : LW) (s : Nat) (con : Bool) (mid r : Nat)
    (hopen : (lw.l.getS s).sockOpen = true) (hgate : gate (lw.l.getS s) con = false)
    (hfail : lw.wf.headD false = true) :
    submitW lw s con mid r =
      { l := { lw.l with out := .sub none :: .tx lw.l.now s mid 0 con :: lw.l.out },
        wf := lw.wf.tail, failed := lw.l.out.length :: lw.failed, dev := true } := by
  have hw : write lw s mid 0 con =
      (true, ({ l := lw.l.emit (.tx lw.l.now s mid 0 con), wf := lw.wf.tail,
                failed := lw.l.out.length :: lw.failed, dev := lw.dev } : LW)) := by
    unfold write
    simp only [hfail, if_true]
  unfold submitW
  simp only [hopen, hgate, Bool.not_true, Bool.false_eq_true, if_false, hw, if_true]
  rfl

/-- the run after the refused call and the run from the state before it, the oracle one answer further, are the same run of
`bare` over different older outputs -/
theorem runW_after_refused (lw : LW) (s : Nat) (con : Bool) (mid r : Nat) (evs : List Ev)
    (hopen : (lw.l.getS s).sockOpen = true) (hgate : gate (lw.l.getS s) con = false)
    (hfail : lw.wf.headD false = true) :
    runW (submitW lw s con mid r) evs =
      rebase (.sub none :: .tx lw.l.now s mid 0 con :: lw.l.out) (lw.l.out.length :: lw.failed) true
        (runW (bare { lw with wf := lw.wf.tail }) evs) ∧
    runW { lw with wf := lw.wf.tail } evs =
      rebase lw.l.out lw.failed lw.dev (runW (bare { lw with wf := lw.wf.tail }) evs) := by
  constructor
  · rw [← runW_rebase, submitW_refused lw s con mid r hopen hgate hfail]
    congr 1
  · rw [← runW_rebase, rebase_bare { lw with wf := lw.wf.tail }]

end Coap.MsgW
