import CoapVerif.Lemmas.Server
/-
C10, what S prescribes: the vocabulary of the clause theorems (`Admitted`, `replyOk`, `outcomeOk`), reply shape and
handler call stage by stage, the request view; then the same for a request that finds state left by earlier datagrams
(`specA_elim`) and the invariants of the history over arbitrary datagram sequences.
-/
namespace Coap.Server.L
open Coap Coap.Server Coap.Generated.Server

/-- `Coap.ite_ind` for two cascades with the same tests: a relation between the two results is carried down both at once -/
theorem ite_ind2 {c : Prop} [Decidable c] {α : Type} {P : α → α → Prop} {a b a' b' : α} (ha : P a a') (hb : P b b') :
    P (if c then a else b) (if c then a' else b') := by
  by_cases h : c
  · rw [if_pos h, if_pos h]; exact ha
  · rw [if_neg h, if_neg h]; exact hb

/-- `fwd` of S: a proxy resource exists and the request carries Proxy-Uri or Proxy-Scheme -/
def fwdOf (tbl : Table) (rq : Request) : Bool := tbl.prx.isSome && (hasOpt rq.msg.opts 35 || hasOpt rq.msg.opts 39)
/-- D3: some unrecognised critical option was tolerated for forwarding -/
def tolOf (cfg : Cfg) (tbl : Table) (rq : Request) : Bool := (rq.msg.opts.map (·.1)).any (S.tolerated cfg (fwdOf tbl rq))

/-- the request passes everything that precedes the proxy / Hop-Limit / resource stages -/
structure Admitted (cfg : Cfg) (tbl : Table) (rq : Request) : Prop where
  code : isRequestCode rq.msg.code = true
  verdict : rq.verdict.code ≠ 168
  opts : S.badOption cfg (fwdOf tbl rq) rq.msg.opts = false
  noOscore : hasOpt rq.msg.opts 9 = false
  type : rq.msg.type = CON ∨ rq.msg.type = NON
  token : rq.msg.token.length ≤ cfg.mts
  mcast : rq.mcast = true → rq.msg.type = NON

/-- what the property demands of every message sent in reaction to the request `rq` -/
def replyOk (rq : Request) (x : Reply) : Prop :=
  x.mid = rq.msg.mid ∧ (x.code ≠ 0 → x.token = rq.msg.token) ∧
  (x.type = ACK → rq.msg.type = CON) ∧ (x.type = RST → x.code = 0) ∧ (x.type = CON → rq.msg.type = CON)

/-- at most one message; or exactly the separate-response pair of a proxied Confirmable request (D8) -/
def countOk (rq : Request) (o : Outcome) : Prop :=
  o.replies.length ≤ 1 ∨
  ∃ x, o.replies = [S.lib ACK 0 rq.msg.mid [], x] ∧ x.type = CON ∧ ∃ c, o.call = some c ∧ c.who = .prx

def outcomeOk (rq : Request) (o : Outcome) : Prop := (∀ x ∈ o.replies, replyOk rq x) ∧ countOk rq o

/-- a response type that fits the request: a piggybacked ACK or a separate Confirmable response only answers a
Confirmable request -/
def typeFits (rq : Request) (t : Nat) : Prop := (t = ACK ∧ rq.msg.type = CON) ∨ t = NON ∨ (t = CON ∧ rq.msg.type = CON)

theorem ok_nil {rq : Request} {b : Bool} {c : Option Call} : outcomeOk rq ⟨b, [], c⟩ := by
  constructor
  · intro x hx; simp at hx
  · left; simp

theorem ok_single {rq : Request} {x : Reply} {c : Option Call} (h : replyOk rq x) : outcomeOk rq ⟨true, [x], c⟩ := by
  constructor
  · intro y hy; simp at hy; subst hy; exact h
  · left; simp

theorem ok_ite (rq : Request) {c : Prop} [Decidable c] {l l' : List Reply} (h : outcomeOk rq ⟨true, l, none⟩)
    (h' : outcomeOk rq ⟨true, l', none⟩) : outcomeOk rq ⟨true, if c then l else l', none⟩ :=
  ite_ind (P := fun l => outcomeOk rq ⟨true, l, none⟩) (fun _ => h) fun _ => h'

theorem deliver_len (cfg : Cfg) (rq : Request) (fl : Option Nat) (obs : Bool) (r : Reply) :
    (S.deliver cfg rq fl obs r).length ≤ 1 := by
  rcases deliver_shape cfg rq fl obs r with h | h | h <;> rw [h] <;> simp

theorem replyOk_of_fields {rq : Request} {r x : Reply} (hm : r.mid = rq.msg.mid) (ht : r.token = rq.msg.token)
    (hty : typeFits rq r.type) (hx : Delivered r x) : replyOk rq x := by
  have h1 := hx.type
  refine ⟨hx.mid.trans hm, fun h => (hx.token h).trans ht, ?_, ?_, ?_⟩
  · intro ha; rw [h1] at ha
    rcases hty with ⟨_, b⟩ | b | ⟨a, _⟩
    · exact b
    · rw [b] at ha; cases ha
    · rw [a] at ha; cases ha
  · intro ha; rw [h1] at ha
    rcases hty with ⟨a, _⟩ | b | ⟨a, _⟩ <;> simp_all [ACK, NON, CON, RST]
  · intro ha; rw [h1] at ha
    rcases hty with ⟨a, _⟩ | b | ⟨_, b⟩
    · rw [a] at ha; cases ha
    · rw [b] at ha; cases ha
    · exact b

theorem deliver_ok (cfg : Cfg) (rq : Request) (fl : Option Nat) (obs : Bool) (r : Reply)
    (hm : r.mid = rq.msg.mid) (ht : r.token = rq.msg.token)
    (hty : typeFits rq r.type) : ∀ x ∈ S.deliver cfg rq fl obs r, replyOk rq x := fun x hx =>
  replyOk_of_fields hm ht hty (deliver_mem cfg rq fl obs r x hx)

theorem ok_deliver {cfg : Cfg} {rq : Request} {fl : Option Nat} {obs : Bool} {r : Reply} {c : Option Call}
    (hm : r.mid = rq.msg.mid) (ht : r.token = rq.msg.token)
    (hty : typeFits rq r.type) : outcomeOk rq ⟨true, S.deliver cfg rq fl obs r, c⟩ :=
  ⟨deliver_ok cfg rq fl obs r hm ht hty, Or.inl (deliver_len ..)⟩

theorem respType_ty (rq : Request) : typeFits rq (S.respType rq.msg.type) :=
  ite_ind (P := typeFits rq) (fun h => Or.inl ⟨rfl, h⟩) fun _ => Or.inr (Or.inl rfl)

theorem errReply_ok (rq : Request) (code : Nat) : replyOk rq (S.errReply rq.msg code) :=
  replyOk_of_fields (r := S.errReply rq.msg code) rfl rfl (respType_ty rq) ⟨rfl, Or.inl rfl, rfl, rfl, fun _ => rfl⟩

theorem fail_ok (cfg : Cfg) (rq : Request) (fl : Option Nat) (code : Nat) :
    outcomeOk rq ⟨true, S.deliver cfg rq fl false (S.errReply rq.msg code), none⟩ :=
  ok_deliver rfl rfl (respType_ty _)

theorem isPrx_who {sel : Sel} (h : sel.isPrx = true) : sel.who = some .prx := by
  cases sel <;> simp [Sel.isPrx] at h <;> rfl

theorem ack_ok {rq : Request} (hcon : rq.msg.type = CON) : replyOk rq (S.lib ACK 0 rq.msg.mid []) :=
  ⟨rfl, fun h => absurd rfl h, fun _ => hcon, fun _ => rfl, fun h => absurd (h : ACK = CON) (show ACK ≠ CON by decide)⟩

theorem finish_ok {e : S.Esc} {cfg : Cfg} {rq : Request} {os : Opts} {path : Bytes} {sel : Sel} {obs : Bool} {resp1 : Reply}
    (hm : resp1.mid = rq.msg.mid) (ht : resp1.token = rq.msg.token) (hty : resp1.type = S.respType rq.msg.type) :
    outcomeOk rq (S.finish e cfg rq os path sel obs resp1) := by
  have hresp := respType_ty rq
  unfold S.finish
  simp only
  generalize (if rq.verdict.code = 0 then resp1.code else rq.verdict.code) = code
  cases he : (sel.isPrx && rq.msg.type == CON) with
  | false =>
    simp only [Bool.false_eq_true, if_false, false_and, List.nil_append]
    cases hw : sel.who with
    | none =>
      exact ok_deliver hm ht (hty ▸ hresp)
    | some who =>
      simp only
      by_cases hv : S.validCode code = true
      · simp only [hv, not_true_eq_false, if_false]
        exact ok_deliver hm ht (hty ▸ hresp)
      · simp only [hv]
        exact ok_nil
  | true =>
    have hprx : sel.isPrx = true := by cases h : sel.isPrx <;> simp [h] at he ⊢
    have hcon : rq.msg.type = CON := by cases h : sel.isPrx <;> simp [h] at he; exact he
    have hack := ack_ok hcon
    rw [isPrx_who hprx]
    simp only [if_true, true_and]
    by_cases hv : S.validCode code = true
    · simp only [hv, not_true_eq_false, if_false]
      by_cases h0 : code = 0
      · simp only [h0, if_true]
        exact ok_single hack
      · simp only [h0, if_false]
        have hd := deliver_ok cfg rq (some sel.flags) obs
          { resp1 with code := code, body := .bytes rq.verdict.payload, type := CON } hm ht (Or.inr (Or.inr ⟨rfl, hcon⟩))
        have hf := deliver_mem cfg rq (some sel.flags) obs
          { resp1 with code := code, body := .bytes rq.verdict.payload, type := CON }
        have hl := deliver_len cfg rq (some sel.flags) obs
          { resp1 with code := code, body := .bytes rq.verdict.payload, type := CON }
        generalize S.deliver cfg rq (some sel.flags) obs _ = d at hd hf hl
        match d, hd, hf, hl with
        | [], _, _, _ => exact ok_single hack
        | [x], hd, hf, _ =>
          refine ⟨?_, Or.inr ⟨x, rfl, (hf x (by simp)).type, _, rfl, rfl⟩⟩
          intro y hy
          rcases List.mem_cons.1 hy with rfl | hy
          · exact hack
          · exact hd y hy
        | _ :: _ :: _, _, _, hl => simp at hl
    · simp only [hv]
      exact ok_single hack

theorem run_ok (e : S.Esc) (cfg : Cfg) (rq : Request) (os : Opts) (path : Bytes) (sel : Sel) :
    outcomeOk rq (S.run e cfg rq os path sel) := by
  unfold S.run
  simp only
  split
  · exact ok_deliver rfl rfl (respType_ty _)
  · split
    · exact finish_ok rfl rfl rfl
    · exact finish_ok rfl rfl rfl

theorem stages_ok (e : S.Esc) (cfg : Cfg) (tbl : Table) (rq : Request) (tol : Bool) :
    outcomeOk rq (S.stages e cfg tbl rq tol) := by
  unfold S.stages
  simp only
  cases S.pre e tbl rq tol (clearBlock2M rq.msg.opts) with
  | fail code fl => exact fail_ok _ _ _ _
  | ignore => exact ok_nil
  | go ip os path =>
    simp only
    cases S.select tbl rq.msg.code ip path with
    | inl code => exact fail_ok _ _ _ _
    | inr sel =>
      simp only
      cases S.precond cfg rq os sel with
      | some code => exact fail_ok _ _ _ _
      | none => exact run_ok _ _ _ _ _ _

theorem handle_ok (e : S.Esc) (cfg : Cfg) (tbl : Table) (rq : Request) (tol : Bool) :
    outcomeOk rq (S.handle e cfg tbl rq tol) :=
  ite_ind (fun _ => ok_nil) fun _ => stages_ok ..

theorem rst_ok (rq : Request) : replyOk rq (S.lib RST 0 rq.msg.mid []) := by
  unfold replyOk S.lib
  refine ⟨rfl, fun h => absurd rfl h, fun h => ?_, fun _ => rfl, fun h => ?_⟩ <;> simp [ACK, CON, RST] at h

theorem precond_none_handler {cfg : Cfg} {rq : Request} {os : Opts} {sel : Sel} (h : S.precond cfg rq os sel = none) :
    handlerBit sel.mask rq.msg.code = true := by
  unfold S.precond at h
  by_cases h1 : flag sel.flags F_OSCORE_ONLY = true
  · simp [h1] at h
  · by_cases h2 : sel.exists_ = true ∧ hasOpt os 5 = true
    · simp [h1, h2] at h
    · by_cases hb : handlerBit sel.mask rq.msg.code = true
      · exact hb
      · simp [h1, h2, hb] at h

theorem finish_call (e : S.Esc) (cfg : Cfg) (rq : Request) (os : Opts) (path : Bytes) (sel : Sel) (obs : Bool) (resp1 : Reply) :
    (S.finish e cfg rq os path sel obs resp1).call =
      sel.who.map fun who => ⟨who, rq.msg.code, path, S.uriQuery e os, os, rq.msg.payload⟩ := by
  unfold S.finish
  simp only
  generalize (if rq.verdict.code = 0 then resp1.code else rq.verdict.code) = code
  cases sel.who with
  | none => rfl
  | some who =>
    simp only [Option.map]
    by_cases hv : S.validCode code = true
    · simp only [hv, not_true_eq_false, if_false]
      split <;> rfl
    · simp [hv]

theorem run_call (e : S.Esc) (cfg : Cfg) (rq : Request) (os : Opts) (path : Bytes) (sel : Sel) (c : Call)
    (h : (S.run e cfg rq os path sel).call = some c) :
    sel.who.map (fun who => ⟨who, rq.msg.code, path, S.uriQuery e os, os, rq.msg.payload⟩) = some c := by
  unfold S.run at h
  dsimp only at h
  split at h
  · cases h
  · rw [finish_call] at h; exact h

theorem stages_call (e : S.Esc) (cfg : Cfg) (tbl : Table) (rq : Request) (tol : Bool) (c : Call)
    (h : (S.stages e cfg tbl rq tol).call = some c) :
    ∃ ip os path sel, S.pre e tbl rq tol (clearBlock2M rq.msg.opts) = .go ip os path ∧
      S.select tbl rq.msg.code ip path = .inr sel ∧ S.precond cfg rq os sel = none ∧
      sel.who.map (fun who => ⟨who, rq.msg.code, path, S.uriQuery e os, os, rq.msg.payload⟩) = some c := by
  unfold S.stages at h
  dsimp only at h
  split at h
  · cases h
  · cases h
  · rename_i ip os path hpre
    split at h
    · cases h
    · rename_i sel hsel
      split at h
      · cases h
      · rename_i hck
        exact ⟨ip, os, path, sel, hpre, hsel, hck, run_call e cfg rq os path sel c h⟩

/-! ### the request view: `clearBlock2M` and `setHop` touch Block2 and Hop-Limit only -/
theorem hasOpt_clear (os : Opts) (n : Nat) : hasOpt (clearBlock2M os) n = hasOpt os n := by
  induction os with
  | nil => rfl
  | cons o r ih =>
    obtain ⟨k, v⟩ := o
    unfold clearBlock2M
    by_cases hk : k = 23
    · subst hk
      simp only [if_true]
      split <;> simp [hasOpt]
    · simp only [hk, if_false]
      simp only [hasOpt, List.any_cons] at ih ⊢
      rw [ih]

theorem hasOpt_setHop (h : Nat) (os : Opts) (n : Nat) : hasOpt (setHop h os) n = hasOpt os n := by
  induction os with
  | nil => rfl
  | cons o r ih =>
    obtain ⟨k, v⟩ := o
    unfold setHop
    by_cases hk : k = 16
    · subst hk; simp [hasOpt]
    · simp only [hk, if_false]
      simp only [hasOpt, List.any_cons] at ih ⊢
      rw [ih]

theorem firstOpt_clear (os : Opts) (n : Nat) (hn : n ≠ 23) : firstOpt (clearBlock2M os) n = firstOpt os n := by
  induction os with
  | nil => rfl
  | cons o r ih =>
    obtain ⟨k, v⟩ := o
    unfold clearBlock2M
    by_cases hk : k = 23
    · subst hk
      have : (23 == n) = false := by simp; omega
      simp only [if_true]
      split <;> simp [firstOpt, List.find?, this]
    · simp only [hk, if_false]
      simp only [firstOpt, List.find?] at ih ⊢
      split
      · rfl
      · exact ih

/-- the options other than Hop-Limit (16) and Block2 (23) -/
def keep (o : Nat × Bytes) : Bool := o.1 != 16 && o.1 != 23

theorem setHop_keep (k : Nat) (os : Opts) : (setHop k os).filter keep = os.filter keep := by
  induction os with
  | nil => rfl
  | cons o r ih =>
    obtain ⟨n, v⟩ := o
    unfold setHop
    by_cases hn : n = 16
    · subst hn; simp [keep]
    · simp only [hn, if_false, List.filter_cons, ih]

theorem clear_keep (os : Opts) : (clearBlock2M os).filter keep = os.filter keep := by
  induction os with
  | nil => rfl
  | cons o r ih =>
    obtain ⟨n, v⟩ := o
    unfold clearBlock2M
    by_cases hn : n = 23
    · subst hn; simp only [if_true]; split <;> simp [keep]
    · simp only [hn, if_false, List.filter_cons, ih]

theorem pre_view {e : S.Esc} {tbl : Table} {rq : Request} {c : Bool} {os os' : Opts} {ip : Bool} {path : Bytes} :
    S.pre e tbl rq c os = .go ip os' path → os'.filter keep = os.filter keep :=
  pre_elim (P := fun p => p = .go ip os' path → _) e tbl rq c os (fun _ _ _ => nofun) nofun fun _ _ _ h _ _ he => by
    injection he with _ e2
    subst e2
    rcases h with rfl | ⟨k, rfl⟩
    · rfl
    · exact setHop_keep k os

theorem pre_go_plain {e : S.Esc} {tbl : Table} {rq : Request} {c : Bool} {os os' : Opts} {ip : Bool} {path : Bytes}
    (h35 : hasOpt os 35 = false) (h39 : hasOpt os 39 = false) :
    S.pre e tbl rq c os = .go ip os' path → ip = false ∧ path = S.uriPath e os' ∧ ∀ n, hasOpt os' n = hasOpt os n :=
  pre_elim (P := fun p => p = .go ip os' path → _) e tbl rq c os (fun _ _ _ h => Pre.noConfusion h)
    (fun h => Pre.noConfusion h) fun ip1 os1 path1 hos hpath hip heq => by
      injection heq with e1 e2 e3
      subst e1 e2 e3
      have ho : ∀ n, hasOpt os1 n = hasOpt os n := by
        rcases hos with rfl | ⟨k, rfl⟩
        · exact fun _ => rfl
        · exact hasOpt_setHop k os
      refine ⟨?_, hpath ((ho 35).trans h35), ho⟩
      cases ip1 with
      | false => rfl
      | true => rcases hip rfl with h | h <;> simp [h35, h39] at h

/-! ### a request that finds state left by earlier datagrams (`hit`, `dup`): with nothing found S.serverSpecA is S.serverSpec -/
/-- the Empty ACK repeated for a Confirmable retransmission / duplicate -/
def ackAgain (rq : Request) : Outcome := ⟨true, [S.lib ACK 0 rq.msg.mid []], none⟩

theorem stagesA_cases (e : S.Esc) (dup : Bool) (cfg : Cfg) (tbl : Table) (rq : Request) (tol : Bool) :
    S.stagesA e dup cfg tbl rq tol = S.stages e cfg tbl rq tol ∨
    (S.stagesA e dup cfg tbl rq tol = ackAgain rq ∧ rq.msg.type = CON ∧ dup = true) := by
  unfold S.stagesA S.stages
  simp only
  cases S.pre e tbl rq tol (clearBlock2M rq.msg.opts) with
  | fail code fl => left; rfl
  | ignore => left; rfl
  | go ip os path =>
    simp only
    cases S.select tbl rq.msg.code ip path with
    | inl resp => left; rfl
    | inr sel =>
      simp only
      cases S.precond cfg rq os sel with
      | some resp => left; rfl
      | none =>
        exact ite_ind (P := fun o => o = S.run e cfg rq os path sel ∨ (o = ackAgain rq ∧ rq.msg.type = CON ∧ dup = true))
          (fun h => Or.inr ⟨rfl, h.2.1, h.2.2⟩) fun _ => Or.inl rfl

theorem stagesA_false (e : S.Esc) (cfg : Cfg) (tbl : Table) (rq : Request) (tol : Bool) :
    S.stagesA e false cfg tbl rq tol = S.stages e cfg tbl rq tol :=
  (stagesA_cases e false cfg tbl rq tol).resolve_right fun h => Bool.noConfusion h.2.2

theorem handleA_fresh (e : S.Esc) (cfg : Cfg) (tbl : Table) (rq : Request) (tol : Bool) :
    S.handleA e false false cfg tbl rq tol = S.handle e cfg tbl rq tol := by
  unfold S.handleA S.handle
  simp only [stagesA_false, Bool.false_eq_true, if_false]

theorem serverSpecA_fresh (e : S.Esc) (cfg : Cfg) (tbl : Table) (rq : Request) :
    S.serverSpecA e false false cfg tbl rq = S.serverSpec e cfg tbl rq := by
  unfold S.serverSpecA S.serverSpec
  simp only [handleA_fresh]

/-! ### what the state found can change: S.serverSpecA against S.serverSpec -/
/-- a request of the peer whose (peer, token) is pending, once past the message-level checks (D11) -/
def retrans (rq : Request) : Outcome := ⟨true, if rq.msg.type = CON then [S.lib ACK 0 rq.msg.mid []] else [], none⟩

theorem handleA_cases (e : S.Esc) (hit dup : Bool) (cfg : Cfg) (tbl : Table) (rq : Request) (tol : Bool) :
    S.handleA e hit dup cfg tbl rq tol = S.handle e cfg tbl rq tol ∨
    (S.handleA e hit dup cfg tbl rq tol = retrans rq ∧ hit = true) ∨
    (S.handleA e hit dup cfg tbl rq tol = ackAgain rq ∧ rq.msg.type = CON ∧ dup = true) := by
  unfold S.handleA S.handle
  refine ite_ind2 (P := fun o o' => o = o' ∨ (o = retrans rq ∧ hit = true) ∨
    (o = ackAgain rq ∧ rq.msg.type = CON ∧ dup = true)) (Or.inl rfl) ?_
  cases hit with
  | true => exact Or.inr (Or.inl ⟨rfl, rfl⟩)
  | false => exact (stagesA_cases e dup cfg tbl rq tol).imp id Or.inr

theorem validCode_of_request {c : Nat} (h : isRequestCode c = true) : S.validCode c = true := by
  simp [isRequestCode] at h; simp [S.validCode]; omega

theorem specA_admitted (e : S.Esc) (hit dup : Bool) {cfg : Cfg} {tbl : Table} {rq : Request} (h : Admitted cfg tbl rq) :
    S.serverSpecA e hit dup cfg tbl rq =
      if hit then retrans rq else S.stagesA e dup cfg tbl rq (tolOf cfg tbl rq) := by
  have hna : ¬ (rq.msg.type = ACK ∨ rq.msg.type = RST) := by
    rcases h.type with t | t <;> rw [t] <;> decide
  have hmc : ¬ (rq.mcast = true ∧ rq.msg.type ≠ NON) := fun ⟨a, b⟩ => b (h.mcast a)
  have htok : ¬ rq.msg.token.length > cfg.mts := by have := h.token; omega
  have hopts := h.opts
  unfold fwdOf at hopts
  unfold S.serverSpecA S.handleA retrans tolOf fwdOf
  simp only [validCode_of_request h.code, h.code, h.verdict, hopts, h.noOscore, hna, htok, hmc, not_true_eq_false,
    if_false, Bool.false_eq_true]

theorem spec_admitted (e : S.Esc) {cfg : Cfg} {tbl : Table} {rq : Request} (h : Admitted cfg tbl rq) :
    S.serverSpec e cfg tbl rq = S.stages e cfg tbl rq (tolOf cfg tbl rq) := by
  rw [← serverSpecA_fresh, specA_admitted e false false h, stagesA_false]
  rfl

/-- the message-level checks are those of the fresh context: they end in the same library reply (or none), well-formed
and without handler call — or both functions go on to handle the request -/
theorem specA_elim {P : Outcome → Outcome → Prop} (e : S.Esc) (hit dup : Bool) (cfg : Cfg) (tbl : Table) (rq : Request)
    (lib : ∀ o, o.call = none → outcomeOk rq o → P o o)
    (pass : P (S.handleA e hit dup cfg tbl rq (tolOf cfg tbl rq)) (S.handle e cfg tbl rq (tolOf cfg tbl rq))) :
    P (S.serverSpecA e hit dup cfg tbl rq) (S.serverSpec e cfg tbl rq) := by
  have rst := ok_single (c := none) (rst_ok rq)
  have nil : outcomeOk rq ⟨true, [], none⟩ := ok_nil
  unfold S.serverSpecA S.serverSpec
  exact ite_ind2 (lib _ rfl (ok_ite rq rst nil)) <| ite_ind2 (lib _ rfl nil) <| ite_ind2 (lib _ rfl nil) <|
    ite_ind2 (ite_ind2 (lib _ rfl (ok_ite rq nil rst)) <|
      ite_ind2 (lib _ rfl (ok_single (errReply_ok rq 130))) (lib _ rfl nil)) <|
    ite_ind2 (lib _ rfl nil) <| ite_ind2 (lib _ rfl nil) <|
    ite_ind2 (ite_ind2 (lib _ rfl (ok_single (errReply_ok rq 128))) (lib _ rfl (ok_ite rq nil rst))) pass

theorem outcomeA_ok (e : S.Esc) (hit dup : Bool) (cfg : Cfg) (tbl : Table) (rq : Request) :
    outcomeOk rq (S.serverSpecA e hit dup cfg tbl rq) := by
  refine specA_elim (P := fun o _ => outcomeOk rq o) e hit dup cfg tbl rq (fun _ _ h => h) ?_
  rcases handleA_cases e hit dup cfg tbl rq (tolOf cfg tbl rq) with h | ⟨h, _⟩ | ⟨h, ht, _⟩
  · rw [h]; exact handle_ok ..
  · rw [h]
    exact ite_ind (P := fun l => outcomeOk rq ⟨true, l, none⟩) (fun ht => ok_single (ack_ok ht)) fun _ => ok_nil
  · rw [h]
    exact ok_single (ack_ok ht)

theorem outcome_ok (e : S.Esc) (cfg : Cfg) (tbl : Table) (rq : Request) : outcomeOk rq (S.serverSpec e cfg tbl rq) := by
  rw [← serverSpecA_fresh]; exact outcomeA_ok e false false cfg tbl rq

theorem spec_call (e : S.Esc) (cfg : Cfg) (tbl : Table) (rq : Request) (c : Call)
    (h : (S.serverSpec e cfg tbl rq).call = some c) : (S.stages e cfg tbl rq (tolOf cfg tbl rq)).call = some c := by
  refine specA_elim (P := fun _ o => o.call = some c → (S.stages e cfg tbl rq (tolOf cfg tbl rq)).call = some c)
    e false false cfg tbl rq (fun o hn _ ho => ?_) ?_ h
  · rw [hn] at ho; cases ho
  · unfold S.handle
    exact ite_ind (P := fun o : Outcome => o.call = some c → _) (fun _ ho => by cases ho) fun _ => id

/-! ### the history over arbitrary datagram sequences -/
theorem noteCon_pend (h : Hist) (ev : Ev) (o : Outcome) : (h.noteCon ev o).pend = h.pend := by
  unfold Hist.noteCon
  cases o.call with
  | none => rfl
  | some c => simp only; split <;> rfl

theorem after_lastCon (h : Hist) (ev : Ev) (o : Outcome) (x : Nat × Nat) (hx : x ∈ (h.after ev o).lastCon) :
    x ∈ h.lastCon ∨ (x = (ev.peer, ev.rq.msg.mid) ∧ ev.rq.msg.type = CON) := by
  have hn : x ∈ (h.noteCon ev o).lastCon := by
    unfold Hist.after at hx
    dsimp only at hx
    split at hx <;> exact hx
  unfold Hist.noteCon at hn
  cases hc : o.call with
  | none => rw [hc] at hn; exact Or.inl hn
  | some c =>
    rw [hc] at hn
    dsimp only at hn
    split at hn
    · rename_i hw
      exact (List.mem_cons.1 hn).symm.imp id fun hx => ⟨hx, hw.2⟩
    · exact Or.inl hn

theorem after_pend (h : Hist) (ev : Ev) (o : Outcome) (x : Nat × Bytes) (hx : x ∈ (h.after ev o).pend) :
    x ∈ h.pend ∨ (x = (ev.peer, ev.rq.msg.token) ∧ ev.defer = true) := by
  unfold Hist.after at hx
  dsimp only at hx
  split at hx
  · rename_i hd
    rw [List.mem_cons, noteCon_pend] at hx
    exact hx.symm.imp id fun hx => ⟨hx, hd.1⟩
  · rw [noteCon_pend] at hx; exact Or.inl hx

theorem final_mem {α : Type} (f : Hist → List α) (P : Ev → α → Prop)
    (hstep : ∀ h ev o x, x ∈ f (h.after ev o) → x ∈ f h ∨ P ev x)
    (dec : Bool → Bool → Request → Outcome) (evs : List Ev) (h : Hist) (x : α) (hx : x ∈ f (seqFinal dec h evs)) :
    x ∈ f h ∨ ∃ ev ∈ evs, P ev x := by
  induction evs generalizing h with
  | nil => exact Or.inl hx
  | cons ev r ih =>
    rcases ih _ hx with h1 | ⟨e, he, h2⟩
    · exact (hstep h ev _ x h1).imp id fun h3 => ⟨ev, List.mem_cons_self, h3⟩
    · exact Or.inr ⟨e, List.mem_cons_of_mem _ he, h2⟩

theorem final_pend (dec : Bool → Bool → Request → Outcome) (evs : List Ev) (h : Hist) (x : Nat × Bytes)
    (hx : x ∈ (seqFinal dec h evs).pend) :
    x ∈ h.pend ∨ ∃ ev ∈ evs, x = (ev.peer, ev.rq.msg.token) ∧ ev.defer = true :=
  final_mem Hist.pend _ after_pend dec evs h x hx

theorem final_lastCon (dec : Bool → Bool → Request → Outcome) (evs : List Ev) (h : Hist) (x : Nat × Nat)
    (hx : x ∈ (seqFinal dec h evs).lastCon) :
    x ∈ h.lastCon ∨ ∃ ev ∈ evs, x = (ev.peer, ev.rq.msg.mid) ∧ ev.rq.msg.type = CON :=
  final_mem Hist.lastCon _ after_lastCon dec evs h x hx

theorem seqRun_append (dec : Bool → Bool → Request → Outcome) (h : Hist) (a b : List Ev) :
    seqRun dec h (a ++ b) = seqRun dec h a ++ seqRun dec (seqFinal dec h a) b := by
  induction a generalizing h with
  | nil => rfl
  | cons ev r ih => simp only [List.cons_append, seqRun, seqFinal, ih]

theorem lookup_mem {α β : Type} [BEq α] [LawfulBEq α] (l : List (α × β)) (k : α) (v : β) (h : l.lookup k = some v) :
    (k, v) ∈ l := by
  obtain ⟨_, _, rfl, _⟩ := List.lookup_eq_some_iff.1 h
  exact List.mem_append_right _ List.mem_cons_self

theorem seq_last_fresh (dec : Bool → Bool → Request → Outcome) (pre : List Ev) (ev : Ev)
    (htok : ∀ p ∈ pre, p.peer = ev.peer → p.defer = true → p.rq.msg.token ≠ ev.rq.msg.token)
    (hmid : ∀ p ∈ pre, p.peer = ev.peer → p.rq.msg.type = CON → p.rq.msg.mid ≠ ev.rq.msg.mid) :
    seqRun dec Hist.empty (pre ++ [ev]) = seqRun dec Hist.empty pre ++ [dec false false ev.rq] := by
  rw [seqRun_append]
  have hhit : (seqFinal dec Hist.empty pre).hit ev = false := Bool.eq_false_iff.2 fun hc => by
    rcases final_pend dec pre Hist.empty _ (by simpa [Hist.hit] using hc) with h0 | ⟨p, hp, he, hd⟩
    · cases h0
    · simp only [Prod.mk.injEq] at he
      exact htok p hp he.1.symm hd he.2.symm
  have hdup : (seqFinal dec Hist.empty pre).dup ev = false := Bool.eq_false_iff.2 fun hc => by
    rcases final_lastCon dec pre Hist.empty _ (lookup_mem _ _ _ (by simpa [Hist.dup] using hc)) with h0 | ⟨p, hp, he, hd⟩
    · cases h0
    · simp only [Prod.mk.injEq] at he
      exact hmid p hp he.1.symm hd he.2.symm
  simp only [seqRun, hhit, hdup]

end Coap.Server.L
