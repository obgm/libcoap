import CoapVerif.Lemmas.Exchange
/-
Helper lemmas for C07: the retransmission loop on the layer `Wt n` in explicit form (what one call of
coap_io_prepare_io does to the single waiting request: nothing before the deadline, one retransmission with the
doubled timeout while `retransmit_cnt < MAX_RETRANSMIT`, the NACK after that), what a call at or after the deadline
does to the retransmission counter, and the bounds of `coap_calc_timeout`.
-/
namespace Coap.Exch

namespace Layer

theorem tick_Wt_not_due (now f : Nat) (n : Node) (h : ¬ n.due ≤ now) : tick now f (Wt n) = (Wt n, []) := by
  cases f <;> simp [tick, Wt, h]

/-- with a positive timeout one call does at most one thing: the re-armed deadline lies in the future -/
theorem tickAll_Wt_explicit (now : Nat) (n : Node) (hc : n.d.type = .con) (hT : 0 < n.timeout) :
    tickAll now (Wt n) =
      if n.due ≤ now then
        if n.cnt < maxRetransmit then
          (Wt { n with cnt := n.cnt + 1, due := now + n.timeout * 2 ^ (n.cnt + 1) }, [Out.tx n.d])
        else (Idle, [Out.callNack .retries n.d.mid])
      else (Wt n, []) := by
  -- the fuel of `tickAll` on a queue of one node is (1 + 1) * 6
  have hf : tickAll now (Wt n) = tick now (11 + 1) (Wt n) := by simp [tickAll, Wt]
  rw [hf, tick_Wt_succ now 11 n hc]
  by_cases hdue : n.due ≤ now
  · by_cases hcnt : n.cnt < maxRetransmit
    · simp only [hdue, hcnt, if_true]
      have hpos : 0 < n.timeout * 2 ^ (n.cnt + 1) := Nat.mul_pos hT (Nat.two_pow_pos _)
      have hnd : ¬ (now + n.timeout * 2 ^ (n.cnt + 1) ≤ now) := by omega
      rw [tick_Wt_not_due now 11 _ hnd]
    · simp [hdue, hcnt]
  · simp [hdue]

end Layer

theorem tick_Wt_due (c : Client) (now : Nat) (n n' : Node) (hL : c.L = Wt n) (hc : n.d.type = .con) (hdue : n.due ≤ now)
    (h : (c.tick now).1.L = Wt n') : n.cnt < n'.cnt ∧ n.cnt < maxRetransmit := by
  rw [tick_fst_L, hL] at h
  obtain ⟨k, ⟨n'', _, e, hk, hlt, hpos⟩ | e⟩ := Layer.tick_Wt_shape now (((Wt n).sendq.length + 1) * 6) n hc
  · rw [Layer.tickAll, e] at h
    have hk0 := hpos hdue (by simp [Wt])
    rw [← Layer.Wt_inj h, hk]
    exact ⟨Nat.lt_add_of_pos_right hk0, hlt hk0⟩
  · rw [Layer.tickAll, e] at h
    exact absurd h.symm (Wt_ne_Idle rfl)

theorem tick_Wt_explicit (c : Client) (now : Nat) (n : Node) (hL : c.L = Wt n) (hc : n.d.type = .con) (hT : 0 < n.timeout) :
    (¬ n.due ≤ now ∧ c.tick now = (c, [])) ∨
    (n.due ≤ now ∧ n.cnt < maxRetransmit ∧
      c.tick now = ({ c with L := Wt { n with cnt := n.cnt + 1, due := now + n.timeout * 2 ^ (n.cnt + 1) } },
                    [Out.tx n.d])) ∨
    (n.due ≤ now ∧ ¬ n.cnt < maxRetransmit ∧ c.tick now = ({ c with L := Idle }, [Out.callNack .retries n.d.mid])) := by
  cases c with
  | mk L lc la lr =>
    simp only at hL; subst hL
    simp only [Client.tick, Layer.tickAll_Wt_explicit now n hc hT]
    by_cases hdue : n.due ≤ now
    · by_cases hcnt : n.cnt < maxRetransmit <;> simp [hdue, hcnt]
    · simp [hdue]

/-- coap_calc_timeout with the default parameters never yields less than ACK_TIMEOUT (nor more than 1.5 times it) -/
theorem calcTimeout_ge (r : Nat) : ackTimeout ≤ calcTimeout r ∧ calcTimeout r ≤ 3000 := by
  simp only [calcTimeout, ackTimeout]
  omega

end Coap.Exch
