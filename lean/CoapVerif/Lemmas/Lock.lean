import CoapVerif.Model.Lock
/-
Helper lemmas for C13: the invariant of the interleaving semantics of CoapVerif/Model/Lock.lean.

Idea.  Each thread's call stack determines, by `interp`, what that thread believes about the lock
(`A`: does it hold the mutex, `in_callback`, `lock_count`).  The invariant says that `global_lock`, seen through
`view t`, is exactly that belief for every thread `t` simultaneously; since `view` can say "holds" for at most one
thread, mutual exclusion, balance, re-entrancy and deadlock freedom all follow.

The belief depends on two things only: whether the innermost frame is an API function, and the number `n` of open lock-keeping
callbacks (`keeps`).  Library code sees `A.lib n` (`lock_count = in_callback = n`), application code `A.app n`
(`lock_count = in_callback - 1`; no mutex when `n = 0`).  The four operations on the lock are the four ways between them:
coap_lock_lock_func `app n → lib n`, coap_lock_unlock_func `lib n → app n`, `in_callback++` `lib n → app (n+1)`,
`in_callback--` `app (n+1) → lib n`; that a pop lands on the right one of the two is why the stacks are kept alternating (`okStack`).
-/
namespace Coap.Lock

/-- a thread's view of the lock -/
structure A where
  h : Bool      -- holds the mutex
  k : Nat       -- in_callback
  c : Nat       -- lock_count
  deriving DecidableEq, Repr

def A.zero : A := ⟨false, 0, 0⟩

def view (t : Tid) (g : G) : A := if g.owner = some t then ⟨true, g.inCb, g.cnt⟩ else A.zero

def isApiTop : List Frame → Bool
  | .api :: _ => true
  | _ => false

/-- frames alternate: an API frame sits on the top level or on a callback frame, a callback frame on an API frame -/
def okStack : List Frame → Bool
  | [] => true
  | .api :: st => !isApiTop st && okStack st
  | .cb _ :: st => isApiTop st && okStack st

/-- the open lock-keeping callbacks of a call stack: the value of `in_callback` while the thread holds the mutex -/
def keeps : List Frame → Nat
  | [] => 0
  | .api :: st => keeps st
  | .cb k :: st => if k.releases then keeps st else keeps st + 1

/-- view of a thread executing library code under `n` lock-keeping callbacks: `lock_count = in_callback` -/
def A.lib (n : Nat) : A := ⟨true, n, n⟩
/-- view of a thread executing application code: one API call less than lock-keeping callbacks; with none of them open
(top level, released callbacks only) it does not hold the mutex -/
def A.app (n : Nat) : A := ⟨n != 0, n, n - 1⟩

theorem keeps_le : ∀ st : List Frame, keeps st ≤ st.length
  | [] => Nat.le_refl _
  | .api :: st => Nat.le_succ_of_le (keeps_le st)
  | .cb k :: st => by have := keeps_le st; simp only [keeps, List.length_cons]; split <;> omega

/-- what a thread's call stack says about the lock -/
def interp (st : List Frame) : A := if isApiTop st then A.lib (keeps st) else A.app (keeps st)

theorem interp_lib (st : List Frame) : interp (.api :: st) = A.lib (keeps st) := rfl

theorem interp_app {st : List Frame} (ha : isApiTop st = false) : interp st = A.app (keeps st) := by
  rw [interp, ha]
  rfl

structure Cons (g : G) : Prop where
  nofault : g.fault = false
  free : g.owner = none → g.pid = 0 ∧ g.inCb = 0 ∧ g.cnt = 0
  own : ∀ t, g.owner = some t → g.pid = selfPid t

theorem cons_init : Cons G.init := ⟨rfl, fun _ => ⟨rfl, rfl, rfl⟩, fun _ h => by simp [G.init] at h⟩

theorem view_own {t : Tid} {g : G} (h : g.owner = some t) : view t g = ⟨true, g.inCb, g.cnt⟩ := if_pos h

theorem view_h {t : Tid} {g : G} : (view t g).h = true ↔ g.owner = some t := by
  unfold view
  split <;> simp [*, A.zero]

theorem view_lib {t : Tid} {g : G} {n : Nat} (hv : view t g = A.lib n) : g.owner = some t ∧ g.inCb = n ∧ g.cnt = n := by
  have ho := view_h.1 (by rw [hv]; rfl)
  rw [view_own ho] at hv
  injection hv with _ hk hc
  exact ⟨ho, hk, hc⟩

theorem checkLocked_id {t : Tid} {g : G} (hc : Cons g) (ho : g.owner = some t) : checkLocked t g = g := by
  have := hc.own t ho
  simp [checkLocked, G.assert, this]

/-- coap_lock_lock_func() on a consistent `global_lock`, either variant: it takes a free mutex, re-enters for the holder inside
a callback (`in_callback ≠ 0`), and blocks otherwise -/
theorem lockFunc_eq {g : G} (hc : Cons g) (rc : Bool) (t : Tid) : lockFunc rc t g =
    if g.owner = none then some { g with owner := some t, pid := selfPid t }
    else if g.owner = some t ∧ g.inCb ≠ 0 then
      some (G.assert { g with cnt := u32 (g.cnt + 1) } (g.inCb == u32 (g.cnt + 1)))
    else none := by
  obtain ⟨owner, pid, inCb, cnt, fault⟩ := g
  cases owner with
  | none =>
    have h := hc.free rfl
    simp only at h
    cases rc <;> simp [lockFunc, G.assert, h.2.1]
  | some u =>
    have hp := hc.own u rfl
    simp only at hp
    subst hp
    by_cases hu : u = t
    · subst hu; by_cases hk : inCb = 0 <;> cases rc <;> simp [lockFunc, hk]
    · have : ¬ t = u := fun e => hu e.symm
      cases rc <;> simp [lockFunc, selfPid, hu, this]

theorem lockFunc_rc_eq {g : G} (hc : Cons g) (rc : Bool) (t : Tid) : lockFunc rc t g = lockFunc false t g := by
  rw [lockFunc_eq hc, lockFunc_eq hc]

theorem cbBefore_eq {t : Tid} {g : G} (hc : Cons g) (ho : g.owner = some t) (k : Cb) :
    cbBefore t k g = if k.releases then unlockFunc t g else { g with inCb := u32 (g.inCb + 1) } := by
  cases k <;> simp [cbBefore, Cb.releases, checkLocked_id hc ho]

theorem cbAfter_eq (rc : Bool) (t : Tid) (k : Cb) (g : G) :
    cbAfter rc t k g = if k.releases then lockFunc rc t g else some { g with inCb := u32 (g.inCb + 4294967295) } := by
  cases k <;> rfl

theorem lock_sim {rc : Bool} {t : Tid} {g g' : G} {n : Nat} (hc : Cons g) (hv : view t g = A.app n)
    (hn : n < maxDepth) (hs : lockFunc rc t g = some g') :
    Cons g' ∧ view t g' = A.lib n ∧ (g.owner = none ∨ g.owner = some t) ∧ g'.owner = some t := by
  rw [lockFunc_eq hc] at hs
  by_cases ho : g.owner = none
  · rw [if_pos ho] at hs
    obtain rfl := Option.some.inj hs
    obtain ⟨_, hk, hcn⟩ := hc.free ho
    simp [view, ho, A.zero, A.app] at hv
    obtain ⟨rfl, -⟩ := hv
    exact ⟨⟨hc.nofault, by simp, fun u h => by cases h; rfl⟩, by simp [view, A.lib, hk, hcn], Or.inl ho, rfl⟩
  · rw [if_neg ho] at hs
    by_cases ht : g.owner = some t ∧ g.inCb ≠ 0
    · rw [if_pos ht] at hs
      obtain rfl := Option.some.inj hs
      rw [view_own ht.1] at hv
      simp [A.app] at hv
      have hu : u32 (g.cnt + 1) = g.inCb := by unfold u32; unfold maxDepth at hn; omega
      simp only [G.assert, hu, beq_self_eq_true, if_true]
      exact ⟨⟨hc.nofault, fun h => absurd h ho, hc.own⟩, by simp [view, ht.1, A.lib, hv.2.1], Or.inr ht.1, ht.1⟩
    · rw [if_neg ht] at hs
      cases hs

theorem unlock_sim {t : Tid} {g : G} {n : Nat} (hc : Cons g) (hv : view t g = A.lib n) (hn : n ≤ maxDepth) :
    Cons (unlockFunc t g) ∧ view t (unlockFunc t g) = A.app n ∧ g.owner = some t ∧
    ((unlockFunc t g).owner = none ∨ (unlockFunc t g).owner = some t) := by
  obtain ⟨ho, hk, hcn⟩ := view_lib hv
  have hp := hc.own t ho
  have hf := hc.nofault
  obtain ⟨owner, pid, inCb, cnt, fault⟩ := g
  simp only at ho hk hcn hp hf
  subst ho hk hcn hp hf
  by_cases hk : cnt = 0
  · subst hk
    simp [unlockFunc, G.assert, mutexUnlock, view, A.app, A.zero]
    exact ⟨rfl, by simp, by simp⟩
  · have hm : (cnt + 4294967295) % 4294967296 = cnt - 1 := by unfold maxDepth at hn; omega
    simp [unlockFunc, G.assert, hk, Nat.pos_of_ne_zero hk, view, A.app, u32, hm]
    exact ⟨rfl, by simp, by simp⟩

/-- `global_lock.in_callback++` of coap_lock_callback / coap_lock_callback_ret -/
theorem keepIn_sim {t : Tid} {g : G} {n : Nat} (hc : Cons g) (hv : view t g = A.lib n) (hn : n < maxDepth) :
    Cons { g with inCb := u32 (g.inCb + 1) } ∧ view t { g with inCb := u32 (g.inCb + 1) } = A.app (n + 1) ∧
    g.owner = some t := by
  obtain ⟨ho, hk, hcn⟩ := view_lib hv
  have hm : u32 (g.inCb + 1) = n + 1 := by unfold u32; unfold maxDepth at hn; omega
  rw [hm]
  exact ⟨⟨hc.nofault, fun h => by simp [ho] at h, hc.own⟩, by simp [view, ho, A.app, hcn], ho⟩

/-- `global_lock.in_callback--` of coap_lock_callback / coap_lock_callback_ret -/
theorem keepOut_sim {t : Tid} {g : G} {n : Nat} (hc : Cons g) (hv : view t g = A.app (n + 1)) (hn : n < maxDepth) :
    Cons { g with inCb := u32 (g.inCb + 4294967295) } ∧ view t { g with inCb := u32 (g.inCb + 4294967295) } = A.lib n ∧
    g.owner = some t := by
  have ho : g.owner = some t := view_h.1 (by rw [hv]; rfl)
  rw [view_own ho] at hv
  simp only [A.app, A.mk.injEq, Nat.add_sub_cancel] at hv
  have hm : u32 (g.inCb + 4294967295) = n := by unfold u32; unfold maxDepth at hn; omega
  rw [hm]
  exact ⟨⟨hc.nofault, fun h => by simp [ho] at h, hc.own⟩, by simp [view, ho, A.lib, hv.2.2], ho⟩

/-- what `wn` demands of the call stack in front of a token and leaves to the rest of the program -/
theorem wn_lock {st : List Frame} {p : List Tok} (h : wn st (.lock :: p) = true) :
    isApiTop st = false ∧ st.length < maxDepth ∧ wn (.api :: st) p = true := by
  match st, h with
  | [], h => simp [wn] at h; simp [isApiTop, maxDepth, h]
  | .cb k :: st0, h => simp [wn] at h; simp [isApiTop, h]
  | .api :: st0, h => simp [wn] at h

theorem wn_unlock {st : List Frame} {p : List Tok} (h : wn st (.unlock :: p) = true) :
    ∃ st0, st = .api :: st0 ∧ wn st0 p = true := by
  match st, h with
  | .api :: st0, h => exact ⟨st0, rfl, by simpa [wn] using h⟩
  | [], h => simp [wn] at h
  | .cb _ :: _, h => simp [wn] at h

theorem wn_cbIn {st : List Frame} {k : Cb} {p : List Tok} (h : wn st (.cbIn k :: p) = true) :
    ∃ st0, st = .api :: st0 ∧ st0.length + 1 < maxDepth ∧ wn (.cb k :: .api :: st0) p = true := by
  match st, h with
  | .api :: st0, h => exact ⟨st0, rfl, by simpa [wn] using h⟩
  | [], h => simp [wn] at h
  | .cb _ :: _, h => simp [wn] at h

theorem wn_cbOut {st : List Frame} {k : Cb} {p : List Tok} (h : wn st (.cbOut k :: p) = true) :
    ∃ st0, st = .cb k :: st0 ∧ wn st0 p = true := by
  match st, h with
  | .cb k' :: st0, h =>
    simp [wn] at h
    obtain ⟨rfl, h0⟩ := h
    exact ⟨st0, rfl, h0⟩
  | [], h => simp [wn] at h
  | .api :: _, h => simp [wn] at h

theorem wn_startup {st : List Frame} {p : List Tok} (h : wn st (.startup :: p) = true) : wn st p = true := by
  match st, h with
  | [], h => simpa [wn] using h
  | .cb _ :: _, h => simpa [wn] using h
  | .api :: _, h => simp [wn] at h

theorem wn_nonempty {f : Frame} {st : List Frame} {p : List Tok} (h : wn (f :: st) p = true) : p ≠ [] := by
  intro e; subst e; simp [wn] at h

structure TInv (t : Tid) (g : G) (st : List Frame) (p : List Tok) : Prop where
  ok : okStack st = true
  len : st.length ≤ maxDepth
  wn : wn st p = true
  view : view t g = interp st

/-- the single step lemma.  The third conjunct is what keeps the OTHER threads' views (`inv_step`): a repeated coap_startup() leaves
`global_lock` exactly as it is, every other token happens with the mutex free or held by `t` and leaves it so -/
theorem tok_sim {rc : Bool} {t : Tid} {tok : Tok} {rest : List Tok} {g g' : G} {st : List Frame}
    (hc : Cons g) (hi : TInv t g st (tok :: rest)) (hs : tokStep rc t tok g = some g') :
    Cons g' ∧ TInv t g' (stackStep tok st) rest ∧
    ((tok = .startup ∧ g' = g) ∨
     ((g.owner = none ∨ g.owner = some t) ∧ (g'.owner = none ∨ g'.owner = some t))) := by
  obtain ⟨hok, hlen, hwn, hview⟩ := hi
  have hd := keeps_le st
  cases tok with
  | lock =>
    obtain ⟨hna, _, hwn'⟩ := wn_lock hwn
    have hok' : okStack (.api :: st) = true := by simp [okStack, hna, hok]
    obtain ⟨c', v', o, o'⟩ := lock_sim hc (hview.trans (interp_app hna)) (by omega) hs
    exact ⟨c', ⟨hok', by simp [stackStep]; omega, hwn', v'.trans (interp_lib _).symm⟩, Or.inr ⟨o, Or.inr o'⟩⟩
  | unlock =>
    obtain ⟨st0, rfl, hwn'⟩ := wn_unlock hwn
    simp only [tokStep, Option.some.injEq] at hs
    subst hs
    simp only [keeps, List.length_cons] at hd hlen
    obtain ⟨c', v', o, o'⟩ := unlock_sim hc (hview.trans (interp_lib _)) (by omega)
    simp only [okStack, Bool.and_eq_true, Bool.not_eq_true'] at hok
    exact ⟨c', ⟨hok.2, by simp [stackStep]; omega, hwn', v'.trans (interp_app hok.1).symm⟩, Or.inr ⟨Or.inr o, o'⟩⟩
  | cbIn k =>
    obtain ⟨st0, rfl, hd', hwn'⟩ := wn_cbIn hwn
    have hv := hview.trans (interp_lib _)
    simp only [tokStep, Option.some.injEq, cbBefore_eq hc (view_lib hv).1] at hs
    subst hs
    have hok' : okStack (.cb k :: .api :: st0) = true := by simpa [okStack, isApiTop] using hok
    simp only [keeps, List.length_cons] at hd hlen
    have hi' : ∀ {g'}, view t g' = A.app (keeps (.cb k :: .api :: st0)) → TInv t g' (stackStep (.cbIn k) (.api :: st0)) rest :=
      fun v' => ⟨hok', by simp [stackStep]; omega, hwn', v'.trans (interp_app rfl).symm⟩
    cases hr : k.releases
    · obtain ⟨c', v', o⟩ := keepIn_sim hc hv (by omega)
      exact ⟨c', hi' (by simpa [keeps, hr] using v'), Or.inr ⟨Or.inr o, Or.inr o⟩⟩
    · obtain ⟨c', v', o, o'⟩ := unlock_sim hc hv (by omega)
      exact ⟨c', hi' (by simpa [keeps, hr] using v'), Or.inr ⟨Or.inr o, o'⟩⟩
  | cbOut k =>
    obtain ⟨st0, rfl, hwn'⟩ := wn_cbOut hwn
    have hv := hview.trans (interp_app rfl)
    simp only [tokStep, cbAfter_eq] at hs
    simp only [okStack, Bool.and_eq_true] at hok
    obtain ⟨st1, rfl⟩ : ∃ st1, st0 = .api :: st1 := by
      match st0, hok.1 with
      | .api :: st1, _ => exact ⟨st1, rfl⟩
    have hd1 := keeps_le st1
    simp only [keeps, List.length_cons] at hlen hv
    have hi' : ∀ {g'}, view t g' = A.lib (keeps st1) → TInv t g' (stackStep (.cbOut k) (.cb k :: .api :: st1)) rest :=
      fun v' => ⟨hok.2, by simp [stackStep]; omega, hwn', v'.trans (interp_lib _).symm⟩
    cases hr : k.releases
    · simp only [hr, Bool.false_eq_true, if_false, Option.some.injEq] at hs hv
      subst hs
      obtain ⟨c', v', o⟩ := keepOut_sim hc hv (by omega)
      exact ⟨c', hi' v', Or.inr ⟨Or.inr o, Or.inr o⟩⟩
    · simp only [hr, if_true] at hs hv
      obtain ⟨c', v', o, o'⟩ := lock_sim hc hv (by omega) hs
      exact ⟨c', hi' v', Or.inr ⟨o, Or.inr o'⟩⟩
  | startup =>
    -- A2: coap_started = 1, the call returns at its guard
    simp only [tokStep, startupFunc, if_true, Option.some.injEq] at hs
    subst hs
    exact ⟨hc, ⟨hok, hlen, wn_startup hwn, hview⟩, Or.inl ⟨rfl, rfl⟩⟩

structure Inv (s : Sys) : Prop where
  cons : Cons s.g
  thr : ∀ t, TInv t s.g (s.thr t).stack (s.thr t).prog

theorem Inv.thr_at {s : Sys} (hi : Inv s) {t : Tid} {p : List Tok} (hp : (s.thr t).prog = p) :
    TInv t s.g (s.thr t).stack p :=
  hp ▸ hi.thr t

theorem inv_init {progs : Tid → List Tok} (h : ∀ t, wn [] (progs t) = true) : Inv (Sys.init progs) :=
  ⟨cons_init, fun t => ⟨rfl, by simp [Sys.init], h t, rfl⟩⟩

theorem view_other {t u : Tid} {g : G} (h : g.owner = none ∨ g.owner = some t) (hu : u ≠ t) : view u g = A.zero := by
  rcases h with h | h <;> simp [view, h]
  intro e; exact absurd e.symm hu

theorem inv_step {rc : Bool} {s s' : Sys} (hi : Inv s) (hs : Step rc s s') : Inv s' := by
  cases hs with
  | mk t tok rest g' hp hs =>
    obtain ⟨c', ti', ho⟩ := tok_sim hi.cons (hi.thr_at hp) hs
    refine ⟨c', fun u => ?_⟩
    by_cases hu : u = t
    · subst hu; simpa [Sys.upd] using ti'
    · have hv := hi.thr u
      simp only [Sys.upd, hu, if_false]
      rcases ho with ⟨_, hg⟩ | ⟨o, o'⟩
      · exact ⟨hv.ok, hv.len, hv.wn, by rw [hg]; exact hv.view⟩
      · exact ⟨hv.ok, hv.len, hv.wn, by rw [view_other o' hu, ← hv.view, view_other o hu]⟩

theorem inv_reach {rc : Bool} {progs : Tid → List Tok} (h : ∀ t, wn [] (progs t) = true) {s : Sys}
    (hr : Reach rc progs s) : Inv s := by
  induction hr with
  | init => exact inv_init h
  | step _ hs ih => exact inv_step ih hs

/-- who holds the mutex: the threads executing library code or application code under a lock-keeping callback -/
theorem TInv.owner_iff {t : Tid} {g : G} {st : List Frame} {p : List Tok} (hi : TInv t g st p) :
    g.owner = some t ↔ isApiTop st = true ∨ keeps st ≠ 0 := by
  rw [← view_h, hi.view, interp]
  cases isApiTop st <;> simp [A.lib, A.app]

theorem lock_blocks {rc : Bool} {t : Tid} {g : G} {n : Nat} (hc : Cons g) (hv : view t g = A.app n)
    (h : lockFunc rc t g = none) : ∃ u, u ≠ t ∧ g.owner = some u := by
  rw [lockFunc_eq hc] at h
  split at h
  · cases h
  split at h
  · cases h
  rename_i hno ht
  obtain ⟨u, ho⟩ := Option.ne_none_iff_exists'.1 hno
  refine ⟨u, fun e => ?_, ho⟩
  subst e
  rw [view_own ho] at hv
  simp [A.app] at hv
  exact ht ⟨ho, fun h0 => hv.1 (hv.2.1.symm.trans h0)⟩

/-- beside `tok_sim`: a token that blocks waits for a mutex that another thread holds -/
theorem tok_blocked {rc : Bool} {t : Tid} {tok : Tok} {rest : List Tok} {g : G} {st : List Frame}
    (hc : Cons g) (hi : TInv t g st (tok :: rest)) (hs : tokStep rc t tok g = none) : ∃ u, u ≠ t ∧ g.owner = some u := by
  cases tok with
  | lock => exact lock_blocks hc (hi.view.trans (interp_app (wn_lock hi.wn).1)) hs
  | cbOut k =>
    obtain ⟨st0, rfl, _⟩ := wn_cbOut hi.wn
    rw [tokStep, cbAfter_eq] at hs
    split at hs
    · exact lock_blocks hc (hi.view.trans (interp_app rfl)) hs
    · cases hs
  | unlock => cases hs
  | cbIn k => cases hs
  | startup => cases hs

theorem Inv.lib_view {s : Sys} {t : Tid} (hi : Inv s) (hl : inLib s t) : view t s.g = A.lib (keeps (s.thr t).stack) := by
  have ht := hi.thr t
  unfold inLib at hl
  match hst : (s.thr t).stack, hl with
  | .api :: st, _ => rw [hst] at ht; exact ht.view.trans (interp_lib _)

theorem TInv.top_not_owner {t : Tid} {g : G} {st : List Frame} {p : List Tok} (hi : TInv t g st p) (hst : st = []) :
    g.owner ≠ some t := by
  subst hst
  intro ho
  simpa [isApiTop, keeps] using hi.owner_iff.1 ho

theorem Cons.init_of_free {g : G} (hc : Cons g) (hno : g.owner = none) : g = G.init := by
  obtain ⟨h1, h2, h3⟩ := hc.free hno
  have h4 := hc.nofault
  cases g
  simp_all [G.init]

theorem enabled_or_blocked {rc : Bool} {s : Sys} {t : Tid} {tok : Tok} {rest : List Tok}
    (hp : (s.thr t).prog = tok :: rest) : enabled rc s t ∨ blocked rc s t := by
  cases hs : tokStep rc t tok s.g with
  | some g' => exact Or.inl ⟨tok, rest, g', hp, hs⟩
  | none => exact Or.inr ⟨tok, rest, hp, hs⟩

end Coap.Lock
