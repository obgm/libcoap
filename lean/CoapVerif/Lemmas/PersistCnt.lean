import CoapVerif.Model.PersistList
/- C17: the Observe counter of one resource (`Cnt`).  Arithmetic of the value `roundUp` reloads: with `s` saved, the
counter stays in the window `s … windowTop s f`; one step of the counter field by field; the invariants `Cnt.Inv`
(no wrap) and `Cnt.InvW` (24-bit wrap) along a run. -/
namespace Coap.Persist

/-- the last value the counter can have reached while `s` is the value saved: one below the next multiple of `f` (what
`roundUp` reloads, before the mask; the bound of `Cnt.Inv` / `Cnt.InvW`) -/
abbrev windowTop (s f : Nat) : Nat := (s + f) / f * f - 1

/-- `t := ((s + f) / f) * f` is the multiple of `f` with `s < t ≤ s + f` -/
theorem nextMultiple_spec (s f : Nat) (hf : 0 < f) :
    (s + f) / f * f ≤ s + f ∧ s < (s + f) / f * f ∧ ((s + f) / f * f) % f = 0 := by
  refine ⟨Nat.div_mul_le_self _ _, ?_, Nat.mul_mod_left _ _⟩
  have h1 := Nat.div_add_mod (s + f) f
  have h2 := Nat.mod_lt (s + f) hf
  rw [Nat.mul_comm] at h1
  omega

theorem le_windowTop (s f : Nat) (hf : 0 < f) : s ≤ windowTop s f :=
  Nat.le_sub_one_of_lt (nextMultiple_spec s f hf).2.1

theorem succ_le_windowTop (s f obs : Nat) (hf : 0 < f) (h : obs ≤ windowTop s f) (hn : ¬ (obs + 1) % f = 0) :
    obs + 1 ≤ windowTop s f := by
  unfold windowTop at h ⊢
  obtain ⟨_, hB, hC⟩ := nextMultiple_spec s f hf
  generalize (s + f) / f * f = t at *
  have hne : obs + 1 ≠ t := fun e => hn (e ▸ hC)
  omega

/-- without 32-bit overflow the C expression is the plain rounding: the first notification after a restart that
finds `s` in the counter file carries the next multiple of `f` (rewriting step by step: `omega` is slow on `2 ^ 32`) -/
theorem nextObs_roundUp (s f : Nat) (hf : 0 < f) (h : s + f < 2 ^ 32) :
    nextObs (roundUp s f) = mask24 ((s + f) / f * f) := by
  obtain ⟨hA, hB, _⟩ := nextMultiple_spec s f hf
  unfold nextObs roundUp mask24
  rewrite [Nat.mod_eq_of_lt h]
  generalize (s + f) / f * f = t at *
  have h0 : 0 < t := Nat.zero_lt_of_lt hB
  have ht : t < 2 ^ 32 := Nat.lt_of_le_of_lt hA h
  rw [Nat.mod_eq_of_lt ht, Nat.add_comm t, Nat.add_sub_assoc h0, Nat.add_mod_left,
    Nat.mod_eq_of_lt (Nat.lt_of_le_of_lt (Nat.sub_le _ _) ht), Nat.mod_add_mod, Nat.sub_add_cancel h0]

theorem lt_first_of_le_windowTop (s f v : Nat) (hf : 0 < f) (h : s + f < 2 ^ 24) (hv : v ≤ windowTop s f) :
    v < nextObs (roundUp s f) := by
  obtain ⟨hA, hB, _⟩ := nextMultiple_spec s f hf
  rw [nextObs_roundUp s f hf (Nat.lt_trans h (by decide)), mask24, Nat.mod_eq_of_lt (Nat.lt_of_le_of_lt hA h)]
  exact Nat.lt_of_le_sub_one (Nat.zero_lt_of_lt hB) hv

/-- RFC 7641 order: `t` less than a quarter turn ahead of `v` is newer than `v`, wrapped or not -/
theorem serialLt_mod (v t : Nat) (hv : v < 2 ^ 24) (h1 : v < t) (h2 : t ≤ v + 2 ^ 22) : serialLt v (t % 2 ^ 24) := by
  unfold serialLt
  by_cases ht : t < 2 ^ 24
  · rw [Nat.mod_eq_of_lt ht]
    exact Or.inl ⟨h1, by omega⟩
  · obtain ⟨d, rfl⟩ := Nat.exists_eq_add_of_le (Nat.le_of_not_lt ht)
    rw [Nat.add_mod_left, Nat.mod_eq_of_lt (by omega)]
    exact Or.inr (by omega)

theorem serialLt_first_of_le_windowTop (s f v : Nat) (hf : 0 < f) (hf2 : f ≤ 2 ^ 22) (hs : s ≤ v) (hv24 : v < 2 ^ 24)
    (hv : v ≤ windowTop s f) : serialLt v (nextObs (roundUp s f)) := by
  unfold windowTop at hv
  obtain ⟨hA, hB, _⟩ := nextMultiple_spec s f hf
  rw [nextObs_roundUp s f hf (Nat.lt_trans (Nat.add_lt_add_of_lt_of_le (Nat.lt_of_le_of_lt hs hv24) hf2) (by decide))]
  generalize (s + f) / f * f = t at *
  exact serialLt_mod v t hv24 (Nat.lt_of_le_sub_one (Nat.zero_lt_of_lt hB) hv)
    (Nat.le_trans hA (Nat.add_le_add hs hf2))

theorem Cnt.step_sent (f : Nat) (c : Cnt) (e : CntEv) :
    (Cnt.step f c e).sent = c.sent ++ [(Cnt.step f c e).obs] := by
  cases e with
  | notify => simp only [Cnt.step]; split <;> rfl
  | register => rfl

theorem Cnt.step_recent (f : Nat) (c : Cnt) (e : CntEv) :
    ((Cnt.step f c e).saved = (Cnt.step f c e).obs ∧ (Cnt.step f c e).recent = [(Cnt.step f c e).obs]) ∨
    ((Cnt.step f c e).saved = c.saved ∧ (Cnt.step f c e).recent = c.recent ++ [(Cnt.step f c e).obs]) := by
  cases e with
  | notify =>
    simp only [Cnt.step]
    split
    · exact Or.inl ⟨rfl, rfl⟩
    · exact Or.inr ⟨rfl, rfl⟩
  | register => exact Or.inl ⟨rfl, rfl⟩

theorem Cnt.step_window (f : Nat) (hf : 0 < f) (c : Cnt) (h1 : c.saved ≤ c.obs)
    (h2 : c.obs ≤ windowTop c.saved f) (e : CntEv) (hw : c.obs + 1 < 2 ^ 24) :
    (Cnt.step f c e).saved ≤ (Cnt.step f c e).obs ∧
    (Cnt.step f c e).obs ≤ windowTop (Cnt.step f c e).saved f ∧
    c.obs ≤ (Cnt.step f c e).obs ∧ (Cnt.step f c e).obs ≤ c.obs + 1 := by
  have hn : nextObs c.obs = c.obs + 1 := Nat.mod_eq_of_lt hw
  cases e with
  | notify =>
    simp only [Cnt.step, hn]
    split
    · exact ⟨Nat.le_refl _, le_windowTop _ f hf, Nat.le_succ _, Nat.le_refl _⟩
    · rename_i hm
      exact ⟨Nat.le_succ_of_le h1, succ_le_windowTop _ f _ hf h2 hm, Nat.le_succ _, Nat.le_refl _⟩
  | register => exact ⟨Nat.le_refl _, le_windowTop _ f hf, Nat.le_refl _, Nat.le_succ _⟩

theorem Cnt.step_inv (f : Nat) (hf : 0 < f) (c : Cnt) (h : Cnt.Inv f c) (e : CntEv)
    (hw : c.obs + 1 < 2 ^ 24) :
    Cnt.Inv f (Cnt.step f c e) ∧ (Cnt.step f c e).obs ≤ c.obs + 1 := by
  obtain ⟨h1, h2, h3⟩ := h
  obtain ⟨w1, w2, w3, w4⟩ := Cnt.step_window f hf c h1 h2 e hw
  refine ⟨⟨w1, w2, ?_⟩, w4⟩
  rw [Cnt.step_sent]
  exact List.forall_mem_append.2 ⟨fun v hv => Nat.le_trans (h3 v hv) w3, List.forall_mem_singleton.2 (Nat.le_refl _)⟩

theorem Cnt.run_snoc (f : Nat) (c : Cnt) (evs : List CntEv) (e : CntEv) :
    Cnt.run f c (evs ++ [e]) = Cnt.step f (Cnt.run f c evs) e := by
  unfold Cnt.run; rw [List.foldl_append]; rfl

theorem Cnt.run_inv (f : Nat) (hf : 0 < f) (evs : List CntEv) (c0 : Cnt) (h0 : Cnt.Inv f c0)
    (hw : c0.obs + evs.length < 2 ^ 24) :
    Cnt.Inv f (Cnt.run f c0 evs) ∧ (Cnt.run f c0 evs).obs ≤ c0.obs + evs.length := by
  induction evs generalizing c0 with
  | nil => exact ⟨h0, Nat.le_refl _⟩
  | cons e r ih =>
    rw [List.length_cons] at hw ⊢
    obtain ⟨hi, ho⟩ := Cnt.step_inv f hf c0 h0 e (Nat.lt_of_le_of_lt (Nat.add_le_add_left (Nat.le_add_left 1 _) _) hw)
    obtain ⟨hi', ho'⟩ := ih (Cnt.step f c0 e) hi (Nat.lt_of_le_of_lt (by omega) hw)
    exact ⟨hi', Nat.le_trans ho' (by omega)⟩

theorem Cnt.step_invW (f : Nat) (hf : 0 < f) (c : Cnt) (h : Cnt.InvW f c) (e : CntEv) :
    Cnt.InvW f (Cnt.step f c e) := by
  obtain ⟨hb, h1, h2, h3⟩ := h
  by_cases hw : c.obs + 1 < 2 ^ 24
  · obtain ⟨w1, w2, w3, w4⟩ := Cnt.step_window f hf c h1 h2 e hw
    refine ⟨Nat.lt_of_le_of_lt w4 hw, w1, w2, ?_⟩
    rcases Cnt.step_recent f c e with ⟨hs, hr⟩ | ⟨hs, hr⟩
    · rw [hr, hs]
      exact List.forall_mem_singleton.2 ⟨Nat.le_refl _, Nat.le_refl _⟩
    · rw [hr]
      refine List.forall_mem_append.2 ⟨fun v hv => ?_, List.forall_mem_singleton.2 ⟨w1, Nat.le_refl _⟩⟩
      rw [hs]
      exact ⟨(h3 v hv).1, Nat.le_trans (h3 v hv).2 w3⟩
  · cases e with
    | notify =>
      -- the counter wraps to 0, which is a multiple of `f` and is saved
      have hn : nextObs c.obs = 0 := by
        unfold nextObs mask24; rw [show c.obs + 1 = 2 ^ 24 from Nat.le_antisymm hb (Nat.le_of_not_lt hw), Nat.mod_self]
      simp only [Cnt.step, hn, Nat.zero_mod, if_true]
      exact ⟨Nat.two_pow_pos 24, Nat.le_refl _, Nat.zero_le _,
        List.forall_mem_singleton.2 ⟨Nat.le_refl _, Nat.le_refl _⟩⟩
    | register =>
      exact ⟨hb, Nat.le_refl _, le_windowTop _ f hf, List.forall_mem_singleton.2 ⟨Nat.le_refl _, Nat.le_refl _⟩⟩

theorem Cnt.run_invW (f : Nat) (hf : 0 < f) (evs : List CntEv) (c0 : Cnt) (h0 : Cnt.InvW f c0) :
    Cnt.InvW f (Cnt.run f c0 evs) :=
  Coap.foldl_inv (Cnt.InvW f) (fun c e h => Cnt.step_invW f hf c h e) evs c0 h0

end Coap.Persist
