import CoapVerif.Lemmas.EditWf
import CoapVerif.Model.Duplicate
import CoapVerif.Spec.Duplicate
/-
M-side lemmas for coap_pdu_duplicate_lkd (C04) on the representing PDU of `a`: the first two steps up to the choice of
the branch (`duplicate_start`), the memcpy branch (`dupFast_conc`), and the loop of the filter branch that re-adds the
options the filter does not name (`dupCopy_conc`, invariant `DupInv`): NULL, or the representing PDU of the abstract copy
so far.  S side: the two fold lemmas (`foldl_remove_keep`, `foldl_applyEdit_removes`) under `C04.duplicate_is_edit_sequence` (D16).
-/
namespace Coap
open Coap.M

theorem keep_none (os : List (Nat × Bytes)) : Spec.keep (fun _ => false) os = os := by
  simp [Spec.keep]

theorem duplicate_keep_all (a : Msg) (mid : Nat) (t : Bytes) :
    Spec.duplicate false a mid t (fun _ => false) = ⟨a.type, a.code, mid, t, a.opts, []⟩ := by
  simp [Spec.duplicate, keep_none]

theorem keep_cons_drop (drop : Nat → Bool) (o : Nat × Bytes) (os : List (Nat × Bytes)) (h : drop o.1 = true) :
    Spec.keep drop (o :: os) = Spec.keep drop os := by
  simp [Spec.keep, h]

theorem keep_cons_keep (drop : Nat → Bool) (o : Nat × Bytes) (os : List (Nat × Bytes)) (h : drop o.1 = false) :
    Spec.keep drop (o :: os) = o :: Spec.keep drop os := by
  simp [Spec.keep, h]

theorem foldl_remove_cons (x : Nat × Bytes) : ∀ (ds xs : List (Nat × Bytes)), (∀ d ∈ ds, d.1 ≠ x.1) →
    ds.foldl (fun os d => Spec.removeFirst d.1 os) (x :: xs) = x :: ds.foldl (fun os d => Spec.removeFirst d.1 os) xs := by
  intro ds
  induction ds with
  | nil => intro xs _; rfl
  | cons d ds ih =>
    intro xs h
    have hd : ¬ (x.1 = d.1) := fun e => h d (List.mem_cons_self ..) e.symm
    simp only [List.foldl_cons, Spec.removeFirst, hd, if_false]
    exact ih _ (fun y hy => h y (List.mem_cons_of_mem _ hy))

/-- one `removeFirst` per occurrence of a named option removes exactly the named options -/
theorem foldl_remove_keep (drop : Nat → Bool) : ∀ os : List (Nat × Bytes),
    (os.filter fun o => drop o.1).foldl (fun os d => Spec.removeFirst d.1 os) os = Spec.keep drop os := by
  intro os
  induction os with
  | nil => rfl
  | cons x xs ih =>
    cases hx : drop x.1 with
    | true =>
      rw [keep_cons_drop drop x xs hx]
      simp only [List.filter_cons, hx, if_true, List.foldl_cons, Spec.removeFirst]
      exact ih
    | false =>
      rw [keep_cons_keep drop x xs hx]
      have hf : ((x :: xs).filter fun o => drop o.1) = xs.filter fun o => drop o.1 := by
        simp [hx]
      rw [hf, foldl_remove_cons x _ xs ?_, ih]
      intro d hd e
      have hd2 := (List.mem_filter.mp hd).2
      rw [e, hx] at hd2
      cases hd2

theorem foldl_applyEdit_removes (m : Msg) : ∀ (ds : List (Nat × Bytes)),
    (ds.map fun o => Spec.Edit.remove o.1).foldl (Spec.applyEdit false) m =
      { m with opts := ds.foldl (fun os d => Spec.removeFirst d.1 os) m.opts } := by
  intro ds
  induction ds generalizing m with
  | nil => rfl
  | cons d ds ih =>
    simp only [List.map_cons, List.foldl_cons]
    rw [ih]
    rfl

theorem pduInit_conc (ty code mid size : Nat) (h : size ≤ 8388858) :
    pduInit ty code mid size = some (conc size ⟨ty, code, mid, [], [], []⟩) := by
  unfold pduInit
  rw [if_neg (by omega)]
  rfl

theorem pduInit_none (ty code mid size : Nat) (h : ¬ size ≤ 8388858) : pduInit ty code mid size = none := by
  unfold pduInit
  rw [if_pos (by omega)]

theorem dupTail_conc (ms : Nat) (a : Msg) : dupTail (conc ms a) = R.ok (Spec.encPayload a.payload).length := by
  unfold dupTail
  have hl := conc_buf_length ms a
  by_cases hp : a.payload = []
  · have hd := conc_data_none ms hp
    rw [hd]
    simp [Spec.encPayload, hp]
  · have hd := conc_data_some ms hp
    have hpl : (Spec.encPayload a.payload).length = a.payload.length + 1 := by simp [Spec.encPayload, hp]
    rw [hd]
    simp only []
    rw [if_neg (by omega)]
    congr 1
    omega

theorem dupFast_conc (ms ms' : Nat) (a : Msg) (ty code mid : Nat) (t : Bytes) :
    dupFast (conc ms a) (conc ms' ⟨ty, code, mid, t, [], []⟩) =
      R.ok (if ms' = 0 ∨ (Spec.encToken t).length + (Spec.encOpts 0 a.opts).length ≤ ms'
            then some (conc ms' ⟨ty, code, mid, t, a.opts, []⟩) else none) := by
  unfold dupFast
  rw [dupTail_conc]
  have hl := conc_buf_length ms a
  have hetl : (conc ms a).etl = (Spec.extBytes a.token.length).length + a.token.length := rfl
  have hetl' : (conc ms' ⟨ty, code, mid, t, [], []⟩).etl = (Spec.encToken t).length := conc_etl ms' _
  have hlen : (conc ms a).buf.length - (conc ms a).etl - (Spec.encPayload a.payload).length =
      (Spec.encOpts 0 a.opts).length := by omega
  simp only []
  rw [if_neg (by omega), hlen, hetl']
  have hcopy : ((conc ms a).buf.drop (conc ms a).etl).take (Spec.encOpts 0 a.opts).length = Spec.encOpts 0 a.opts := by
    rw [conc_drop_etl]; exact List.take_left
  rw [hcopy]
  by_cases hfit : ms' = 0 ∨ (Spec.encToken t).length + (Spec.encOpts 0 a.opts).length ≤ ms'
  · rw [if_pos hfit, checkResize_true _ _ (show ms' = 0 ∨ _ ≤ ms' by omega)]
    simp [conc, Spec.encPayload, Spec.encOpts, Spec.encToken]
  · rw [if_neg hfit, checkResize_false _ _ (show ms' ≠ 0 ∧ _ > ms' by omega)]
    simp

theorem duplicate_start (ms : Nat) (a : Msg) (mid smax : Nat) (t : Bytes) (drop : Option (Nat → Bool)) :
    duplicate (conc ms a) mid smax t drop =
      if max ms smax ≤ 8388858 ∧ t.length ≤ 65804 ∧ (max ms smax = 0 ∨ (Spec.encToken t).length ≤ max ms smax) then
        match drop with
        | none => dupFast (conc ms a) (conc (max ms smax) ⟨a.type, a.code, mid, t, [], []⟩)
        | some f => dupCopy f (conc ms a) (items (conc ms a)) (conc (max ms smax) ⟨a.type, a.code, mid, t, [], []⟩)
      else R.ok none := by
  have hEt := encToken_length t
  unfold duplicate
  rw [show (conc ms a).type = a.type from rfl, conc_code, conc_maxSize]
  by_cases h0 : max ms smax ≤ 8388858
  · rw [pduInit_conc _ _ _ _ h0]
    simp only []
    by_cases hbad : t.length > 65804 ∨ (max ms smax ≠ 0 ∧ (Spec.encToken t).length > max ms smax)
    · rw [addToken_refused (max ms smax) _ t (Or.inr (by omega)), if_neg (by omega)]
      rfl
    · rw [addToken_conc (max ms smax) _ _ _ t (by omega) (by omega), if_pos ⟨h0, by omega, by omega⟩]
      rfl
  · rw [pduInit_none _ _ _ _ h0, if_neg (fun h => h0 h.1)]

theorem optValue_itemOf (old : Pdu) (pre : Bytes) (prev : Nat) (o : Nat × Bytes) (rest : Bytes)
    (h : old.buf = pre ++ (Spec.encOpt (o.1 - prev) o.2 ++ rest)) :
    optValue old (itemOf pre.length prev o) = o.2 := by
  unfold optValue itemOf
  simp only []
  have e : old.buf = (pre ++ (UInt8.ofNat (Spec.nib (o.1 - prev) * 16 + Spec.nib o.2.length) ::
      (Spec.extBytes (o.1 - prev) ++ Spec.extBytes o.2.length))) ++ (o.2 ++ rest) := by
    rw [h, encOpt_cons]; simp
  rw [e, List.drop_left' (by simp; omega), List.take_left' rfl]

theorem insertStable_snoc (k : Nat) (w : Bytes) (o : Nat × Bytes) (h : k < o.1) : ∀ K : List (Nat × Bytes),
    Spec.insertStable k w (K ++ [o]) = Spec.insertStable k w K ++ [o] := by
  intro K
  induction K with
  | nil =>
    have : ¬ (o.1 ≤ k) := by omega
    simp [Spec.insertStable, this]
  | cons x K ih =>
    by_cases hx : x.1 ≤ k
    · simp only [List.cons_append, Spec.insertStable, hx, if_true, ih]
    · simp only [List.cons_append, Spec.insertStable, hx, if_false]

theorem hasOpt_snoc (n : Nat) (K : List (Nat × Bytes)) (o : Nat × Bytes) :
    Spec.hasOpt n (K ++ [o]) = (Spec.hasOpt n K || o.1 == n) := by
  simp [Spec.hasOpt, List.any_append]

theorem hasOpt_mem {n : Nat} {K : List (Nat × Bytes)} (h : Spec.hasOpt n K = true) : ∃ x ∈ K, x.1 = n := by
  unfold Spec.hasOpt at h
  rw [List.any_eq_true] at h
  obtain ⟨x, hx, he⟩ := h
  exact ⟨x, hx, by simpa using he⟩

/-- D13 for a copy stays allowed when an option other than Hop-Limit is appended (`c3`: Proxy-Uri / Proxy-Scheme is among
the kept options, or is the appended one) -/
theorem dupHopOk_snoc (code : Nat) (K : List (Nat × Bytes)) (o : Nat × Bytes) (c1 : 1 ≤ code) (c2 : code < 32)
    (c3 : (Spec.hasOpt 35 K = true ∨ Spec.hasOpt 39 K = true) ∨ o.1 = 35 ∨ o.1 = 39)
    (c4 : Spec.hasOpt 16 K = false) (h16 : o.1 ≠ 16) : Spec.dupHopOk code (K ++ [o]) = true := by
  simp only [Spec.dupHopOk, hasOpt_snoc, c4, Bool.and_eq_true, Bool.or_eq_true, decide_eq_true_eq, beq_iff_eq,
    Bool.not_eq_true', Bool.false_or]
  refine ⟨⟨⟨c1, c2⟩, ?_⟩, beq_eq_false_iff_ne.mpr h16⟩
  rcases c3 with (h | h) | h | h
  · exact Or.inl (Or.inl h)
  · exact Or.inr (Or.inl h)
  · exact Or.inl (Or.inr h)
  · exact Or.inr (Or.inr h)

/-- what the copy's option list is while the loop runs over a prefix with kept options `K`: `K` itself, or `K` with
the implicit Hop-Limit (only where D13 allows it for a copy) -/
def DupInv (code : Nat) (K bo : List (Nat × Bytes)) : Prop :=
  bo = K ∨ (Spec.dupHopOk code K = true ∧ bo = Spec.insertStable 16 [16] K)

theorem dupInv_step (code : Nat) (K bo : List (Nat × Bytes)) (o : Nat × Bytes) (hop : Bool) (prev : Nat)
    (hle : ∀ x ∈ bo, x.1 ≤ prev) (hpo : prev ≤ o.1) (hinv : DupInv code K bo)
    (hh : hop = true → Spec.hopApplies code o.1 bo = true) :
    DupInv code (K ++ [o]) (Spec.addSem hop o.1 o.2 bo) ∧ ∀ x ∈ Spec.addSem hop o.1 o.2 bo, x.1 ≤ o.1 := by
  have ho : (o.1, o.2) = o := rfl
  have hall : ∀ x ∈ bo, x.1 ≤ o.1 := fun x hx => Nat.le_trans (hle x hx) hpo
  have hsnoc : ∀ x ∈ bo ++ [o], x.1 ≤ o.1 := fun x hx =>
    (List.mem_append.mp hx).elim (hall x) fun h => by rw [List.mem_singleton.mp h]; exact Nat.le_refl _
  cases hop with
  | true =>
    obtain ⟨⟨⟨c1, c2⟩, c3⟩, c4⟩ := hopApplies_iff.1 (hh rfl)
    have hbo : bo = K := by
      rcases hinv with h | ⟨_, h⟩
      · exact h
      · rw [h, hasOpt_insertStable] at c4; cases c4
    subst hbo
    have h16 : 16 < o.1 := by omega
    have hsem : Spec.addSem true o.1 o.2 bo = Spec.insertStable 16 [16] (bo ++ [o]) := by
      simp only [Spec.addSem, if_true]
      rw [insertStable_all_le o.1 o.2 _ (forall_insertStable 16 [16] bo hall (Nat.le_of_lt h16)), ho,
        insertStable_snoc 16 [16] o h16]
    rw [hsem]
    exact ⟨Or.inr ⟨dupHopOk_snoc code bo o c1 c2 (Or.inr c3) c4 (by omega), rfl⟩,
      forall_insertStable 16 [16] _ hsnoc (Nat.le_of_lt h16)⟩
  | false =>
    have hsem : Spec.addSem false o.1 o.2 bo = bo ++ [o] := by
      have hf : (false = true) = False := by simp
      simp only [Spec.addSem, hf, if_false]
      rw [insertStable_all_le o.1 o.2 bo hall, ho]
    rw [hsem]
    refine ⟨?_, hsnoc⟩
    · rcases hinv with h | ⟨hok, h⟩
      · left; rw [h]
      · right
        have hok' := hok
        simp only [Spec.dupHopOk, Bool.and_eq_true, Bool.or_eq_true, decide_eq_true_eq, Bool.not_eq_true'] at hok'
        obtain ⟨⟨⟨c1, c2⟩, c3⟩, c4⟩ := hok'
        have h35 : 35 ≤ o.1 := by
          obtain ⟨x, hx, he⟩ : ∃ x ∈ K, 35 ≤ x.1 := by
            rcases c3 with h3 | h3
            · obtain ⟨x, hx, he⟩ := hasOpt_mem h3; exact ⟨x, hx, by omega⟩
            · obtain ⟨x, hx, he⟩ := hasOpt_mem h3; exact ⟨x, hx, by omega⟩
          have := hall x (by rw [h]; exact (mem_insertStable 16 [16] K x).mpr (Or.inr hx))
          omega
        refine ⟨?_, ?_⟩
        · exact dupHopOk_snoc code K o c1 c2 (Or.inl c3) c4 (by omega)
        · rw [h, insertStable_snoc 16 [16] o (by omega)]

theorem dupCopy_conc (ms' : Nat) (drop : Nat → Bool) (old : Pdu) (ty code mid : Nat) (t : Bytes) :
    ∀ (os : List (Nat × Bytes)) (pre rest : Bytes) (prev : Nat) (K bo : List (Nat × Bytes)),
      old.buf = pre ++ (Spec.encOpts prev os ++ rest) → optsB prev os →
      Shape ⟨ty, code, mid, t, bo, []⟩ → (∀ x ∈ bo, x.1 ≤ prev) → DupInv code K bo →
      ∃ r, dupCopy drop old (absItems pre.length prev os) (conc ms' ⟨ty, code, mid, t, bo, []⟩) = R.ok r ∧
        ((r = none ∧ (ms' ≠ 0 ∨ ∃ o ∈ os, ¬ repeatable o.1 = true)) ∨
         ∃ bo', r = some (conc ms' ⟨ty, code, mid, t, bo', []⟩) ∧ DupInv code (K ++ Spec.keep drop os) bo' ∧
                Shape ⟨ty, code, mid, t, bo', []⟩) := by
  intro os
  induction os with
  | nil =>
    intro pre rest prev K bo _ _ hs _ hinv
    refine ⟨_, rfl, Or.inr ⟨bo, rfl, ?_, hs⟩⟩
    simpa [Spec.keep] using hinv
  | cons o os ih =>
    intro pre rest prev K bo hbuf hb hs hle hinv
    obtain ⟨b1, b2, b3, b4⟩ := hb
    have hbuf' : old.buf = (pre ++ Spec.encOpt (o.1 - prev) o.2) ++ (Spec.encOpts o.1 os ++ rest) := by
      rw [hbuf]; simp [Spec.encOpts]
    have hplen : (pre ++ Spec.encOpt (o.1 - prev) o.2).length = pre.length + (Spec.encOpt (o.1 - prev) o.2).length := by
      simp
    have hnum : (itemOf pre.length prev o).num = o.1 := rfl
    have up : (ms' ≠ 0 ∨ ∃ x ∈ os, ¬ repeatable x.1 = true) → (ms' ≠ 0 ∨ ∃ x ∈ o :: os, ¬ repeatable x.1 = true) :=
      Or.imp_right fun ⟨x, hx, hr⟩ => ⟨x, List.mem_cons_of_mem _ hx, hr⟩
    simp only [absItems, dupCopy, hnum]
    rw [← hplen]
    cases hd : drop o.1 with
    | true =>
      simp only [if_true]
      obtain ⟨r, e1, e2⟩ := ih _ rest o.1 K bo hbuf' b4 hs (fun x hx => Nat.le_trans (hle x hx) b1) hinv
      rw [keep_cons_drop drop o os hd]
      exact ⟨r, e1, e2.imp (And.imp_right up) id⟩
    | false =>
      have hf : (false = true) = False := by simp
      simp only [hf, if_false]
      have hval : optValue old (itemOf pre.length prev o) = o.2 :=
        optValue_itemOf old pre prev o (Spec.encOpts o.1 os ++ rest) (by rw [hbuf]; simp [Spec.encOpts])
      rw [hval, addOptionInternal_conc ms' ⟨ty, code, mid, t, bo, []⟩ o.1 o.2 hs b2]
      simp only []
      have hshape := absAdd_shape ms' ⟨ty, code, mid, t, bo, []⟩ o.1 o.2 hs b2
      rcases absAdd_cases ms' ⟨ty, code, mid, t, bo, []⟩ o.1 o.2 with ⟨k1, hop, k2, k3⟩ | ⟨k1, _, k3⟩
      · rw [if_neg k1]
        rw [k3] at hshape ⊢
        obtain ⟨i1, i2⟩ := dupInv_step code K bo o hop prev hle b1 hinv k2
        obtain ⟨r, e1, e2⟩ := ih _ rest o.1 (K ++ [o]) (Spec.addSem hop o.1 o.2 bo) hbuf' b4 hshape i2 i1
        rw [keep_cons_keep drop o os hd]
        exact ⟨r, e1, e2.imp (And.imp_right up) fun ⟨bo', j1, j2, j3⟩ => ⟨bo', j1, by simpa using j2, j3⟩⟩
      · rw [if_pos k1]
        refine ⟨none, rfl, Or.inl ⟨rfl, ?_⟩⟩
        rcases k3 with h | h | h
        · omega
        · exact Or.inr ⟨o, List.mem_cons_self .., h.2⟩
        · exact Or.inl h

end Coap
