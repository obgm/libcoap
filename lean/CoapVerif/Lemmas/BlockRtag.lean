import CoapVerif.Model.BlockRtag
/- Helper lemmas for the Request-Tag keyed lg_srcv list (Model/BlockRtag.lean). -/
namespace Coap.Block

/-- the key an lg_srcv is filed under: Request-Tag presence AND value -/
def LgSrcv.key (lg : LgSrcv) : Option Bytes := if lg.rtagSet then some lg.rtag else none

theorem rtagMatch_iff (o : Option Bytes) (lg : LgSrcv) : rtagMatch o lg = true ↔ lg.key = o := by
  unfold rtagMatch LgSrcv.key
  cases o with
  | none =>
    cases lg.rtagSet with
    | true => simp
    | false => simp
  | some t =>
    cases lg.rtagSet with
    | true => simp
    | false => simp

theorem srcvFind_some : ∀ (lgs : List LgSrcv) (o : Option Bytes) (i : Nat), srcvFind lgs o = some i →
    ∃ lg, lgs[i]? = some lg ∧ lg.key = o ∧ ∀ j lg', j < i → lgs[j]? = some lg' → lg'.key ≠ o
  | [], _, _, h => by simp [srcvFind] at h
  | lg :: rest, o, i, h => by
    unfold srcvFind at h
    by_cases hm : rtagMatch o lg = true
    · rw [if_pos hm] at h
      cases h
      exact ⟨lg, rfl, (rtagMatch_iff o lg).mp hm, fun j lg' hj _ => by omega⟩
    · rw [if_neg hm] at h
      cases hr : srcvFind rest o with
      | none => rw [hr] at h; cases h
      | some k =>
        rw [hr] at h
        simp only [Option.map_some] at h
        cases h
        obtain ⟨lg2, h1, h2, h3⟩ := srcvFind_some rest o k hr
        refine ⟨lg2, by simpa using h1, h2, ?_⟩
        intro j lg' hj hget
        cases j with
        | zero =>
          simp at hget
          rw [← hget]
          exact fun hk => hm ((rtagMatch_iff o lg).mpr hk)
        | succ j => exact h3 j lg' (by omega) (by simpa using hget)

theorem srcvFind_none : ∀ (lgs : List LgSrcv) (o : Option Bytes), srcvFind lgs o = none →
    ∀ lg, lg ∈ lgs → lg.key ≠ o
  | [], _, _, lg, hl => by cases hl
  | x :: rest, o, h, lg, hl => by
    unfold srcvFind at h
    by_cases hm : rtagMatch o x = true
    · rw [if_pos hm] at h; cases h
    · rw [if_neg hm] at h
      have hr : srcvFind rest o = none := by
        cases hr : srcvFind rest o with
        | none => rfl
        | some k => rw [hr] at h; cases h
      rw [List.mem_cons] at hl
      rcases hl with hl | hl
      · subst hl
        exact fun hk => hm ((rtagMatch_iff o lg).mpr hk)
      · exact srcvFind_none rest o hr lg hl

/-- a request only ever touches the lg_srcv filed under its own key: every element with another key survives the step
unchanged, and whatever is new or changed carries exactly the request's key -/
theorem srcvMultiStep_keys (cap : Nat) (junk : UInt8) (maxBlk : Nat) (lgs : List LgSrcv) (o : Option Bytes)
    (num m szx : Nat) (payload : Bytes) (size1 : Option Nat) :
    (∀ lg, lg ∈ lgs → lg.key ≠ o → lg ∈ (srcvMultiStep cap junk maxBlk lgs o num m szx payload size1).1) ∧
    (∀ lg, lg ∈ (srcvMultiStep cap junk maxBlk lgs o num m szx payload size1).1 → lg ∈ lgs ∨ lg.key = o) := by
  unfold srcvMultiStep
  cases hf : srcvFind lgs o with
  | none =>
    simp only
    cases hs : srcvStep cap junk maxBlk none num m szx payload size1 with
    | mk st' out =>
      cases st' with
      | none => exact ⟨fun lg h _ => h, fun lg h => Or.inl h⟩
      | some s' =>
        simp only
        refine ⟨fun lg h _ => List.mem_cons_of_mem _ h, ?_⟩
        intro lg h
        rw [List.mem_cons] at h
        rcases h with h | h
        · right
          subst h
          unfold LgSrcv.key
          cases o <;> simp
        · exact Or.inl h
  | some i =>
    simp only
    obtain ⟨lg0, h1, h2, _⟩ := srcvFind_some lgs o i hf
    rw [h1]
    simp only
    cases hs : srcvStep cap junk maxBlk (some lg0.s) num m szx payload size1 with
    | mk st' out =>
      cases st' with
      | none =>
        simp only
        constructor
        · intro lg hl hk
          obtain ⟨j, hj⟩ := List.mem_iff_getElem?.mp hl
          refine List.mem_eraseIdx_iff_getElem?.mpr ⟨j, ?_, hj⟩
          intro hji
          subst hji
          rw [h1] at hj
          cases hj
          exact hk h2
        · exact fun lg hl => Or.inl (List.mem_of_mem_eraseIdx hl)
      | some s' =>
        simp only
        constructor
        · intro lg hl hk
          obtain ⟨j, hj⟩ := List.mem_iff_getElem?.mp hl
          have hne : i ≠ j := by
            intro hji
            subst hji
            rw [h1] at hj
            cases hj
            exact hk h2
          exact List.mem_iff_getElem?.mpr ⟨j, by rw [List.getElem?_set_ne hne]; exact hj⟩
        · intro lg hl
          rcases List.mem_or_eq_of_mem_set hl with h | h
          · exact Or.inl h
          · rw [h]; exact Or.inr h2

end Coap.Block
