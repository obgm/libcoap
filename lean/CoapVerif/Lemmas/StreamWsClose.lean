import CoapVerif.Lemmas.StreamWsFeed
/- C05, WebSocket part: `coap_ws_read` with an arbitrary caller buffer (`datalen`) and `coap_ws_close`'s draining loop,
   from EVERY reader state — no invariant: the drain is entered by the application at any time, and by the reader
   itself right after it has refused a frame.  One call: it only consumes and what it returns fits the caller's buffer
   (`ReadFits`, `readFrame_fits`); it keeps `RdOk` — the two bounds that keep the C code's unsigned differences from
   wrapping, on which every in-bounds statement rests — and never leaves `rd_header` (`readFrame_ok`); its `goto next_frame`
   loop terminates (`readFrame_fuel`).  The drain loop is read once as a relation (`Drain`: the result, the select()
   rounds and the calls of one run; `drain`), and what is said of it is said of any run, in particular of the two runs
   that cannot see the peer's Close frame (`Drain.oversize`; `Refused`, `Drain.refused`).
   Then the states the event loop leaves behind (`feed_pres`: what every call keeps).  Only this part rests on an
   invariant: through the HTTP upgrade `ConnOk` carries `HsInv`, and `wsRead_connOk` reads the states the handshake
   leaves off the correspondence step `rdHttpHeader_spec`.  Last, how a call closes the session by itself (`ClosedHow`,
   `refusalPoint_closed`). -/
namespace Coap
open Coap.M Coap.M.Ws Coap.Spec.Stream Coap.Spec.Stream.Ws

theorem xorKey_length (key : Bytes) : ∀ (bs : Bytes) (i : Nat), (xorKey key i bs).length = bs.length := by
  intro bs
  induction bs with
  | nil => intro i; rfl
  | cons b r ih => intro i; simp only [xorKey, List.length_cons, ih]

theorem maskIf_length (c : Prop) [Decidable c] (key bs : Bytes) :
    (if c then xorKey key 0 bs else bs).length = bs.length := by
  split
  · exact xorKey_length key bs 0
  · rfl

def ReadFits (datalen : Nat) (av : Bytes) (r : Ret × St × Bytes) : Prop :=
  r.2.2.length ≤ av.length ∧ ∀ pl, r.1 = .pkt pl → pl.length ≤ datalen

/-- how the exits of `coap_ws_read` show it: the return value is at hand -/
theorem ReadFits.of_ret {datalen : Nat} {av av' : Bytes} {ret : Ret} {st : St} (hl : av'.length ≤ av.length)
    (h : match ret with | .pkt pl => pl.length ≤ datalen | _ => True) : ReadFits datalen av (ret, st, av') :=
  ⟨hl, fun pl hp => by subst hp; exact h⟩

theorem readData_fits (mode : Mode) (st : St) (av data : Bytes) (datalen : Nat) :
    ReadFits datalen av (readData mode st av data datalen) := by
  unfold readData
  by_cases h : st.dataSize > datalen
  · simp only [if_pos h]
    exact .of_ret (Nat.le_refl _) trivial
  · simp only [if_neg h]
    split
    · rename_i hofs
      refine .of_ret (by simp only [List.length_drop]; omega) ?_
      simp only [maskIf_length]
      cases st.rxData with
      | none => simp only [List.length_append, List.length_take] at *; omega
      | some rx => simp only [List.length_append, List.length_take] at *; omega
    · exact .of_ret (by simp only [List.length_drop]; omega) trivial

theorem ReadFits.transfer {datalen : Nat} {av av1 : Bytes} {r : Ret × St × Bytes} (h : ReadFits datalen av1 r)
    (hl : av1.length ≤ av.length) : ReadFits datalen av r := ⟨Nat.le_trans h.1 hl, h.2⟩

theorem unmaskIf_length (mode : Mode) (key bs : Bytes) : (unmaskIf mode key bs).length = bs.length :=
  maskIf_length _ key bs

theorem readFrame_fits (mode : Mode) (datalen : Nat) : ∀ (fuel : Nat) (st : St) (av : Bytes),
    ReadFits datalen av (readFrame mode datalen fuel st av) := by
  intro fuel
  induction fuel with
  | zero => intro st av; exact .of_ret (Nat.le_refl _) trivial
  | succ f ih =>
    intro st av
    have hdrop : (av.drop (fsCap - st.rdHeader.length)).length ≤ av.length := by
      simp only [List.length_drop]; omega
    apply readFrame_cases
    · intro _; exact readData_fits mode st av [] datalen
    · intro _ _; exact .of_ret hdrop trivial
    · intro b0 b1 r' _ _
      refine ReadFits.transfer ?_ hdrop
      apply afterHdrD_cases
      · intro _ _; exact .of_ret (Nat.le_refl _) trivial
      · intro _; exact .of_ret (Nat.le_refl _) trivial
      · intro _ _; exact .of_ret (Nat.le_refl _) trivial
      · intro _ _ _; exact .of_ret (Nat.le_refl _) trivial
      · intro _ _ _; exact ih _ _
      · intro _ _ _; exact .of_ret (Nat.le_refl _) trivial
      · intro _ _ hs _ hl
        exact .of_ret (Nat.le_refl _) (by simp only [unmaskIf_length, List.length_take]; omega)
      · intro _ _ _ _; exact readData_fits mode _ _ _ datalen

/-- what keeps `coap_ws_read` inside its buffers, for a caller buffer of `datalen` bytes: `hdr_ofs ≤ sizeof(rd_header)`
(so `sizeof(rd_header) - hdr_ofs` does not wrap) and, while a frame that fits the caller's buffer is in progress,
`data_ofs ≤ data_size` (so the destination `&data[data_ofs]`, length `data_size - data_ofs`, lies inside the buffer and
the unsigned difference does not wrap).  A frame refused with 1009 leaves `all_hdr_in` set with `data_size > datalen` and a
stale `data_ofs`: nothing is demanded of it, the data part returns -1 before it uses either. -/
def RdOk (datalen : Nat) (st : St) : Prop :=
  st.rdHeader.length ≤ fsCap ∧ (st.allHdrIn = true → st.dataSize ≤ datalen → st.dataOfs ≤ st.dataSize)

theorem RdOk_mono {d1 d2 : Nat} {st : St} (h : RdOk d1 st) (hd : d2 ≤ d1) : RdOk d2 st :=
  ⟨h.1, fun ha hs => h.2 ha (Nat.le_trans hs hd)⟩

theorem readData_ok (mode : Mode) (st : St) (av data : Bytes) (datalen : Nat) (hl : st.rdHeader.length ≤ fsCap)
    (ho : st.dataSize ≤ datalen → st.dataOfs ≤ st.dataSize) :
    RdOk datalen (readData mode st av data datalen).2.1 ∧ (readData mode st av data datalen).1 ≠ .oob := by
  unfold readData
  by_cases h : st.dataSize > datalen
  · rw [if_pos h]; exact ⟨⟨hl, fun _ hs => by dsimp only at hs ⊢; omega⟩, by intro hh; cases hh⟩
  · rw [if_neg h]
    simp only
    split
    · exact ⟨⟨by simp [fsCap], fun ha => by cases ha⟩, by intro hh; cases hh⟩
    · refine ⟨⟨hl, fun _ _ => ?_⟩, by intro hh; cases hh⟩
      have := ho (by omega)
      simp only [List.length_take]
      omega

theorem RdOk_noall {datalen : Nat} {st : St} (hl : st.rdHeader.length ≤ fsCap) (ha : st.allHdrIn = false) : RdOk datalen st :=
  ⟨hl, fun h => by rw [ha] at h; cases h⟩

theorem readFrame_ok (mode : Mode) (datalen : Nat) : ∀ (fuel : Nat) (st : St) (av : Bytes), RdOk datalen st →
    RdOk datalen (readFrame mode datalen fuel st av).2.1 ∧ (readFrame mode datalen fuel st av).1 ≠ .oob := by
  intro fuel
  induction fuel with
  | zero => intro st av h; exact ⟨h, by intro hh; cases hh⟩
  | succ f ih =>
    intro st av hok
    apply readFrame_cases mode datalen f st av (fun r => RdOk datalen r.2.1 ∧ r.1 ≠ .oob)
    · intro ha
      exact readData_ok mode st av [] datalen hok.1 (hok.2 ha)
    · intro ha hlen
      refine ⟨RdOk_noall ?_ ha, by intro hh; cases hh⟩
      simp only [List.length_append] at hlen ⊢
      simp only [fsCap] at *
      omega
    · intro b0 b1 r' ha hh
      have hlen : r'.length + 2 ≤ fsCap := by
        have : (st.rdHeader ++ av.take (fsCap - st.rdHeader.length)).length ≤ fsCap := by
          have := hok.1
          simp only [List.length_append, List.length_take]; omega
        rw [hh] at this
        simpa using this
      have hl2 : ({ st with rdHeader := b0 :: b1 :: r' } : St).rdHeader.length ≤ fsCap := by simpa using hlen
      have hdl : (r'.drop (hExtra b1.toNat)).length ≤ fsCap := by simp only [List.length_drop]; omega
      apply afterHdrD_cases mode datalen f _ b0 b1 r' _ (fun r => RdOk datalen r.2.1 ∧ r.1 ≠ .oob)
      · intro _ _; exact ⟨RdOk_noall hl2 ha, by intro hh; cases hh⟩
      · intro _; exact ⟨RdOk_noall hl2 ha, by intro hh; cases hh⟩
      · intro _ _; exact ⟨RdOk_noall hl2 ha, by intro hh; cases hh⟩
      · intro _ _ hbig; exact ⟨⟨hl2, fun _ hs => by simp only [hdrSt] at hs; omega⟩, by intro hh; cases hh⟩
      · intro _ _ _; exact ih _ _ (RdOk_noall hdl rfl)
      · intro _ _ _; exact ⟨RdOk_noall hdl rfl, by intro hh; cases hh⟩
      · intro _ _ _ _ _
        refine ⟨RdOk_noall ?_ rfl, by intro hh; cases hh⟩
        simp only [List.length_drop]; omega
      · intro _ _ _ hlt
        exact readData_ok mode { hdrSt { st with rdHeader := b0 :: b1 :: r' } b1 r' with dataOfs := (r'.drop (hExtra b1.toNat)).length }
          (av.drop (fsCap - st.rdHeader.length)) (r'.drop (hExtra b1.toNat)) datalen hl2 (fun _ => by simp only [hdrSt]; omega)

/-- the (reader state, bytes pending) pairs at which the drain loop calls `coap_ws_read(session, buf, 100)` -/
def drainCalls (mode : Mode) : (count : Nat) → St → Bytes → List (St × Bytes)
  | 0, _, _ => []
  | c + 1, st, av =>
    if av.length = 0 then drainCalls mode c st av
    else
      let r := readFrame mode drainBuf (av.length + fsCap + 2) st av
      (st, av) :: (if recvCloseOf mode r.1 r.2.1 then [] else drainCalls mode c r.2.1 r.2.2)

/-- what the drain loop does with `c` rounds left from state `st` with `av` pending: its result `r` (`closeDrain`), its
select() rounds `n` (`drainRounds`) and the `coap_ws_read` calls `l` it makes (`drainCalls`).  A round waits (nothing
pending), sees the peer's Close frame, or makes a call and goes on. -/
inductive Drain (mode : Mode) : Nat → St → Bytes → Bool × St × Bytes × Nat → Nat → List (St × Bytes) → Prop
  | done {st av} : Drain mode 0 st av (false, st, av, 0) 0 []
  | wait {c st av r n l} : av.length = 0 → Drain mode c st av r n l → Drain mode (c + 1) st av r (n + 1) l
  | seen {c st av ret st' av'} : av.length ≠ 0 → readFrame mode drainBuf (av.length + fsCap + 2) st av = (ret, st', av') →
      recvCloseOf mode ret st' = true → Drain mode (c + 1) st av (true, st', av', 1) 1 [(st, av)]
  | call {c st av ret st' av' r n l} : av.length ≠ 0 → readFrame mode drainBuf (av.length + fsCap + 2) st av = (ret, st', av') →
      recvCloseOf mode ret st' = false → Drain mode c st' av' r n l →
      Drain mode (c + 1) st av (r.1, r.2.1, r.2.2.1, r.2.2.2 + 1) (n + 1) ((st, av) :: l)

theorem drain (mode : Mode) : ∀ (c : Nat) (st : St) (av : Bytes),
    Drain mode c st av (closeDrain mode c st av) (drainRounds mode c st av) (drainCalls mode c st av) := by
  intro c
  induction c with
  | zero => intro st av; exact .done
  | succ c ih =>
    intro st av
    rw [closeDrain, drainRounds, drainCalls]
    by_cases h0 : av.length = 0
    · simp only [if_pos h0]; exact .wait h0 (ih st av)
    · simp only [if_neg h0]
      cases hr : recvCloseOf mode (readFrame mode drainBuf (av.length + fsCap + 2) st av).1
          (readFrame mode drainBuf (av.length + fsCap + 2) st av).2.1 with
      | true => simp only [if_true]; exact .seen h0 rfl hr
      | false => simp only [Bool.false_eq_true, if_false]; exact .call h0 rfl hr (ih _ _)

theorem closeDrain_idle (mode : Mode) : ∀ (count : Nat) (st : St), closeDrain mode count st [] = (false, st, [], 0) := by
  intro count
  induction count with
  | zero => intro st; rfl
  | succ c ih => intro st; simp [closeDrain, ih]

theorem closeDrain_socket_empty (mode : Mode) (c : Nat) (st st' : St) (av : Bytes) (ret : Ret) (hav : av ≠ [])
    (h : readFrame mode drainBuf (av.length + fsCap + 2) st av = (ret, st', [])) :
    closeDrain mode (c + 1) st av = (recvCloseOf mode ret st', st', [], 1) := by
  rw [closeDrain]
  have h0 : ¬ av.length = 0 := by intro h; exact hav (List.eq_nil_of_length_eq_zero h)
  simp only [if_neg h0, h]
  by_cases hr : recvCloseOf mode ret st' = true
  · simp [hr]
  · simp [hr, closeDrain_idle]

/-- a header the reader has refused with 1002 (unmasked frame to a server) or 1003 (complete header, opcode neither
binary nor close) and left in `rd_header` -/
def Refused (mode : Mode) (st : St) : Prop :=
  st.allHdrIn = false ∧ ∃ b0 b1 r, st.rdHeader = b0 :: b1 :: r ∧
    ((mode = .server ∧ ¬ b1.toNat / 128 = 1) ∨
     (hExtra b1.toNat ≤ r.length ∧ b0.toNat % 16 ≠ 2 ∧ b0.toNat % 16 ≠ 8))

theorem readFrame_refused (mode : Mode) (datalen fuel : Nat) (st : St) (av : Bytes) (h : Refused mode st) :
    readFrame mode datalen (fuel + 1) st av =
      (.closed, { st with rdHeader := st.rdHeader ++ av.take (fsCap - st.rdHeader.length) }, av.drop (fsCap - st.rdHeader.length)) ∧
    Refused mode { st with rdHeader := st.rdHeader ++ av.take (fsCap - st.rdHeader.length) } := by
  obtain ⟨ha, b0, b1, r, hr, hc⟩ := h
  have hh : st.rdHeader ++ av.take (fsCap - st.rdHeader.length) = b0 :: b1 :: (r ++ av.take (fsCap - st.rdHeader.length)) := by
    rw [hr]; rfl
  refine ⟨?_, ha, b0, b1, _, hh, ?_⟩
  · rw [readFrame_hdrD _ _ _ _ _ b0 b1 _ ha hh, ← hh]
    unfold afterHdrD
    rcases hc with ⟨hm, hb⟩ | ⟨hl, h2, _⟩
    · rw [if_pos ⟨hm, hb⟩]
    · by_cases c1 : mode = .server ∧ ¬ b1.toNat / 128 = 1
      · rw [if_pos c1]
      · rw [if_neg c1, if_neg (by simp only [List.length_append]; omega), if_pos h2]
  · rcases hc with hc | ⟨hl, h2, h8⟩
    · exact Or.inl hc
    · exact Or.inr ⟨by simp only [List.length_append]; omega, h2, h8⟩

theorem recvCloseOf_refused (mode : Mode) (ret : Ret) (st : St) (h : Refused mode st) : recvCloseOf mode ret st = false := by
  obtain ⟨ha, b0, b1, r, hr, hc⟩ := h
  unfold recvCloseOf
  rw [hr]
  cases ret <;> simp only [] 
  rcases hc with ⟨hm, hb⟩ | ⟨_, h2, h8⟩
  · simp [hm, hb]
  · simp [h8]

section
variable {mode : Mode} {c : Nat} {st : St} {av : Bytes} {r : Bool × St × Bytes × Nat} {n : Nat} {l : List (St × Bytes)}

theorem Drain.rounds (h : Drain mode c st av r n l) :
    n ≤ c ∧ r.2.2.2 ≤ n ∧ (r.1 = false → n = c) ∧ (r.1 = true → 1 ≤ n) := by
  induction h with
  | done => simp
  | wait _ _ ih => exact ⟨by omega, by omega, fun hf => by have := ih.2.2.1 hf; omega, fun _ => by omega⟩
  | seen => simp
  | call _ _ _ _ ih =>
    dsimp only
    exact ⟨by omega, by omega, fun hf => by have := ih.2.2.1 hf; omega, fun _ => by omega⟩

theorem Drain.length (h : Drain mode c st av r n l) : l.length = r.2.2.2 := by
  induction h with
  | done => rfl
  | wait _ _ ih => exact ih
  | seen => rfl
  | call _ _ _ _ ih => exact congrArg (· + 1) ih

theorem Drain.recv (h : Drain mode c st av r n l) (hr : r.1 = true) :
    ∃ b0 b1 rr, r.2.1.rdHeader = b0 :: b1 :: rr ∧ b0.toNat % 16 = 8 := by
  induction h with
  | done => cases hr
  | wait _ _ ih => exact ih hr
  | call _ _ _ _ ih => exact ih hr
  | seen _ _ hc =>
    unfold recvCloseOf at hc
    split at hc
    · rename_i b0 b1 rr hh _
      simp only [Bool.and_eq_true, decide_eq_true_eq] at hc
      exact ⟨b0, b1, rr, hh, hc.2⟩
    · cases hc

theorem Drain.ok (h : Drain mode c st av r n l) :
    r.2.2.1.length ≤ av.length ∧
    (RdOk drainBuf st → RdOk drainBuf r.2.1 ∧ ∀ x ∈ l, RdOk drainBuf x.1 ∧ x.2.length ≤ av.length) := by
  induction h with
  | done => exact ⟨Nat.le_refl _, fun h => ⟨h, fun _ hx => by cases hx⟩⟩
  | wait _ _ ih => exact ih
  | @seen _ st av _ _ _ _ e _ =>
    have hfit := readFrame_fits mode drainBuf (av.length + fsCap + 2) st av
    have hok := readFrame_ok mode drainBuf (av.length + fsCap + 2) st av
    rw [e] at hfit hok
    exact ⟨hfit.1, fun h => ⟨(hok h).1, fun x hx => by rw [List.mem_singleton.mp hx]; exact ⟨h, Nat.le_refl _⟩⟩⟩
  | @call _ st av _ _ _ _ _ _ _ e _ _ ih =>
    have hfit := readFrame_fits mode drainBuf (av.length + fsCap + 2) st av
    have hok := readFrame_ok mode drainBuf (av.length + fsCap + 2) st av
    rw [e] at hfit hok
    refine ⟨Nat.le_trans ih.1 hfit.1, fun h => ⟨(ih.2 (hok h).1).1, fun x hx => ?_⟩⟩
    rcases List.mem_cons.mp hx with rfl | hx
    · exact ⟨h, Nat.le_refl _⟩
    · exact ⟨((ih.2 (hok h).1).2 x hx).1, Nat.le_trans ((ih.2 (hok h).1).2 x hx).2 hfit.1⟩

theorem Drain.oversize (h : Drain mode c st av r n l) (ha : st.allHdrIn = true) (hs : st.dataSize > drainBuf) :
    r = (false, st, av, if av.length = 0 then 0 else c) := by
  have e : ∀ av : Bytes, readFrame mode drainBuf (av.length + fsCap + 2) st av = (.err, st, av) := fun av => by
    rw [readFrame_dataD _ _ _ _ _ ha]; unfold readData; rw [if_pos hs]
  induction h with
  | done => simp
  | wait h0 _ ih => rw [ih ha hs e]; simp [h0]
  | seen _ e' hc =>
    rw [e] at e'
    obtain ⟨rfl, rfl, rfl⟩ := e'
    simp [recvCloseOf] at hc
  | call h0 e' _ _ ih =>
    rw [e] at e'
    obtain ⟨rfl, rfl, rfl⟩ := e'
    rw [ih ha hs e]
    simp [h0]

theorem Drain.refused (h : Drain mode c st av r n l) (hr : Refused mode st) :
    r.1 = false ∧ Refused mode r.2.1 ∧ av.length ≤ r.2.2.1.length + (fsCap - st.rdHeader.length) := by
  induction h with
  | done => exact ⟨rfl, hr, Nat.le_add_right _ _⟩
  | wait _ _ ih => exact ih hr
  | @seen _ st av _ _ _ _ e hc =>
    obtain ⟨e', h'⟩ := readFrame_refused mode drainBuf (av.length + fsCap + 1) st av hr
    rw [show av.length + fsCap + 2 = av.length + fsCap + 1 + 1 from rfl, e'] at e
    obtain ⟨rfl, rfl, rfl⟩ := e
    rw [recvCloseOf_refused mode _ _ h'] at hc
    cases hc
  | @call _ st av _ _ _ _ _ _ _ e _ _ ih =>
    obtain ⟨e', h'⟩ := readFrame_refused mode drainBuf (av.length + fsCap + 1) st av hr
    rw [show av.length + fsCap + 2 = av.length + fsCap + 1 + 1 from rfl, e'] at e
    obtain ⟨rfl, rfl, rfl⟩ := e
    have := ih h'
    refine ⟨this.1, this.2.1, ?_⟩
    have h3 := this.2.2
    simp only [List.length_append, List.length_take, List.length_drop] at h3 ⊢
    omega

end

theorem closeDrain_calls_le (mode : Mode) (count : Nat) (st : St) (av : Bytes) :
    (closeDrain mode count st av).2.2.2 ≤ count :=
  Nat.le_trans (drain mode count st av).rounds.2.1 (drain mode count st av).rounds.1

/-- `afterHdrD` depends on the fuel only through the `goto next_frame` of a frame without data -/
theorem afterHdrD_congr (mode : Mode) (datalen f g : Nat) (st : St) (b0 b1 : UInt8) (r' av : Bytes)
    (h : readFrame mode datalen f { hdrSt st b1 r' with rdHeader := r'.drop (hExtra b1.toNat), allHdrIn := false } av =
      readFrame mode datalen g { hdrSt st b1 r' with rdHeader := r'.drop (hExtra b1.toNat), allHdrIn := false } av) :
    afterHdrD mode datalen f st b0 b1 r' av = afterHdrD mode datalen g st b0 b1 r' av := by
  unfold afterHdrD
  rw [h]

theorem readFrame_fuel (mode : Mode) (datalen : Nat) : ∀ (f g : Nat) (st : St) (av : Bytes),
    st.rdHeader.length + av.length < f → st.rdHeader.length + av.length < g →
    readFrame mode datalen f st av = readFrame mode datalen g st av := by
  intro f
  induction f with
  | zero => intro g st av h; omega
  | succ f ih =>
    intro g st av hf hg
    obtain ⟨g, rfl⟩ : ∃ g', g = g' + 1 := ⟨g - 1, by omega⟩
    apply readFrame_cases mode datalen f st av (fun r => r = readFrame mode datalen (g + 1) st av)
    · intro ha; rw [readFrame_dataD _ _ _ _ _ ha]
    · intro ha hs; rw [readFrame_shortD _ _ _ _ _ ha hs]
    · intro b0 b1 r' ha hh
      rw [readFrame_hdrD _ _ _ _ _ b0 b1 r' ha hh]
      have hl : (st.rdHeader ++ av.take (fsCap - st.rdHeader.length)).length = r'.length + 2 := by rw [hh]; rfl
      simp only [List.length_append, List.length_take] at hl
      apply afterHdrD_congr
      apply ih
      · simp only [List.length_drop]; omega
      · simp only [List.length_drop]; omega

theorem readData_up (mode : Mode) (st : St) (av data : Bytes) (datalen : Nat) :
    (readData mode st av data datalen).2.1.up = st.up := by
  unfold readData
  by_cases h : st.dataSize > datalen
  · rw [if_pos h]
  · rw [if_neg h]; simp only; split <;> rfl

theorem readFrame_up (mode : Mode) (datalen : Nat) : ∀ (fuel : Nat) (st : St) (av : Bytes),
    (readFrame mode datalen fuel st av).2.1.up = st.up := by
  intro fuel
  induction fuel with
  | zero => intro st av; rfl
  | succ f ih =>
    intro st av
    apply readFrame_cases mode datalen f st av (fun r => r.2.1.up = st.up)
    · intro _; exact readData_up ..
    · intro _ _; rfl
    · intro b0 b1 r' _ _
      apply afterHdrD_cases mode datalen f _ b0 b1 r' _ (fun r => r.2.1.up = st.up)
      · intro _ _; rfl
      · intro _; rfl
      · intro _ _; rfl
      · intro _ _ _; rfl
      · intro _ _ _; rw [ih]; rfl
      · intro _ _ _; rfl
      · intro _ _ _ _ _; rfl
      · intro _ _ _ _; rw [readData_up]; rfl

def UpOk (st : St) : Prop := st.up = true ∧ RdOk rxBuf st

theorem wsRead_upok (mode : Mode) (accept : Bytes) (st : St) (av : Bytes) (h : UpOk st) :
    UpOk (wsRead mode accept rxBuf st av).2.1 := by
  unfold wsRead
  simp only [h.1, Bool.not_true, Bool.false_eq_true, if_false]
  exact ⟨by rw [readFrame_up]; exact h.1, (readFrame_ok mode rxBuf _ st av h.2).1⟩

theorem readSession_pres (mode : Mode) (accept : Bytes) (Q : St → Prop)
    (hQ : ∀ st av, Q st → Q (wsRead mode accept rxBuf st av).2.1) : ∀ (fuel : Nat) (st : St) (av : Bytes), Q st →
    ∀ st', (readSession mode accept fuel st av).2.1 = .open st' → Q st' := by
  intro fuel
  induction fuel with
  | zero => intro st av h st' e; simp only [readSession, Sess.open.injEq] at e; exact e ▸ h
  | succ f ih =>
    intro st av h st' e
    have hw := hQ st av h
    rw [readSession] at e
    generalize wsRead mode accept rxBuf st av = r at hw e
    obtain ⟨ret, st1, av1⟩ := r
    cases ret with
    | err => simp at e
    | closed => simp at e
    | oob => simp at e
    | zero => simp only [Sess.open.injEq] at e; exact e ▸ hw
    | pkt pl =>
      simp only at e
      split at e
      · exact ih st1 av1 hw st' e
      · simp only [Sess.open.injEq] at e; exact e ▸ hw

theorem feedChunk_pres (mode : Mode) (accept : Bytes) (Q : St → Prop)
    (hQ : ∀ st av, Q st → Q (wsRead mode accept rxBuf st av).2.1) : ∀ (fuel idle : Nat) (st : St) (av : Bytes), Q st →
    ∀ st', (feedChunk mode accept fuel idle st av).2.1 = .open st' → Q st' := by
  intro fuel
  induction fuel with
  | zero => intro idle st av h st' e; simp only [feedChunk, Sess.open.injEq] at e; exact e ▸ h
  | succ f ih =>
    intro idle st av h st' e
    rw [feedChunk] at e
    by_cases h0 : av.length = 0
    · simp only [if_pos h0, Sess.open.injEq] at e; exact e ▸ h
    · simp only [if_neg h0] at e
      have hs := readSession_pres mode accept Q hQ (av.length + fsCap + 2) st av h
      generalize readSession mode accept (av.length + fsCap + 2) st av = r at hs e
      obtain ⟨ms, sess, av1⟩ := r
      cases sess with
      | closed => simp at e
      | oob => simp at e
      | «open» st1 =>
        have h1 := hs st1 rfl
        simp only at e
        split at e
        · split at e
          · simp only [Sess.open.injEq] at e; exact e ▸ h1
          · exact ih _ st1 av1 h1 st' e
        · exact ih _ st1 av1 h1 st' e

theorem feed_pres (mode : Mode) (accept : Bytes) (Q : St → Prop)
    (hQ : ∀ st av, Q st → Q (wsRead mode accept rxBuf st av).2.1) : ∀ (chunks : List Bytes) (st : St), Q st →
    ∀ st', (feed mode accept st chunks).2.1 = .open st' → Q st' := by
  intro chunks
  induction chunks with
  | nil => intro st h st' e; simp only [feed, Sess.open.injEq] at e; exact e ▸ h
  | cons c cs ih =>
    intro st h st' e
    rw [feed] at e
    have hc := feedChunk_pres mode accept Q hQ (6 * (c.length + 1)) 0 st c h
    generalize feedChunk mode accept (6 * (c.length + 1)) 0 st c = r at hc e
    obtain ⟨ms, sess, stuck⟩ := r
    cases sess with
    | closed => simp at e
    | oob => simp at e
    | «open» st1 =>
      cases stuck with
      | true => simp only [Sess.open.injEq] at e; exact e ▸ hc st1 rfl
      | false => exact ih st1 (hc st1 rfl) st' e

def ConnOk (st : St) : Prop := RdOk rxBuf st ∧ (st.up = false → HsInv st)

theorem connOk_init : ConnOk {} := ⟨⟨by decide, fun h => by cases h⟩, fun _ => ⟨rfl, rfl, by decide, rfl, rfl, rfl⟩⟩

theorem HsInv.rdOk {st : St} (h : HsInv st) : RdOk rxBuf st :=
  RdOk_noall (by rw [h.2.2.2.1]; decide) h.2.2.2.2.1

theorem wsRead_connOk (mode : Mode) (accept : Bytes) (st : St) (av : Bytes) (h : ConnOk st) :
    ConnOk (wsRead mode accept rxBuf st av).2.1 := by
  have hfr : ∀ (fuel : Nat) (s : St) (a : Bytes), RdOk rxBuf s → s.up = true → ConnOk (readFrame mode rxBuf fuel s a).2.1 :=
    fun fuel s a hs hu => ⟨(readFrame_ok mode rxBuf fuel s a hs).1, fun hh => by rw [readFrame_up, hu] at hh; cases hh⟩
  cases hu : st.up with
  | true => rw [wsRead_up mode accept st av hu]; exact hfr _ st av h.1 hu
  | false =>
    have hs := rdHttpHeader_spec mode accept [] (av.length + 2) st av (h.2 hu) (by omega)
    rw [wsRead_hs mode accept st av hu]
    generalize rdHttpHeader mode accept (av.length + 2) st av = r at hs
    cases r with
    | rej => exact h
    | oob => exact h
    | ok p =>
      obtain ⟨st1, av1⟩ := p
      cases hu1 : st1.up with
      | false => simp only [hu1, Bool.not_false, if_true]; exact ⟨HsInv.rdOk (hs.1 hu1).2.1, fun _ => (hs.1 hu1).2.1⟩
      | true =>
        have hok : RdOk rxBuf st1 := RdOk_noall (Nat.le_of_lt (hs.2 hu1).2.1) (hs.2 hu1).1.2.1
        simp only [hu1, Bool.not_true, Bool.false_eq_true, if_false]
        split
        · exact ⟨hok, fun hh => by rw [hu1] at hh; cases hh⟩
        · exact hfr _ st1 av1 hok hu1

/-- how a `coap_ws_read` call can close the session by itself: a Close frame header completed (`recv_close` set, no
drain), a header refused with 1002/1003 and left in `rd_header` (`Refused`), or a frame refused with 1009
(`all_hdr_in` set, `data_size` above the caller's buffer) -/
def ClosedHow (mode : Mode) (datalen : Nat) (st' : St) : Prop :=
  recvCloseOf mode .closed st' = true ∨ Refused mode st' ∨ (st'.allHdrIn = true ∧ st'.dataSize > datalen)

theorem readData_not_closed (mode : Mode) (st : St) (av data : Bytes) (datalen : Nat) :
    (readData mode st av data datalen).1 ≠ .closed := by
  unfold readData
  by_cases h : st.dataSize > datalen
  · rw [if_pos h]; intro hh; cases hh
  · rw [if_neg h]; simp only; split <;> (intro hh; cases hh)

theorem readFrame_closed_cases (mode : Mode) (datalen : Nat) : ∀ (fuel : Nat) (st : St) (av : Bytes),
    (readFrame mode datalen fuel st av).1 = .closed → ClosedHow mode datalen (readFrame mode datalen fuel st av).2.1 := by
  intro fuel
  induction fuel with
  | zero => intro st av h; cases h
  | succ f ih =>
    intro st av
    apply readFrame_cases mode datalen f st av (fun r => r.1 = .closed → ClosedHow mode datalen r.2.1)
    · intro _ h; exact absurd h (readData_not_closed _ _ _ _ _)
    · intro _ _ h; cases h
    · intro b0 b1 r' ha hh
      apply afterHdrD_cases mode datalen f _ b0 b1 r' _ (fun r => r.1 = .closed → ClosedHow mode datalen r.2.1)
      · intro hm hb _; exact Or.inr (Or.inl ⟨ha, b0, b1, r', rfl, Or.inl ⟨hm, hb⟩⟩)
      · intro _ h; cases h
      · intro hl h2 _
        by_cases hm : mode = .server ∧ ¬ b1.toNat / 128 = 1
        · exact Or.inr (Or.inl ⟨ha, b0, b1, r', rfl, Or.inl hm⟩)
        · by_cases h8 : b0.toNat % 16 = 8
          · refine Or.inl ?_
            simp only [recvCloseOf, ha, h8]
            by_cases hs : mode = .server
            · simp [masked_of_server hm hs]
            · simp [hs]
          · exact Or.inr (Or.inl ⟨ha, b0, b1, r', rfl, Or.inr ⟨hl, h2, h8⟩⟩)
      · intro _ _ hbig _; exact Or.inr (Or.inr ⟨rfl, hbig⟩)
      · intro _ _ _; exact ih _ _
      · intro _ _ _ h; cases h
      · intro _ _ _ _ _ h; cases h
      · intro _ _ _ _ h; exact absurd h (readData_not_closed _ _ _ _ _)

theorem wsRead_closed (mode : Mode) (accept : Bytes) (datalen : Nat) (st : St) (av : Bytes)
    (h : (wsRead mode accept datalen st av).1 = .closed) : ClosedHow mode datalen (wsRead mode accept datalen st av).2.1 := by
  unfold wsRead at h ⊢
  by_cases hu : st.up = true
  · simp only [hu, Bool.not_true, Bool.false_eq_true, if_false] at h ⊢
    exact readFrame_closed_cases mode datalen _ st av h
  · simp only [hu, Bool.not_false, if_true] at h ⊢
    generalize rdHttpHeader mode accept (av.length + 2) st av = r at h ⊢
    cases r with
    | rej => cases h
    | oob => cases h
    | ok p =>
      obtain ⟨st1, av1⟩ := p
      simp only at h ⊢
      split at h
      · cases h
      · rename_i h1
        split at h
        · cases h
        · rename_i h2
          simp only [h1, h2, if_false] at ⊢
          exact readFrame_closed_cases mode datalen _ st1 av1 h

theorem refusalPoint_closed (mode : Mode) (accept : Bytes) : ∀ (fuel idle : Nat) (st : St) (av : Bytes) (st' : St) (av' : Bytes),
    refusalPoint mode accept fuel idle st av = some (st', av') → ClosedHow mode rxBuf st' := by
  intro fuel
  induction fuel with
  | zero => intro idle st av st' av' h; cases h
  | succ f ih =>
    intro idle st av st' av' h
    rw [refusalPoint] at h
    have hc := wsRead_closed mode accept rxBuf st av
    generalize wsRead mode accept rxBuf st av = r at h hc
    obtain ⟨ret, st1, av1⟩ := r
    cases ret with
    | err => cases h
    | oob => cases h
    | closed =>
      simp only [Option.some.injEq, Prod.mk.injEq] at h
      obtain ⟨rfl, rfl⟩ := h
      exact hc rfl
    | zero =>
      simp only at h
      split at h
      · cases h
      · split at h
        · split at h
          · cases h
          · exact ih _ _ _ _ _ h
        · exact ih _ _ _ _ _ h
    | pkt pl =>
      simp only at h
      split at h
      · exact ih _ _ _ _ _ h
      · cases h

end Coap
