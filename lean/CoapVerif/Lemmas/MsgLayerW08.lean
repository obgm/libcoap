import CoapVerif.Lemmas.MsgLayer
import CoapVerif.Lemmas.MsgLayerW
/-
C08 over the write-failure model (`Model/MsgLayerW.lean`): the NSTART accounting and the life of the delay queue for EVERY
event sequence and EVERY write oracle (which socket writes fail).  `Out.tx` in this model is a write ATTEMPT.

The point that is specific to write failures (and that seeded change C08-13 corrupts): a Confirmable that leaves the delay
queue in `coap_session_connected` is put on the retransmission queue by `coap_wait_ack` WHATEVER the write returned, so it
must take its NSTART slot whatever the write returned (`C08.released_con_takes_slot_whatever_the_write_returns`, read off
`drainRound_l`); a retransmission whose write fails keeps its slot; a first transmission in `coap_send` whose write fails
is refused and takes none.

Key lemma: `drainW_is_drain` — the drain loop with its `if (bytes_written < 0) break;` is the base loop stopped early (the
`break` is the base loop running out of fuel), so `coap_session_connected` and the release of a slot are `Msg.connectedK` /
`Msg.releaseK` at some number of rounds (`connectedW_l`, `releaseW_l`) and their lemmas in Lemmas/MsgLayer.lean apply as they are.
-/
namespace Coap.MsgW
open Coap.SQ Coap.Msg

theorem drainW_is_drain : ∀ (fuel : Nat) (lw : LW) (s : Nat), ∃ k, (drainW fuel lw s).l = drain k lw.l s
  | 0, lw, s => ⟨0, rfl⟩
  | fuel + 1, lw, s => by
    have stop : ∃ k, lw.l = drain k lw.l s := ⟨0, rfl⟩
    rw [drainW_succ]
    cases hdq : (lw.l.getS s).delayq with
    | nil => exact stop
    | cons n rest =>
      dsimp only
      cases hest : (lw.l.getS s).est
      · exact stop
      · cases hg : n.con && decide ((lw.l.getS s).conActive ≥ (lw.l.getS s).nstart)
        · have e : ∀ k, drain (k + 1) lw.l s = drain k (drainRound lw s n rest).2.l s := fun k => by
            rw [drain_succ_eq, hdq, drainRound_l]; simp only [hest, hg, Bool.not_true, Bool.false_eq_true, if_false]
          cases lw.wf.headD false
          · obtain ⟨k, hk⟩ := drainW_is_drain fuel (drainRound lw s n rest).2 s
            exact ⟨k + 1, by rw [e]; exact hk⟩
          · -- `break`: this round was the last
            exact ⟨1, (e 0).symm⟩
        · exact stop

theorem connectedW_l (lw : LW) (s : Nat) : ∃ k, (connectedW lw s).l = connectedK k lw.l s :=
  drainW_is_drain _ { lw with l := lw.l.setS s { (lw.l.getS s) with est := true } } s

theorem releaseW_l (lw : LW) (s : Nat) : ∃ k, (releaseW lw s).l = releaseK k lw.l s := by
  unfold releaseW releaseK
  dsimp only
  by_cases h0 : (lw.l.getS s).conActive = 0
  · exact ⟨0, by rw [if_pos h0, if_pos h0]⟩
  · by_cases he : (lw.l.getS s).est = true
    · obtain ⟨k, hk⟩ := connectedW_l
        { lw with l := lw.l.setS s { (lw.l.getS s) with conActive := (lw.l.getS s).conActive - 1 } } s
      exact ⟨k, by rw [if_neg h0, if_neg h0, if_pos he, if_pos he]; exact hk⟩
    · exact ⟨0, by rw [if_neg h0, if_neg h0, if_neg he, if_neg he]⟩

/-! ### `Reach`, whatever the write oracle says -/

theorem submitW_reach (lw : LW) (s : Nat) (con : Bool) (mid r : Nat) : Reach lw.l (submitW lw s con mid r).l := by
  rw [(submitW_eq lw s con mid r).1]
  split
  · -- the write failed: `goto error`, nothing is queued, nothing is counted
    exact (Reach.emit _ _).trans (Reach.emit _ _)
  · exact step_reach lw.l (.submit s con mid r)

theorem connectedW_reach (lw : LW) (s : Nat) : Reach lw.l (connectedW lw s).l := by
  obtain ⟨k, e⟩ := connectedW_l lw s
  rw [e]; exact connectedK_reach k lw.l s

theorem finishW_reach {lw : LW} {n : Node} {rest : List Node} (hwo : Without lw.l.q.nodes n rest) :
    Reach lw.l (releaseW { lw with l := { lw.l with q := { lw.l.q with nodes := rest } } } n.sess).l := by
  obtain ⟨k, e⟩ := releaseW_l { lw with l := { lw.l with q := { lw.l.q with nodes := rest } } } n.sess
  rw [e]; exact finish_reach k hwo

/-- sent again (whatever the write returns, the state is the base model's) or given up (its slot is released) -/
theorem popRetransmitW_reach {lw : LW} {n : Node} {rest : List Node} (hp : popNext lw.l.q.nodes = some (n, rest)) :
    Reach lw.l (retransmitW { lw with l := { lw.l with q := { lw.l.q with nodes := rest } } } n).l := by
  generalize hlw : ({ lw with l := { lw.l with q := { lw.l.q with nodes := rest } } } : LW) = lw1
  have hl : lw1.l = { lw.l with q := { lw.l.q with nodes := rest } } := by rw [← hlw]
  by_cases h : n.cnt < (lw1.l.getS n.sess).maxRtx
  · rw [(retransmitW_resend lw1 n h).1, ← MsgX.retransmitX_zero 0, hl]; exact MsgX.popRetransmitX_reach 0 0 hp
  · have hr : Reach lw.l (releaseW lw1 n.sess).l := by
      rw [← hlw]
      exact finishW_reach (without_popNext hp)
    unfold retransmitW
    dsimp only
    simp only [h, if_false]
    split
    · exact hr.trans (Reach.emit _ _)
    · exact hr

theorem dueLoopW_reach : ∀ (fuel : Nat) (lw : LW), Reach lw.l (dueLoopW fuel lw).l
  | 0, lw => Reach.refl _
  | fuel + 1, lw => by
    unfold dueLoopW
    split
    · exact Reach.refl _
    · split
      · split
        · exact Reach.refl _
        · rename_i n rest hp
          exact (popRetransmitW_reach hp).trans (dueLoopW_reach fuel _)
      · exact Reach.refl _

theorem afterRxW_reach (lw : LW) : Reach lw.l (afterRxW lw).l := by
  unfold afterRxW; rw [prepareCoreW_fst]; exact dueLoopW_reach _ lw

theorem prepareW_reach (lw : LW) : Reach lw.l (prepareW lw).l := by
  unfold prepareW
  dsimp only
  rw [prepareCoreW_fst]
  exact (dueLoopW_reach _ lw).trans (Reach.emit _ _)

theorem rxAckW_reach (lw : LW) (s mid : Nat) : Reach lw.l (rxAckW lw s mid).l := by
  unfold rxAckW
  rcases removeNode_cases lw.l.q.nodes s mid with e | ⟨n, rest, e, rfl, _, hwo⟩ <;> rw [e]
  · exact Reach.refl _
  · exact finishW_reach hwo

theorem rxRstW_reach (lw : LW) (s mid : Nat) : Reach lw.l (rxRstW lw s mid).l := by
  unfold rxRstW
  rcases removeNode_cases lw.l.q.nodes s mid with e | ⟨n, rest, e, rfl, _, hwo⟩ <;> rw [e] <;> dsimp only
  · exact Reach.emit lw.l _
  · refine (finishW_reach hwo).trans ?_
    split
    · exact Reach.emit _ _
    · exact Reach.refl _

theorem rxBadW_reach (lw : LW) (s mid : Nat) : Reach lw.l (rxBadW lw s mid).l := by
  unfold rxBadW
  rcases removeNode_cases lw.l.q.nodes s mid with e | ⟨n, rest, e, rfl, _, hwo⟩ <;> rw [e]
  · exact Reach.refl _
  · exact (finishW_reach hwo).trans (Reach.emit _ _)

theorem cancelTokenW_reach : ∀ (fuel : Nat) (lw : LW) (s tok : Nat), Reach lw.l (cancelTokenW fuel lw s tok).l
  | 0, _, _, _ => Reach.refl _
  | fuel + 1, lw, s, tok => by
    unfold cancelTokenW
    split
    · exact Reach.refl _
    · rename_i n rest hr
      refine Reach.trans ?_ (cancelTokenW_reach fuel _ s tok)
      obtain ⟨rfl, _, hwo⟩ := removeTok_some _ _ _ _ _ hr
      cases hc : n.con
      · exact (reach_disp (R := fun _ => True) lw.l).dropNon lw.l n rest (Reach.refl _) hwo trivial hc
      · exact finishW_reach hwo

theorem rxNonW_reach (lw : LW) (s mid tok : Nat) : Reach lw.l (rxNonW lw s mid tok).l :=
  (cancelTokenW_reach _ lw s tok).trans (Reach.emit _ _)

theorem stepW_reach (lw : LW) (e : Ev) : Reach lw.l (stepW lw e).l := by
  have rx : ∀ (lw1 : LW) (s : Nat), Reach lw.l lw1.l →
      Reach lw.l (if (lw.l.getS s).sockOpen then afterRxW lw1 else lw).l := by
    intro lw1 s h
    split
    · exact h.trans (afterRxW_reach lw1)
    · exact Reach.refl _
  cases e with
  | setNow t => exact step_reach lw.l (.setNow t)
  | submit s con mid r => exact submitW_reach lw s con mid r
  | prepare => exact prepareW_reach lw
  | rxAck s mid => exact rx _ s (rxAckW_reach lw s mid)
  | rxRst s mid => exact rx _ s (rxRstW_reach lw s mid)
  | rxNon s mid tok => exact rx _ s (rxNonW_reach lw s mid tok)
  | rxBad s mid => exact rx _ s (rxBadW_reach lw s mid)
  | hold s => exact step_reach lw.l (.hold s)
  | connect s => exact connectedW_reach lw s
  | disconnect s =>
    simp only [stepW]; split
    · exact disconnect_reach lw.l s
    · exact Reach.refl _

theorem runW_reach (evs : List Ev) (lw : LW) : Reach lw.l (runW lw evs).l :=
  foldl_inv (Reach lw.l ·.l) (fun lw1 e h => h.trans (stepW_reach lw1 e)) evs lw (Reach.refl _)

end Coap.MsgW
