import CoapVerif.Lemmas.BlockNet
import CoapVerif.Lemmas.BlockCrcvHostile
import CoapVerif.Lemmas.BlockSrcvHostile
/- C09, composed systems (Model/BlockNet.lean): RUN-level "at most once" with a ghost history.

   Block1 (`b1Step`): the ghost `g` is the list of request datagrams the server's lg_srcv has processed since the server
   last had NO lg_srcv (the "epoch": it is emptied whenever the lg_srcv is released — by a delivery, by 4.08, by a
   time-out).  Along EVERY schedule a delivery hands over the client's body and EVERY byte of it was carried, for exactly
   that offset, by a request that arrived in the current epoch: a delivery uses up a complete set of blocks received after
   the previous delivery / release.  Nothing left over from an earlier epoch can contribute, so a replay of the last block
   (or of any set of datagrams that does not contain block 0) never delivers.  "At most one delivery per PUT event" is
   NOT true of the code and RFC 7959 does not demand it: after the release a replay of the COMPLETE datagram sequence is
   a new transfer (SPEC DECISION D6) — witness in Props/C09.lean.

   Block2 (`b2Step`): the same for the client's lg_crcv. -/
namespace Coap.Block
open Coap.Spec.Block

def b1Epoch (P : B1Par) (s : B1Sys) (g : List Dgram) (e : B1Event) : List Dgram :=
  match (b1Step P s e).srv with
  | none => []
  | some _ =>
    match e with
    | .reqArrives i => (match s.reqs[i]? with | some d => d.dgram :: g | none => g)
    | _ => g

def b1StepG (P : B1Par) (sg : B1Sys × List Dgram) (e : B1Event) : B1Sys × List Dgram :=
  (b1Step P sg.1 e, b1Epoch P sg.1 sg.2 e)

structure B1Ghost (P : B1Par) (sg : B1Sys × List Dgram) : Prop where
  empty : sg.1.srv = none → sg.2 = []
  hs : ∀ v, sg.1.srv = some v → HSInv P.cap sg.2 v

/-- every request in flight passes `coap_get_block_b` (NUM < 2^20) when the body is addressable in the settled size -/
theorem reqBlk_num (P : B1Par) (d : Req1) (hN : nBlocks P.body.length (b1S P) ≤ 2 ^ 20) (h : ReqBlk P d) :
    d.num < 2 ^ 20 ∧ d.szx ≤ 6 := by
  obtain ⟨g1, g2, _, _, _, g6⟩ := h
  have hle : b1S P ≤ d.szx := by
    have := b1S_le P
    rcases g6 with g6 | ⟨g6, _⟩ <;> omega
  -- a block number in the request's size is one in the (smaller) settled size
  have hc : chunkSize (b1S P) ≤ chunkSize d.szx := Nat.pow_le_pow_right (by decide) (by omega)
  have := Nat.mul_le_mul_left d.num hc
  have : d.num < nBlocks P.body.length (b1S P) := by
    rw [lt_nBlocks_iff] at g2 ⊢
    omega
  exact ⟨by omega, g1⟩

theorem b1Req_ghost (P : B1Par) (hN : nBlocks P.body.length (b1S P) ≤ 2 ^ 20) (s : B1Sys) (g : List Dgram) (d : Req1)
    (hd : ReqOK P d) (hg : B1Ghost P (s, g)) :
    let res := srcvStep P.cap P.junk P.maxBlk s.srv d.num d.m d.szx d.payload d.size1
    (∀ v, res.1 = some v → HSInv P.cap (d.dgram :: g) v) ∧ GoodDeliver (d.dgram :: g) res.2 := by
  intro res
  rcases hd with hblk | ⟨q1, q2, q3⟩
  · obtain ⟨hn, hz⟩ := reqBlk_num P d hN hblk
    exact srcvStep_hostile P.cap P.junk P.maxBlk g d.dgram s.srv res.1 res.2 hg.hs hn hz rfl
  · have hstep : res = (s.srv, SrcvOut.deliver d.payload d.payload.length) := by
      show srcvStep P.cap P.junk P.maxBlk s.srv d.num d.m d.szx d.payload d.size1 = _
      unfold srcvStep
      dsimp only
      rw [if_pos ⟨q1, q2⟩]
    rw [hstep]
    refine ⟨fun v hv => HSInv_cons P.cap g d.dgram v (hg.hs v hv), ?_⟩
    intro b l hb
    cases hb
    refine ⟨Nat.le_refl _, ?_⟩
    intro o ho
    refine ⟨d.payload[o], List.getElem?_eq_getElem ho, d.dgram, List.mem_cons_self, ?_, ?_⟩
    · show d.num * 2 ^ (d.szx + 4) ≤ o
      rw [q1, Nat.zero_mul]; exact Nat.zero_le _
    · show d.payload[o - d.num * 2 ^ (d.szx + 4)]? = some d.payload[o]
      rw [q1, Nat.zero_mul, Nat.sub_zero]; exact List.getElem?_eq_getElem ho

theorem b1StepG_ghost (P : B1Par) (hN : nBlocks P.body.length (b1S P) ≤ 2 ^ 20) (sg : B1Sys × List Dgram) (e : B1Event)
    (hinv : B1Inv P sg.1) (hg : B1Ghost P sg) : B1Ghost P (b1StepG P sg e) := by
  obtain ⟨s, g⟩ := sg
  refine { empty := fun hn => ?_, hs := fun v hv => ?_ }
  · show b1Epoch P s g e = []
    unfold b1Epoch
    rw [show (b1Step P s e).srv = none from hn]
  · have hv' : (b1Step P s e).srv = some v := hv
    show HSInv P.cap (b1Epoch P s g e) v
    unfold b1Epoch
    rw [hv']
    -- only a request that arrives reaches the lg_srcv; the other events leave it alone or release it
    cases e with
    | reqArrives i =>
      cases hq : s.reqs[i]? with
      | none =>
        simp only [b1Step, hq] at hv' ⊢
        exact hg.hs v hv'
      | some d =>
        simp only [b1Step, hq] at hv' ⊢
        exact (b1Req_ghost P hN s g d (hinv.req d (List.mem_of_getElem? hq)) hg).1 v hv'
    | srvExpire => cases hv'
    | cliExpire => exact hg.hs v hv'
    | appPut =>
      refine hg.hs v (Eq.trans ?_ hv')
      simp only [b1Step]
      split
      · split
        · split <;> rfl
        · rfl
      · rfl
    | rspArrives j =>
      refine hg.hs v (Eq.trans ?_ hv')
      simp only [b1Step]
      split <;> rfl

theorem b1StepG_fst (P : B1Par) : ∀ (evs : List B1Event) (sg : B1Sys × List Dgram),
    (evs.foldl (b1StepG P) sg).1 = evs.foldl (b1Step P) sg.1
  | [], _ => rfl
  | e :: evs, sg => b1StepG_fst P evs (b1StepG P sg e)

theorem b1RunG_inv (P : B1Par) (hP : B1ParOK P) (hN : nBlocks P.body.length (b1S P) ≤ 2 ^ 20) (evs : List B1Event) :
    B1Inv P (evs.foldl (b1StepG P) ({}, [])).1 ∧ B1Ghost P (evs.foldl (b1StepG P) ({}, [])) :=
  foldl_inv (fun sg => B1Inv P sg.1 ∧ B1Ghost P sg)
    (fun sg e h => ⟨b1Step_inv P hP sg.1 e h.1, b1StepG_ghost P hN sg e h.1 h.2⟩) evs ({}, [])
    ⟨b1_init_inv P, { empty := fun _ => rfl, hs := (by intro v hv; cases hv) }⟩

theorem b1Step_req (P : B1Par) (s : B1Sys) (i : Nat) (d : Req1) (hq : s.reqs[i]? = some d) :
    (b1Step P s (B1Event.reqArrives i)).srv = (srcvStep P.cap P.junk P.maxBlk s.srv d.num d.m d.szx d.payload d.size1).1 ∧
    (b1Step P s (B1Event.reqArrives i)).outs =
      s.outs ++ [(srcvStep P.cap P.junk P.maxBlk s.srv d.num d.m d.szx d.payload d.size1).2] := by
  simp [b1Step, hq]

/-! ## Block2 (single-body mode): the epoch = the responses the lg_crcv has processed since it was last absent or
(re-)initialised (`initial`: fresh from coap_send, or after an ETag change restarted the transfer) -/

def b2Epoch (P : B2Par) (s : B2Sys) (g : List Resp) (e : B2Event) : List Resp :=
  match (b2Step P s e).cli with
  | none => []
  | some c =>
    if c.initial then []
    else
      match e with
      | .rspArrives j _ => (match s.rsps[j]? with | some r => r :: g | none => g)
      | _ => g

def b2StepG (P : B2Par) (sg : B2Sys × List Resp) (e : B2Event) : B2Sys × List Resp :=
  (b2Step P sg.1 e, b2Epoch P sg.1 sg.2 e)

structure B2Ghost (P : B2Par) (sg : B2Sys × List Resp) : Prop where
  empty : (∀ c, sg.1.cli = some c → c.initial = true) → sg.2 = []
  h : ∀ c, sg.1.cli = some c → c.initial = false → HInv P.cap sg.2 c

theorem b2Rsp_ghost (cap : Nat) (junk : UInt8) (sent : Bool) (st : Option Crcv) (g : List Resp) (r : Resp)
    (hst : ∀ c, st = some c → c.initial = false → HInv cap g c) :
    (∀ c', (crcvStepS sent true cap junk st r).1 = some c' → c'.initial = false → HInv cap (r :: g) c') ∧
    (∀ d l, (crcvStepS sent true cap junk st r).2 = CrcvOut.body d l →
      l ≤ d.length ∧ ∀ o, o < l → ∃ v, d[o]? = some v ∧ SentIn (r :: g) o v) := by
  rcases crcvStepS_cases sent true cap junk st r with he | ⟨_, _, he⟩
  · rw [he]
    exact crcvStep_hostile cap junk g r st _ _ hst rfl
  · rw [he]
    cases r.blk with
    | none | some _ => exact ⟨fun c' hc => (by cases hc), fun d l hb => (by cases hb)⟩

theorem b2Step_req_cli (P : B2Par) (s : B2Sys) (i : Nat) :
    (b2Step P s (B2Event.reqArrives i)).cli = s.cli ∧ (b2Step P s (B2Event.reqArrives i)).outs = s.outs := by
  simp only [b2Step]
  split
  · exact srvOnReq_cli P s _ _
  · exact ⟨rfl, rfl⟩

theorem b2StepG_ghost (P : B2Par) (hs : P.single = true) (sg : B2Sys × List Resp) (e : B2Event) (hg : B2Ghost P sg) :
    B2Ghost P (b2StepG P sg e) := by
  obtain ⟨s, g⟩ := sg
  refine { empty := fun hn => ?_, h := fun c hc hi => ?_ }
  · show b2Epoch P s g e = []
    unfold b2Epoch
    cases hc : (b2Step P s e).cli with
    | none => rfl
    | some c => simp only [hn c hc, if_true]
  · have hc' : (b2Step P s e).cli = some c := hc
    show HInv P.cap (b2Epoch P s g e) c
    unfold b2Epoch
    rw [hc']
    simp only [hi, Bool.false_eq_true, if_false]
    -- only a response that arrives reaches the lg_crcv; the other events leave it alone, release it or set up a fresh one
    cases e with
    | rspArrives j sent =>
      cases hq : s.rsps[j]? with
      | none =>
        simp only [b2Step, hq] at hc' ⊢
        exact hg.h c hc' hi
      | some r =>
        simp only [b2Step, hq, hs] at hc' ⊢
        exact (b2Rsp_ghost P.cap P.junk sent s.cli g r hg.h).1 c hc' hi
    | appGet szx => exact hg.h c hc' hi
    | srvExpire => exact hg.h c hc' hi
    | reqArrives i => exact hg.h c ((b2Step_req_cli P s i).1.symm.trans hc') hi
    | cliExpire => cases hc'
    | cliNew =>
      cases (Option.some.inj hc' : ({} : Crcv) = c)
      cases hi

theorem b2StepG_fst (P : B2Par) : ∀ (evs : List B2Event) (sg : B2Sys × List Resp),
    (evs.foldl (b2StepG P) sg).1 = evs.foldl (b2Step P) sg.1
  | [], _ => rfl
  | e :: evs, sg => b2StepG_fst P evs (b2StepG P sg e)

theorem b2RunG_inv (P : B2Par) (hP : B2ParOK P) (hs : P.single = true) (evs : List B2Event) :
    B2Inv P (evs.foldl (b2StepG P) ({}, [])).1 ∧ B2Ghost P (evs.foldl (b2StepG P) ({}, [])) :=
  foldl_inv (fun sg => B2Inv P sg.1 ∧ B2Ghost P sg)
    (fun sg e h => ⟨b2Step_inv P hP sg.1 e h.1, b2StepG_ghost P hs sg e h.2⟩) evs ({}, [])
    ⟨b2_init_inv P, { empty := fun _ => rfl, h := (by intro c hc; cases hc) }⟩

theorem b2Step_rsp (P : B2Par) (s : B2Sys) (j : Nat) (sent : Bool) (r : Resp) (hq : s.rsps[j]? = some r) :
    (b2Step P s (B2Event.rspArrives j sent)).cli = (crcvStepS sent P.single P.cap P.junk s.cli r).1 ∧
    (b2Step P s (B2Event.rspArrives j sent)).outs = s.outs ++ [(crcvStepS sent P.single P.cap P.junk s.cli r).2] := by
  simp [b2Step, hq]

/-- events after which the client cannot have been given a new transfer: no request sent by the application through
coap_send() with an lg_crcv set up (`cliNew`), no response matched to a request that is still queued -/
def B2Event.unsolicited : B2Event → Bool
  | .rspArrives _ sent => !sent
  | .cliNew => false
  | _ => true

theorem b2_unsolicited_run (P : B2Par) (hP : B2ParOK P) (evs : List B2Event) (s : B2Sys) (hinv : B2Inv P s) (hc : s.cli = none)
    (hu : ∀ e, e ∈ evs → e.unsolicited = true) :
    (evs.foldl (b2Step P) s).cli = none ∧ ∀ o, o ∈ (evs.foldl (b2Step P) s).outs → o ∈ s.outs ∨ o = CrcvOut.skip := by
  refine (foldl_inv_mem (fun t => B2Inv P t ∧ t.cli = none ∧ ∀ o, o ∈ t.outs → o ∈ s.outs ∨ o = CrcvOut.skip) evs
    (fun e he t ⟨hinv, hc, ho⟩ => ⟨b2Step_inv P hP t e hinv, ?_⟩) s ⟨hinv, hc, fun _ h => Or.inl h⟩).2
  have he := hu e he
  cases e with
  | appGet _ | srvExpire => exact ⟨hc, ho⟩
  | cliExpire => exact ⟨rfl, ho⟩
  | cliNew => cases he
  | reqArrives i =>
    obtain ⟨a, b⟩ := b2Step_req_cli P t i
    rw [a, b]
    exact ⟨hc, ho⟩
  | rspArrives j sent =>
    have hsent : sent = false := by cases sent with | true => cases he | false => rfl
    subst hsent
    cases hq : t.rsps[j]? with
    | none =>
      simp only [b2Step, hq]
      exact ⟨hc, ho⟩
    | some r =>
      obtain ⟨a, b⟩ := b2Step_rsp P t j false r hq
      obtain ⟨num, szx, k, g1, _⟩ := hinv.net.rsp r (List.mem_of_getElem? hq)
      have hskip : crcvStepS false P.single P.cap P.junk t.cli r = (none, CrcvOut.skip) := by
        rw [hc]
        exact crcvStepS_unsolicited P.single P.cap P.junk r (by rw [g1]; exact fun h => (by cases h))
      rw [a, b, hskip]
      exact ⟨rfl, forall_mem_snoc ho (Or.inr rfl)⟩

/-! ## Block2, per-block mode: the ghost `seen` = the block numbers handed to the handler since the lg_crcv was last
(re-)initialised (`seenAfter`, Lemmas/BlockCrcv.lean), threaded through the composed system -/

theorem b2_tiles_step {P : B2Par} {s : B2Sys} (hnet : B2Net P s) (hs : P.single = false) (seen : List Nat) (sent : Bool)
    {r : Resp} (hr : r ∈ s.rsps) (st : Option Crcv) (hst : ∀ c, st = some c → CliOK P s.rsps c)
    (hG : ∀ k, k ∈ seen ↔ Covers (effRecv st) k) :
    (∀ off p t nx, (crcvStepS sent false P.cap P.junk st r).2 = CrcvOut.block off p t nx → numOf r ∉ seen) ∧
    (∀ off p t, (crcvStepS sent false P.cap P.junk st r).2 = CrcvOut.last off p t →
      numOf r ∉ seen ∧ ∀ k, k < nBlocks P.body.length (szxOfR r) → k = numOf r ∨ k ∈ seen) ∧
    (∀ k, k ∈ seenAfter (crcvStepS sent false P.cap P.junk st r).1 seen (numOf r)
        (crcvStepS sent false P.cap P.junk st r).2 ↔
      Covers (effRecv (crcvStepS sent false P.cap P.junk st r).1) k) := by
  rcases crcvStepS_cases sent false P.cap P.junk st r with he | ⟨rfl, _, he⟩
  · rw [he]
    obtain ⟨num, szx, hg⟩ := b2_genuine hnet hr st hst
    exact tiles_step P.cap P.junk P.body (some P.body.length) (by intro t ht; cases ht; exact Nat.le_refl _)
      st seen r num szx (fun c hc hi => hs ▸ (hst c hc hi).1) hG hg
  · rw [he]
    cases r.blk with
    | none | some _ =>
      exact ⟨fun _ _ _ _ h => (by cases h), fun _ _ _ h => (by cases h), by simp [seenAfter, effRecv, covers_nil]⟩

def b2Seen (P : B2Par) (s : B2Sys) (seen : List Nat) (e : B2Event) : List Nat :=
  match e with
  | .rspArrives j sent =>
    (match s.rsps[j]? with
     | some r => seenAfter (crcvStepS sent P.single P.cap P.junk s.cli r).1 seen (numOf r)
                   (crcvStepS sent P.single P.cap P.junk s.cli r).2
     | none => seen)
  | .cliExpire => []
  | .cliNew => []
  | _ => seen

def b2StepS (P : B2Par) (ss : B2Sys × List Nat) (e : B2Event) : B2Sys × List Nat :=
  (b2Step P ss.1 e, b2Seen P ss.1 ss.2 e)

def B2SeenInv (ss : B2Sys × List Nat) : Prop := ∀ k, k ∈ ss.2 ↔ Covers (effRecv ss.1.cli) k

theorem b2StepS_inv (P : B2Par) (hs : P.single = false) (ss : B2Sys × List Nat) (e : B2Event) (hinv : B2Inv P ss.1)
    (hG : B2SeenInv ss) : B2SeenInv (b2StepS P ss e) := by
  obtain ⟨s, seen⟩ := ss
  cases e with
  | appGet szx => exact hG
  | srvExpire => exact hG
  | cliExpire => intro k; simp [b2StepS, b2Seen, b2Step, effRecv, covers_nil]
  | cliNew => intro k; simp [b2StepS, b2Seen, b2Step, effRecv, covers_nil]
  | reqArrives i =>
    intro k
    show k ∈ seen ↔ Covers (effRecv (b2Step P s (B2Event.reqArrives i)).cli) k
    rw [(b2Step_req_cli P s i).1]
    exact hG k
  | rspArrives j sent =>
    cases hq : s.rsps[j]? with
    | none =>
      intro k
      show k ∈ b2Seen P s seen (B2Event.rspArrives j sent) ↔ Covers (effRecv (b2Step P s (B2Event.rspArrives j sent)).cli) k
      simp only [b2Seen, b2Step, hq]
      exact hG k
    | some r =>
      obtain ⟨e1, _⟩ := b2Step_rsp P s j sent r hq
      intro k
      show k ∈ b2Seen P s seen (B2Event.rspArrives j sent) ↔ Covers (effRecv (b2Step P s (B2Event.rspArrives j sent)).cli) k
      rw [e1]
      simp only [b2Seen, hq]
      rw [hs]
      exact (b2_tiles_step hinv.net hs seen sent (List.mem_of_getElem? hq) s.cli hinv.cli hG).2.2 k

theorem b2RunS_inv (P : B2Par) (hP : B2ParOK P) (hs : P.single = false) (evs : List B2Event) :
    B2Inv P (evs.foldl (b2StepS P) ({}, [])).1 ∧ B2SeenInv (evs.foldl (b2StepS P) ({}, [])) :=
  foldl_inv (fun ss => B2Inv P ss.1 ∧ B2SeenInv ss)
    (fun ss e h => ⟨b2Step_inv P hP ss.1 e h.1, b2StepS_inv P hs ss e h.1 h.2⟩) evs ({}, [])
    ⟨b2_init_inv P, by intro k; simp [effRecv, covers_nil]⟩

end Coap.Block
