import CoapVerif.Model.WsWriter
import CoapVerif.Spec.WsFrame
import CoapVerif.Lemmas.StreamWsFeed
/- C01, WebSocket write side.  First half, the bytes: `LenForm` (the payload-length field in its minimal form, one producer
   `lenField_form`, two readers), so what `coap_ws_write` builds is one RFC 6455 frame (`decode_build`, `decode_frame`) and the
   receiver specification of C05 (`Spec.Stream.Ws.frames`) reads it back, any number of frames in any chunks (`frOf_written`,
   `feed_writeAll`).  Second half, partial writes: `Rep st key data n` = "`n` bytes of the frame for (`key`, `data`) have been
   taken by the lower layer" (`Idle` = none of any frame, `Mid` = the stored header and the counters for `0 < n`); one call moves
   `n` by what the lower layer takes (`writeOut_step`, `wsWrite_step`), the caller's loop over any `Sane` lower layer never loses
   or repeats a byte (`sendAll_spec`, `sendMsgs_spec`). -/
namespace Coap
open Coap.M.WsW Coap.Spec.Stream Coap.Spec.Stream.Ws

namespace WsW

theorem unmask_maskData (key : Bytes) : ∀ (d : Bytes) (i : Nat), unmask key i (maskData key i d) = d := by
  intro d
  induction d with
  | nil => intro i; rfl
  | cons b r ih => intro i; simp only [maskData, unmask, ih, UInt8.xor_assoc, UInt8.xor_self, UInt8.xor_zero]

theorem maskData_length (key : Bytes) : ∀ (d : Bytes) (i : Nat), (maskData key i d).length = d.length := by
  intro d
  induction d with
  | nil => intro i; rfl
  | cons b r ih => intro i; simp only [maskData, List.length_cons, ih]

theorem maskData_get (key : Bytes) : ∀ (d : Bytes) (i j : Nat),
    (maskData key i d)[j]? = d[j]?.map (· ^^^ key.getD ((i + j) % 4) 0) := by
  intro d
  induction d with
  | nil => intro i j; rfl
  | cons b r ih =>
    intro i j
    cases j with
    | zero => simp [maskData]
    | succ j =>
      simp only [maskData, List.getElem?_cons_succ, ih]
      rw [show i + 1 + j = i + (j + 1) by omega]

theorem maskData_drop (key : Bytes) : ∀ (d : Bytes) (i j : Nat),
    (maskData key i d).drop j = maskData key (i + j) (d.drop j) := by
  intro d
  induction d with
  | nil => intro i j; simp [maskData]
  | cons b r ih =>
    intro i j
    cases j with
    | zero => simp
    | succ j =>
      simp only [maskData, List.drop_succ_cons]
      rw [ih (i + 1) j, show i + 1 + j = i + (j + 1) by omega]

theorem u8_toNat (n : Nat) : (u8 n).toNat = n % 256 := by
  unfold u8; rw [UInt8.toNat_ofNat']

theorem be2 (a b : UInt8) : be [a, b] = a.toNat * 256 + b.toNat := by
  simp [be]

theorem be8 (a b c d e f g h : UInt8) : be [a, b, c, d, e, f, g, h] =
    ((((((a.toNat * 256 + b.toNat) * 256 + c.toNat) * 256 + d.toNat) * 256 + e.toNat) * 256 + f.toNat) * 256 +
      g.toNat) * 256 + h.toNat := by
  simp [be]

/-- the base-256 digit of `n` at bit `e` joins the digits above it -/
theorem digit_step (n e : Nat) : n / 2 ^ (e + 8) * 256 + n / 2 ^ e % 256 = n / 2 ^ e := by
  rw [Nat.pow_add, ← Nat.div_div_eq_div_mul]; exact Nat.div_add_mod' _ 256

theorem be_u8_16 (n : Nat) (h : n < 2 ^ 16) : be [u8 (n / 2 ^ 8), u8 n] = n := by
  have top : n / 2 ^ 8 % 256 = n / 2 ^ 8 := Nat.mod_eq_of_lt (Nat.div_lt_of_lt_mul h)
  rw [be2, u8_toNat, u8_toNat, top, Nat.div_add_mod']

theorem be_u8_64 (n : Nat) (h : n < 2 ^ 64) :
    be [u8 (n / 2 ^ 56), u8 (n / 2 ^ 48), u8 (n / 2 ^ 40), u8 (n / 2 ^ 32), u8 (n / 2 ^ 24), u8 (n / 2 ^ 16),
        u8 (n / 2 ^ 8), u8 n] = n := by
  have top : n / 2 ^ 56 % 256 = n / 2 ^ 56 := Nat.mod_eq_of_lt (Nat.div_lt_of_lt_mul h)
  rw [be8, u8_toNat, u8_toNat, u8_toNat, u8_toNat, u8_toNat, u8_toNat, u8_toNat, u8_toNat, top, digit_step n 48, digit_step n 40, digit_step n 32, digit_step n 24,
    digit_step n 16, digit_step n 8, Nat.div_add_mod']

/-- `l7` (the 7-bit value) and `ext` (the bytes that follow) are the RFC 6455 payload-length field of `n` in its
minimal form -/
def LenForm (l7 : Nat) (ext : Bytes) (n : Nat) : Prop :=
  (n ≤ 125 ∧ l7 = n ∧ ext = []) ∨
  (125 < n ∧ n ≤ 65535 ∧ l7 = 126 ∧ ext.length = 2 ∧ be ext = n) ∨
  (65535 < n ∧ l7 = 127 ∧ ext.length = 8 ∧ be ext = n)

theorem lenField_form (n : Nat) (h : n < 2 ^ 64) : LenForm ((lenField n).1).toNat (lenField n).2 n := by
  unfold lenField
  by_cases h1 : n ≤ 125
  · rw [if_pos h1]
    exact Or.inl ⟨h1, by rw [u8_toNat]; omega, rfl⟩
  · rw [if_neg h1]
    by_cases h2 : n ≤ 0xffff
    · rw [if_pos h2]
      exact Or.inr (Or.inl ⟨by omega, h2, rfl, rfl, be_u8_16 n (by omega)⟩)
    · rw [if_neg h2]
      exact Or.inr (Or.inr ⟨by omega, rfl, rfl, be_u8_64 n h⟩)

theorem lenForm_lt {l7 : Nat} {ext : Bytes} {n : Nat} (h : LenForm l7 ext n) : l7 < 128 := by
  rcases h with ⟨h1, h2, _⟩ | ⟨_, _, h2, _⟩ | ⟨_, h2, _⟩ <;> omega

theorem or80 (l : UInt8) (h : l.toNat < 128) : (l ||| 0x80).toNat = l.toNat + 128 := by
  rw [UInt8.toNat_or]
  have : ∀ n : Nat, n < 128 → n ||| 128 = n + 128 := by decide
  exact this _ h

/-- the second header byte -/
def b1Of (role : Role) (n : Nat) : UInt8 :=
  match role with
  | .client => (lenField n).1 ||| 0x80
  | .server => (lenField n).1

theorem b1Of_form (role : Role) (n : Nat) (h : n < 2 ^ 64) :
    LenForm ((b1Of role n).toNat % 128) (lenField n).2 n := by
  have hf := lenField_form n h
  have h2 := lenForm_lt hf
  cases role
  · rwa [show (b1Of .client n).toNat = ((lenField n).1).toNat + 128 from or80 _ h2, Nat.add_mod_right, Nat.mod_eq_of_lt h2]
  · rwa [show (b1Of .server n).toNat % 128 = ((lenField n).1).toNat from Nat.mod_eq_of_lt h2]

theorem b1Of_mask (role : Role) (n : Nat) (h : n < 2 ^ 64) : (b1Of role n).toNat / 128 = 1 ↔ role = .client := by
  have h2 := lenForm_lt (lenField_form n h)
  cases role
  · rw [show (b1Of .client n).toNat = ((lenField n).1).toNat + 128 from or80 _ h2]
    exact iff_of_true (by omega) rfl
  · exact iff_of_false (by show ¬ ((lenField n).1).toNat / 128 = 1; omega) (by decide)

def keyOf (role : Role) (key : Bytes) : Bytes :=
  match role with
  | .client => key
  | .server => []

def bodyOf (role : Role) (key data : Bytes) : Bytes := bodyBytes role key 0 data

theorem frame_shape (role : Role) (key data rest : Bytes) :
    frame role key data ++ rest =
      (0x82 : UInt8) :: b1Of role data.length :: ((lenField data.length).2 ++ (keyOf role key ++ (bodyOf role key data ++ rest))) := by
  cases role <;> simp [frame, header, b1Of, keyOf, bodyOf] <;> rfl

theorem bodyOf_length (role : Role) (key data : Bytes) : (bodyOf role key data).length = data.length := by
  cases role
  · exact maskData_length key data 0
  · rfl

/-! ### one frame under the RFC 6455 grammar -/

theorem take_len (body rest : Bytes) : (body ++ rest).take body.length = body := List.take_left' rfl
theorem drop_len (body rest : Bytes) : (body ++ rest).drop body.length = rest := List.drop_left' rfl

open Coap.Spec.WsFrame in
/-- a header whose length field is the minimal form of `body.length`, the key iff MASK, `body`, then `rest`: one frame -/
theorem decode_build (b0 b1 : UInt8) (ext kk body rest : Bytes)
    (hf : LenForm (b1.toNat % 128) ext body.length) (hmax : body.length < 2 ^ 63)
    (hk : kk.length = if b1.toNat / 128 = 1 then 4 else 0) :
    decode (b0 :: b1 :: (ext ++ (kk ++ (body ++ rest)))) =
      some (⟨b0.toNat / 128 = 1, b0.toNat / 16 % 8, b0.toNat % 16, b1.toNat / 128 = 1, kk,
             if b1.toNat / 128 = 1 then unmask kk 0 body else body⟩, rest) := by
  -- the decoder's view of the length field: number of extension bytes, the length, not refused
  have hv : (if b1.toNat % 128 = 126 then 2 else if b1.toNat % 128 = 127 then 8 else 0) = ext.length ∧
      (if ext.length = 0 then b1.toNat % 128 else be ext) = body.length ∧
      ¬ (b1.toNat % 128 = 126 ∧ body.length ≤ 125) ∧
      ¬ (b1.toNat % 128 = 127 ∧ (body.length ≤ 65535 ∨ body.length ≥ 2 ^ 63)) := by
    rcases hf with ⟨h1, e, rfl⟩ | ⟨h0, h1, e, hx, hbe⟩ | ⟨h1, e, hx, hbe⟩
    · rw [if_neg (by omega), if_neg (by omega)]
      exact ⟨rfl, e, by omega, by omega⟩
    · rw [if_pos e, hx]
      exact ⟨rfl, hbe, by omega, by omega⟩
    · rw [if_neg (by omega), if_pos e, hx]
      exact ⟨rfl, hbe, by omega, by omega⟩
  obtain ⟨hx, hlen, h16, h64⟩ := hv
  unfold decode
  simp only [hx, take_len, drop_len, hlen, h16, h64, ← hk, List.length_append, if_false,
    Nat.not_lt.2 (Nat.le_add_right _ _)]

/-- the reader of C05 finds the same length in such a field, whatever follows it -/
theorem lenForm_read {b1 : Nat} {ext : Bytes} {n : Nat} (h : LenForm (b1 % 128) ext n) (t : Bytes) :
    hExt b1 = ext.length ∧ hSize b1 (ext ++ t) = n := by
  unfold hSize hExt
  rcases h with ⟨h1, e, rfl⟩ | ⟨_, _, e, hx, hbe⟩ | ⟨_, e, hx, hbe⟩
  · rw [if_neg (by omega), if_neg (by omega), if_pos rfl]; exact ⟨rfl, e⟩
  · rw [if_neg (by omega), if_pos e, if_neg (by decide), ← hx, take_len]; exact ⟨rfl, hbe⟩
  · rw [if_pos e, if_neg (by decide), ← hx, take_len]; exact ⟨rfl, hbe⟩

theorem keyOf_length (role : Role) (key : Bytes) (n : Nat) (hk : key.length = 4) (h : n < 2 ^ 64) :
    (keyOf role key).length = if (b1Of role n).toNat / 128 = 1 then 4 else 0 := by
  have := b1Of_mask role n h
  cases role
  · rw [if_pos (this.2 rfl)]; exact hk
  · rw [if_neg (fun hh => by cases this.1 hh)]; rfl

theorem unmask_bodyOf (role : Role) (key data : Bytes) :
    (if role = .client then unmask (keyOf role key) 0 (bodyOf role key data) else bodyOf role key data) = data := by
  cases role
  · simp only [if_true, keyOf, bodyOf]; exact unmask_maskData key data 0
  · simp [bodyOf, bodyBytes]

open Coap.Spec.WsFrame in
theorem decode_frame (role : Role) (key data rest : Bytes) (hk : key.length = 4) (hn : data.length < 2 ^ 63) :
    decode (frame role key data ++ rest) =
      some (⟨true, 0, 2, role = .client, keyOf role key, data⟩, rest) := by
  have h64 : data.length < 2 ^ 64 := by omega
  have hbl := bodyOf_length role key data
  have hf : LenForm ((b1Of role data.length).toNat % 128) (lenField data.length).2 (bodyOf role key data).length := by
    rw [hbl]; exact b1Of_form role data.length h64
  rw [frame_shape, decode_build _ _ _ _ _ _ hf (by rw [hbl]; exact hn) (keyOf_length role key data.length hk h64)]
  have hd := b1Of_mask role data.length h64
  simp only [hd, unmask_bodyOf]
  rfl

def readerMode : Role → Mode
  | .client => .server
  | .server => .client

theorem frOf_written (role : Role) (key data rest : Bytes) (hk : key.length = 4) (hn : data.length ≤ maxFrame) :
    frOf (readerMode role) (frame role key data ++ rest) =
      ((if data.length = 0 then (frOf (readerMode role) rest).1
        else deliver (Spec.decode .ws data) (frOf (readerMode role) rest).1), (frOf (readerMode role) rest).2) := by
  have h64 : data.length < 2 ^ 64 := by unfold maxFrame at hn; omega
  have hbl := bodyOf_length role key data
  have hd := b1Of_mask role data.length h64
  have hkl := keyOf_length role key data.length hk h64
  obtain ⟨hext, hsz⟩ := lenForm_read (b1Of_form role data.length h64) (keyOf role key)
  have hr : ((lenField data.length).2 ++ keyOf role key).length = hExtra (b1Of role data.length).toNat := by
    unfold hExtra
    rw [List.length_append, hext, hkl]
  have hm : ¬ (readerMode role = .server ∧ ¬ (b1Of role data.length).toNat / 128 = 1) := by
    cases role
    · intro h; exact h.2 (hd.2 rfl)
    · intro h; cases h.1
  have hop : (0x82 : UInt8).toNat % 16 = 2 := by decide
  rw [frame_shape, ← List.append_assoc, frOf_frame _ _ _ _ _ hr hm hop (by rw [hsz]; exact hn), hsz]
  have hnl : ¬ (bodyOf role key data ++ rest).length < data.length := by rw [List.length_append, hbl]; omega
  rw [if_neg hnl, ← hbl, take_len, drop_len, hbl]
  have hpl : (if readerMode role = .server then
      unmask (((lenField data.length).2 ++ keyOf role key).drop (hExt (b1Of role data.length).toNat) |>.take 4) 0
        (bodyOf role key data) else bodyOf role key data) = data := by
    cases role
    · have : (((lenField data.length).2 ++ keyOf .client key).drop (hExt (b1Of .client data.length).toNat)).take 4 = key := by
        rw [hext, drop_len, keyOf, ← hk, List.take_length]
      simp only [readerMode, if_true, this, bodyOf]; exact unmask_maskData key data 0
    · rfl
  rw [hpl]

/-! ### several messages back to back -/

/-- the frame S's grammar sees for one written message -/
def frameOf (role : Role) (m : Bytes × Bytes) : Spec.WsFrame.Frame := ⟨true, 0, 2, role = .client, keyOf role m.1, m.2⟩

open Coap.Spec.WsFrame in
theorem decodeAll_writeAll (role : Role) : ∀ (msgs : List (Bytes × Bytes)) (fuel : Nat), msgs.length < fuel →
    (∀ m ∈ msgs, m.1.length = 4) → (∀ m ∈ msgs, m.2.length < 2 ^ 63) →
    decodeAll fuel (writeAll role msgs) = some (msgs.map (frameOf role)) := by
  intro msgs
  induction msgs with
  | nil =>
    intro fuel hf _ _
    obtain ⟨f, rfl⟩ : ∃ k, fuel = k + 1 := ⟨fuel - 1, by simp at hf; omega⟩
    rfl
  | cons m ms ih =>
    intro fuel hf hk hn
    obtain ⟨f, rfl⟩ : ∃ k, fuel = k + 1 := ⟨fuel - 1, by simp at hf; omega⟩
    obtain ⟨key, data⟩ := m
    have hne : frame role key data ++ writeAll role ms ≠ [] := by rw [frame_shape]; exact List.cons_ne_nil _ _
    have hd := decode_frame role key data (writeAll role ms) (hk _ (List.mem_cons_self ..)) (hn _ (List.mem_cons_self ..))
    have ih' := ih f (by simp at hf; omega) (fun m hm => hk m (List.mem_cons_of_mem _ hm))
      (fun m hm => hn m (List.mem_cons_of_mem _ hm))
    simp only [writeAll]
    generalize frame role key data ++ writeAll role ms = bs at hne hd
    match bs, hne with
    | b :: r, _ =>
      simp only [decodeAll, hd, ih', Option.map_some, List.map_cons, frameOf]

/-- the messages the receiver specification of C05 delivers for the written payloads: an empty payload carries no
message, a payload that is not a CoAP message is dropped (C05 D15) -/
def delivered : List (Bytes × Bytes) → List Msg
  | [] => []
  | m :: ms => if m.2.length = 0 then delivered ms else deliver (Spec.decode .ws m.2) (delivered ms)

theorem frOf_writeAll (role : Role) (rest : Bytes) : ∀ (msgs : List (Bytes × Bytes)),
    (∀ m ∈ msgs, m.1.length = 4) → (∀ m ∈ msgs, m.2.length ≤ maxFrame) →
    frOf (readerMode role) (writeAll role msgs ++ rest) =
      (delivered msgs ++ (frOf (readerMode role) rest).1, (frOf (readerMode role) rest).2) := by
  intro msgs
  induction msgs with
  | nil => intro _ _; rfl
  | cons m ms ih =>
    intro hk hn
    obtain ⟨key, data⟩ := m
    have ih' := ih (fun m hm => hk m (List.mem_cons_of_mem _ hm)) (fun m hm => hn m (List.mem_cons_of_mem _ hm))
    simp only [writeAll, List.append_assoc]
    rw [frOf_written role key data _ (hk _ (List.mem_cons_self ..)) (hn _ (List.mem_cons_self ..)), ih']
    simp only [delivered]
    by_cases h0 : data.length = 0
    · simp only [h0, if_true]
    · simp only [h0, if_false]
      cases Spec.decode .ws data <;> rfl

/-- M's reader (coap_ws_read / coap_read_session, role opposite to the writer's, handshake done) fed the written
bytes in ANY chunks -/
theorem feed_writeAll (role : Role) (accept : Bytes) (msgs : List (Bytes × Bytes)) (chunks : List Bytes)
    (hk : ∀ m ∈ msgs, m.1.length = 4) (hn : ∀ m ∈ msgs, m.2.length ≤ maxFrame)
    (hc : chunks.flatten = writeAll role msgs) :
    wsObs (Coap.M.Ws.feed (readerMode role) accept { up := true } chunks) = (delivered msgs, .open true) := by
  have hinv : WsInv (readerMode role) { up := true } (.fr []) := Or.inl ⟨⟨rfl, rfl, rfl, rfl⟩, trivial⟩
  have := wsObs_of_rem (readerMode role) accept _ _ (feed_spec (readerMode role) accept chunks { up := true } (.fr []) hinv)
  rw [this]
  have hf := frOf_writeAll role [] msgs hk hn
  rw [List.append_nil] at hf
  simp only [specFrom, frRes, List.nil_append, hc]
  unfold frOf at hf
  rw [hf]
  simp [specObs]
  exact ⟨rfl, rfl⟩

/-! ### coap_ws_write / coap_ws_close as a whole -/

def hLen (role : Role) (key data : Bytes) : Nat := (header role key data.length).length
def fLen (role : Role) (key data : Bytes) : Nat := (frame role key data).length

theorem fLen_eq (role : Role) (key data : Bytes) : fLen role key data = hLen role key data + data.length := by
  unfold fLen hLen frame
  rw [List.length_append]
  cases role
  · rw [bodyBytes, maskData_length]
  · rfl

theorem hLen_ge (role : Role) (key data : Bytes) : 2 ≤ hLen role key data := by
  unfold hLen header; cases role <;> simp <;> omega

/-- `&tx_header[tx_hdr_len - 4]` is the key -/
theorem header_key (key : Bytes) (n : Nat) (hk : key.length = 4) :
    (header .client key n).drop ((header .client key n).length - 4) = key := by
  have : (header .client key n).length - 4 = ((0x80 ||| 0x02 : UInt8) :: ((lenField n).1 ||| 0x80) :: (lenField n).2).length := by
    simp [header, hk]
  rw [this]
  exact List.drop_left' rfl

/-- nothing of a frame is part way to the lower layer: the next coap_ws_write starts a new frame -/
def Idle (st : St) : Prop :=
  st.up = true ∧ st.sentClose = false ∧ (st.txHdrOfs = 0 ∨ (st.txHdrOfs = st.txHdr.length ∧ st.txDataLeft = 0))

/-- the writer state with the header of the frame for (`key`, `data`) stored and the counters where they stand when
`n` bytes of the frame have been taken by the lower layer -/
def Mid (st : St) (key data : Bytes) (n : Nat) : Prop :=
  st.txHdr = header st.role key data.length ∧ st.txHdrOfs = min n (hLen st.role key data) ∧
  st.txDataOfs = n - hLen st.role key data ∧ st.txDataLeft = data.length - (n - hLen st.role key data)

/-- the writer state when `n` bytes of the frame for (`key`, `data`) have been taken by the lower layer -/
def Rep (st : St) (key data : Bytes) (n : Nat) : Prop :=
  st.up = true ∧ st.sentClose = false ∧ n ≤ fLen st.role key data ∧
  (n = 0 → Idle st) ∧ (0 < n → Mid st key data n)

theorem mid_rep {st : St} {key data : Bytes} {n : Nat} (h : Mid st key data n) (hup : st.up = true)
    (hsc : st.sentClose = false) (hn : n ≤ fLen st.role key data) : Rep st key data n :=
  ⟨hup, hsc, hn, fun h0 => ⟨hup, hsc, Or.inl (by rw [h.2.1, h0, Nat.zero_min])⟩, fun _ => h⟩

/-- the bytes a call offers, in the state that has `n` bytes of the frame out and is handed the data not yet taken:
the rest of the frame -/
theorem mid_offered {st : St} {key data : Bytes} {n : Nat} (h : Mid st key data n) (hk : key.length = 4) :
    st.txHdr.drop st.txHdrOfs ++
      bodyBytes st.role (st.txHdr.drop (st.txHdr.length - 4)) st.txDataOfs (data.drop (n - hLen st.role key data)) =
      (frame st.role key data).drop n := by
  obtain ⟨e1, e2, e3, _⟩ := h
  rw [e1, e2, e3, frame, List.drop_append]
  have hb : bodyBytes st.role ((header st.role key data.length).drop ((header st.role key data.length).length - 4))
                      (n - hLen st.role key data) (data.drop (n - hLen st.role key data)) =
      (bodyBytes st.role key 0 data).drop (n - hLen st.role key data) := by
    cases st.role
    · simp only [bodyBytes]; rw [header_key key _ hk, maskData_drop, Nat.zero_add]
    · rfl
  rw [hb]
  unfold hLen
  by_cases hle : n ≤ (header st.role key data.length).length
  · rw [Nat.min_eq_left hle]
  · have e1 : (header st.role key data.length).drop (header st.role key data.length).length = [] :=
      List.drop_of_length_le (Nat.le_refl _)
    have e2 : (header st.role key data.length).drop n = [] := List.drop_of_length_le (by omega)
    rw [Nat.min_eq_right (by omega), e1, e2]

/-- position `n` in a frame with `H` header bytes is `min n H` bytes into the header and `n - H` into the payload;
`k` more bytes that end inside the header / that reach its end -/
theorem pos_hdr {n k H : Nat} (h : k < H - min n H) : min (n + k) H = min n H + k ∧ n + k - H = n - H := by omega

theorem pos_body {n k H : Nat} (h : ¬ k < H - min n H) :
    min (n + k) H = H ∧ n + k - H = n - H + (k - (H - min n H)) := by omega

/-- coap_ws_write once it is settled whether a frame is started: `st` = the state after that block, `data` = the
payload bytes of this call -/
def writeOut (st : St) (data : Bytes) (lw : Nat → Int) : Int × St × Bytes :=
  let hdrLeft := st.txHdr.drop st.txHdrOfs
  let body := bodyBytes st.role (st.txHdr.drop (st.txHdr.length - 4)) st.txDataOfs data
  let wdata := hdrLeft ++ body
  let ret := lw wdata.length
  if ret ≤ 0 then (ret, st, []) else
  let wire := wdata.take ret.toNat
  if ret.toNat < hdrLeft.length then (0, { st with txHdrOfs := st.txHdrOfs + ret.toNat }, wire) else
  let sent := ret.toNat - hdrLeft.length
  ((sent : Int), { st with txHdrOfs := st.txHdr.length, txDataOfs := st.txDataOfs + sent,
                           txDataLeft := st.txDataLeft - sent }, wire)

def startFrame (st : St) (key : Bytes) (datalen : Nat) : St :=
  { st with txHdr := header st.role key datalen, txHdrOfs := 0, txDataOfs := 0, txDataLeft := datalen,
            maskKey := match st.role with | .client => key | .server => st.maskKey }

theorem startFrame_mid (st : St) (key data : Bytes) : Mid (startFrame st key data.length) key data 0 :=
  ⟨rfl, (Nat.zero_min _).symm, (Nat.zero_sub _).symm, by rw [Nat.zero_sub]; rfl⟩

theorem wsWrite_fresh (st : St) (key data : Bytes) (lw : Nat → Int) (hidle : Idle st) :
    wsWrite st key data lw = writeOut (startFrame st key data.length) data lw := by
  obtain ⟨hup, hsc, hf⟩ := hidle
  have hfresh : (decide (st.txHdrOfs = 0) || (decide (st.txHdrOfs = st.txHdr.length) && decide (st.txDataLeft = 0))) = true := by
    rcases hf with h | ⟨h1, h2⟩
    · rw [decide_eq_true h, Bool.true_or]
    · rw [decide_eq_true h1, decide_eq_true h2, Bool.and_self, Bool.or_true]
  unfold wsWrite
  rw [if_neg (by rw [hup]; decide), if_neg (by rw [hsc]; decide)]
  simp only [hfresh, Bool.not_true, Bool.false_eq_true, if_false, if_true, Bool.false_and]
  rfl

theorem wsWrite_cont (st : St) (key data : Bytes) (lw : Nat → Int) (hup : st.up = true) (hsc : st.sentClose = false)
    (h0 : st.txHdrOfs ≠ 0) (h1 : st.txHdrOfs ≠ st.txHdr.length ∨ st.txDataLeft ≠ 0) (hd : data.length ≤ st.txDataLeft) :
    wsWrite st key data lw = writeOut st data lw := by
  have hfresh : (decide (st.txHdrOfs = 0) || (decide (st.txHdrOfs = st.txHdr.length) && decide (st.txDataLeft = 0))) = false := by
    rw [decide_eq_false h0, Bool.false_or]
    rcases h1 with h | h
    · rw [decide_eq_false h, Bool.false_and]
    · rw [decide_eq_false h, Bool.and_false]
  have hlen : ¬ data.length > st.txDataLeft := Nat.not_lt.2 hd
  unfold wsWrite
  rw [if_neg (by rw [hup]; decide), if_neg (by rw [hsc]; decide)]
  simp only [hfresh, hlen, Bool.not_false, Bool.false_eq_true, if_false, Bool.true_and, decide_false]
  rfl

theorem writeOut_step (st : St) (key data : Bytes) (n : Nat) (lw : Nat → Int) (hk : key.length = 4)
    (hmid : Mid st key data n) (hup : st.up = true) (hsc : st.sentClose = false)
    (hn : n ≤ fLen st.role key data) (ret : Int) (hret : lw (fLen st.role key data - n) = ret) (hlw : ret ≤ ((fLen st.role key data - n : Nat) : Int))
    (r : Int × St × Bytes)
    (hr : r = writeOut st (data.drop (n - hLen st.role key data)) lw) :
    r.2.2 = ((frame st.role key data).drop n).take ret.toNat ∧ Rep r.2.1 key data (n + ret.toNat) ∧
    r.2.1.role = st.role ∧ (ret < 0 → r.1 = ret) ∧
    (0 ≤ ret → r.1 = (((n + ret.toNat - hLen st.role key data) - (n - hLen st.role key data) : Nat) : Int)) := by
  have hle : n + ret.toNat ≤ fLen st.role key data := by omega
  have hoff := mid_offered hmid hk
  obtain ⟨e1, e2, e3, e4⟩ := hmid
  have hl : (st.txHdr.drop st.txHdrOfs).length = hLen st.role key data - min n (hLen st.role key data) := by
    rw [List.length_drop, e1, e2]; rfl
  have hdl : ((frame st.role key data).drop n).length = fLen st.role key data - n := by
    rw [List.length_drop]; rfl
  unfold writeOut at hr
  simp only [hoff, hdl, hl, hret] at hr
  subst hr
  by_cases hr : ret ≤ 0
  · rw [if_pos hr, Int.toNat_eq_zero.2 hr, Nat.add_zero]
    refine ⟨rfl, mid_rep ⟨e1, e2, e3, e4⟩ hup hsc hn, rfl, fun _ => rfl, fun h => ?_⟩
    rw [Nat.sub_self]; exact Int.le_antisymm hr h
  · rw [if_neg hr]
    by_cases hh : ret.toNat < hLen st.role key data - min n (hLen st.role key data)
    · rw [if_pos hh]
      obtain ⟨p1, p2⟩ := pos_hdr hh
      refine ⟨rfl, mid_rep ⟨e1, ?_, ?_, ?_⟩ hup hsc hle, rfl, fun h => absurd (Int.le_of_lt h) hr, fun _ => ?_⟩
      · dsimp only; rw [e2, p1]
      · dsimp only; rw [e3, p2]
      · dsimp only; rw [e4, p2]
      · rw [p2, Nat.sub_self]; rfl
    · rw [if_neg hh]
      obtain ⟨p1, p2⟩ := pos_body hh
      refine ⟨rfl, mid_rep ⟨e1, ?_, ?_, ?_⟩ hup hsc hle, rfl, fun h => absurd (Int.le_of_lt h) hr, fun _ => ?_⟩
      · dsimp only; rw [e1, p1]; rfl
      · dsimp only; rw [e3, p2]
      · dsimp only; rw [e4, p2, Nat.sub_sub]
      · rw [p2, Nat.add_sub_cancel_left]

/-- ONE call of coap_ws_write in the state that has `n` bytes of the frame for (`key`, `data`) out, handed the data
not yet taken, the lower layer accepting `k = lw(offered)` bytes: it offers exactly the rest of the frame, the wire gets
its first `k` bytes, the state is the one for `n + k`, and the return value is the number of PAYLOAD bytes among them -/
theorem wsWrite_step (st : St) (key data : Bytes) (n : Nat) (lw : Nat → Int) (hk : key.length = 4)
    (hrep : Rep st key data n) (hn : n < fLen st.role key data) (ret : Int)
    (hret : lw (fLen st.role key data - n) = ret) (hlw : ret ≤ ((fLen st.role key data - n : Nat) : Int))
    (r : Int × St × Bytes) (hr : r = wsWrite st key (data.drop (n - hLen st.role key data)) lw) :
    r.2.2 = ((frame st.role key data).drop n).take ret.toNat ∧ Rep r.2.1 key data (n + ret.toNat) ∧
    r.2.1.role = st.role ∧ (ret < 0 → r.1 = ret) ∧
    (0 ≤ ret → r.1 = (((n + ret.toNat - hLen st.role key data) - (n - hLen st.role key data) : Nat) : Int)) := by
  obtain ⟨hup, hsc, hle, h0, hpos⟩ := hrep
  subst hr
  by_cases hz : n = 0
  · subst hz
    have h := writeOut_step (startFrame st key data.length) key data 0 lw hk (startFrame_mid st key data) hup hsc
      (Nat.zero_le _) ret hret hlw _ rfl
    simp only [Nat.zero_sub, List.drop_zero] at h ⊢
    rw [wsWrite_fresh st key data lw (h0 rfl)]
    exact h
  · have hF := fLen_eq st.role key data
    have hH := hLen_ge st.role key data
    obtain ⟨e1, e2, e3, e4⟩ := hpos (by omega)
    rw [wsWrite_cont st key _ lw hup hsc (by rw [e2]; omega)
      (by rw [e2, e4, e1]; show min n (hLen st.role key data) ≠ hLen st.role key data ∨ _; omega)
      (by rw [List.length_drop, e4]; omega)]
    exact writeOut_step st key data n lw hk ⟨e1, e2, e3, e4⟩ hup hsc hle ret hret hlw _ rfl

/-- with `n` bytes of a frame (`H` header, `D > 0` payload bytes) out and `k` more taken, the payload bytes among the `k`
cover what was left of the payload exactly when the frame is complete -/
theorem taken_all {n k H D : Nat} (hD : 0 < D) (hle : n + k ≤ H + D) :
    D - (n - H) ≤ n + k - H - (n - H) ↔ n + k = H + D := by omega

/-- the lower layer never takes more than it is offered -/
def Sane (lw : Nat → Int) : Prop := ∀ m, lw m ≤ (m : Int)

theorem sane_lwAll : Sane lwAll := fun m => Int.le_refl _

/-- the caller's loop from the state with `n` bytes of the frame out: nothing is lost, nothing is sent twice - the
wire holds a longer prefix of the SAME frame, the state is the one for that prefix, and when the loop reports that
everything was taken the frame is complete -/
theorem sendAll_spec (role : Role) (key data : Bytes) (hk : key.length = 4) (hd : 0 < data.length) :
    ∀ (lws : List (Nat → Int)) (st : St) (n : Nat), st.role = role → Rep st key data n → n < fLen role key data →
      (∀ lw ∈ lws, Sane lw) → ∀ q, q = sendAll key lws st (data.drop (n - hLen role key data)) →
      ∃ m, n ≤ m ∧ (frame role key data).take n ++ q.2.2 = (frame role key data).take m ∧
        Rep q.2.1 key data m ∧ q.2.1.role = role ∧ (q.1 = true → m = fLen role key data) := by
  intro lws
  induction lws with
  | nil =>
    intro st n hrole hrep hn _ q hq
    subst hq
    exact ⟨n, Nat.le_refl _, by simp [sendAll], hrep, hrole, fun h => by simp [sendAll] at h⟩
  | cons lw lws ih =>
    intro st n hrole hrep hn hs q hq
    subst hrole hq
    simp only [sendAll]
    generalize hr : wsWrite st key (data.drop (n - hLen st.role key data)) lw = r
    obtain ⟨hw, hrep', hrole', hneg, hnn⟩ := wsWrite_step st key data n lw hk hrep hn _ rfl
      (hs lw (List.mem_cons_self ..) _) r hr.symm
    have hF := fLen_eq st.role key data
    have hm1 := hrep'.2.2.1
    rw [hrole'] at hm1
    generalize hkk : (lw (fLen st.role key data - n)).toNat = k at hw hrep' hnn hm1
    by_cases h1 : r.1 < 0
    · simp only [h1, if_true]
      exact ⟨n + k, by omega, by rw [hw, ← List.take_add], hrep', hrole', fun h => by cases h⟩
    · simp only [h1, if_false]
      have hret := hnn (by
        rcases Int.lt_or_le (lw (fLen st.role key data - n)) 0 with h | h
        · rw [hneg h] at h1; exact absurd h h1
        · exact h)
      rw [hF] at hm1
      have hall := taken_all (n := n) hd hm1
      rw [hret, Int.toNat_natCast, List.length_drop]
      by_cases h2 : n + k - hLen st.role key data - (n - hLen st.role key data) ≥ data.length - (n - hLen st.role key data)
      · rw [if_pos h2]
        exact ⟨n + k, by omega, by rw [hw, ← List.take_add], hrep', hrole', fun _ => hF ▸ hall.1 h2⟩
      · rw [if_neg h2, List.drop_drop, Nat.add_sub_cancel' (Nat.sub_le_sub_right (Nat.le_add_right n k) _)]
        have hlt : n + k < fLen st.role key data := by
          rw [hF]; exact Nat.lt_of_le_of_ne hm1 fun h => h2 (hall.2 h)
        obtain ⟨m, hm, hwire, hrepm, hrolem, hdone⟩ := ih r.2.1 (n + k) hrole' hrep' hlt
          (fun lw' h' => hs lw' (List.mem_cons_of_mem _ h')) _ rfl
        refine ⟨m, by omega, ?_, hrepm, hrolem, hdone⟩
        rw [← List.append_assoc, hw, ← List.take_add, hwire]


theorem Rep_zero (st : St) (key data : Bytes) (h : Idle st) : Rep st key data 0 :=
  ⟨h.1, h.2.1, Nat.zero_le _, fun _ => h, fun h0 => absurd h0 (Nat.lt_irrefl 0)⟩

theorem Idle_of_Rep_full (st : St) (key data : Bytes) (h : Rep st key data (fLen st.role key data)) : Idle st := by
  obtain ⟨hup, hsc, _, _, hpos⟩ := h
  have hF := fLen_eq st.role key data
  have hH := hLen_ge st.role key data
  obtain ⟨e1, e2, _, e4⟩ := hpos (by omega)
  refine ⟨hup, hsc, Or.inr ⟨?_, ?_⟩⟩
  · rw [e2, e1]; unfold hLen at hF hH ⊢; omega
  · rw [e4]; omega

theorem sendAll_idle (st : St) (key data : Bytes) (lws : List (Nat → Int)) (hk : key.length = 4) (hd : 0 < data.length)
    (hidle : Idle st) (hs : ∀ lw ∈ lws, Sane lw) :
    (∃ m, (sendAll key lws st data).2.2 = (frame st.role key data).take m) ∧
    (sendAll key lws st data).2.1.role = st.role ∧
    ((sendAll key lws st data).1 = true →
      (sendAll key lws st data).2.2 = frame st.role key data ∧ Idle (sendAll key lws st data).2.1) := by
  have hF := fLen_eq st.role key data
  have hH := hLen_ge st.role key data
  obtain ⟨m, _, hw, hrep, hrole, hdone⟩ := sendAll_spec st.role key data hk hd lws st 0 rfl (Rep_zero st key data hidle)
    (by omega) hs _ rfl
  simp only [Nat.zero_sub, List.drop_zero, List.take_zero, List.nil_append] at hw hrep hrole hdone
  refine ⟨⟨m, hw⟩, hrole, fun h => ?_⟩
  have hm := hdone h
  subst hm
  constructor
  · rw [hw]; exact List.take_length
  · rw [← hrole] at hrep; exact Idle_of_Rep_full _ key data hrep

theorem sendMsgs_spec : ∀ (ms : List (Bytes × Bytes × List (Nat → Int))) (st : St), Idle st →
    (∀ m ∈ ms, m.1.length = 4 ∧ 0 < m.2.1.length ∧ ∀ lw ∈ m.2.2, Sane lw) →
    (∃ k, (sendMsgs ms st).2.2 = (writeAll st.role (ms.map fun m => (m.1, m.2.1))).take k) ∧
    ((sendMsgs ms st).1 = true →
      (sendMsgs ms st).2.2 = writeAll st.role (ms.map fun m => (m.1, m.2.1)) ∧ Idle (sendMsgs ms st).2.1) := by
  intro ms
  induction ms with
  | nil => intro st hi _; exact ⟨⟨0, rfl⟩, fun _ => ⟨rfl, hi⟩⟩
  | cons m rest ih =>
    intro st hi hall
    obtain ⟨hk, hd, hs⟩ := hall m (List.mem_cons_self ..)
    obtain ⟨⟨j, hpre⟩, hrole, hdone⟩ := sendAll_idle st m.1 m.2.1 m.2.2 hk hd hi hs
    simp only [sendMsgs, List.map_cons, writeAll]
    by_cases hq : (sendAll m.1 m.2.2 st m.2.1).1 = true
    · obtain ⟨hw, hidle'⟩ := hdone hq
      obtain ⟨⟨k, hk'⟩, hfull⟩ := ih _ hidle' (fun x hx => hall x (List.mem_cons_of_mem _ hx))
      rw [hrole] at hk' hfull
      simp only [hq, if_true]
      constructor
      · refine ⟨(frame st.role m.1 m.2.1).length + k, ?_⟩
        rw [hw, hk', List.take_append]
        rw [List.take_of_length_le (Nat.le_add_right _ k), Nat.add_sub_cancel_left]
      · intro h
        obtain ⟨h1, h2⟩ := hfull h
        exact ⟨by rw [hw, h1], h2⟩
    · simp only [hq, Bool.false_eq_true, if_false]
      refine ⟨⟨min j (frame st.role m.1 m.2.1).length, ?_⟩, fun h => by cases h⟩
      rw [hpre, List.take_append_of_le_length (Nat.min_le_right _ _)]
      by_cases hj : j ≤ (frame st.role m.1 m.2.1).length
      · rw [Nat.min_eq_left hj]
      · rw [Nat.min_eq_right (by omega), List.take_of_length_le (by omega), List.take_of_length_le (Nat.le_refl _)]

theorem wsWrite_down (st : St) (key data : Bytes) (lw : Nat → Int) (h : st.up = false ∨ st.sentClose = true) :
    wsWrite st key data lw = (0, st, []) := by
  unfold wsWrite
  rcases h with h | h
  · simp [h]
  · by_cases hup : st.up = true <;> simp [hup, h]

open Coap.Spec.WsFrame in
theorem decode_closeFrame (role : Role) (key rest : Bytes) (reason : Nat) (hk : key.length = 4) :
    decode (closeFrame role key reason ++ rest) =
      some (⟨true, 0, 8, role = .client, keyOf role key, [u8 (reason / 2 ^ 8), u8 reason]⟩, rest) := by
  cases role
  · have hs : closeFrame .client key reason ++ rest =
        (0x88 : UInt8) :: (0x82 : UInt8) :: ([] ++ (key ++ (maskData key 0 [u8 (reason / 2 ^ 8), u8 reason] ++ rest))) := by
      simp [closeFrame]; exact ⟨by decide, by decide⟩
    rw [hs, decode_build _ _ _ _ _ _ (Or.inl ⟨by rw [maskData_length]; show 2 ≤ 125; decide, by rw [maskData_length]; show (0x82 : UInt8).toNat % 128 = 2; decide, rfl⟩)
      (by rw [maskData_length]; show 2 < 2 ^ 63; decide) hk, unmask_maskData]
    rfl
  · exact decode_build 0x88 0x02 [] [] [u8 (reason / 2 ^ 8), u8 reason] rest (Or.inl ⟨by show 2 ≤ 125; decide, rfl, rfl⟩)
      (by show 2 < 2 ^ 63; decide) rfl

end WsW
end Coap
