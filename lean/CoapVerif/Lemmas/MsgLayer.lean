import CoapVerif.Model.MsgLayerX
import CoapVerif.Lemmas.SendQueue
/-
Helper definitions and lemmas for C08 (NSTART accounting, delay queue FIFO, NACKs on failure).

Per session `Frame`, `SInv` and the moves `DqStep` of the delay queue, together `Mid`, for functions in the middle of an update; for
whole calls `Reach`.  The loop of `coap_session_connected` is taken round by round and for every number of rounds (`connectedK`,
`releaseK`: the write-failure model cuts it short).  Sending and retransmitting are proved for the functions of Model/MsgLayerX.lean
(explicit token, clamped delay); the base functions are the instances token = message id, keepalive off.  From the branches of
`coap_dispatch` upwards a property is proved for what the functions are made of (`Disp`, `EvtX`), and branches, loops and events are
walked once for every such property; the base events a second time for `Kept` (Lemmas/SendQueue.lean, C06), which survives a clock
move or a `coap_send` only under a condition on THAT event.  Core Lean only.
-/
namespace Coap.Msg
open Coap.SQ

/-! ### counting nodes in the send queue -/

/-- a node predicate that does not look at the relative time `t` (the hypothesis of `SQ.wsum_*` for its indicator; `SQ.TFree` is the
`Prop`-valued form) -/
abbrev TStable (p : Node → Bool) : Prop := ∀ (n : Node) (x : Nat), p { n with t := x } = p n

theorem tstable_sess (s : Nat) : TStable (fun n => decide (n.sess = s)) := fun _ _ => rfl
theorem tstable_ncon : TStable (fun n => !n.con) := fun _ _ => rfl
theorem tstable_key (s id : Nat) : TStable (fun n => decide (n.sess = s ∧ n.mid = id)) := fun _ _ => rfl

theorem countP_eq_wsum (p : Node → Bool) (l : List Node) : l.countP p = wsum (fun n => if p n then 1 else 0) l := by
  induction l with
  | nil => rfl
  | cons a r ih => simp only [List.countP_cons, wsum, ih]; omega

theorem TStable.blind {p : Node → Bool} (hp : TStable p) (n : Node) (t : Nat) :
    (if p { n with t := t } then 1 else 0) = if p n then 1 else 0 := by rw [hp]

theorem countP_enqueue (p : Node → Bool) (hp : TStable p) (q : Queue) (now d : Nat) (n : Node) :
    (enqueue q now d n).nodes.countP p = q.nodes.countP p + (if p n then 1 else 0) := by
  rw [countP_eq_wsum, countP_eq_wsum, wsum_enqueue hp.blind]; omega

/-- `rest` is the node list `ns` without its node `n`: as far as a weight that does not look at the relative time can tell
(unlinking a node adds its `t` to its successor's), and nobody else's deadline has moved -/
structure Without (ns : List Node) (n : Node) (rest : List Node) : Prop where
  mem : n ∈ ns
  sum : ∀ {w : Node → Nat}, (∀ n t, w { n with t := t } = w n) → wsum w ns = w n + wsum w rest
  sub : SubQ rest ns

namespace Without

theorem count {ns rest : List Node} {n : Node} (h : Without ns n rest) (p : Node → Bool) (hp : TStable p) :
    ns.countP p = rest.countP p + (if p n then 1 else 0) := by
  rw [countP_eq_wsum, countP_eq_wsum, h.sum hp.blind]; omega

open Classical in
theorem all {Q : Node → Prop} (hQ : TFree Q) {ns rest : List Node} {n : Node} (h : Without ns n rest)
    (hl : ∀ x ∈ ns, Q x) : ∀ x ∈ rest, Q x := by
  rw [all_iff_wsum] at hl ⊢
  have := h.sum (w := fun n => if Q n then 0 else 1) hQ.blind
  omega

end Without

theorem without_popNext {l : List Node} {n : Node} {rest : List Node} (h : popNext l = some (n, rest)) : Without l n rest := by
  refine ⟨?_, fun hw => wsum_popNext hw l n rest h, subQ_popNext h⟩
  rcases l with _ | ⟨a, _ | ⟨b, r⟩⟩ <;> cases h <;> exact List.mem_cons_self

theorem removeNode_some : ∀ (l : List Node) (s id : Nat) (n : Node) (rest : List Node),
    removeNode l s id = (some n, rest) → n.sess = s ∧ n.mid = id ∧ Without l n rest := fun l s id n rest h => by
  obtain ⟨hm, hk⟩ := removeNode_found l s id n (by rw [h])
  refine ⟨hk.1, hk.2, hm, fun hw => ?_, by have := subQ_removeNode l s id; rwa [h] at this⟩
  rw [wsum_removeNode hw l s id, h]; exact Nat.add_comm _ _

theorem removeNode_none : ∀ (l : List Node) (s id : Nat) (rest : List Node),
    removeNode l s id = (none, rest) →
    rest = l ∧ l.countP (fun n => decide (n.sess = s ∧ n.mid = id)) = 0
  | [], s, id, rest, h => by simp [removeNode] at h; simp [h]
  | a :: r, s, id, rest, h => by
    unfold removeNode at h
    split at h
    · split at h <;> simp at h
    · rename_i hk
      rcases hr : removeNode r s id with ⟨res, r'⟩
      simp only [hr] at h
      simp at h; obtain ⟨rfl, rfl⟩ := h
      have := removeNode_none r s id r' hr
      simp only [List.countP_cons, hk, this.1, this.2]; simp

theorem removeNode_cases (l : List Node) (s mid : Nat) :
    removeNode l s mid = (none, l) ∨
    ∃ n rest, removeNode l s mid = (some n, rest) ∧ n.sess = s ∧ n.mid = mid ∧ Without l n rest := by
  rcases hr : removeNode l s mid with ⟨res, rest⟩
  cases res with
  | none => rw [(removeNode_none _ _ _ _ hr).1]; exact .inl rfl
  | some n => exact .inr ⟨n, rest, rfl, removeNode_some _ _ _ _ _ hr⟩

theorem removeTok_some : ∀ (l : List Node) (s tok : Nat) (n : Node) (rest : List Node),
    removeTok l s tok = (some n, rest) → n.sess = s ∧ n.tok = tok ∧ Without l n rest := fun l s tok n rest h => by
  obtain ⟨hm, hk⟩ := removeTok_found l s tok n (by rw [h])
  refine ⟨hk.1, hk.2, hm, fun hw => ?_, by have := subQ_removeTok l s tok; rwa [h] at this⟩
  rw [wsum_removeTok hw l s tok, h]; exact Nat.add_comm _ _

theorem countP_cancelAux (p : Node → Bool) (hp : TStable p) : ∀ (l : List Node) (s c : Nat),
    (cancelSessionAux l s c).2.countP p = l.countP (fun n => p n && !decide (n.sess = s))
  | [], s, c => by simp [cancelSessionAux]
  | a :: r, s, c => by
    unfold cancelSessionAux
    split
    · rename_i hk
      rcases hr : cancelSessionAux r s (a.t + c) with ⟨g, r'⟩
      have := countP_cancelAux p hp r s (a.t + c)
      rw [hr] at this
      simp only [List.countP_cons, hk, this]; simp
    · rename_i hk
      rcases hr : cancelSessionAux r s 0 with ⟨g, r'⟩
      have := countP_cancelAux p hp r s 0
      rw [hr] at this
      simp only [List.countP_cons, hk, this, hp]; simp

/-- the removed nodes are exactly the session's nodes, in queue order (their `t` may differ) -/
theorem gone_cancelAux (f : Node → Nat × Bool) (hf : ∀ (n : Node) (x : Nat), f { n with t := x } = f n) :
    ∀ (l : List Node) (s c : Nat),
    (cancelSessionAux l s c).1.map f = (l.filter (fun n => decide (n.sess = s))).map f
  | [], s, c => by simp [cancelSessionAux]
  | a :: r, s, c => by
    unfold cancelSessionAux
    split
    · rename_i hk
      rcases hr : cancelSessionAux r s (a.t + c) with ⟨g, r'⟩
      have := gone_cancelAux f hf r s (a.t + c)
      rw [hr] at this
      subst hk
      simp only [List.filter_cons, List.map_cons, hf]; simp at this ⊢; exact this
    · rename_i hk
      rcases hr : cancelSessionAux r s 0 with ⟨g, r'⟩
      have := gone_cancelAux f hf r s 0
      rw [hr] at this
      simp only [List.filter_cons, hk]; simp at this ⊢; exact this

/-! ### the message layer: projections -/

/-- number of nodes of session `s` waiting for an ACK in the send queue -/
def inflight (l : L) (s : Nat) : Nat := (l.q.nodes.filter (fun n => n.sess = s)).length

theorem inflight_eq (l : L) (s : Nat) :
    inflight l s = l.q.nodes.countP (fun n => decide (n.sess = s)) := by
  simp [inflight, List.countP_eq_length_filter]

/-- every node in the send queue is a Confirmable -/
def AllCon (ns : List Node) : Prop := ns.countP (fun n => !n.con) = 0

theorem AllCon.mem {ns : List Node} (h : AllCon ns) {n : Node} (hn : n ∈ ns) : n.con = true := by
  have := (List.countP_eq_zero.mp h) n hn
  simpa using this

@[simp] theorem setS_q (l : L) (s : Nat) (se : Sess) : (l.setS s se).q = l.q := rfl
@[simp] theorem setS_out (l : L) (s : Nat) (se : Sess) : (l.setS s se).out = l.out := rfl
@[simp] theorem setS_len (l : L) (s : Nat) (se : Sess) : (l.setS s se).sess.length = l.sess.length := by
  simp [L.setS]
@[simp] theorem emit_q (l : L) (o : Out) : (l.emit o).q = l.q := rfl
@[simp] theorem emit_out (l : L) (o : Out) : (l.emit o).out = o :: l.out := rfl
@[simp] theorem emit_sess (l : L) (o : Out) : (l.emit o).sess = l.sess := rfl
@[simp] theorem getS_emit (l : L) (o : Out) (s : Nat) : (l.emit o).getS s = l.getS s := rfl
@[simp] theorem waitAck_out (l : L) (n : Node) : (waitAck l n).out = l.out := rfl
@[simp] theorem waitAck_sess (l : L) (n : Node) : (waitAck l n).sess = l.sess := rfl
@[simp] theorem getS_waitAck (l : L) (n : Node) (s : Nat) : (waitAck l n).getS s = l.getS s := rfl
@[simp] theorem inflight_setS (l : L) (s : Nat) (se : Sess) (s' : Nat) :
    inflight (l.setS s se) s' = inflight l s' := rfl
@[simp] theorem inflight_emit (l : L) (o : Out) (s' : Nat) : inflight (l.emit o) s' = inflight l s' := rfl

theorem inflight_enq (l : L) (now d : Nat) (n : Node) (s : Nat) :
    inflight { l with q := enqueue l.q now d n } s = inflight l s + (if n.sess = s then 1 else 0) := by
  rw [inflight_eq, inflight_eq]
  simp only [countP_enqueue (fun n => decide (n.sess = s)) (tstable_sess s)]
  simp

theorem inflight_waitAck (l : L) (n : Node) (s : Nat) :
    inflight (waitAck l n) s = inflight l s + (if n.sess = s then 1 else 0) := inflight_enq l _ _ n s

/-! ### frames and the per-session invariant -/

/-- from `l` to `l'` no session is added, every session but `s0` keeps its record and its NUMBER of nodes in the send queue, and
`AllCon` is kept; outputs, clock, and order and deadlines in the queue are free -/
structure Frame (s0 : Nat) (l l' : L) : Prop where
  len : l'.sess.length = l.sess.length
  con : AllCon l.q.nodes → AllCon l'.q.nodes
  other : ∀ s, s ≠ s0 → l'.getS s = l.getS s ∧ inflight l' s = inflight l s

theorem Frame.refl (s0 : Nat) (l : L) : Frame s0 l l := ⟨rfl, id, fun _ _ => ⟨rfl, rfl⟩⟩

theorem Frame.trans {s0 : Nat} {l l' l'' : L} (h1 : Frame s0 l l') (h2 : Frame s0 l' l'') :
    Frame s0 l l'' :=
  ⟨h2.len.trans h1.len, fun h => h2.con (h1.con h), fun s hs =>
    ⟨(h2.other s hs).1.trans (h1.other s hs).1, (h2.other s hs).2.trans (h1.other s hs).2⟩⟩

theorem Frame.setS (l : L) (s : Nat) (se : Sess) : Frame s l (l.setS s se) :=
  ⟨by simp, id, fun _ hs => ⟨getS_setS_other (Ne.symm hs), rfl⟩⟩

theorem Frame.emit (s : Nat) (l : L) (o : Out) : Frame s l (l.emit o) :=
  ⟨rfl, id, fun _ _ => ⟨rfl, rfl⟩⟩

theorem Frame.enq {s : Nat} (l : L) (now d : Nat) {n : Node} (hs : n.sess = s) (hc : n.con = true) :
    Frame s l { l with q := enqueue l.q now d n } := by
  refine ⟨rfl, fun h => ?_, fun s' hs' => ⟨rfl, ?_⟩⟩
  · unfold AllCon at *
    simp only [countP_enqueue (fun n => !n.con) tstable_ncon, h, hc]; simp
  · rw [inflight_enq]; simp [hs, Ne.symm hs']

theorem Frame.waitAck {s : Nat} (l : L) {n : Node} (hs : n.sess = s) (hc : n.con = true) :
    Frame s l (waitAck l n) := Frame.enq l _ _ hs hc

/-- the accounting of session `s`: `con_active` is the number of its nodes in the send queue plus `k`
(`k = 1` between a node leaving the queue and the matching `con_active--`) -/
def SInv (l : L) (s k : Nat) : Prop :=
  s < l.sess.length →
    (l.getS s).conActive = inflight l s + k ∧ inflight l s + k ≤ (l.getS s).nstart ∧ (l.getS s).nstart ≤ 255

/-- the inductive invariant of the message layer -/
def WF (l : L) : Prop :=
  AllCon l.q.nodes ∧
  ∀ s, s < l.sess.length →
    (l.getS s).conActive = inflight l s ∧ inflight l s ≤ (l.getS s).nstart ∧ (l.getS s).nstart ≤ 255

theorem WF.sinv {l : L} (h : WF l) (s : Nat) : SInv l s 0 := fun hs => by simpa using h.2 s hs

theorem WF.of_frame {l l' : L} {s0 : Nat} (hw : WF l) (hf : Frame s0 l l') (hs : SInv l' s0 0) : WF l' := by
  refine ⟨hf.con hw.1, fun s hlt => ?_⟩
  by_cases h : s = s0
  · subst h; simpa using hs hlt
  · rw [(hf.other s h).1, (hf.other s h).2]; exact hw.2 s (hf.len ▸ hlt)

theorem wf_init (t0 : Nat) (ss : List Sess)
    (hss : ∀ se ∈ ss, se.conActive = 0 ∧ se.delayq = [] ∧ se.nstart ≤ 255) : WF (init t0 ss) := by
  refine ⟨rfl, fun s hlt => ?_⟩
  have hlt' : s < ss.length := hlt
  have hm : (init t0 ss).getS s ∈ ss := by
    simp [init, L.getS, List.getD_eq_getElem?_getD, hlt']
  have := hss _ hm
  refine ⟨this.1, ?_, this.2.2⟩
  simp [inflight, init]

@[simp] theorem SInv_emit (l : L) (o : Out) (s k : Nat) : SInv (l.emit o) s k ↔ SInv l s k := Iff.rfl

theorem SInv.waitAck {l : L} {n : Node} {s k : Nat} (hs : n.sess = s) (h : SInv l s (k + 1)) :
    SInv (waitAck l n) s k := by
  intro hlt
  have := h hlt
  rw [inflight_waitAck]; simp only [getS_waitAck, hs, if_true]; omega

theorem SInv.setS {l : L} {s k : Nat} {se : Sess}
    (h : s < l.sess.length → se.conActive = inflight l s + k ∧ inflight l s + k ≤ se.nstart ∧ se.nstart ≤ 255) :
    SInv (l.setS s se) s k := by
  intro hlt
  simp only [setS_len] at hlt
  rw [getS_setS_same hlt]; simpa using h hlt

/-! ### the life of the delay queue: a step relation and its reflexive-transitive closure -/

/-- the allowed effect of one elementary action of the message layer on the delay queue of session `s` -/
inductive DqStep (s : Nat) : L → L → Prop
  /-- the delay queue of `s` is left alone -/
  | other {l l' : L} : (l'.getS s).delayq = (l.getS s).delayq → l'.sess.length = l.sess.length → DqStep s l l'
  /-- a message is held: appended at the END, nothing is transmitted by this step -/
  | push {l l' : L} (n : Node) : (l'.getS s).delayq = (l.getS s).delayq ++ [n] → l'.out = l.out →
      l'.sess.length = l.sess.length → DqStep s l l'
  /-- the HEAD leaves, and exactly then it is transmitted (once) -/
  | popTx {l l' : L} (n : Node) (rest : List Node) : (l.getS s).delayq = n :: rest →
      (l'.getS s).delayq = rest → l'.out = Out.tx l.now s n.mid n.cnt n.con :: l.out → l'.now = l.now →
      l'.sess.length = l.sess.length → DqStep s l l'
  /-- failure of the session: the whole delay queue goes, each held CON is NACKed exactly once, in order
  (`pre`: at most one NACK for the first send-queue node; `post`: NACKs for send-queue nodes of `s`, or the
  single "nothing pending" NACK) -/
  | clear {l l' : L} : (l'.getS s).delayq = [] →
      (∃ pre post : List Out,
        l'.out = post ++ (((l.getS s).delayq.filter (·.con)).reverse.map
          (fun n => Out.nack l.now s .undeliv n.mid true)) ++ pre ++ l.out ∧ pre.length ≤ 1 ∧
        (∀ o ∈ post, (∃ n ∈ l.q.nodes, n.sess = s ∧ o = Out.nack l.now s .undeliv n.mid true) ∨
          o = Out.nack l.now s .undeliv 0 false)) →
      l'.sess.length = l.sess.length → DqStep s l l'

/-- reflexive-transitive closure -/
inductive Star (r : L → L → Prop) : L → L → Prop
  | refl {l : L} : Star r l l
  | tail {a b c : L} : Star r a b → r b c → Star r a c

theorem Star.single {r : L → L → Prop} {a b : L} (h : r a b) : Star r a b := Star.tail Star.refl h

theorem Star.trans {r : L → L → Prop} {a b c : L} (h1 : Star r a b) (h2 : Star r b c) : Star r a c := by
  induction h2 with
  | refl => exact h1
  | tail _ hbc ih => exact Star.tail ih hbc

theorem DqStep.len {s : Nat} {l l' : L} (h : DqStep s l l') : l'.sess.length = l.sess.length := by
  cases h <;> assumption

theorem Star.len {s : Nat} {l l' : L} (h : Star (DqStep s) l l') : l'.sess.length = l.sess.length := by
  induction h with
  | refl => rfl
  | tail _ h2 ih => exact h2.len.trans ih

/-- the delay queue of `s` is the same in `l` and `l'` (a composable form of `DqStep.other`) -/
def DqSame (s : Nat) (l l' : L) : Prop :=
  (l'.getS s).delayq = (l.getS s).delayq ∧ l'.sess.length = l.sess.length

theorem DqSame.star {s : Nat} {l l' : L} (h : DqSame s l l') : Star (DqStep s) l l' :=
  Star.single (DqStep.other h.1 h.2)
theorem DqSame.refl (s : Nat) (l : L) : DqSame s l l := ⟨rfl, rfl⟩
theorem DqSame.trans {s : Nat} {l l' l'' : L} (h1 : DqSame s l l') (h2 : DqSame s l' l'') : DqSame s l l'' :=
  ⟨h2.1.trans h1.1, h2.2.trans h1.2⟩
theorem DqSame.emit (s : Nat) (l : L) (o : Out) : DqSame s l (l.emit o) := ⟨rfl, rfl⟩
theorem DqSame.waitAck (s : Nat) (l : L) (n : Node) : DqSame s l (waitAck l n) := ⟨rfl, rfl⟩
theorem DqSame.mk_q (s : Nat) (l : L) (q : Queue) : DqSame s l { l with q := q } := ⟨rfl, rfl⟩
theorem DqSame.of_frame {s s' : Nat} {l l' : L} (hf : Frame s' l l') (hne : s ≠ s') : DqSame s l l' :=
  ⟨by rw [(hf.other s hne).1], hf.len⟩

theorem DqSame.setS_keep {s : Nat} {l : L} (hs : s < l.sess.length) (s' : Nat) {se : Sess}
    (h : se.delayq = (l.getS s').delayq) : DqSame s l (l.setS s' se) := by
  refine ⟨?_, by simp⟩
  by_cases e : s' = s
  · subst e; rw [getS_setS_same hs]; exact h
  · rw [getS_setS_other e]

theorem DqStep.setS_push {s : Nat} {l : L} (hs : s < l.sess.length) (s' : Nat) {se : Sess} (n : Node)
    (h : se.delayq = (l.getS s').delayq ++ [n]) : DqStep s l (l.setS s' se) := by
  by_cases e : s' = s
  · subst e; exact DqStep.push n (by rw [getS_setS_same hs]; exact h) rfl (by simp)
  · exact DqStep.other (by rw [getS_setS_other e]) (by simp)

/-- only session `s` moves, its accounting goes from `k` ahead to exact, its delay queue moves by `DqStep`s -/
structure Mid (s k : Nat) (l l' : L) : Prop where
  frame : Frame s l l'
  sinv : SInv l s k → SInv l' s 0
  star : s < l.sess.length → Star (DqStep s) l l'

theorem Mid.refl (s : Nat) (l : L) : Mid s 0 l l := ⟨Frame.refl _ _, id, fun _ => Star.refl⟩

theorem Mid.trans {s k : Nat} {a b c : L} (h1 : Mid s k a b) (h2 : Mid s 0 b c) : Mid s k a c :=
  ⟨h1.frame.trans h2.frame, fun h => h2.sinv (h1.sinv h), fun hs => (h1.star hs).trans (h2.star (h1.frame.len ▸ hs))⟩

theorem Mid.emit {s k : Nat} {l l' : L} (h : Mid s k l l') (o : Out) : Mid s k l (l'.emit o) :=
  ⟨h.frame.trans (Frame.emit _ _ _), h.sinv, fun hs => (h.star hs).trans (DqSame.emit _ _ _).star⟩

theorem Mid.est (l : L) (s : Nat) (b : Bool) : Mid s 0 l (l.setS s { (l.getS s) with est := b }) :=
  ⟨Frame.setS _ _ _, fun h => SInv.setS (fun hlt => h hlt), fun hs => (DqSame.setS_keep hs s (by rfl)).star⟩

theorem Mid.stars {s k : Nat} {l l' : L} (h : Mid s k l l') (s' : Nat) (hs : s' < l.sess.length) : Star (DqStep s') l l' := by
  by_cases e : s' = s
  · subst e; exact h.star hs
  · exact (DqSame.of_frame h.frame e).star

/-! ### the model functions keep the invariant -/

/-- one round of the loop of `coap_session_connected` for the head `n` of the delay queue of `s` -/
def drainOne (l : L) (s : Nat) (n : Node) (rest : List Node) : L :=
  let se := l.getS s
  let ca := if n.con then (se.conActive + 1) % 256 else se.conActive
  let l := l.setS s { se with conActive := ca, delayq := rest }
  let l := l.emit (.tx l.now s n.mid n.cnt n.con)
  if n.con then waitAck l { n with sess := s } else l

def drainGoes (se : Sess) (n : Node) : Prop := se.est = true ∧ ¬ (n.con = true ∧ se.nstart ≤ se.conActive)

theorem drain_succ_eq (fuel : Nat) (l : L) (s : Nat) :
    drain (fuel + 1) l s =
      match (l.getS s).delayq with
      | [] => l
      | n :: rest =>
        if !(l.getS s).est then l
        else if n.con && decide ((l.getS s).conActive ≥ (l.getS s).nstart) then l
        else drain fuel (drainOne l s n rest) s := rfl

theorem drain_succ (fuel : Nat) (l : L) (s : Nat) :
    (∃ n rest, (l.getS s).delayq = n :: rest ∧ drainGoes (l.getS s) n ∧
      drain (fuel + 1) l s = drain fuel (drainOne l s n rest) s) ∨
    (drain (fuel + 1) l s = l ∧ ∀ n ∈ (l.getS s).delayq.head?, ¬ drainGoes (l.getS s) n) := by
  rw [drain_succ_eq]
  split
  · rename_i h; exact .inr ⟨rfl, by simp [h]⟩
  · rename_i n rest hdq
    by_cases hg : drainGoes (l.getS s) n
    · refine .inl ⟨n, rest, hdq, hg, ?_⟩
      have h2 : (n.con && decide ((l.getS s).conActive ≥ (l.getS s).nstart)) = false := by
        have := hg.2; simp at this ⊢; exact this
      simp only [hg.1, h2, Bool.not_true, Bool.false_eq_true, if_false]
    · refine .inr ⟨?_, by simpa [hdq] using hg⟩
      split
      · rfl
      · rename_i he
        split
        · rfl
        · rename_i hb
          exact absurd ⟨by simpa using he, by simpa using hb⟩ hg

theorem drainOne_getS {l : L} {s : Nat} (hlt : s < l.sess.length) (n : Node) (rest : List Node) :
    (drainOne l s n rest).getS s =
      { (l.getS s) with
        conActive := if n.con then ((l.getS s).conActive + 1) % 256 else (l.getS s).conActive, delayq := rest } := by
  unfold drainOne
  cases n.con <;> simp [getS_setS_same hlt]

theorem drainOne_getS_other (l : L) {s s' : Nat} (h : s ≠ s') (n : Node) (rest : List Node) :
    (drainOne l s n rest).getS s' = l.getS s' := by
  unfold drainOne
  cases n.con <;> simp [getS_setS_other h]

theorem drainOne_out (l : L) (s : Nat) (n : Node) (rest : List Node) :
    (drainOne l s n rest).out = .tx l.now s n.mid n.cnt n.con :: l.out := by
  unfold drainOne
  cases n.con <;> simp

theorem drainOne_now (l : L) (s : Nat) (n : Node) (rest : List Node) : (drainOne l s n rest).now = l.now := by
  unfold drainOne
  cases n.con <;> simp

theorem drainOne_len (l : L) (s : Nat) (n : Node) (rest : List Node) :
    (drainOne l s n rest).sess.length = l.sess.length := by
  unfold drainOne
  cases n.con <;> simp

theorem drainOne_countP {p : Node → Bool} (hp : TStable p) (l : L) (s : Nat) (n : Node) (rest : List Node) :
    (drainOne l s n rest).q.nodes.countP p =
      l.q.nodes.countP p + (if n.con && p { n with sess := s } then 1 else 0) := by
  unfold drainOne
  cases n.con
  · simp
  · simp only [if_true, Bool.true_and, Msg.waitAck, countP_enqueue p hp]; rfl

theorem drain_inv {P : L → Prop} {s : Nat}
    (round : ∀ l n rest, P l → (l.getS s).delayq = n :: rest → drainGoes (l.getS s) n → P (drainOne l s n rest)) :
    ∀ (fuel : Nat) (l : L), P l → P (drain fuel l s)
  | 0, _, h => h
  | fuel + 1, l, h => by
    rcases drain_succ fuel l s with ⟨n, rest, hdq, hg, e⟩ | ⟨e, _⟩ <;> rw [e]
    · exact drain_inv round fuel _ (round l n rest h hdq hg)
    · exact h

theorem drainOne_mid (l : L) (s : Nat) (n : Node) (rest : List Node) (hdq : (l.getS s).delayq = n :: rest)
    (hg : drainGoes (l.getS s) n) : Mid s 0 l (drainOne l s n rest) := by
  refine ⟨⟨drainOne_len .., fun h => ?_, fun s' hs' => ⟨drainOne_getS_other l (Ne.symm hs') n rest, ?_⟩⟩, fun h hlt => ?_,
    fun hs => Star.single (DqStep.popTx n rest hdq (by rw [drainOne_getS hs]) (drainOne_out ..) (drainOne_now ..) (drainOne_len ..))⟩
  · unfold AllCon at *
    rw [drainOne_countP tstable_ncon, h]
    cases n.con <;> rfl
  · rw [inflight_eq, inflight_eq, drainOne_countP (tstable_sess s')]
    simp [Ne.symm hs']
  · rw [drainOne_len] at hlt
    have h0 := h hlt
    have hg2 := hg.2
    rw [inflight_eq, drainOne_countP (tstable_sess s), ← inflight_eq, drainOne_getS hlt]
    cases hc : n.con
    · simpa using h0
    · simp only [hc, true_and, Nat.not_le] at hg2
      simp
      omega

theorem drain_mid (fuel : Nat) (l : L) (s : Nat) : Mid s 0 l (drain fuel l s) :=
  drain_inv (P := Mid s 0 l) (fun l1 n rest h hdq hg => h.trans (drainOne_mid l1 s n rest hdq hg)) fuel l (Mid.refl s l)

/-- `coap_session_connected` with its loop cut off after `k` rounds.  `connected` is the case `k = delayq.length + 1` (by
definition: `connected_mid`); the loop of the write-failure model, which leaves at the first failed write, is another
(`MsgW.connectedW_l`).  What holds for every `k` holds for both. -/
def connectedK (k : Nat) (l : L) (s : Nat) : L := drain k (l.setS s { (l.getS s) with est := true }) s

/-- `release` with that loop -/
def releaseK (k : Nat) (l : L) (s : Nat) : L :=
  if (l.getS s).conActive = 0 then l
  else if (l.getS s).est then connectedK k (l.setS s { (l.getS s) with conActive := (l.getS s).conActive - 1 }) s
  else l.setS s { (l.getS s) with conActive := (l.getS s).conActive - 1 }

theorem connectedK_mid (k : Nat) (l : L) (s : Nat) : Mid s 0 l (connectedK k l s) :=
  (Mid.est l s true).trans (drain_mid k _ s)

theorem releaseK_mid (k : Nat) (l : L) (s : Nat) : Mid s 1 l (releaseK k l s) := by
  unfold releaseK
  have dec : Mid s 1 l (l.setS s { (l.getS s) with conActive := (l.getS s).conActive - 1 }) :=
    ⟨Frame.setS _ _ _, fun h => SInv.setS (fun hlt => by have := h hlt; simp only []; omega),
      fun hs => (DqSame.setS_keep hs s (by rfl)).star⟩
  split
  · exact ⟨Frame.refl _ _, fun h hlt => by have := h hlt; omega, fun _ => Star.refl⟩
  · split
    · exact dec.trans (connectedK_mid k _ s)
    · exact dec

theorem connected_mid (l : L) (s : Nat) : Mid s 0 l (connected l s) := connectedK_mid _ l s

theorem release_mid (l : L) (s : Nat) : Mid s 1 l (release l s) := releaseK_mid _ l s

namespace Without

theorem frame_sinv {l : L} {n : Node} {rest : List Node} (hwo : Without l.q.nodes n rest) :
    Frame n.sess l { l with q := { l.q with nodes := rest } } ∧
    (∀ k, SInv l n.sess k → SInv { l with q := { l.q with nodes := rest } } n.sess (k + 1)) ∧
    (AllCon l.q.nodes → n.con = true) := by
  have hm := hwo.mem
  have hc := hwo.count
  refine ⟨⟨rfl, fun h => ?_, fun s hs => ⟨rfl, ?_⟩⟩, fun k h hlt => ?_, fun h => h.mem hm⟩
  · unfold AllCon at *
    have := hc _ tstable_ncon
    simp only []
    omega
  · rw [inflight_eq, inflight_eq]
    have := hc _ (tstable_sess s)
    simp [Ne.symm hs] at this
    simp only []
    omega
  · have h1 := h hlt
    have hc' := hc _ (tstable_sess n.sess)
    simp at hc'
    have e : inflight l n.sess = inflight { l with q := { l.q with nodes := rest } } n.sess + 1 := by
      rw [inflight_eq, inflight_eq]; exact hc'
    show (l.getS n.sess).conActive = inflight _ n.sess + (k + 1) ∧
      inflight _ n.sess + (k + 1) ≤ (l.getS n.sess).nstart ∧ (l.getS n.sess).nstart ≤ 255
    omega

end Without

/-- `q1`: the send queue with the node just put back (`requeue_remove`) -/
abbrev dly (l : L) (q1 : Queue) (s mid : Nat) : L :=
  { now := l.now, q := { base := q1.base, nodes := (removeNode q1.nodes s mid).snd }, sess := l.sess, out := l.out }

/-- `coap_retransmit` hands the node `n'` it has just put back to `coap_session_delay_pdu`, which takes the first node with that
session and id out again (`n'` itself, or an older node with its key): as far as a `t`-blind predicate can tell, `n'` came in and a
node `m` with its session and id went out -/
theorem requeue_remove (q : Queue) (now d : Nat) (n' : Node) :
    ∃ m : Node, m.sess = n'.sess ∧ m.mid = n'.mid ∧ ∀ p : Node → Bool, TStable p →
      (removeNode (enqueue q now d n').nodes n'.sess n'.mid).2.countP p + (if p m then 1 else 0) =
        q.nodes.countP p + (if p n' then 1 else 0) := by
  have hcnt := fun p hp => countP_enqueue p hp q now d n'
  generalize enqueue q now d n' = q1 at hcnt ⊢
  rcases removeNode_cases q1.nodes n'.sess n'.mid with e | ⟨m, rest, e, hms, hmm, hrm⟩ <;> rw [e]
  · -- the node that was just put back is found
    have h2 := hcnt _ (tstable_key n'.sess n'.mid)
    rw [(removeNode_none _ _ _ _ e).2] at h2; simp at h2
  · exact ⟨m, hms, hmm, fun p hp => by rw [← hcnt p hp, hrm.count p hp]⟩

theorem delay_path (l : L) (d : Nat) (n' : Node) (se : Sess) (hc : n'.con = true)
    (hse : se.conActive = (l.getS n'.sess).conActive - 1 ∧ se.nstart = (l.getS n'.sess).nstart) :
    Frame n'.sess l (L.setS (dly l (enqueue l.q l.now d n') n'.sess n'.mid) n'.sess se) ∧
    (SInv l n'.sess 1 → SInv (L.setS (dly l (enqueue l.q l.now d n') n'.sess n'.mid) n'.sess se) n'.sess 0) := by
  obtain ⟨m, hms, _, hcnt⟩ := requeue_remove l.q l.now d n'
  unfold dly
  generalize (removeNode (enqueue l.q l.now d n').nodes n'.sess n'.mid).2 = rest at hcnt ⊢
  generalize (enqueue l.q l.now d n').base = b
  have hinf : ∀ s, inflight (L.setS (⟨l.now, ⟨b, rest⟩, l.sess, l.out⟩ : L) n'.sess se) s = inflight l s := by
    intro s
    have h1 := hcnt _ (tstable_sess s)
    rw [inflight_setS, inflight_eq, inflight_eq]
    simp only [hms] at h1
    simp only [] at h1 ⊢
    omega
  refine ⟨⟨by simp, fun h => ?_, fun s hs => ⟨getS_setS_other (Ne.symm hs), hinf s⟩⟩, fun h hlt => ?_⟩
  · unfold AllCon at *
    have h1 := hcnt _ tstable_ncon
    simp [hc] at h1
    simp only [setS_q]
    omega
  · have hlt' : n'.sess < l.sess.length := by simpa using hlt
    have h0 := h hlt'
    rw [hinf, getS_setS_same (l := ⟨l.now, ⟨b, rest⟩, l.sess, l.out⟩) hlt']
    omega

/-- a message that passes the gate into the delay queue is appended at its end; nothing is transmitted -/
theorem submit_held_appends (l : L) (s : Nat) (con : Bool) (mid r : Nat) (hlt : s < l.sess.length)
    (hg : gate (l.getS s) con = true) (ho : (l.getS s).sockOpen = true)
    (hm : (l.getS s).delayq.any (fun x => x.mid = mid) = false) :
    ((submit l s con mid r).getS s).delayq = (l.getS s).delayq ++
      [{ sess := s, mid := mid, t := 0,
         timeout := if con then calcTimeout (l.getS s).atI (l.getS s).atF (l.getS s).arfI (l.getS s).arfF r else 0,
         cnt := 0, tok := mid, con := con }] ∧
    (submit l s con mid r).out = Out.sub (some mid) :: l.out ∧ (submit l s con mid r).q = l.q := by
  unfold submit
  simp only [ho, hg, hm]
  simp [getS_setS_same hlt]

end Coap.Msg

/-! ### sending and retransmitting, for the functions of `Model/MsgLayerX.lean` -/
namespace Coap.MsgX
open Coap.SQ Coap.Msg

theorem submitT_eq_submit (l : L) (s : Nat) (con : Bool) (mid r : Nat) :
    submitT l s con mid r mid = submit l s con mid r := by
  unfold submitT submit sendCore
  simp only []
  cases (l.getS s).sockOpen
  · rfl
  · cases gate (l.getS s) con
    · cases con <;> rfl
    · cases (l.getS s).delayq.any fun x => x.mid = mid <;> rfl

theorem clampDelay_zero (prng d : Nat) : clampDelay 0 prng d = d := by simp [clampDelay]

theorem retransmitX_zero (prng : Nat) (l : L) (n : Node) : retransmitX 0 prng l n = retransmit l n := by
  unfold retransmitX retransmit
  simp only [clampDelay_zero]

theorem dueLoopX_zero (prng : Nat) : ∀ (fuel : Nat) (l : L), dueLoopX 0 prng fuel l = dueLoop fuel l
  | 0, _ => rfl
  | fuel + 1, l => by
    unfold dueLoopX dueLoop
    cases l.q.nodes with
    | nil => rfl
    | cons h t =>
      simp only []
      split
      · cases popNext (h :: t) with
        | none => rfl
        | some p => simp only [retransmitX_zero, dueLoopX_zero prng fuel]
      · rfl

/-- the node `coap_send_internal` makes of a PDU -/
def sendNode (se : Sess) (s : Nat) (con : Bool) (mid r tok : Nat) : Node :=
  { sess := s, mid := mid, t := 0, timeout := if con then calcTimeout se.atI se.atF se.arfI se.arfF r else 0,
    cnt := 0, tok := tok, con := con }

/-- the four ways through `sendCore`: refused as a duplicate, held, a Non-confirmable sent, a Confirmable sent and queued -/
theorem sendCore_cases (l : L) (s : Nat) (con : Bool) (mid r tok : Nat) :
    (gate (l.getS s) con = true ∧ sendCore l s con mid r tok = (l, none)) ∨
    (gate (l.getS s) con = true ∧ sendCore l s con mid r tok =
      (l.setS s { (l.getS s) with delayq := (l.getS s).delayq ++ [sendNode (l.getS s) s con mid r tok] }, some mid)) ∨
    (gate (l.getS s) con = false ∧ con = false ∧
      sendCore l s con mid r tok = (l.emit (.tx l.now s mid 0 false), some mid)) ∨
    (gate (l.getS s) con = false ∧ con = true ∧ sendCore l s con mid r tok =
      (waitAck ((l.emit (.tx l.now s mid 0 true)).setS s { (l.getS s) with conActive := ((l.getS s).conActive + 1) % 256 })
        (sendNode (l.getS s) s true mid r tok), some mid)) := by
  unfold sendCore
  simp only []
  cases gate (l.getS s) con
  · cases con
    · exact .inr (.inr (.inl ⟨rfl, rfl, rfl⟩))
    · exact .inr (.inr (.inr ⟨rfl, rfl, rfl⟩))
  · cases (l.getS s).delayq.any fun x => x.mid = mid
    · exact .inr (.inl ⟨rfl, rfl⟩)
    · exact .inl ⟨rfl, rfl⟩

theorem sendCore_mid (l : L) (s : Nat) (con : Bool) (mid r tok : Nat) : Mid s 0 l (sendCore l s con mid r tok).1 := by
  rcases sendCore_cases l s con mid r tok with ⟨_, e⟩ | ⟨_, e⟩ | ⟨_, _, e⟩ | ⟨hg, hc, e⟩ <;> rw [e]
  · exact Mid.refl s l
  · exact ⟨Frame.setS _ _ _, fun h => SInv.setS (fun hlt => h hlt),
      fun hs => Star.single (DqStep.push _ (by rw [getS_setS_same hs]) rfl (by simp))⟩
  · exact (Mid.refl s l).emit _
  · refine ⟨((Frame.emit _ _ _).trans (Frame.setS _ _ _)).trans (Frame.waitAck (s := s) _ rfl rfl), fun h => ?_,
      fun hs => (((DqSame.emit _ _ _).trans (DqSame.setS_keep (by exact hs) s (by rfl))).trans (DqSame.waitAck _ _ _)).star⟩
    apply SInv.waitAck rfl
    apply SInv.setS
    intro hlt
    have := h hlt
    simp [gate, hc] at hg
    simp only [inflight_emit]
    omega

/-- the three ways through `coap_retransmit`: the node goes back to the send queue and from there to the delay queue
(`coap_session_delay_pdu`), it is sent again, or it is given up -/
theorem retransmitX_cases (pt prng : Nat) (l : L) (n : Node) :
    (∃ d, n.cnt < (l.getS n.sess).maxRtx ∧
      gate { (l.getS n.sess) with conActive := (l.getS n.sess).conActive - 1 } n.con = true ∧
      retransmitX pt prng l n = L.setS (dly l (enqueue l.q l.now d { n with cnt := (n.cnt + 1) % 256 }) n.sess n.mid) n.sess
        { (l.getS n.sess) with conActive := (l.getS n.sess).conActive - 1, delayq := (l.getS n.sess).delayq ++ [{ n with t := 0, cnt := (n.cnt + 1) % 256 }] }) ∨
    (∃ d, n.cnt < (l.getS n.sess).maxRtx ∧
      gate { (l.getS n.sess) with conActive := (l.getS n.sess).conActive - 1 } n.con = false ∧
      retransmitX pt prng l n =
        (L.emit { l with q := enqueue l.q l.now d { n with cnt := (n.cnt + 1) % 256 } }
          (.tx l.now n.sess n.mid ((n.cnt + 1) % 256) n.con)).setS n.sess
        { (l.getS n.sess) with conActive :=
            if n.con then ((l.getS n.sess).conActive - 1 + 1) % 256 else (l.getS n.sess).conActive - 1 }) ∨
    (¬ n.cnt < (l.getS n.sess).maxRtx ∧
      retransmitX pt prng l n =
        if n.con then (release l n.sess).emit (.nack (release l n.sess).now n.sess .retries n.mid true)
        else release l n.sess) := by
  unfold retransmitX
  simp only []
  by_cases hc : n.cnt < (l.getS n.sess).maxRtx
  · rw [if_pos hc]
    cases hg : gate { (l.getS n.sess) with conActive := (l.getS n.sess).conActive - 1 } n.con
    · exact .inr (.inl ⟨_, hc, rfl, rfl⟩)
    · exact .inl ⟨_, hc, rfl, rfl⟩
  · rw [if_neg hc]
    exact .inr (.inr ⟨hc, rfl⟩)

theorem retransmitX_ok (pt prng : Nat) (l : L) (n : Node) (hc : n.con = true) :
    Frame n.sess l (retransmitX pt prng l n) ∧ (SInv l n.sess 1 → SInv (retransmitX pt prng l n) n.sess 0) := by
  rcases retransmitX_cases pt prng l n with ⟨d, _, _, e⟩ | ⟨d, _, hg, e⟩ | ⟨_, e⟩ <;> rw [e]
  · exact delay_path l d { n with cnt := (n.cnt + 1) % 256 } _ hc ⟨rfl, rfl⟩
  · refine ⟨((Frame.enq (s := n.sess) (n := { n with cnt := (n.cnt + 1) % 256 }) _ _ _ rfl hc).trans
      (Frame.emit _ _ _)).trans (Frame.setS _ _ _), fun h => ?_⟩
    apply SInv.setS
    intro hlt
    have h0 := h hlt
    simp [gate, hc] at hg
    rw [inflight_emit, inflight_enq]
    simp only [hc, if_true]
    omega
  · rw [if_pos hc]
    have hr := release_mid l n.sess
    exact ⟨hr.frame.trans (Frame.emit _ _ _), fun h => (SInv_emit _ _ _ _).mpr (hr.sinv h)⟩

theorem retransmitX_len (pt prng : Nat) (l : L) (n : Node) : (retransmitX pt prng l n).sess.length = l.sess.length := by
  rcases retransmitX_cases pt prng l n with ⟨d, _, _, e⟩ | ⟨d, _, _, e⟩ | ⟨_, e⟩ <;> rw [e]
  · exact setS_len _ _ _
  · exact setS_len _ _ _
  · split
    · exact (release_mid _ _).frame.len
    · exact (release_mid _ _).frame.len

theorem retransmitX_star (pt prng : Nat) (l : L) (n : Node) (s : Nat) (hs : s < l.sess.length) :
    Star (DqStep s) l (retransmitX pt prng l n) := by
  rcases retransmitX_cases pt prng l n with ⟨d, _, _, e⟩ | ⟨d, _, _, e⟩ | ⟨_, e⟩ <;> rw [e]
  · exact Star.trans (DqSame.mk_q s l _).star (Star.single (DqStep.setS_push (l := dly l _ n.sess n.mid) hs n.sess _ rfl))
  · refine (((DqSame.mk_q s l _).trans (DqSame.emit _ _ _)).trans (DqSame.setS_keep ?_ n.sess (by rfl))).star
    exact hs
  · split
    · exact ((release_mid l n.sess).stars s hs).trans (DqSame.emit _ _ _).star
    · exact (release_mid l n.sess).stars s hs

end Coap.MsgX

namespace Coap.Msg
open Coap.SQ

theorem nackAll_eq (s : Nat) (r : Reason) : ∀ (ns : List Node) (l : L), nackAll l s r ns =
    { l with out := ((ns.filter (·.con)).reverse.map fun n => Out.nack l.now s r n.mid true) ++ l.out }
  | [], l => by simp [nackAll]
  | n :: ns, l => by
    unfold nackAll
    rw [nackAll_eq s r ns]
    cases hc : n.con <;> simp [hc, L.emit]

@[simp] theorem nackAll_sess (l : L) (s : Nat) (r : Reason) (ns : List Node) :
    (nackAll l s r ns).sess = l.sess := by rw [nackAll_eq]
@[simp] theorem nackAll_q (l : L) (s : Nat) (r : Reason) (ns : List Node) :
    (nackAll l s r ns).q = l.q := by rw [nackAll_eq]
@[simp] theorem nackAll_now (l : L) (s : Nat) (r : Reason) (ns : List Node) :
    (nackAll l s r ns).now = l.now := by rw [nackAll_eq]
theorem nackAll_getS (l : L) (s : Nat) (r : Reason) (ns : List Node) (s' : Nat) :
    (nackAll l s r ns).getS s' = l.getS s' := by rw [nackAll_eq]; rfl
theorem nackAll_out (l : L) (s : Nat) (r : Reason) (ns : List Node) :
    (nackAll l s r ns).out =
      ((ns.filter (·.con)).reverse.map fun n => Out.nack l.now s r n.mid true) ++ l.out := by
  rw [nackAll_eq]

/-- the first half of `disconnect`: only NACKs are emitted -/
def discHead (l : L) (s : Nat) : L :=
  let se := l.getS s
  let first := l.q.nodes.find? (fun n => n.sess = s)
  let l := match first with
    | some n => l.emit (.nack l.now s .undeliv n.mid true)
    | none => l
  let l := nackAll l s .undeliv se.delayq
  let sentNack := first.isSome || se.delayq.any (·.con)
  if sentNack then l else l.emit (.nack l.now s .undeliv 0 false)

def discTail (l : L) (s : Nat) (se : Sess) : L :=
  let l := l.setS s { se with est := true, conActive := 0, delayq := [] }
  let (gone, rest) := cancelSession l.q.nodes s
  let l := { l with q := { l.q with nodes := rest } }
  let l := nackAll l s .undeliv gone
  l.setS s { (l.getS s) with sockOpen := false }

theorem disconnect_eq (l : L) (s : Nat) : disconnect l s = discTail (discHead l s) s (l.getS s) := rfl

theorem Frame.nackAll (s0 : Nat) (l : L) (s : Nat) (r : Reason) (ns : List Node) :
    Frame s0 l (nackAll l s r ns) := by
  rw [nackAll_eq]; exact ⟨rfl, id, fun _ _ => ⟨rfl, rfl⟩⟩

theorem DqSame.nackAll (s : Nat) (l : L) (s' : Nat) (r : Reason) (ns : List Node) :
    DqSame s l (nackAll l s' r ns) := by rw [nackAll_eq]; exact ⟨rfl, rfl⟩
/-- `pre`: the NACK for the first queued message of the session, if any; `post0`: the one that says nothing was pending -/
theorem discHead_eq (l : L) (s : Nat) : ∃ pre post0 : List Out,
    discHead l s = { l with out := post0 ++ (((l.getS s).delayq.filter (·.con)).reverse.map
      (fun n => Out.nack l.now s .undeliv n.mid true)) ++ pre ++ l.out } ∧
    pre.length ≤ 1 ∧ ∀ o ∈ post0, o = Out.nack l.now s .undeliv 0 false := by
  unfold discHead
  simp only []
  cases l.q.nodes.find? (fun n => decide (n.sess = s)) with
  | none =>
    simp only []
    split
    · exact ⟨[], [], by simp [nackAll_eq], by simp, by simp⟩
    · exact ⟨[], [Out.nack l.now s .undeliv 0 false], by simp [nackAll_eq, L.emit], by simp, by simp⟩
  | some n =>
    simp only []
    split
    · exact ⟨[Out.nack l.now s .undeliv n.mid true], [], by simp [nackAll_eq, L.emit], by simp, by simp⟩
    · exact ⟨[Out.nack l.now s .undeliv n.mid true], [Out.nack l.now s .undeliv 0 false],
        by simp [nackAll_eq, L.emit], by simp, by simp⟩

theorem discHead_frame (l : L) (s : Nat) : Frame s l (discHead l s) := by
  obtain ⟨pre, post0, e, _⟩ := discHead_eq l s
  rw [e]
  exact ⟨rfl, id, fun _ _ => ⟨rfl, rfl⟩⟩

theorem cancel_frame (l : L) (s : Nat) :
    Frame s l { l with q := { l.q with nodes := (cancelSession l.q.nodes s).2 } } ∧
    inflight { l with q := { l.q with nodes := (cancelSession l.q.nodes s).2 } } s = 0 := by
  refine ⟨⟨rfl, fun h => ?_, fun s' hs' => ⟨rfl, ?_⟩⟩, ?_⟩
  · unfold AllCon at *
    simp only [cancelSession, countP_cancelAux (fun n => !n.con) tstable_ncon]
    have := List.countP_mono_left (l := l.q.nodes) (p := fun n => !n.con && !decide (n.sess = s))
      (q := fun n => !n.con) (fun x _ hx => by simp at hx ⊢; exact hx.1)
    omega
  · rw [inflight_eq, inflight_eq]
    simp only [cancelSession, countP_cancelAux (fun n => decide (n.sess = s')) (tstable_sess s')]
    apply List.countP_congr
    intro x _
    simp
    intro hx; rw [hx]; exact hs'
  · rw [inflight_eq]
    simp only [cancelSession, countP_cancelAux (fun n => decide (n.sess = s)) (tstable_sess s)]
    rw [List.countP_eq_zero]
    intro a _; simp

theorem discTail_ok (l : L) (s : Nat) (se : Sess) :
    Frame s l (discTail l s se) ∧ (se.nstart ≤ 255 → SInv (discTail l s se) s 0) := by
  unfold discTail
  simp only []
  have hc := cancel_frame (l.setS s { se with est := true, conActive := 0, delayq := [] }) s
  refine ⟨(((Frame.setS _ _ _).trans hc.1).trans (Frame.nackAll _ _ _ _ _)).trans (Frame.setS _ _ _), fun hn => ?_⟩
  apply SInv.setS
  intro hlt
  simp only [nackAll_sess, setS_len] at hlt
  have e1 : ∀ l' : L, inflight (nackAll l' s .undeliv
      (cancelSession (l.setS s { se with est := true, conActive := 0, delayq := [] }).q.nodes s).1) s
      = inflight l' s := fun l' => by rw [nackAll_eq]; rfl
  rw [e1, hc.2]
  rw [nackAll_getS]
  show ((l.setS s _).getS s).conActive = 0 + 0 ∧ 0 + 0 ≤ ((l.setS s _).getS s).nstart ∧
    ((l.setS s _).getS s).nstart ≤ 255
  rw [getS_setS_same hlt]
  exact ⟨rfl, Nat.zero_le _, hn⟩

theorem disconnect_frame (l : L) (s : Nat) : Frame s l (disconnect l s) :=
  (discHead_frame l s).trans (discTail_ok _ s _).1

/-! ### what `disconnect` reports -/

theorem discTail_out (l : L) (s : Nat) (se : Sess) :
    (discTail l s se).out = (((cancelSession l.q.nodes s).1.filter (·.con)).reverse.map
      (fun n => Out.nack l.now s .undeliv n.mid true)) ++ l.out := by
  unfold discTail
  simp [nackAll_out]

theorem discTail_getS (l : L) (s : Nat) (se : Sess) (hlt : s < l.sess.length) :
    (discTail l s se).getS s = { se with est := true, conActive := 0, delayq := [], sockOpen := false } := by
  unfold discTail
  simp only []
  rw [getS_setS_same (by simpa using hlt)]
  simp only [nackAll_getS]
  show { ((l.setS s _).getS s) with sockOpen := false } = _
  rw [getS_setS_same hlt]

theorem disconnect_getS (l : L) (s : Nat) (hlt : s < l.sess.length) :
    (disconnect l s).getS s = { (l.getS s) with est := true, conActive := 0, delayq := [], sockOpen := false } := by
  rw [disconnect_eq]
  exact discTail_getS _ s _ ((discHead_frame l s).len ▸ hlt)

theorem disconnect_out (l : L) (s : Nat) (hlt : s < l.sess.length) : ∃ pre post : List Out,
    (disconnect l s).out = post ++ (((l.getS s).delayq.filter (·.con)).reverse.map
      (fun n => Out.nack l.now s .undeliv n.mid true)) ++ pre ++ l.out ∧
    ((disconnect l s).getS s).delayq = [] ∧ pre.length ≤ 1 ∧
    (∀ o ∈ post, (∃ n ∈ l.q.nodes, n.sess = s ∧ o = Out.nack l.now s .undeliv n.mid true) ∨
      o = Out.nack l.now s .undeliv 0 false) := by
  obtain ⟨pre, post0, e, hpre, hpost0⟩ := discHead_eq l s
  rw [disconnect_eq, e]
  refine ⟨pre, (((cancelSession l.q.nodes s).1.filter (·.con)).reverse.map
      (fun n => Out.nack l.now s .undeliv n.mid true)) ++ post0, ?_, congrArg Sess.delayq (discTail_getS _ s _ (by exact hlt)), hpre, ?_⟩
  · rw [discTail_out]; simp
  · intro o ho
    rw [List.mem_append] at ho
    rcases ho with ho | ho
    · left
      simp only [List.mem_map, List.mem_reverse, List.mem_filter] at ho
      obtain ⟨n, ⟨hn, _⟩, rfl⟩ := ho
      have hg := gone_cancelAux (fun n => (n.mid, n.con)) (fun _ _ => rfl) l.q.nodes s 0
      have : (n.mid, n.con) ∈ (cancelSessionAux l.q.nodes s 0).1.map (fun n => (n.mid, n.con)) :=
        List.mem_map.mpr ⟨n, hn, rfl⟩
      rw [hg] at this
      simp only [List.mem_map, List.mem_filter] at this
      obtain ⟨m, ⟨hm, hms⟩, hmn⟩ := this
      refine ⟨m, hm, by simpa using hms, ?_⟩
      have : m.mid = n.mid := by simpa using congrArg Prod.fst hmn
      rw [this]
    · right; exact hpost0 o ho

/-- whatever the accounting of the failed session was (`k`), it is exact afterwards -/
theorem disconnect_mid {k : Nat} (l : L) (s : Nat) : Mid s k l (disconnect l s) := by
  have hf := disconnect_frame l s
  refine ⟨hf, fun h hlt => (discTail_ok (discHead l s) s (l.getS s)).2 (h (hf.len ▸ hlt)).2.2 hlt, fun hs => ?_⟩
  obtain ⟨pre, post, hout, hdq, hpre, hpost⟩ := disconnect_out l s hs
  exact Star.single (DqStep.clear hdq ⟨pre, post, hout, hpre, hpost⟩ hf.len)

/-! ### whole calls -/

/-- what every function of the message layer, from the branches of `coap_dispatch` upwards, does to the state -/
structure Reach (l l' : L) : Prop where
  wf : WF l → WF l'
  len : l'.sess.length = l.sess.length
  star : ∀ s, s < l.sess.length → Star (DqStep s) l l'

theorem Reach.refl (l : L) : Reach l l := ⟨id, rfl, fun _ _ => Star.refl⟩

theorem Reach.trans {a b c : L} (h1 : Reach a b) (h2 : Reach b c) : Reach a c :=
  ⟨fun h => h2.wf (h1.wf h), h2.len.trans h1.len, fun s hs => (h1.star s hs).trans (h2.star s (h1.len ▸ hs))⟩

theorem Reach.emit (l : L) (o : Out) : Reach l (l.emit o) := ⟨id, rfl, fun s _ => (DqSame.emit s l o).star⟩

theorem Mid.reach {s : Nat} {l l' : L} (h : Mid s 0 l l') : Reach l l' :=
  ⟨fun hw => hw.of_frame h.frame (h.sinv (hw.sinv s)), h.frame.len, h.stars⟩

theorem Reach.acct {l l' : L} (r : Reach l l') (hw : WF l) {s : Nat} (hs : s < l.sess.length) :
    (l'.getS s).conActive = inflight l' s ∧ inflight l' s ≤ (l'.getS s).nstart :=
  have h := (r.wf hw).2 s (r.len ▸ hs)
  ⟨h.1, h.2.1⟩

theorem connectedK_reach (k : Nat) (l : L) (s : Nat) : Reach l (connectedK k l s) := (connectedK_mid k l s).reach

theorem connected_reach (l : L) (s : Nat) : Reach l (connected l s) := connectedK_reach _ l s

theorem finish_reach (k : Nat) {l : L} {n : Node} {rest : List Node} (hwo : Without l.q.nodes n rest) :
    Reach l (releaseK k { l with q := { l.q with nodes := rest } } n.sess) := by
  obtain ⟨hf, hs, _⟩ := hwo.frame_sinv
  have hr := releaseK_mid k { l with q := { l.q with nodes := rest } } n.sess
  exact ⟨fun h => h.of_frame (hf.trans hr.frame) (hr.sinv (hs 0 (h.sinv _))), (hf.trans hr.frame).len,
    fun s hs' => (DqSame.mk_q s l _).star.trans (hr.stars s hs')⟩

theorem disconnect_reach (l : L) (s : Nat) : Reach l (disconnect l s) := (disconnect_mid l s).reach

/-! ### the branches of `coap_dispatch`, walked once for every property -/

/-- `P` survives what the branches of `coap_dispatch` do to the state: an output; a node under `R` (the nodes this arrival may
conclude) leaves the send queue and its slot is released (a Non-confirmable has none: under `WF` there is none in the queue) -/
structure Disp (R : Node → Prop) (P : L → Prop) : Prop where
  emit : ∀ l o, P l → P (l.emit o)
  finish : ∀ l n rest, P l → Without l.q.nodes n rest → R n → P (release { l with q := { l.q with nodes := rest } } n.sess)
  dropNon : ∀ l n rest, P l → Without l.q.nodes n rest → R n → n.con = false → P { l with q := { l.q with nodes := rest } }

variable {R : Node → Prop} {P Q : L → Prop}

namespace Disp

theorem and (D : Disp R P) (E : Disp R Q) : Disp R (fun l => P l ∧ Q l) :=
  ⟨fun l o h => ⟨D.emit l o h.1, E.emit l o h.2⟩,
    fun l n rest h hwo hn => ⟨D.finish l n rest h.1 hwo hn, E.finish l n rest h.2 hwo hn⟩,
    fun l n rest h hwo hn hc => ⟨D.dropNon l n rest h.1 hwo hn hc, E.dropNon l n rest h.2 hwo hn hc⟩⟩

theorem rxAck {s mid : Nat} (D : Disp (fun n => n.sess = s ∧ n.mid = mid) P) (l : L) (h : P l) : P (Msg.rxAck l s mid) := by
  unfold Msg.rxAck
  rcases removeNode_cases l.q.nodes s mid with e | ⟨n, rest, e, rfl, h2, hwo⟩ <;> rw [e]
  · exact h
  · exact D.finish l n rest h hwo ⟨rfl, h2⟩

theorem rxRst {s mid : Nat} (D : Disp (fun n => n.sess = s ∧ n.mid = mid) P) (l : L) (h : P l) : P (Msg.rxRst l s mid) := by
  unfold Msg.rxRst
  rcases removeNode_cases l.q.nodes s mid with e | ⟨n, rest, e, rfl, h2, hwo⟩ <;> rw [e] <;> dsimp only
  · exact D.emit _ _ h
  · have hf := D.finish l n rest h hwo ⟨rfl, h2⟩
    exact ite_ind (fun _ => D.emit _ _ hf) fun _ => hf

theorem rxBad {s mid : Nat} (D : Disp (fun n => n.sess = s ∧ n.mid = mid) P) (l : L) (h : P l) : P (Msg.rxBad l s mid) := by
  unfold Msg.rxBad
  rcases removeNode_cases l.q.nodes s mid with e | ⟨n, rest, e, rfl, h2, hwo⟩ <;> rw [e]
  · exact h
  · exact D.emit _ _ (D.finish l n rest h hwo ⟨rfl, h2⟩)

theorem cancelToken {s tok : Nat} (D : Disp (fun n => n.sess = s ∧ n.tok = tok) P) :
    ∀ (fuel : Nat) (l : L), P l → P (Msg.cancelToken fuel l s tok)
  | 0, _, h => h
  | fuel + 1, l, h => by
    unfold Msg.cancelToken
    split
    · exact h
    · rename_i n rest hr
      apply cancelToken D fuel
      obtain ⟨rfl, h2, hwo⟩ := removeTok_some _ _ _ _ _ hr
      cases hc : n.con
      · exact D.dropNon l n rest h hwo ⟨rfl, h2⟩ hc
      · exact D.finish l n rest h hwo ⟨rfl, h2⟩

end Disp

theorem reach_disp (l0 : L) : Disp R (Reach l0) where
  emit _ _ h := h.trans (Reach.emit _ _)
  finish _ _ _ h hwo _ := h.trans (finish_reach _ hwo)
  dropNon l _ _ h hwo _ hc := h.trans
    ⟨fun hw => absurd (hw.1.mem hwo.1) (by simp [hc]), rfl, fun s' _ => (DqSame.mk_q s' l _).star⟩

theorem wf_disp : Disp R WF where
  emit _ _ h := h
  finish _ _ _ h hwo _ := (finish_reach _ hwo).wf h
  dropNon _ _ _ h hwo _ hc := absurd (h.1.mem hwo.1) (by simp [hc])

/-- an arrival on session `s0` touches no other session -/
theorem frame_disp (s0 : Nat) (l0 : L) (hR : ∀ n, R n → n.sess = s0) : Disp R (Frame s0 l0) where
  emit _ _ h := h.trans (Frame.emit _ _ _)
  finish _ n _ h hwo hn := h.trans (hR n hn ▸ (hwo.frame_sinv).1.trans (release_mid _ _).frame)
  dropNon _ n _ h hwo hn _ := h.trans (hR n hn ▸ (hwo.frame_sinv).1)

namespace Ev

/-- the nodes an event may take out of the send queue for good (a give-up happens inside the due loop) -/
def gone : Ev → Node → Prop
  | .rxAck s m => fun n => n.sess = s ∧ n.mid = m
  | .rxRst s m => fun n => n.sess = s ∧ n.mid = m
  | .rxBad s m => fun n => n.sess = s ∧ n.mid = m
  | .rxNon s _ tok => fun n => n.sess = s ∧ n.tok = tok
  | _ => fun _ => False

def fails : Ev → Nat → Prop
  | .disconnect s => fun s' => s' = s
  | _ => fun _ => False

end Ev

end Coap.Msg

namespace Coap.MsgX
open Coap.SQ Coap.Msg

theorem sendCore_reach (l : L) (s : Nat) (con : Bool) (mid r tok : Nat) : Reach l (sendCore l s con mid r tok).1 :=
  (sendCore_mid l s con mid r tok).reach

theorem popRetransmitX_reach (pt prng : Nat) {l : L} {n : Node} {rest : List Node}
    (hp : popNext l.q.nodes = some (n, rest)) :
    Reach l (retransmitX pt prng { l with q := { l.q with nodes := rest } } n) := by
  obtain ⟨hf, hs, hcon⟩ := (without_popNext hp).frame_sinv
  refine ⟨fun h => ?_, retransmitX_len .., fun s hs' => (DqSame.mk_q s l _).star.trans (retransmitX_star _ _ _ n s hs')⟩
  have hr := retransmitX_ok pt prng { l with q := { l.q with nodes := rest } } n (hcon h.1)
  exact h.of_frame (hf.trans hr.1) (hr.2 (hs 0 (h.sinv _)))

theorem dueLoopX_inv {P : L → Prop} (pt prng : Nat)
    (retx : ∀ l n rest, P l → popNext l.q.nodes = some (n, rest) →
      P (retransmitX pt prng { l with q := { l.q with nodes := rest } } n)) :
    ∀ (fuel : Nat) (l : L), P l → P (dueLoopX pt prng fuel l)
  | 0, _, h => h
  | fuel + 1, l, h => by
    unfold dueLoopX
    split
    · exact h
    · split
      · split
        · exact h
        · rename_i n rest hp
          exact dueLoopX_inv pt prng retx fuel _ (retx l n rest h hp)
      · exact h

theorem afterRx_inv {P : L → Prop} (retx : ∀ l n rest, P l → popNext l.q.nodes = some (n, rest) →
      P (retransmit { l with q := { l.q with nodes := rest } } n)) (l : L) (h : P l) : P (afterRx l) := by
  unfold afterRx
  rw [prepareCore_fst, ← dueLoopX_zero 0]
  exact dueLoopX_inv 0 0 (fun l n rest h hp => retransmitX_zero 0 _ n ▸ retx l n rest h hp) _ _ h

/-! ### the events, walked once for every property -/

/-- `P` survives what the events of both models are made of: the branches of `coap_dispatch` (`R`: the nodes the event may
conclude), the clock, a session put on hold, `coap_send_internal` (of the application's message or of a keepalive ping), a due node
going through `coap_retransmit`, `coap_session_connected`, the failure of a session under `F` -/
structure EvtX (R : Node → Prop) (F : Nat → Prop) (P : L → Prop) : Prop extends Disp R P where
  now : ∀ l t, P l → P { l with now := t }
  hold : ∀ l s, P l → P (l.setS s { (l.getS s) with est := false })
  send : ∀ l s con mid r tok, P l → P (sendCore l s con mid r tok).1
  retx : ∀ pt prng l n rest, P l → popNext l.q.nodes = some (n, rest) →
    P (retransmitX pt prng { l with q := { l.q with nodes := rest } } n)
  connected : ∀ l s, P l → P (connected l s)
  fail : ∀ l s, P l → F s → P (disconnect l s)

variable {R : Node → Prop} {F : Nat → Prop} {P : L → Prop}

namespace EvtX

theorem submitT (E : EvtX R F P) (l : L) (s : Nat) (con : Bool) (mid r tok : Nat) (h : P l) : P (MsgX.submitT l s con mid r tok) :=
  ite_ind (fun _ => E.emit _ _ h) fun _ => E.emit _ _ (E.send l s con mid r tok h)

theorem afterRx (E : EvtX R F P) (l : L) (h : P l) : P (Msg.afterRx l) :=
  afterRx_inv (fun l n rest h hp => retransmitX_zero 0 _ n ▸ E.retx 0 0 l n rest h hp) l h

theorem step {e : Ev} (E : EvtX e.gone e.fails P) (l : L) (h : P l) : P (Msg.step l e) := by
  have rx : ∀ {l1 : L} (s : Nat), P l1 → P (if (l.getS s).sockOpen then Msg.afterRx l1 else l) :=
    fun s h1 => ite_ind (fun _ => E.afterRx _ h1) fun _ => h
  cases e with
  | setNow t => exact E.now l t h
  | submit s con mid r => show P (submit l s con mid r); rw [← submitT_eq_submit]; exact E.submitT l s con mid r mid h
  | prepare => show P (Msg.prepare l); rw [prepare_eq]; exact E.emit _ _ (E.afterRx l h)
  | rxAck s mid => exact rx s (E.toDisp.rxAck l h)
  | rxRst s mid => exact rx s (E.toDisp.rxRst l h)
  | rxNon s mid tok => exact rx s (E.emit _ _ (E.toDisp.cancelToken _ l h))
  | rxBad s mid => exact rx s (E.toDisp.rxBad l h)
  | hold s => exact E.hold l s h
  | connect s => exact E.connected l s h
  | disconnect s => exact ite_ind (fun _ => E.fail l s h rfl) fun _ => h

theorem run (E : ∀ e, EvtX (Ev.gone e) (Ev.fails e) P) (evs : List Ev) (l : L) (h : P l) : P (Msg.run l evs) :=
  foldl_inv P (fun l e h => (E e).step l h) evs l h

end EvtX

theorem reach_evtX (l0 : L) : EvtX R F (Reach l0) where
  toDisp := reach_disp l0
  now l t h := h.trans ⟨id, rfl, fun s _ => (show DqSame s l { l with now := t } from ⟨rfl, rfl⟩).star⟩
  hold l s h := h.trans (Mid.est l s false).reach
  send l s con mid r tok h := h.trans (sendCore_reach l s con mid r tok)
  retx pt prng _ _ _ h hp := h.trans (popRetransmitX_reach pt prng hp)
  connected l s h := h.trans (connected_reach l s)
  fail l s h _ := h.trans (disconnect_reach l s)

end Coap.MsgX

namespace Coap.Msg
open Coap.SQ

theorem step_reach (l : L) (e : Ev) : Reach l (step l e) := (MsgX.reach_evtX l).step l (Reach.refl l)

theorem run_reach (evs : List Ev) (l : L) : Reach l (run l evs) :=
  MsgX.EvtX.run (fun _ => MsgX.reach_evtX l) evs l (Reach.refl l)

theorem wf_step (l : L) (e : Ev) (h : WF l) : WF (step l e) := (step_reach l e).wf h

theorem wf_run (evs : List Ev) (l : L) (h : WF l) : WF (run l evs) := (run_reach evs l).wf h
theorem run_len (evs : List Ev) (l : L) : (run l evs).sess.length = l.sess.length := (run_reach evs l).len

/-! ### `Kept`: what survives the primitives survives the branches of `coap_dispatch`, hence every event but a clock move -/

section kept
variable {R Q : Node → Prop} {I : L → Prop} (K : Kept Q I)
include K

namespace Kept

theorem disp : Disp R I where
  emit := K.emit
  finish l _ rest h hwo _ := kept_release K _ _ (K.nodes l rest h (hwo.all K.stable.tfree (K.queue l h)) hwo.sub)
  dropNon l _ rest h hwo _ _ := K.nodes l rest h (hwo.all K.stable.tfree (K.queue l h)) hwo.sub

end Kept

theorem kept_afterRx (l : L) (h : I l) : I (afterRx l) :=
  MsgX.afterRx_inv (fun l n rest h hp =>
    have := all_popNext K.stable.tfree l.q.nodes n rest hp (K.queue l h)
    kept_retransmit K _ n (K.nodes l rest h this.2 (subQ_popNext hp)) this.1) l h

theorem kept_step (l : L) (ev : Ev) (h : I l) (hset : ∀ t, ev = .setNow t → I { l with now := t })
    (hn : ∀ s con mid r, ev = .submit s con mid r → Q (Pdu.fresh l s con mid r)) : I (step l ev) := by
  have rx : ∀ {l1 : L} (s : Nat), I l1 → I (if (l.getS s).sockOpen then afterRx l1 else l) :=
    fun s h1 => ite_ind (fun _ => kept_afterRx K _ h1) fun _ => h
  cases ev with
  | setNow t => exact hset t rfl
  | submit s con mid r => exact kept_submit K _ _ _ _ _ h (hn s con mid r rfl)
  | prepare => exact K.emit _ _ (kept_afterRx K l h)
  | rxAck s mid => exact rx s (K.disp.rxAck l h)
  | rxRst s mid => exact rx s (K.disp.rxRst l h)
  | rxNon s mid tok => exact rx s (K.emit _ _ (K.disp.cancelToken _ l h))
  | rxBad s mid => exact rx s (K.disp.rxBad l h)
  | hold s => exact K.setS l s _ h (K.delayq l s h)
  | connect s => exact kept_connected K _ _ h
  | disconnect s => exact ite_ind (fun _ => kept_disconnect K _ _ h) (fun _ => h)

end kept

theorem run_outs (evs : List Ev) (l : L) : ∃ new, (run l evs).out = new ++ l.out := by
  induction evs generalizing l with
  | nil => exact ⟨[], rfl⟩
  | cons ev evs ih =>
    obtain ⟨a, ha⟩ := kept_step (kept_outs l.out) l ev ⟨[], rfl⟩ (fun _ _ => ⟨[], rfl⟩) (fun _ _ _ _ _ => trivial)
    obtain ⟨b, hb⟩ := ih (step l ev)
    exact ⟨b ++ a, by rw [run, List.foldl_cons, ← run, hb, ha, List.append_assoc]⟩

theorem baseOk_run (evs : List Ev) (l : L) (h : BaseOk l) (hm : Mono l evs) : BaseOk (run l evs) := by
  induction evs generalizing l with
  | nil => exact h
  | cons ev evs ih =>
    refine ih _ (kept_step kept_baseOk l ev h ?_ (fun _ _ _ _ _ => trivial)) hm.2
    rintro t rfl
    exact Nat.le_trans h hm.1

end Coap.Msg
