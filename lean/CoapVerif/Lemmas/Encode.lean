import CoapVerif.Lemmas.Parse
import CoapVerif.Spec.Encode
/- S alone (Spec/Codec against Spec/Encode): the 13/14 scheme is a bijection, messages round-trip on every framing
(`decode_encode`) and what the decoder accepts is the canonical encoding of what it returns (`opts_canonical`, `body_canonical`);
the abstract edits act at one cut of the option list (`insertStable_cut`, `hasOpt_split`) and keep its order. -/
namespace Coap

theorem toNat_ofNat_lt (n : Nat) (h : n < 256) : (UInt8.ofNat n).toNat = n := UInt8.toNat_ofNat_of_lt' h

theorem ofNat_eq_of_toNat {b : UInt8} {n : Nat} (h : n = b.toNat) : UInt8.ofNat n = b := by
  subst h; exact UInt8.ofNat_toNat

theorem nib_lt (v : Nat) : Spec.nib v < 15 := by
  unfold Spec.nib; split
  · omega
  · split <;> omega

theorem nib_of_lt13 {v : Nat} (h : v < 13) : Spec.nib v = v := by simp [Spec.nib, h]
theorem nib_of_lt269 {v : Nat} (h1 : ¬ v < 13) (h2 : v < 269) : Spec.nib v = 13 := by simp [Spec.nib, h1, h2]
theorem nib_of_ge269 {v : Nat} (h2 : ¬ v < 269) : Spec.nib v = 14 := by
  have h1 : ¬ v < 13 := by omega
  simp [Spec.nib, h1, h2]

theorem extBytes_of_lt13 {v : Nat} (h : v < 13) : Spec.extBytes v = [] := by simp [Spec.extBytes, h]
theorem extBytes_of_lt269 {v : Nat} (h1 : ¬ v < 13) (h2 : v < 269) :
    Spec.extBytes v = [UInt8.ofNat (v - 13)] := by simp [Spec.extBytes, h1, h2]
theorem extBytes_of_ge269 {v : Nat} (h2 : ¬ v < 269) :
    Spec.extBytes v = [UInt8.ofNat ((v - 269) / 256), UInt8.ofNat ((v - 269) % 256)] := by
  have h1 : ¬ v < 13 := by omega
  simp [Spec.extBytes, h1, h2]

/-- the 13/14 scheme: decoding the canonical encoding gives the value back -/
theorem ext_roundtrip (v : Nat) (r : Bytes) (h : v ≤ 65804) :
    Spec.ext (Spec.nib v) (Spec.extBytes v ++ r) = some (v, r) := by
  by_cases h1 : v < 13
  · rw [nib_of_lt13 h1, extBytes_of_lt13 h1]
    unfold Spec.ext
    rw [if_pos h1]; rfl
  · by_cases h2 : v < 269
    · rw [nib_of_lt269 h1 h2, extBytes_of_lt269 h1 h2]
      show some ((UInt8.ofNat (v - 13)).toNat + 13, r) = some (v, r)
      rw [toNat_ofNat_lt _ (by omega), Nat.sub_add_cancel (by omega)]
    · rw [nib_of_ge269 h2, extBytes_of_ge269 h2]
      show some ((UInt8.ofNat ((v - 269) / 256)).toNat * 256 + (UInt8.ofNat ((v - 269) % 256)).toNat + 269, r) = some (v, r)
      rw [toNat_ofNat_lt _ (by omega), toNat_ofNat_lt _ (by omega), Nat.div_add_mod', Nat.sub_add_cancel (by omega)]

theorem ext_canonical {n : Nat} {bs r : Bytes} {v : Nat} (h : Spec.ext n bs = some (v, r)) :
    n = Spec.nib v ∧ bs = Spec.extBytes v ++ r ∧ v ≤ 65804 := by
  revert h
  refine ext_forms (P := fun n bs o => o = some (v, r) → n = Spec.nib v ∧ bs = Spec.extBytes v ++ r ∧ v ≤ 65804) n bs
    ?_ ?_ ?_ (fun _ _ _ h => nomatch h)
  · intro n r' hn h
    cases h
    rw [nib_of_lt13 hn, extBytes_of_lt13 hn]
    exact ⟨rfl, rfl, by omega⟩
  · intro a r' h
    cases h
    have hb := byte_lt a
    have h1 : ¬ (a.toNat + 13 < 13) := by omega
    rw [nib_of_lt269 h1 (by omega), extBytes_of_lt269 h1 (by omega), Nat.add_sub_cancel, UInt8.ofNat_toNat]
    exact ⟨rfl, rfl, by omega⟩
  · intro a b r' h
    cases h
    have ha := byte_lt a
    have hb := byte_lt b
    have h2 : ¬ (a.toNat * 256 + b.toNat + 269 < 269) := by omega
    rw [nib_of_ge269 h2, extBytes_of_ge269 h2, Nat.add_sub_cancel,
      show (a.toNat * 256 + b.toNat) / 256 = a.toNat by omega, show (a.toNat * 256 + b.toNat) % 256 = b.toNat by omega,
      UInt8.ofNat_toNat, UInt8.ofNat_toNat]
    exact ⟨rfl, rfl, by omega⟩

theorem extBytes_length (v : Nat) :
    (Spec.extBytes v).length = if v < 13 then 0 else if v < 269 then 1 else 2 := by
  unfold Spec.extBytes
  split
  · rfl
  · split <;> rfl

theorem encOpt_length (d : Nat) (v : Bytes) :
    (Spec.encOpt d v).length = 1 + (Spec.extBytes d).length + (Spec.extBytes v.length).length + v.length := by
  simp [Spec.encOpt]; omega


theorem lastNum_cons (prev : Nat) (o : Nat × Bytes) (os : List (Nat × Bytes)) :
    (((o :: os).getLast?).map (·.1)).getD prev = ((os.getLast?).map (·.1)).getD o.1 := by
  rcases os with _ | ⟨a, l⟩
  · simp
  · rw [List.getLast?_cons_cons]
    cases h : (a :: l).getLast? with
    | none => simp at h
    | some x => simp

theorem encOpts_app (prev : Nat) (os1 os2 : List (Nat × Bytes)) :
    Spec.encOpts prev (os1 ++ os2) = Spec.encOpts prev os1 ++ Spec.encOpts ((os1.getLast?.map (·.1)).getD prev) os2 := by
  induction os1 generalizing prev with
  | nil => simp [Spec.encOpts]
  | cons o os1 ih =>
    rw [lastNum_cons]
    simp only [List.cons_append, Spec.encOpts, ih, List.append_assoc]

theorem encOpts_append (prev : Nat) (os : List (Nat × Bytes)) (n : Nat) (v : Bytes) :
    Spec.encOpts prev (os ++ [(n, v)]) = Spec.encOpts prev os ++ Spec.encOpt (n - (os.getLast?.map (·.1)).getD prev) v := by
  rw [encOpts_app]; simp [Spec.encOpts]

theorem nibbles {a b : Nat} (ha : a < 16) (hb : b < 16) :
    (UInt8.ofNat (a * 16 + b)).toNat / 16 = a ∧ (UInt8.ofNat (a * 16 + b)).toNat % 16 = b := by
  rw [toNat_ofNat_lt (a * 16 + b) (by omega)]; omega

theorem hdr_byte (d l : Nat) :
    UInt8.ofNat (Spec.nib d * 16 + Spec.nib l) ≠ 0xFF ∧
    (UInt8.ofNat (Spec.nib d * 16 + Spec.nib l)).toNat / 16 = Spec.nib d ∧
    (UInt8.ofNat (Spec.nib d * 16 + Spec.nib l)).toNat % 16 = Spec.nib l := by
  have hd := nib_lt d
  have hl := nib_lt l
  obtain ⟨h1, h2⟩ := nibbles (a := Spec.nib d) (b := Spec.nib l) (by omega) (by omega)
  refine ⟨fun h => ?_, h1, h2⟩
  -- 0xFF would have the high nibble 15
  rw [h] at h1
  have : (0xFF : UInt8).toNat / 16 = 15 := rfl
  omega

theorem optsOk_cons (code prev : Nat) (o : Nat × Bytes) (os : List (Nat × Bytes)) :
    Spec.optsOk code prev (o :: os) = true ↔
      prev ≤ o.1 ∧ o.1 ≤ 65535 ∧ o.2.length ≤ 65804 ∧ Spec.optLenOk code o.1 o.2.length = true ∧
        Spec.optsOk code o.1 os = true := by
  simp [Spec.optsOk, and_assoc]

theorem optsOk_sorted (code prev : Nat) (os : List (Nat × Bytes)) (h : Spec.optsOk code prev os = true) :
    os.Pairwise (fun a b => a.1 ≤ b.1) ∧ ∀ o ∈ os, prev ≤ o.1 ∧ o.1 ≤ 65535 ∧ o.2.length ≤ 65804 ∧ Spec.optLenOk code o.1 o.2.length = true := by
  induction os generalizing prev with
  | nil => simp
  | cons o os ih =>
    rw [optsOk_cons] at h
    obtain ⟨h1, h2, h3, h4, h5⟩ := h
    obtain ⟨i1, i2⟩ := ih o.1 h5
    refine ⟨List.pairwise_cons.mpr ⟨fun a ha => (i2 a ha).1, i1⟩, ?_⟩
    intro a ha
    rcases List.mem_cons.mp ha with rfl | ha
    · exact ⟨h1, h2, h3, h4⟩
    · obtain ⟨j1, j2⟩ := i2 a ha
      exact ⟨by omega, j2⟩

theorem optsOk_of_sorted (code prev : Nat) (os : List (Nat × Bytes)) (hs : os.Pairwise (fun a b => a.1 ≤ b.1))
    (ha : ∀ o ∈ os, prev ≤ o.1 ∧ o.1 ≤ 65535 ∧ o.2.length ≤ 65804 ∧ Spec.optLenOk code o.1 o.2.length = true) :
    Spec.optsOk code prev os = true := by
  induction os generalizing prev with
  | nil => rfl
  | cons o os ih =>
    rw [List.pairwise_cons] at hs
    obtain ⟨h1, h2⟩ := hs
    rw [optsOk_cons]
    obtain ⟨a1, a2, a3, a4⟩ := ha o (List.mem_cons_self ..)
    refine ⟨a1, a2, a3, a4, ih o.1 h2 ?_⟩
    intro a hm
    obtain ⟨_, b2⟩ := ha a (List.mem_cons_of_mem _ hm)
    exact ⟨h1 a hm, b2⟩

theorem opts_encOpts (code : Nat) : ∀ (os : List (Nat × Bytes)) (prev fuel : Nat) (rest : Bytes),
    Spec.optsOk code prev os = true → (rest = [] ∨ ∃ t, rest = 0xFF :: t) → os.length < fuel →
    Spec.opts code fuel prev (Spec.encOpts prev os ++ rest) = some (os, rest) := by
  intro os
  induction os with
  | nil =>
    intro prev fuel rest _ hr hf
    obtain ⟨fuel, rfl⟩ : ∃ f, fuel = f + 1 := ⟨fuel - 1, by simp at hf; omega⟩
    rcases hr with rfl | ⟨t, rfl⟩ <;> simp [Spec.encOpts, Spec.opts]
  | cons o os ih =>
    intro prev fuel rest hok hr hf
    obtain ⟨fuel, rfl⟩ : ∃ f, fuel = f + 1 := ⟨fuel - 1, by simp at hf; omega⟩
    rw [optsOk_cons] at hok
    obtain ⟨hp, hn, hl, hlen, hrest⟩ := hok
    obtain ⟨hff, hdn, hln⟩ := hdr_byte (o.1 - prev) o.2.length
    have hE1 := ext_roundtrip (o.1 - prev)
      (Spec.extBytes o.2.length ++ (o.2 ++ (Spec.encOpts o.1 os ++ rest))) (by omega)
    have hE2 := ext_roundtrip o.2.length (o.2 ++ (Spec.encOpts o.1 os ++ rest)) hl
    have hpd : prev + (o.1 - prev) = o.1 := by omega
    have hih := ih o.1 fuel rest hrest hr (by simp at hf; omega)
    simp only [Spec.encOpts, Spec.encOpt, List.cons_append, List.append_assoc, Spec.opts, hff, if_false,
      hdn, hln, hE1, hE2, hpd, List.length_append, List.take_left', List.drop_left', hih]
    simp [hn, hlen]


/-- whatever the option decoder accepts is the canonical encoding of what it returns -/
theorem opts_canonical (code : Nat) : ∀ (fuel prev : Nat) (bs : Bytes) (os : List (Nat × Bytes)) (rest : Bytes),
    Spec.opts code fuel prev bs = some (os, rest) →
    bs = Spec.encOpts prev os ++ rest ∧ Spec.optsOk code prev os = true ∧ (rest = [] ∨ ∃ t, rest = 0xFF :: t) := by
  intro fuel
  induction fuel with
  | zero => intro prev bs os rest h; simp [Spec.opts] at h
  | succ fuel ih =>
    intro prev bs os rest h
    rcases bs with _ | ⟨b, r0⟩
    · simp [Spec.opts] at h
      obtain ⟨rfl, rfl⟩ := h
      simp [Spec.encOpts, Spec.optsOk]
    · by_cases hff : b = 0xFF
      · simp [Spec.opts, hff] at h
        obtain ⟨rfl, rfl⟩ := h
        simp [Spec.encOpts, Spec.optsOk, hff]
      · simp only [Spec.opts, hff, if_false] at h
        cases hE : Spec.ext (b.toNat / 16) r0 with
        | none => simp [hE] at h
        | some p =>
          obtain ⟨d, r1⟩ := p
          simp only [hE] at h
          cases hL : Spec.ext (b.toNat % 16) r1 with
          | none => simp [hL] at h
          | some q =>
            obtain ⟨l, r2⟩ := q
            simp only [hL] at h
            by_cases hc : prev + d ≤ 65535 ∧ l ≤ r2.length ∧ Spec.optLenOk code (prev + d) l = true
            · simp only [hc, and_self, if_true] at h
              cases hR : Spec.opts code fuel (prev + d) (r2.drop l) with
              | none => simp [hR] at h
              | some w =>
                obtain ⟨os', rest'⟩ := w
                simp only [hR, Option.some.injEq, Prod.mk.injEq] at h
                obtain ⟨rfl, rfl⟩ := h
                obtain ⟨hbs, hok, hrest⟩ := ih _ _ _ _ hR
                obtain ⟨hd1, hd2, hd3⟩ := ext_canonical hE
                obtain ⟨hl1, hl2, hl3⟩ := ext_canonical hL
                obtain ⟨hn, hfit, hlen⟩ := hc
                have htl : (r2.take l).length = l := by simp; omega
                refine ⟨?_, ?_, hrest⟩
                · have hb : b = UInt8.ofNat (Spec.nib d * 16 + Spec.nib l) :=
                    (ofNat_eq_of_toNat (by omega)).symm
                  have hr2 : r2 = r2.take l ++ (Spec.encOpts (prev + d) os' ++ rest') := by
                    rw [← hbs, List.take_append_drop]
                  simp only [Spec.encOpts, Spec.encOpt, htl, show prev + d - prev = d by omega,
                    List.cons_append, List.append_assoc]
                  rw [← hr2, ← hl2, ← hd2, ← hb]
                · rw [optsOk_cons]
                  simp only [htl]
                  exact ⟨by omega, hn, hl3, hlen, hok⟩
            · simp [hc] at h


theorem finish_encPayload (pl : Bytes) : Spec.finish (Spec.encPayload pl) = some pl := by
  by_cases h : pl = [] <;> simp [Spec.encPayload, Spec.finish, h]

theorem finish_canonical {rest pl : Bytes} (h : Spec.finish rest = some pl) (hr : rest = [] ∨ ∃ t, rest = 0xFF :: t) :
    rest = Spec.encPayload pl := by
  rcases hr with rfl | ⟨t, rfl⟩
  · simp [Spec.finish] at h; subst h; simp [Spec.encPayload]
  · by_cases ht : t = []
    · simp [Spec.finish, ht] at h
    · simp [Spec.finish, ht] at h; subst h; simp [Spec.encPayload, ht]

theorem encPayload_shape (pl : Bytes) : Spec.encPayload pl = [] ∨ ∃ t, Spec.encPayload pl = 0xFF :: t := by
  by_cases h : pl = []
  · left; simp [Spec.encPayload, h]
  · right; exact ⟨pl, by simp [Spec.encPayload, h]⟩

theorem encOpts_length_ge (prev : Nat) (os : List (Nat × Bytes)) : os.length ≤ (Spec.encOpts prev os).length := by
  induction os generalizing prev with
  | nil => simp
  | cons o os ih =>
    have := ih o.1
    simp only [Spec.encOpts, List.length_append, List.length_cons, encOpt_length]
    omega

theorem body_encode (type code mid : Nat) (tok : Bytes) (os : List (Nat × Bytes)) (pl : Bytes)
    (hc : code ≠ 0) (ht : tok.length ≤ 65804) (ho : Spec.optsOk code 0 os = true) :
    Spec.body type code mid (Spec.nib tok.length) (Spec.encToken tok ++ (Spec.encOpts 0 os ++ Spec.encPayload pl))
      = some ⟨type, code, mid, tok, os, pl⟩ := by
  have hE := ext_roundtrip tok.length (tok ++ (Spec.encOpts 0 os ++ Spec.encPayload pl)) ht
  have hfit : tok.length ≤ (tok ++ (Spec.encOpts 0 os ++ Spec.encPayload pl)).length := by simp
  have hfuel : os.length < (Spec.encToken tok ++ (Spec.encOpts 0 os ++ Spec.encPayload pl)).length + 1 := by
    have := encOpts_length_ge 0 os
    simp only [List.length_append]; omega
  have hO := opts_encOpts code os 0 _ (Spec.encPayload pl) ho (encPayload_shape pl) hfuel
  unfold Spec.body
  simp only [Spec.encToken, List.append_assoc] at hO ⊢
  simp only [hE, hfit, if_true, hc, if_false, List.drop_left, List.take_left, hO, finish_encPayload]

theorem body_canonical {type code mid tkl : Nat} {rest : Bytes} {m : Msg} (hc : code ≠ 0)
    (h : Spec.body type code mid tkl rest = some m) :
    m.type = type ∧ m.code = code ∧ m.mid = mid ∧ tkl = Spec.nib m.token.length ∧ m.token.length ≤ 65804 ∧
    rest = Spec.encToken m.token ++ (Spec.encOpts 0 m.opts ++ Spec.encPayload m.payload) ∧
    Spec.optsOk code 0 m.opts = true := by
  unfold Spec.body at h
  cases hE : Spec.ext tkl rest with
  | none => simp [hE] at h
  | some p =>
    obtain ⟨n, r⟩ := p
    simp only [hE] at h
    by_cases hfit : n ≤ r.length
    · simp only [hfit, if_true, hc, if_false] at h
      cases hO : Spec.opts code (rest.length + 1) 0 (r.drop n) with
      | none => simp [hO] at h
      | some w =>
        obtain ⟨os, rest'⟩ := w
        simp only [hO] at h
        cases hF : Spec.finish rest' with
        | none => simp [hF] at h
        | some pl =>
          simp only [hF, Option.some.injEq] at h
          subst h
          obtain ⟨h1, h2, h3⟩ := ext_canonical hE
          obtain ⟨hbs, hok, hrest⟩ := opts_canonical code _ _ _ _ _ hO
          have hpl := finish_canonical hF hrest
          have htl : (r.take n).length = n := by simp; omega
          refine ⟨rfl, rfl, rfl, ?_, ?_, ?_, hok⟩
          · simp only [htl]; exact h1
          · simp only [htl]; exact h3
          · simp only [Spec.encToken, htl, List.append_assoc]
            rw [← hpl, ← hbs, List.take_append_drop, ← h2]
    · simp [hfit] at h


theorem body_canonical0 {type mid tkl : Nat} {rest : Bytes} {m : Msg}
    (h : Spec.body type 0 mid tkl rest = some m) :
    tkl = 0 ∧ rest = [] ∧ m = ⟨type, 0, mid, [], [], []⟩ := by
  unfold Spec.body at h
  cases hE : Spec.ext tkl rest with
  | none => simp [hE] at h
  | some p =>
    obtain ⟨n, r⟩ := p
    simp only [hE] at h
    by_cases hfit : n ≤ r.length
    · by_cases hz : tkl = 0 ∧ rest = []
      · simp only [hfit, hz, if_true, and_self, Option.some.injEq] at h
        exact ⟨hz.1, hz.2, h.symm⟩
      · simp [hfit, hz] at h
    · simp [hfit] at h

theorem tcpLen_eq_ext {n : Nat} (h : n < 15) (bs : Bytes) : Spec.tcpLen n bs = Spec.ext n bs := by
  unfold Spec.tcpLen Spec.ext
  by_cases h1 : n < 13
  · rw [if_pos h1, if_pos h1]
  · rw [if_neg h1, if_neg h1]
    by_cases h2 : n = 13
    · rw [if_pos h2, if_pos h2]
    · rw [if_neg h2, if_neg h2, if_pos (by omega), if_pos (by omega)]

theorem tcpHdr_eq_ext {len : Nat} (h : len < 65805) (tkl : Nat) :
    Spec.tcpHdr tkl len = UInt8.ofNat (Spec.nib len * 16 + tkl) :: Spec.extBytes len := by
  unfold Spec.tcpHdr Spec.nib Spec.extBytes
  by_cases h1 : len < 13
  · rw [if_pos h1, if_pos h1, if_pos h1]
  · rw [if_neg h1, if_neg h1, if_neg h1]
    by_cases h2 : len < 269
    · rw [if_pos h2, if_pos h2, if_pos h2]
    · rw [if_neg h2, if_neg h2, if_neg h2, if_pos h]

theorem digits4 (x : Nat) :
    x / 16777216 * 16777216 + x / 65536 % 256 * 65536 + x / 256 % 256 * 256 + x % 256 = x := by omega

theorem tcpLen_tcpHdr (tkl len : Nat) (r : Bytes) (htkl : tkl < 16) (hlen : len < 65805 + 4294967296) :
    ∃ b0 r0, Spec.tcpHdr tkl len ++ r = b0 :: r0 ∧ b0.toNat % 16 = tkl ∧
      Spec.tcpLen (b0.toNat / 16) r0 = some (len, r) := by
  by_cases h3 : len < 65805
  · have hn := nib_lt len
    obtain ⟨hd, hm⟩ := nibbles (a := Spec.nib len) (b := tkl) (by omega) htkl
    refine ⟨_, _, by rw [tcpHdr_eq_ext h3]; rfl, hm, ?_⟩
    rw [hd, tcpLen_eq_ext hn]
    exact ext_roundtrip len r (by omega)
  · obtain ⟨hd, hm⟩ := nibbles (a := 15) (b := tkl) (by omega) htkl
    obtain ⟨x, rfl⟩ : ∃ x, len = x + 65805 := ⟨len - 65805, by omega⟩
    have hx : x < 16777216 * 256 := by omega
    have e1 := toNat_ofNat_lt (x / 16777216) (Nat.div_lt_of_lt_mul hx)
    have e2 := toNat_ofNat_lt (x / 65536 % 256) (Nat.mod_lt _ (by decide))
    have e3 := toNat_ofNat_lt (x / 256 % 256) (Nat.mod_lt _ (by decide))
    have e4 := toNat_ofNat_lt (x % 256) (Nat.mod_lt _ (by decide))
    refine ⟨UInt8.ofNat (15 * 16 + tkl), UInt8.ofNat (x / 16777216) :: UInt8.ofNat (x / 65536 % 256) ::
      UInt8.ofNat (x / 256 % 256) :: UInt8.ofNat (x % 256) :: r, ?_, hm, ?_⟩
    · unfold Spec.tcpHdr
      rw [if_neg (by omega), if_neg (by omega), if_neg h3, Nat.add_sub_cancel]; rfl
    · rw [hd]
      unfold Spec.tcpLen
      rw [if_neg (by decide), if_neg (by decide), if_neg (by decide)]
      simp only [e1, e2, e3, e4, digits4]

theorem tokenField_encToken (tok x : Bytes) (ht : tok.length ≤ 65804) :
    Spec.tokenField (Spec.nib tok.length) (Spec.encToken tok ++ x) =
      some ((Spec.extBytes tok.length).length + tok.length) := by
  have hE := ext_roundtrip tok.length (tok ++ x) ht
  unfold Spec.tokenField
  simp only [Spec.encToken, List.append_assoc, hE, List.length_append]
  congr 1; omega

theorem body_wf (type mid : Nat) (m : Msg) (ht : m.token.length ≤ 65804)
    (ho : Spec.optsOk m.code 0 m.opts = true)
    (hz : m.code = 0 → m.token = [] ∧ m.opts = [] ∧ m.payload = []) :
    Spec.body type m.code mid (Spec.nib m.token.length) (Spec.encToken m.token ++ Spec.encRest m)
      = some ⟨type, m.code, mid, m.token, m.opts, m.payload⟩ := by
  by_cases hc : m.code = 0
  · obtain ⟨h1, h2, h3⟩ := hz hc
    simp [Spec.body, Spec.encRest, Spec.encToken, Spec.encOpts, Spec.encPayload, Spec.extBytes, Spec.nib,
      Spec.ext, hc, h1, h2, h3]
  · exact body_encode type m.code mid m.token m.opts m.payload hc ht ho

theorem udp_byte0 {t n : Nat} (ht : t < 4) (hn : n < 16) :
    64 + t * 16 + n < 256 ∧ (64 + t * 16 + n) / 64 = 1 ∧ (64 + t * 16 + n) / 16 % 4 = t ∧ (64 + t * 16 + n) % 16 = n := by
  omega

/-- the round trip, every framing, every well-formed message -/
theorem decode_encode (p : Proto) (m : Msg) (h : Spec.WF p m) :
    Spec.decode p (Spec.encode p m) = some (Spec.onWire p m) := by
  obtain ⟨hty, hcode, hmid, htok, hopts, hz, htcp⟩ := h
  have hnib := nib_lt m.token.length
  have ec := toNat_ofNat_lt m.code hcode
  cases p with
  | udp =>
    obtain ⟨hlt, hv, hty', htk⟩ := udp_byte0 hty (Nat.lt_succ_of_lt hnib)
    have e0 := toNat_ofNat_lt _ hlt
    have e1 := toNat_ofNat_lt (m.mid / 256) (Nat.div_lt_of_lt_mul hmid)
    have e2 := toNat_ofNat_lt (m.mid % 256) (Nat.mod_lt _ (by decide))
    have hm : m.mid / 256 * 256 + m.mid % 256 = m.mid := Nat.div_add_mod' m.mid 256
    simp only [Spec.encode, Spec.decode, List.cons_append, List.nil_append, e0, e1, e2, ec, hv, hty', htk, hm,
      if_true, body_wf m.type m.mid m htok hopts hz, Spec.onWire]
  | ws =>
    have e0 := toNat_ofNat_lt (Spec.nib m.token.length) (by omega)
    have htk : Spec.nib m.token.length % 16 = Spec.nib m.token.length := by omega
    simp only [Spec.encode, Spec.decode, List.cons_append, List.nil_append, e0, ec, htk,
      body_wf 0 0 m htok hopts hz, Spec.onWire]
  | tcp =>
    obtain ⟨b0, r0, hsplit, hb0, hlen⟩ := tcpLen_tcpHdr (Spec.nib m.token.length) (Spec.encRest m).length
      (UInt8.ofNat m.code :: (Spec.encToken m.token ++ Spec.encRest m)) (by omega) (htcp rfl)
    have htf := tokenField_encToken m.token (Spec.encRest m) htok
    have hD10 : (Spec.encToken m.token ++ Spec.encRest m).length =
        (Spec.extBytes m.token.length).length + m.token.length + (Spec.encRest m).length := by
      simp [Spec.encToken]; omega
    simp only [Spec.encode, Spec.decode, hsplit, hlen, hb0, ec, htf, hD10, if_true,
      body_wf 0 0 m htok hopts hz, Spec.onWire]


/-! The abstract edits act at one cut `pre ++ x :: post` of the list.  The list is split once (`insertStable_cut`, `hasOpt_split`);
what an operation does is said for a list that is already split.  The `_split` forms pack both into one existential, as the
frame theorems of Props/C04 state them. -/

theorem takeWhile_le {n : Nat} {os : List (Nat × Bytes)} : ∀ o ∈ os.takeWhile (fun o => decide (o.1 ≤ n)), o.1 ≤ n :=
  fun o ho => of_decide_eq_true (List.all_eq_true.1 List.all_takeWhile o ho)

theorem dropWhile_head_lt {n : Nat} {os : List (Nat × Bytes)} {x : Nat × Bytes}
    (h : (os.dropWhile (fun o => decide (o.1 ≤ n))).head? = some x) : n < x.1 := by
  have := List.head?_dropWhile_not (fun o : Nat × Bytes => decide (o.1 ≤ n)) os
  rw [h] at this
  exact Nat.lt_of_not_le (of_decide_eq_false this)

theorem dropWhile_lt {n : Nat} {os : List (Nat × Bytes)} (h : os.Pairwise (fun a b => a.1 ≤ b.1)) :
    ∀ o ∈ os.dropWhile (fun o => decide (o.1 ≤ n)), n < o.1 := by
  have hs := h.sublist (List.dropWhile_sublist fun o => decide (o.1 ≤ n))
  cases hd : os.dropWhile (fun o => decide (o.1 ≤ n)) with
  | nil => exact fun _ ho => nomatch ho
  | cons x post =>
    have hx : n < x.1 := dropWhile_head_lt (os := os) (by rw [hd]; rfl)
    rw [hd, List.pairwise_cons] at hs
    exact List.forall_mem_cons.2 ⟨hx, fun o ho => Nat.lt_of_lt_of_le hx (hs.1 o ho)⟩

theorem insertStable_cut (n : Nat) (v : Bytes) (os : List (Nat × Bytes)) :
    Spec.insertStable n v os =
      os.takeWhile (fun o => decide (o.1 ≤ n)) ++ (n, v) :: os.dropWhile (fun o => decide (o.1 ≤ n)) := by
  induction os with
  | nil => rfl
  | cons x os ih =>
    by_cases hx : x.1 ≤ n
    · rw [Spec.insertStable, if_pos hx, ih, List.takeWhile_cons_of_pos (by simpa using hx),
        List.dropWhile_cons_of_pos (by simpa using hx)]
      rfl
    · rw [Spec.insertStable, if_neg hx, List.takeWhile_cons_of_neg (by simpa using hx),
        List.dropWhile_cons_of_neg (by simpa using hx)]
      rfl

theorem insertStable_split (n : Nat) (v : Bytes) (os : List (Nat × Bytes)) :
    ∃ pre post, os = pre ++ post ∧ Spec.insertStable n v os = pre ++ (n, v) :: post ∧
      (∀ o ∈ pre, o.1 ≤ n) ∧ (∀ o, post.head? = some o → n < o.1) :=
  ⟨_, _, List.takeWhile_append_dropWhile.symm, insertStable_cut n v os, takeWhile_le, fun _ => dropWhile_head_lt⟩

theorem mem_insertStable (n : Nat) (v : Bytes) (os : List (Nat × Bytes)) (a : Nat × Bytes) :
    a ∈ Spec.insertStable n v os ↔ a = (n, v) ∨ a ∈ os := by
  rw [insertStable_cut]
  conv => rhs; rw [← List.takeWhile_append_dropWhile (p := fun o => decide (o.1 ≤ n)) (l := os)]
  simp only [List.mem_append, List.mem_cons]
  exact or_left_comm

theorem hasOpt_cons (n : Nat) (o : Nat × Bytes) (os : List (Nat × Bytes)) :
    Spec.hasOpt n (o :: os) = (o.1 == n || Spec.hasOpt n os) := by
  simp [Spec.hasOpt]

theorem hopApplies_iff {code n : Nat} {os : List (Nat × Bytes)} :
    Spec.hopApplies code n os = true ↔ ((1 ≤ code ∧ code < 32) ∧ (n = 35 ∨ n = 39)) ∧ Spec.hasOpt 16 os = false := by
  simp [Spec.hopApplies]

theorem hasOpt_split (n : Nat) (os : List (Nat × Bytes)) (h : Spec.hasOpt n os = true) :
    ∃ pre w post, os = pre ++ (n, w) :: post ∧ ∀ o ∈ pre, o.1 ≠ n := by
  induction os with
  | nil => cases h
  | cons o os ih =>
    by_cases ho : o.1 = n
    · exact ⟨[], o.2, os, by rw [← ho]; rfl, fun _ hx => nomatch hx⟩
    · rw [hasOpt_cons, Bool.or_eq_true, beq_iff_eq] at h
      obtain ⟨pre, w, post, h1, h2⟩ := ih (h.resolve_left ho)
      exact ⟨o :: pre, w, post, by rw [h1]; rfl, List.forall_mem_cons.2 ⟨ho, h2⟩⟩

theorem hasOpt_none {n : Nat} {os : List (Nat × Bytes)} (h : Spec.hasOpt n os = false) : ∀ o ∈ os, o.1 ≠ n := by
  intro o ho e
  have : Spec.hasOpt n os = true := List.any_eq_true.2 ⟨o, ho, by simp [e]⟩
  rw [h] at this; cases this

theorem removeFirst_cut {n : Nat} {pre : List (Nat × Bytes)} (w : Bytes) (post : List (Nat × Bytes))
    (h : ∀ o ∈ pre, o.1 ≠ n) : Spec.removeFirst n (pre ++ (n, w) :: post) = pre ++ post := by
  induction pre with
  | nil => exact if_pos rfl
  | cons x pre ih =>
    obtain ⟨hx, hp⟩ := List.forall_mem_cons.1 h
    exact (if_neg hx).trans (congrArg (x :: ·) (ih hp))

theorem replaceFirst_cut {n : Nat} {pre : List (Nat × Bytes)} (v w : Bytes) (post : List (Nat × Bytes))
    (h : ∀ o ∈ pre, o.1 ≠ n) : Spec.replaceFirst n v (pre ++ (n, w) :: post) = pre ++ (n, v) :: post := by
  induction pre with
  | nil => exact if_pos rfl
  | cons x pre ih =>
    obtain ⟨hx, hp⟩ := List.forall_mem_cons.1 h
    exact (if_neg hx).trans (congrArg (x :: ·) (ih hp))

theorem removeFirst_split (n : Nat) (os : List (Nat × Bytes)) (h : Spec.hasOpt n os = true) :
    ∃ pre v post, os = pre ++ (n, v) :: post ∧ Spec.removeFirst n os = pre ++ post ∧ (∀ o ∈ pre, o.1 ≠ n) := by
  obtain ⟨pre, w, post, rfl, hp⟩ := hasOpt_split n os h
  exact ⟨pre, w, post, rfl, removeFirst_cut w post hp, hp⟩

theorem removeFirst_absent (n : Nat) (os : List (Nat × Bytes)) (h : Spec.hasOpt n os = false) :
    Spec.removeFirst n os = os := by
  induction os with
  | nil => rfl
  | cons o os ih =>
    rw [hasOpt_cons] at h
    simp at h
    simp [Spec.removeFirst, h.1, ih h.2]

theorem replaceFirst_split (n : Nat) (v : Bytes) (os : List (Nat × Bytes)) (h : Spec.hasOpt n os = true) :
    ∃ pre w post, os = pre ++ (n, w) :: post ∧ Spec.replaceFirst n v os = pre ++ (n, v) :: post ∧ (∀ o ∈ pre, o.1 ≠ n) := by
  obtain ⟨pre, w, post, rfl, hp⟩ := hasOpt_split n os h
  exact ⟨pre, w, post, rfl, replaceFirst_cut v w post hp, hp⟩

theorem insertStable_sorted (n : Nat) (v : Bytes) (os : List (Nat × Bytes)) (h : os.Pairwise (fun a b => a.1 ≤ b.1)) :
    (Spec.insertStable n v os).Pairwise (fun a b => a.1 ≤ b.1) := by
  have hs := h
  rw [← List.takeWhile_append_dropWhile (p := fun o => decide (o.1 ≤ n)) (l := os), List.pairwise_append] at hs
  rw [insertStable_cut]
  exact List.pairwise_append.2 ⟨hs.1, List.pairwise_cons.2 ⟨fun o ho => Nat.le_of_lt (dropWhile_lt h o ho), hs.2.1⟩,
    fun a ha b hb => (List.mem_cons.1 hb).elim (fun e => e ▸ takeWhile_le a ha) (hs.2.2 a ha b)⟩

theorem removeFirst_sublist (n : Nat) (os : List (Nat × Bytes)) : (Spec.removeFirst n os).Sublist os := by
  induction os with
  | nil => exact List.Sublist.slnil
  | cons o os ih =>
    by_cases ho : o.1 = n
    · simp [Spec.removeFirst, ho]
    · simp only [Spec.removeFirst, ho, if_false]
      exact ih.cons_cons o

theorem removeFirst_sorted (n : Nat) (os : List (Nat × Bytes)) (h : os.Pairwise (fun a b => a.1 ≤ b.1)) :
    (Spec.removeFirst n os).Pairwise (fun a b => a.1 ≤ b.1) :=
  h.sublist (removeFirst_sublist n os)

theorem replaceFirst_map_fst (n : Nat) (v : Bytes) (os : List (Nat × Bytes)) :
    (Spec.replaceFirst n v os).map (·.1) = os.map (·.1) := by
  induction os with
  | nil => rfl
  | cons o os ih =>
    by_cases ho : o.1 = n
    · simp [Spec.replaceFirst, ho]
    · simp [Spec.replaceFirst, ho, ih]

theorem replaceFirst_sorted (n : Nat) (v : Bytes) (os : List (Nat × Bytes)) (h : os.Pairwise (fun a b => a.1 ≤ b.1)) :
    (Spec.replaceFirst n v os).Pairwise (fun a b => a.1 ≤ b.1) := by
  have h' : (os.map (·.1)).Pairwise (· ≤ ·) := List.pairwise_map.mpr h
  rw [← replaceFirst_map_fst n v os] at h'
  exact List.pairwise_map.mp h'


theorem insertStable_filter (n : Nat) (v : Bytes) (k : Nat) (os : List (Nat × Bytes))
    (h : os.Pairwise (fun a b => a.1 ≤ b.1)) :
    (Spec.insertStable n v os).filter (fun o => o.1 == k) =
      os.filter (fun o => o.1 == k) ++ [(n, v)].filter (fun o => o.1 == k) := by
  rw [insertStable_cut]
  conv => rhs; rw [← List.takeWhile_append_dropWhile (p := fun o => decide (o.1 ≤ n)) (l := os)]
  rw [List.filter_append, List.filter_append, List.append_assoc]
  congr 1
  by_cases hk : n = k
  · -- the new option has number `k`: nothing behind the cut has
    have hnone : (os.dropWhile fun o => decide (o.1 ≤ n)).filter (fun o => o.1 == k) = [] :=
      List.filter_eq_nil_iff.2 fun o ho => by have := dropWhile_lt h o ho; simp; omega
    rw [List.filter_cons, hnone]
    simp [hk]
  · simp [hk]

theorem build_aux (xs : List (Nat × Bytes)) (k : Nat) : ∀ (acc : List (Nat × Bytes)),
    acc.Pairwise (fun a b => a.1 ≤ b.1) →
    (xs.foldl (fun os x => Spec.insertStable x.1 x.2 os) acc).Pairwise (fun a b => a.1 ≤ b.1) ∧
    (xs.foldl (fun os x => Spec.insertStable x.1 x.2 os) acc).filter (fun o => o.1 == k) =
      acc.filter (fun o => o.1 == k) ++ xs.filter (fun o => o.1 == k) := by
  induction xs with
  | nil => intro acc h; simp [h]
  | cons x xs ih =>
    intro acc h
    obtain ⟨i1, i2⟩ := ih (Spec.insertStable x.1 x.2 acc) (insertStable_sorted _ _ _ h)
    refine ⟨i1, ?_⟩
    simp only [List.foldl_cons]
    rw [i2, insertStable_filter _ _ _ _ h, List.append_assoc]
    congr 1
    show _ = List.filter (fun o => o.1 == k) ([x] ++ xs)
    rw [List.filter_append]

theorem build_sorted (xs : List (Nat × Bytes)) :
    (xs.foldl (fun os x => Spec.insertStable x.1 x.2 os) []).Pairwise (fun a b => a.1 ≤ b.1) :=
  (build_aux xs 0 [] List.Pairwise.nil).1

theorem build_stable (xs : List (Nat × Bytes)) (k : Nat) :
    (xs.foldl (fun os x => Spec.insertStable x.1 x.2 os) []).filter (fun o => o.1 == k) = xs.filter (fun o => o.1 == k) := by
  rw [(build_aux xs k [] List.Pairwise.nil).2]; simp

end Coap
