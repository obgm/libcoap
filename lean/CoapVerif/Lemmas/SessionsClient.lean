import CoapVerif.Lemmas.SessionsInv
/-
C12 helper lemmas, part 4 (independent of part 3): the global invariant "a CLIENT-type session that sits in a table is referenced".

The predicate is NOT closed under the raw primitive `St.dropHolder` (the instant between `--ref` and the
`if (ref == 0 && type == CLIENT) coap_session_free` of coap_session_release_lkd breaks it), so it does not fit `Closed`.
The formulation that IS inductive: `J = Inv ∧ CInv` over a skeleton whose release primitive is the WHOLE
coap_session_release_lkd (`St.releaseHolder`), plus the places where the modelled code drops a reference without
the free test firing: the token replacement of coap_add_observer (release + reference on the same session), a release on
a session that is not a client session (stream sessions), and coap_session_disconnected_lkd on a session the application
holds a reference on (D17).  These are the fields of `ClosedEv` (Lemmas/SessionsInv), whose `step` does the case analysis
over the events; `ClosedIO` is the part an I/O pass needs (no raw `dropHolder`).
-/
namespace Coap.Sessions

/-- every CLIENT-type session that sits in a table has a reference, and is a datagram session (D16) -/
def CInv (st : St) : Prop := ∀ s ∈ st.sessions, s.client = true → 1 ≤ s.ref ∧ s.peer.reliable = false

theorem CInv.mono {st st' : St} (h : CInv st)
    (hm : ∀ t ∈ st'.sessions, t.client = true →
      ∃ s ∈ st.sessions, s.client = true ∧ s.ref ≤ t.ref ∧ s.peer = t.peer) : CInv st' := by
  intro t ht hc
  obtain ⟨s, hs, c, r, p⟩ := hm t ht hc
  have h1 := h s hs c
  exact ⟨by omega, by rw [← p]; exact h1.2⟩

theorem CInv.congr {st st' : St} (h : CInv st) (e : st'.sessions = st.sessions) : CInv st' := by
  unfold CInv; rw [e]; exact h

theorem CInv.updSess {st : St} (h : CInv st) (sid : Nat) (f : Sess → Sess)
    (hf : ∀ s, s.ref ≤ (f s).ref ∧ (f s).peer = s.peer ∧ (f s).client = s.client) : CInv (st.updSess sid f) := by
  apply h.mono
  intro t ht hc
  rcases mem_updSess_cases ht with ⟨s, hs, _, rfl⟩ | ⟨ht, _⟩
  · exact ⟨s, hs, by rw [← (hf s).2.2]; exact hc, (hf s).1, ((hf s).2.1).symm⟩
  · exact ⟨t, ht, hc, Nat.le_refl _, rfl⟩

/-- `t` is what releases of holders of session `k` leave of `s`: same key and type, and the same count unless it is session `k` -/
structure Kept (k : Nat) (s t : Sess) : Prop where
  peer : s.peer = t.peer
  client : s.client = t.client
  sid : s.sid = t.sid
  ref : t.sid ≠ k → t.ref = s.ref

theorem Kept.refl (k : Nat) (s : Sess) : Kept k s s := ⟨rfl, rfl, rfl, fun _ => rfl⟩

theorem Kept.trans {k : Nat} {s t u : Sess} (a : Kept k s t) (b : Kept k t u) : Kept k s u :=
  ⟨a.peer.trans b.peer, a.client.trans b.client, a.sid.trans b.sid,
    fun hne => (b.ref hne).trans (a.ref (by rw [b.sid]; exact hne))⟩

theorem mem_dropHolder {st : St} {x : Holder} {t : Sess} (ht : t ∈ (st.dropHolder x).sessions) :
    ∃ s ∈ st.sessions, Kept x.sid s t ∧ s.ref ≤ t.ref + 1 := by
  unfold St.dropHolder at ht
  split at ht
  · have ht' : t ∈ (st.updSess x.sid Sess.release).sessions := ht
    rcases mem_updSess_cases ht' with ⟨s, hs, c, rfl⟩ | ⟨ht, _⟩
    · refine ⟨s, hs, ⟨rfl, rfl, rfl, fun hne => absurd c hne⟩, ?_⟩
      show s.ref ≤ (s.ref - 1) + 1
      omega
    · exact ⟨t, ht, .refl _ t, Nat.le_succ _⟩
  · exact ⟨t, ht, .refl _ t, Nat.le_succ _⟩

theorem mem_dropHolders {k : Nat} : ∀ (xs : List Holder) (st : St) (t : Sess), (∀ x ∈ xs, x.sid = k) →
    t ∈ (st.dropHolders xs).sessions → ∃ s ∈ st.sessions, Kept k s t := by
  intro xs
  induction xs with
  | nil => intro st t _ ht; exact ⟨t, ht, .refl k t⟩
  | cons x r ih =>
    intro st t hk ht
    rw [dropHolders_cons] at ht
    obtain ⟨s1, hs1, k1⟩ := ih (st.dropHolder x) t (fun y hy => hk y (List.mem_cons_of_mem _ hy)) ht
    obtain ⟨s, hs, k0, _⟩ := mem_dropHolder hs1
    rw [hk x List.mem_cons_self] at k0
    exact ⟨s, hs, k0.trans k1⟩

theorem holders_dropHolder_keep {st : St} {x g : Holder} (hg : g ∈ st.holders) (hne : g ≠ x) :
    g ∈ (st.dropHolder x).holders := by
  unfold St.dropHolder
  split
  · exact (List.mem_erase_of_ne hne).mpr hg
  · exact hg

theorem holders_dropHolders_keep {g : Holder} : ∀ (xs : List Holder) (st : St), g ∈ st.holders → g ∉ xs →
    g ∈ (st.dropHolders xs).holders := by
  intro xs
  induction xs with
  | nil => intro st hg _; exact hg
  | cons x r ih =>
    intro st hg hn
    rw [dropHolders_cons]
    apply ih
    · exact holders_dropHolder_keep hg (fun e => hn (by rw [e]; exact List.mem_cons_self))
    · exact fun hm => hn (List.mem_cons_of_mem _ hm)

theorem mem_holdersOf {st : St} {sid : Nat} {pred : HKind → Bool} {x : Holder} (hx : x ∈ st.holdersOf sid pred) :
    x.sid = sid ∧ pred x.kind = true := by
  simpa using (List.mem_filter.mp hx).2

structure J (st : St) : Prop where
  I : Inv st
  C : CInv st

namespace J

theorem benign {st : St} (h : J st) (sid : Nat) (f : Sess → Sess) (hf : BenignC f) : J (st.updSess sid f) :=
  ⟨Inv.closed.benign _ _ _ h.I hf.benign,
   h.C.updSess sid f (fun s => ⟨Nat.le_of_eq (hf s).2.1.symm, (hf s).2.2.1, (hf s).2.2.2⟩)⟩

theorem addHolder {st : St} (h : J st) (sid : Nat) (k : HKind) (hl : ∃ s ∈ st.sessions, s.sid = sid) :
    J (st.addHolder sid k) := by
  refine ⟨Inv.closed.addHolder _ _ _ h.I hl, ?_⟩
  refine (h.C.updSess sid Sess.reference (fun s => ⟨Nat.le_succ _, rfl, rfl⟩)).congr ?_
  unfold St.addHolder; split <;> rfl

theorem promote {st : St} (h : J st) (x : Nat × Nat) (due : Nat) (hl : ∃ s ∈ st.sessions, s.sid = x.2) :
    J (st.promote x due) := by
  refine ⟨Inv.closed.promote _ _ _ h.I hl, ?_⟩
  unfold St.promote
  split
  · exact (h.C.updSess x.2 Sess.reference (fun s => ⟨Nat.le_succ _, rfl, rfl⟩)).congr rfl
  · exact h.C

theorem unlink {st : St} (h : J st) {s : Sess} (hs : s ∈ st.sessions) (hr : s.ref = 0) {ev : SEvent}
    (hev : ev.Ends s.sid) : J (st.unlink s.sid ev) := by
  refine ⟨⟨h.I.H.unlink hs hr ev, h.I.S.unlink hs hev, h.I.L.unlink h.I.S hs ev, h.I.P.unlink s.sid ev⟩, h.C.mono ?_⟩
  intro t ht hc
  exact ⟨t, (mem_unlink.mp ht).1, hc, Nat.le_refl _, rfl⟩

theorem reclaim {st : St} (h : J st) (sid : Nat) : J (st.reclaim sid) :=
  (unlink_closed h (fun _ hs hr _ hev => h.unlink hs hr hev) sid).1

theorem clientFree {st : St} (h : J st) (sid : Nat) : J (st.clientFree sid) :=
  (unlink_closed h (fun _ hs hr _ hev => h.unlink hs hr hev) sid).2

theorem newSession {st : St} (h : J st) (p : Peer) (hl : st.lookup p = none) (hp : (p.lport, p.proto) ∈ st.eps) :
    J (st.newSession p) := by
  refine ⟨Inv.closed.newSession _ _ h.I hl hp, ?_⟩
  apply h.C.mono
  intro t ht hc
  rcases mem_newSession ht with hm | rfl
  · exact ⟨t, hm, hc, Nat.le_refl _, rfl⟩
  · simp at hc

theorem addPartial {st : St} (h : J st) (sid : Nat) (hl : ∃ s ∈ st.sessions, s.sid = sid) : J (st.addPartial sid) :=
  ⟨Inv.closed.addPartial _ _ h.I hl, h.C.congr rfl⟩

theorem dropPartial {st : St} (h : J st) (sid : Nat) : J (st.dropPartial sid) :=
  ⟨Inv.closed.dropPartial _ _ h.I, h.C.congr rfl⟩

theorem releaseHolder {st : St} (h : J st) (x : Holder) : J (st.releaseHolder x) := by
  have h1 : Inv (st.dropHolder x) := Inv.closed.dropHolder _ _ h.I
  refine ⟨Inv.closed.clientFree _ _ h1, ?_⟩
  intro t ht hc
  have ht1 : t ∈ (st.dropHolder x).sessions := clientFree_sub ht
  obtain ⟨s, hs, k, _⟩ := mem_dropHolder ht1
  have hs0 := h.C s hs (k.client.trans hc)
  refine ⟨?_, by rw [← k.peer]; exact hs0.2⟩
  by_cases e : t.sid = x.sid
  · by_cases z : t.ref = 0
    · -- an unreferenced client session would have gone with the release
      have hg : (st.dropHolder x).getSess x.sid = some t := by rw [← e]; exact getSess_of_mem h1.S ht1
      have ht2 : t ∈ ((st.dropHolder x).clientFree x.sid).sessions := ht
      rw [clientFree_eq_unlink hg z hc] at ht2
      exact absurd e (mem_unlink.mp ht2).2
    · omega
  · rw [k.ref e]; exact hs0.1

/-- a release on a session that is not a client session (the free test of coap_session_release_lkd cannot fire) -/
theorem dropHolderNC {st : St} (h : J st) (x : Holder) (hn : ∀ s ∈ st.sessions, s.sid = x.sid → s.client = false) :
    J (st.dropHolder x) := by
  refine ⟨Inv.closed.dropHolder _ _ h.I, ?_⟩
  intro t ht hc
  obtain ⟨s, hs, k, _⟩ := mem_dropHolder ht
  have hs0 := h.C s hs (k.client.trans hc)
  have hne : t.sid ≠ x.sid := by
    intro e
    have := hn s hs (k.sid.trans e)
    rw [k.client.trans hc] at this
    exact absurd this (by decide)
  exact ⟨by rw [k.ref hne]; exact hs0.1, by rw [← k.peer]; exact hs0.2⟩

/-- coap_add_observer's token replacement: coap_delete_observer (release) then a new entry (reference), same session -/
theorem swapHolder {st : St} (h : J st) (x : Holder) (k : HKind) (hl : ∃ s ∈ st.sessions, s.sid = x.sid) :
    J ((st.dropHolder x).addHolder x.sid k) := by
  refine ⟨Inv.closed.addHolder _ _ _ (Inv.closed.dropHolder _ _ h.I) (live_dropHolder _ hl), ?_⟩
  have e : ((st.dropHolder x).addHolder x.sid k).sessions = ((st.dropHolder x).updSess x.sid Sess.reference).sessions := by
    unfold St.addHolder; split <;> rfl
  apply h.C.mono
  intro t ht hc
  rw [e] at ht
  rcases mem_updSess_cases ht with ⟨s1, hs1, _, rfl⟩ | ⟨ht, c⟩
  · obtain ⟨s, hs, k, hle⟩ := mem_dropHolder hs1
    exact ⟨s, hs, k.client.trans hc, hle, k.peer⟩
  · obtain ⟨s, hs, k, _⟩ := mem_dropHolder ht
    exact ⟨s, hs, k.client.trans hc, Nat.le_of_eq (k.ref c).symm, k.peer⟩

theorem mapHolders {st : St} (h : J st) (g : Holder → Holder) (hg : HBenign g) :
    J { st with holders := st.holders.map g } :=
  ⟨Inv.closed.mapHolders _ _ h.I hg, h.C.congr rfl⟩

theorem misc {st : St} (h : J st) (now timeout maxIdle : Nat) (res dirty : List Nat) :
    J { st with now := now, timeout := timeout, maxIdle := maxIdle, resAlive := res, dirty := dirty } :=
  ⟨Inv.closed.misc _ _ _ _ _ _ h.I, h.C.congr rfl⟩

end J

theorem J.closedIO : ClosedIO J where
  benign _ sid f h hf := h.benign sid f hf
  refRelease _ sid h := by rw [refRelease_id]; exact h
  releaseHolder h x := h.releaseHolder x
  reclaim _ sid h := h.reclaim sid
  promote _ x due h hl := h.promote x due hl
  newSession _ p h hl hp := h.newSession p hl hp
  mapHolders _ g h hg := h.mapHolders g hg
  misc _ now timeout maxIdle res dirty h := h.misc now timeout maxIdle res dirty

namespace J

/-- what `handle_request` does to the references of the session + the closing release of coap_read_endpoint's bracket -/
theorem serveFree {st : St} (h : J st) (sid : Nat) (r : Req) (hl : ∃ s ∈ st.sessions, s.sid = sid) :
    J ((st.serve sid r).clientFree sid) := by
  rcases serve_cases st sid r with e | ⟨k, e⟩ | ⟨x, k, hx, e⟩ | ⟨x, hx, e⟩ <;> rw [e]
  · exact h.clientFree sid
  · exact (h.addHolder _ _ hl).clientFree sid
  · exact (h.swapHolder x k (by rw [hx]; exact hl)).clientFree sid
  · rw [← hx]; exact h.releaseHolder x

/-- the same on a session that is not a client session (a message on a stream: no closing free test) -/
theorem serveNC {st : St} (h : J st) (sid : Nat) (r : Req) (hl : ∃ s ∈ st.sessions, s.sid = sid)
    (hn : ∀ s ∈ st.sessions, s.sid = sid → s.client = false) : J (st.serve sid r) := by
  rcases serve_cases st sid r with e | ⟨k, e⟩ | ⟨x, k, hx, e⟩ | ⟨x, hx, e⟩ <;> rw [e]
  · exact h
  · exact h.addHolder _ _ hl
  · exact h.swapHolder x k (by rw [hx]; exact hl)
  · exact h.dropHolderNC x (by rw [hx]; exact hn)

/-- a session of a stream peer is not a client session (D16: call home is for datagram sessions) -/
theorem nonclient_of_reliable {st : St} (h : J st) {s : Sess} (hm : s ∈ st.sessions) (hr : s.peer.reliable = true) :
    s.client = false := by
  cases hc : s.client with
  | false => rfl
  | true => have := (h.C s hm hc).2; rw [hr] at this; exact absurd this (by decide)

/-- coap_session_disconnected_lkd on a session that keeps a holder which is neither an observation nor a queued
    message (D17: on a client session, the application's reference) -/
theorem disconnectSess {st : St} (h : J st) {s : Sess} (hm : s ∈ st.sessions)
    (hg : s.client = true → ∃ g ∈ st.holders, g.sid = s.sid ∧ isAnyObs g.kind = false ∧ isNode g.kind = false) :
    J (st.disconnectSess s) := by
  have hI : Inv (st.disconnectSess s) := Inv.closed.disconnectSess h.I s
  refine ⟨hI, ?_⟩
  intro t ht hc
  unfold St.disconnectSess at ht
  dsimp only at ht
  obtain ⟨t3, ht3, k3⟩ := mem_dropHolders (k := s.sid) _ _ t (fun x hx => (mem_holdersOf hx).1) ht
  have ht2 : t3 ∈ ((st.dropHolders (st.holdersOf s.sid isAnyObs)).updSess s.sid fun t =>
      { t with conActive := 0, delayq := 0, closed := t.closed || s.peer.reliable, pend := 0 }).sessions := ht3
  obtain ⟨t1, ht1, k1⟩ : ∃ t1 ∈ (st.dropHolders (st.holdersOf s.sid isAnyObs)).sessions, Kept s.sid t1 t3 := by
    rcases mem_updSess_cases ht2 with ⟨t1, ht1, _, rfl⟩ | ⟨ht2, _⟩
    · exact ⟨t1, ht1, rfl, rfl, rfl, fun _ => rfl⟩
    · exact ⟨t3, ht2, .refl _ t3⟩
  obtain ⟨t0, ht0, k0⟩ := mem_dropHolders (k := s.sid) _ _ t1 (fun x hx => (mem_holdersOf hx).1) ht1
  -- `t` is what the three stages leave of `t0`
  have k := k0.trans (k1.trans k3)
  have hcl : t0.client = true := k.client.trans hc
  have hs0 := h.C t0 ht0 hcl
  refine ⟨?_, by rw [← k.peer]; exact hs0.2⟩
  by_cases e : t.sid = s.sid
  · -- the session itself: the application's reference is still there
    have h3 : t0 = s := sid_unique h.I.S ht0 hm (k.sid.trans e)
    obtain ⟨g, hgm, gs, go, gn⟩ := hg (by rw [← h3]; exact hcl)
    have hk1 : g ∈ (st.dropHolders (st.holdersOf s.sid isAnyObs)).holders :=
      holders_dropHolders_keep _ _ hgm (fun hx => by rw [(mem_holdersOf hx).2] at go; cases go)
    have hk2 : g ∈ (st.disconnectSess s).holders := by
      unfold St.disconnectSess
      dsimp only
      exact holders_dropHolders_keep _ _ hk1 (fun hx => by rw [(mem_holdersOf hx).2] at gn; cases gn)
    have hmem : t ∈ (st.disconnectSess s).sessions := by
      unfold St.disconnectSess; dsimp only; exact ht
    have hr := hI.H.ref t hmem
    by_cases z : t.ref = 0
    · rw [z] at hr
      have := (holds_zero_iff _ _).mp hr.symm g hk2
      exact absurd (gs.trans e.symm) this
    · omega
  · rw [k.ref e]; exact hs0.1

/-- RST of a notification (the bracket `reference … release` of coap_dispatch cancels) + the closing release of
    coap_read_endpoint's bracket = ONE whole coap_session_release_lkd of the observation -/
theorem rstNoteFree {st : St} (h : J st) (sid n : Nat) : J ((st.rstNote sid n).clientFree sid) := by
  unfold St.rstNote
  split
  · rename_i x hx
    rw [rstCancel_eq st sid x (findHolder_some hx).1, ← (findHolder_some hx).2.1]
    exact h.releaseHolder x
  · exact h.clientFree sid

theorem callHome {st : St} (h : J st) {s : Sess} (hm : s ∈ st.sessions) (hr : s.peer.reliable = false) :
    J ((st.updSess s.sid fun t => { t with client := true }).addHolder s.sid .home) := by
  refine ⟨Inv.closed.addHolder _ _ _ (Inv.closed.benign _ _ _ h.I (fun t => ⟨rfl, rfl, rfl⟩))
    (live_updSess s.sid _ (fun _ => rfl) ⟨s, hm, rfl⟩), ?_⟩
  intro t ht hc
  have ht' : t ∈ ((st.updSess s.sid fun t => { t with client := true }).updSess s.sid Sess.reference).sessions := ht
  rcases mem_updSess_cases ht' with ⟨t1, ht1, c1, rfl⟩ | ⟨ht1, c⟩
  · refine ⟨Nat.le_add_left 1 _, ?_⟩
    rcases mem_updSess_cases ht1 with ⟨s0, hs0, c, rfl⟩ | ⟨ht0, _⟩
    · rw [sid_unique h.I.S hs0 hm c]; exact hr
    · rw [sid_unique h.I.S ht0 hm c1]; exact hr
  · rcases mem_updSess_cases ht1 with ⟨s0, _, c0, rfl⟩ | ⟨ht0, _⟩
    · exact absurd c0 c
    · exact h.C t ht0 hc

theorem teardownFrom {a : St} (h : Inv a) : J a.freeRest := by
  refine ⟨Inv.closed.freeRest h, ?_⟩
  intro t ht
  rw [(freeRest_empty h).2.1] at ht
  exact absurd ht List.not_mem_nil

theorem ev : ClosedEv J where
  io := J.closedIO
  addHolder _ sid k h hl := h.addHolder sid k hl
  addPartial _ sid h hl := h.addPartial sid hl
  dropPartial _ sid h := h.dropPartial sid
  clientFree _ sid h := h.clientFree sid
  newOwned st h := ⟨Inv.closed.newOwned st h.I, h.C.congr rfl⟩
  serveStream _ s r f h hm hr hf :=
    J.serveNC (h.benign _ _ hf) _ r (live_updSess s.sid f (fun t => (hf t).1) ⟨s, hm, rfl⟩)
      fun t ht e => by
        rcases mem_updSess_cases ht with ⟨s0, hs0, c, rfl⟩ | ⟨_, c⟩
        · rw [(hf s0).2.2.2, sid_unique h.I.S hs0 hm c]; exact h.nonclient_of_reliable hm hr
        · exact absurd e c
  serveFree _ sid r h hl := h.serveFree sid r hl
  rstNoteFree _ sid n h := h.rstNoteFree sid n
  disconnect _ s h hm hg := h.disconnectSess hm (fun hc => hg hc (h.C s hm hc).2)
  callHome _ _ h hm hr := h.callHome hm hr
  teardown _ h := J.teardownFrom (Inv.closed.freeHolders h.I)

theorem step {st : St} (h : J st) (e : Event) : J (st.step e).1 := J.ev.step h e

theorem init (eps : List (Nat × Nat)) (nres : Nat) : J (St.init eps nres) :=
  ⟨Inv.init eps nres, fun s hs => by simp [St.init] at hs⟩

theorem run (eps : List (Nat × Nat)) (nres : Nat) (es : List Event) : J ((St.init eps nres).run es) :=
  J.ev.run (J.init eps nres) es

end J

end Coap.Sessions
