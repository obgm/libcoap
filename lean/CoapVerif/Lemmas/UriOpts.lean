import CoapVerif.Lemmas.UriSplit
/- Helper lemmas for C16, third part: coap_uri_into_optlist against RFC 7252 §6.4 steps 5–9 (Spec.Uri.uriOptions),
   well-formed escapes survive the splitting of a component, the Uri-Path / Uri-Query values read back from the
   option list. -/
namespace Coap.UriL
open Coap Coap.MU Coap.Spec.Uri

/-! ### coap_uri_into_optlist -/

theorem hostIsUnix_eq (h : Bytes) : hostIsUnix h = unixHost h := by
  unfold hostIsUnix unixHost unixStart
  match h with
  | [] | [_] | [_, _] | _ :: _ :: _ :: _ => simp

theorem lowerC_eq : lowerC = lowerAscii := rfl

/-- (T1) the `switch` by which coap_uri_into_optlist picks the scheme's default port is S's lookup in the scheme table -/
theorem dflt_tab : ∀ id, id < 8 →
    schemeDefaultPort Generated.Uri.schemes id =
      (if id = 4 || id = 6 then 80 else if id = 5 || id = 7 then 443 else if id % 2 = 1 then 5684 else 5683) := by
  decide

theorem encodeVar_port (p : Nat) (h : p < 65536) : encodeVar (p % 65536) = portBytes p := by
  rw [Nat.mod_eq_of_lt h]
  unfold encodeVar portBytes
  by_cases h0 : p = 0
  · simp [h0]
  · by_cases h1 : p < 256
    · simp [h0, h1]
    · simp [h0, h1, h]

/-- the length test and `memcmp` of coap_uri_into_optlist together say `cmp ≠ dst` -/
theorem hostCmp (dst cmp : Bytes) : (dst.length ≠ cmp.length || dst != cmp) = decide (cmp ≠ dst) := by
  by_cases h : cmp = dst
  · subst h; simp
  · have : dst ≠ cmp := fun e => h e.symm
    simp [h, this]

/-- the component calls of coap_uri_into_optlist: none for an empty component (`if (uri->path.length)`), else the splitter
`f` (`pathOpts` / `queryOpts`), which agrees with S's `g` (`splitPath` / `splitQuery`); the hypothesis is `pathOptions x = some ps`
/ `queryOptions x = some ps` unfolded -/
theorem compRes_eq (f : Bytes → R (List Bytes)) (g : Bytes → Option (List Bytes))
    (hfg : ∀ x ps, g x = some ps → f x = R.ok ps) (x : Bytes) (ps : List Bytes)
    (h : (if x = [] then some [] else g x) = some ps) : (if x.length ≠ 0 then f x else R.ok []) = R.ok ps := by
  cases x with
  | nil => cases h; rfl
  | cons c r => exact hfg _ ps h

/-- the left side is the `hostOpt` block of `uriIntoOptlist`, verbatim -/
theorem hostOpt_eq (dst host : Bytes) (ho : List (Nat × Bytes)) (h : hostOption dst host = some ho) :
    (if host.length ≠ 0 then
        (if dst.length ≠ (spanWhile (· != 0x25) host).1.length || dst != (spanWhile (· != 0x25) host).1 then
          [(3, (replacePercents host).map lowerC)]
        else [])
      else []) = ho := by
  unfold hostOption at h
  rw [spanWhile_ne, hostCmp]
  by_cases hh : host = []
  · subst hh; simp at h; subst h; simp
  · have hl : host.length ≠ 0 := by simpa using hh
    simp only [hl, ne_eq, not_false_eq_true, if_true]
    by_cases ha : hostAddr host = dst
    · simp only [ha, or_true, if_true, Option.some.injEq] at h
      unfold hostAddr at ha
      simp [ha, h]
    · simp only [hh, ha, or_self, if_false] at h
      unfold hostAddr at ha
      split at h
      · rename_i d hd
        simp [ha, replacePercents_eq host d hd, lowerC_eq, ← Option.some.inj h]
      · cases h

/-! ### splitting a component with well-formed escapes -/

theorem pctDecode_append (a b x y : Bytes) (ha : pctDecode a = some x) (hb : pctDecode b = some y) :
    pctDecode (a ++ b) = some (x ++ y) := by
  induction a, x, ha using pctDecode_rec with
  | nil => exact hb
  | plain c r t hc ht ih => exact pctDecode_cons_plain _ _ _ hc ih
  | esc a' b' r x' y' t hx hy ht ih => exact pctDecode_esc _ _ _ _ _ _ hx hy ih

/-- neither '%' nor a hex digit ends a component or separates segments -/
structure HexSafe (stop sep : UInt8 → Bool) : Prop where
  pct : stop 0x25 = false ∧ sep 0x25 = false
  hex : ∀ c x, hexDigitVal c = some x → stop c = false ∧ sep c = false

/-- the delimiters '#' '&' '/' '?' lie outside the three ranges of HEXDIG -/
theorem hexDigit_not_delim (c : UInt8) (x : Nat) (h : hexDigitVal c = some x) :
    (c == 0x23) = false ∧ (c == 0x26) = false ∧ (c == 0x2f) = false ∧ (c == 0x3f) = false := by
  have hr := hexDigitVal_inv c x h
  have ne : ∀ d : UInt8, c.toNat ≠ d.toNat → (c == d) = false :=
    fun d hd => beq_eq_false_iff_ne.mpr fun e => hd (congrArg UInt8.toNat e)
  exact ⟨ne 0x23 (by change _ ≠ 35; omega), ne 0x26 (by change _ ≠ 38; omega), ne 0x2f (by change _ ≠ 47; omega),
    ne 0x3f (by change _ ≠ 63; omega)⟩

theorem pathHexSafe : HexSafe pathStop pathSep where
  pct := by decide
  hex := fun c x h => by
    have ⟨h1, _, h3, h4⟩ := hexDigit_not_delim c x h
    simp only [pathStop, pathSep, h1, h3, h4, Bool.or_self, and_self]

theorem queryHexSafe : HexSafe queryStop querySep where
  pct := by decide
  hex := fun c x h => by
    have ⟨h1, h2, _, _⟩ := hexDigit_not_delim c x h
    simp only [queryStop, querySep, h1, h2, and_self]

theorem splits_decode {stop sep : UInt8 → Bool} (hs : HexSafe stop sep) (s cur d dc : Bytes)
    (h : pctDecode s = some d) (hcur : pctDecode cur = some dc) :
    ∃ ds, decodeAll (splitAcc stop sep s cur) = some ds := by
  induction s, d, h using pctDecode_rec generalizing cur dc with
  | nil => exact ⟨[dc], by simp [splitAcc, decodeAll, hcur]⟩
  | plain c r t hc ht ih =>
    by_cases h1 : stop c = true
    · exact ⟨[dc], by simp [splitAcc, h1, decodeAll, hcur]⟩
    · by_cases h2 : sep c = true
      · obtain ⟨ds, hds⟩ := ih [] [] rfl
        exact ⟨dc :: ds, by simp [splitAcc, h1, h2, decodeAll, hcur, hds]⟩
      · obtain ⟨ds, hds⟩ := ih (cur ++ [c]) _ (pctDecode_append cur [c] dc [c] hcur (pctDecode_cons_plain _ _ _ hc rfl))
        exact ⟨ds, by simp [splitAcc, h1, h2, hds]⟩
  | esc a b r x y t hx hy ht ih =>
    have ⟨p1, p2⟩ := hs.pct
    have ⟨a1, a2⟩ := hs.hex a x hx
    have ⟨b1, b2⟩ := hs.hex b y hy
    obtain ⟨ds, hds⟩ := ih (cur ++ [0x25, a, b]) _
      (pctDecode_append cur [0x25, a, b] dc _ hcur (pctDecode_esc _ _ _ _ _ _ hx hy rfl))
    refine ⟨ds, ?_⟩
    simp only [splitAcc, p1, p2, a1, a2, b1, b2, Bool.false_eq_true, if_false]
    simpa using hds

theorem rawSegs_decode {stop sep : UInt8 → Bool} (hs : HexSafe stop sep) (s : Bytes) (h : Spec.Uri.escapesOk s = true) :
    ∃ ds, decodeAll (rawSegs stop sep s) = some ds :=
  let ⟨d, hd⟩ := Option.isSome_iff_exists.mp h
  splits_decode hs s [] d [] hd rfl

theorem splitPath_defined (s : Bytes) (h : Spec.Uri.escapesOk s = true) : ∃ segs, Spec.Uri.splitPath s = some segs :=
  let ⟨ds, hds⟩ := rawSegs_decode pathHexSafe s h
  ⟨resolve ds, by rw [Spec.Uri.splitPath, hds]⟩

theorem splitQuery_defined (s : Bytes) (h : Spec.Uri.escapesOk s = true) : ∃ segs, Spec.Uri.splitQuery s = some segs :=
  rawSegs_decode queryHexSafe s h

/-- S's options of a component that splits (`pathOptions` / `queryOptions` unfolded): none for the empty string, else the
split.  `ps = []`: the component was empty and the splitter was not called -/
theorem compOpt_defined (g : Bytes → Option (List Bytes)) (x : Bytes) (hg : ∃ ps, g x = some ps) :
    ∃ ps, (if x = [] then some [] else g x) = some ps ∧ (ps = [] ∨ g x = some ps) := by
  by_cases e : x = []
  · exact ⟨[], by rw [if_pos e], Or.inl rfl⟩
  · obtain ⟨ps, h⟩ := hg
    exact ⟨ps, by rw [if_neg e, h], Or.inr h⟩

/-! ### reading the option list back -/

def valuesOf (num : Nat) (opts : List (Nat × Bytes)) : List Bytes := (opts.filter (fun o => o.1 == num)).map (·.2)

theorem valuesOf_append (num : Nat) (a b : List (Nat × Bytes)) : valuesOf num (a ++ b) = valuesOf num a ++ valuesOf num b := by
  simp [valuesOf]

theorem valuesOf_map_same (num : Nat) (l : List Bytes) : valuesOf num (l.map (fun v => (num, v))) = l := by
  induction l with
  | nil => rfl
  | cons a r ih => simp [valuesOf] at ih ⊢; exact ih

theorem valuesOf_none (num : Nat) (l : List (Nat × Bytes)) (h : ∀ o ∈ l, o.1 ≠ num) : valuesOf num l = [] := by
  induction l with
  | nil => rfl
  | cons a r ih =>
    have h1 := h a (by simp)
    have := ih (fun o ho => h o (by simp [ho]))
    simp [valuesOf, h1] at this ⊢
    exact this

theorem mem_ite_single {α : Type} (c : Prop) [Decidable c] (x o : α) (h : o ∈ (if c then [x] else [])) : o = x := by
  split at h
  · simpa using h
  · cases h

theorem mem_ite_nil {α : Type} (c : Prop) [Decidable c] (l : List α) (o : α) (h : o ∈ (if c then l else [])) : o ∈ l := by
  split at h
  · exact h
  · cases h

/-- shape of coap_uri_into_optlist's result: Uri-Host / Uri-Port first, then the Uri-Path and the Uri-Query values -/
theorem uriIntoOptlist_shape (dst : Bytes) (u : MU.Uri) (ps qs : List Bytes)
    (hp : (if u.path.length ≠ 0 then pathOpts u.path else R.ok []) = R.ok ps)
    (hq : (if u.query.length ≠ 0 then queryOpts u.query else R.ok []) = R.ok qs) :
    ∃ hpo, (∀ o ∈ hpo, o.1 = 3 ∨ o.1 = 7) ∧
      uriIntoOptlist dst u = R.ok (hpo ++ ps.map (fun v => (11, v)) ++ qs.map (fun v => (15, v))) := by
  unfold uriIntoOptlist
  rw [hp, hq]
  refine ⟨_, ?_, rfl⟩
  intro o ho
  have ho := mem_ite_nil _ _ _ ho
  simp only [List.mem_append] at ho
  rcases ho with ho | ho
  · have ho := mem_ite_single _ _ _ (mem_ite_nil _ _ _ ho)
    left; rw [ho]
  · have ho := mem_ite_single _ _ _ ho
    right; rw [ho]

theorem uriIntoOptlist_values (dst : Bytes) (u : MU.Uri) (ps qs : List Bytes) (opts : List (Nat × Bytes))
    (hp : (if u.path.length ≠ 0 then pathOpts u.path else R.ok []) = R.ok ps)
    (hq : (if u.query.length ≠ 0 then queryOpts u.query else R.ok []) = R.ok qs)
    (h : uriIntoOptlist dst u = R.ok opts) : valuesOf 11 opts = ps ∧ valuesOf 15 opts = qs := by
  obtain ⟨hpo, hnum, e⟩ := uriIntoOptlist_shape dst u ps qs hp hq
  rw [e] at h
  have h := (R.ok.inj h).symm
  subst h
  have hnone : ∀ num, num ≠ 3 → num ≠ 7 → valuesOf num hpo = [] := fun num h3 h7 =>
    valuesOf_none _ _ fun o ho => by rcases hnum o ho with h | h <;> omega
  constructor
  · rw [valuesOf_append, valuesOf_append, hnone 11 (by decide) (by decide), valuesOf_map_same,
      valuesOf_none 11 (qs.map _) (by simp)]
    simp
  · rw [valuesOf_append, valuesOf_append, hnone 15 (by decide) (by decide), valuesOf_map_same,
      valuesOf_none 15 (ps.map _) (by simp)]
    simp

/-- the two component calls always return -/
theorem uriIntoOptlist_not_oob (dst : Bytes) (u : MU.Uri) : uriIntoOptlist dst u ≠ R.oob := by
  unfold uriIntoOptlist
  rw [pathOpts_fold, queryOpts_fold, ← apply_ite R.ok, ← apply_ite R.ok]
  nofun

end Coap.UriL
