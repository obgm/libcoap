import CoapVerif.Model.OptFilter
import CoapVerif.Spec.OptFilter
/-!
C03, `coap_opt_filter_t`: a slot array stands for the list of the values its used slots hold (`usedVals`); one operation on
the slots of one class against any list with those values (`opOn_get`, `opOn_set`, `opOn_clr`; `setL` = FILTER_SET on such a
list), and the filtered iterator is the unfiltered one followed by the filter (`iterF_eq_filter`, `firstF_eq_find`).
-/
namespace Coap.M.OptFilter

def usedVals : Slots → List Nat
  | [] => []
  | (u, x) :: r => if u then x :: usedVals r else usedVals r

@[simp] theorem usedVals_nil : usedVals [] = [] := rfl
theorem usedVals_cons_true (x : Nat) (r : Slots) : usedVals ((true, x) :: r) = x :: usedVals r := by simp [usedVals]
theorem usedVals_cons_false (x : Nat) (r : Slots) : usedVals ((false, x) :: r) = usedVals r := by simp [usedVals]

theorem usedVals_cons (a : Bool × Nat) (r : Slots) : usedVals (a :: r) = usedVals [a] ++ usedVals r := by
  obtain ⟨u, x⟩ := a
  cases u <;> rfl

theorem usedVals_length_le (sl : Slots) : (usedVals sl).length ≤ sl.length := by
  induction sl with
  | nil => simp
  | cons h r ih => rcases h with ⟨u, x⟩; cases u <;> simp [usedVals] <;> omega

theorem findIdx_none_iff (sl : Slots) (v : Nat) : findIdx sl v = none ↔ v ∉ usedVals sl := by
  induction sl with
  | nil => simp [findIdx]
  | cons h r ih =>
    rcases h with ⟨u, x⟩
    cases u
    · simp [findIdx, usedVals, ih]
    · by_cases hx : x = v
      · simp [findIdx, usedVals, hx]
      · have hx' : ¬ v = x := fun h => hx h.symm
        simp [findIdx, usedVals, hx, hx', ih]

theorem findIdx_some (sl : Slots) (v i : Nat) (h : findIdx sl v = some i) : sl[i]? = some (true, v) := by
  induction sl generalizing i with
  | nil => simp [findIdx] at h
  | cons hd r ih =>
    rcases hd with ⟨u, x⟩
    by_cases hc : u = true ∧ x = v
    · simp [findIdx, hc] at h; subst h; simp [hc.1, hc.2]
    · simp only [findIdx, hc, if_false] at h
      cases hf : findIdx r v with
      | none => simp [hf] at h
      | some j =>
        simp [hf] at h; subst h
        exact ih j hf

theorem findIdx_none_perm {sl : Slots} {l : List Nat} (hp : l.Perm (usedVals sl)) (v : Nat) :
    findIdx sl v = none ↔ v ∉ l :=
  (findIdx_none_iff sl v).trans (not_congr hp.mem_iff.symm)

theorem findIdx_some_mem {sl : Slots} {l : List Nat} {v i : Nat} (hp : l.Perm (usedVals sl)) (h : findIdx sl v = some i) :
    v ∈ l :=
  Decidable.not_not.1 fun hn => by rw [(findIdx_none_perm hp v).2 hn] at h; cases h

theorem lastFree_none_iff (sl : Slots) : lastFree sl = none ↔ (usedVals sl).length = sl.length := by
  induction sl with
  | nil => simp [lastFree]
  | cons h r ih =>
    rcases h with ⟨u, x⟩
    have hle := usedVals_length_le r
    cases hr : lastFree r with
    | some i =>
      have : ¬ (usedVals r).length = r.length := by rw [← ih]; simp [hr]
      cases u <;> simp [lastFree, hr, usedVals] <;> omega
    | none =>
      have : (usedVals r).length = r.length := ih.1 hr
      cases u <;> simp [lastFree, hr, usedVals] <;> omega

theorem lastFree_some (sl : Slots) (i : Nat) (h : lastFree sl = some i) : ∃ x, sl[i]? = some (false, x) := by
  induction sl generalizing i with
  | nil => simp [lastFree] at h
  | cons hd r ih =>
    rcases hd with ⟨u, x⟩
    cases hr : lastFree r with
    | some j =>
      simp [lastFree, hr] at h; subst h
      exact ih j hr
    | none =>
      cases u
      · simp [lastFree, hr] at h; subst h; exact ⟨x, rfl⟩
      · simp [lastFree, hr] at h

/-- writing slot `i` exchanges what the slot contributes to the values in use -/
theorem usedVals_set (sl : Slots) (i : Nat) (p q : Bool × Nat) (h : sl[i]? = some p) :
    (usedVals [q] ++ usedVals sl).Perm (usedVals [p] ++ usedVals (sl.set i q)) := by
  induction sl generalizing i with
  | nil => cases h
  | cons hd r ih =>
    cases i with
    | zero =>
      cases h
      rw [List.set_cons_zero, usedVals_cons p r, usedVals_cons q r]
      exact List.perm_append_comm_assoc ..
    | succ j =>
      rw [List.set_cons_succ, usedVals_cons hd r, usedVals_cons hd (r.set j q)]
      exact (List.perm_append_comm_assoc ..).trans (((ih j h).append_left _).trans (List.perm_append_comm_assoc ..))

theorem set_length (sl : Slots) (i : Nat) (p : Bool × Nat) : (sl.set i p).length = sl.length := by simp

/-- FILTER_SET on one class of `Spec.OptFilter.BSet`: a list of at most `cap` numbers -/
def setL (cap : Nat) (l : List Nat) (n : Nat) : List Nat × Nat :=
  if n ∈ l then (l, 1) else if l.length < cap then (n :: l, 1) else (l, 0)

theorem setL_nodup {cap : Nat} {l : List Nat} (n : Nat) (h : l.Nodup) : (setL cap l n).1.Nodup :=
  ite_ind (P := fun r : List Nat × Nat => r.1.Nodup) (fun _ => h) fun hm =>
    ite_ind (P := fun r : List Nat × Nat => r.1.Nodup) (fun _ => List.nodup_cons.2 ⟨hm, h⟩) fun _ => h

theorem setL_mem_self {cap : Nat} {l : List Nat} {n : Nat} (h : (setL cap l n).2 = 1) : n ∈ (setL cap l n).1 := by
  unfold setL at h ⊢
  by_cases hm : n ∈ l
  · rwa [if_pos hm]
  · rw [if_neg hm] at h ⊢
    by_cases hr : l.length < cap
    · rw [if_pos hr]; exact List.mem_cons_self
    · rw [if_neg hr] at h; cases h

theorem setL_mem_ne {cap : Nat} {l : List Nat} {n m : Nat} (h : m ≠ n) : m ∈ (setL cap l n).1 ↔ m ∈ l :=
  ite_ind (P := fun r : List Nat × Nat => m ∈ r.1 ↔ m ∈ l) (fun _ => Iff.rfl) fun _ =>
    ite_ind (P := fun r : List Nat × Nat => m ∈ r.1 ↔ m ∈ l) (fun _ => List.mem_cons.trans (or_iff_right h)) fun _ => Iff.rfl

open Spec.OptFilter (BSet capLong capShort)

theorem set_long {s : BSet} {n : Nat} (h : n > 255) :
    s.set n = ({ s with long := (setL capLong s.long n).1 }, (setL capLong s.long n).2) := by
  unfold BSet.set setL
  rw [if_pos h]
  by_cases hm : n ∈ s.long
  · simp only [if_pos hm]
  · by_cases hr : s.long.length < capLong
    · simp only [if_neg hm, if_pos hr]
    · simp only [if_neg hm, if_neg hr]

theorem set_short {s : BSet} {n : Nat} (h : ¬ n > 255) :
    s.set n = ({ s with short := (setL capShort s.short n).1 }, (setL capShort s.short n).2) := by
  unfold BSet.set setL
  rw [if_neg h]
  by_cases hm : n ∈ s.short
  · simp only [if_pos hm]
  · by_cases hr : s.short.length < capShort
    · simp only [if_neg hm, if_pos hr]
    · simp only [if_neg hm, if_neg hr]

/-- FILTER_GET, and the search every operation starts with -/
theorem opOn_get {sl : Slots} {l : List Nat} (hp : l.Perm (usedVals sl)) (v : Nat) :
    opOn sl v Op.get = (sl, if v ∈ l then 1 else 0) := by
  unfold opOn
  cases h : findIdx sl v with
  | none => rw [if_neg ((findIdx_none_perm hp v).1 h)]
  | some i => rw [if_pos (findIdx_some_mem hp h)]; rfl

/-- FILTER_SET: present → 1, unchanged; absent and a free slot → 1 and the value is added; absent and full → 0, unchanged -/
theorem opOn_set {sl : Slots} {l : List Nat} (hp : l.Perm (usedVals sl)) (v : Nat) :
    (opOn sl v Op.set).1.length = sl.length ∧ (opOn sl v Op.set).2 = (setL sl.length l v).2 ∧
      (setL sl.length l v).1.Perm (usedVals (opOn sl v Op.set).1) := by
  unfold opOn setL
  by_cases hm : v ∈ l
  · rw [if_pos hm]
    cases h : findIdx sl v with
    | none => exact absurd hm ((findIdx_none_perm hp v).1 h)
    | some i => exact ⟨rfl, rfl, hp⟩
  · rw [if_neg hm, (findIdx_none_perm hp v).2 hm]
    have hle := usedVals_length_le sl
    cases hl : lastFree sl with
    | none =>
      rw [if_neg (by rw [hp.length_eq, (lastFree_none_iff sl).1 hl]; exact Nat.lt_irrefl _)]
      exact ⟨rfl, rfl, hp⟩
    | some i =>
      have hfree : ¬ (usedVals sl).length = sl.length := fun h => by rw [(lastFree_none_iff sl).2 h] at hl; cases hl
      obtain ⟨x, hx⟩ := lastFree_some sl i hl
      rw [if_pos (by rw [hp.length_eq]; omega)]
      exact ⟨List.length_set, rfl, (hp.cons v).trans (usedVals_set sl i (false, x) (true, v) hx)⟩

/-- FILTER_CLEAR: absent → 0, unchanged; present → 1 and exactly that value leaves -/
theorem opOn_clr {sl : Slots} {l : List Nat} (hp : l.Perm (usedVals sl)) (v : Nat) :
    (opOn sl v Op.clr).1.length = sl.length ∧ (opOn sl v Op.clr).2 = (if v ∈ l then 1 else 0) ∧
      (l.erase v).Perm (usedVals (opOn sl v Op.clr).1) := by
  unfold opOn
  cases h : findIdx sl v with
  | none =>
    have hm : v ∉ l := (findIdx_none_perm hp v).1 h
    rw [if_neg hm, List.erase_of_not_mem hm]
    exact ⟨rfl, rfl, hp⟩
  | some i =>
    rw [if_pos (findIdx_some_mem hp h)]
    refine ⟨List.length_set, rfl, ?_⟩
    -- l ~ usedVals sl ~ v :: new, so l.erase v ~ new
    have : (l.erase v).Perm ((v :: usedVals (sl.set i (false, v))).erase v) :=
      (hp.trans (usedVals_set sl i (true, v) (false, v) (findIdx_some sl v i h))).erase v
    rwa [List.erase_cons_head] at this

theorem optParse_nil (len : Nat) : optParse [] len = R.rej ∨ optParse [] len = R.oob := by
  unfold optParse
  by_cases h : len < 1
  · simp [h]
  · simp [h, rd]

theorem optParse_marker (r : Bytes) (len : Nat) : optParse ((0xFF : UInt8) :: r) len = R.rej := by
  unfold optParse
  by_cases h : len < 1
  · rw [if_pos h]
  · rw [if_neg h]; rfl

/-! ### the filtered iterator is the unfiltered one followed by the filter

Inside the skip loop (`fresh = false`) the code does not test `opt_finished()` before it parses; the result is that of the
unfiltered walk all the same, because `coap_opt_parse` itself refuses the two finished shapes: no bytes left (`length < 1`) and a
leading payload marker (delta nibble 15, `optParse_marker`). -/

def mapR {α β} (f : α → β) : R α → R β
  | R.ok a => R.ok (f a)
  | R.rej => R.rej
  | R.oob => R.oob

theorem iterF_eq_filter (flt : Nat → Bool) : ∀ (fuel : Nat) (bs : Bytes) (n : Nat) (fresh : Bool),
    iterF flt fuel bs n fresh = mapR (List.filter (fun o => flt o.1)) (iter fuel bs n) := by
  intro fuel
  induction fuel with
  | zero => intro bs n fresh; simp [iterF, iter, mapR]
  | succ fuel ih =>
    intro bs n fresh
    rcases bs with _ | ⟨b, r⟩
    · cases fresh
      · simp [iterF, iter, mapR, finished, optParse]
      · simp [iterF, iter, mapR, finished]
    · by_cases hff : b = 0xFF
      · subst hff
        cases fresh
        · simp [iterF, iter, mapR, finished, optParse_marker]
        · simp [iterF, iter, mapR, finished]
      · have hfin : finished (b :: r) = false := by simp [finished, hff]
        simp only [iterF, iter, hfin, Bool.and_false, hff, if_false, Bool.false_eq_true, List.length_cons]
        cases hO : optParse (b :: r) (r.length + 1) with
        | oob => simp [mapR]
        | rej => simp [mapR]
        | ok p =>
          simp only [ih]
          cases iter fuel (List.drop p.size (b :: r)) ((n + p.delta) % 65536) with
          | oob => simp [mapR]
          | rej => simp [mapR]
          | ok os => by_cases hf : flt ((n + p.delta) % 65536) = true <;> simp [mapR, List.filter, hf]

theorem firstF_eq_find (flt : Nat → Bool) : ∀ (fuel : Nat) (bs : Bytes) (n : Nat) (fresh : Bool) (os : List (Nat × Bytes)),
    iter fuel bs n = R.ok os → firstF flt fuel bs n fresh = R.ok (os.find? (fun o => flt o.1)) := by
  intro fuel
  induction fuel with
  | zero => intro bs n fresh os h; simp [iter] at h; subst h; simp [firstF]
  | succ fuel ih =>
    intro bs n fresh os h
    rcases bs with _ | ⟨b, r⟩
    · simp [iter] at h; subst h
      cases fresh
      · simp [firstF, finished, optParse]
      · simp [firstF, finished]
    · by_cases hff : b = 0xFF
      · subst hff
        simp [iter] at h; subst h
        cases fresh
        · simp [firstF, finished, optParse_marker]
        · simp [firstF, finished]
      · have hfin : finished (b :: r) = false := by simp [finished, hff]
        simp only [iter, hff, if_false, List.length_cons] at h
        simp only [firstF, hfin, Bool.and_false, Bool.false_eq_true, if_false, List.length_cons]
        cases hO : optParse (b :: r) (r.length + 1) with
        | oob => simp [hO] at h
        | rej => simp [hO] at h; subst h; simp
        | ok p =>
          simp only [hO] at h
          simp only []
          cases hi : iter fuel (List.drop p.size (b :: r)) ((n + p.delta) % 65536) with
          | oob => simp [hi] at h
          | rej => simp [hi] at h
          | ok os' =>
            simp only [hi, R.ok.injEq] at h
            subst h
            by_cases hf : flt ((n + p.delta) % 65536) = true
            · simp [hf, List.find?]
            · simp only [hf, if_false, Bool.false_eq_true]
              rw [ih _ _ false os' hi]
              simp [List.find?, hf]

end Coap.M.OptFilter
