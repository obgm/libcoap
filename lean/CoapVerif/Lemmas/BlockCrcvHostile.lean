import CoapVerif.Lemmas.BlockCrcv
/- C09 / C02, client side, Block2, single-body mode against a HOSTILE server: for EVERY sequence of responses — any NUM, M,
   SZX (changing in mid-transfer), Size2 (absent, too small, too large, different on every response), ETag,
   Content-Format, payload length — whatever body `crcvStep` hands to the response handler consists of bytes the server
   sent for exactly those offsets; no byte of the buffer that was never written (`junk`) is ever delivered.
   Rests on the three fixes a8ffb89 (SZX change → 4.08), 0b3fb08 (coap_block_build_body never shrinks), 2e4f34e (a short
   block that is not the end of the body → 4.08, blocks forgotten). -/
namespace Coap.Block
open Coap.Spec.Block

/-- response `r` carries byte `v` for offset `o` of the body: it has a Block2 option (NUM, _, SZX), `o` lies in that
block and the payload holds `v` at `o - NUM * 2^(SZX+4)` -/
def SentAt (r : Resp) (o : Nat) (v : UInt8) : Prop :=
  ∃ num m szx, r.blk = some (num, m, szx) ∧ num * 2 ^ (szx + 4) ≤ o ∧ o < num * 2 ^ (szx + 4) + 2 ^ (szx + 4) ∧
    r.payload[o - num * 2 ^ (szx + 4)]? = some v

def SentIn (hist : List Resp) (o : Nat) (v : UInt8) : Prop := ∃ r, r ∈ hist ∧ SentAt r o v

theorem SentIn_mono (h1 h2 : List Resp) (o : Nat) (v : UInt8) (hsub : ∀ r, r ∈ h1 → r ∈ h2) (h : SentIn h1 o v) :
    SentIn h2 o v := by
  obtain ⟨r', hr', hs⟩ := h
  exact ⟨r', hsub r' hr', hs⟩

theorem SentIn_cons (r : Resp) (hist : List Resp) (o : Nat) (v : UInt8) (h : SentIn hist o v) :
    SentIn (r :: hist) o v :=
  SentIn_mono _ _ o v (fun _ => List.mem_cons_of_mem _) h

/-- The (initialised) lg_crcv in single-body mode against ANY server: ranges well formed, and every byte of every
recorded block is in the buffer and was sent by the server for that offset (in `hist`).  Nothing is assumed about a
"true" body. -/
structure HInv (cap : Nat) (hist : List Resp) (s : Crcv) : Prop where
  wf : WfFrom 0 s.recv
  cnt : s.recv.length ≤ cap - 1
  buf : match s.body with
        | none => s.recv = []
        | some b => ∀ k, Covers s.recv k → ∀ i, i < chunkSize s.szx →
            ∃ v, b[k * chunkSize s.szx + i]? = some v ∧ SentIn hist (k * chunkSize s.szx + i) v

theorem HInv_cons (cap : Nat) (hist : List Resp) (r : Resp) (s : Crcv) (h : HInv cap hist s) : HInv cap (r :: hist) s := by
  refine { wf := h.wf, cnt := h.cnt, buf := ?_ }
  have hb := h.buf
  cases hbody : s.body with
  | none => rw [hbody] at hb; exact hb
  | some b =>
    rw [hbody] at hb
    simp only at hb ⊢
    intro k hk i hi
    obtain ⟨v, h1, h2⟩ := hb k hk i hi
    exact ⟨v, h1, SentIn_cons r hist _ v h2⟩

theorem other_block_outside (c k num i dlen : Nat) (hi : i < c) (hd : dlen ≤ c) (hne : k ≠ num) :
    ¬ (num * c ≤ k * c + i ∧ k * c + i < num * c + dlen) := by
  intro hh
  rcases Nat.lt_or_gt_of_ne hne with hlt | hgt
  · have h1 : (k + 1) * c ≤ num * c := Nat.mul_le_mul_right c (by omega)
    rw [Nat.succ_mul] at h1
    omega
  · have h1 : (num + 1) * c ≤ k * c := Nat.mul_le_mul_right c (by omega)
    rw [Nat.succ_mul] at h1
    omega

theorem crcvStore_hostile (cap : Nat) (junk : UInt8) (hist : List Resp) (r : Resp) (lg : Crcv) (num m szx : Nat)
    (data : Bytes) (size2 fmt : Nat) (st' : Option Crcv) (out : CrcvOut)
    (hinv : HInv cap hist lg) (hblk : r.blk = some (num, m, szx))
    (hdata : data = r.payload.take (2 ^ (szx + 4))) (hpos : 0 < data.length)
    (hm : m ≠ 0 → data.length = 2 ^ (szx + 4)) (hs : num * 2 ^ (szx + 4) + data.length ≤ size2)
    (h : crcvStore true cap junk lg num m szx r.payload data (num * 2 ^ (szx + 4)) size2 fmt = (st', out)) :
    (∀ s', st' = some s' → s'.initial = false → HInv cap (r :: hist) s') ∧
    (∀ d l, out = CrcvOut.body d l → l ≤ d.length ∧ ∀ o, o < l → ∃ v, d[o]? = some v ∧ SentIn (r :: hist) o v) := by
  have hinv' := HInv_cons cap hist r lg hinv
  rcases crcvStore_cases _ _ _ _ _ _ _ _ _ _ _ _ _ h with e | e | ⟨rec', hszx, hrcv, hu, ⟨_, hsingle⟩ | ⟨hper, _⟩⟩
  · cases e
    exact ⟨fun s' hs' _ => by cases hs'; exact hinv', fun d l hb => by cases hb⟩
  · cases e
    exact ⟨fun s' hs' _ => by cases hs'; exact hinv', fun d l hb => by cases hb⟩
  · subst hszx
    rw [pow_eq_chunkSize lg.szx] at hsingle hdata hm hs
    have hc := chunk_pos lg.szx
    have hdl : data.length ≤ chunkSize lg.szx := by
      rw [hdata, List.length_take]; exact Nat.min_le_left _ _
    have hncov : ¬ Covers lg.recv num := mt (checkIfReceived_iff hinv.wf).mpr hrcv
    obtain ⟨w1, w2, hne, w3⟩ := updateReceived_true hinv.wf hinv.cnt hu
    obtain ⟨b', hb1, hb2, hb3, hb4, hb5, hb6⟩ :=
      buildBody_spec2 junk lg.body data (num * chunkSize lg.szx) size2 hpos hs
    rw [hb1] at hsingle
    rcases hsingle with ⟨hb, _⟩ | ⟨b, hb, alts⟩
    · cases hb
    cases hb
    -- the bytes of this block, as far as the payload goes
    have hnew : ∀ i, i < data.length →
        ∃ v, b'[num * chunkSize lg.szx + i]? = some v ∧ SentIn (r :: hist) (num * chunkSize lg.szx + i) v := by
      intro i hi
      have hget := hb5 (num * chunkSize lg.szx + i) (Nat.le_add_right _ _) (Nat.add_lt_add_left hi _)
      have hic := Nat.lt_of_lt_of_le hi hdl
      rw [Nat.add_sub_cancel_left] at hget
      refine ⟨data[i], by rw [hget]; exact List.getElem?_eq_getElem hi, r, List.mem_cons_self, num, m, lg.szx, hblk,
        Nat.le_add_right _ _, Nat.add_lt_add_left hic _, ?_⟩
      rw [pow_eq_chunkSize lg.szx, Nat.add_sub_cancel_left]
      have e1 : data[i]? = (r.payload.take (chunkSize lg.szx))[i]? := by rw [← hdata]
      rw [List.getElem?_take, if_pos hic] at e1
      rw [← e1]
      exact List.getElem?_eq_getElem hi
    -- the bytes of the blocks recorded before stay
    have hold : ∀ k, Covers lg.recv k → ∀ i, i < chunkSize lg.szx →
        ∃ v, b'[k * chunkSize lg.szx + i]? = some v ∧ SentIn (r :: hist) (k * chunkSize lg.szx + i) v := by
      intro k hk i hi
      have hkn : k ≠ num := fun hh => hncov (hh ▸ hk)
      obtain ⟨b, hbody, hbuf⟩ := buf_of_ne_nil hinv'.buf (ne_nil_of_covers hk)
      obtain ⟨v, h1, h2⟩ := hbuf k hk i hi
      have hil : k * chunkSize lg.szx + i < b.length := (List.getElem?_eq_some_iff.mp h1).1
      refine ⟨v, ?_, h2⟩
      rw [hb6 b hbody _ hil (other_block_outside _ _ _ _ _ hi hdl hkn)]
      exact h1
    -- a full block: the invariant holds for the new state
    have hfull : data.length = chunkSize lg.szx →
        HInv cap (r :: hist) { lg with recv := rec', body := some b' } := by
      intro hfl
      refine { wf := w1, cnt := w2, buf := ?_ }
      simp only
      intro k hk i hi
      rcases (w3 k).mp hk with hk | hk
      · exact hold k hk i hi
      · subst hk
        exact hnew i (by omega)
    rcases alts with ⟨hm0, e⟩ | ⟨_, _, e⟩ | ⟨_, hmod, e⟩ | ⟨_, hall, e⟩
    · cases e
      refine ⟨?_, fun d l hb => (by cases hb)⟩
      intro s' hs' _
      cases hs'
      exact hfull (hm hm0)
    · cases e
      refine ⟨?_, fun d l hb => (by cases hb)⟩
      intro s' hs' hi
      cases hs'
      cases hi
    · cases e
      refine ⟨?_, fun d l hb => (by cases hb)⟩
      intro s' hs' _
      cases hs'
      apply hfull
      -- 0 < length ≤ chunk and length % chunk = 0
      rcases Nat.lt_or_ge data.length (chunkSize lg.szx) with hlt | hge
      · rw [Nat.mod_eq_of_lt hlt] at hmod; omega
      · omega
    · cases e
      have hcov := checkAllBlocksIn_covers w1 hne hall
      refine ⟨fun s' hs' => (by cases hs'), ?_⟩
      intro d l hb
      cases hb
      refine ⟨hb2, ?_⟩
      intro o ho
      by_cases hlow : o < num * chunkSize lg.szx
      · -- a byte of an earlier block
        have hk : o / chunkSize lg.szx < num := (Nat.div_lt_iff_lt_mul hc).mpr hlow
        obtain ⟨hkT, hml, hdm⟩ := block_of_byte lg.szx (Nat.lt_of_lt_of_le hlow (Nat.le_trans (Nat.le_add_right _ _) hs))
        rcases (w3 _).mp (hcov _ hkT) with hk' | hk'
        · have := hold _ hk' (o % chunkSize lg.szx) hml
          rw [hdm] at this
          exact this
        · omega
      · have hle := Nat.le_of_not_lt hlow
        have := hnew (o - num * chunkSize lg.szx) (Nat.sub_lt_left_of_lt_add hle ho)
        rw [Nat.add_sub_cancel' hle] at this
        exact this
  · cases hper

theorem crcvStep_hostile (cap : Nat) (junk : UInt8) (hist : List Resp) (r : Resp) (st st' : Option Crcv) (out : CrcvOut)
    (hst : ∀ s, st = some s → s.initial = false → HInv cap hist s)
    (h : crcvStep true cap junk st r = (st', out)) :
    (∀ s', st' = some s' → s'.initial = false → HInv cap (r :: hist) s') ∧
    (∀ d l, out = CrcvOut.body d l → l ≤ d.length ∧ ∀ o, o < l → ∃ v, d[o]? = some v ∧ SentIn (r :: hist) o v) := by
  rcases crcvStep_cases true cap junk st r with e | ⟨_, _, _, _, _, e⟩ | ⟨lg, hlg, e⟩
  · rw [e] at h
    cases h
    exact ⟨fun s' hs' => (by cases hs'), fun d l hb => (by cases hb)⟩
  · rw [e] at h
    cases h
    exact ⟨fun s' hs' => (by cases hs'), fun d l hb => (by cases hb)⟩
  rw [e] at h
  rcases crcvFound_cases true cap junk lg r with e | e | ⟨num, m, szx, data, size2, hblk, hne, hdata, hm, _, hs2, e⟩
  · rw [e] at h
    cases h
    exact ⟨fun s' hs' => (by cases hs'), fun d l hb => (by cases hb)⟩
  · rw [e] at h
    cases h
    exact ⟨fun s' hs' => (by cases hs'), fun d l hb => (by cases hb)⟩
  -- the (re-)initialised lg_crcv satisfies the invariant
  have hinv2 : HInv cap hist (crcvInit lg szx size2 r) := by
    generalize hlg2 : crcvInit lg szx size2 r = lg2
    rcases (crcvInit_cases hlg2).2 with ⟨_, i2, i3, _⟩ | ⟨hi, i2, i3, i4, _⟩
    · refine { wf := by rw [i2]; trivial, cnt := by rw [i2]; exact Nat.zero_le _, buf := ?_ }
      rw [i3]; exact i2
    · have hv : HInv cap hist lg := by
        rcases hlg with hlg | ⟨_, hlg⟩
        · exact hst lg hlg hi
        · rw [hlg] at hi; cases hi
      refine { wf := by rw [i2]; exact hv.wf, cnt := by rw [i2]; exact hv.cnt, buf := ?_ }
      rw [i3, i2, i4]; exact hv.buf
  rcases e with e | e | ⟨_, e⟩
  · rw [e] at h
    cases h
    exact ⟨fun s' hs' hi => (by cases hs'; cases hi), fun d l hb => (by cases hb)⟩
  · rw [e] at h
    cases h
    exact ⟨fun s' hs' _ => (by cases hs'; exact HInv_cons cap hist r _ hinv2), fun d l hb => (by cases hb)⟩
  · have hpos : 0 < data.length := by
      by_cases hm0 : m ≠ 0
      · rw [hm hm0]; exact Nat.two_pow_pos _
      · have hp : r.payload.length ≠ 0 := hne.resolve_left hm0
        have hc : 0 < 2 ^ (szx + 4) := Nat.two_pow_pos _
        rw [hdata, List.length_take]
        omega
    have hs := crcvSize2_ge r.size2 m (num * 2 ^ (szx + 4) + data.length)
    rw [← hs2] at hs
    rw [e] at h
    exact crcvStore_hostile cap junk hist r _ num m szx data size2 r.fmt st' out hinv2 hblk hdata hpos hm hs h

theorem runCrcv_hostile (cap : Nat) (junk : UInt8) : ∀ (rs : List Resp) (st : Option Crcv) (hist : List Resp),
    (∀ s, st = some s → s.initial = false → HInv cap hist s) →
    ∀ i d l, (runCrcv true cap junk st rs)[i]? = some (CrcvOut.body d l) →
      l ≤ d.length ∧ ∀ o, o < l → ∃ v, d[o]? = some v ∧ SentIn (hist ++ rs.take (i + 1)) o v
  | [], _, _, _, i, d, l, h => by simp [runCrcv] at h
  | r :: rs, st, hist, hst, i, d, l, h => by
    obtain ⟨hnext, hout⟩ := crcvStep_hostile cap junk hist r st _ _ hst rfl
    unfold runCrcv at h
    have key : l ≤ d.length ∧ ∀ o, o < l → ∃ v, d[o]? = some v ∧ SentIn ((r :: hist) ++ rs.take i) o v := by
      cases i with
      | zero =>
        simp only [List.getElem?_cons_zero, Option.some.injEq] at h
        obtain ⟨a, b⟩ := hout d l h
        exact ⟨a, fun o ho => (b o ho).imp fun v hv =>
          ⟨hv.1, SentIn_mono _ _ o v (fun _ => List.mem_append_left _) hv.2⟩⟩
      | succ j =>
        simp only [List.getElem?_cons_succ] at h
        exact runCrcv_hostile cap junk rs _ (r :: hist) hnext j d l h
    exact ⟨key.1, fun o ho => (key.2 o ho).imp fun v hv =>
      ⟨hv.1, SentIn_mono _ _ o v (fun x => mem_hist_take x r hist rs i) hv.2⟩⟩

end Coap.Block
