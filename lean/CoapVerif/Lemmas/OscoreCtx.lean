import CoapVerif.Spec.OscoreCtx
import CoapVerif.Model.OscoreCtx
/- Helper lemmas for the context-lookup theorems of C14 (Props/C14.lean): libcoap's
`oscore_find_context` (Model/OscoreCtx.lean) against "the context the request names" (Spec/OscoreCtx.lean). -/
namespace Coap
open Coap.Spec.Oscore

/-! ### `positions`: recipients and contexts numbered as `List.zipIdx` numbers them -/

theorem rcpPositions_eq (i : Nat) (idctx : Option Bytes) (rcps : List Bytes) (k : Nat) :
    rcpPositions i idctx rcps k = (rcps.zipIdx k).map fun x => ⟨i, x.2, x.1, idctx⟩ := by
  induction rcps generalizing k with
  | nil => rfl
  | cons r rest ih => rw [rcpPositions, ih, List.zipIdx_cons, List.map_cons]

theorem positionsFrom_eq (cs : M.Oscore.CtxStore) (k : Nat) :
    positionsFrom cs k = (cs.zipIdx k).flatMap fun x => rcpPositions x.2 x.1.idctx x.1.rcps 0 := by
  induction cs generalizing k with
  | nil => rfl
  | cons c rest ih => rw [positionsFrom, ih, List.zipIdx_cons, List.flatMap_cons]

theorem mem_positions (cs : M.Oscore.CtxStore) (p : Pos) :
    p ∈ positions cs ↔ ∃ c, cs[p.i]? = some c ∧ p.idctx = c.idctx ∧ c.rcps[p.j]? = some p.rid := by
  unfold positions
  rw [positionsFrom_eq, List.mem_flatMap]
  constructor
  · rintro ⟨x, hx, hp⟩
    rw [rcpPositions_eq, List.mem_map] at hp
    obtain ⟨y, hy, rfl⟩ := hp
    exact ⟨x.1, List.mem_zipIdx_iff_getElem?.mp hx, rfl, List.mem_zipIdx_iff_getElem?.mp hy⟩
  · rintro ⟨c, hc, hi, hj⟩
    refine ⟨(c, p.i), List.mem_zipIdx_iff_getElem?.mpr hc, ?_⟩
    rw [rcpPositions_eq, List.mem_map]
    exact ⟨(p.rid, p.j), List.mem_zipIdx_iff_getElem?.mpr hj, by rw [← hi]⟩

/-! ### the test `oscore_find_context` applies to one recipient -/

/-- with `ctxkey_id` given and no `oscore_r2`: lengths equal and `ok == 0` iff the Recipient ID is the kid and the
ID Context (NULL = empty) is the kid context -/
theorem mismatch_zero_iff (kid rid : Bytes) (idctx : Option Bytes) (kc : Bytes) :
    (kid.length = rid.length ∧ M.Oscore.mismatch kid rid idctx (some kc) none = 0) ↔
      (rid = kid ∧ idctx.getD [] = kc) := by
  unfold M.Oscore.mismatch M.Oscore.b2n
  by_cases hr : rid = kid
  · subst hr
    cases idctx with
    | none =>
      cases kc with
      | nil => simp
      | cons a b => simp
    | some c =>
      by_cases hc : c = kc
      · subst hc; simp
      · by_cases hl : kc.length = c.length
        · simp [hl, hc]
        · simp [hl, hc]
  · have hr' : ¬ kid = rid := fun h => hr h.symm
    by_cases hk : kid.length = 0
    · have hk0 : kid = [] := List.length_eq_zero_iff.mp hk
      subst hk0
      constructor
      · rintro ⟨hl, _⟩
        have : rid = [] := List.length_eq_zero_iff.mp hl.symm
        exact absurd this hr
      · rintro ⟨h, _⟩; exact absurd h hr
    · constructor
      · rintro ⟨_, h⟩
        exfalso
        simp only [hk, hr, ne_eq, not_false_eq_true, decide_true, if_true] at h
        cases idctx with
        | none => by_cases h0 : kc.length > 0 <;> simp [h0] at h
        | some c => by_cases hl : kc.length = c.length <;> simp [hl] at h <;> omega
      · rintro ⟨h, _⟩; exact absurd h hr

/-- without `ctxkey_id` (the Appendix B.2 call) only the Recipient ID counts -/
theorem mismatch_zero_iff_nokc (kid rid : Bytes) (idctx : Option Bytes) :
    (kid.length = rid.length ∧ M.Oscore.mismatch kid rid idctx none none = 0) ↔ rid = kid := by
  unfold M.Oscore.mismatch M.Oscore.b2n
  by_cases hr : rid = kid
  · subst hr; simp
  · by_cases hk : kid.length = 0
    · have hk0 : kid = [] := List.length_eq_zero_iff.mp hk
      subst hk0
      constructor
      · rintro ⟨hl, _⟩
        exact List.length_eq_zero_iff.mp hl.symm
      · intro h; exact absurd h hr
    · simp [hk, hr]

/-! ### the two loops are a `find?` over `positions` -/

theorem findRcp_eq (kid : Bytes) (idctx ctxkey : Option Bytes) (P : Pos → Bool) (i : Nat)
    (hP : ∀ rid j, (kid.length = rid.length ∧ M.Oscore.mismatch kid rid idctx ctxkey none = 0) ↔ P ⟨i, j, rid, idctx⟩ = true)
    (rcps : List Bytes) (k : Nat) :
    M.Oscore.findRcp kid idctx ctxkey none rcps k = ((rcpPositions i idctx rcps k).find? P).map (·.j) := by
  induction rcps generalizing k with
  | nil => simp [M.Oscore.findRcp, rcpPositions]
  | cons r rest ih =>
    simp only [M.Oscore.findRcp, rcpPositions, List.find?_cons]
    by_cases h : P ⟨i, k, r, idctx⟩ = true
    · have := (hP r k).mpr h
      simp [this, h]
    · have h' : ¬ (kid.length = r.length ∧ M.Oscore.mismatch kid r idctx ctxkey none = 0) := fun x => h ((hP r k).mp x)
      have hf : P ⟨i, k, r, idctx⟩ = false := by simpa using h
      rw [if_neg h', hf]
      exact ih (k + 1)

theorem findFrom_eq (kid : Bytes) (ctxkey : Option Bytes) (P : Pos → Bool)
    (hP : ∀ p : Pos, (kid.length = p.rid.length ∧ M.Oscore.mismatch kid p.rid p.idctx ctxkey none = 0) ↔ P p = true)
    (cs : M.Oscore.CtxStore) (k : Nat) :
    M.Oscore.findFrom kid ctxkey none cs k = ((positionsFrom cs k).find? P).map fun p => (p.i, p.j) := by
  induction cs generalizing k with
  | nil => simp [M.Oscore.findFrom, positionsFrom]
  | cons c rest ih =>
    simp only [M.Oscore.findFrom, positionsFrom, List.find?_append]
    rw [findRcp_eq kid c.idctx ctxkey P k (fun rid j => hP ⟨k, j, rid, c.idctx⟩) c.rcps 0]
    cases h : (rcpPositions k c.idctx c.rcps 0).find? P with
    | none => simp [ih (k + 1)]
    | some p =>
      have hp := List.mem_of_find?_eq_some h
      rw [rcpPositions_eq, List.mem_map] at hp
      obtain ⟨x, _, rfl⟩ := hp
      simp

theorem findContext_first (cs : M.Oscore.CtxStore) (kid kc : Bytes) :
    M.Oscore.findContext cs kid (some kc) none =
      ((positions cs).find? fun p => decide (p.rid = kid ∧ p.idctx.getD [] = kc)).map fun p => (p.i, p.j) :=
  findFrom_eq kid (some kc) _ (fun p => (mismatch_zero_iff kid p.rid p.idctx kc).trans decide_eq_true_iff.symm) cs 0

/-! ### uniqueness of the first match on an unambiguous list -/

theorem find?_of_pairwise {α : Type} (P : α → Bool) (R : α → α → Prop) (l : List α) (a : α)
    (hpw : l.Pairwise R) (ha : a ∈ l) (hPa : P a = true)
    (hex : ∀ x y, P x = true → P y = true → R x y → False) :
    l.find? P = some a := by
  induction l with
  | nil => simp at ha
  | cons x xs ih =>
    rw [List.pairwise_cons] at hpw
    rw [List.find?_cons]
    rcases List.mem_cons.mp ha with h | h
    · subst h; simp [hPa]
    · cases hx : P x with
      | true => exact absurd (hpw.1 a h) (fun r => hex x a hx hPa r)
      | false => exact ih hpw.2 h

/-! ### S: the context a request names -/

theorem selectCtx_of_unambiguous (cs : List Ctx) (v : OptVal) (c : Ctx) (hu : Unambiguous cs) (hc : c ∈ cs)
    (hn : names v c = true) : selectCtx cs v = some c := by
  unfold selectCtx
  refine find?_of_pairwise (names v) _ cs c hu hc hn ?_
  intro x y hx hy hr
  apply hr
  simp only [names, namesId, Bool.and_eq_true, decide_eq_true_eq] at hx hy
  refine ⟨?_, hx.2.symm.trans hy.2⟩
  have := hx.1.symm.trans hy.1
  simpa using this

theorem unprotectRequest_ok_names (cipher : Bytes → Bytes → Bytes) (c : Ctx) (m x : Msg) (b : Binding)
    (h : unprotectRequest cipher c m = .ok x b) :
    ∃ ov v, oscoreValue m.opts = some ov ∧ m.payload ≠ [] ∧ optDecode ov = some v ∧ names v c = true := by
  unfold unprotectRequest at h
  cases hov : oscoreValue m.opts with
  | none => simp [hov] at h
  | some ov =>
    simp only [hov] at h
    by_cases hp : m.payload = []
    · simp [hp] at h
    · simp only [hp, if_false] at h
      cases hd : optDecode ov with
      | none => simp [hd] at h
      | some v =>
        simp only [hd] at h
        by_cases hn : v.kid ≠ some c.rid ∨ v.kidctx.getD [] ≠ c.idctx.getD []
        · simp [hn] at h
        · refine ⟨ov, v, rfl, hp, hd, ?_⟩
          simp only [names, namesId, Bool.and_eq_true, decide_eq_true_eq]
          constructor
          · apply Classical.byContradiction; intro h1; exact hn (Or.inl h1)
          · apply Classical.byContradiction; intro h1; exact hn (Or.inr h1)

end Coap
