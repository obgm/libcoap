import CoapVerif.Model.BlockTok
import CoapVerif.Lemmas.BlockCrcv
/- C09, client side: (1) once a Block2 body has been handed over, a Block2 response nobody is waiting for (`sent == NULL`,
   no lg_crcv: a duplicate or delayed copy of ANY block, the last one included) never reaches the response handler;
   (2) the scan of `coap_check_update_token` (`tokScan_*`), from which Props/C09.lean reads that the application's token of the
   right transfer is put back wherever that transfer sits in the session's lists. -/
namespace Coap.Block

theorem crcvStepS_cases (sent single : Bool) (cap : Nat) (junk : UInt8) (st : Option Crcv) (r : Resp) :
    crcvStepS sent single cap junk st r = crcvStep single cap junk st r ∨
    (st = none ∧ sent = false ∧ crcvStepS sent single cap junk st r =
      (match r.blk with | some _ => (none, CrcvOut.skip) | none => (none, CrcvOut.plain r.payload))) := by
  cases st with
  | some lg => exact Or.inl rfl
  | none =>
    cases sent with
    | true => exact Or.inl rfl
    | false => exact Or.inr ⟨rfl, rfl, rfl⟩

theorem crcvStepS_final_none (sent single : Bool) (cap : Nat) (junk : UInt8) (st : Option Crcv) (r : Resp)
    (h : (crcvStepS sent single cap junk st r).2.isFinal = true) : (crcvStepS sent single cap junk st r).1 = none := by
  rcases crcvStepS_cases sent single cap junk st r with e | ⟨_, _, e⟩
  · rw [e] at h ⊢
    generalize hres : crcvStep single cap junk st r = res at h ⊢
    cases crcvStep_ends single cap junk st r res hres with
    | plain | randomAccess | err402 => rfl
    | onBlock size2 hb hl hend =>
      cases hend with
      | body | last => rfl
      | restart | refused | skip | noBuffer | next | short | wait | block => cases h
  · rw [e]
    split <;> rfl

theorem crcvStepS_unsolicited (single : Bool) (cap : Nat) (junk : UInt8) (r : Resp) (hb : r.blk ≠ none) :
    crcvStepS false single cap junk none r = (none, .skip) := by
  unfold crcvStepS
  cases h : r.blk with
  | none => exact absurd h hb
  | some b => simp

theorem runCrcvS_none_unsolicited (single : Bool) (cap : Nat) (junk : UInt8) :
    ∀ xs : List (Bool × Resp), (∀ x, x ∈ xs → x.1 = false ∧ x.2.blk ≠ none) →
      ∀ o, o ∈ runCrcvS single cap junk none xs → o = CrcvOut.skip := by
  intro xs
  induction xs with
  | nil => intro _ o ho; simp [runCrcvS] at ho
  | cons x xs ih =>
    intro hx o ho
    obtain ⟨b, r⟩ := x
    have hx0 := hx (b, r) (by simp)
    have hb : b = false := hx0.1
    subst hb
    have hstep := crcvStepS_unsolicited single cap junk r hx0.2
    simp only [runCrcvS, hstep, List.mem_cons] at ho
    rcases ho with ho | ho
    · exact ho
    · exact ih (fun y hy => hx y (by simp [hy])) o ho

def stateCrcvS (single : Bool) (cap : Nat) (junk : UInt8) : Option Crcv → List (Bool × Resp) → Option Crcv
  | st, [] => st
  | st, x :: xs => stateCrcvS single cap junk (crcvStepS x.1 single cap junk st x.2).1 xs

theorem runCrcvS_final_le_one (single : Bool) (cap : Nat) (junk : UInt8) :
    ∀ (xs : List (Bool × Resp)) (st : Option Crcv), (∀ x, x ∈ xs → x.1 = false ∧ x.2.blk ≠ none) →
      ((runCrcvS single cap junk st xs).filter (fun o => o.isFinal)).length ≤ 1 := by
  intro xs
  induction xs with
  | nil => intro st _; simp [runCrcvS]
  | cons x xs ih =>
    intro st hx
    have hrest : ∀ y, y ∈ xs → y.1 = false ∧ y.2.blk ≠ none := fun y hy => hx y (by simp [hy])
    simp only [runCrcvS]
    by_cases hf : (crcvStepS x.1 single cap junk st x.2).2.isFinal = true
    · have hn := crcvStepS_final_none _ _ _ _ _ _ hf
      rw [hn]
      have hall := runCrcvS_none_unsolicited single cap junk xs hrest
      have : (runCrcvS single cap junk none xs).filter (fun o => o.isFinal) = [] := by
        rw [List.filter_eq_nil_iff]
        intro o ho
        rw [hall o ho]
        simp [CrcvOut.isFinal]
      rw [List.filter_cons_of_pos (by simpa using hf), this]
      simp
    · rw [List.filter_cons_of_neg (by simpa using hf)]
      exact ih _ hrest

theorem tokScan_some (m : Nat) (tok : Bytes) : ∀ (l : List TokEnt) (t : Bytes), tokScan m tok l = some t →
    ∃ e, e ∈ l ∧ t = e.appTok ∧ (tok = e.appTok ∨ m = stateTokenBase e.state) := by
  intro l
  induction l with
  | nil => intro t h; simp [tokScan] at h
  | cons e es ih =>
    intro t h
    unfold tokScan at h
    by_cases h1 : tok = e.appTok
    · rw [if_pos h1] at h
      exact ⟨e, by simp, by rw [← h1]; exact (Option.some.inj h).symm, Or.inl h1⟩
    · rw [if_neg h1] at h
      by_cases h2 : m = stateTokenBase e.state
      · rw [if_pos h2] at h
        exact ⟨e, by simp, (Option.some.inj h).symm, Or.inr h2⟩
      · rw [if_neg h2] at h
        obtain ⟨e', he', ht, hm⟩ := ih t h
        exact ⟨e', by simp [he'], ht, hm⟩

theorem tokScan_none (m : Nat) (tok : Bytes) : ∀ (l : List TokEnt), tokScan m tok l = none →
    ∀ e, e ∈ l → tok ≠ e.appTok ∧ m ≠ stateTokenBase e.state := by
  intro l
  induction l with
  | nil => intro _ e he; simp at he
  | cons e es ih =>
    intro h e' he'
    unfold tokScan at h
    by_cases h1 : tok = e.appTok
    · rw [if_pos h1] at h; cases h
    · rw [if_neg h1] at h
      by_cases h2 : m = stateTokenBase e.state
      · rw [if_pos h2] at h; cases h
      · rw [if_neg h2] at h
        rcases List.mem_cons.mp he' with he' | he'
        · subst he'; exact ⟨h1, h2⟩
        · exact ih h e' he'

theorem tokScan_finds (m : Nat) (tok : Bytes) (l : List TokEnt) (e : TokEnt) (he : e ∈ l) (hm : m = stateTokenBase e.state) :
    ∃ t, tokScan m tok l = some t := by
  cases h : tokScan m tok l with
  | some t => exact ⟨t, rfl⟩
  | none => exact absurd hm (tokScan_none m tok l h e he).2

end Coap.Block
