import CoapVerif.Model.WkBlock
/- Helper lemmas for C20's block-wise GETs: one request through `serve` (`serve_block`, used by the live server too), and
   the interleaved transfers: the Block2 response cache, keyed by the query string, always serves a transfer from its own listing. -/
namespace Coap.M.LF
open Coap Coap.LF

theorem nblocks_pos (len chunk : Nat) (hc : 0 < chunk) : 1 ≤ nblocks len chunk := by
  unfold nblocks
  split
  · omega
  · rename_i h
    have : chunk ≤ len + chunk - 1 := by omega
    exact Nat.div_pos this hc

theorem nblocks_le_iff (len chunk m : Nat) (hc : 0 < chunk) (hm : 1 ≤ m) :
    nblocks len chunk ≤ m ↔ len ≤ m * chunk := by
  unfold nblocks
  split
  · rename_i h; subst h; simp; omega
  · rw [← Nat.lt_succ_iff, Nat.div_lt_iff_lt_mul hc, Nat.succ_mul]
    omega

theorem le_nblocks_mul (len chunk : Nat) (hc : 0 < chunk) : len ≤ nblocks len chunk * chunk :=
  (nblocks_le_iff len chunk _ hc (nblocks_pos len chunk hc)).mp (Nat.le_refl _)

theorem le_ceil_mul (len sz : Nat) (hsz : 0 < sz) : len ≤ (len + sz - 1) / sz * sz := by
  by_cases h : len = 0
  · omega
  · have := le_nblocks_mul len sz hsz
    rwa [nblocks, if_neg h] at this

theorem valid_of_lt_nblocks (len chunk n : Nat) (hc : 0 < chunk) (h : n < nblocks len chunk) :
    n = 0 ∨ n * chunk < len := by
  by_cases h0 : n = 0
  · exact Or.inl h0
  · right
    apply Nat.lt_of_not_le
    intro hle
    have := (nblocks_le_iff len chunk n hc (by omega)).mpr hle
    omega

/-- what the cache arguments need of a request with the Uri-Query options `opts` to the table `t`: coap_get_query() returns
a string (or NULL), and the handler's body is the listing -/
def ReqOk (t : Table) (opts : List Bytes) : Prop :=
  (∃ k, MU.getQuery opts = R.ok k) ∧ getBody t opts = R.ok (getListing t opts)

/-- the facts about the transfers of a script the cache argument needs -/
structure Keyed (t : Table) (xs : List Xfer) : Prop where
  hq : ∀ xf ∈ xs, ∃ k, MU.getQuery xf.opts = R.ok k
  hb : ∀ xf ∈ xs, getBody t xf.opts = R.ok (getListing t xf.opts)
  /-- **the cache is keyed by the query**: transfers whose query strings compare equal have the same listing -/
  hkey : ∀ xf ∈ xs, ∀ yf ∈ xs, ∀ k1 k2, MU.getQuery xf.opts = R.ok k1 → MU.getQuery yf.opts = R.ok k2 →
    keyEq k1 k2 = true → getListing t xf.opts = getListing t yf.opts

/-- invariant of one session's cache: every entry was made with the script's block size and holds the listing of
every transfer whose query string it is keyed by -/
def CInv (t : Table) (szx : Nat) (xs : List Xfer) (c : Cache) : Prop :=
  ∀ e ∈ c, e.szx = szx ∧ ∀ xf ∈ xs, ∀ k, MU.getQuery xf.opts = R.ok k → keyEq e.key k = true →
    e.data = getListing t xf.opts

theorem CInv_eraseP {t : Table} {szx : Nat} {xs : List Xfer} {c : Cache} (p : LgXmit → Bool)
    (h : CInv t szx xs c) : CInv t szx xs (c.eraseP p) :=
  fun e he => h e (List.mem_of_mem_eraseP he)

theorem keyEq_trans {a b c : Option Bytes} (h1 : keyEq a b = true) (h2 : keyEq b c = true) : keyEq a c = true := by
  simp only [keyEq, beq_iff_eq] at *
  rw [h1, h2]

theorem keyEq_symm {a b : Option Bytes} (h1 : keyEq a b = true) : keyEq b a = true := by
  simp only [keyEq, beq_iff_eq] at *
  exact h1.symm

/-- `session->lg_xmit` after the handler path has served block `num` of the body `L`: nothing happens for an empty body, else
the entry with the same key goes, and a block 0 of a body of several blocks leaves a new entry at the head -/
def afterFresh (c : Cache) (key : Option Bytes) (L : Bytes) (szx num : Nat) : Cache :=
  if L.length = 0 then c
  else if num = 0 ∧ 2 ^ (szx + 4) < L.length then ⟨key, L, szx⟩ :: c.eraseP (fun e => keyEq e.key key)
  else c.eraseP (fun e => keyEq e.key key)

theorem serveFresh_eq (t : Table) (c : Cache) (key : Option Bytes) (opts : List Bytes) (num szx : Nat) (L : Bytes)
    (hb : getBody t opts = R.ok L) (hv : num = 0 ∨ num * 2 ^ (szx + 4) < L.length) :
    serveFresh t c key ⟨opts, num, szx⟩ =
      R.ok (afterFresh c key L szx num,
        Resp.blk (block L (2 ^ (szx + 4)) num) (decide ((num + 1) * 2 ^ (szx + 4) < L.length))) := by
  unfold serveFresh afterFresh
  simp only [hb]
  generalize 2 ^ (szx + 4) = chunk at *
  by_cases hl0 : L.length = 0
  · have hn : num = 0 := hv.resolve_right (by omega)
    rw [if_pos hl0, if_pos hl0, hn, List.eq_nil_of_length_eq_zero hl0]
    simp [block]
  · rw [if_neg hl0, if_neg hl0, if_neg (fun h => by rcases hv with e | e <;> omega)]
    by_cases hn : num = 0
    · subst hn
      rw [if_neg (fun h => h rfl), Nat.zero_add, Nat.one_mul]
      have e0 : block L chunk 0 = L.take chunk := by rw [block, Nat.zero_mul, List.drop_zero]
      by_cases hbig : chunk < L.length
      · rw [if_pos hbig, if_pos ⟨rfl, hbig⟩, e0, decide_eq_true hbig]
      · rw [if_neg hbig, if_neg (fun h => hbig h.2), e0, decide_eq_false hbig,
          List.take_of_length_le (Nat.not_lt.mp hbig)]
    · rw [if_pos hn, if_neg (fun h => hn h.1)]

/-- the session's cache after `serve` has answered a request for block `num`: only a block 0 changes it -/
def afterServe (c : Cache) (key : Option Bytes) (L : Bytes) (szx num : Nat) : Cache :=
  if num = 0 then afterFresh c key L szx 0 else c

/-- ONE request for a block the handler's body `L` has: if whatever the cache finds under the key (looked at for a
later block only) holds `L` with the request's block size, the answer is that block of `L` -/
theorem serve_block (t : Table) (c : Cache) (opts : List Bytes) (num szx : Nat) (key : Option Bytes) (L : Bytes)
    (hq : MU.getQuery opts = R.ok key) (hb : getBody t opts = R.ok L)
    (hv : num = 0 ∨ num * 2 ^ (szx + 4) < L.length)
    (hc : num ≠ 0 → ∀ e, findXmit c key = some e → e.data = L ∧ e.szx = szx) :
    serve t c ⟨opts, num, szx⟩ =
      R.ok (afterServe c key L szx num,
        Resp.blk (block L (2 ^ (szx + 4)) num) (decide ((num + 1) * 2 ^ (szx + 4) < L.length))) := by
  unfold serve afterServe
  simp only [hq]
  by_cases hn : num = 0
  · rw [if_pos hn, if_pos hn, serveFresh_eq t c key opts num szx L hb hv, hn]
  · rw [if_neg hn, if_neg hn]
    have hlt : num * 2 ^ (szx + 4) < L.length := hv.resolve_left hn
    cases hf : findXmit c key with
    | none =>
      -- no entry with this key: the handler path deletes nothing
      have he : c.eraseP (fun e => keyEq e.key key) = c := List.eraseP_of_forall_not (List.find?_eq_none.mp hf)
      rw [serveFresh_eq t c key opts num szx L hb hv, afterFresh, he, if_neg (by omega), if_neg (fun h => hn h.1)]
    | some e =>
      obtain ⟨hd, hs⟩ := hc hn e hf
      simp only [hd, hs]
      rw [if_neg (by omega), Nat.succ_mul]

theorem CInv_afterServe {t : Table} {szx : Nat} {xs : List Xfer} {c : Cache} (K : Keyed t xs) (xf : Xfer) (hx : xf ∈ xs)
    (key : Option Bytes) (hkq : MU.getQuery xf.opts = R.ok key) (num : Nat) (h : CInv t szx xs c) :
    CInv t szx xs (afterServe c key (getListing t xf.opts) szx num) := by
  unfold afterServe afterFresh
  refine ite_ind (P := CInv t szx xs) (fun _ => ?_) (fun _ => h)
  refine ite_ind (P := CInv t szx xs) (fun _ => h) fun _ =>
    ite_ind (P := CInv t szx xs) (fun _ => ?_) fun _ => CInv_eraseP _ h
  -- the new entry holds the listing of every transfer with an equal key (`Keyed.hkey`)
  intro e he
  rcases List.mem_cons.mp he with rfl | he
  · exact ⟨rfl, fun yf hy k2 hk2 hke => K.hkey xf hx yf hy key k2 hkq hk2 hke⟩
  · exact CInv_eraseP _ h e he

theorem serve_own_block (t : Table) (szx : Nat) (xs : List Xfer) (K : Keyed t xs) (c : Cache)
    (hc : CInv t szx xs c) (xf : Xfer) (hx : xf ∈ xs) (num : Nat)
    (hv : num = 0 ∨ num * 2 ^ (szx + 4) < (getListing t xf.opts).length) :
    ∃ c', serve t c ⟨xf.opts, num, szx⟩ =
        R.ok (c', Resp.blk (block (getListing t xf.opts) (2 ^ (szx + 4)) num)
                           (decide ((num + 1) * 2 ^ (szx + 4) < (getListing t xf.opts).length))) ∧
      CInv t szx xs c' := by
  obtain ⟨key, hkq⟩ := K.hq xf hx
  refine ⟨_, serve_block t c xf.opts num szx key _ hkq (K.hb xf hx) hv fun _ e hf => ?_,
    CInv_afterServe K xf hx key hkq num hc⟩
  -- what the cache finds under the transfer's key holds the transfer's listing
  obtain ⟨hsz, hdat⟩ := hc e (List.mem_of_find?_eq_some hf)
  exact ⟨hdat xf hx key hkq (by simpa using List.find?_some hf), hsz⟩

/-! ### the script: any interleaving -/

/-- closed form of a transfer's client state after it has been given `k` turns -/
def xAfter (L : Bytes) (chunk k : Nat) : XState :=
  ⟨L.take (min k (nblocks L.length chunk) * chunk), min k (nblocks L.length chunk),
   decide (nblocks L.length chunk ≤ k), false⟩

theorem xAfter_lt (L : Bytes) (chunk n : Nat) (h : n < nblocks L.length chunk) :
    xAfter L chunk n = ⟨L.take (n * chunk), n, false, false⟩ := by
  simp only [xAfter]
  rw [Nat.min_eq_left (by omega)]
  simp; omega

theorem xAfter_ge (L : Bytes) (chunk k : Nat) (hc : 0 < chunk) (h : nblocks L.length chunk ≤ k) :
    xAfter L chunk k = ⟨L, nblocks L.length chunk, true, false⟩ := by
  simp only [xAfter, Nat.min_eq_right h, decide_eq_true h]
  rw [List.take_of_length_le (le_nblocks_mul _ _ hc)]

theorem xAfter_zero (L : Bytes) (chunk : Nat) (hc : 0 < chunk) : xAfter L chunk 0 = ⟨[], 0, false, false⟩ := by
  rw [xAfter_lt L chunk 0 (nblocks_pos _ _ hc), Nat.zero_mul, List.take_zero]

theorem xAfter_step (L : Bytes) (chunk n : Nat) (hc : 0 < chunk) (h : n < nblocks L.length chunk) :
    (⟨L.take (n * chunk) ++ block L chunk n, n + 1, !decide ((n + 1) * chunk < L.length), false⟩ : XState) =
      xAfter L chunk (n + 1) := by
  simp only [xAfter]
  rw [Nat.min_eq_left (by omega : n + 1 ≤ nblocks L.length chunk)]
  have h1 : L.take (n * chunk) ++ block L chunk n = L.take ((n + 1) * chunk) := by
    rw [Nat.succ_mul, List.take_add]; rfl
  have h2 : (!decide ((n + 1) * chunk < L.length)) = decide (nblocks L.length chunk ≤ n + 1) := by
    rw [Bool.eq_iff_iff]
    simp only [Bool.not_eq_true', decide_eq_false_iff_not, decide_eq_true_eq, Nat.not_lt]
    exact (nblocks_le_iff L.length chunk (n + 1) hc (by omega)).symm
  rw [h1, h2]

/-- invariant of a run: every session's cache is sound, every transfer is where `k i` turns of its own would have
brought it had it been alone -/
def SInv (t : Table) (szx : Nat) (xs : List Xfer) (st : SState) (k : Nat → Nat) : Prop :=
  (∀ sid, CInv t szx xs (st.cache sid)) ∧
  ∀ i xf, xs[i]? = some xf → st.x i = xAfter (getListing t xf.opts) (2 ^ (szx + 4)) (k i)

theorem stepX_inv (t : Table) (szx : Nat) (xs : List Xfer) (K : Keyed t xs) (st : SState) (k : Nat → Nat)
    (h : SInv t szx xs st k) (i : Nat) : SInv t szx xs (stepX t szx xs st i) (upd k i (k i + 1)) := by
  obtain ⟨hcache, hxs⟩ := h
  have hcpos : 0 < 2 ^ (szx + 4) := Nat.pow_pos (by omega)
  unfold stepX
  cases hx : xs[i]? with
  | none =>
    refine ⟨hcache, ?_⟩
    intro j xf hj
    have hne : j ≠ i := by intro he; subst he; rw [hx] at hj; cases hj
    simp only [upd, hne, if_false]
    exact hxs j xf hj
  | some xf =>
    simp only []
    have hxi := hxs i xf hx
    have hmem : xf ∈ xs := List.mem_of_getElem? hx
    by_cases hd : nblocks (getListing t xf.opts).length (2 ^ (szx + 4)) ≤ k i
    · -- complete: nothing is sent
      have hge := xAfter_ge _ _ _ hcpos hd
      rw [if_pos (by rw [hxi, hge])]
      refine ⟨hcache, ?_⟩
      intro j yf hj
      by_cases hji : j = i
      · subst hji
        rw [hx] at hj; cases hj
        simp only [upd, if_true]
        rw [xAfter_ge _ _ _ hcpos (Nat.le_succ_of_le hd), ← hge]; exact hxi
      · simp only [upd, hji, if_false]; exact hxs j yf hj
    · have hlt : k i < nblocks (getListing t xf.opts).length (2 ^ (szx + 4)) := by omega
      obtain ⟨c', hserve, hc'⟩ := serve_own_block t szx xs K (st.cache xf.sid) (hcache xf.sid) xf hmem (k i)
        (valid_of_lt_nblocks _ _ _ hcpos hlt)
      simp only [hxi.trans (xAfter_lt _ _ _ hlt), Bool.false_eq_true, if_false, hserve]
      refine ⟨?_, ?_⟩
      · intro sid
        by_cases hs : sid = xf.sid
        · simp only [upd, hs, if_true]; exact hc'
        · simp only [upd, hs, if_false]; exact hcache sid
      · intro j yf hj
        by_cases hji : j = i
        · subst hji
          rw [hx] at hj; cases hj
          simp only [upd, if_true]
          exact xAfter_step _ _ _ hcpos hlt
        · simp only [upd, hji, if_false]; exact hxs j yf hj

theorem runX_inv (t : Table) (szx : Nat) (xs : List Xfer) (K : Keyed t xs) (order : List Nat) :
    ∀ (st : SState) (k : Nat → Nat), SInv t szx xs st k →
      SInv t szx xs (runX t szx xs st order) (fun j => k j + order.count j) := by
  induction order with
  | nil => intro st k h; simpa [runX] using h
  | cons i r ih =>
    intro st k h
    have h1 := ih _ _ (stepX_inv t szx xs K st k h i)
    have : (fun j => upd k i (k i + 1) j + r.count j) = (fun j => k j + (i :: r).count j) := by
      funext j
      by_cases hji : j = i
      · subst hji; simp [upd]; omega
      · have : ¬ i = j := fun h => hji h.symm
        simp [upd, hji, this]
    rw [this] at h1
    exact h1

theorem SInv_init (t : Table) (szx : Nat) (xs : List Xfer) : SInv t szx xs SState.init (fun _ => 0) :=
  ⟨fun sid e he => by simp [SState.init] at he, fun _ _ _ => (xAfter_zero _ _ (Nat.pow_pos (by omega))).symm⟩

end Coap.M.LF
