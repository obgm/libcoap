import CoapVerif.Lemmas.BlockRecv
import CoapVerif.Model.BlockCrcv
/- The client's Block2 receive step `crcvStep` (coap_handle_response_get_block) against a genuine server, both delivery modes:
   `CrcvInv`, `StoreSpec`, `crcvStep_spec`, the run `runCrcv`, per-block tiling (`TilesOnce`); where a call can end (`CrcvEnd`) and the
   facts read off that. -/
namespace Coap.Block
open Coap.Spec.Block

/-- The (initialised) lg_crcv is consistent with the server's body: ranges well formed, covered blocks inside the body,
and in single-body mode every byte of a covered block is in the buffer and equals the server's byte; the buffer is at
least as long as the announced Size2 (`sz`, the same on every response). -/
structure CrcvInv (single : Bool) (cap : Nat) (body : Bytes) (sz : Option Nat) (s : Crcv) : Prop where
  wf : WfFrom 0 s.recv
  cnt : s.recv.length ≤ cap - 1
  inRange : ∀ k, Covers s.recv k → k * chunkSize s.szx < body.length
  buf : single = true → match s.body with
        | none => s.recv = []
        | some b => (∀ t, sz = some t → t ≤ b.length) ∧
            ∀ k, Covers s.recv k → ∀ i, k * chunkSize s.szx ≤ i → i < k * chunkSize s.szx + chunkSize s.szx →
              i < body.length → b[i]? = body[i]?

/-- the block numbers the lg_crcv a response meets has recorded since its last (re-)initialisation -/
def effRecv (st : Option Crcv) : Ranges :=
  match st with
  | some s => if s.initial then [] else s.recv
  | none => []

/-- the handler was given the complete body / the block that completes it -/
def CrcvOut.isFinal : CrcvOut → Bool
  | .body _ _ => true
  | .last _ _ _ => true
  | _ => false

/-- What one step may do, stated against the block numbers recorded before (`pre`) -/
structure StoreSpec (single : Bool) (cap : Nat) (body : Bytes) (sz : Option Nat) (pre : Ranges) (num szx : Nat)
    (payload : Bytes) (st' : Option Crcv) (out : CrcvOut) : Prop where
  inv : ∀ s', st' = some s' → s'.initial = false → CrcvInv single cap body sz s'
  /-- single-body delivery: exactly the server's body, state released -/
  dBody : ∀ d l, out = CrcvOut.body d l → single = true ∧ d.take l = body ∧ l = body.length ∧ st' = none
  /-- per-block deliveries: this response's block at its offset, never delivered before in this lifetime -/
  dBlock : ∀ off p total nx, out = CrcvOut.block off p total nx →
    single = false ∧ off = num * chunkSize szx ∧ p = payload ∧ ¬ Covers pre num ∧
    nx = (if num + 1 < nBlocks body.length szx then some (num + 1, szx) else none)
  dLast : ∀ off p total, out = CrcvOut.last off p total →
    single = false ∧ off = num * chunkSize szx ∧ p = payload ∧ ¬ Covers pre num ∧ st' = none
  /-- a completed transfer (either mode) has seen every block -/
  complete : out.isFinal = true → (∀ k, k < nBlocks body.length szx → k = num ∨ Covers pre k)
  /-- random access (no lg_crcv, NUM ≠ 0): this response's block at its offset -/
  ra : ∀ off p total, out = CrcvOut.randomAccess off p total → off = num * chunkSize szx ∧ p = payload
  /-- the recorded set grows by exactly this block when it is stored / delivered, and not at all otherwise -/
  grow : ∀ s', st' = some s' → s'.initial = false →
    (∀ k, Covers s'.recv k ↔ (Covers pre k ∨ (k = num ∧ (out = CrcvOut.next (num + 1) szx ∨ out = CrcvOut.wait ∨
      ∃ off p total nx, out = CrcvOut.block off p total nx))))
  /-- the next request asks for the following block at the same size -/
  next : ∀ n s, out = CrcvOut.next n s → n = num + 1 ∧ s = szx ∧ num + 1 < nBlocks body.length szx
  noPlain : ∀ p, out ≠ CrcvOut.plain p

/-- the clauses of `StoreSpec` that speak of this output -/
def StoreOut (single : Bool) (body : Bytes) (pre : Ranges) (num szx : Nat) (payload : Bytes) (st' : Option Crcv) :
    CrcvOut → Prop
  | .body d l => single = true ∧ d.take l = body ∧ l = body.length ∧ st' = none ∧
      ∀ k, k < nBlocks body.length szx → k = num ∨ Covers pre k
  | .block off p _ nx => single = false ∧ off = num * chunkSize szx ∧ p = payload ∧ ¬ Covers pre num ∧
      nx = (if num + 1 < nBlocks body.length szx then some (num + 1, szx) else none)
  | .last off p _ => single = false ∧ off = num * chunkSize szx ∧ p = payload ∧ ¬ Covers pre num ∧ st' = none ∧
      ∀ k, k < nBlocks body.length szx → k = num ∨ Covers pre k
  | .randomAccess off p _ => off = num * chunkSize szx ∧ p = payload
  | .next n s => n = num + 1 ∧ s = szx ∧ num + 1 < nBlocks body.length szx
  | .plain _ => False
  | _ => True

def CrcvOut.records (num szx : Nat) : CrcvOut → Prop
  | .next n s => n = num + 1 ∧ s = szx
  | .wait => True
  | .block _ _ _ _ => True
  | _ => False

/-- how a `StoreSpec` is produced: for a concrete output `StoreOut` reduces to the clauses that speak of it -/
theorem StoreSpec.of_out {single : Bool} {cap : Nat} {body : Bytes} {sz : Option Nat} {pre : Ranges} {num szx : Nat}
    {payload : Bytes} {st' : Option Crcv} {out : CrcvOut}
    (hst : ∀ s', st' = some s' → s'.initial = false → CrcvInv single cap body sz s' ∧
      ∀ k, Covers s'.recv k ↔ (Covers pre k ∨ (k = num ∧ out.records num szx)))
    (ho : StoreOut single body pre num szx payload st' out) :
    StoreSpec single cap body sz pre num szx payload st' out := by
  refine { inv := fun s' hs' hi => (hst s' hs' hi).1, dBody := ?_, dBlock := ?_, dLast := ?_, complete := ?_, ra := ?_,
           grow := ?_, next := ?_, noPlain := ?_ }
  · intro d l hb; subst hb; exact ⟨ho.1, ho.2.1, ho.2.2.1, ho.2.2.2.1⟩
  · intro off p total nx hb; subst hb; exact ho
  · intro off p total hb; subst hb; exact ⟨ho.1, ho.2.1, ho.2.2.1, ho.2.2.2.1, ho.2.2.2.2.1⟩
  · intro hn
    cases out with
    | body d l => exact ho.2.2.2.2
    | last off p t => exact ho.2.2.2.2.2
    | _ => cases hn
  · intro off p total hb; subst hb; exact ho
  · intro s' hs' hi k
    rw [(hst s' hs' hi).2 k]
    refine or_congr Iff.rfl (and_congr Iff.rfl ?_)
    cases out with
    | next n s =>
      exact ⟨fun h => Or.inl (by rw [h.1, h.2]), fun h => h.elim (fun h => by cases h; exact ⟨rfl, rfl⟩)
        fun h => h.elim (fun h => by cases h) fun ⟨_, _, _, _, h⟩ => by cases h⟩
    | wait => exact ⟨fun _ => Or.inr (Or.inl rfl), fun _ => trivial⟩
    | block off p t nx => exact ⟨fun _ => Or.inr (Or.inr ⟨_, _, _, _, rfl⟩), fun _ => trivial⟩
    | _ =>
      exact ⟨fun h => h.elim, fun h => h.elim (fun h => by cases h)
        fun h => h.elim (fun h => by cases h) fun ⟨_, _, _, _, h⟩ => by cases h⟩
  · intro n s hb; subst hb; exact ho
  · intro p hb; subst hb; exact ho

theorem storeSpec_quiet {single : Bool} {cap : Nat} {body : Bytes} {sz : Option Nat} {pre : Ranges} {num szx : Nat}
    {payload : Bytes} {st' : Option Crcv} {out : CrcvOut}
    (hst : ∀ s', st' = some s' → s'.initial = false → CrcvInv single cap body sz s' ∧ s'.recv = pre)
    (ho : out = CrcvOut.err402 ∨ out = CrcvOut.err408 ∨ out = CrcvOut.skip ∨ ∃ s, out = CrcvOut.restart s) :
    StoreSpec single cap body sz pre num szx payload st' out := by
  have hq : StoreOut single body pre num szx payload st' out ∧ ¬ out.records num szx := by
    rcases ho with rfl | rfl | rfl | ⟨_, rfl⟩ <;> exact ⟨trivial, id⟩
  refine StoreSpec.of_out (fun s' hs' hi => ⟨(hst s' hs' hi).1, fun k => ?_⟩) hq.1
  rw [(hst s' hs' hi).2]
  exact ⟨Or.inl, fun h => h.elim id fun h => (hq.2 h.2).elim⟩

theorem storeSpec_inert (single : Bool) (cap : Nat) (body : Bytes) (sz : Option Nat) (pre : Ranges) (num szx : Nat)
    (payload : Bytes) (st' : Option Crcv) (out : CrcvOut)
    (hst : ∀ s', st' = some s' → s'.initial = true)
    (ho : out = CrcvOut.err402 ∨ out = CrcvOut.err408 ∨ ∃ s, out = CrcvOut.restart s) :
    StoreSpec single cap body sz pre num szx payload st' out :=
  storeSpec_quiet (fun s' hs' hi => by rw [hst s' hs'] at hi; cases hi)
    (ho.imp_right fun ho => ho.imp_right Or.inr)

/-- Where `crcvStore` ends up: the lg_crcv stays as it is (4.08 or skip), or the block is new, `rec'` are the ranges with it
recorded and, in single-body mode, `b` the buffer with the payload stored. -/
theorem crcvStore_cases (single : Bool) (cap : Nat) (junk : UInt8) (lg : Crcv) (num m szx : Nat) (payload data : Bytes)
    (offset size2 fmt : Nat) (res : Option Crcv × CrcvOut)
    (h : crcvStore single cap junk lg num m szx payload data offset size2 fmt = res) :
    res = (some lg, .err408) ∨ res = (some lg, .skip) ∨
    ∃ rec', szx = lg.szx ∧ ¬ checkIfReceived lg.recv num = true ∧ updateReceived cap lg.recv num = (true, rec') ∧
      ((single = true ∧
        ((buildBody junk lg.body data offset size2 = none ∧
            res = (some { lg with recv := rec', body := none }, .err408)) ∨
         ∃ b, buildBody junk lg.body data offset size2 = some b ∧
          ((m ≠ 0 ∧ res = (some { lg with recv := rec', body := some b }, .next (num + 1) szx)) ∨
           (m = 0 ∧ data.length % 2 ^ (szx + 4) ≠ 0 ∧
              res = (some { lg with recv := rec', body := some b, initial := true }, .err408)) ∨
           (m = 0 ∧ data.length % 2 ^ (szx + 4) = 0 ∧ res = (some { lg with recv := rec', body := some b }, .wait)) ∨
           (m = 0 ∧ checkAllBlocksIn rec' ((size2 + 2 ^ (szx + 4) - 1) / 2 ^ (szx + 4)) = true ∧
              res = (none, .body b (offset + data.length)))))) ∨
       (single = false ∧
        (res = (some { lg with recv := rec' },
            .block offset payload size2 (if m ≠ 0 then some (num + 1, szx) else none)) ∨
         (m = 0 ∧ checkAllBlocksIn rec' ((size2 + 2 ^ (szx + 4) - 1) / 2 ^ (szx + 4)) = true ∧
            res = (none, .last offset payload size2))))) := by
  subst h
  unfold crcvStore
  dsimp only
  by_cases hf : fmt ≠ lg.fmt
  · rw [if_pos hf]; exact Or.inl rfl
  rw [if_neg hf]
  by_cases hsz : szx ≠ lg.szx
  · rw [if_pos hsz]; exact Or.inl rfl
  rw [if_neg hsz]
  by_cases hr : checkIfReceived lg.recv num = true
  · rw [if_pos hr]; exact Or.inr (Or.inl rfl)
  rw [if_neg hr]
  cases hu : updateReceived cap lg.recv num with
  | mk ok rec' =>
    cases ok with
    | false => exact Or.inl rfl
    | true =>
      refine Or.inr (Or.inr ⟨rec', Decidable.not_not.mp hsz, hr, rfl, ?_⟩)
      dsimp only
      generalize (size2 + 2 ^ (szx + 4) - 1) / 2 ^ (szx + 4) = total
      cases single with
      | true =>
        refine Or.inl ⟨rfl, ?_⟩
        simp only [if_true]
        cases buildBody junk lg.body data offset size2 with
        | none => exact Or.inl ⟨rfl, rfl⟩
        | some b =>
          refine Or.inr ⟨b, rfl, ?_⟩
          dsimp only
          by_cases hc : m ≠ 0 ∨ ¬ checkAllBlocksIn rec' total = true
          · rw [if_pos hc]
            by_cases hm : m ≠ 0
            · rw [if_pos hm]; exact Or.inl ⟨hm, rfl⟩
            · rw [if_neg hm]
              by_cases hd : data.length % 2 ^ (szx + 4) ≠ 0
              · rw [if_pos hd]; exact Or.inr (Or.inl ⟨Decidable.not_not.mp hm, hd, rfl⟩)
              · rw [if_neg hd]
                exact Or.inr (Or.inr (Or.inl ⟨Decidable.not_not.mp hm, Decidable.not_not.mp hd, rfl⟩))
          · rw [if_neg hc]
            exact Or.inr (Or.inr (Or.inr
              ⟨Decidable.not_not.mp (not_or.mp hc).1, Decidable.not_not.mp (not_or.mp hc).2, rfl⟩))
      | false =>
        refine Or.inr ⟨rfl, ?_⟩
        simp only [Bool.false_eq_true, if_false]
        by_cases hc : m ≠ 0 ∨ ¬ checkAllBlocksIn rec' total = true
        · rw [if_pos hc]; exact Or.inl rfl
        · rw [if_neg hc]
          exact Or.inr ⟨Decidable.not_not.mp (not_or.mp hc).1, Decidable.not_not.mp (not_or.mp hc).2, rfl⟩

/-- `hs1`–`hs4`: what `crcvSize2_facts` gives of the adjusted Size2 -/
theorem crcvStore_spec (single : Bool) (cap : Nat) (junk : UInt8) (body : Bytes) (sz : Option Nat) (lg : Crcv)
    (num m : Nat) (size2 fmt : Nat) (st' : Option Crcv) (out : CrcvOut)
    (hinv : CrcvInv single cap body sz lg)
    (hnum : num < nBlocks body.length lg.szx) (hm : m = more body.length lg.szx num)
    (hs1 : num * chunkSize lg.szx + (slice body lg.szx num).length ≤ size2)
    (hs2 : ∀ t, sz = some t → t ≤ size2)
    (hs3 : size2 ≤ num * chunkSize lg.szx + (slice body lg.szx num).length + 1 ∨ sz = some size2)
    (hs4 : m = 0 → size2 = body.length)
    (h : crcvStore single cap junk lg num m lg.szx (slice body lg.szx num) (slice body lg.szx num)
      (num * 2 ^ (lg.szx + 4)) size2 fmt = (st', out)) :
    StoreSpec single cap body sz lg.recv num lg.szx (slice body lg.szx num) st' out := by
  have hc := chunk_pos lg.szx
  have hoff := (lt_nBlocks_iff body.length lg.szx num).mp hnum
  have hpl := slice_length body lg.szx num
  have hpos : 0 < (slice body lg.szx num).length := by omega
  -- outputs that leave everything as it was
  have same : ∀ o : CrcvOut, (o = CrcvOut.err408 ∨ o = CrcvOut.skip) →
      StoreSpec single cap body sz lg.recv num lg.szx (slice body lg.szx num) (some lg) o := fun o ho =>
    storeSpec_quiet (fun s' hs' _ => by cases hs'; exact ⟨hinv, rfl⟩)
      (Or.inr (ho.imp_right Or.inl))
  rcases crcvStore_cases _ _ _ _ _ _ _ _ _ _ _ _ _ h with e | e | ⟨rec', _, hrcv, hu, hmode⟩
  · cases e; exact same _ (Or.inl rfl)
  · cases e; exact same _ (Or.inr rfl)
  rw [pow_eq_chunkSize lg.szx] at hmode
  have hncov : ¬ Covers lg.recv num := mt (checkIfReceived_iff hinv.wf).mpr hrcv
  obtain ⟨w1, w2, hne, w3⟩ := updateReceived_true hinv.wf hinv.cnt hu
  have hin' : ∀ k, Covers rec' k → k * chunkSize lg.szx < body.length := by
    intro k hk
    rcases (w3 k).mp hk with hk | hk
    · exact hinv.inRange k hk
    · rw [hk]; exact hoff
  have hmc := more_cases body.length lg.szx num
  have hallin : m = 0 → (checkAllBlocksIn rec' ((size2 + chunkSize lg.szx - 1) / chunkSize lg.szx) = true ↔
      ∀ k, k < nBlocks body.length lg.szx → Covers rec' k) := by
    intro hm0
    rw [hs4 hm0]
    exact checkAllBlocksIn_iff w1 hne
      (fun k hk => (lt_nBlocks_iff body.length lg.szx k).mpr (hin' k hk))
  -- the outputs that keep the lg_crcv: the recorded set has grown by this block
  have kept : ∀ (s' : Crcv) (o : CrcvOut), CrcvInv single cap body sz s' → s'.recv = rec' → o.records num lg.szx →
      StoreOut single body lg.recv num lg.szx (slice body lg.szx num) (some s') o →
      StoreSpec single cap body sz lg.recv num lg.szx (slice body lg.szx num) (some s') o := fun s' o hi hr hrec ho =>
    StoreSpec.of_out (fun _ hs _ => by
      cases hs
      exact ⟨hi, fun k => by rw [hr, w3 k]; exact or_congr Iff.rfl ⟨fun h => ⟨h, hrec⟩, fun h => h.1⟩⟩) ho
  have hcomplete : (∀ k, k < nBlocks body.length lg.szx → Covers rec' k) →
      ∀ k, k < nBlocks body.length lg.szx → k = num ∨ Covers lg.recv k := fun hcov k hk =>
    ((w3 k).mp (hcov k hk)).symm
  rcases hmode with ⟨rfl, hsingle⟩ | ⟨rfl, e | ⟨hm0, hall, e⟩⟩
  · obtain ⟨b', hb1, hb2, hb3, hb4, hb5, hb6⟩ :=
      buildBody_spec2 junk lg.body (slice body lg.szx num) (num * chunkSize lg.szx) size2 hpos hs1
    rw [hb1] at hsingle
    rcases hsingle with ⟨hb, _⟩ | ⟨b, hb, alts⟩
    · cases hb
    cases hb
    have hbuf' : (∀ t, sz = some t → t ≤ b'.length) ∧
        ∀ k, Covers rec' k → ∀ i, k * chunkSize lg.szx ≤ i → i < k * chunkSize lg.szx + chunkSize lg.szx →
          i < body.length → b'[i]? = body[i]? := by
      constructor
      · intro t ht
        cases hbody : lg.body with
        | none => rw [hb4 hbody]; exact hs2 t ht
        | some b =>
          have := (buf_of_some (hinv.buf rfl) hbody).1 t ht
          have := hb3 b hbody
          omega
      · intro k hk i hi1 hi2 hi3
        by_cases hw : num * chunkSize lg.szx ≤ i ∧ i < num * chunkSize lg.szx + (slice body lg.szx num).length
        · rw [hb5 i hw.1 hw.2]
          exact slice_get body lg.szx num i hw.1 hw.2
        · rcases (w3 k).mp hk with hk | hk
          · obtain ⟨b, hbody, _, hb⟩ := buf_of_ne_nil (hinv.buf rfl) (ne_nil_of_covers hk)
            have hget := hb k hk i hi1 hi2 hi3
            have hil : i < b.length :=
              (List.getElem?_eq_some_iff.mp (hget.trans (List.getElem?_eq_getElem hi3))).1
            rw [hb6 b hbody i hil hw]
            exact hget
          · subst hk
            refine (hw ⟨hi1, ?_⟩).elim
            by_cases hm1 : more body.length lg.szx k = 1
            · rw [(slice_more body lg.szx k hnum).1 hm1]; exact hi2
            · rw [(slice_more body lg.szx k hnum).2 hm1]; exact hi3
    have hinv' : CrcvInv true cap body sz { lg with recv := rec', body := some b' } :=
      { wf := w1, cnt := w2, inRange := hin', buf := fun _ => hbuf' }
    rcases alts with ⟨hm0, e⟩ | ⟨_, _, e⟩ | ⟨_, _, e⟩ | ⟨hm0, hall, e⟩
    · cases e
      refine kept _ _ hinv' rfl ⟨rfl, rfl⟩ ⟨rfl, rfl, ?_⟩
      rcases hmc with ⟨_, e2, _⟩ | ⟨e1, _, _⟩
      · exact e2
      · exact (hm0 (by rw [hm, e1])).elim
    · -- "Short packet is not the end of the body": blocks forgotten (initial), 4.08
      cases e
      exact storeSpec_inert _ _ _ _ _ _ _ _ _ _ (by intro s' hs'; cases hs'; rfl) (Or.inr (Or.inl rfl))
    · cases e
      exact kept _ _ hinv' rfl trivial trivial
    · cases e
      have hcov := (hallin hm0).mp hall
      have hlast := (slice_more body lg.szx num hnum).2 (by rw [← hm, hm0]; decide)
      refine StoreSpec.of_out (fun s' hs' => by cases hs') ⟨rfl, ?_, hlast, rfl, hcomplete hcov⟩
      rw [hlast]
      refine eq_of_blocks _ body lg.szx ?_ fun k hk i h1 h2 h3 => ?_
      · rw [List.length_take]; exact Nat.min_eq_left (hlast ▸ hb2)
      · rw [List.getElem?_take, if_pos h3]
        exact hbuf'.2 k (hcov k hk) i h1 h2 h3
  · cases e
    refine kept _ _ { wf := w1, cnt := w2, inRange := hin', buf := by intro hh; cases hh } rfl trivial
      ⟨rfl, rfl, rfl, hncov, ?_⟩
    rcases hmc with ⟨e1, e2, _⟩ | ⟨e1, e2, _⟩
    · rw [if_pos e2, if_pos (by rw [hm, e1]; decide)]
    · rw [if_neg e2, if_neg (by rw [hm, e1]; decide)]
  · cases e
    exact StoreSpec.of_out (fun s' hs' => by cases hs') ⟨rfl, rfl, rfl, hncov, rfl, hcomplete ((hallin hm0).mp hall)⟩

theorem crcvSize2_ge (sz : Option Nat) (m e : Nat) : e ≤ crcvSize2 sz m e := by
  have key : ∀ s0 : Nat, e ≤ (if s0 < e then (if m ≠ 0 then e + 1 else e) else s0) := by
    intro s0
    by_cases h : s0 < e
    · rw [if_pos h]
      by_cases hm : m ≠ 0
      · rw [if_pos hm]; omega
      · rw [if_neg hm]; omega
    · rw [if_neg h]; omega
  unfold crcvSize2
  cases sz with
  | none => exact key 0
  | some s => exact key s

/-- `e` = where the block ends, `L` = the length of the body -/
theorem crcvSize2_facts (sz : Option Nat) (m e L : Nat) (hsz : ∀ t, sz = some t → t ≤ L)
    (hm : m = 0 → e = L) :
    e ≤ crcvSize2 sz m e ∧ (∀ t, sz = some t → t ≤ crcvSize2 sz m e) ∧
    (crcvSize2 sz m e ≤ e + 1 ∨ sz = some (crcvSize2 sz m e)) ∧ (m = 0 → crcvSize2 sz m e = L) := by
  refine ⟨crcvSize2_ge sz m e, ?_⟩
  unfold crcvSize2
  cases sz with
  | none =>
    simp only
    by_cases h0 : 0 < e
    · rw [if_pos h0]
      by_cases hm0 : m ≠ 0
      · rw [if_pos hm0]
        exact ⟨(by intro t ht; cases ht), Or.inl (by omega), fun hh => (hm0 hh).elim⟩
      · rw [if_neg hm0]
        exact ⟨(by intro t ht; cases ht), Or.inl (by omega), fun hh => hm hh⟩
    · rw [if_neg h0]
      exact ⟨(by intro t ht; cases ht), Or.inl (by omega), fun hh => by have := hm hh; omega⟩
  | some s =>
    simp only
    have hs := hsz s rfl
    by_cases h0 : s < e
    · rw [if_pos h0]
      by_cases hm0 : m ≠ 0
      · rw [if_pos hm0]
        exact ⟨(by intro t ht; cases ht; omega), Or.inl (by omega), fun hh => (hm0 hh).elim⟩
      · rw [if_neg hm0]
        exact ⟨(by intro t ht; cases ht; omega), Or.inl (by omega), fun hh => hm hh⟩
    · rw [if_neg h0]
      exact ⟨(by intro t ht; cases ht; omega), Or.inr rfl, fun hh => by have := hm hh; omega⟩

theorem crcvInit_cases {lg lg2 : Crcv} {szx size2 : Nat} {r : Resp} (h : crcvInit lg szx size2 r = lg2) :
    lg2.initial = false ∧
    ((lg.initial = true ∧ lg2.recv = [] ∧ lg2.body = none ∧ lg2.szx = szx ∧ lg2.etagSet = r.etag.isSome ∧
        ∀ e, r.etag = some e → lg2.etag = e) ∨
     (lg.initial = false ∧ lg2.recv = lg.recv ∧ lg2.body = lg.body ∧ lg2.szx = lg.szx ∧ lg2.etag = lg.etag ∧
        lg2.etagSet = lg.etagSet)) := by
  subst h
  unfold crcvInit
  cases hi : lg.initial with
  | true =>
    simp only [if_true]
    split <;> exact ⟨rfl, Or.inl ⟨trivial, rfl, rfl, rfl, rfl, fun e he => by rw [he]⟩⟩
  | false =>
    simp only [Bool.false_eq_true, if_false]
    split <;> exact ⟨hi, Or.inr ⟨trivial, rfl, rfl, rfl, rfl, rfl⟩⟩

theorem crcvInit_facts (lg : Crcv) (szx size2 : Nat) (r : Resp) :
    (crcvInit lg szx size2 r).initial = false ∧
    (crcvInit lg szx size2 r).recv = (if lg.initial then [] else lg.recv) ∧
    (crcvInit lg szx size2 r).body = (if lg.initial then none else lg.body) ∧
    (crcvInit lg szx size2 r).szx = (if lg.initial then szx else lg.szx) ∧
    (lg.initial = false → (crcvInit lg szx size2 r).etag = lg.etag ∧ (crcvInit lg szx size2 r).etagSet = lg.etagSet) := by
  rcases crcvInit_cases (lg := lg) (szx := szx) (size2 := size2) (r := r) rfl with
    ⟨i1, ⟨hi, a, b, c, _⟩ | ⟨hi, a, b, c, d, e⟩⟩
  · rw [hi]; exact ⟨i1, a, b, c, fun h => nomatch h⟩
  · rw [hi]; exact ⟨i1, a, b, c, fun _ => ⟨d, e⟩⟩

/-- the response would pass the ETag tests against the (initialised) lg_crcv `s` -/
def PassesEtag (s : Crcv) (r : Resp) : Prop :=
  (∀ e, r.etag = some e → e = s.etag) ∧ (r.etag = none → s.etagSet = false)

theorem crcvBlock_cases (single : Bool) (cap : Nat) (junk : UInt8) (lg : Crcv) (num m szx : Nat) (r : Resp) :
    crcvBlock single cap junk lg num m szx r = (none, .err402) ∨
    ∃ data size2, data = r.payload.take (2 ^ (szx + 4)) ∧ (m ≠ 0 → data.length = 2 ^ (szx + 4)) ∧
      ¬ (m ≠ 0 ∧ 0xFFFFF ≤ num) ∧ size2 = crcvSize2 r.size2 m (num * 2 ^ (szx + 4) + data.length) ∧
      (crcvBlock single cap junk lg num m szx r =
          (some { crcvInit lg szx size2 r with initial := true, body := none }, .restart szx) ∨
       crcvBlock single cap junk lg num m szx r = (some (crcvInit lg szx size2 r), .err408) ∨
       (PassesEtag (crcvInit lg szx size2 r) r ∧ crcvBlock single cap junk lg num m szx r =
         crcvStore single cap junk (crcvInit lg szx size2 r) num m szx r.payload data (num * 2 ^ (szx + 4)) size2 r.fmt)) := by
  have hdata : (if r.payload.length > 2 ^ (szx + 4) then r.payload.take (2 ^ (szx + 4)) else r.payload) =
      r.payload.take (2 ^ (szx + 4)) :=
    ite_ind (P := fun d => d = r.payload.take (2 ^ (szx + 4))) (fun _ => rfl) fun hl => (List.take_of_length_le (Nat.le_of_not_lt hl)).symm
  unfold crcvBlock
  dsimp only
  rw [hdata]
  generalize hd : r.payload.take (2 ^ (szx + 4)) = data
  by_cases hund : m ≠ 0 ∧ data.length ≠ 2 ^ (szx + 4)
  · rw [if_pos hund]; exact Or.inl rfl
  rw [if_neg hund]
  by_cases hlastnum : m ≠ 0 ∧ 0xFFFFF ≤ num
  · rw [if_pos hlastnum]; exact Or.inl rfl
  rw [if_neg hlastnum]
  refine Or.inr ⟨data, _, rfl, fun hm => Decidable.not_not.mp fun hh => hund ⟨hm, hh⟩, hlastnum, rfl, ?_⟩
  generalize crcvInit lg szx (crcvSize2 r.size2 m (num * 2 ^ (szx + 4) + data.length)) r = lg2
  unfold PassesEtag
  cases r.etag with
  | some e =>
    dsimp only
    by_cases hch : e ≠ lg2.etag
    · rw [if_pos hch]; exact Or.inl rfl
    · rw [if_neg hch]
      exact Or.inr (Or.inr ⟨⟨fun e' he' => Option.some.inj he' ▸ Decidable.not_not.mp hch, fun hn => nomatch hn⟩, rfl⟩)
  | none =>
    dsimp only
    by_cases hes : lg2.etagSet = true
    · rw [if_pos hes]; exact Or.inr (Or.inl rfl)
    · rw [if_neg hes]; exact Or.inr (Or.inr ⟨⟨fun e' he' => (nomatch he'), fun _ => Bool.eq_false_iff.mpr hes⟩, rfl⟩)

theorem crcvFound_cases (single : Bool) (cap : Nat) (junk : UInt8) (lg : Crcv) (r : Resp) :
    crcvFound single cap junk lg r = (none, .plain r.payload) ∨
    crcvFound single cap junk lg r = (none, .err402) ∨
    ∃ num m szx data size2, r.blk = some (num, m, szx) ∧ (m ≠ 0 ∨ r.payload.length ≠ 0) ∧
      data = r.payload.take (2 ^ (szx + 4)) ∧ (m ≠ 0 → data.length = 2 ^ (szx + 4)) ∧
      ¬ (m ≠ 0 ∧ 0xFFFFF ≤ num) ∧ size2 = crcvSize2 r.size2 m (num * 2 ^ (szx + 4) + data.length) ∧
      (crcvFound single cap junk lg r =
          (some { crcvInit lg szx size2 r with initial := true, body := none }, .restart szx) ∨
       crcvFound single cap junk lg r = (some (crcvInit lg szx size2 r), .err408) ∨
       (PassesEtag (crcvInit lg szx size2 r) r ∧ crcvFound single cap junk lg r =
         crcvStore single cap junk (crcvInit lg szx size2 r) num m szx r.payload data (num * 2 ^ (szx + 4)) size2 r.fmt)) := by
  unfold crcvFound
  cases r.blk with
  | none => exact Or.inl rfl
  | some b =>
    obtain ⟨num, m, szx⟩ := b
    dsimp only
    by_cases hne : m ≠ 0 ∨ r.payload.length ≠ 0
    · rw [if_pos hne]
      rcases crcvBlock_cases single cap junk lg num m szx r with e | ⟨data, size2, h1, h2, h3, h4, e⟩
      · exact Or.inr (Or.inl e)
      · exact Or.inr (Or.inr ⟨num, m, szx, data, size2, rfl, hne, h1, h2, h3, h4, e⟩)
    · rw [if_neg hne]; exact Or.inl rfl

theorem crcvStep_cases (single : Bool) (cap : Nat) (junk : UInt8) (st : Option Crcv) (r : Resp) :
    crcvStep single cap junk st r = (none, .plain r.payload) ∨
    (∃ num m szx total, r.blk = some (num, m, szx) ∧
      crcvStep single cap junk st r = (none, .randomAccess (num * 2 ^ (szx + 4)) r.payload total)) ∨
    ∃ lg, (st = some lg ∨ (st = none ∧ lg = {})) ∧ crcvStep single cap junk st r = crcvFound single cap junk lg r := by
  unfold crcvStep
  cases st with
  | some lg => exact Or.inr (Or.inr ⟨lg, Or.inl rfl, rfl⟩)
  | none =>
    dsimp only
    cases hb : r.blk with
    | none => exact Or.inl rfl
    | some b =>
      obtain ⟨num, m, szx⟩ := b
      dsimp only
      by_cases hn : num ≠ 0
      · rw [if_pos hn]; exact Or.inr (Or.inl ⟨_, _, _, _, rfl, rfl⟩)
      · rw [if_neg hn]; exact Or.inr (Or.inr ⟨{}, Or.inr ⟨rfl, rfl⟩, rfl⟩)

/-- Where a response with Block2 option `(num, m, szx)` that was not refused outright leaves the lg_crcv (`lg2` = after
`crcvInit`) and what the caller is told: `restart` / `next` — a request was sent, the handler is not called; `refused`, `noBuffer`,
`short` — fail_resp, the handler sees 4.08 (`short`: the blocks are forgotten); `skip`, `wait` — nothing more happens; `body`,
`block`, `last` — the handler is called with the body / this block, for `body` and `last` with the lg_crcv released. -/
inductive Block2End (single : Bool) (payload : Bytes) (num m szx size2 : Nat) (lg2 : Crcv) : Option Crcv × CrcvOut → Prop
  | restart : Block2End single payload num m szx size2 lg2 (some { lg2 with initial := true, body := none }, .restart szx)
  | refused : Block2End single payload num m szx size2 lg2 (some lg2, .err408)
  | skip : Block2End single payload num m szx size2 lg2 (some lg2, .skip)
  | noBuffer (rec' : Ranges) (hs : single = true) :
      Block2End single payload num m szx size2 lg2 (some { lg2 with recv := rec', body := none }, .err408)
  | next (rec' : Ranges) (b : Bytes) (hs : single = true) (hm : m ≠ 0) :
      Block2End single payload num m szx size2 lg2 (some { lg2 with recv := rec', body := some b }, .next (num + 1) szx)
  | short (rec' : Ranges) (b : Bytes) (hs : single = true) :
      Block2End single payload num m szx size2 lg2 (some { lg2 with recv := rec', body := some b, initial := true }, .err408)
  | wait (rec' : Ranges) (b : Bytes) (hs : single = true) :
      Block2End single payload num m szx size2 lg2 (some { lg2 with recv := rec', body := some b }, .wait)
  | body (b : Bytes) (l : Nat) (hs : single = true) : Block2End single payload num m szx size2 lg2 (none, .body b l)
  | block (rec' : Ranges) (hs : single = false) :
      Block2End single payload num m szx size2 lg2 (some { lg2 with recv := rec' },
        .block (num * 2 ^ (szx + 4)) payload size2 (if m ≠ 0 then some (num + 1, szx) else none))
  | last (hs : single = false) :
      Block2End single payload num m szx size2 lg2 (none, .last (num * 2 ^ (szx + 4)) payload size2)

/-- Everything one call of `coap_handle_response_get_block` can come to; `lg` is the lg_crcv the response meets, a fresh one if
there was none.  `plain`: return 0, the caller hands the message to the handler as it is; `randomAccess`: the same with the
block's offset, no lg_crcv is set up; `err402`: the lg_crcv is expired, the handler sees 4.02; `onBlock`: as `Block2End` says. -/
inductive CrcvEnd (single : Bool) (lg : Crcv) (r : Resp) : Option Crcv × CrcvOut → Prop
  | plain : CrcvEnd single lg r (none, .plain r.payload)
  | randomAccess {num m szx : Nat} (total : Nat) (hb : r.blk = some (num, m, szx)) :
      CrcvEnd single lg r (none, .randomAccess (num * 2 ^ (szx + 4)) r.payload total)
  | err402 : CrcvEnd single lg r (none, .err402)
  | onBlock {num m szx : Nat} (size2 : Nat) (hb : r.blk = some (num, m, szx)) (hl : ¬ (m ≠ 0 ∧ 0xFFFFF ≤ num))
      {res : Option Crcv × CrcvOut} (h : Block2End single r.payload num m szx size2 (crcvInit lg szx size2 r) res) :
      CrcvEnd single lg r res

theorem crcvStep_ends (single : Bool) (cap : Nat) (junk : UInt8) (st : Option Crcv) (r : Resp)
    (res : Option Crcv × CrcvOut) (h : crcvStep single cap junk st r = res) : CrcvEnd single (st.getD {}) r res := by
  subst h
  rcases crcvStep_cases single cap junk st r with e | ⟨_, _, _, total, hb, e⟩ | ⟨lg, hlg, e⟩
  · rw [e]; exact .plain
  · rw [e]; exact .randomAccess total hb
  have hlg' : st.getD {} = lg := by
    rcases hlg with rfl | ⟨rfl, rfl⟩ <;> rfl
  rw [e, hlg']
  rcases crcvFound_cases single cap junk lg r with e | e | ⟨num, m, szx, data, size2, hb, _, _, _, hl, _, e | e | ⟨_, e⟩⟩
  · rw [e]; exact .plain
  · rw [e]; exact .err402
  · rw [e]; exact .onBlock size2 hb hl .restart
  · rw [e]; exact .onBlock size2 hb hl .refused
  rw [e]
  refine .onBlock size2 hb hl ?_
  rcases crcvStore_cases single cap junk (crcvInit lg szx size2 r) num m szx r.payload data (num * 2 ^ (szx + 4)) size2 r.fmt
      _ rfl with
    e | e | ⟨rec', _, _, _, ⟨hs, ⟨_, e⟩ | ⟨b, _, ⟨hm, e⟩ | ⟨_, _, e⟩ | ⟨_, _, e⟩ | ⟨_, _, e⟩⟩⟩ | ⟨hs, e | ⟨_, _, e⟩⟩⟩
  · rw [e]; exact .refused
  · rw [e]; exact .skip
  · rw [e]; exact .noBuffer rec' hs
  · rw [e]; exact .next rec' b hs hm
  · rw [e]; exact .short rec' b hs
  · rw [e]; exact .wait rec' b hs
  · rw [e]; exact .body b _ hs
  · rw [e]; exact .block rec' hs
  · rw [e]; exact .last hs

theorem crcvBlock_spec (single : Bool) (cap : Nat) (junk : UInt8) (body : Bytes) (sz : Option Nat) (lg : Crcv)
    (num szx : Nat) (r : Resp) (st' : Option Crcv) (out : CrcvOut)
    (hsz : ∀ t, sz = some t → t ≤ body.length)
    (hlg : lg.initial = false → CrcvInv single cap body sz lg)
    (hlgs : lg.initial = false → PassesEtag lg r → lg.szx = szx)
    (hnum : num < nBlocks body.length szx) (hpay : r.payload = slice body szx num) (hsize : r.size2 = sz)
    (h : crcvBlock single cap junk lg num (more body.length szx num) szx r = (st', out)) :
    StoreSpec single cap body sz (if lg.initial then [] else lg.recv) num szx r.payload st' out := by
  have hple := slice_length_le body szx num
  rcases crcvBlock_cases single cap junk lg num (more body.length szx num) szx r with
    e | ⟨data, size2, hd, _, _, hs2, e⟩
  · -- 4.02 (also "More set on the last block number", fix 70f6ff3): nothing stored, the lg_crcv is gone
    rw [e] at h
    cases h
    exact storeSpec_inert _ _ _ _ _ _ _ _ _ _ (by intro s' hs'; cases hs') (Or.inl rfl)
  rw [hpay, pow_eq_chunkSize szx, List.take_of_length_le hple] at hd
  subst hd
  rw [pow_eq_chunkSize szx, hsize] at hs2
  have hm0 : more body.length szx num = 0 → num * chunkSize szx + (slice body szx num).length = body.length :=
    fun hh => (slice_more body szx num hnum).2 (by rw [hh]; decide)
  obtain ⟨f1, f2, f3, f4⟩ := crcvSize2_facts sz (more body.length szx num)
    (num * chunkSize szx + (slice body szx num).length) body.length hsz hm0
  rw [← hs2] at f1 f2 f3 f4
  generalize hlg2 : crcvInit lg szx size2 r = lg2 at e
  obtain ⟨i1, hinit⟩ := crcvInit_cases hlg2
  -- the (re-)initialised lg_crcv is consistent with the body and tracks this block size whenever the response passes
  -- its ETag tests
  have hinv2 : CrcvInv single cap body sz lg2 ∧ (PassesEtag lg2 r → lg2.szx = szx) ∧
      lg2.recv = (if lg.initial then [] else lg.recv) := by
    rcases hinit with ⟨hi, i2, i3, i4, _⟩ | ⟨hi, i2, i3, i4, e1, e2⟩
    · refine ⟨{ wf := by rw [i2]; trivial, cnt := by rw [i2]; exact Nat.zero_le _, inRange := ?_, buf := ?_ },
        fun _ => i4, by rw [hi]; exact i2⟩
      · intro k hk; rw [i2] at hk; exact (covers_nil k hk).elim
      · intro _; rw [i3]; exact i2
    · have hv := hlg hi
      refine ⟨{ wf := by rw [i2]; exact hv.wf, cnt := by rw [i2]; exact hv.cnt, inRange := ?_, buf := ?_ },
        fun hp => ?_, by rw [hi]; exact i2⟩
      · intro k hk; rw [i2] at hk; rw [i4]; exact hv.inRange k hk
      · intro hsg; rw [i3, i2, i4]; exact hv.buf hsg
      · rw [i4]
        apply hlgs hi
        unfold PassesEtag at *
        rw [← e1, ← e2]
        exact hp
  obtain ⟨hinv2, hszx2, i2⟩ := hinv2
  rw [← i2]
  rw [h] at e
  rcases e with e | e | ⟨hp, e⟩
  · cases e
    exact storeSpec_inert _ _ _ _ _ _ _ _ _ _ (by intro s' hs'; cases hs'; rfl) (Or.inr (Or.inr ⟨_, rfl⟩))
  · cases e
    exact storeSpec_quiet (fun s' hs' _ => by cases hs'; exact ⟨hinv2, rfl⟩) (Or.inr (Or.inl rfl))
  · have hsx := hszx2 hp
    subst hsx
    rw [hpay] at e ⊢
    exact crcvStore_spec single cap junk body sz lg2 num _ size2 r.fmt st' out hinv2 hnum rfl f1 f2 f3
      (fun hm => f4 hm) e.symm

/-- the response carries the server's slice for its NUM/SZX with the right More bit, the Size2 option is the same
(`sz`) on every response, and IF the response passes the ETag tests of the initialised lg_crcv it meets, its block size
is the one that lg_crcv tracks the transfer in; ETag and Content-Format are arbitrary -/
def Genuine2 (body : Bytes) (sz : Option Nat) (st : Option Crcv) (r : Resp) (num szx : Nat) : Prop :=
  r.blk = some (num, more body.length szx num, szx) ∧ num < nBlocks body.length szx ∧
  r.payload = slice body szx num ∧ r.size2 = sz ∧
  (∀ s, st = some s → s.initial = false → PassesEtag s r → s.szx = szx)

theorem crcvStep_spec (single : Bool) (cap : Nat) (junk : UInt8) (body : Bytes) (sz : Option Nat) (st : Option Crcv)
    (r : Resp) (num szx : Nat) (st' : Option Crcv) (out : CrcvOut)
    (hsz : ∀ t, sz = some t → t ≤ body.length)
    (hst : ∀ s, st = some s → s.initial = false → CrcvInv single cap body sz s)
    (hg : Genuine2 body sz st r num szx)
    (h : crcvStep single cap junk st r = (st', out)) :
    StoreSpec single cap body sz (effRecv st) num szx r.payload st' out := by
  obtain ⟨g1, g2, g3, g4, g5⟩ := hg
  have hoff := (lt_nBlocks_iff body.length szx num).mp g2
  have hpl := slice_length body szx num
  have hc := chunk_pos szx
  have hnonempty : more body.length szx num ≠ 0 ∨ r.payload.length ≠ 0 := by
    right; rw [g3]; omega
  have hfound : ∀ (lg : Crcv), (lg.initial = false → CrcvInv single cap body sz lg) →
      (lg.initial = false → PassesEtag lg r → lg.szx = szx) →
      crcvFound single cap junk lg r = (st', out) →
      StoreSpec single cap body sz (if lg.initial then [] else lg.recv) num szx r.payload st' out := by
    intro lg hlg hlgs hf
    unfold crcvFound at hf
    rw [g1] at hf
    simp only at hf
    rw [if_pos hnonempty] at hf
    exact crcvBlock_spec single cap junk body sz lg num szx r st' out hsz hlg hlgs g2 g3 g4 hf
  unfold crcvStep at h
  cases st with
  | some lg =>
    simp only at h
    have := hfound lg (fun hi => hst lg rfl hi) (fun hi hp => g5 lg rfl hi hp) h
    unfold effRecv
    exact this
  | none =>
    simp only at h
    rw [g1] at h
    simp only at h
    by_cases hn0 : num ≠ 0
    · rw [if_pos hn0] at h
      cases h
      exact StoreSpec.of_out (fun s' hs' => by cases hs') ⟨rfl, rfl⟩
    · rw [if_neg hn0] at h
      have := hfound {} (by intro hi; cases hi) (by intro hi; cases hi) h
      exact this


def runCrcv (single : Bool) (cap : Nat) (junk : UInt8) : Option Crcv → List Resp → List CrcvOut
  | _, [] => []
  | st, r :: rs =>
    (crcvStep single cap junk st r).2 :: runCrcv single cap junk (crcvStep single cap junk st r).1 rs

/-- every response of the sequence is genuine with respect to the state it meets -/
def Admissible2 (single : Bool) (cap : Nat) (junk : UInt8) (body : Bytes) (sz : Option Nat) :
    Option Crcv → List Resp → Prop
  | _, [] => True
  | st, r :: rs =>
    (∃ num szx, Genuine2 body sz st r num szx) ∧
      Admissible2 single cap junk body sz (crcvStep single cap junk st r).1 rs

/-- what the handler may be given when the server is genuine -/
def GoodOut (single : Bool) (body : Bytes) (o : CrcvOut) : Prop :=
  (∀ d l, o = CrcvOut.body d l → single = true ∧ d.take l = body ∧ l = body.length) ∧
  (∀ off p total nx, o = CrcvOut.block off p total nx →
    single = false ∧ ∃ k szx, k < nBlocks body.length szx ∧ off = k * chunkSize szx ∧ p = slice body szx k) ∧
  (∀ off p total, o = CrcvOut.last off p total →
    single = false ∧ ∃ k szx, k < nBlocks body.length szx ∧ off = k * chunkSize szx ∧ p = slice body szx k) ∧
  (∀ off p total, o = CrcvOut.randomAccess off p total →
    ∃ k szx, k < nBlocks body.length szx ∧ off = k * chunkSize szx ∧ p = slice body szx k) ∧
  (∀ p, o ≠ CrcvOut.plain p)

theorem goodOut_of_storeSpec (single : Bool) (cap : Nat) (body : Bytes) (sz : Option Nat) (pre : Ranges) (num szx : Nat)
    (payload : Bytes) (st' : Option Crcv) (out : CrcvOut)
    (hspec : StoreSpec single cap body sz pre num szx payload st' out)
    (hnum : num < nBlocks body.length szx) (hpay : payload = slice body szx num) : GoodOut single body out := by
  refine ⟨?_, ?_, ?_, ?_, hspec.noPlain⟩
  · intro d l hb
    obtain ⟨a, b, c, _⟩ := hspec.dBody d l hb
    exact ⟨a, b, c⟩
  · intro off p total nx hb
    obtain ⟨a, b, c, _⟩ := hspec.dBlock off p total nx hb
    exact ⟨a, num, szx, hnum, b, by rw [c]; exact hpay⟩
  · intro off p total hb
    obtain ⟨a, b, c, _⟩ := hspec.dLast off p total hb
    exact ⟨a, num, szx, hnum, b, by rw [c]; exact hpay⟩
  · intro off p total hb
    obtain ⟨b, c⟩ := hspec.ra off p total hb
    exact ⟨num, szx, hnum, b, by rw [c]; exact hpay⟩

theorem runCrcv_sound (single : Bool) (cap : Nat) (junk : UInt8) (body : Bytes) (sz : Option Nat)
    (hsz : ∀ t, sz = some t → t ≤ body.length) :
    ∀ (rs : List Resp) (st : Option Crcv), (∀ s, st = some s → s.initial = false → CrcvInv single cap body sz s) →
      Admissible2 single cap junk body sz st rs →
      ∀ o, o ∈ runCrcv single cap junk st rs → GoodOut single body o
  | [], _, _, _, o, ho => by simp [runCrcv] at ho
  | r :: rs, st, hst, hadm, o, ho => by
    obtain ⟨⟨num, szx, hg⟩, hrest⟩ := hadm
    have hspec := crcvStep_spec single cap junk body sz st r num szx _ _ hsz hst hg rfl
    unfold runCrcv at ho
    rw [List.mem_cons] at ho
    rcases ho with ho | ho
    · subst ho
      exact goodOut_of_storeSpec _ _ _ _ _ _ _ _ _ _ hspec hg.2.1 hg.2.2.1
    · exact runCrcv_sound single cap junk body sz hsz rs _ (fun s hs hi => hspec.inv s hs hi) hrest o ho

/-! ## per-block mode over a run: every block once, and all of them at completion -/

theorem crcvStep_perblock (cap : Nat) (junk : UInt8) (st : Option Crcv) (r : Resp) :
    (∀ n s, (crcvStep false cap junk st r).2 ≠ CrcvOut.next n s) ∧ (crcvStep false cap junk st r).2 ≠ CrcvOut.wait := by
  generalize hres : crcvStep false cap junk st r = res
  cases crcvStep_ends false cap junk st r res hres with
  | plain | randomAccess | err402 => exact ⟨fun n s h => (by cases h), fun h => (by cases h)⟩
  | onBlock size2 hb hl hend =>
    cases hend with
    | next _ _ hs | wait _ _ hs => cases hs
    | restart | refused | skip | noBuffer | short | body | block | last =>
      exact ⟨fun n s h => (by cases h), fun h => (by cases h)⟩

/-- what a per-block output may be against ANY server -/
def PerBlockOk (r : Resp) : CrcvOut → Prop
  | .block off p _ _ | .last off p _ | .randomAccess off p _ =>
    ∃ num m szx, r.blk = some (num, m, szx) ∧ off = num * 2 ^ (szx + 4) ∧ p = r.payload
  | .body _ _ => False
  | _ => True

theorem PerBlockOk.clauses {r : Resp} {o : CrcvOut} (h : PerBlockOk r o) :
    (∀ off p total nx, o = CrcvOut.block off p total nx →
      ∃ num m szx, r.blk = some (num, m, szx) ∧ off = num * 2 ^ (szx + 4) ∧ p = r.payload) ∧
    (∀ off p total, o = CrcvOut.last off p total →
      ∃ num m szx, r.blk = some (num, m, szx) ∧ off = num * 2 ^ (szx + 4) ∧ p = r.payload) ∧
    (∀ off p total, o = CrcvOut.randomAccess off p total →
      ∃ num m szx, r.blk = some (num, m, szx) ∧ off = num * 2 ^ (szx + 4) ∧ p = r.payload) ∧
    (∀ d l, o ≠ CrcvOut.body d l) :=
  ⟨fun _ _ _ _ e => by subst e; exact h, fun _ _ _ e => by subst e; exact h, fun _ _ _ e => by subst e; exact h,
    fun _ _ e => by subst e; exact h⟩

theorem crcvStep_perblock_payload (cap : Nat) (junk : UInt8) (st : Option Crcv) (r : Resp) :
    PerBlockOk r (crcvStep false cap junk st r).2 := by
  generalize hres : crcvStep false cap junk st r = res
  cases crcvStep_ends false cap junk st r res hres with
  | plain | err402 => trivial
  | randomAccess total hb => exact ⟨_, _, _, hb, rfl, rfl⟩
  | onBlock size2 hb hl hend =>
    cases hend with
    | body _ _ hs => cases hs
    | block | last => exact ⟨_, _, _, hb, rfl, rfl⟩
    | restart | refused | skip | noBuffer | next | short | wait => trivial

/-- the (ETag, SZX) of the initialised lg_crcv after a step is the response's (it was (re-)initialised by it) or
unchanged -/
theorem crcvStep_key (single : Bool) (cap : Nat) (junk : UInt8) (st : Option Crcv) (r : Resp) (num m szx : Nat)
    (e : Bytes) (hb : r.blk = some (num, m, szx)) (he : r.etag = some e) (c' : Crcv)
    (h : (crcvStep single cap junk st r).1 = some c') (hi' : c'.initial = false) :
    (c'.etagSet = true ∧ c'.etag = e ∧ c'.szx = szx) ∨
    (∃ c, st = some c ∧ c.initial = false ∧ c'.etag = c.etag ∧ c'.etagSet = c.etagSet ∧ c'.szx = c.szx) := by
  generalize hres : crcvStep single cap junk st r = res at h
  cases crcvStep_ends single cap junk st r res hres with
  | plain | randomAccess | err402 => cases h
  | onBlock size2 hb' hl hend =>
    rw [hb] at hb'
    cases hb'
    -- an lg_crcv that stays, initialised, has the key of `crcvInit`'s
    have hkey : c'.etag = (crcvInit (st.getD {}) szx size2 r).etag ∧
        c'.etagSet = (crcvInit (st.getD {}) szx size2 r).etagSet ∧ c'.szx = (crcvInit (st.getD {}) szx size2 r).szx := by
      cases hend with
      | body | last => cases h
      | restart | short => cases h; cases hi'
      | refused | skip | noBuffer | next | wait | block => cases h; exact ⟨rfl, rfl, rfl⟩
    obtain ⟨b, c, d⟩ := hkey
    rcases (crcvInit_cases (lg := st.getD {}) (szx := szx) (size2 := size2) (r := r) rfl).2 with
      ⟨_, _, _, z, y, x⟩ | ⟨hli, _, _, z, x, y⟩
    · exact Or.inl ⟨by rw [c, y, he]; rfl, by rw [b, x e he], by rw [d, z]⟩
    · cases st with
      | some lg => exact Or.inr ⟨lg, rfl, hli, b.trans x, c.trans y, d.trans z⟩
      | none => cases hli

/-- NUM / SZX of a response's Block2 option -/
def numOf (r : Resp) : Nat := match r.blk with | some (n, _, _) => n | none => 0
def szxOfR (r : Resp) : Nat := match r.blk with | some (_, _, s) => s | none => 0

/-- ghost: the block numbers handed to the handler since the lg_crcv was last (re-)initialised -/
def seenAfter (st' : Option Crcv) (seen : List Nat) (num : Nat) (o : CrcvOut) : List Nat :=
  match st' with
  | none => []
  | some s' =>
    if s'.initial then []
    else
      match o with
      | .block _ _ _ _ => num :: seen
      | _ => seen

/-- along a run in per-block mode: a block handed to the handler was not handed over before (since the last
(re-)initialisation of the lg_crcv), and when the completing block is handed over every other block of the body has
been: the (offset, length) pairs handed over tile the body, each exactly once -/
def TilesOnce (cap : Nat) (junk : UInt8) (body : Bytes) : Option Crcv → List Nat → List Resp → Prop
  | _, _, [] => True
  | st, seen, r :: rs =>
    (∀ off p t nx, (crcvStep false cap junk st r).2 = CrcvOut.block off p t nx → numOf r ∉ seen) ∧
    (∀ off p t, (crcvStep false cap junk st r).2 = CrcvOut.last off p t →
      numOf r ∉ seen ∧ ∀ k, k < nBlocks body.length (szxOfR r) → k = numOf r ∨ k ∈ seen) ∧
    TilesOnce cap junk body (crcvStep false cap junk st r).1
      (seenAfter (crcvStep false cap junk st r).1 seen (numOf r) (crcvStep false cap junk st r).2) rs

theorem tiles_step (cap : Nat) (junk : UInt8) (body : Bytes) (sz : Option Nat) (hsz : ∀ t, sz = some t → t ≤ body.length)
    (st : Option Crcv) (seen : List Nat) (r : Resp) (num szx : Nat)
    (hst : ∀ s, st = some s → s.initial = false → CrcvInv false cap body sz s)
    (hG : ∀ k, k ∈ seen ↔ Covers (effRecv st) k) (hg : Genuine2 body sz st r num szx) :
    (∀ off p t nx, (crcvStep false cap junk st r).2 = CrcvOut.block off p t nx → numOf r ∉ seen) ∧
    (∀ off p t, (crcvStep false cap junk st r).2 = CrcvOut.last off p t →
      numOf r ∉ seen ∧ ∀ k, k < nBlocks body.length (szxOfR r) → k = numOf r ∨ k ∈ seen) ∧
    (∀ k, k ∈ seenAfter (crcvStep false cap junk st r).1 seen (numOf r) (crcvStep false cap junk st r).2 ↔
      Covers (effRecv (crcvStep false cap junk st r).1) k) := by
  have hnum : numOf r = num := by unfold numOf; rw [hg.1]
  have hszx : szxOfR r = szx := by unfold szxOfR; rw [hg.1]
  obtain ⟨hpn, hpw⟩ := crcvStep_perblock cap junk st r
  rw [hnum, hszx]
  generalize hres : crcvStep false cap junk st r = res at hpn hpw ⊢
  obtain ⟨st', out⟩ := res
  have hspec := crcvStep_spec false cap junk body sz st r num szx st' out hsz hst hg hres
  dsimp only at hpn hpw ⊢
  refine ⟨?_, ?_, ?_⟩
  · intro off p t nx hb hmem
    exact (hspec.dBlock off p t nx hb).2.2.2.1 ((hG num).mp hmem)
  · intro off p t hb
    refine ⟨fun hmem => (hspec.dLast off p t hb).2.2.2.1 ((hG num).mp hmem), ?_⟩
    intro k hk
    rcases hspec.complete (by rw [hb]; rfl) k hk with h | h
    · exact Or.inl h
    · exact Or.inr ((hG k).mpr h)
  · intro k
    unfold seenAfter effRecv
    cases st' with
    | none => simp [covers_nil]
    | some s' =>
      simp only
      cases hi : s'.initial with
      | true => simp [covers_nil]
      | false =>
        simp only [Bool.false_eq_true, if_false]
        have hgrow := hspec.grow s' rfl hi k
        rw [hgrow]
        cases out with
        | block off p t nx =>
          simp only [List.mem_cons]
          constructor
          · intro h
            rcases h with h | h
            · exact Or.inr ⟨h, Or.inr (Or.inr ⟨off, p, t, nx, rfl⟩)⟩
            · exact Or.inl ((hG k).mp h)
          · intro h
            rcases h with h | ⟨h, _⟩
            · exact Or.inr ((hG k).mpr h)
            · exact Or.inl h
        | next n s => exact (hpn n s rfl).elim
        | wait => exact (hpw rfl).elim
        | _ =>
          simp only
          constructor
          · intro h; exact Or.inl ((hG k).mp h)
          · intro h
            rcases h with h | ⟨_, h⟩
            · exact (hG k).mpr h
            · rcases h with h | h | ⟨_, _, _, _, h⟩ <;> cases h

theorem tilesOnce_run (cap : Nat) (junk : UInt8) (body : Bytes) (sz : Option Nat)
    (hsz : ∀ t, sz = some t → t ≤ body.length) :
    ∀ (rs : List Resp) (st : Option Crcv) (seen : List Nat),
      (∀ s, st = some s → s.initial = false → CrcvInv false cap body sz s) →
      (∀ k, k ∈ seen ↔ Covers (effRecv st) k) →
      Admissible2 false cap junk body sz st rs → TilesOnce cap junk body st seen rs
  | [], _, _, _, _, _ => trivial
  | r :: rs, st, seen, hst, hG, hadm => by
    obtain ⟨⟨num, szx, hg⟩, hrest⟩ := hadm
    obtain ⟨h1, h2, h3⟩ := tiles_step cap junk body sz hsz st seen r num szx hst hG hg
    have hspec := crcvStep_spec false cap junk body sz st r num szx _ _ hsz hst hg rfl
    unfold TilesOnce
    exact ⟨h1, h2, tilesOnce_run cap junk body sz hsz rs _ _ (fun s hs hi => hspec.inv s hs hi) h3 hrest⟩

end Coap.Block
