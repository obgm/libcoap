import CoapVerif.Lemmas.EditItems
/-
M-side lemmas for the editors (C04): the byte-level key lemma.

"Re-encoding the FOLLOWING option's delta": for an option header encoded with delta `dOld` followed by arbitrary
bytes, what M's patch-in-place produces for a new delta `dNew` is the canonical header for `dNew` followed by the same
bytes — preceded by `J`, the bytes that the memmove then drops (coap_insert_option, header shrinks by |J| = 0/1/2), or
overwriting `J`, the last bytes of the removed option (coap_remove_option, header grows by |J| = 0/1/2).  Proved once
over the size classes (<13, 13..268, ≥269) of old and new delta.  `insPatch` / `remPatch` are the `if` chains of
M.insertBody / M.removeOption, named (`insertBody_eq`, `removeOption_eq` are by `rfl`).
-/
namespace Coap
open Coap.M

/-- header of an option: first byte (delta nibble, length nibble `nl`) + delta extension bytes -/
def hdrB (d nl : Nat) : Bytes := UInt8.ofNat (Spec.nib d * 16 + nl) :: Spec.extBytes d

theorem hdrB_cons (d nl : Nat) : hdrB d nl = UInt8.ofNat (Spec.nib d * 16 + nl) :: Spec.extBytes d := rfl

theorem hdrB_length (d nl : Nat) : (hdrB d nl).length = 1 + (Spec.extBytes d).length := by
  simp [hdrB]; omega

/-- an encoded option in front of `Z`, its header split off as `insPatch_spec` / `remPatch_spec` take it -/
theorem encOpt_hdrB (d : Nat) (v Z : Bytes) :
    Spec.encOpt d v ++ Z = hdrB d (Spec.nib v.length) ++ ((Spec.extBytes v.length ++ v) ++ Z) := by
  simp [Spec.encOpt, hdrB]

theorem hdrB_lt13 {d : Nat} (nl : Nat) (h : d < 13) : hdrB d nl = [UInt8.ofNat (d * 16 + nl)] := by
  simp [hdrB, nib_of_lt13 h, extBytes_of_lt13 h]
theorem hdrB_lt269 {d : Nat} (nl : Nat) (h1 : ¬ d < 13) (h2 : d < 269) :
    hdrB d nl = [UInt8.ofNat (13 * 16 + nl), UInt8.ofNat (d - 13)] := by
  simp [hdrB, nib_of_lt269 h1 h2, extBytes_of_lt269 h1 h2]
theorem hdrB_ge269 {d : Nat} (nl : Nat) (h2 : ¬ d < 269) :
    hdrB d nl = [UInt8.ofNat (14 * 16 + nl), UInt8.ofNat ((d - 269) / 256), UInt8.ofNat ((d - 269) % 256)] := by
  simp [hdrB, nib_of_ge269 h2, extBytes_of_ge269 h2]

theorem wr_mid (P old Q ys : Bytes) (i : Nat) (hi : i = P.length) (h : old.length = ys.length) :
    wr (P ++ (old ++ Q)) i ys = R.ok (P ++ (ys ++ Q)) := by
  subst hi
  unfold wr
  have hle : P.length + ys.length ≤ (P ++ (old ++ Q)).length := by simp; omega
  rw [if_pos hle, List.take_left]
  have : P ++ (old ++ Q) = (P ++ old) ++ Q := by simp
  rw [this, show P.length + ys.length = (P ++ old).length by simp; omega, List.drop_left]
  simp

/-- `wr_i_j`: `j` bytes overwritten at offset `i` behind `A` -/
theorem wr_0_1 (A T : Bytes) (x0 y : UInt8) : wr (A ++ x0 :: T) A.length [y] = R.ok (A ++ y :: T) :=
  wr_mid A [x0] T [y] _ rfl rfl
theorem wr_0_2 (A T : Bytes) (x0 x1 y0 y1 : UInt8) :
    wr (A ++ x0 :: x1 :: T) A.length [y0, y1] = R.ok (A ++ y0 :: y1 :: T) :=
  wr_mid A [x0, x1] T [y0, y1] _ rfl rfl
theorem wr_0_3 (A T : Bytes) (x0 x1 x2 y0 y1 y2 : UInt8) :
    wr (A ++ x0 :: x1 :: x2 :: T) A.length [y0, y1, y2] = R.ok (A ++ y0 :: y1 :: y2 :: T) :=
  wr_mid A [x0, x1, x2] T [y0, y1, y2] _ rfl rfl
theorem wr_1_1 (A T : Bytes) (x0 x1 y : UInt8) :
    wr (A ++ x0 :: x1 :: T) (A.length + 1) [y] = R.ok (A ++ x0 :: y :: T) := by
  have := wr_mid (A ++ [x0]) [x1] T [y] (A.length + 1) (by simp) rfl
  simpa using this
theorem wr_1_2 (A T : Bytes) (x0 x1 x2 y1 y2 : UInt8) :
    wr (A ++ x0 :: x1 :: x2 :: T) (A.length + 1) [y1, y2] = R.ok (A ++ x0 :: y1 :: y2 :: T) := by
  have := wr_mid (A ++ [x0]) [x1, x2] T [y1, y2] (A.length + 1) (by simp) rfl
  simpa using this
theorem wr_2_1 (A T : Bytes) (x0 x1 x2 y : UInt8) :
    wr (A ++ x0 :: x1 :: x2 :: T) (A.length + 2) [y] = R.ok (A ++ x0 :: x1 :: y :: T) := by
  have := wr_mid (A ++ [x0, x1]) [x2] T [y] (A.length + 2) (by simp) rfl
  simpa using this

/-- the six next-header rewrite cases of `coap_insert_option` (M.insertBody) -/
def insPatch (buf : Bytes) (o dOld optDelta b0 : Nat) : R (Bytes × Nat) :=
  (if dOld < 13 then do
    let b ← wr buf o [UInt8.ofNat (b0 % 16 + (optDelta * 16) % 256)]
    R.ok (b, 0)
  else if dOld < 269 ∧ optDelta < 13 then do
    let b ← wr buf (o + 1) [UInt8.ofNat (b0 % 16 + (optDelta * 16) % 256)]
    R.ok (b, 1)
  else if dOld < 269 ∧ optDelta < 269 then do
    let b ← wr buf (o + 1) [UInt8.ofNat (optDelta - 13)]
    R.ok (b, 0)
  else if optDelta < 13 then do
    let b ← wr buf (o + 2) [UInt8.ofNat (b0 % 16 + (optDelta * 16) % 256)]
    R.ok (b, 2)
  else if optDelta < 269 then do
    let b ← wr buf (o + 1) [UInt8.ofNat (b0 % 16 + 0xd0), UInt8.ofNat (optDelta - 13)]
    R.ok (b, 1)
  else do
    let b ← wr buf (o + 1) [UInt8.ofNat ((optDelta - 269) / 256), UInt8.ofNat ((optDelta - 269) % 256)]
    R.ok (b, 0) : R (Bytes × Nat))

theorem insertBody_eq (pdu : Pdu) (number : Nat) (data : Bytes) :
    insertBody pdu number data =
      match findInsert number 0 (items pdu) with
      | none => R.oob
      | some (it, prevNumber) =>
        if it.num - number = 0 ∧ ¬ repeatable number then R.ok (0, pdu) else
        if ¬ checkResize pdu (pdu.buf.length + optEncodeSize ((number - prevNumber) % 65536) data.length) then R.ok (0, pdu) else
        rd pdu.buf it.ofs >>= fun b0 =>
        insPatch pdu.buf it.ofs it.p.delta (it.num - number) b0 >>= fun r =>
        R.ok (optEncodeSize ((number - prevNumber) % 65536) data.length,
          { pdu with buf := r.1.take it.ofs ++ optEncode ((number - prevNumber) % 65536) data ++ r.1.drop (it.ofs + r.2),
                     data := pdu.data.map (· + optEncodeSize ((number - prevNumber) % 65536) data.length - r.2) }) := by
  rfl

theorem insPatch_spec (A T : Bytes) (dOld dNew nl b0 : Nat) (hb0 : b0 % 16 = nl) (hle : dNew ≤ dOld) :
    ∃ J, J.length = (Spec.extBytes dOld).length - (Spec.extBytes dNew).length ∧
      insPatch (A ++ (hdrB dOld nl ++ T)) A.length dOld dNew b0 =
        R.ok (A ++ (J ++ (hdrB dNew nl ++ T)), J.length) := by
  have hc1 : nl + dNew * 16 = dNew * 16 + nl := Nat.add_comm _ _
  have hc2 : nl + 208 = 13 * 16 + nl := by omega
  by_cases o1 : dOld < 13
  · have n1 : dNew < 13 := by omega
    refine ⟨[], by simp [extBytes_of_lt13 o1, extBytes_of_lt13 n1], ?_⟩
    have hm : dNew * 16 % 256 = dNew * 16 := by omega
    simp only [insPatch, o1, if_true, hm, hb0, hc1, hdrB_lt13 nl o1, hdrB_lt13 nl n1, List.cons_append, List.nil_append, wr_0_1]
    rfl
  · by_cases o2 : dOld < 269
    · have eo := hdrB_lt269 nl o1 o2
      by_cases n1 : dNew < 13
      · refine ⟨[UInt8.ofNat (13 * 16 + nl)], by simp [extBytes_of_lt269 o1 o2, extBytes_of_lt13 n1], ?_⟩
        have hm : dNew * 16 % 256 = dNew * 16 := by omega
        simp only [insPatch, o1, if_false, o2, n1, and_self, if_true, hm, hb0, hc1, eo,
          hdrB_lt13 nl n1, List.cons_append, List.nil_append, wr_1_1]
        rfl
      · have n2 : dNew < 269 := by omega
        refine ⟨[], by simp [extBytes_of_lt269 o1 o2, extBytes_of_lt269 n1 n2], ?_⟩
        simp only [insPatch, o1, if_false, o2, n1, n2, and_self, and_false, if_true, eo,
          hdrB_lt269 nl n1 n2, List.cons_append, List.nil_append, wr_1_1]
        rfl
    · have eo := hdrB_ge269 nl o2
      by_cases n1 : dNew < 13
      · refine ⟨[UInt8.ofNat (14 * 16 + nl), UInt8.ofNat ((dOld - 269) / 256)],
          by simp [extBytes_of_ge269 o2, extBytes_of_lt13 n1], ?_⟩
        have hm : dNew * 16 % 256 = dNew * 16 := by omega
        simp only [insPatch, o1, if_false, o2, false_and, n1, if_true, hm, hb0, hc1, eo,
          hdrB_lt13 nl n1, List.cons_append, List.nil_append, wr_2_1]
        rfl
      · by_cases n2 : dNew < 269
        · refine ⟨[UInt8.ofNat (14 * 16 + nl)], by simp [extBytes_of_ge269 o2, extBytes_of_lt269 n1 n2], ?_⟩
          simp only [insPatch, o1, if_false, o2, false_and, n1, n2, if_true, hb0, hc2, eo,
            hdrB_lt269 nl n1 n2, List.cons_append, List.nil_append, wr_1_2]
          rfl
        · refine ⟨[], by simp [extBytes_of_ge269 o2, extBytes_of_ge269 n2], ?_⟩
          simp only [insPatch, o1, if_false, o2, false_and, n1, n2, eo,
            hdrB_ge269 nl n2, List.cons_append, List.nil_append, wr_1_2]
          rfl

theorem len_two (J : Bytes) (h : J.length = 2) : ∃ j k, J = [j, k] := by
  rcases J with _ | ⟨j, _ | ⟨k, _ | ⟨l, r⟩⟩⟩
  · simp at h
  · simp at h
  · exact ⟨j, k, rfl⟩
  · simp at h

/-- the six next-header rewrite cases of `coap_remove_option` (+ the dead shuffle-up branch) -/
def remPatch (pdu : Pdu) (o n dn optDelta b0 : Nat) : R (Option (Bytes × Nat × Nat)) :=
  (if optDelta < 13 then do
    let b ← wr pdu.buf n [UInt8.ofNat (b0 % 16 + (optDelta * 16) % 256)]
    R.ok (some (b, n, 0))
  else if optDelta < 269 ∧ dn < 13 then do
    let b ← wr pdu.buf (n - 1) [UInt8.ofNat (b0 % 16 + 13 * 16), UInt8.ofNat (optDelta - 13)]
    R.ok (some (b, n - 1, 0))
  else if optDelta < 269 then do
    let b ← wr pdu.buf (n + 1) [UInt8.ofNat (optDelta - 13)]
    R.ok (some (b, n, 0))
  else if dn < 13 then
    if n - o < 2 then
      if ¬ checkResize pdu (pdu.buf.length + 1) then R.ok none else do
      let up := pdu.buf.take n ++ (UInt8.ofNat b0 :: pdu.buf.drop n)
      let b ← wr up (n + 1 - 2) [UInt8.ofNat (b0 % 16 + 14 * 16), UInt8.ofNat ((optDelta - 269) / 256),
                                 UInt8.ofNat ((optDelta - 269) % 256)]
      R.ok (some (b, n + 1 - 2, 1))
    else do
      let b ← wr pdu.buf (n - 2) [UInt8.ofNat (b0 % 16 + 14 * 16), UInt8.ofNat ((optDelta - 269) / 256),
                                  UInt8.ofNat ((optDelta - 269) % 256)]
      R.ok (some (b, n - 2, 0))
  else if dn < 269 then do
    let b ← wr pdu.buf (n - 1) [UInt8.ofNat (b0 % 16 + 14 * 16), UInt8.ofNat ((optDelta - 269) / 256),
                                UInt8.ofNat ((optDelta - 269) % 256)]
    R.ok (some (b, n - 1, 0))
  else do
    let b ← wr pdu.buf (n + 1) [UInt8.ofNat ((optDelta - 269) / 256), UInt8.ofNat ((optDelta - 269) % 256)]
    R.ok (some (b, n, 0)) : R (Option (Bytes × Nat × Nat)))

theorem removeOption_eq (pdu : Pdu) (number : Nat) :
    removeOption pdu number =
      match findEq number (items pdu) with
      | none => R.ok (0, pdu)
      | some (it, next) =>
        match next with
        | none =>
          R.ok (1, { pdu with buf := pdu.buf.take it.ofs ++ pdu.buf.drop (it.ofs + optEncodeSize it.p.delta it.p.length),
                              maxOpt := (pdu.maxOpt + 65536 - it.p.delta) % 65536,
                              data := pdu.data.map (· - (it.ofs + optEncodeSize it.p.delta it.p.length - it.ofs)) })
        | some nx =>
          rd pdu.buf nx.ofs >>= fun b0 =>
          remPatch pdu it.ofs nx.ofs nx.p.delta (it.p.delta + nx.p.delta) b0 >>= fun patched =>
          match patched with
          | none => R.ok (0, pdu)
          | some (buf1, n1, grown) =>
            if n1 < it.ofs then R.oob else
            R.ok (1, { pdu with buf := buf1.take it.ofs ++ buf1.drop n1,
                                data := pdu.data.map (· + grown - (n1 - it.ofs)) }) := by
  rfl

/-- `J` = the bytes the grown header overwrites; `ho` (the removed option starts in front of them) is what keeps M out of
its shuffle-up arm -/
theorem remPatch_spec (pdu : Pdu) (P J T : Bytes) (o dn dNew nl b0 : Nat)
    (hbuf : pdu.buf = P ++ (J ++ (hdrB dn nl ++ T))) (hb0 : b0 % 16 = nl)
    (hJ : J.length = (Spec.extBytes dNew).length - (Spec.extBytes dn).length) (hle : dn ≤ dNew) (ho : o ≤ P.length) :
    remPatch pdu o (P.length + J.length) dn dNew b0 = R.ok (some (P ++ (hdrB dNew nl ++ T), P.length, 0)) := by
  have hc1 : nl + dNew * 16 = dNew * 16 + nl := Nat.add_comm _ _
  have hc2 : nl + 13 * 16 = 13 * 16 + nl := Nat.add_comm _ _
  have hc3 : nl + 14 * 16 = 14 * 16 + nl := Nat.add_comm _ _
  by_cases n1 : dNew < 13
  · have o1 : dn < 13 := by omega
    have hm : dNew * 16 % 256 = dNew * 16 := by omega
    have : J = [] := List.eq_nil_of_length_eq_zero (by rw [hJ]; simp [extBytes_of_lt13 o1, extBytes_of_lt13 n1])
    subst this
    simp only [remPatch, hbuf, n1, if_true, hm, hb0, hc1, hdrB_lt13 nl o1, hdrB_lt13 nl n1, List.cons_append, List.nil_append,
      List.length_nil, Nat.add_zero, wr_0_1]
    rfl
  · by_cases n2 : dNew < 269
    · by_cases o1 : dn < 13
      · obtain ⟨j, rfl⟩ : ∃ j, J = [j] :=
          List.length_eq_one_iff.mp (by rw [hJ]; simp [extBytes_of_lt13 o1, extBytes_of_lt269 n1 n2])
        simp only [remPatch, hbuf, n1, n2, o1, and_self, if_false, if_true, hb0, hc2, hdrB_lt13 nl o1, hdrB_lt269 nl n1 n2,
          List.cons_append, List.nil_append, List.length_cons, List.length_nil, Nat.zero_add, Nat.add_sub_cancel, wr_0_2]
        rfl
      · have o2 : dn < 269 := by omega
        have : J = [] := List.eq_nil_of_length_eq_zero (by rw [hJ]; simp [extBytes_of_lt269 o1 o2, extBytes_of_lt269 n1 n2])
        subst this
        simp only [remPatch, hbuf, n1, n2, o1, and_false, if_false, if_true, hdrB_lt269 nl o1 o2, hdrB_lt269 nl n1 n2,
          List.cons_append, List.nil_append, List.length_nil, Nat.add_zero, wr_1_1]
        rfl
    · by_cases o1 : dn < 13
      · obtain ⟨j, k, rfl⟩ : ∃ j k, J = [j, k] :=
          len_two J (by rw [hJ]; simp [extBytes_of_lt13 o1, extBytes_of_ge269 n2])
        have hno : ¬ (P.length + 2 - o < 2) := by omega
        simp only [remPatch, hbuf, n1, n2, o1, false_and, if_false, if_true, hb0, hc3, hdrB_lt13 nl o1, hdrB_ge269 nl n2,
          List.cons_append, List.nil_append, List.length_cons, List.length_nil, Nat.zero_add, hno, Nat.add_sub_cancel, wr_0_3]
        rfl
      · by_cases o2 : dn < 269
        · obtain ⟨j, rfl⟩ : ∃ j, J = [j] :=
            List.length_eq_one_iff.mp (by rw [hJ]; simp [extBytes_of_lt269 o1 o2, extBytes_of_ge269 n2])
          simp only [remPatch, hbuf, n1, n2, o1, o2, false_and, if_false, if_true, hb0, hc3, hdrB_lt269 nl o1 o2, hdrB_ge269 nl n2,
            List.cons_append, List.nil_append, List.length_cons, List.length_nil, Nat.zero_add, Nat.add_sub_cancel, wr_0_3]
          rfl
        · have : J = [] := List.eq_nil_of_length_eq_zero (by rw [hJ]; simp [extBytes_of_ge269 o2, extBytes_of_ge269 n2])
          subst this
          simp only [remPatch, hbuf, n1, n2, o1, o2, false_and, if_false, hdrB_ge269 nl o2, hdrB_ge269 nl n2,
            List.cons_append, List.nil_append, List.length_nil, Nat.add_zero, wr_1_2]
          rfl

end Coap
