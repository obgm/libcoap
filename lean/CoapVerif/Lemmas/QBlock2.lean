import CoapVerif.Lemmas.QBlock
/- Lemmas about the payload-set arithmetic of the Q-Block model (Model/QBlock.lean): the recovery request of
   `coap_request_missing_q_block2`, the burst of `coap_send_q_blocks`, the client's Q-Block2 bookkeeping invariant. -/
namespace Coap.QBlock
open Coap Coap.Block Coap.Spec.Block

theorem pairwise_window : ∀ (l : List Nat) (a k : Nat), l.Pairwise (· < ·) → (∀ x, x ∈ l → a ≤ x ∧ x < a + k) → l.length ≤ k
  | [], _, _, _, _ => by simp
  | h :: t, a, k, hp, hw => by
    rw [List.pairwise_cons] at hp
    have hh := hw h (by simp)
    have := pairwise_window t (h + 1) (a + k - h - 1) hp.2 (fun x hx => by
      have h1 := hp.1 x hx
      have h2 := hw x (by simp [hx])
      omega)
    simp only [List.length_cons]
    omega

theorem pairwise_one_set (mp s : Nat) (hmp : 0 < mp) (l : List Nat) (hp : l.Pairwise (· < ·)) (hs : ∀ x, x ∈ l → x / mp = s) :
    l.length ≤ mp := by
  apply pairwise_window l (mp * s) mp hp
  intro x hx
  have h1 := Nat.div_add_mod x mp
  have h2 := Nat.mod_lt x hmp
  rw [hs x hx] at h1
  omega

theorem nxt_bumpTo (block : Option Nat) (e : Nat) : nxt block ≤ nxt (bumpTo block e) := by
  cases block with
  | none => exact Nat.zero_le _
  | some k =>
    by_cases h : k < e
    · simp [nxt, bumpTo, h]; omega
    · simp [nxt, bumpTo, h]

/-- the invariant of the two loops of `coap_request_missing_q_block2` over the numbers listed so far: strictly increasing, each
below `nb` (the next number the walk looks at: `nxt block` between two ranges) and with the property `Q` the caller wants of a
listed number (`reqMissingQ2At_spec`: below a recorded begin, or offset inside the body); each belongs to the payload set `bps`,
so nothing is listed before the set is fixed -/
def ReqAcc (mp : Nat) (Q : Nat → Prop) (nb : Nat) (bps : Option Nat) (acc : List Nat) : Prop :=
  acc.Pairwise (· < ·) ∧ (∀ x, x ∈ acc → x < nb ∧ Q x) ∧ ∀ x, x ∈ acc → bps = some (x / mp)

theorem ReqAcc_mono (mp : Nat) (Q : Nat → Prop) {nb nb' : Nat} {bps : Option Nat} {acc : List Nat}
    (hb : nb ≤ nb') (h : ReqAcc mp Q nb bps acc) : ReqAcc mp Q nb' bps acc :=
  ⟨h.1, fun x hx => ⟨Nat.lt_of_lt_of_le (h.2.1 x hx).1 hb, (h.2.1 x hx).2⟩, h.2.2⟩

/-- `if (block_payload_set == -1) block_payload_set = block / MAX_PAYLOADS`: whatever is listed is of that set already -/
theorem ReqAcc_set (mp : Nat) (Q : Nat → Prop) {nb : Nat} {bps : Option Nat} {acc : List Nat} (b : Nat)
    (h : ReqAcc mp Q nb bps acc) : ReqAcc mp Q nb (some (setBps mp bps b)) acc := by
  refine ⟨h.1, h.2.1, fun x hx => ?_⟩
  have := h.2.2 x hx
  subst this
  rfl

theorem reqRun_acc (mp : Nat) (Q : Nat → Prop) (s lim : Nat) (hq : ∀ x, x < lim → Q x) : ∀ (fuel block : Nat) (acc : List Nat),
    ReqAcc mp Q block (some s) acc →
    ReqAcc mp Q (reqRun mp s lim fuel block acc).1 (some s) (reqRun mp s lim fuel block acc).2
  | 0, _, _, h => h
  | f + 1, block, acc, h => by
    unfold reqRun
    by_cases hc : block < lim ∧ block / mp = s
    · rw [if_pos hc]
      refine reqRun_acc mp Q s lim hq f (block + 1) _ ⟨?_, fun x hx => ?_, fun x hx => ?_⟩
      · exact List.pairwise_append.mpr ⟨h.1, List.pairwise_singleton _ _, fun a ha x hx => by
          rw [List.mem_singleton.mp hx]; exact (h.2.1 a ha).1⟩
      · rcases List.mem_append.mp hx with hx | hx
        · exact ⟨Nat.lt_succ_of_lt (h.2.1 x hx).1, (h.2.1 x hx).2⟩
        · rw [List.mem_singleton.mp hx]; exact ⟨Nat.lt_succ_self _, hq _ hc.1⟩
      · rcases List.mem_append.mp hx with hx | hx
        · exact h.2.2 x hx
        · rw [List.mem_singleton.mp hx, hc.2]
    · rw [if_neg hc]; exact h

theorem reqGaps_spec (mp : Nat) (Q : Nat → Prop) : ∀ (rs : Ranges) (block bps : Option Nat) (acc : List Nat),
    (∀ r, r ∈ rs → ∀ x, x < r.1 → Q x) → ReqAcc mp Q (nxt block) bps acc →
    ReqAcc mp Q (nxt (reqGaps mp rs block bps acc).1) (reqGaps mp rs block bps acc).2.1 (reqGaps mp rs block bps acc).2.2
  | [], _, _, _, _, h => by simpa [reqGaps] using h
  | (b, e) :: rest, block, bps, acc, hq, h => by
    unfold reqGaps
    by_cases hc : nxt block ≤ b ∧ b ≠ 0
    · rw [if_pos hc]
      exact reqGaps_spec mp Q rest _ _ _ (fun r hr => hq r (by simp [hr]))
        (ReqAcc_mono mp Q (Nat.le_trans (Nat.le_succ _) (nxt_bumpTo (some _) e))
          (reqRun_acc mp Q _ b (hq (b, e) (by simp)) _ _ _ (ReqAcc_set mp Q _ h)))
    · rw [if_neg hc]
      exact reqGaps_spec mp Q rest _ _ _ (fun r hr => hq r (by simp [hr]))
        (ReqAcc_mono mp Q (nxt_bumpTo block e) h)

/-- what ONE recovery request may name: strictly increasing numbers (no duplicates), at most MAX_PAYLOADS of them (unless that
is 0: every number is of payload set 0 then), each below the begin of a recorded range or with its offset inside `totalLen`,
M ≤ 1; and when any is named, `out.2` (the new `processing_payload_set`) is the ONE payload set they all belong to -/
def ReqOk (mp : Nat) (rs : Ranges) (szx totalLen : Nat) (out : List (Nat × Nat) × Option Nat) : Prop :=
  (out.1.map Prod.fst).Pairwise (· < ·) ∧ (0 < mp → out.1.length ≤ mp) ∧
  (∀ q, q ∈ out.1 → ((∃ r, r ∈ rs ∧ q.1 < r.1) ∨ q.1 * 2 ^ (szx + 4) < totalLen) ∧ q.2 ≤ 1) ∧
  (out.1 ≠ [] → ∃ s, out.2 = some s ∧ ∀ q, q ∈ out.1 → q.1 / mp = s)

theorem ReqOk.below_or_inside {mp : Nat} {rs : Ranges} {szx totalLen : Nat} {out : List (Nat × Nat) × Option Nat}
    (h : ReqOk mp rs szx totalLen out) {q : Nat × Nat} (hq : q ∈ out.1) :
    (∃ r, r ∈ rs ∧ q.1 < r.1) ∨ q.1 * 2 ^ (szx + 4) < totalLen :=
  (h.2.2.1 q hq).1

/-- `coap_request_missing_q_block2` behind the clamp, for EVERY `rec_blocks` (no well-formedness), block size, total length,
with or without the `M` variant; at most MAX_PAYLOADS because the numbers increase inside ONE payload set -/
theorem reqMissingQ2At_spec (mp : Nat) (useM : Bool) (rs : Ranges) (szx totalLen : Nat) :
    ReqOk mp rs szx totalLen (reqMissingQ2At mp useM rs szx totalLen) := by
  let Q : Nat → Prop := fun x => (∃ r, r ∈ rs ∧ x < r.1) ∨ x * 2 ^ (szx + 4) < totalLen
  have hg := reqGaps_spec mp Q rs none none [] (fun r hr x hx => Or.inl ⟨r, hr, hx⟩)
    ⟨List.Pairwise.nil, by simp, by simp⟩
  -- a list of plain numbers with the invariant gives the four claims
  have fin : ∀ (nb : Nat) (s : Option Nat) (l : List Nat), ReqAcc mp Q nb s l →
      ReqOk mp rs szx totalLen (l.map (fun n => (n, 0)), s) := by
    intro nb s l ⟨hp, hq, hs⟩
    have hmap : (l.map (fun n => ((n, 0) : Nat × Nat))).map Prod.fst = l := by simp [List.map_map, Function.comp_def]
    have hset : ∀ a, a ∈ l → ∀ x, x ∈ l → x / mp = a / mp := fun a ha x hx =>
      Option.some.inj ((hs x hx).symm.trans (hs a ha))
    refine ⟨by show ((l.map (fun n => ((n, 0) : Nat × Nat))).map Prod.fst).Pairwise _; rw [hmap]; exact hp, ?_, ?_, ?_⟩
    · intro hmp
      show (l.map _).length ≤ mp
      rw [List.length_map]
      cases l with
      | nil => exact Nat.zero_le _
      | cons a t => exact pairwise_one_set mp (a / mp) hmp _ hp (hset a (by simp))
    · intro q hq'
      obtain ⟨n, hn', rfl⟩ := List.mem_map.mp hq'
      exact ⟨(hq n hn').2, by simp⟩
    · intro hne
      cases l with
      | nil => exact absurd rfl hne
      | cons a t =>
        refine ⟨a / mp, hs a (by simp), fun q hq' => ?_⟩
        obtain ⟨n, hn', rfl⟩ := List.mem_map.mp hq'
        exact hset a (by simp) n hn'
  unfold reqMissingQ2At
  simp only []
  split
  · -- the M variant: one option, offset inside the body
    rename_i blk hblk
    have hin : blk * 2 ^ (szx + 4) < totalLen := by
      split at hblk
      · rename_i b0 _
        by_cases hb : b0 * 2 ^ (szx + 4) < totalLen
        · rw [if_pos hb] at hblk; injection hblk with hblk; rw [← hblk]; exact hb
        · rw [if_neg hb] at hblk; cases hblk
      · cases hblk
    refine ⟨by simp, fun (hmp : 1 ≤ mp) => hmp, ?_, ?_⟩
    · intro q hq
      simp at hq
      subst hq
      exact ⟨Or.inr hin, by simp⟩
    · intro _
      exact ⟨blk / mp, rfl, by intro q hq; simp at hq; subst hq; rfl⟩
  · by_cases ht : nxt (reqGaps mp rs none none []).1 * 2 ^ (szx + 4) < totalLen
    · rw [if_pos ht]
      exact fin _ _ _ (reqRun_acc mp Q _ _ (fun x hx => Or.inr ((lt_nBlocks_iff totalLen szx x).mp hx)) _ _ _ (ReqAcc_set mp Q _ hg))
    · rw [if_neg ht]
      exact fin _ _ _ hg

theorem q2ClampLen_le (szx totalLen : Nat) :
    q2ClampLen szx totalLen ≤ totalLen ∧ q2ClampLen szx totalLen ≤ 2 ^ 20 * 2 ^ (szx + 4) := by
  unfold q2ClampLen
  generalize 2 ^ 20 * 2 ^ (szx + 4) = c
  split <;> omega

theorem ReqOk_mono (mp : Nat) (rs : Ranges) (szx a b : Nat) (out : List (Nat × Nat) × Option Nat) (hab : a ≤ b)
    (h : ReqOk mp rs szx a out) : ReqOk mp rs szx b out := by
  refine ⟨h.1, h.2.1, fun q hq => ?_, h.2.2.2⟩
  have := h.2.2.1 q hq
  refine ⟨?_, this.2⟩
  rcases this.1 with hl | hl
  · exact Or.inl hl
  · exact Or.inr (Nat.lt_of_lt_of_le hl hab)

theorem reqMissingQ2_clamped (mp : Nat) (useM : Bool) (rs : Ranges) (szx totalLen : Nat) :
    ReqOk mp rs szx (q2ClampLen szx totalLen) (reqMissingQ2 mp useM rs szx totalLen) :=
  reqMissingQ2At_spec mp useM rs szx (q2ClampLen szx totalLen)

theorem reqMissingQ2_spec (mp : Nat) (useM : Bool) (rs : Ranges) (szx totalLen : Nat) :
    ReqOk mp rs szx totalLen (reqMissingQ2 mp useM rs szx totalLen) :=
  ReqOk_mono mp rs szx _ _ _ (q2ClampLen_le szx totalLen).1 (reqMissingQ2_clamped mp useM rs szx totalLen)

theorem reqMissingQ2_20bit (mp : Nat) (useM : Bool) (rs : Ranges) (szx totalLen : Nat) :
    ∀ q, q ∈ (reqMissingQ2 mp useM rs szx totalLen).1 → (∃ r, r ∈ rs ∧ q.1 < r.1) ∨ q.1 < 2 ^ 20 := by
  intro q hq
  rcases (reqMissingQ2_clamped mp useM rs szx totalLen).below_or_inside hq with hl | hl
  · exact Or.inl hl
  · refine Or.inr ?_
    have h2 := (q2ClampLen_le szx totalLen).2
    exact Nat.lt_of_mul_lt_mul_right (Nat.lt_of_lt_of_le hl h2)

theorem same_set_succ (n mp : Nat) (hmp : 0 < mp) (h : n % mp + 1 ≠ mp) : (n + 1) / mp = n / mp := by
  have h1 := Nat.div_add_mod n mp
  have h2 := Nat.mod_lt n hmp
  apply Nat.div_eq_of_lt_le
  · rw [Nat.mul_comm]; omega
  · rw [Nat.add_mul, Nat.mul_comm]; omega

theorem sendQLoop_spec (mp len szx : Nat) (hmp : 0 < mp) : ∀ (fuel num : Nat) (acc : List (Nat × Nat)),
    ∃ l, sendQLoop mp len szx fuel num acc = acc ++ l ∧ (l.map Prod.fst).Pairwise (· < ·) ∧
      ∀ x, x ∈ l → num < x.1 ∧ blockOffset x.1 szx < len ∧ x.2 = moreBit len x.1 szx ∧ x.1 / mp = (num + 1) / mp
  | 0, num, acc => ⟨[], by simp [sendQLoop]⟩
  | f + 1, num, acc => by
    unfold sendQLoop
    simp only []
    by_cases h1 : len ≤ blockOffset (num + 1) szx
    · rw [if_pos h1]; exact ⟨[], by simp⟩
    · rw [if_neg h1]
      by_cases h2 : moreBit len (num + 1) szx = 1 ∧ (num + 1) % mp + 1 ≠ mp
      · rw [if_pos h2]
        obtain ⟨l, e1, e2, e3⟩ := sendQLoop_spec mp len szx hmp f (num + 1) (acc ++ [(num + 1, 1)])
        refine ⟨(num + 1, 1) :: l, by rw [e1]; simp, ?_, ?_⟩
        · rw [List.map_cons, List.pairwise_cons]
          refine ⟨?_, e2⟩
          intro a ha
          obtain ⟨x, hx, rfl⟩ := List.mem_map.mp ha
          exact (e3 x hx).1
        · intro x hx
          rcases List.mem_cons.mp hx with rfl | hx
          · exact ⟨by simp, by simp; omega, by simp [h2.1], rfl⟩
          · have := e3 x hx
            exact ⟨by omega, this.2.1, this.2.2.1, by rw [this.2.2.2]; exact same_set_succ (num + 1) mp hmp h2.2⟩
      · rw [if_neg h2]
        refine ⟨[(num + 1, moreBit len (num + 1) szx)], rfl, by simp, ?_⟩
        intro x hx
        simp at hx
        subst hx
        exact ⟨by simp, by simp; omega, rfl, rfl⟩

theorem firstEnd_covered (rs : Ranges) (lo : Nat) (hw : WfFrom lo rs) (hne : rs ≠ []) : Covers rs (firstEnd rs) := by
  cases rs with
  | nil => exact absurd rfl hne
  | cons r rest =>
    obtain ⟨b, e⟩ := r
    rw [covers_cons]
    exact Or.inl ⟨hw.2.1, Nat.le_refl _⟩

/-- the bookkeeping invariant: `rec_blocks` is sorted / disjoint / non-adjacent / within its capacity, and every recorded
block is a 20-bit number whose offset (in the block size the transfer is tracked in) lies inside `total_len` -/
def Q2Inv (cap : Nat) (st : Q2State) : Prop :=
  WfFrom 0 st.rs ∧ st.rs.length ≤ cap - 1 ∧ ∀ k, Covers st.rs k → k < 2 ^ 20 ∧ k * 2 ^ (st.szx + 4) < st.totalLen

theorem q2Reinit_inv (cap : Nat) (st : Q2State) (i : Q2In) (size2 : Nat) : Q2Inv cap (q2Reinit st i size2) := by
  refine ⟨by simp [q2Reinit, WfFrom], by simp [q2Reinit], ?_⟩
  intro k hk
  simp [q2Reinit, Covers] at hk

theorem q2Pre_inv (cap : Nat) (st : Q2State) (i : Q2In) (size2 : Nat) (h : Q2Inv cap st) :
    Q2Inv cap (q2Pre st i size2).1 ∧
    ((q2Pre st i size2).2 = false → (q2Pre st i size2).1.szx = i.szx ∧ (q2Pre st i size2).1.totalLen = size2) := by
  have h1 : Q2Inv cap (q2Init st i size2) := by
    unfold q2Init
    by_cases hi : st.initial = true
    · rw [if_pos hi]; exact q2Reinit_inv cap st i size2
    · rw [if_neg hi]; exact h
  have h2 : ∀ st1, Q2Inv cap st1 → Q2Inv cap (q2Bump st1 size2) := by
    intro st1 h1
    unfold q2Bump
    by_cases hi : st1.totalLen < size2
    · rw [if_pos hi]
      refine ⟨h1.1, h1.2.1, fun k hk => ?_⟩
      have := h1.2.2 k hk
      refine ⟨this.1, ?_⟩
      show k * 2 ^ (st1.szx + 4) < size2
      omega
    · rw [if_neg hi]; exact h1
  have h3 : ∀ st2, Q2Inv cap st2 → Q2Inv cap (q2Etag st2 i size2) := by
    intro st2 h2
    unfold q2Etag
    by_cases hi : etagDiffers st2 i.etag = true
    · rw [if_pos hi]; exact q2Reinit_inv cap st2 i size2
    · rw [if_neg hi]; exact h2
  refine ⟨h3 _ (h2 _ h1), ?_⟩
  show q2Fails (q2Etag (q2Bump (q2Init st i size2) size2) i size2) i size2 = false →
    (q2Etag (q2Bump (q2Init st i size2) size2) i size2).szx = i.szx ∧
    (q2Etag (q2Bump (q2Init st i size2) size2) i size2).totalLen = size2
  generalize q2Etag (q2Bump (q2Init st i size2) size2) i size2 = st3
  unfold q2Fails
  intro hf
  by_cases c1 : i.etag.isNone ∧ st3.etagSet
  · rw [if_pos c1] at hf; cases hf
  · rw [if_neg c1] at hf
    by_cases c2 : i.fmt ≠ st3.fmt
    · rw [if_pos c2] at hf; cases hf
    · rw [if_neg c2] at hf
      by_cases c3 : i.szx ≠ st3.szx
      · rw [if_pos c3] at hf; cases hf
      · rw [if_neg c3] at hf
        by_cases c4 : size2 ≠ st3.totalLen
        · rw [if_pos c4] at hf; cases hf
        · exact ⟨by simp at c3; exact c3.symm, by simp at c4; exact c4.symm⟩

theorem q2Asked_same (mp : Nat) (useM : Bool) (st : Q2State) (num : Nat) :
    (q2Asked mp useM st num).1.rs = st.rs ∧ (q2Asked mp useM st num).1.szx = st.szx ∧
      (q2Asked mp useM st num).1.totalLen = st.totalLen := by
  unfold q2Asked
  simp only []
  split <;> exact ⟨rfl, rfl, rfl⟩

theorem q2Record_inv (cap mp : Nat) (useM : Bool) (st : Q2State) (num : Nat) (h : Q2Inv cap st) (hn : num < 2 ^ 20)
    (ho : num * 2 ^ (st.szx + 4) < st.totalLen) :
    Q2Inv cap (q2Record cap mp useM st num).1 ∧ (q2Record cap mp useM st num).1.szx = st.szx ∧
      (q2Record cap mp useM st num).1.totalLen = st.totalLen := by
  unfold q2Record
  obtain ⟨a1, a2, a3⟩ := q2Asked_same mp useM st num
  have ha : Q2Inv cap (q2Asked mp useM st num).1 := by
    unfold Q2Inv; rw [a1, a2, a3]; exact h
  by_cases hc : checkIfReceived st.rs num = true
  · rw [if_pos hc]; exact ⟨h, rfl, rfl⟩
  · rw [if_neg hc]
    simp only []
    have hu := updateReceived_spec cap st.rs num h.1 h.2.1
    rw [a1]
    by_cases hu1 : (updateReceived cap st.rs num).1 = true
    · rw [if_pos hu1]
      refine ⟨⟨(hu.2 hu1).1, (hu.2 hu1).2.1, ?_⟩, a2, a3⟩
      intro k hk
      show k < 2 ^ 20 ∧ k * 2 ^ ((q2Asked mp useM st num).1.szx + 4) < (q2Asked mp useM st num).1.totalLen
      rw [a2, a3]
      rcases ((hu.2 hu1).2.2 k).mp hk with hk | rfl
      · exact h.2.2 k hk
      · exact ⟨hn, ho⟩
    · rw [if_neg hu1]
      exact ⟨ha, a2, a3⟩

/-- every branch of `q2Decide` returns `st` with `initial` or `processing` changed: the projections go through the `if`s -/
theorem q2Decide_same (mp : Nat) (useM isNon : Bool) (st : Q2State) (m : Nat) :
    (q2Decide mp useM isNon st m).1.rs = st.rs ∧ (q2Decide mp useM isNon st m).1.szx = st.szx ∧
      (q2Decide mp useM isNon st m).1.totalLen = st.totalLen := by
  unfold q2Decide
  simp only [apply_ite Prod.fst, apply_ite Q2State.rs, apply_ite Q2State.szx, apply_ite Q2State.totalLen, ite_self,
    and_self]

/-- behind the two length tests of `q2Step` the block's offset lies inside the Size2 it goes on with -/
theorem q2Step_offset (i : Q2In) (c0 : i.m = 1 ∨ i.length ≠ 0)
    (c1 : ¬ (i.m = 1 ∧ (if i.length > 2 ^ (i.szx + 4) then 2 ^ (i.szx + 4) else i.length) ≠ 2 ^ (i.szx + 4))) :
    i.num * 2 ^ (i.szx + 4) <
      q2Size2 i (if i.length > 2 ^ (i.szx + 4) then 2 ^ (i.szx + 4) else i.length) := by
  have hch : 0 < 2 ^ (i.szx + 4) := Nat.two_pow_pos _
  generalize hlen : (if i.length > 2 ^ (i.szx + 4) then 2 ^ (i.szx + 4) else i.length) = length at c1 ⊢
  have hpos : 0 < length := by
    by_cases hm : i.m = 1
    · have : length = 2 ^ (i.szx + 4) := Classical.not_not.mp fun hl => c1 ⟨hm, hl⟩
      omega
    · have hl0 : i.length ≠ 0 := c0.resolve_left hm
      rw [← hlen]
      split <;> omega
  unfold q2Size2
  simp only []
  split
  · split <;> omega
  · omega

def Reqs20 (l : List (List (Nat × Nat))) : Prop := ∀ rq, rq ∈ l → ∀ q, q ∈ rq → q.1 < 2 ^ 20

theorem reqs20_nil : Reqs20 [] := fun _ hrq => nomatch hrq

/-- in a state with the invariant a recovery request names only 20-bit numbers with their offset inside `total_len`: a number below
a recorded begin is below a recorded block, the others lie inside the length `coap_request_missing_q_block2` limits itself to -/
theorem inv_req_inside (cap mp : Nat) (useM : Bool) (st : Q2State) (h : Q2Inv cap st) :
    ∀ q, q ∈ (reqMissingQ2 mp useM st.rs st.szx st.totalLen).1 →
      q.1 * 2 ^ (st.szx + 4) < st.totalLen ∧ q.1 < 2 ^ 20 := by
  intro q hq
  have hc := q2ClampLen_le st.szx st.totalLen
  rcases (reqMissingQ2_clamped mp useM st.rs st.szx st.totalLen).below_or_inside hq with ⟨r, hr, hlt⟩ | hl
  · -- below a recorded begin, which is recorded itself
    have hb := h.2.2 r.1 ⟨r, hr, Nat.le_refl _, (WfFrom_mem st.rs 0 r h.1 hr).1⟩
    have : q.1 * 2 ^ (st.szx + 4) ≤ r.1 * 2 ^ (st.szx + 4) := Nat.mul_le_mul_right _ (Nat.le_of_lt hlt)
    omega
  · exact ⟨Nat.lt_of_lt_of_le hl hc.1, Nat.lt_of_mul_lt_mul_right (Nat.lt_of_lt_of_le hl hc.2)⟩

theorem reqs20_opt (l : List (Nat × Nat)) (h : ∀ q, q ∈ l → q.1 < 2 ^ 20) : Reqs20 (if l ≠ [] then [l] else []) := by
  intro rq hrq
  split at hrq
  · simp at hrq; subst hrq; exact h
  · cases hrq

theorem q2Asked_req (cap mp : Nat) (useM : Bool) (st : Q2State) (num : Nat) (h : Q2Inv cap st) :
    Reqs20 (q2Asked mp useM st num).2 := by
  unfold q2Asked
  simp only []
  split
  · exact reqs20_opt _ fun q hq => (inv_req_inside cap mp useM st h q hq).2
  · exact reqs20_nil

theorem q2Record_req (cap mp : Nat) (useM : Bool) (st : Q2State) (num : Nat) (h : Q2Inv cap st) :
    Reqs20 (q2Record cap mp useM st num).2.1 := by
  unfold q2Record
  split
  · exact reqs20_nil
  · simp only []
    split <;> exact q2Asked_req cap mp useM st num h

theorem q2Decide_req (cap mp : Nat) (useM isNon : Bool) (st : Q2State) (m : Nat) (h : Q2Inv cap st) :
    Reqs20 (q2Decide mp useM isNon st m).2.1 := by
  unfold q2Decide
  simp only [apply_ite Prod.snd, apply_ite Prod.fst]
  refine ite_ind (fun _ => ?_) fun _ => ite_ind (fun _ => reqs20_nil) fun _ => reqs20_nil
  refine ite_ind (fun _ => reqs20_nil) fun _ => ite_ind (fun _ => ?_) fun _ => reqs20_nil
  refine ite_ind (fun _ => ?_) fun _ => ite_ind (fun _ => reqs20_nil) fun _ => ite_ind (fun _ => reqs20_nil) fun hlt => ?_
  · exact reqs20_opt _ fun q hq => (inv_req_inside cap mp useM { st with processing := firstEnd st.rs / mp + 1 } h q hq).2
  · -- the `continue` request: NUM + 1 behind a NUM below 0xFFFFF
    intro rq hrq q hq
    simp at hrq; subst hrq
    simp at hq; subst hq
    show firstEnd st.rs + 1 < 2 ^ 20
    omega

/-- the one walk through `q2Step` up to `q2Decide`: where it returns early the state is `st`, `q2Pre`'s or `q2Record`'s and
the requests are none or `q2Record`'s; behind `q2Decide` only `initial` / `processing` have changed and its requests are added -/
theorem q2Step_spec (cap mp : Nat) (useM isNon : Bool) (st : Q2State) (i : Q2In) (hn : i.num < 2 ^ 20) (h : Q2Inv cap st) :
    Q2Inv cap (q2Step cap mp useM isNon st i).1 ∧ Reqs20 (q2Step cap mp useM isNon st i).2.1 := by
  let P : Q2State × List (List (Nat × Nat)) × Q2End → Prop := fun r => Q2Inv cap r.1 ∧ Reqs20 r.2.1
  show P _
  unfold q2Step
  simp only []
  refine ite_ind (fun _ => ⟨h, reqs20_nil⟩) fun c0 => ?_
  refine ite_ind (fun _ => ⟨h, reqs20_nil⟩) fun c1 => ?_
  obtain ⟨p1, p2⟩ := q2Pre_inv cap st i (q2Size2 i (if i.length > 2 ^ (i.szx + 4) then 2 ^ (i.szx + 4) else i.length)) h
  refine ite_ind (fun _ => ⟨p1, reqs20_nil⟩) fun c2 => ?_
  have hp := p2 (by simpa using c2)
  obtain ⟨r1, _, _⟩ := q2Record_inv cap mp useM _ i.num p1 hn
    (by rw [hp.1, hp.2]; exact q2Step_offset i (Classical.not_not.mp c0) c1)
  have rq1 := q2Record_req cap mp useM _ i.num p1
  refine ite_ind (fun _ => ⟨r1, rq1⟩) fun _ => ite_ind (fun _ => ⟨r1, rq1⟩) fun _ => ?_
  obtain ⟨d1, d2, d3⟩ := q2Decide_same mp useM isNon
    (q2Record cap mp useM (q2Pre st i (q2Size2 i (if i.length > 2 ^ (i.szx + 4) then 2 ^ (i.szx + 4) else i.length))).1 i.num).1 i.m
  refine ⟨by show Q2Inv cap (q2Decide mp useM isNon _ i.m).1; unfold Q2Inv; rw [d1, d2, d3]; exact r1, fun rq hrq => ?_⟩
  rcases List.mem_append.mp hrq with hrq | hrq
  · exact rq1 rq hrq
  · exact q2Decide_req cap mp useM isNon _ i.m r1 rq hrq

theorem q2Step_req (cap mp : Nat) (useM isNon : Bool) (st : Q2State) (i : Q2In) (hn : i.num < 2 ^ 20)
    (h : Q2Inv cap st) : Reqs20 (q2Step cap mp useM isNon st i).2.1 :=
  (q2Step_spec cap mp useM isNon st i hn h).2

end Coap.QBlock
