import CoapVerif.Model.PskSelect
import CoapVerif.Spec.TlsCreds
/- C19 helper lemmas: the SNI cache of the server context only ever holds what the application's callback answers (`CacheOk`), so
ONE handshake from any such cache hands the TLS library the key S names (`handshakeKey_spec`); `runHist_cacheOk` for any history. -/
namespace Coap.PskSelect
open Coap

/-- the server half of a credential configuration of S, as libcoap's coap_dtls_spsk_t -/
def toSrv (cfg : TlsCreds.Cfg) : SrvCfg := { defKey := cfg.sk, defHint := cfg.sh, idTab := cfg.st, sniTab := cfg.ss }

theorem lookup2_eq (k : String) (t : List (String × String)) : lookup2 k t = TlsCreds.lookup2 k t := by
  induction t with
  | nil => rfl
  | cons a t ih => obtain ⟨x, y⟩ := a; simp [lookup2, TlsCreds.lookup2, ih]

theorem lookup3_eq (k : String) (t : List (String × String × String)) : lookup3 k t = TlsCreds.lookup3 k t := by
  induction t with
  | nil => rfl
  | cons a t ih => obtain ⟨x, y, z⟩ := a; simp [lookup3, TlsCreds.lookup3, ih]

/-- every cached entry is what the callback answers for its name -/
def CacheOk (tab : List (String × String × String)) (cache : Cache) : Prop :=
  ∀ e ∈ cache, lookup3 e.name tab = some (e.hint, e.key)

theorem sniIndex_le (name : String) (c : Cache) : sniIndex name c ≤ c.length := by
  induction c with
  | nil => simp [sniIndex]
  | cons e t ih => unfold sniIndex; split <;> simp <;> omega

theorem sniIndex_get (name : String) (c : Cache) (h : sniIndex name c ≠ c.length) :
    ∃ e, c[sniIndex name c]? = some e ∧ e.name = name ∧ e ∈ c := by
  induction c with
  | nil => simp [sniIndex] at h
  | cons e t ih =>
    unfold sniIndex at h ⊢
    by_cases he : e.name = name
    · simp only [he, if_true]
      exact ⟨e, by simp, he, by simp⟩
    · simp only [he, if_false] at h ⊢
      have h' : sniIndex name t ≠ t.length := by simpa using h
      obtain ⟨x, hx, hn, hm⟩ := ih h'
      exact ⟨x, by simpa using hx, hn, by simp [hm]⟩

/-- post_client_hello_gnutls_psk with an SNI callback: the cache stays consistent, and the session gets exactly the key
and hint the callback answers for that name — whether the name was cached or not -/
theorem postClientHello_spec (cfg : SrvCfg) (tab : List (String × String × String)) (hs : cfg.sniTab = some tab)
    (cache : Cache) (hok : CacheOk tab cache) (sp : SessPsk) (name : String) :
    CacheOk tab (postClientHello cfg cache sp name).1 ∧
      (match lookup3 name tab with
       | none => (postClientHello cfg cache sp name).2.2 = false
       | some (h, k) => (postClientHello cfg cache sp name).2.2 = true ∧
                        (postClientHello cfg cache sp name).2.1 = { key := some k, hint := some h }) := by
  unfold postClientHello
  simp only [hs]
  by_cases hi : sniIndex name cache = cache.length
  · simp only [hi, if_true]
    cases hl : lookup3 name tab with
    | none => exact ⟨hok, rfl⟩
    | some hk =>
      obtain ⟨h, k⟩ := hk
      simp only [List.getElem?_append_right (Nat.le_refl _), Nat.sub_self, List.getElem?_cons_zero]
      refine ⟨?_, by simp⟩
      intro e he
      simp only [List.mem_append, List.mem_singleton] at he
      rcases he with he | rfl
      · exact hok e he
      · exact hl
  · simp only [hi, if_false]
    obtain ⟨e, hget, hn, hm⟩ := sniIndex_get name cache hi
    have hle := hok e hm
    rw [hn] at hle
    simp only [hget, hle]
    exact ⟨hok, by simp⟩

theorem postClientHello_noTab (cfg : SrvCfg) (hs : cfg.sniTab = none) (cache : Cache) (sp : SessPsk) (name : String) :
    postClientHello cfg cache sp name = (cache, sp, true) := by
  unfold postClientHello
  simp [hs]

def CfgCacheOk (cfg : TlsCreds.Cfg) (cache : Cache) : Prop := ∀ tab, cfg.ss = some tab → CacheOk tab cache

theorem postClientHello_cacheOk (cfg : TlsCreds.Cfg) (cache : Cache) (hok : CfgCacheOk cfg cache) (sp : SessPsk) (name : String) :
    CfgCacheOk cfg (postClientHello (toSrv cfg) cache sp name).1 := by
  cases hss : cfg.ss with
  | none => rw [postClientHello_noTab (toSrv cfg) (by simp [toSrv, hss])]; exact hok
  | some tab =>
    intro t ht
    rw [hss] at ht; cases ht
    exact (postClientHello_spec (toSrv cfg) tab (by simp [toSrv, hss]) cache (hok tab hss) sp name).1

/-- an empty key authenticates nobody: S's reading of a key the callbacks hand over with length 0 -/
def normKey : Option String → Option String
  | none => none
  | some k => if k = "" then none else some k

/-- ONE handshake, from any consistent cache: the key libcoap hands the TLS library is the key S says the server holds for
that server name and identity; the cache stays consistent -/
theorem handshakeKey_spec (cfg : TlsCreds.Cfg) (cache : Cache) (hok : CfgCacheOk cfg cache) (name id : String) :
    CfgCacheOk cfg (handshakeKey (toSrv cfg) cache name id).1 ∧
      normKey (handshakeKey (toSrv cfg) cache name id).2 = TlsCreds.serverKey cfg name id := by
  unfold handshakeKey
  cases hss : cfg.ss with
  | none =>
    have h1 := postClientHello_noTab (toSrv cfg) (by simp [toSrv, hss]) cache {} name
    simp only [h1, if_true]
    refine ⟨hok, ?_⟩
    unfold pskServerCallback sessionServerKey TlsCreds.serverKey TlsCreds.served
    cases hst : cfg.st with
    | none =>
      by_cases hk : cfg.sk = "" <;> simp [toSrv, hss, hst, hk, normKey]
    | some t2 =>
      simp only [toSrv, hss, hst, lookup2_eq]
      cases TlsCreds.lookup2 id t2 <;> simp [normKey]
  | some tab =>
    have h1b := (postClientHello_spec (toSrv cfg) tab (by simp [toSrv, hss]) cache (hok tab hss) {} name).2
    have hok' := postClientHello_cacheOk cfg cache hok {} name
    generalize postClientHello (toSrv cfg) cache {} name = r at h1b hok'
    obtain ⟨c', sp, ok⟩ := r
    unfold TlsCreds.serverKey TlsCreds.served
    simp only [hss, ← lookup3_eq]
    cases hl : lookup3 name tab with
    | none =>
      simp only [hl] at h1b
      have h1b' : ok = false := h1b
      subst h1b'
      exact ⟨hok', rfl⟩
    | some hk =>
      obtain ⟨h, k⟩ := hk
      simp only [hl] at h1b
      obtain ⟨hb1, hb2⟩ := h1b
      have hb1' : ok = true := hb1
      have hb2' : sp = { key := some k, hint := some h } := hb2
      subst hb1'; subst hb2'
      simp only [if_true]
      refine ⟨hok', ?_⟩
      unfold pskServerCallback sessionServerKey
      cases hst : cfg.st with
      | none => simp [toSrv, hst, normKey]
      | some t2 =>
        simp only [toSrv, hst, lookup2_eq]
        cases TlsCreds.lookup2 id t2 <;> simp [normKey]

theorem runHist_cacheOk (cfg : TlsCreds.Cfg) (hist : List (String × Option String)) (cache : Cache)
    (hok : CfgCacheOk cfg cache) : CfgCacheOk cfg (runHist (toSrv cfg) cache hist) := by
  induction hist generalizing cache with
  | nil => exact hok
  | cons a t ih =>
    obtain ⟨name, id⟩ := a
    cases id with
    | none => exact ih _ (postClientHello_cacheOk cfg cache hok {} name)
    | some i => exact ih _ (handshakeKey_spec cfg cache hok name i).1

end Coap.PskSelect
