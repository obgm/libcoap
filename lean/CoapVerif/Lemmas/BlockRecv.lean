import CoapVerif.Lemmas.Block
/- The server's single-body Block1 receive step `srcvStep` (coap_handle_request_put_block) against a genuine client: `SrcvInv`,
   `srcvStep_spec`, the run `runSrcv`; what a step does to the tracked block size (`srcvStep_szx`). -/
namespace Coap.Block
open Coap.Spec.Block

theorem recvLoop_spec (cap : Nat) : ∀ (cnt : Nat) (rs : Ranges) (n : Nat) (upd : Bool) (rs' : Ranges) (upd' : Bool),
    WfFrom 0 rs → rs.length ≤ cap - 1 → recvLoop cap cnt rs n upd = some (rs', upd') →
    WfFrom 0 rs' ∧ rs'.length ≤ cap - 1 ∧ (∀ k, Covers rs' k ↔ (Covers rs k ∨ (n ≤ k ∧ k < n + cnt))) ∧
    (upd' = false → upd = false ∧ rs' = rs) := by
  intro cnt
  induction cnt with
  | zero =>
    intro rs n upd rs' upd' hw hl h
    simp only [recvLoop] at h
    cases h
    exact ⟨hw, hl, fun k => ⟨Or.inl, fun h => h.elim id fun h => by omega⟩, fun hu => ⟨hu, rfl⟩⟩
  | succ cnt ih =>
    intro rs n upd rs' upd' hw hl h
    simp only [recvLoop] at h
    by_cases hc : checkIfReceived rs n = true
    · rw [if_pos hc] at h
      obtain ⟨a, b, c, d⟩ := ih rs (n + 1) upd rs' upd' hw hl h
      have hn : Covers rs n := (checkIfReceived_iff hw).mp hc
      refine ⟨a, b, fun k => ?_, d⟩
      rw [c k]
      refine ⟨Or.imp_right fun h => by omega, fun h => h.elim Or.inl fun h => ?_⟩
      by_cases hk : k = n
      · exact Or.inl (hk ▸ hn)
      · exact Or.inr (by omega)
    · rw [if_neg hc] at h
      cases hu : updateReceived cap rs n with
      | mk ok r =>
        rw [hu] at h
        cases ok with
        | false => cases h
        | true =>
          obtain ⟨x, y, _, z⟩ := updateReceived_true hw hl hu
          obtain ⟨a, b, c, d⟩ := ih r (n + 1) true rs' upd' x y h
          refine ⟨a, b, fun k => ?_, fun hf => nomatch (d hf).1⟩
          rw [c k, z k, or_assoc]
          exact or_congr Iff.rfl (by omega)

/-- The receiver state is consistent with the sender's body: the ranges are well formed, every covered block (in the
tracked units) lies inside the body, every byte of a covered block is below `total_len` and holds the sender's byte. -/
structure SrcvInv (cap : Nat) (body : Bytes) (s : Srcv) : Prop where
  wf : WfFrom 0 s.recv
  cnt : s.recv.length ≤ cap - 1
  tl : s.totalLen ≤ body.length
  inRange : ∀ k, Covers s.recv k → k * chunkSize s.szx < body.length
  below : ∀ k, Covers s.recv k → ∀ i, k * chunkSize s.szx ≤ i → i < k * chunkSize s.szx + chunkSize s.szx →
      i < body.length → i < s.totalLen
  buf : match s.body with
        | none => s.recv = []
        | some b => b.length = s.totalLen ∧
            ∀ k, Covers s.recv k → ∀ i, k * chunkSize s.szx ≤ i → i < k * chunkSize s.szx + chunkSize s.szx →
              i < body.length → b[i]? = body[i]?
  nms : s.noMoreSeen = true → s.totalLen = body.length
  szxle : s.szx ≤ 6

theorem srcvDecide_cases (lg1 : Srcv) (m chunk : Nat) :
    (srcvDecide lg1 m chunk = (some lg1, .cont) ∧ m = 1) ∨
    (srcvDecide lg1 m chunk = (some { lg1 with noMoreSeen := true }, .cont) ∧ m ≠ 1) ∨
    (srcvDecide lg1 m chunk = (none, srcvGive lg1) ∧ (m = 1 → lg1.noMoreSeen = true) ∧
      checkAllBlocksIn lg1.recv (totalBlocks lg1.totalLen chunk) = true) := by
  unfold srcvDecide
  dsimp only
  by_cases hm1 : m = 1
  · rw [if_pos hm1]
    by_cases hcont : ¬ lg1.noMoreSeen = true ∨ ¬ checkAllBlocksIn lg1.recv (totalBlocks lg1.totalLen chunk) = true
    · rw [if_pos hcont]; exact Or.inl ⟨rfl, hm1⟩
    · rw [if_neg hcont]
      exact Or.inr (Or.inr ⟨rfl, fun _ => Decidable.not_not.mp (not_or.mp hcont).1, Decidable.not_not.mp (not_or.mp hcont).2⟩)
  · rw [if_neg hm1]
    by_cases hall : ¬ checkAllBlocksIn lg1.recv (totalBlocks lg1.totalLen chunk) = true
    · rw [if_pos hall]; exact Or.inr (Or.inl ⟨rfl, hm1⟩)
    · rw [if_neg hall]; exact Or.inr (Or.inr ⟨rfl, fun h => absurd h hm1, Decidable.not_not.mp hall⟩)

theorem srcvDecide_spec (cap : Nat) (body : Bytes) (lg1 : Srcv) (m : Nat) (st' : Option Srcv) (out : SrcvOut)
    (hinv : SrcvInv cap body lg1) (hne : lg1.recv ≠ []) (hm : m ≠ 1 → lg1.totalLen = body.length)
    (h : srcvDecide lg1 m (2 ^ (lg1.szx + 4)) = (st', out)) :
    (∀ s', st' = some s' → SrcvInv cap body s') ∧
    (∀ b l, out = SrcvOut.deliver b l → b = body ∧ l = body.length ∧ st' = none) := by
  rw [pow_eq_chunkSize lg1.szx] at h
  rcases srcvDecide_cases lg1 m (chunkSize lg1.szx) with ⟨e, _⟩ | ⟨e, hm1⟩ | ⟨e, hnm, hall⟩
  · rw [e] at h
    cases h
    exact ⟨fun s' hs => by cases hs; exact hinv, fun b l hb => by cases hb⟩
  · rw [e] at h
    cases h
    refine ⟨fun s' hs => ?_, fun b l hb => by cases hb⟩
    cases hs
    exact { hinv with nms := fun _ => hm hm1 }
  · -- the total is complete and everything is in: the buffer is the body
    rw [e] at h
    cases h
    have htl : lg1.totalLen = body.length := by
      by_cases hm1 : m = 1
      · exact hinv.nms (hnm hm1)
      · exact hm hm1
    refine ⟨fun s' hs => (by cases hs), fun b l hb => ?_⟩
    rw [totalBlocks_eq _ _ (chunk_pos lg1.szx), htl] at hall
    have hcov := (checkAllBlocksIn_iff (t := nBlocks body.length lg1.szx) hinv.wf hne
      (fun k hk => (lt_nBlocks_iff body.length lg1.szx k).mpr (hinv.inRange k hk))).mp hall
    obtain ⟨b0, hbody, l1, l2⟩ := buf_of_ne_nil hinv.buf hne
    unfold srcvGive at hb
    rw [hbody] at hb
    cases hb
    exact ⟨eq_of_blocks _ body lg1.szx (l1.trans htl) fun k hk => l2 k (hcov k hk), htl, rfl⟩

/-- a payload of `D` bytes at offset `off = n * C`, cut from a body of `len` bytes in blocks of `q * C`, occupies the
`cnt = ⌈D / C⌉` blocks from `n` on: each starts inside the body and is payload as far as the body goes -/
theorem window_facts (C n cnt D q len off : Nat) (hC : 0 < C) (hoff : off = n * C) (hD1 : 0 < D)
    (hF1 : (cnt - 1) * C < D) (hF2 : D ≤ cnt * C) (hD : D = min (q * C) (len - off)) (hofflt : off < len)
    (k : Nat) (hk1 : n ≤ k) (hk2 : k < n + cnt) :
    k * C < len ∧ off ≤ k * C ∧ (∀ i, i < k * C + C → i < len → i < off + D) := by
  obtain ⟨j, rfl⟩ : ∃ j, k = n + j := ⟨k - n, by omega⟩
  have hj : j * C + C ≤ cnt * C := by rw [← Nat.succ_mul]; exact Nat.mul_le_mul_right _ (by omega)
  have hcnt : cnt * C = (cnt - 1) * C + C := by rw [← Nat.succ_mul, Nat.succ_eq_add_one, Nat.sub_add_cancel (by omega)]
  rw [Nat.add_mul, ← hoff]
  rcases Nat.le_total (q * C) (len - off) with hmin | hmin
  · rw [Nat.min_eq_left hmin] at hD
    subst hD
    have : cnt * C ≤ q * C := Nat.mul_le_mul_right _ (by have := Nat.lt_of_mul_lt_mul_right hF1; omega)
    exact ⟨by omega, Nat.le_add_right _ _, fun i hi _ => by omega⟩
  · rw [Nat.min_eq_right hmin] at hD
    exact ⟨by omega, Nat.le_add_right _ _, fun i _ hil => by omega⟩

/-- `srcvCore` on an lg_srcv with well-formed ranges and a buffer as long as the total: refused (last-block test of fix
cb35487, or too many ranges) with the lg_srcv freed; or every block of the payload was recorded already and the decision
is taken on the state as it is; or the blocks are recorded, the total raised to the end of the payload if that lies
beyond it, the payload stored at its offset with every other byte kept, and the decision taken on that state -/
theorem srcvCore_cases (cap : Nat) (junk : UInt8) (lg : Srcv) (n m : Nat) (data : Bytes) (off : Nat)
    (hwf : WfFrom 0 lg.recv) (hcnt : lg.recv.length ≤ cap - 1) (hbufl : ∀ b, lg.body = some b → b.length = lg.totalLen) :
    srcvCore cap junk lg n lg.szx m data off = (none, .fail) ∨
    (srcvCore cap junk lg n lg.szx m data off = srcvDecide lg m (chunkSize lg.szx) ∧
      ∀ k, n ≤ k → k < n + nBlocks data.length lg.szx → Covers lg.recv k) ∨
    (0 < data.length ∧ (data.length % chunkSize lg.szx ≠ 0 → lg.totalLen ≤ off + data.length) ∧
      (lg.noMoreSeen = true → off + data.length ≤ lg.totalLen) ∧
      ∃ rec' tl' b', WfFrom 0 rec' ∧ rec'.length ≤ cap - 1 ∧ rec' ≠ [] ∧
        (∀ k, Covers rec' k ↔ (Covers lg.recv k ∨ (n ≤ k ∧ k < n + nBlocks data.length lg.szx))) ∧
        (lg.totalLen ≤ tl' ∧ off + data.length ≤ tl' ∧ (tl' = lg.totalLen ∨ (tl' = off + data.length ∧ lg.totalLen < tl'))) ∧
        b'.length = tl' ∧ (∀ i, off ≤ i → i < off + data.length → b'[i]? = data[i - off]?) ∧
        (∀ b, lg.body = some b → ∀ i, i < lg.totalLen → ¬ (off ≤ i ∧ i < off + data.length) → b'[i]? = b[i]?) ∧
        srcvCore cap junk lg n lg.szx m data off =
          srcvDecide { lg with recv := rec', totalLen := tl', body := some b' } m (chunkSize lg.szx)) := by
  have hcn : (data.length + chunkSize lg.szx - 1) / chunkSize lg.szx = nBlocks data.length lg.szx := rfl
  unfold srcvCore
  dsimp only
  rw [pow_eq_chunkSize lg.szx, hcn]
  by_cases hguard : (data.length % chunkSize lg.szx ≠ 0 ∧ off + data.length < lg.totalLen) ∨
      (lg.noMoreSeen = true ∧ off + data.length > lg.totalLen)
  · rw [if_pos hguard]; exact Or.inl rfl
  rw [if_neg hguard]
  by_cases hlen0 : data.length = 0
  · -- empty payload: no block is recorded
    rw [hlen0, nBlocks_zero]
    exact Or.inr (Or.inl ⟨rfl, fun k h1 h2 => absurd h2 (Nat.not_lt.mpr h1)⟩)
  cases hloop : recvLoop cap (nBlocks data.length lg.szx) lg.recv n false with
  | none => exact Or.inl rfl
  | some res =>
    obtain ⟨rec', updated⟩ := res
    obtain ⟨w1, w2, w3, w4⟩ := recvLoop_spec cap _ lg.recv n false rec' updated hwf hcnt hloop
    cases updated with
    | false =>
      have hrec := (w4 rfl).2
      subst hrec
      exact Or.inr (Or.inl ⟨rfl, fun k h1 h2 => (w3 k).mpr (Or.inr ⟨h1, h2⟩)⟩)
    | true =>
      simp only [if_true]
      generalize htl : (if lg.totalLen < off + data.length then off + data.length else lg.totalLen) = tl'
      obtain ⟨b', hb1, hb2, hb3, hb4⟩ :=
        buildBody_spec junk lg.body data off lg.totalLen tl' (Nat.pos_of_ne_zero hlen0) hbufl htl.symm
      rw [hb1]
      exact Or.inr (Or.inr ⟨Nat.pos_of_ne_zero hlen0,
        fun hh => Nat.le_of_not_lt fun hlt => hguard (Or.inl ⟨hh, hlt⟩),
        fun hh => Nat.le_of_not_lt fun hlt => hguard (Or.inr ⟨hh, hlt⟩),
        rec', tl', b', w1, w2, ne_nil_of_covers ((w3 n).mpr (Or.inr ⟨Nat.le_refl _, Nat.lt_add_of_pos_right
          (nBlocks_bounds _ _ (Nat.pos_of_ne_zero hlen0)).1⟩)),
        w3, ite_max_facts _ _ _ htl, hb2, hb3, hb4, rfl⟩)

theorem srcvCore_spec (cap : Nat) (junk : UInt8) (body : Bytes) (lg : Srcv) (n m q : Nat) (data : Bytes) (offset : Nat)
    (st' : Option Srcv) (out : SrcvOut)
    (hinv : SrcvInv cap body lg) (hoff : offset = n * chunkSize lg.szx) (hofflt : offset < body.length)
    (hq : 1 ≤ q) (hdata : data = (body.drop offset).take (q * chunkSize lg.szx))
    (hm : m ≠ 1 → offset + data.length = body.length)
    (h : srcvCore cap junk lg n lg.szx m data offset = (st', out)) :
    (∀ s', st' = some s' → SrcvInv cap body s') ∧
    (∀ b l, out = SrcvOut.deliver b l → b = body ∧ l = body.length ∧ st' = none) := by
  have hc := chunk_pos lg.szx
  have hD : data.length = min (q * chunkSize lg.szx) (body.length - offset) := by rw [hdata]; simp
  have hqc : chunkSize lg.szx ≤ q * chunkSize lg.szx := Nat.le_mul_of_pos_left _ hq
  have hfit : 0 < data.length ∧ offset + data.length ≤ body.length := by omega
  obtain ⟨hD1, hfitb⟩ := hfit
  obtain ⟨hnb, hF1, hF2⟩ := nBlocks_bounds data.length lg.szx hD1
  have hwin := window_facts (chunkSize lg.szx) n (nBlocks data.length lg.szx) data.length q body.length offset hc hoff hD1
    hF1 hF2 hD hofflt
  clear hD
  rcases srcvCore_cases cap junk lg n m data offset hinv.wf hinv.cnt (fun b hb => (buf_of_some hinv.buf hb).1) with
    e | ⟨e, hcov⟩ | ⟨_, _, _, rec', tl', b', w1, w2, hne, w3, ⟨t1, t2, t4⟩, hb2, hb3, hb4, e⟩
  · rw [e] at h
    cases h
    exact ⟨(fun s' hs => by cases hs), (fun b l hb => by cases hb)⟩
  · -- every block of the window was already there, so the bytes (and the total) are too
    rw [e] at h
    have hm' : m ≠ 1 → lg.totalLen = body.length := by
      intro hm1
      have hend := hm hm1
      have hk : Covers lg.recv (n + (nBlocks data.length lg.szx - 1)) := hcov _ (Nat.le_add_right _ _) (by omega)
      have hlast : (n + (nBlocks data.length lg.szx - 1)) * chunkSize lg.szx + chunkSize lg.szx =
          offset + nBlocks data.length lg.szx * chunkSize lg.szx := by
        rw [← Nat.succ_mul, Nat.succ_eq_add_one, Nat.add_assoc, Nat.sub_add_cancel hnb, Nat.add_mul, hoff]
      have f1 := (hwin (n + (nBlocks data.length lg.szx - 1)) (Nat.le_add_right _ _) (by omega)).1
      have := hinv.below _ hk (body.length - 1) (Nat.le_sub_one_of_lt f1) (by omega)
        (Nat.sub_lt (Nat.zero_lt_of_lt hofflt) Nat.one_pos)
      have := hinv.tl
      omega
    exact srcvDecide_spec cap body lg m st' out hinv
      (ne_nil_of_covers (hcov n (Nat.le_refl _) (Nat.lt_add_of_pos_right hnb))) hm' h
  · rw [e] at h
    have t3 : tl' ≤ body.length := by
      have := hinv.tl
      omega
    have hinv1 : SrcvInv cap body { lg with recv := rec', totalLen := tl', body := some b' } := by
      refine { wf := w1, cnt := w2, tl := t3, inRange := ?_, below := ?_, buf := ?_, nms := ?_, szxle := hinv.szxle }
      · intro k hk
        dsimp only at hk ⊢
        rcases (w3 k).mp hk with hk | hk
        · exact hinv.inRange k hk
        · exact (hwin k hk.1 hk.2).1
      · intro k hk i hi1 hi2 hi3
        dsimp only at hk hi1 hi2 ⊢
        rcases (w3 k).mp hk with hk | hk
        · exact Nat.lt_of_lt_of_le (hinv.below k hk i hi1 hi2 hi3) t1
        · exact Nat.lt_of_lt_of_le ((hwin k hk.1 hk.2).2.2 i hi2 hi3) t2
      · refine ⟨hb2, ?_⟩
        intro k hk i hi1 hi2 hi3
        dsimp only at hk hi1 hi2 ⊢
        by_cases hw : offset ≤ i ∧ i < offset + data.length
        · rw [hb3 i hw.1 hw.2, hdata]
          exact take_drop_get body offset _ i hw.1 (by rw [← hdata]; exact hw.2)
        · rcases (w3 k).mp hk with hk | hk
          · obtain ⟨b, hbody, _, hbuf⟩ := buf_of_ne_nil hinv.buf (ne_nil_of_covers hk)
            rw [hb4 b hbody i (hinv.below k hk i hi1 hi2 hi3) hw]
            exact hbuf k hk i hi1 hi2 hi3
          · obtain ⟨f1, f2, f3⟩ := hwin k hk.1 hk.2
            exact (hw ⟨Nat.le_trans f2 hi1, f3 i hi2 hi3⟩).elim
      · intro hn
        exact Nat.le_antisymm t3 (hinv.nms hn ▸ t1)
    have hm' : m ≠ 1 → tl' = body.length := fun hm1 => Nat.le_antisymm t3 (hm hm1 ▸ t2)
    exact srcvDecide_spec cap body _ m st' out hinv1 hne hm' h

/-- a Block1 request datagram as the receiver sees it -/
structure Dgram where
  num : Nat
  m : Nat
  szx : Nat
  payload : Bytes
  size1 : Option Nat

/-- the datagram carries the sender's slice for its NUM/SZX with the right More bit, does not use a smaller block size
than the one the receiver tracks the body in, and an announced size is at most the true one -/
def Genuine (body : Bytes) (st : Option Srcv) (d : Dgram) : Prop :=
  d.szx ≤ 6 ∧ d.num < nBlocks body.length d.szx ∧ d.payload = slice body d.szx d.num ∧
  d.m = more body.length d.szx d.num ∧ (∀ s, st = some s → s.szx ≤ d.szx) ∧
  (∀ t, d.size1 = some t → t ≤ body.length)

theorem srcvStep_spec (cap : Nat) (junk : UInt8) (maxBlk : Nat) (body : Bytes) (st : Option Srcv) (d : Dgram)
    (st' : Option Srcv) (out : SrcvOut)
    (hst : ∀ s, st = some s → SrcvInv cap body s) (hg : Genuine body st d) (hlen : body.length < 2 ^ 31)
    (h : srcvStep cap junk maxBlk st d.num d.m d.szx d.payload d.size1 = (st', out)) :
    (∀ s', st' = some s' → SrcvInv cap body s') ∧
    (∀ b l, out = SrcvOut.deliver b l → b = body ∧ l = body.length ∧ (¬ (d.num = 0 ∧ d.m = 0) → st' = none)) := by
  obtain ⟨g1, g2, g3, g4, g5, g6⟩ := hg
  have hoff := (lt_nBlocks_iff body.length d.szx d.num).mp g2
  have hple : d.payload.length ≤ chunkSize d.szx := g3 ▸ slice_length_le body d.szx d.num
  have hsm := slice_more body d.szx d.num g2
  rw [← g3, ← g4] at hsm
  obtain ⟨hfull, hend⟩ := hsm
  unfold srcvStep at h
  dsimp only at h
  rw [pow_eq_chunkSize d.szx, if_neg (Nat.not_lt.mpr hple)] at h
  by_cases hsingle : d.num = 0 ∧ d.m = 0
  · rw [if_pos hsingle] at h
    cases h
    refine ⟨hst, ?_⟩
    intro b l hb
    cases hb
    have hb : d.payload = body := by
      have e := hend (by rw [hsingle.2]; decide)
      rw [hsingle.1, Nat.zero_mul, Nat.zero_add] at e
      rw [g3, hsingle.1]
      unfold slice
      rw [Nat.zero_mul, List.drop_zero]
      exact List.take_of_length_le (e ▸ hple)
    exact ⟨hb, by rw [hb], fun hn => (hn hsingle).elim⟩
  · rw [if_neg hsingle] at h
    rw [if_neg fun hh => hh.2.2 (hfull hh.2.1)] at h
    generalize hlg : srcvLocate maxBlk st d.num d.szx d.size1 = lg at h
    unfold srcvLocate at hlg
    unfold srcvConv at h
    rw [pow_eq_chunkSize d.szx] at h
    have hlginv : SrcvInv cap body lg ∧ lg.szx ≤ d.szx := by
      cases st with
      | some s => simp only at hlg; subst hlg; exact ⟨hst s rfl, g5 s rfl⟩
      | none =>
        simp only at hlg
        subst hlg
        refine ⟨{ wf := trivial, cnt := Nat.zero_le _, tl := ?_, inRange := ?_, below := ?_, buf := rfl,
                  nms := (by intro hh; cases hh), szxle := ?_ }, ?_⟩
        · dsimp only
          cases hs : d.size1 with
          | none => exact Nat.zero_le _
          | some t => exact g6 t hs
        · intro k hk; exact (covers_nil k hk).elim
        · intro k hk; exact (covers_nil k hk).elim
        · dsimp only; split <;> omega
        · dsimp only; split <;> omega
    obtain ⟨hinv, hszx⟩ := hlginv
    have hpow := chunk_scale lg.szx d.szx hszx
    have hq : 1 ≤ 2 ^ (d.szx - lg.szx) := Nat.two_pow_pos _
    have hoffeq : d.num * chunkSize d.szx = d.num * 2 ^ (d.szx - lg.szx) * chunkSize lg.szx := by
      rw [hpow, Nat.mul_assoc]
    have hdat : d.payload = (body.drop (d.num * chunkSize d.szx)).take (2 ^ (d.szx - lg.szx) * chunkSize lg.szx) := by
      rw [g3, ← hpow]; rfl
    have key : ∀ (hcore : srcvCore cap junk lg (d.num * 2 ^ (d.szx - lg.szx)) lg.szx d.m d.payload
        (d.num * chunkSize d.szx) = (st', out)),
        (∀ s', st' = some s' → SrcvInv cap body s') ∧
        (∀ b l, out = SrcvOut.deliver b l → b = body ∧ l = body.length ∧ (¬ (d.num = 0 ∧ d.m = 0) → st' = none)) := by
      intro hcore
      obtain ⟨r1, r2⟩ := srcvCore_spec cap junk body lg _ d.m _ d.payload _ st' out hinv hoffeq hoff hq hdat hend hcore
      refine ⟨r1, fun b l hb => ?_⟩
      obtain ⟨x, y, z⟩ := r2 b l hb
      exact ⟨x, y, fun _ => z⟩
    by_cases hbig : d.szx > lg.szx
    · rw [if_pos hbig] at h
      have hcl := chunk_pos lg.szx
      -- the one place `hlen` is used: the block number in tracked units is at most the offset, which is below the body length
      -- (2^32 would do; 2^31 is the bound Model/Block.lean states for block numbers)
      have hnw : (d.num * 2 ^ (d.szx - lg.szx)) % 2 ^ 32 = d.num * 2 ^ (d.szx - lg.szx) := by
        apply Nat.mod_eq_of_lt
        have : d.num * 2 ^ (d.szx - lg.szx) ≤ d.num * 2 ^ (d.szx - lg.szx) * chunkSize lg.szx :=
          Nat.le_mul_of_pos_right _ hcl
        omega
      rw [hnw] at h
      exact key h
    · rw [if_neg hbig] at h
      rw [if_neg (by omega : ¬ d.szx < lg.szx)] at h
      have he : d.szx = lg.szx := by omega
      have h0 : d.num * 2 ^ (d.szx - lg.szx) = d.num := by rw [he]; simp
      rw [h0] at key
      rw [he] at h
      rw [he] at key
      exact key h

theorem srcvDecide_szx (lg1 : Srcv) (m chunk : Nat) (s' : Srcv) (h : (srcvDecide lg1 m chunk).1 = some s') :
    s'.szx = lg1.szx := by
  rcases srcvDecide_cases lg1 m chunk with ⟨e, _⟩ | ⟨e, _⟩ | ⟨e, _⟩
  all_goals rw [e] at h
  · cases h; rfl
  · cases h; rfl
  · cases h

theorem srcvCore_szx (cap : Nat) (junk : UInt8) (lg : Srcv) (n szxU m : Nat) (data : Bytes) (offset : Nat) (s' : Srcv)
    (h : (srcvCore cap junk lg n szxU m data offset).1 = some s') : s'.szx = lg.szx := by
  unfold srcvCore at h
  dsimp only at h
  split at h
  · cases h
  cases hl : recvLoop cap ((data.length + 2 ^ (szxU + 4) - 1) / 2 ^ (szxU + 4)) lg.recv n false with
  | none => rw [hl] at h; cases h
  | some res =>
    obtain ⟨rec', upd⟩ := res
    rw [hl] at h
    dsimp only at h
    cases upd with
    | false =>
      simp only [Bool.false_eq_true, if_false] at h
      exact srcvDecide_szx { lg with recv := rec' } _ _ s' h
    | true =>
      simp only [if_true] at h
      cases hb : buildBody junk lg.body data offset
          (if lg.totalLen < offset + data.length then offset + data.length else lg.totalLen) with
      | none => rw [hb] at h; cases h; rfl
      | some b =>
        rw [hb] at h
        simp only at h
        exact srcvDecide_szx { lg with recv := rec', totalLen := _, body := some b } _ _ s' h

/-- `hge`: the request does not use a smaller size than the tracked one (a smaller one becomes the tracked size, fix 11109ea) -/
theorem srcvStep_szx (cap : Nat) (junk : UInt8) (maxBlk : Nat) (st : Option Srcv) (num m szx : Nat) (payload : Bytes)
    (size1 : Option Nat) (s' : Srcv) (hge : ∀ s, st = some s → s.szx ≤ szx)
    (h : (srcvStep cap junk maxBlk st num m szx payload size1).1 = some s') :
    (∃ s, st = some s ∧ s'.szx = s.szx) ∨
    (st = none ∧ s'.szx = (if num = 0 ∧ maxBlk ≠ 0 ∧ maxBlk < szx then maxBlk else szx)) := by
  have hloc : (∃ s, st = some s ∧ (srcvLocate maxBlk st num szx size1).szx = s.szx) ∨
      (st = none ∧ (srcvLocate maxBlk st num szx size1).szx = (if num = 0 ∧ maxBlk ≠ 0 ∧ maxBlk < szx then maxBlk else szx)) := by
    unfold srcvLocate
    cases st with
    | some s => exact Or.inl ⟨s, rfl, rfl⟩
    | none => exact Or.inr ⟨rfl, rfl⟩
  unfold srcvStep at h
  dsimp only at h
  by_cases h1 : num = 0 ∧ m = 0
  · rw [if_pos h1] at h
    cases st with
    | some s => simp only at h; cases h; exact Or.inl ⟨s', rfl, rfl⟩
    | none => cases h
  · rw [if_neg h1] at h
    by_cases h2 : ¬ (payload.length > 2 ^ (szx + 4)) ∧ m = 1 ∧ payload.length ≠ 2 ^ (szx + 4)
    · rw [if_pos h2] at h
      cases st with
      | some s => simp only at h; cases h; exact Or.inl ⟨s', rfl, rfl⟩
      | none => cases h
    · rw [if_neg h2] at h
      unfold srcvConv at h
      have hnlt : ¬ szx < (srcvLocate maxBlk st num szx size1).szx := by
        rcases hloc with ⟨s, e1, e2⟩ | ⟨e1, e2⟩
        · rw [e2]; have := hge s e1; omega
        · rw [e2]; split <;> omega
      have hk : s'.szx = (srcvLocate maxBlk st num szx size1).szx := by
        by_cases hbig : szx > (srcvLocate maxBlk st num szx size1).szx
        · rw [if_pos hbig] at h
          exact srcvCore_szx _ _ _ _ _ _ _ _ s' h
        · rw [if_neg hbig, if_neg hnlt] at h
          exact srcvCore_szx _ _ _ _ _ _ _ _ s' h
      rcases hloc with ⟨s, e1, e2⟩ | ⟨e1, e2⟩
      · exact Or.inl ⟨s, e1, by rw [hk, e2]⟩
      · exact Or.inr ⟨e1, by rw [hk, e2]⟩

def runSrcv (cap : Nat) (junk : UInt8) (maxBlk : Nat) : Option Srcv → List Dgram → List SrcvOut
  | _, [] => []
  | st, d :: ds =>
    (srcvStep cap junk maxBlk st d.num d.m d.szx d.payload d.size1).2 ::
      runSrcv cap junk maxBlk (srcvStep cap junk maxBlk st d.num d.m d.szx d.payload d.size1).1 ds

/-- every datagram of the sequence is genuine with respect to the state it meets -/
def Admissible (cap : Nat) (junk : UInt8) (maxBlk : Nat) (body : Bytes) : Option Srcv → List Dgram → Prop
  | _, [] => True
  | st, d :: ds =>
    Genuine body st d ∧
      Admissible cap junk maxBlk body (srcvStep cap junk maxBlk st d.num d.m d.szx d.payload d.size1).1 ds

/-- the history grows at its head while the run takes the messages from the front -/
theorem mem_hist_take {α : Type} (x d : α) (hist ds : List α) (i : Nat) (h : x ∈ (d :: hist) ++ ds.take i) :
    x ∈ hist ++ (d :: ds).take (i + 1) := by
  rw [List.take_succ_cons]
  simp only [List.mem_append, List.mem_cons] at h ⊢
  rcases h with (h | h) | h
  · exact Or.inr (Or.inl h)
  · exact Or.inl h
  · exact Or.inr (Or.inr h)

theorem runSrcv_sound (cap : Nat) (junk : UInt8) (maxBlk : Nat) (body : Bytes) (hlen : body.length < 2 ^ 31) :
    ∀ (ds : List Dgram) (st : Option Srcv), (∀ s, st = some s → SrcvInv cap body s) →
      Admissible cap junk maxBlk body st ds →
      ∀ o, o ∈ runSrcv cap junk maxBlk st ds → ∀ b l, o = SrcvOut.deliver b l → b = body ∧ l = body.length
  | [], _, _, _, o, ho, _, _, _ => by simp [runSrcv] at ho
  | d :: ds, st, hst, hadm, o, ho, b, l, hb => by
    obtain ⟨hg, hrest⟩ := hadm
    have hspec := srcvStep_spec cap junk maxBlk body st d _ _ hst hg hlen rfl
    unfold runSrcv at ho
    rw [List.mem_cons] at ho
    rcases ho with ho | ho
    · obtain ⟨x, y, _⟩ := hspec.2 b l (ho ▸ hb)
      exact ⟨x, y⟩
    · exact runSrcv_sound cap junk maxBlk body hlen ds _ hspec.1 hrest o ho b l hb

end Coap.Block
