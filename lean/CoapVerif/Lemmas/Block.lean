import CoapVerif.Model.Block
import CoapVerif.Spec.Block
/- Lemmas for Model/Block.lean below the step functions: tiling, flsll, setup_block_b, received ranges, the Block option codec,
   reassembly (`coap_block_build_body`), the room computation of coap_add_data_large_internal. -/
namespace Coap.Block
open Coap.Spec.Block

/-! ## slices and block counts -/

theorem pow_eq_chunkSize (szx : Nat) : 2 ^ (szx + 4) = chunkSize szx := rfl

theorem chunk_pos (szx : Nat) : 0 < chunkSize szx := Nat.two_pow_pos _

theorem flatten_slices_take (body : Bytes) (szx n : Nat) :
    ((List.range n).map (slice body szx)).flatten = body.take (n * chunkSize szx) := by
  induction n with
  | zero => simp
  | succ n ih =>
    rw [List.range_succ, List.map_append, List.flatten_append, ih, Nat.succ_mul, List.take_add]
    simp [slice]

theorem nBlocks_mul_ge (len szx : Nat) : len ≤ nBlocks len szx * chunkSize szx := by
  unfold nBlocks
  have hc := chunk_pos szx
  generalize chunkSize szx = c at *
  have h := Nat.lt_mul_div_succ (len + c - 1) hc
  rw [Nat.mul_add, Nat.mul_comm] at h
  omega

theorem slices_flatten (body : Bytes) (szx : Nat) : (slices body szx).flatten = body := by
  unfold slices
  rw [flatten_slices_take]
  exact List.take_of_length_le (nBlocks_mul_ge _ _)

theorem lt_nBlocks_iff (len szx k : Nat) : k < nBlocks len szx ↔ k * chunkSize szx < len := by
  unfold nBlocks
  have hc := chunk_pos szx
  generalize chunkSize szx = c at *
  rw [Nat.lt_div_iff_mul_lt hc]
  omega

theorem block_of_byte (szx : Nat) {o T : Nat} (ho : o < T) :
    o / chunkSize szx < nBlocks T szx ∧ o % chunkSize szx < chunkSize szx ∧
    o / chunkSize szx * chunkSize szx + o % chunkSize szx = o :=
  ⟨(lt_nBlocks_iff _ _ _).mpr (Nat.lt_of_le_of_lt (Nat.div_mul_le_self o _) ho), Nat.mod_lt o (chunk_pos szx),
    Nat.div_add_mod' o _⟩

theorem nBlocks_bounds (len szx : Nat) (h : 0 < len) :
    0 < nBlocks len szx ∧ (nBlocks len szx - 1) * chunkSize szx < len ∧ len ≤ nBlocks len szx * chunkSize szx := by
  have hnb : 0 < nBlocks len szx := (lt_nBlocks_iff len szx 0).mpr (by omega)
  exact ⟨hnb, (lt_nBlocks_iff len szx _).mp (by omega), nBlocks_mul_ge len szx⟩

theorem nBlocks_zero (szx : Nat) : nBlocks 0 szx = 0 := by
  unfold nBlocks
  have := chunk_pos szx
  exact Nat.div_eq_of_lt (by omega)

theorem totalBlocks_eq (tl c : Nat) (hc : 0 < c) : totalBlocks tl c = (tl + c - 1) / c := by
  unfold totalBlocks
  have hdm := Nat.div_add_mod tl c
  have hml := Nat.mod_lt tl hc
  have e : tl + c - 1 = c * (tl / c) + (tl % c + c - 1) := by omega
  rw [e, Nat.mul_add_div hc]
  congr 1
  by_cases h0 : tl % c ≠ 0
  · rw [if_pos h0]
    exact (Nat.div_eq_of_lt_le (by omega) (by omega)).symm
  · rw [if_neg h0]
    have : tl % c = 0 := by omega
    rw [this]
    exact (Nat.div_eq_of_lt (by omega)).symm

theorem nBlocks_mul_exact (len szx : Nat) (h : len % chunkSize szx = 0) : nBlocks len szx * chunkSize szx = len := by
  have hc := chunk_pos szx
  have h1 : nBlocks len szx = totalBlocks len (chunkSize szx) := (totalBlocks_eq len _ hc).symm
  unfold totalBlocks at h1
  rw [if_neg (by omega)] at h1
  have h2 := Nat.div_add_mod len (chunkSize szx)
  rw [h, Nat.add_zero, Nat.mul_comm] at h2
  rw [h1, Nat.add_zero]
  exact h2

theorem addBlock_eq_slice (body : Bytes) (szx k : Nat) :
    addBlock body k szx = if k < nBlocks body.length szx then some (slice body szx k) else none := by
  unfold addBlock blockOffset slice
  have h := lt_nBlocks_iff body.length szx k
  unfold chunkSize at h ⊢
  by_cases hk : k < nBlocks body.length szx
  · have := h.mp hk
    simp [hk, Nat.not_le.mpr this]
  · have : body.length ≤ k * 2 ^ (szx + 4) := Nat.le_of_not_lt (fun hh => hk (h.mpr hh))
    simp [hk, this]

theorem slice_length (body : Bytes) (szx k : Nat) :
    (slice body szx k).length = min (chunkSize szx) (body.length - k * chunkSize szx) := by
  simp [slice]

theorem slice_length_le (body : Bytes) (szx k : Nat) : (slice body szx k).length ≤ chunkSize szx :=
  slice_length body szx k ▸ Nat.min_le_left _ _

theorem blockOffset_succ (k szx : Nat) : blockOffset (k + 1) szx = blockOffset k szx + chunkSize szx := by
  unfold blockOffset chunkSize; rw [Nat.succ_mul]

theorem more_cases (len szx k : Nat) :
    (more len szx k = 1 ∧ k + 1 < nBlocks len szx ∧ k * chunkSize szx + chunkSize szx < len) ∨
    (more len szx k = 0 ∧ ¬ (k + 1 < nBlocks len szx) ∧ len ≤ k * chunkSize szx + chunkSize szx) := by
  have hnext := lt_nBlocks_iff len szx (k + 1)
  rw [Nat.succ_mul] at hnext
  unfold more
  by_cases h : k + 1 < nBlocks len szx
  · rw [if_pos h]; exact Or.inl ⟨rfl, h, hnext.mp h⟩
  · rw [if_neg h]; exact Or.inr ⟨rfl, h, Nat.le_of_not_lt fun hh => h (hnext.mpr hh)⟩

theorem moreBit_eq_spec (len szx k : Nat) : moreBit len k szx = more len szx k := by
  unfold moreBit blockOffset
  rcases more_cases len szx k with ⟨e1, _, e3⟩ | ⟨e1, _, e3⟩
  · rw [e1]; exact if_pos e3
  · rw [e1]; exact if_neg (Nat.not_lt.mpr e3)

theorem moreIf_eq (len szx k : Nat) :
    (if k * 2 ^ (szx + 4) + 2 ^ (szx + 4) < len then 1 else 0) = more len szx k := by
  have h := moreBit_eq_spec len szx k
  unfold moreBit blockOffset at h
  exact h

theorem chunk_scale (a b : Nat) (h : a ≤ b) : chunkSize b = 2 ^ (b - a) * chunkSize a := by
  unfold chunkSize
  rw [← Nat.pow_add, ← Nat.add_assoc, Nat.sub_add_cancel h]

theorem slice_more (body : Bytes) (szx k : Nat) (hk : k < nBlocks body.length szx) :
    (more body.length szx k = 1 → (slice body szx k).length = chunkSize szx) ∧
    (more body.length szx k ≠ 1 → k * chunkSize szx + (slice body szx k).length = body.length) := by
  have hl := slice_length body szx k
  have hoff := (lt_nBlocks_iff body.length szx k).mp hk
  rcases more_cases body.length szx k with ⟨e1, _, e3⟩ | ⟨e1, _, e3⟩
  · exact ⟨fun _ => by omega, fun h => (h e1).elim⟩
  · exact ⟨fun h => (by rw [e1] at h; cases h), fun _ => by omega⟩

theorem reduce_same_offset (num szx nsz : Nat) (h : nsz ≤ szx) :
    blockOffset (num * 2 ^ (szx - nsz)) nsz = blockOffset num szx := by
  unfold blockOffset
  rw [Nat.mul_assoc, ← Nat.pow_add]
  congr 2
  omega

/-! ## coap_flsll, setup_block_b -/

theorem flsllLoop_zero (fuel n : Nat) : flsllLoop fuel 0 n = n := by
  cases fuel <;> simp [flsllLoop]

theorem flsllLoop_spec : ∀ (fuel i n : Nat), i < 2 ^ fuel → 0 < i →
    n + 1 ≤ flsllLoop fuel i n ∧ 2 ^ (flsllLoop fuel i n - n - 1) ≤ i ∧ i < 2 ^ (flsllLoop fuel i n - n) := by
  intro fuel
  induction fuel with
  | zero => intro i n h1 h2; simp at h1; omega
  | succ fuel ih =>
    intro i n h1 h2
    have hi : i ≠ 0 := by omega
    simp only [flsllLoop, hi, if_false]
    by_cases h : i / 2 = 0
    · have : i = 1 := by omega
      subst this
      rw [h, flsllLoop_zero]
      simp
    · have hlt : i / 2 < 2 ^ fuel := by rw [Nat.pow_succ] at h1; omega
      obtain ⟨a, b, c⟩ := ih (i / 2) (n + 1) hlt (by omega)
      generalize flsllLoop fuel (i / 2) (n + 1) = r at *
      have e1 : r - n - 1 = (r - (n + 1) - 1) + 1 := by omega
      have e2 : r - n = (r - (n + 1)) + 1 := by omega
      refine ⟨by omega, ?_, ?_⟩
      · rw [e1, Nat.pow_succ]; omega
      · rw [e2, Nat.pow_succ]; omega

theorem flsll_spec (i : Nat) (h0 : 0 < i) (h : i < 2 ^ 64) :
    1 ≤ flsll i ∧ 2 ^ (flsll i - 1) ≤ i ∧ i < 2 ^ (flsll i) := by
  unfold flsll
  rw [Nat.mod_eq_of_lt h]
  have := flsllLoop_spec 64 i 0 h h0
  simpa using this

theorem flsll_chunk (a : Nat) (h16 : 16 ≤ a) (h : a < 2 ^ 64) :
    5 ≤ flsll a ∧ 2 ^ (flsll a - 5 + 4) ≤ a ∧ a < 2 ^ (flsll a - 5 + 5) := by
  obtain ⟨h1, h2, h3⟩ := flsll_spec a (by omega) h
  have h5 : 5 ≤ flsll a := by
    apply Nat.le_of_not_lt
    intro hlt
    have : 2 ^ flsll a ≤ 2 ^ 4 := Nat.pow_le_pow_right (by decide) (by omega)
    omega
  have e1 : flsll a - 5 + 4 = flsll a - 1 := by omega
  have e2 : flsll a - 5 + 5 = flsll a := by omega
  rw [e1, e2]
  exact ⟨h5, h2, h3⟩

theorem pow_lt_imp (a b : Nat) (h : 2 ^ a < 2 ^ b) : a < b :=
  (Nat.pow_lt_pow_iff_right (by decide)).mp h

theorem sub_mod64 (a b : Nat) (hb : b ≤ a) (ha : a < 2 ^ 64) : (a + 2 ^ 64 - b) % 2 ^ 64 = a - b := by
  omega

/-- the size `setup_block_b` falls back to when `avail` is less than a block of size `blk` -/
theorem reduced_szx (avail blk : Nat) (h16 : 16 ≤ avail) (hlt : avail < 2 ^ 64) (hc : avail < 2 ^ (blk + 4)) :
    flsll avail - 5 < blk ∧ 2 ^ (flsll avail - 5 + 4) ≤ avail := by
  obtain ⟨_, f1, _⟩ := flsll_chunk avail h16 hlt
  exact ⟨Nat.lt_of_add_lt_add_right (pow_lt_imp _ _ (Nat.lt_of_le_of_lt f1 hc)), f1⟩

theorem moreBit_eq_rest (total num szx : Nat) :
    moreBit total num szx = if 2 ^ (szx + 4) < total - num * 2 ^ (szx + 4) then 1 else 0 := by
  unfold moreBit blockOffset
  simp only [Nat.lt_sub_iff_add_lt']

theorem setup_sound (maxSize tokOpts num blk total : Nat) (b : BlockB)
    (hsz : maxSize < 2 ^ 63) (htok : tokOpts ≤ maxSize) (hstart : num * 2 ^ (blk + 4) ≤ total)
    (htot : total < 2 ^ 32) (h : setupBlockB maxSize tokOpts num blk total = some b) :
    b.szx ≤ blk ∧ b.aszx = b.szx ∧ b.chunk = 2 ^ (b.szx + 4) ∧
    blockOffset b.num b.szx = blockOffset num blk ∧
    b.m = moreBit total b.num b.szx ∧
    min b.chunk (total - blockOffset num blk) ≤ maxSize - tokOpts := by
  have hm64 : maxSize < 2 ^ 64 := Nat.lt_trans hsz (by decide)
  unfold setupBlockB at h
  dsimp only at h
  rw [Nat.mod_eq_of_lt (Nat.lt_of_le_of_lt htok hm64), sub_mod64 _ _ htok hm64,
    Nat.mod_eq_of_lt (Nat.lt_of_le_of_lt hstart htot),
    sub_mod64 _ _ hstart (Nat.lt_trans htot (by decide))] at h
  split at h
  · rename_i hc
    split at h
    · cases h
    · rename_i h16
      obtain ⟨hnsz, f1⟩ := reduced_szx _ blk (Nat.le_of_not_lt h16) (Nat.lt_of_le_of_lt (Nat.sub_le _ _) hm64) hc.1
      have hoff : num * 2 ^ (blk - (flsll (maxSize - tokOpts) - 5)) * 2 ^ (flsll (maxSize - tokOpts) - 5 + 4) =
          num * 2 ^ (blk + 4) := reduce_same_offset num blk _ (Nat.le_of_lt hnsz)
      have hnowrap : num * 2 ^ (blk - (flsll (maxSize - tokOpts) - 5)) < 2 ^ 32 :=
        Nat.lt_of_le_of_lt (Nat.le_trans (Nat.mul_le_mul_left _
          (Nat.pow_le_pow_right (by decide) (Nat.le_trans (Nat.sub_le _ _) (Nat.le_add_right _ _)))) hstart) htot
      cases h
      dsimp only
      rw [Nat.mod_eq_of_lt hnowrap]
      refine ⟨Nat.le_of_lt hnsz, rfl, rfl, hoff, ?_, Nat.le_trans (Nat.min_le_left _ _) f1⟩
      rw [moreBit_eq_rest, hoff]
  · rename_i hc
    cases h
    dsimp only
    refine ⟨Nat.le_refl _, rfl, rfl, rfl, (moreBit_eq_rest total num blk).symm, ?_⟩
    unfold blockOffset
    omega

theorem setup_zero (maxSize tokOpts blk total : Nat) (sb : BlockB) (ht : total < 2 ^ 64)
    (h : setupBlockB maxSize tokOpts 0 blk total = some sb) :
    sb.num = 0 ∧ sb.m = if sb.chunk < total then 1 else 0 := by
  unfold setupBlockB at h
  simp only [Nat.zero_mul, Nat.zero_mod, Nat.sub_zero, Nat.add_mod_right, Nat.mod_eq_of_lt ht] at h
  split at h
  · split at h
    · cases h
    · cases h; exact ⟨rfl, rfl⟩
  · cases h; exact ⟨rfl, rfl⟩

theorem setup_noreduce (maxSize tokOpts num blk total : Nat) (sb : BlockB) (hsz : maxSize < 2 ^ 64)
    (h1 : tokOpts + 2 ^ (blk + 4) ≤ maxSize) (h : setupBlockB maxSize tokOpts num blk total = some sb) :
    sb.szx = blk ∧ sb.aszx = blk ∧ sb.chunk = 2 ^ (blk + 4) := by
  have htm : tokOpts ≤ maxSize := Nat.le_trans (Nat.le_add_right _ _) h1
  unfold setupBlockB at h
  dsimp only at h
  rw [Nat.mod_eq_of_lt (Nat.lt_of_le_of_lt htm hsz), sub_mod64 _ _ htm hsz,
    if_neg fun hh => Nat.not_le.mpr hh.1 (Nat.le_sub_of_add_le' h1)] at h
  cases h
  exact ⟨rfl, rfl, rfl⟩

/-! ## the received ranges -/

/-- sorted, disjoint, non-adjacent, every range non-empty, all ≥ `lo` -/
def WfFrom : Nat → Ranges → Prop
  | _, [] => True
  | lo, (b, e) :: rest => lo ≤ b ∧ b ≤ e ∧ WfFrom (e + 2) rest

theorem covers_nil (n : Nat) : ¬ Covers [] n := by simp [Covers]

theorem ne_nil_of_covers {rs : Ranges} {n : Nat} (h : Covers rs n) : rs ≠ [] :=
  fun he => covers_nil n (he ▸ h)

theorem covers_cons (b e : Nat) (rest : Ranges) (n : Nat) :
    Covers ((b, e) :: rest) n ↔ (b ≤ n ∧ n ≤ e) ∨ Covers rest n := by
  simp [Covers]

theorem WfFrom_mono : ∀ (rs : Ranges) (lo lo' : Nat), lo' ≤ lo → WfFrom lo rs → WfFrom lo' rs
  | [], _, _, _, _ => trivial
  | (b, e) :: rest, lo, lo', h, hw => by
    obtain ⟨h1, h2, h3⟩ := hw
    exact ⟨by omega, h2, h3⟩

theorem WfFrom_lb : ∀ (rs : Ranges) (lo n : Nat), WfFrom lo rs → Covers rs n → lo ≤ n
  | [], _, _, _, hc => by simp [Covers] at hc
  | (b, e) :: rest, lo, n, hw, hc => by
    obtain ⟨h1, h2, h3⟩ := hw
    rw [covers_cons] at hc
    rcases hc with hc | hc
    · omega
    · have := WfFrom_lb rest (e + 2) n h3 hc
      omega

theorem WfFrom_mem : ∀ (rs : Ranges) (lo : Nat) (r : Nat × Nat), WfFrom lo rs → r ∈ rs → r.1 ≤ r.2 ∧ Covers rs r.2
  | [], _, _, _, hm => by cases hm
  | (b, e) :: rest, lo, r, hw, hm => by
    obtain ⟨h1, h2, h3⟩ := hw
    rw [List.mem_cons] at hm
    rcases hm with hm | hm
    · subst hm
      exact ⟨h2, (covers_cons b e rest e).mpr (Or.inl ⟨h2, Nat.le_refl _⟩)⟩
    · obtain ⟨a, c⟩ := WfFrom_mem rest (e + 2) r h3 hm
      exact ⟨a, (covers_cons b e rest r.2).mpr (Or.inr c)⟩

theorem checkIfReceived_iff {rs : Ranges} {lo n : Nat} (hw : WfFrom lo rs) :
    checkIfReceived rs n = true ↔ Covers rs n := by
  induction rs generalizing lo with
  | nil => simp [checkIfReceived, Covers]
  | cons r rest ih =>
    obtain ⟨b, e⟩ := r
    obtain ⟨h1, h2, h3⟩ := hw
    have hlb := WfFrom_lb rest (e + 2) n h3
    rw [covers_cons]
    unfold checkIfReceived
    by_cases hb : n < b
    · rw [if_pos hb]
      exact ⟨fun h => (nomatch h), fun h => h.elim (fun h => by omega) fun h => by have := hlb h; omega⟩
    · rw [if_neg hb]
      by_cases he : n ≤ e
      · rw [if_pos he]; exact ⟨fun _ => Or.inl ⟨Nat.le_of_not_lt hb, he⟩, fun _ => rfl⟩
      · rw [if_neg he, ih h3]
        exact ⟨Or.inr, fun h => h.elim (fun h => absurd h.2 he) id⟩

theorem or_insert {A B P N : Prop} (h : A ↔ B ∨ N) : (A ∨ P) ↔ (B ∨ P) ∨ N := by
  rw [h, or_right_comm]

theorem unchanged_length {a b : Nat} {P : Prop} (h : a ≤ b) : a ≤ b + 1 ∧ (a = b + 1 → P) :=
  ⟨Nat.le_succ_of_le h, fun e => absurd (Nat.le_of_eq e.symm) (Nat.not_le.mpr (Nat.lt_succ_of_le h))⟩

theorem updateLoop_spec (cap used : Nat) : ∀ (rs : Ranges) (lo n : Nat) (r : Ranges),
    WfFrom lo rs → lo ≤ n → updateLoop cap used rs n = some r →
    WfFrom lo r ∧ (∀ k, Covers r k ↔ (Covers rs k ∨ k = n)) ∧ r.length ≤ rs.length + 1 ∧
      (r.length = rs.length + 1 → used ≠ cap - 1)
  | [], lo, n, r, _, hlo, h => by
    unfold updateLoop at h
    by_cases hu : used = cap - 1
    · rw [if_pos hu] at h; cases h
    · rw [if_neg hu] at h
      cases h
      refine ⟨⟨hlo, Nat.le_refl _, trivial⟩, fun k => ?_, Nat.le_refl _, fun _ => hu⟩
      rw [covers_cons, or_comm]
      exact or_congr Iff.rfl (by omega)
  | (b, e) :: rest, lo, n, r, hw, hlo, h => by
    obtain ⟨h1, h2, h3⟩ := hw
    unfold updateLoop at h
    by_cases hin : n ≥ b ∧ n ≤ e
    · rw [if_pos hin] at h
      cases h
      refine ⟨⟨h1, h2, h3⟩, fun k => ⟨Or.inl, fun hk => ?_⟩, unchanged_length (Nat.le_refl _)⟩
      rcases hk with hk | rfl
      · exact hk
      · exact (covers_cons b e rest _).mpr (Or.inl hin)
    rw [if_neg hin] at h
    by_cases hlt : n < b
    · rw [if_pos hlt] at h
      by_cases hadj : n + 1 = b
      · rw [if_pos hadj] at h
        cases h
        refine ⟨⟨hlo, by omega, h3⟩, fun k => ?_, unchanged_length (Nat.le_refl _)⟩
        rw [covers_cons, covers_cons]
        exact or_insert (by omega)
      · rw [if_neg hadj] at h
        by_cases hu : used = cap - 1
        · rw [if_pos hu] at h; cases h
        · rw [if_neg hu] at h
          cases h
          refine ⟨⟨hlo, Nat.le_refl _, by omega, h2, h3⟩, fun k => ?_, Nat.le_refl _, fun _ => hu⟩
          rw [covers_cons, or_comm]
          exact or_congr Iff.rfl (by omega)
    rw [if_neg hlt] at h
    by_cases hn : n = e + 1
    · rw [if_pos hn] at h
      cases rest with
      | nil =>
        cases h
        refine ⟨⟨h1, by omega, trivial⟩, fun k => ?_, unchanged_length (Nat.le_refl _)⟩
        rw [covers_cons, covers_cons]
        exact or_insert (by omega)
      | cons r2 rest2 =>
        obtain ⟨b2, e2⟩ := r2
        obtain ⟨g1, g2, g3⟩ := h3
        dsimp only at h
        by_cases hm : b2 = n + 1
        · rw [if_pos hm] at h
          cases h
          refine ⟨⟨h1, by omega, g3⟩, fun k => ?_, unchanged_length (Nat.le_succ _)⟩
          rw [covers_cons, covers_cons, covers_cons, ← or_assoc]
          exact or_insert (by omega)
        · rw [if_neg hm] at h
          cases h
          refine ⟨⟨h1, by omega, by omega, g2, g3⟩, fun k => ?_, unchanged_length (Nat.le_refl _)⟩
          rw [covers_cons, covers_cons b e]
          exact or_insert (by omega)
    · rw [if_neg hn] at h
      cases hr : updateLoop cap used rest n with
      | none => rw [hr] at h; cases h
      | some r' =>
        rw [hr] at h
        cases h
        obtain ⟨w1, w2, w3, w4⟩ := updateLoop_spec cap used rest (e + 2) n r' h3 (by omega) hr
        refine ⟨⟨h1, h2, w1⟩, fun k => ?_, Nat.succ_le_succ w3, fun hl => w4 (Nat.succ.inj hl)⟩
        rw [covers_cons, covers_cons, w2 k, or_assoc]

theorem checkAllBlocksIn_covers {rs : Ranges} {t : Nat} (hw : WfFrom 0 rs) (hne : rs ≠ [])
    (h : checkAllBlocksIn rs t = true) : ∀ k, k < t → Covers rs k := by
  match rs, hw, hne with
  | [], _, hne => exact (hne rfl).elim
  | (b, e) :: rest, hw, _ =>
    obtain ⟨_, h2, h3⟩ := hw
    unfold checkAllBlocksIn allInLoop at h
    by_cases hb : 0 < b
    · rw [if_pos hb] at h; cases h
    · rw [if_neg hb] at h
      have hb0 : b = 0 := by omega
      subst hb0
      have hblk : (if 0 < e then e else 0) = e := by
        by_cases he : 0 < e
        · rw [if_pos he]
        · rw [if_neg he]; omega
      rw [hblk] at h
      match rest, h3 with
      | [], _ =>
        simp only [allInLoop] at h
        have hh : ¬ (e + 1 < t) := by simpa using h
        intro k hk
        rw [covers_cons]
        exact Or.inl ⟨Nat.zero_le _, by omega⟩
      | (b2, e2) :: rest2, h3 =>
        obtain ⟨g1, _, _⟩ := h3
        have : e < b2 := by omega
        simp only [allInLoop, this, if_true] at h
        cases h

theorem checkAllBlocksIn_iff {rs : Ranges} {t : Nat} (hw : WfFrom 0 rs) (hne : rs ≠ [])
    (hlt : ∀ k, Covers rs k → k < t) :
    (checkAllBlocksIn rs t = true ↔ ∀ k, k < t → Covers rs k) := by
  refine ⟨checkAllBlocksIn_covers hw hne, fun h => ?_⟩
  match rs, hw, hne, hlt, h with
  | [], _, hne, _, _ => exact (hne rfl).elim
  | (b, e) :: rest, hw, _, hlt, h =>
    obtain ⟨_, h2, h3⟩ := hw
    have hbt : b < t := hlt b ((covers_cons b e rest b).mpr (Or.inl ⟨Nat.le_refl _, h2⟩))
    have hb0 : b = 0 := by
      have := WfFrom_lb ((b, e) :: rest) b 0 ⟨Nat.le_refl _, h2, h3⟩ (h 0 (by omega))
      omega
    subst hb0
    unfold checkAllBlocksIn allInLoop
    rw [if_neg (Nat.lt_irrefl 0)]
    have hblk : (if 0 < e then e else 0) = e := by split <;> omega
    rw [hblk]
    -- the block after the first range is not recorded
    have hnext : ¬ Covers ((0, e) :: rest) (e + 1) := by
      rw [covers_cons]
      rintro (hc | hc)
      · omega
      · have := WfFrom_lb rest (e + 2) (e + 1) h3 hc
        omega
    have hend : ¬ (e + 1 < t) := fun hh => hnext (h (e + 1) hh)
    match rest, h3, hlt with
    | [], _, _ => simpa [allInLoop] using hend
    | (b2, e2) :: rest2, h3, hlt =>
      have hb2 : b2 < t := hlt b2 (by
        rw [covers_cons, covers_cons]; exact Or.inr (Or.inl ⟨Nat.le_refl _, h3.2.1⟩))
      have := h3.1
      omega

theorem updateReceived_spec (cap : Nat) (rs : Ranges) (n : Nat) (hw : WfFrom 0 rs) (hl : rs.length ≤ cap - 1) :
    ((updateReceived cap rs n).1 = false → (updateReceived cap rs n).2 = rs) ∧
    ((updateReceived cap rs n).1 = true →
      WfFrom 0 (updateReceived cap rs n).2 ∧ (updateReceived cap rs n).2.length ≤ cap - 1 ∧
      ∀ k, Covers (updateReceived cap rs n).2 k ↔ (Covers rs k ∨ k = n)) := by
  unfold updateReceived
  cases hu : updateLoop cap rs.length rs n with
  | none => simp
  | some r =>
    obtain ⟨w1, w2, w3, w4⟩ := updateLoop_spec cap rs.length rs 0 n r hw (Nat.zero_le _) hu
    simp only [true_and, Bool.true_eq_false, false_implies, forall_const]
    refine ⟨w1, ?_, w2⟩
    by_cases hg : r.length = rs.length + 1
    · have := w4 hg
      omega
    · omega

theorem updateReceived_true {cap : Nat} {rs r : Ranges} {n : Nat} (hw : WfFrom 0 rs) (hl : rs.length ≤ cap - 1)
    (hu : updateReceived cap rs n = (true, r)) :
    WfFrom 0 r ∧ r.length ≤ cap - 1 ∧ r ≠ [] ∧ ∀ k, Covers r k ↔ (Covers rs k ∨ k = n) := by
  have h := (updateReceived_spec cap rs n hw hl).2
  rw [hu] at h
  obtain ⟨a, b, c⟩ := h rfl
  exact ⟨a, b, ne_nil_of_covers ((c n).mpr (Or.inr rfl)), c⟩

/-- the receiver's bookkeeping: ranges + the list of block numbers accepted so far -/
def insertStep (cap : Nat) (st : Ranges × List Nat) (n : Nat) : Ranges × List Nat :=
  match updateReceived cap st.1 n with
  | (true, r) => (r, n :: st.2)
  | (false, r) => (r, st.2)

theorem insertStep_inv (cap : Nat) (st : Ranges × List Nat) (n : Nat)
    (a : WfFrom 0 st.1) (b : st.1.length ≤ cap - 1) (c : ∀ k, Covers st.1 k ↔ k ∈ st.2) :
    WfFrom 0 (insertStep cap st n).1 ∧ (insertStep cap st n).1.length ≤ cap - 1 ∧
    (∀ k, Covers (insertStep cap st n).1 k ↔ k ∈ (insertStep cap st n).2) := by
  have hs := updateReceived_spec cap st.1 n a b
  unfold insertStep
  cases hu : updateReceived cap st.1 n with
  | mk ok r =>
    rw [hu] at hs
    cases ok with
    | false =>
      have := hs.1 rfl
      dsimp only at this ⊢
      subst this
      exact ⟨a, b, c⟩
    | true =>
      obtain ⟨x, y, z⟩ := hs.2 rfl
      exact ⟨x, y, fun k => by rw [z k, c k, List.mem_cons, or_comm]⟩

theorem insertAll_inv (cap : Nat) (ns : List Nat) (st : Ranges × List Nat)
    (a : WfFrom 0 st.1) (b : st.1.length ≤ cap - 1) (c : ∀ k, Covers st.1 k ↔ k ∈ st.2) :
    WfFrom 0 (ns.foldl (insertStep cap) st).1 ∧ (ns.foldl (insertStep cap) st).1.length ≤ cap - 1 ∧
    (∀ k, Covers (ns.foldl (insertStep cap) st).1 k ↔ k ∈ (ns.foldl (insertStep cap) st).2) :=
  foldl_inv (fun st => WfFrom 0 st.1 ∧ st.1.length ≤ cap - 1 ∧ ∀ k, Covers st.1 k ↔ k ∈ st.2)
    (fun st n h => insertStep_inv cap st n h.1 h.2.1 h.2.2) ns st ⟨a, b, c⟩

/-! ## the Block option codec -/

theorem varLen_le (v : Nat) : varLen v ≤ 4 := by
  unfold varLen
  split <;> (try split) <;> (try split) <;> (try split) <;> omega

theorem lt_pow_varLen (v : Nat) (h : v < 2 ^ 32) : v < 256 ^ varLen v := by
  unfold varLen
  split
  · omega
  · split
    · assumption
    · split
      · assumption
      · split
        · assumption
        · exact h

theorem encodeVarAux_succ (n v : Nat) :
    encodeVarAux (n + 1) v = encodeVarAux n (v / 256) ++ [UInt8.ofNat (v % 256)] := by
  induction n generalizing v with
  | zero => simp [encodeVarAux]
  | succ n ih =>
    rw [encodeVarAux, ih, encodeVarAux, Nat.pow_succ, Nat.mul_comm, ← Nat.div_div_eq_div_mul]
    rfl

theorem length_encodeVarAux (n v : Nat) : (encodeVarAux n v).length = n := by
  induction n with
  | zero => rfl
  | succ n ih => rw [encodeVarAux, List.length_cons, ih]

theorem toNat_ofNat_mod (x : Nat) : (UInt8.ofNat (x % 256)).toNat = x % 256 :=
  UInt8.toNat_ofNat_of_lt' (Nat.mod_lt _ (by decide))

/-- `M` = 2^32 for `coap_decode_var_bytes`, 2^64 for `coap_decode_var_bytes8` -/
theorem foldl_encodeVarAux (M v : Nat) : ∀ (k acc : Nat), acc * 256 ^ k + v % 256 ^ k < M →
    (encodeVarAux k v).foldl (fun n x => (n * 256 + x.toNat) % M) acc = acc * 256 ^ k + v % 256 ^ k
  | 0, acc, _ => by simp [encodeVarAux, Nat.mod_one]
  | k + 1, acc, h => by
    have hp : 0 < 256 ^ k := Nat.pow_pos (by decide)
    have hsplit : acc * 256 ^ (k + 1) + v % 256 ^ (k + 1)
        = (acc * 256 + v / 256 ^ k % 256) * 256 ^ k + v % 256 ^ k := by
      rw [Nat.mod_pow_succ, Nat.pow_succ, Nat.add_mul, Nat.mul_assoc, Nat.mul_comm 256, Nat.mul_comm (256 ^ k) (_ % _)]
      omega
    rw [hsplit] at h ⊢
    have hlt : acc * 256 + v / 256 ^ k % 256 < M :=
      Nat.lt_of_le_of_lt (Nat.le_trans (Nat.le_mul_of_pos_right _ hp) (Nat.le_add_right _ _)) h
    rw [encodeVarAux, List.foldl_cons, toNat_ofNat_mod, Nat.mod_eq_of_lt hlt]
    exact foldl_encodeVarAux M v k _ h

theorem decodeVar_encodeVarAux (n v : Nat) (hn : n ≤ 4) : decodeVar (encodeVarAux n v) = v % 256 ^ n := by
  have hpow : 256 ^ n ≤ 256 ^ 4 := Nat.pow_le_pow_right (by decide) hn
  have hmod := Nat.mod_lt v (Nat.pow_pos (n := n) (by decide : 0 < 256))
  have h := foldl_encodeVarAux (2 ^ 32) v n 0 (by omega)
  rw [Nat.zero_mul, Nat.zero_add] at h
  exact h

theorem endByte_concat (bs : Bytes) (b : UInt8) : endByte (bs ++ [b]) = b.toNat := by
  unfold endByte
  rw [List.getLast?_concat]

theorem optBlockNum_concat (bs : Bytes) (b : UInt8) :
    optBlockNum (bs ++ [b]) = (decodeVar bs * 16) % 2 ^ 32 + b.toNat / 16 := by
  unfold optBlockNum
  rw [endByte_concat, List.length_append, List.length_singleton, if_neg (Nat.succ_ne_zero _),
    Nat.add_sub_cancel, List.take_left]
  cases bs with
  | nil => rfl
  | cons a t => rw [if_pos (by simp)]

theorem getBlockB_encodeVarAux (n v : Nat) (hn : n ≤ 4) (hv : v < 256 ^ n) (hs : v % 8 ≠ 7)
    (hnum : v / 16 ≤ 0xFFFFF) :
    getBlockB (encodeVarAux n v) =
      some { num := v / 16, m := v / 8 % 2, szx := v % 8, aszx := v % 8, chunk := 2 ^ (v % 8 + 4) } := by
  cases n with
  | zero =>
    have : v = 0 := by omega
    subst this
    rfl
  | succ n =>
    have hb := toNat_ofNat_mod v
    have e1 : v % 256 % 8 = v % 8 := Nat.mod_mod_of_dvd v (by decide)
    have e2 : v % 256 / 8 % 2 = v / 8 % 2 := by
      rw [show (256 : Nat) = 8 * 32 from rfl, Nat.mod_mul_right_div_self, Nat.mod_mod_of_dvd _ (by decide)]
    have e3 : v / 256 * 16 % 2 ^ 32 + v % 256 / 16 = v / 16 := by
      rw [show (256 : Nat) = 16 * 16 from rfl, ← Nat.div_div_eq_div_mul, Nat.mod_mul_right_div_self,
        Nat.mod_eq_of_lt (Nat.lt_of_le_of_lt (Nat.div_mul_le_self _ _) (Nat.lt_of_le_of_lt hnum (by decide))),
        Nat.div_add_mod']
    have hnum' : optBlockNum (encodeVarAux (n + 1) v) = v / 16 := by
      rw [encodeVarAux_succ, optBlockNum_concat, decodeVar_encodeVarAux _ _ (by omega), hb,
        Nat.mod_eq_of_lt (a := v / 256), e3]
      rw [Nat.div_lt_iff_lt_mul (by decide), ← Nat.pow_succ]; exact hv
    have hend : endByte (encodeVarAux (n + 1) v) = v % 256 := by rw [encodeVarAux_succ, endByte_concat, hb]
    unfold getBlockB
    rw [hnum', hend, length_encodeVarAux]
    simp only [Nat.succ_ne_zero, if_false, e1, e2]
    rw [if_neg hs, if_neg (Nat.not_lt.mpr hnum)]

/-! ## reassembly: coap_block_build_body -/

theorem memcpyAt_length (buf : Bytes) (off : Nat) (data : Bytes) (h : off + data.length ≤ buf.length) :
    (memcpyAt buf off data).length = buf.length := by
  simp [memcpyAt]; omega

theorem memcpyAt_get (buf : Bytes) (off : Nat) (data : Bytes) (h : off + data.length ≤ buf.length) (i : Nat) :
    (memcpyAt buf off data)[i]? = if off ≤ i ∧ i < off + data.length then data[i - off]? else buf[i]? := by
  unfold memcpyAt
  rw [List.append_assoc, List.getElem?_append]
  have hl : (buf.take off).length = off := by simp; omega
  rw [hl]
  by_cases h1 : i < off
  · have : ¬ (off ≤ i ∧ i < off + data.length) := by omega
    rw [if_pos h1, if_neg this, List.getElem?_take, if_pos h1]
  · rw [if_neg h1, List.getElem?_append]
    by_cases h2 : i - off < data.length
    · have : off ≤ i ∧ i < off + data.length := by omega
      rw [if_pos h2, if_pos this]
    · have : ¬ (off ≤ i ∧ i < off + data.length) := by omega
      rw [if_neg h2, if_neg this, List.getElem?_drop]
      congr 1
      omega

theorem resizeBin_length (junk : UInt8) (buf : Bytes) (n : Nat) : (resizeBin junk buf n).length = n := by
  simp [resizeBin]; omega

theorem resizeBin_get (junk : UInt8) (buf : Bytes) (n i : Nat) (h : i < buf.length) (hn : i < n) :
    (resizeBin junk buf n)[i]? = buf[i]? := by
  unfold resizeBin
  rw [List.getElem?_append]
  have : i < (buf.take n).length := by simp; omega
  rw [if_pos this, List.getElem?_take, if_pos hn]

theorem take_drop_get (body : Bytes) (off w i : Nat) (h1 : off ≤ i) (h2 : i < off + ((body.drop off).take w).length) :
    ((body.drop off).take w)[i - off]? = body[i]? := by
  have hl : ((body.drop off).take w).length = min w (body.length - off) := by simp
  rw [List.getElem?_take, List.getElem?_drop]
  have : i - off < w := by omega
  rw [if_pos this]
  congr 1
  omega

theorem slice_get (body : Bytes) (szx k i : Nat) (h1 : k * chunkSize szx ≤ i)
    (h2 : i < k * chunkSize szx + (slice body szx k).length) :
    (slice body szx k)[i - k * chunkSize szx]? = body[i]? :=
  take_drop_get body _ _ i h1 h2

theorem eq_of_blocks (b body : Bytes) (szx : Nat) (hl : b.length = body.length)
    (h : ∀ k, k < nBlocks body.length szx → ∀ i, k * chunkSize szx ≤ i → i < k * chunkSize szx + chunkSize szx →
      i < body.length → b[i]? = body[i]?) : b = body := by
  apply List.ext_getElem?
  intro i
  by_cases hi : i < body.length
  · exact h _ (block_of_byte szx hi).1 i (Nat.div_mul_le_self i _) (Nat.lt_div_mul_add (chunk_pos szx)) hi
  · rw [List.getElem?_eq_none_iff.mpr (by omega), List.getElem?_eq_none_iff.mpr (by omega)]

theorem prefix_of_bytes {b B : Bytes} {l : Nat} (hl : l ≤ b.length) (hbyte : ∀ o, o < l → b[o]? = B[o]?) :
    l ≤ B.length ∧ b.take l = B.take l := by
  have hlB : l ≤ B.length := by
    cases l with
    | zero => exact Nat.zero_le _
    | succ n =>
      have hn := hbyte n (Nat.lt_succ_self n)
      rw [List.getElem?_eq_getElem (by omega)] at hn
      exact (List.getElem?_eq_some_iff.mp hn.symm).1
  refine ⟨hlB, List.ext_getElem? fun o => ?_⟩
  rw [List.getElem?_take, List.getElem?_take]
  by_cases ho : o < l
  · rw [if_pos ho, if_pos ho]; exact hbyte o ho
  · rw [if_neg ho, if_neg ho]

theorem ite_max_facts (a b t : Nat) (h : (if a < b then b else a) = t) :
    a ≤ t ∧ b ≤ t ∧ (t = a ∨ (t = b ∧ a < t)) := by
  split at h <;> omega

theorem buildBody_memcpy (junk : UInt8) (buf : Option Bytes) (data : Bytes) (off total : Nat)
    (hd : 0 < data.length) (hfit : off + data.length ≤ total) :
    ∃ b0 : Bytes, buildBody junk buf data off total = some (memcpyAt b0 off data) ∧ off + data.length ≤ b0.length ∧
      (buf = none → b0.length = total) ∧
      (∀ b, buf = some b → b0.length = max b.length (off + data.length) ∧ ∀ i, i < b.length → b0[i]? = b[i]?) := by
  unfold buildBody
  cases buf with
  | none =>
    have hne : total ≠ 0 := by omega
    have hl : (List.replicate total junk).length = total := List.length_replicate
    simp only [hne, ne_eq, not_false_eq_true, if_true]
    rw [if_pos ⟨hfit, Nat.le_of_eq hl.symm⟩]
    exact ⟨_, rfl, by rw [hl]; exact hfit, fun _ => hl, fun b hb => by cases hb⟩
  | some b =>
    simp only
    by_cases hc : off + data.length ≤ total ∧ b.length ≥ total
    · rw [if_pos hc]
      refine ⟨b, rfl, by omega, fun hh => (by cases hh), ?_⟩
      intro b' hb'
      cases hb'
      exact ⟨by omega, fun _ _ => rfl⟩
    · rw [if_neg hc]
      refine ⟨_, rfl, ?_, fun hh => (by cases hh), ?_⟩
      · rw [resizeBin_length]; split <;> omega
      · intro b' hb'
        cases hb'
        refine ⟨by rw [resizeBin_length]; split <;> omega, ?_⟩
        intro i hi
        exact resizeBin_get junk b _ i hi (by split <;> omega)

theorem buildBody_spec (junk : UInt8) (buf : Option Bytes) (data : Bytes) (off tl tl' : Nat)
    (hd : 0 < data.length) (hbuf : ∀ b, buf = some b → b.length = tl)
    (htl : tl' = if tl < off + data.length then off + data.length else tl) :
    ∃ b', buildBody junk buf data off tl' = some b' ∧ b'.length = tl' ∧
      (∀ i, off ≤ i → i < off + data.length → b'[i]? = data[i - off]?) ∧
      (∀ b, buf = some b → ∀ i, i < tl → ¬ (off ≤ i ∧ i < off + data.length) → b'[i]? = b[i]?) := by
  obtain ⟨t1, t2, t3⟩ := ite_max_facts _ _ _ htl.symm
  obtain ⟨b0, hb0, hfit, hnone, hold⟩ := buildBody_memcpy junk buf data off tl' hd t2
  refine ⟨_, hb0, ?_, ?_, ?_⟩
  · rw [memcpyAt_length _ _ _ hfit]
    cases buf with
    | none => exact hnone rfl
    | some b =>
      have := hbuf b rfl
      have := (hold b rfl).1
      omega
  · intro i h1 h2
    rw [memcpyAt_get _ _ _ hfit, if_pos ⟨h1, h2⟩]
  · intro b hb i hi hw
    rw [memcpyAt_get _ _ _ hfit, if_neg hw]
    exact (hold b hb).2 i (by rw [hbuf b hb]; exact hi)

/-- the Block2 path calls `coap_block_build_body` with `total = size2` of THIS response, not a running maximum; that the buffer
never shrinks all the same is fix 0b3fb08 -/
theorem buildBody_spec2 (junk : UInt8) (buf : Option Bytes) (data : Bytes) (off size2 : Nat)
    (hd : 0 < data.length) (hfit : off + data.length ≤ size2) :
    ∃ b', buildBody junk buf data off size2 = some b' ∧ off + data.length ≤ b'.length ∧
      (∀ b, buf = some b → b.length ≤ b'.length) ∧ (buf = none → b'.length = size2) ∧
      (∀ i, off ≤ i → i < off + data.length → b'[i]? = data[i - off]?) ∧
      (∀ b, buf = some b → ∀ i, i < b.length → ¬ (off ≤ i ∧ i < off + data.length) → b'[i]? = b[i]?) := by
  obtain ⟨b0, hb0, hfit0, hnone, hold⟩ := buildBody_memcpy junk buf data off size2 hd hfit
  refine ⟨_, hb0, ?_, ?_, ?_, ?_, ?_⟩
  · rw [memcpyAt_length _ _ _ hfit0]; exact hfit0
  · intro b hb
    rw [memcpyAt_length _ _ _ hfit0, (hold b hb).1]
    exact Nat.le_max_left _ _
  · intro hn
    rw [memcpyAt_length _ _ _ hfit0]
    exact hnone hn
  · intro i h1 h2
    rw [memcpyAt_get _ _ _ hfit0, if_pos ⟨h1, h2⟩]
  · intro b hb i hi hw
    rw [memcpyAt_get _ _ _ hfit0, if_neg hw]
    exact (hold b hb).2 i hi

/-- what the receiver does with an accepted block: `total_len = max(total_len, offset + length)`, then
`coap_block_build_body(body_data, length, data, offset, total_len)` (see `srcvStep`) -/
def storeStep (junk : UInt8) (body : Bytes) (szx : Nat) (st : Nat × Option Bytes) (k : Nat) : Nat × Option Bytes :=
  let data := slice body szx k
  let off := k * chunkSize szx
  let tl := if st.1 < off + data.length then off + data.length else st.1
  (tl, buildBody junk st.2 data off tl)

def blockEnd (body : Bytes) (szx k : Nat) : Nat := k * chunkSize szx + (slice body szx k).length

def StoreInv (body : Bytes) (szx : Nat) (K : List Nat) (st : Nat × Option Bytes) : Prop :=
  st.1 ≤ body.length ∧ (∀ k, k ∈ K → blockEnd body szx k ≤ st.1) ∧
  match st.2 with
  | none => K = []
  | some b => b.length = st.1 ∧
      ∀ k, k ∈ K → ∀ i, k * chunkSize szx ≤ i → i < blockEnd body szx k → b[i]? = body[i]?

theorem blockEnd_le (body : Bytes) (szx k : Nat) (hk : k < nBlocks body.length szx) :
    k * chunkSize szx < blockEnd body szx k ∧ blockEnd body szx k ≤ body.length := by
  have h := (lt_nBlocks_iff body.length szx k).mp hk
  have hl := slice_length body szx k
  have hc := chunk_pos szx
  unfold blockEnd
  omega

theorem storeStep_inv (junk : UInt8) (body : Bytes) (szx : Nat) (K : List Nat) (st : Nat × Option Bytes) (k : Nat)
    (hk : k < nBlocks body.length szx) (hinv : StoreInv body szx K st) :
    StoreInv body szx (k :: K) (storeStep junk body szx st k) := by
  obtain ⟨tl, buf⟩ := st
  obtain ⟨i1, i2, i3⟩ := hinv
  obtain ⟨e1, e2⟩ := blockEnd_le body szx k hk
  have hbe : k * chunkSize szx + (slice body szx k).length = blockEnd body szx k := rfl
  unfold storeStep
  dsimp only at i1 i2 i3 ⊢
  generalize htl : (if tl < k * chunkSize szx + (slice body szx k).length then
    k * chunkSize szx + (slice body szx k).length else tl) = tl'
  obtain ⟨t1, t2, t3⟩ := ite_max_facts _ _ _ htl
  have hbufl : ∀ b, buf = some b → b.length = tl := by
    intro b hb; subst hb; exact i3.1
  obtain ⟨b', hb1, hb2, hb3, hb4⟩ := buildBody_spec junk buf _ _ tl tl' (by omega) hbufl htl.symm
  rw [hb1, hbe] at *
  refine ⟨by omega, ?_, hb2, ?_⟩
  · intro k' hk'
    rcases List.mem_cons.mp hk' with rfl | hk'
    · exact t2
    · exact Nat.le_trans (i2 k' hk') t1
  · intro k' hk' i hi1 hi2
    by_cases hw : k * chunkSize szx ≤ i ∧ i < blockEnd body szx k
    · rw [hb3 i hw.1 hw.2]
      exact slice_get body szx k i hw.1 hw.2
    · rcases List.mem_cons.mp hk' with rfl | hk'
      · exact (hw ⟨hi1, hi2⟩).elim
      · cases buf with
        | none => subst i3; cases hk'
        | some b =>
          rw [hb4 b rfl i (Nat.lt_of_lt_of_le hi2 (i2 k' hk')) hw]
          exact i3.2 k' hk' i hi1 hi2

theorem store_fold_inv (junk : UInt8) (body : Bytes) (szx : Nat) : ∀ (ks K : List Nat) (st : Nat × Option Bytes),
    StoreInv body szx K st → (∀ k, k ∈ ks → k < nBlocks body.length szx) →
    StoreInv body szx (ks.reverse ++ K) (ks.foldl (storeStep junk body szx) st)
  | [], K, st, h, _ => by simpa using h
  | k :: ks, K, st, h, hks => by
    rw [List.foldl_cons]
    have h1 := storeStep_inv junk body szx K st k (hks k (by simp)) h
    have h2 := store_fold_inv junk body szx ks (k :: K) _ h1 (fun k' hk' => hks k' (by simp [hk']))
    simpa using h2

/-! ## the buffer clause of the reassembly invariants -/

/-- the reassembly invariants state the buffer as `match body with | none => recv = [] | some b => Q b`: once a block is
recorded there is a buffer, with what the invariant says of it -/
theorem buf_of_ne_nil {rs : Ranges} {Q : Bytes → Prop} : ∀ {body : Option Bytes},
    (match body with | none => rs = [] | some b => Q b) → rs ≠ [] → ∃ b, body = some b ∧ Q b
  | none, h, hne => (hne h).elim
  | some b, h, _ => ⟨b, rfl, h⟩

theorem buf_of_some {rs : Ranges} {Q : Bytes → Prop} {body : Option Bytes} {b : Bytes}
    (h : match body with | none => rs = [] | some b => Q b) (hb : body = some b) : Q b := by
  subst hb; exact h

/-! ## the room computation of coap_add_data_large_internal -/

theorem echoReserve_eq : echoReserve = 43 := by decide

theorem adlAvail_eq (m t l : Nat) : adlAvail m t l = (m : Int) - t - 43 - ((8 - l : Nat) : Int) := by
  unfold adlAvail
  rw [echoReserve_eq]
  split <;> omega

/-- a PDU size below 2^62 keeps the `ssize_t` room computation in range -/
theorem adlAvail_lt {m : Nat} (hm : m < 2 ^ 62) (t l : Nat) : adlAvail m t l < 2 ^ 63 := by
  rw [adlAvail_eq]; omega

theorem adlBlkSize_chunk (a : Int) (h16 : 16 ≤ a) (hlt : a < 2 ^ 63) : ((2 ^ (adlBlkSize a + 4) : Nat) : Int) ≤ a := by
  unfold adlBlkSize
  have hneg : ¬ a < 0 := by omega
  simp only [hneg, if_false]
  obtain ⟨f5, f1, f2⟩ := flsll_chunk a.toNat (by omega) (by omega)
  generalize hf : flsll a.toNat = f at *
  have hf64 : f - 5 + 4 < 63 := pow_lt_imp _ _ (Nat.lt_of_le_of_lt f1 (by omega))
  have hb' : (((f : Int) - 5) % 256).toNat = f - 5 := by omega
  rw [hb']
  have hmono : ∀ x, x ≤ f - 5 → (2 ^ (x + 4) : Nat) ≤ a.toNat := by
    intro x hx
    have : 2 ^ (x + 4) ≤ 2 ^ (f - 5 + 4) := Nat.pow_le_pow_right (by decide) (by omega)
    omega
  split
  · have := hmono 6 (by omega); omega
  · have := hmono (f - 5) (Nat.le_refl _); omega

theorem blkOptLen_bound (d v w : Nat) : optEncodeSize d (varLen v) ≤ optEncodeSize d (varLen w) + 4 := by
  have hv := varLen_le v
  have hw := varLen_le w
  unfold optEncodeSize
  rw [if_neg (by omega : ¬ varLen v ≥ 13), if_neg (by omega : ¬ varLen w ≥ 13)]
  omega

/-- slack the first-stage arithmetic leaves for every follow-up block: 8-byte token, Block option value growing
to 3 bytes, payload marker, a full chunk -/
def followUpBound (r : AdlRes) (tokLen : Nat) : Nat := r.hdr + (8 - tokLen) + 3 + 1 + 2 ^ (r.blkSize + 4)

def AdlOk (maxSize tokLen : Nat) (r : AdlRes) : Prop :=
  (r.payload ≠ 0 → r.used ≤ maxSize) ∧ r.used = r.hdr + (if r.payload = 0 then 0 else 1 + r.payload) ∧
  (r.lgXmit = true → followUpBound r tokLen ≤ maxSize ∧ r.payload ≤ 2 ^ (r.blkSize + 4))

theorem adlFinish_spec {maxSize tokOpts rem : Nat} {lg : Bool} {b : Nat} {bv : Option Nat} {r : AdlRes}
    (h : adlFinish maxSize tokOpts rem lg b bv = some r) :
    r = { lgXmit := lg, blkSize := b, blockVal := bv, payload := rem,
          used := tokOpts + (if rem = 0 then 0 else 1 + rem), hdr := tokOpts } ∧
    (rem ≠ 0 → tokOpts + (1 + rem) ≤ maxSize) := by
  unfold adlFinish at h
  by_cases hc : rem ≠ 0 ∧ tokOpts + 1 + rem > maxSize
  · rw [if_pos hc] at h; cases h
  · rw [if_neg hc] at h
    cases h
    exact ⟨rfl, fun hr => by omega⟩

theorem adlLgTail_fits (maxSize tokLen base d b2 length extra : Nat) (sb : BlockB) (r : AdlRes)
    (hms : maxSize < 2 ^ 62) (hsb : sb.chunk ≤ 2 ^ (b2 + 4))
    (h : adlLgTail maxSize tokLen base d b2 length extra sb = some r) : AdlOk maxSize tokLen r := by
  unfold adlLgTail at h
  dsimp only at h
  generalize hA : adlAvail maxSize (base + optEncodeSize d (varLen (blockValue sb.num sb.m sb.aszx)) + extra) tokLen = A at h
  rw [adlAvail_eq] at hA
  by_cases hred : A < ↑(2 ^ (b2 + 4) : Nat)
  · rw [if_pos hred] at h
    by_cases h16 : A < 16
    · rw [if_pos h16] at h; cases h
    · rw [if_neg h16] at h
      have hch := adlBlkSize_chunk A (by omega) (by omega)
      generalize adlBlkSize A = b3 at *
      have hb := blkOptLen_bound d (blockValue (sb.num * 2 ^ (b2 - b3) % 2 ^ 32) sb.m b3) (blockValue sb.num sb.m sb.aszx)
      obtain ⟨rfl, s6⟩ := adlFinish_spec h
      unfold AdlOk followUpBound
      dsimp only
      exact ⟨fun hh => by rw [if_neg hh]; exact s6 hh, rfl, fun _ => ⟨by omega, Nat.min_le_left _ _⟩⟩
  · rw [if_neg hred] at h
    obtain ⟨rfl, s6⟩ := adlFinish_spec h
    unfold AdlOk followUpBound
    dsimp only
    have := Nat.min_le_left sb.chunk length
    exact ⟨fun hh => by rw [if_neg hh]; exact s6 hh, rfl, fun _ => ⟨by omega, by omega⟩⟩

theorem adlNoBlock_fits (maxSize tokLen base d b2 length : Nat) (blk : Option Nat) (r : AdlRes)
    (h : adlNoBlock maxSize base d b2 length blk = some r) : AdlOk maxSize tokLen r := by
  unfold adlNoBlock at h
  obtain ⟨rfl, s6⟩ := adlFinish_spec h
  exact ⟨fun hh => by dsimp only at hh ⊢; rw [if_neg hh]; exact s6 hh, rfl, fun hh => by cases hh⟩

theorem setup_chunk_le (maxSize tokOpts num blk total : Nat) (b : BlockB)
    (h : setupBlockB maxSize tokOpts num blk total = some b) : b.chunk ≤ 2 ^ (blk + 4) := by
  unfold setupBlockB at h
  dsimp only at h
  have hlt : (maxSize + 2 ^ 64 - tokOpts % 2 ^ 64) % 2 ^ 64 < 2 ^ 64 := Nat.mod_lt _ (by decide)
  generalize (maxSize + 2 ^ 64 - tokOpts % 2 ^ 64) % 2 ^ 64 = avail at h hlt
  split at h
  · rename_i hc
    split at h
    · cases h
    · rename_i h16
      cases h
      exact Nat.le_of_lt (Nat.lt_of_le_of_lt (reduced_szx avail blk (Nat.le_of_not_lt h16) hlt hc.1).2 hc.1)
  · cases h
    exact Nat.le_refl _

/-- the exits of `adlBody` that build a message: through `setup_block_b` with an lg_xmit (the body does not fit or is longer
than the block size asked for), or "No need to use blocks" -/
theorem adlBody_cases {maxSize tokLen base d tokOpts0 b2 length extra : Nat} {blk : Option Nat} {r : AdlRes}
    (h : adlBody maxSize tokLen base d tokOpts0 b2 length extra blk = some r) :
    ¬ (adlAvail maxSize tokOpts0 tokLen < 16 ∧ ((length : Int) > adlAvail maxSize tokOpts0 tokLen ∨ blk.isSome)) ∧
    ((((blk.isSome ∧ length > 2 ^ (b2 + 4)) ∨ (length : Int) > adlAvail maxSize tokOpts0 tokLen) ∧
        ∃ sb, setupBlockB maxSize (tokOpts0 + extra) 0 b2 length = some sb ∧
          adlLgTail maxSize tokLen base d b2 length extra sb = some r) ∨
     adlNoBlock maxSize base d b2 length blk = some r) := by
  unfold adlBody at h
  dsimp only at h
  by_cases h1 : adlAvail maxSize tokOpts0 tokLen < 16 ∧ ((length : Int) > adlAvail maxSize tokOpts0 tokLen ∨ blk.isSome)
  · rw [if_pos h1] at h; cases h
  · rw [if_neg h1] at h
    refine ⟨h1, ?_⟩
    by_cases h2 : (blk.isSome ∧ length > 2 ^ (b2 + 4)) ∨ (length : Int) > adlAvail maxSize tokOpts0 tokLen
    · rw [if_pos h2] at h
      cases hsb : setupBlockB maxSize (tokOpts0 + extra) 0 b2 length with
      | none => rw [hsb] at h; cases h
      | some sb => rw [hsb] at h; exact Or.inl ⟨h2, sb, rfl, h⟩
    · rw [if_neg h2] at h
      exact Or.inr h

theorem adlBody_fits (maxSize tokLen base d tokOpts0 b2 length extra : Nat) (blk : Option Nat) (r : AdlRes)
    (hms : maxSize < 2 ^ 62)
    (h : adlBody maxSize tokLen base d tokOpts0 b2 length extra blk = some r) : AdlOk maxSize tokLen r := by
  rcases (adlBody_cases h).2 with ⟨_, sb, hsb, ht⟩ | hn
  · exact adlLgTail_fits _ _ _ _ _ _ _ sb r hms (setup_chunk_le _ _ _ _ _ _ hsb) ht
  · exact adlNoBlock_fits _ _ _ _ _ _ _ r hn

theorem adl_fits (maxSize tokLen optBytes lastOpt : Nat) (blk : Option Nat) (maxBlk length rtagLen : Nat) (r : AdlRes)
    (hms : maxSize < 2 ^ 62)
    (h : addDataLarge maxSize tokLen optBytes lastOpt blk maxBlk length rtagLen = some r) : AdlOk maxSize tokLen r :=
  adlBody_fits _ _ _ _ _ _ _ _ _ r hms h

end Coap.Block
