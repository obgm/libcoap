import CoapVerif.Spec.Oscore
import CoapVerif.Model.Oscore
/- Helper lemmas for C14: key-stream xor, CCM structure, the flag byte of the OSCORE option, option lists sorted by number,
when `protectRequest` / `protectResponse` succeed. -/
namespace Coap
open Coap.Spec.Crypto Coap.Spec.Oscore

theorem xorKs_length (a ks : Bytes) : (xorKs a ks).length = a.length := by
  induction a generalizing ks with
  | nil => cases ks <;> simp [xorKs]
  | cons x a ih => cases ks <;> simp [xorKs, ih]

theorem xorKs_xorKs (a ks : Bytes) : xorKs (xorKs a ks) ks = a := by
  induction a generalizing ks with
  | nil => cases ks <;> simp [xorKs]
  | cons x a ih => cases ks <;> simp [xorKs, ih, UInt8.xor_assoc]

theorem xorKs_inj (a b ks : Bytes) (h : xorKs a ks = xorKs b ks) : a = b := by
  have := congrArg (fun x => xorKs x ks) h
  simpa [xorKs_xorKs] using this

theorem ccmTag_length (E : Bytes → Bytes) (M : Nat) (n a p : Bytes) : (ccmTag E M n a p).length = M := by
  simp [ccmTag, fit]

theorem ccmCtr_length (E : Bytes → Bytes) (n p : Bytes) : (ccmCtr E n p).length = p.length := by
  simp [ccmCtr, xorKs_length]

theorem ccmCtr_ccmCtr (E : Bytes → Bytes) (n p : Bytes) : ccmCtr E n (ccmCtr E n p) = p := by
  simp only [ccmCtr, xorKs_length, xorKs_xorKs]

/-- the fields of a flag byte 0 0 0 h k n (RFC 8613 §6.1) as `optEncode` writes it -/
theorem flag_fields (n : Nat) (h k : Bool) (hn : n < 8) {f : Nat} (hf : f = n + (if h then 16 else 0) + (if k then 8 else 0)) :
    f % 8 = n ∧ f / 32 = 0 ∧ (f / 16 % 2 = 1 ↔ h = true) ∧ (f / 8 % 2 = 1 ↔ k = true) ∧ f < 256 := by
  have e : f = n + h.toNat * 16 + k.toNat * 8 := by
    rw [hf]; cases h <;> cases k <;> rfl
  have hh := Bool.toNat_le h
  have hk := Bool.toNat_le k
  rw [← Bool.toNat_eq_one, ← Bool.toNat_eq_one (b := k)]
  omega

abbrev Opt := Nat × Bytes
def leNum : Opt → Opt → Bool := fun a b => decide (a.1 ≤ b.1)

/-- ties do no harm: `q` looks at the number only, so options with equal numbers fall on the same side -/
theorem merge_filter_sorted (q : Nat → Bool) (l : List Opt) (hs : l.Pairwise (fun a b => a.1 ≤ b.1)) :
    List.merge (l.filter fun o => q o.1) (l.filter fun o => !q o.1) (fun a b => decide (a.1 ≤ b.1)) = l := by
  induction l with
  | nil => simp
  | cons x t ih =>
    rw [List.pairwise_cons] at hs
    have ih := ih hs.2
    by_cases hx : q x.1 = true
    · simp only [List.filter_cons, hx, if_true, Bool.not_true, Bool.false_eq_true, if_false]
      cases hB : (t.filter fun o => !q o.1) with
      | nil => rw [hB, List.merge_right] at ih; rw [List.merge_right, ih]
      | cons y B =>
        have hy : y ∈ t := by
          have : y ∈ (t.filter fun o => !q o.1) := by rw [hB]; simp
          exact (List.mem_filter.mp this).1
        rw [List.cons_merge_cons]
        simp only [decide_eq_true_eq, hs.1 y hy, if_true]
        rw [← hB, ih]
    · have hx' : q x.1 = false := by simpa using hx
      simp only [List.filter_cons, hx', Bool.false_eq_true, if_false, Bool.not_false, if_true]
      cases hA : (t.filter fun o => q o.1) with
      | nil => rw [hA, List.nil_merge] at ih; rw [List.nil_merge, ih]
      | cons a A =>
        have ha : a ∈ (t.filter fun o => q o.1) := by rw [hA]; simp
        have ha' := List.mem_filter.mp ha
        have hne : ¬ a.1 ≤ x.1 := by
          intro hle
          have : a.1 = x.1 := Nat.le_antisymm hle (hs.1 a ha'.1)
          rw [this, hx'] at ha'
          exact absurd ha'.2 (by simp)
        rw [List.cons_merge_cons]
        simp only [decide_eq_true_eq, hne, if_false]
        rw [← hA, ih]

theorem classE_of_classUOnly {n : Nat} (h : classUOnly n = true) : classE n = false := by
  simp only [classUOnly, Bool.or_eq_true, decide_eq_true_eq] at h
  rcases h with ((((h | h) | h) | h) | h) | h
  all_goals subst h; rfl

/-- of what the sender leaves outside (class U only and Observe), the recipient keeps the class U only options: Observe is class E -/
theorem keep_outer (n : Nat) :
    ((!classE n && decide (n ≠ 9)) && ((classUOnly n || decide (n = 6)) && decide (n ≠ 9))) =
      (classUOnly n && decide (n ≠ 9)) := by
  cases hu : classUOnly n with
  | true => rw [classE_of_classUOnly hu, Bool.not_false, Bool.true_and, Bool.true_or, Bool.true_and, Bool.and_self]
  | false =>
    -- Observe is class E
    by_cases h6 : n = 6
    · subst h6; rfl
    · rw [decide_eq_false h6, Bool.false_or, Bool.false_and, Bool.and_false]

theorem filter_le_append (c : Nat) (l : List Opt) (hs : l.Pairwise (fun a b => a.1 ≤ b.1)) :
    l.filter (fun o => decide (o.1 ≤ c)) ++ l.filter (fun o => decide (c < o.1)) = l := by
  induction l with
  | nil => simp
  | cons x t ih =>
    rw [List.pairwise_cons] at hs
    have ih := ih hs.2
    by_cases hx : x.1 ≤ c
    · have hx2 : ¬ c < x.1 := by omega
      simp only [List.filter_cons, hx, hx2, decide_true, decide_false, if_true, Bool.false_eq_true, if_false, List.cons_append, ih]
    · have hx2 : c < x.1 := by omega
      have h1 : t.filter (fun o => decide (o.1 ≤ c)) = [] := by
        rw [List.filter_eq_nil_iff]; intro a ha; have := hs.1 a ha; simp; omega
      have h2 : t.filter (fun o => decide (c < o.1)) = t := by
        rw [List.filter_eq_self]; intro a ha; have := hs.1 a ha; simp; omega
      simp only [List.filter_cons, hx, hx2, decide_true, decide_false, if_true, Bool.false_eq_true, if_false, h1, h2, List.nil_append]

theorem filter_comm' (p q : Opt → Bool) (l : List Opt) : (l.filter p).filter q = (l.filter q).filter p := by
  simp only [List.filter_filter]
  apply List.filter_congr
  intro o _
  exact Bool.and_comm _ _

theorem kept_outer_eq (os : List Opt) (ov : Bytes) (hs : os.Pairwise (fun a b => a.1 ≤ b.1)) :
    (withOscore (outerOpts os) ov).filter (fun o => !classE o.1 && decide (o.1 ≠ optOscore)) =
      os.filter (fun o => classUOnly o.1 && decide (o.1 ≠ 9)) := by
  have hL : ((outerOpts os).filter (fun o => !classE o.1 && decide (o.1 ≠ 9))) =
      os.filter (fun o => classUOnly o.1 && decide (o.1 ≠ 9)) := by
    unfold outerOpts
    rw [List.filter_filter]
    apply List.filter_congr
    intro o _
    exact keep_outer o.1
  have hsL : (os.filter (fun o => classUOnly o.1 && decide (o.1 ≠ 9))).Pairwise (fun a b => a.1 ≤ b.1) :=
    List.Pairwise.filter _ hs
  have hsplit := filter_le_append 9 _ hsL
  have hB : (fun o : Opt => decide (¬ o.1 ≤ optOscore)) = (fun o => decide (9 < o.1)) := by
    funext o; simp
  have hsing : [((optOscore, ov) : Opt)].filter (fun o => !classE o.1 && decide (o.1 ≠ optOscore)) = [] := by
    simp
  unfold withOscore
  rw [List.filter_append, List.filter_append, hsing, List.append_nil, hB,
    filter_comm' _ _ (outerOpts os), filter_comm' (fun o => decide (9 < o.1)) _ (outerOpts os), hL]
  exact hsplit

/-! ### when `protectRequest` / `protectResponse` produce a message -/

theorem no_oscore_of_any {os : List Opt} (h : (os.any fun o => decide (o.1 = optOscore)) = false) :
    ∀ o ∈ os, o.1 ≠ optOscore :=
  fun o ho e => List.any_eq_false.mp h o ho (decide_eq_true e)

theorem lt_of_le_maxSeq {n : Nat} (h : n ≤ maxSeq) : n < 2 ^ 40 :=
  Nat.lt_of_le_of_lt h (by decide)

theorem protectRequest_some {cipher : Bytes → Bytes → Bytes} {c : Ctx} {m : Msg} {seq : Nat} {r : Msg × Binding}
    (h : protectRequest cipher c m seq = some r) :
    (m.opts.any fun o => decide (o.1 = optOscore)) = false ∧ seq ≤ maxSeq ∧
    r = ({ m with code := if hasObserve m.opts then 5 else 2,
                  opts := withOscore (outerOpts m.opts) (optEncode ⟨pivBytes seq, c.idctx, some c.sid⟩),
                  payload := aeadSeal cipher c.senderKey (nonce c.commonIV c.sid (pivBytes seq)) (aad c.alg c.sid (pivBytes seq))
                    (encPlain m.code (innerOpts true m.opts) m.payload) },
         ⟨c.sid, pivBytes seq, nonce c.commonIV c.sid (pivBytes seq)⟩) := by
  unfold protectRequest at h
  cases h1 : m.opts.any fun o => decide (o.1 = optOscore) with
  | true => rw [h1, if_pos rfl] at h; cases h
  | false =>
    by_cases h2 : seq > maxSeq
    · rw [h1, if_neg Bool.false_ne_true, if_pos h2] at h; cases h
    · rw [h1, if_neg Bool.false_ne_true, if_neg h2] at h
      exact ⟨rfl, Nat.le_of_not_gt h2, (Option.some.inj h).symm⟩

/-- type, message id and code are the outer message's own business (D14.7): they are `r`'s -/
theorem protectResponse_some {cipher : Bytes → Bytes → Bytes} {c : Ctx} {b : Binding} {m : Msg} {seq sepMid : Option Nat}
    {r : Msg} (h : protectResponse cipher c b m seq sepMid = some r) :
    (m.opts.any fun o => decide (o.1 = optOscore)) = false ∧ (∀ n, seq = some n → n ≤ maxSeq) ∧
    r = { m with type := r.type, mid := r.mid, code := r.code,
                 opts := withOscore (outerOpts m.opts) (optEncode ⟨seq.elim [] pivBytes, none, none⟩),
                 payload := aeadSeal cipher c.senderKey (seq.elim b.nonce fun n => nonce c.commonIV c.sid (pivBytes n))
                   (aad c.alg b.kid b.piv) (encPlain m.code (innerOpts false m.opts) m.payload) } := by
  unfold protectResponse at h
  cases h1 : m.opts.any fun o => decide (o.1 = optOscore) with
  | true => rw [h1, if_pos rfl] at h; cases h
  | false =>
    rw [h1, if_neg Bool.false_ne_true] at h
    cases seq with
    | none =>
      rw [if_neg Bool.false_ne_true] at h
      cases Option.some.inj h
      exact ⟨rfl, nofun, rfl⟩
    | some n =>
      by_cases h2 : n > maxSeq
      · rw [if_pos (decide_eq_true h2)] at h; cases h
      · rw [if_neg (show ¬ decide (n > maxSeq) = true from fun e => h2 (of_decide_eq_true e))] at h
        cases Option.some.inj h
        exact ⟨rfl, fun _ e => Option.some.inj e ▸ Nat.le_of_not_gt h2, rfl⟩

end Coap
