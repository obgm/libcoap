import CoapVerif.Lemmas.TlsMoves
/-
C19 helper lemmas: the serial-number LEDGER of the delay queue.

Every message the application submits carries a ghost serial number (`QMsg.sn`, handed out from `Sess.next`); every NACK
that names a message and every PDU written carries the serial of its message.  `Core` is the ledger invariant of the phase
before the TLS library has reported a completed handshake; `Both` = the gate invariant `Inv` together with
"the oracle has reported success, or `Core`".  `Core` is kept by every move of M (`Mv`, Lemmas/TlsMoves.lean) that does not leave the
gate open (`g' = false`) as long as the oracle's success is not in the trace afterwards (`core_mv`; the moves that put a node on the send
queue exist only behind the gate and break it); `Both` is closed under every walk that starts with nothing in a local variable
(`both_mv`, `stepCtx_both`).
-/
namespace Coap.TlsGate
open Ctx

/-- does this output REPORT the message with ghost serial `j` to the application as failed: a NACK that names it.  The
COAP_NACK_ICMP_ISSUE notification is advisory — coap_session_disconnected_lkd returns before it touches the queues, the
message stays queued — and is not a report. -/
def Out.reports (j : Nat) : Out → Bool
  | .nack r (some _) (some i) => i == j && r != .icmp
  | _ => false

def nk (j : Nat) (l : List Out) : Nat := l.countP (Out.reports j)

/-- is this output a PDU of message `j` handed to the transport (first transmission or not)? -/
def Out.writes (j : Nat) : Out → Bool
  | .tx _ _ (some i) _ => i == j
  | _ => false

def wr (j : Nat) (l : List Out) : Nat := l.countP (Out.writes j)

@[simp] theorem nk_nil (j : Nat) : nk j [] = 0 := rfl
theorem nk_append (j : Nat) (a b : List Out) : nk j (a ++ b) = nk j a + nk j b := by simp [nk, List.countP_append]

theorem nk_quiet (j : Nat) (l : List Out) (h : ∀ o ∈ l, o.reports j = false) : nk j l = 0 := by
  unfold nk
  rw [List.countP_eq_zero]
  intro o ho
  simp [h o ho]

def Out.quiet (o : Out) : Prop := ∀ j, o.reports j = false

theorem nk_quiet_all (l : List Out) (hq : ∀ o ∈ l, o.quiet) (j : Nat) : nk j l = 0 :=
  nk_quiet j l fun o ho => hq o ho j

theorem reports_nackOf (j : Nat) (r : Nack) (q : QMsg) : (nackOf r q).reports j = (q.sn == j && r != .icmp) := rfl

theorem nk_map_nackOf (j : Nat) (r : Nack) (hr : r ≠ .icmp) (l : List QMsg) :
    nk j (l.map (nackOf r)) = l.countP (fun q => q.sn == j) := by
  unfold nk
  rw [List.countP_map]
  congr 1
  funext q
  simp [reports_nackOf, hr]

theorem count_le_one_of_sorted (l : List Nat) (h : l.Pairwise (· < ·)) (a : Nat) : l.count a ≤ 1 :=
  List.nodup_iff_count.mp (h.imp Nat.ne_of_lt) a

theorem sorted_append_disjoint (a b : List Nat) (h : (a ++ b).Pairwise (· < ·)) (x : Nat) (ha : x ∈ a) (hb : x ∈ b) : False :=
  Nat.lt_irrefl _ ((List.pairwise_append.mp h).2.2 x ha x hb)

theorem countP_sn_le_one (l : List QMsg) (hs : (l.map (·.sn)).Pairwise (· < ·)) (j : Nat) :
    l.countP (fun q => q.sn == j) ≤ 1 := by
  have h := count_le_one_of_sorted _ hs j
  rw [List.count, List.countP_map] at h
  exact h

theorem countP_sn_pos (l : List QMsg) (q : QMsg) (hq : q ∈ l) : 0 < l.countP (fun x => x.sn == q.sn) :=
  List.countP_pos_iff.mpr ⟨q, hq, by simp⟩

theorem countP_sn_one (l : List QMsg) (hnd : (l.map (·.sn)).Nodup) (q : QMsg) (hq : q ∈ l) :
    l.countP (fun m => m.sn == q.sn) = 1 := by
  have h1 := List.nodup_iff_count.mp hnd q.sn
  rw [List.count, List.countP_map] at h1
  exact Nat.le_antisymm h1 (countP_sn_pos l q hq)

theorem countP_sn_zero (l : List QMsg) (j : Nat) (h : ∀ q ∈ l, q.sn ≠ j) : l.countP (fun x => x.sn == j) = 0 := by
  rw [List.countP_eq_zero]
  intro x hx
  simpa using h x hx

theorem countP_sn_mem (l : List QMsg) (j : Nat) (h : 0 < l.countP (fun x => x.sn == j)) : ∃ q ∈ l, q.sn = j := by
  obtain ⟨q, hq, he⟩ := List.countP_pos_iff.mp h
  exact ⟨q, hq, by simpa using he⟩

/-- the ledger before the oracle's success.  `n0 j` = how often message `j` was reported in EARLIER events (`c.out` holds this event's
outputs only: `core_rebase`); `t`: the message with serial `k` is being tracked -/
structure Core (n0 : Nat → Nat) (t : Bool) (k : Nat) (c : Ctx) : Prop where
  /-- nothing is in flight: nothing has been written -/
  infl : c.s.inflight = []
  /-- the delay queue holds the submissions in SUBMISSION ORDER (serials strictly increasing: each once) -/
  srt : (c.s.delayq.map (·.sn)).Pairwise (· < ·)
  lt : ∀ q ∈ c.s.delayq, q.sn < c.s.next
  lgl : ∀ g ∈ c.s.lgCrcv, g.sn < c.s.next
  /-- a Confirmable with an lg_crcv entry is in the delay queue -/
  lgc : ∀ g ∈ c.s.lgCrcv, g.con = true → g ∈ c.s.delayq
  /-- NO message is ever reported twice -/
  n1 : ∀ j, n0 j + nk j c.out ≤ 1
  /-- what is queued has not been reported -/
  nq : ∀ q ∈ c.s.delayq, n0 q.sn + nk q.sn c.out = 0
  ng : ∀ g ∈ c.s.lgCrcv, n0 g.sn + nk g.sn c.out = 0
  nf : ∀ j, c.s.next ≤ j → n0 j + nk j c.out = 0
  /-- the tracked Confirmable: still queued on a session that has not failed and is not freed, or gone and reported ONCE -/
  trk : t = true → (∃ q ∈ c.s.delayq, q.sn = k ∧ q.con = true ∧ c.s.state ≠ .none ∧ c.s.freed = false) ∨
                   ((∀ q ∈ c.s.delayq, q.sn ≠ k) ∧ n0 k + nk k c.out = 1)

theorem core_keep {n0 t k} {c c' : Ctx} (h : Core n0 t k c) (hdq : c'.s.delayq = c.s.delayq) (hin : c'.s.inflight = c.s.inflight)
    (hlg : ∀ g ∈ c'.s.lgCrcv, g ∈ c.s.lgCrcv) (hnx : c.s.next ≤ c'.s.next)
    (hst : c'.s.state = .none → c.s.state = .none) (hfr : c'.s.freed = c.s.freed)
    (hout : ∀ j, nk j c'.out = nk j c.out) : Core n0 t k c' := by
  refine ⟨by rw [hin, h.infl], by rw [hdq]; exact h.srt, ?_, ?_, ?_, ?_, ?_, ?_, ?_, ?_⟩
  · intro q hq; rw [hdq] at hq; have := h.lt q hq; omega
  · intro g hg; have := h.lgl g (hlg g hg); omega
  · intro g hg hc; rw [hdq]; exact h.lgc g (hlg g hg) hc
  · intro j; rw [hout]; exact h.n1 j
  · intro q hq; rw [hdq] at hq; rw [hout]; exact h.nq q hq
  · intro g hg; rw [hout]; exact h.ng g (hlg g hg)
  · intro j hj; rw [hout]; exact h.nf j (by omega)
  · intro ht
    rcases h.trk ht with ⟨q, hq, h1, h2, h3, h4⟩ | ⟨h1, h2⟩
    · exact Or.inl ⟨q, by rw [hdq]; exact hq, h1, h2, fun hn => h3 (hst hn), by rw [hfr]; exact h4⟩
    · exact Or.inr ⟨by rw [hdq]; exact h1, by rw [hout]; exact h2⟩

/-- `m` is a message that has just been given a serial -/
structure Fresh (n0 : Nat → Nat) (m : QMsg) (c : Ctx) : Prop where
  dq : ∀ q ∈ c.s.delayq, q.sn < m.sn
  lg : ∀ g ∈ c.s.lgCrcv, g.sn < m.sn
  nx : m.sn < c.s.next
  nk0 : n0 m.sn + nk m.sn c.out = 0

theorem core_enq {n0 t k} {c : Ctx} {m : QMsg} (h : Core n0 t k c) (hf : Fresh n0 m c) :
    Core n0 t k (c.upd fun s => { s with delayq := s.delayq ++ [m] }) := by
  obtain ⟨f1, f2, f3, f4⟩ := hf
  have mem : ∀ {q : QMsg}, q ∈ c.s.delayq ++ [m] → q ∈ c.s.delayq ∨ q = m := fun hq => by simpa using hq
  refine ⟨h.infl, ?_, fun q hq => ?_, h.lgl, fun g hg hc => List.mem_append_left _ (h.lgc g hg hc), h.n1, fun q hq => ?_, h.ng, h.nf, fun ht => ?_⟩
  · show ((c.s.delayq ++ [m]).map (·.sn)).Pairwise (· < ·)
    rw [List.map_append, List.pairwise_append]
    refine ⟨h.srt, by simp, ?_⟩
    intro x hx y hy
    obtain ⟨q, hq, rfl⟩ := List.mem_map.mp hx
    simp at hy; subst hy
    exact f1 q hq
  · rcases mem hq with hq | rfl
    · exact h.lt q hq
    · exact f3
  · rcases mem hq with hq | rfl
    · exact h.nq q hq
    · exact f4
  · rcases h.trk ht with ⟨q, hq, h1, h2, h3, h4⟩ | ⟨h1, h2⟩
    · exact Or.inl ⟨q, List.mem_append_left _ hq, h1, h2, h3, h4⟩
    · refine Or.inr ⟨fun q hq => ?_, h2⟩
      rcases mem hq with hq | rfl
      · exact h1 q hq
      · intro he; rw [he] at f4; omega

/-- the delay queue is given up (coap_session_disconnected_lkd for any reason but ICMP, coap_session_mfree): every
Confirmable in it is NACKed — `e j` = how often what else is reported names `j`: nothing, or, if the queue held no Confirmable, one
lg_crcv entry's request —, both queues and the lg_crcv list are empty afterwards, the session is in state NONE or freed -/
theorem core_flushq {n0 t k} {c c' : Ctx} (h : Core n0 t k c) (e : Nat → Nat)
    (hx : (∀ j, e j = 0) ∨
          ((c.s.delayq.filter fun q : QMsg => q.con) = [] ∧ ∃ g ∈ c.s.lgCrcv, ∀ j, e j = if g.sn = j then 1 else 0))
    (hdq : c'.s.delayq = []) (hin : c'.s.inflight = []) (hlg : c'.s.lgCrcv = []) (hnx : c'.s.next = c.s.next)
    (hcnt : ∀ j, nk j c'.out = nk j c.out + ((c.s.delayq.filter fun q : QMsg => q.con).countP (fun q => q.sn == j) + e j)) :
    Core n0 t k c' := by
  have hsub : ((c.s.delayq.filter fun q : QMsg => q.con).map (·.sn)).Pairwise (· < ·) :=
    List.Pairwise.sublist (List.Sublist.map _ List.filter_sublist) h.srt
  have hle := fun j => countP_sn_le_one _ hsub j
  have hone : ∀ j, n0 j + (nk j c.out + ((c.s.delayq.filter fun q : QMsg => q.con).countP (fun q => q.sn == j) + e j)) ≤ 1 := by
    intro j
    rcases hx with hx | ⟨hf, g, hg, hx⟩
    · rw [hx j]
      by_cases hp : 0 < (c.s.delayq.filter fun q : QMsg => q.con).countP (fun q => q.sn == j)
      · obtain ⟨q, hq, rfl⟩ := countP_sn_mem _ _ hp
        have := h.nq q (List.mem_filter.mp hq).1
        have := hle q.sn
        omega
      · have := h.n1 j; omega
    · rw [hx j, hf]
      by_cases hj : g.sn = j
      · subst hj; have := h.ng g hg; simp only [if_true, List.countP_nil]; omega
      · have := h.n1 j; simp only [if_neg hj, List.countP_nil]; omega
  refine ⟨hin, by rw [hdq]; simp, by rw [hdq]; simp, by rw [hlg]; simp, by rw [hlg]; simp, ?_, by rw [hdq]; simp,
    by rw [hlg]; simp, ?_, ?_⟩
  · intro j; rw [hcnt]; exact hone j
  · intro j hj; rw [hnx] at hj; rw [hcnt]
    have h0 := h.nf j hj
    have h1 : (c.s.delayq.filter fun q : QMsg => q.con).countP (fun q => q.sn == j) = 0 := by
      apply countP_sn_zero
      intro q hq he
      have := h.lt q (List.mem_filter.mp hq).1
      omega
    rcases hx with hx | ⟨hf, g, hg, hx⟩
    · rw [hx j]; omega
    · have := h.lgl g hg
      have hne : g.sn ≠ j := by omega
      rw [hx j, if_neg hne]; omega
  · intro ht
    refine Or.inr ⟨by rw [hdq]; simp, ?_⟩
    rw [hcnt]
    rcases h.trk ht with ⟨q, hq, h1, h2, _, _⟩ | ⟨h1, h2⟩
    · subst h1
      have hqf : q ∈ c.s.delayq.filter fun q : QMsg => q.con := List.mem_filter.mpr ⟨hq, by simpa using h2⟩
      have hp := countP_sn_pos _ q hqf
      have := hone q.sn
      have := h.nq q hq
      omega
    · have := hone k
      omega

/-! ## steps inside the TLS layer -/

theorem Out.silent_reports {o : Out} (h : o.silent = true) (j : Nat) : o.reports j = false := by
  cases o <;> first | rfl | cases h

theorem Tame.nk {c c' : Ctx} (t : Tame c c') (j : Nat) : nk j c'.out = nk j c.out := by
  obtain ⟨l, ho, hs, _⟩ := t.out
  rw [ho, nk_append, nk_quiet j l fun o ho => Out.silent_reports (hs o ho) j, Nat.add_zero]

theorem core_tame {n0 t k} {c c' : Ctx} (h : Core n0 t k c) (tm : Tame c c') : Core n0 t k c' :=
  core_keep h tm.dq tm.infl (fun _ hg => tm.lg ▸ hg) (Nat.le_of_eq tm.nx.symm) tm.stN tm.fr tm.nk

section
variable {m0 : Mon} {n0 : Nat → Nat} {b t : Bool} {k : Nat} {c : Ctx}

/-! ## giving the delay queue up: coap_session_disconnected_lkd, coap_session_mfree -/

/-- is `j` the serial of the first node of the send queue (1) or not (0): the node the first loop of
coap_session_disconnected_lkd reports -/
def headSn (l : List QMsg) (j : Nat) : Nat :=
  match l with
  | q0 :: _ => if q0.sn = j then 1 else 0
  | [] => 0

theorem nk_anon (j : Nat) (r : Nack) (P : Prop) [Decidable P] : nk j (if P then [Out.nack r none none] else []) = 0 := by
  split <;> rfl

theorem nk_discFirst (r : Nack) (hr : r ≠ .icmp) (j : Nat) : nk j (c.discFirst r) = headSn c.s.inflight j := by
  unfold Ctx.discFirst headSn
  cases c.s.inflight with
  | nil => rfl
  | cons q0 tl => by_cases hj : q0.sn = j <;> simp [nk, reports_nackOf, hr, hj]

/-- how often one call of coap_session_disconnected_lkd (not ICMP) names serial `j`, in EVERY state: once if it is the head of the
send queue, once per Confirmable with that serial in either queue, and what the lg_crcv report adds -/
theorem disc_nk (r : Nack) (hr : r ≠ .icmp) (j : Nat) :
    nk j (c.discOuts r ++ (c.s.inflight.filter fun q : QMsg => q.con).map (nackOf r)) =
      headSn c.s.inflight j + (c.s.delayq.filter fun q : QMsg => q.con).countP (fun q => q.sn == j) + nk j (c.discLg r) +
        (c.s.inflight.filter fun q : QMsg => q.con).countP (fun q => q.sn == j) := by
  unfold Ctx.discOuts Ctx.discDq
  simp only [if_neg hr, nk_append, nk_anon, nk_map_nackOf j r hr, nk_discFirst r hr, Nat.add_zero]

theorem disconnected_nk (r : Nack) (hr : r ≠ .icmp) (j : Nat) :
    nk j (c.disconnected r).out =
      nk j c.out + nk j (c.discOuts r ++ (c.s.inflight.filter fun q : QMsg => q.con).map (nackOf r)) := by
  rw [((disconnected_cases r c).resolve_left fun e => hr e.1).2.nk j]
  simp only [discCore, Ctx.upd, nk_append, Nat.add_assoc]

theorem disconnected_queues (r : Nack) (hr : r ≠ .icmp) :
    (c.disconnected r).s.delayq = [] ∧ (c.disconnected r).s.inflight = [] :=
  have tm := ((disconnected_cases r c).resolve_left fun e => hr e.1).2
  ⟨tm.dq, tm.infl⟩

theorem discOuts_icmp_quiet (c : Ctx) : ∀ o ∈ c.discOuts .icmp, o.quiet := by
  intro o ho j
  rcases discOuts_nack .icmp c o ho with ⟨q, rfl⟩ | rfl
  · simp [reports_nackOf]
  · rfl

theorem disconnected_core (r : Nack) (h : Core n0 t k c) : Core n0 t k (c.disconnected r) := by
  rcases disconnected_cases r c with ⟨hr, e⟩ | ⟨hr, tm⟩
  · rw [e]
    subst hr
    refine core_keep h rfl rfl (fun _ hg => hg) (Nat.le_refl _) id rfl fun j => ?_
    show nk j (c.out ++ c.discOuts .icmp) = nk j c.out
    rw [nk_append, nk_quiet_all _ (discOuts_icmp_quiet c) j, Nat.add_zero]
  · refine core_tame (core_flushq (c' := discCore c r) h (fun j => nk j (c.discLg r)) ?_ rfl rfl rfl rfl fun j => ?_) tm
    · -- the lg_crcv report: only if the delay queue held no Confirmable, and then the first entry's request
      unfold Ctx.discLg Ctx.discFirst Ctx.discDq
      rw [h.infl, if_neg hr]
      by_cases hf : (c.s.delayq.filter fun q : QMsg => q.con) = []
      · cases hl : c.s.lgCrcv with
        | nil => left; intro j; simp [hf]
        | cons g t' =>
          right
          refine ⟨hf, g, List.mem_cons_self .., fun j => ?_⟩
          by_cases hj : g.sn = j <;> simp [hf, nk, reports_nackOf, hr, hj]
      · left; intro j; simp [hf]
    · show nk j (c.out ++ c.discOuts r ++ (c.s.inflight.filter fun q : QMsg => q.con).map (nackOf r)) = _
      rw [List.append_assoc, nk_append, disc_nk r hr, h.infl]
      simp [headSn]

theorem sessionFree_core (h : Core n0 t k c) : Core n0 t k c.sessionFree := by
  unfold Ctx.sessionFree
  simp only
  have h1 : Core n0 t k (c.upd fun s => { s with lgCrcv := [] }) :=
    core_keep h rfl rfl (fun _ hg => by cases hg) (Nat.le_refl _) id rfl fun _ => rfl
  have h2 := core_tame h1 (tame_sessionClose _)
  have hl2 : (c.upd fun s => { s with lgCrcv := [] }).sessionClose.s.lgCrcv = [] := (tame_sessionClose _).lg
  generalize (c.upd fun s => { s with lgCrcv := [] }).sessionClose = c2 at h2 hl2
  have hr : (if c2.s.proto = .dtls then Nack.tls else Nack.undeliv) ≠ .icmp := by split <;> decide
  exact core_flushq h2 (fun _ => 0) (Or.inl fun _ => rfl) rfl h2.infl hl2 rfl fun j => by
    simp [Ctx.upd, nk_append, nk_map_nackOf j _ hr]

/-! ## coap_send before the oracle's success: held or refused -/

/-- coap_send_pdu on a session that is not established: refused (server session in state NONE, message id already
waiting) or appended to the delay queue -/
theorem sendPdu_pre (m : QMsg) (ack : Bool) (c : Ctx) (hs : c.s.state ≠ .established) :
    c.sendPdu m ack false = c.setRet (-1) ∨
    c.sendPdu m ack false = (c.upd fun s => { s with delayq := s.delayq ++ [m] }).setRet DELAYED := by
  unfold Ctx.sendPdu
  split
  · exact Or.inl rfl
  · split
    · unfold Ctx.delayPdu
      simp only [Bool.false_eq_true, if_false]
      split
      · exact Or.inl rfl
      · exact Or.inr rfl
    · rename_i hne
      simp [hs] at hne

theorem sendInternal_pre (m : QMsg) (ack : Bool) (c : Ctx) (hs : c.s.state ≠ .established) :
    c.sendInternal m ack = (c.setRet (-1)).emit .sendfail ∨
    c.sendInternal m ack = (c.upd fun s => { s with delayq := s.delayq ++ [m] }).setRet DELAYED := by
  unfold Ctx.sendInternal
  rcases sendPdu_pre m ack c hs with e | e <;> simp only [e]
  · left; simp [Ctx.setRet, DELAYED]
  · right; simp [Ctx.setRet]

/-! ## through M: the ledger is closed under every move -/

theorem fresh_next (m : QMsg) (hm : m.sn = c.s.next) (h : Core n0 t k c) :
    Fresh n0 m (c.upd fun s => { s with next := s.next + 1 }) :=
  ⟨fun q hq => by rw [hm]; exact h.lt q hq, fun g hg => by rw [hm]; exact h.lgl g hg, by rw [hm]; exact Nat.lt_succ_self _,
   by rw [hm]; exact h.nf _ (Nat.le_refl _)⟩

theorem core_next (h : Core n0 t k c) : Core n0 t k (c.upd fun s => { s with next := s.next + 1 }) :=
  core_keep h rfl rfl (fun _ hg => hg) (Nat.le_succ _) id rfl fun _ => rfl

theorem Fresh.mono {m : QMsg} {c' : Ctx} (h : Fresh n0 m c) (hdq : ∀ q ∈ c'.s.delayq, q ∈ c.s.delayq)
    (hlg : ∀ g ∈ c'.s.lgCrcv, g ∈ c.s.lgCrcv) (hnx : c.s.next ≤ c'.s.next) (hnk : nk m.sn c'.out = nk m.sn c.out) : Fresh n0 m c' :=
  ⟨fun q hq => h.dq q (hdq q hq), fun g hg => h.lg g (hlg g hg), Nat.lt_of_lt_of_le h.nx hnx, by rw [hnk]; exact h.nk0⟩

theorem fresh_disc {m : QMsg} (r : Nack) (hc : Core n0 t k c) (hf : Fresh n0 m c) : Fresh n0 m (c.disconnected r) := by
  rcases disconnected_cases r c with ⟨hr, e⟩ | ⟨hr, tm⟩
  · rw [e]
    subst hr
    refine hf.mono (fun _ h => h) (fun _ h => h) (Nat.le_refl _) ?_
    show nk m.sn (c.out ++ c.discOuts .icmp) = _
    rw [nk_append, nk_quiet_all _ (discOuts_icmp_quiet c), Nat.add_zero]
  · have h0 : Fresh n0 m (discCore c r) := by
      refine ⟨fun _ h => (nomatch h), fun _ h => (nomatch h), hf.nx, ?_⟩
      show n0 m.sn + nk m.sn (c.out ++ c.discOuts r ++ (c.s.inflight.filter fun q : QMsg => q.con).map (nackOf r)) = 0
      have h1 := countP_sn_zero (c.s.delayq.filter fun q : QMsg => q.con) m.sn fun q hq =>
        Nat.ne_of_lt (hf.dq q (List.mem_filter.mp hq).1)
      have h2 : nk m.sn (c.discLg r) = 0 := nk_quiet _ _ fun o ho => by
        obtain ⟨_, g, tl, hl, rfl⟩ := mem_discLg ho
        have := hf.lg g (hl ▸ List.mem_cons_self ..)
        simp [reports_nackOf]; omega
      rw [List.append_assoc, nk_append, disc_nk r hr, hc.infl, h1, h2]
      exact hf.nk0
    exact h0.mono (fun _ h => tm.dq ▸ h) (fun _ h => tm.lg ▸ h) (Nat.le_of_eq tm.nx.symm) (tm.nk _)

theorem core_lgPush {m : QMsg} (h : Core n0 t k c) (hm : m ∈ c.s.delayq) :
    Core n0 t k (c.upd fun s => { s with lgCrcv := m :: s.lgCrcv }) := by
  exact ⟨h.infl, h.srt, h.lt, fun g hg => (List.mem_cons.mp hg).elim (fun e => e ▸ h.lt m hm) (h.lgl g),
    fun g hg hc => (List.mem_cons.mp hg).elim (fun e => e ▸ hm) fun hg' => h.lgc g hg' hc, h.n1, h.nq,
    fun g hg => (List.mem_cons.mp hg).elim (fun e => e ▸ h.nq m hm) (h.ng g), h.nf, h.trk⟩

/-- the ledger of the handshake phase with the ghost state of `Mv`: no node is off a queue (nothing is in flight, nothing has been
written), the PDU inside coap_send_internal is fresh -/
structure CoreF (n0 : Nat → Nat) (t : Bool) (k : Nat) (f : Option QMsg) (p : List QMsg) (c : Ctx) : Prop where
  core : Core n0 t k c
  stack : p = []
  fresh : ∀ m, f = some m → Fresh n0 m c

/-- every move keeps the ledger of the handshake phase, as long as the gate is not left open and the oracle's success is not in the
trace afterwards.  `hi` serves only the middle of a walk (case `trans`): that the ghost `g` is `false` there too -/
theorem core_mv {g f p c g' f' p' c'} (mv : Mv g f p c g' f' p' c') (hi : Inv m0 g c) (h : CoreF n0 t k f p c) (hg : g' = false)
    (hs : (m0.run c'.out).seen ≠ true) : CoreF n0 t k f' p' c' := by
  have keep : ∀ {c : Ctx} {m : QMsg}, Fresh n0 m c → ∀ f : Sess → Sess, (f c.s).delayq = c.s.delayq → (f c.s).lgCrcv = c.s.lgCrcv →
      c.s.next ≤ (f c.s).next → Fresh n0 m (c.upd f) := fun hf f e1 e2 e3 =>
    hf.mono (fun _ hq => e1 ▸ hq) (fun _ hg => e2 ▸ hg) e3 rfl
  -- nothing is in flight: no node can be found in the send queue
  have noq : ∀ {c : Ctx} {q : QMsg}, Core n0 t k c → q ∈ c.s.inflight → False := fun hc hq => by rw [hc.infl] at hq; cases hq
  induction mv with
  | refl => exact h
  | trans mv1 mv2 ih1 ih2 =>
    -- both hypotheses hold in the middle because they hold at the END: the mark never leaves the trace (`Mv.seen`), and while it
    -- is not there nobody can know of it (`Inv.closed`)
    have hi1 := inv_mv mv1 hi
    have hs1 := fun h1 => hs (mv2.seen h1)
    exact ih2 hi1 (ih1 hi h (hi1.closed hs1) hs1) hg hs
  | tame tm =>
    exact ⟨core_tame h.core tm, h.stack, fun m e => (h.fresh m e).mono (fun _ hq => tm.dq ▸ hq) (fun _ hg => tm.lg ▸ hg)
      (Nat.le_of_eq tm.nx.symm) (tm.nk _)⟩
  | disc c r => exact ⟨disconnected_core r h.core, h.stack, fun m e => fresh_disc r h.core (h.fresh m e)⟩
  | free c => exact ⟨sessionFree_core h.core, h.stack, fun _ e => nomatch e⟩
  | relax => exact absurd (hi.known rfl) hs
  | mint m hm => exact ⟨core_next h.core, h.stack, fun m' e => Option.some.inj e ▸ fresh_next m hm h.core⟩
  | burn => exact ⟨core_next h.core, h.stack, fun m e => keep (h.fresh m e) _ rfl rfl (Nat.le_succ _)⟩
  | enq m => exact ⟨core_enq h.core (h.fresh m rfl), h.stack, fun _ e => nomatch e⟩
  | dropF m => exact ⟨h.core, h.stack, fun _ e => nomatch e⟩
  | detach q hq => exact (noq h.core hq).elim
  | dropN q => exact nomatch h.stack
  | report r q => exact nomatch h.stack
  | @anon _ _ _ c r =>
    have hnk : ∀ j, nk j (c.emit (.nack r none none)).out = nk j c.out := fun j => by
      show nk j (c.out ++ [_]) = _
      rw [nk_append]; rfl
    exact ⟨core_keep h.core rfl rfl (fun _ hg => hg) (Nat.le_refl _) id rfl hnk, h.stack, fun m e =>
      (h.fresh m e).mono (fun _ hq => hq) (fun _ hg => hg) (Nat.le_refl _) (hnk _)⟩
  | bump q q' ca hq _ => exact (noq h.core hq).elim
  | park m hm _ => exact (noq h.core hm).elim
  | @cancel _ _ _ c F ca =>
    refine ⟨core_keep h.core rfl ?_ (fun _ hg => hg) (Nat.le_refl _) id rfl fun _ => rfl, h.stack, fun m e =>
      keep (h.fresh m e) _ rfl rfl (Nat.le_refl _)⟩
    show c.s.inflight.filter F = c.s.inflight
    rw [h.core.infl]; rfl
  | lgSub l hl =>
    exact ⟨core_keep h.core rfl rfl hl (Nat.le_refl _) id rfl fun _ => rfl, h.stack, fun m e =>
      (h.fresh m e).mono (fun _ hq => hq) hl (Nat.le_refl _) rfl⟩
  | lgPush m _ hgm =>
    have hm := hgm.resolve_left (by rw [hg]; decide)
    exact ⟨core_lgPush h.core hm, h.stack, fun m' e => ⟨(h.fresh m' e).dq,
      fun g hg => (List.mem_cons.mp hg).elim (fun e' => e' ▸ (h.fresh m' e).dq m hm) ((h.fresh m' e).lg g), (h.fresh m' e).nx, (h.fresh m' e).nk0⟩⟩
  -- every other move needs the gate open, or opens it
  | _ => exact nomatch hg

/-! ## `Both`: the gate invariant and the ledger together -/

/-- `m0` = the monitor after the earlier events, `b` = the caller knows of the oracle's success (both as in `Inv`); `n0`, `t`, `k` as in `Core` -/
structure Both (m0 : Mon) (n0 : Nat → Nat) (b t : Bool) (k : Nat) (c : Ctx) : Prop where
  inv : Inv m0 b c
  led : (m0.run c.out).seen = true ∨ Core n0 t k c

theorem both_mv {g c g' f' p' c'} (mv : Mv g none [] c g' f' p' c') (h : Both m0 n0 g t k c) : Both m0 n0 g' t k c' := by
  have hi := inv_mv mv h.inv
  by_cases hs : (m0.run c'.out).seen = true
  · exact ⟨hi, Or.inl hs⟩
  · exact ⟨hi, Or.inr (core_mv mv h.inv ⟨h.led.resolve_left fun h0 => hs (mv.seen h0), rfl, fun _ e => nomatch e⟩ (hi.closed hs) hs).core⟩

theorem both_tame {c' : Ctx} (h : Both m0 n0 b t k c) (tm : Tame c c') : Both m0 n0 b t k c' := both_mv (.tame tm) h

theorem both_popRec (h : Both m0 n0 b t k c) : Both m0 n0 b t k c.popRec := both_tame h (tame_popRec c)

theorem stepCtx_both (s : Sess) (e : Ev) (orc : List Orc) (h : Both m0 n0 false t k { s := s, orc := orc }) :
    Both m0 n0 false t k (s.stepCtx e orc) :=
  both_mv (mv_stepCtx s e orc) h

end

/-! ## from one event to the next -/

theorem core_rebase {n0 t k} {c : Ctx} (orc : List Orc) (h : Core n0 t k c) :
    Core (fun j => n0 j + nk j c.out) t k { s := c.s, orc := orc } := by
  exact ⟨h.infl, h.srt, h.lt, h.lgl, h.lgc, by simpa using h.n1, by simpa using h.nq, by simpa using h.ng, by simpa using h.nf, by simpa using h.trk⟩

theorem core_track {n0 t k} {c : Ctx} (h : Core n0 t k c) (q : QMsg) (hq : q ∈ c.s.delayq) (hc : q.con = true)
    (hs : c.s.state ≠ .none) (hf : c.s.freed = false) : Core n0 true q.sn c :=
  { h with trk := fun _ => Or.inl ⟨q, hq, rfl, hc, hs, hf⟩ }

theorem core_untrack {n0 t k} {c : Ctx} (h : Core n0 t k c) : Core n0 false k c :=
  { h with trk := fun ht => by simp at ht }

end Coap.TlsGate

/-! ## whole histories -/

namespace Coap.C19
open Coap.TlsGate

/-- the gate invariant between events: `Inv m false { s := s }` written out (`inv_of_sessOk`, `sessOk_of_inv`) -/
structure SessOk (m : Mon) (s : Sess) : Prop where
  ok : m.ok = true
  est : s.est = true → m.seen = true
  st : s.state = .established → m.seen = true
  proto : s.proto ≠ .udp

theorem sessOk_of_inv {m0 : Mon} {c : Ctx} (h : Inv m0 false c) : SessOk (m0.run c.out) c.s :=
  ⟨h.ok, h.est, h.st, h.proto⟩

theorem inv_of_sessOk {m : Mon} {s : Sess} (orc : List Orc) (h : SessOk m s) : Inv m false { s := s, orc := orc } :=
  ⟨by simpa using h.ok, by simpa using h.est, by simpa using h.st, by simp, h.proto⟩

theorem run_sessOk {m : Mon} {s : Sess} (evs : List (Ev × List Orc)) (h : SessOk m s) :
    SessOk (m.run (s.run evs).2) (s.run evs).1 := by
  refine Sess.run_ind (P := fun s tr => SessOk (m.run tr) s) (fun s tr e o h => ?_) evs s [] h
  rw [Mon.run_append]
  exact sessOk_of_inv (stepCtx_inv s e o (inv_of_sessOk o h))

/-- `Both` between events: `SessOk`, and the ledger unless the oracle has reported success (for every oracle list: `Core` does not look at it) -/
structure LedOk (m : Mon) (n0 : Nat → Nat) (t : Bool) (k : Nat) (s : Sess) : Prop where
  ok : SessOk m s
  led : m.seen = true ∨ ∀ orc, Core n0 t k { s := s, orc := orc }

theorem run_ledOk {m : Mon} {n0 : Nat → Nat} {t : Bool} {k : Nat} {s : Sess} (evs : List (Ev × List Orc)) (h : LedOk m n0 t k s) :
    LedOk (m.run (s.run evs).2) (fun j => n0 j + nk j (s.run evs).2) t k (s.run evs).1 := by
  refine Sess.run_ind (P := fun s tr => LedOk (m.run tr) (fun j => n0 j + nk j tr) t k s) (fun s tr e o h => ?_) evs s [] h
  have hb := stepCtx_both s e o ⟨inv_of_sessOk o h.ok, h.led.imp id fun hc => hc o⟩
  simp only [Mon.run_append, nk_append, ← Nat.add_assoc]
  exact ⟨sessOk_of_inv hb.inv, hb.led.imp id fun hc orc' => core_rebase orc' hc⟩

end Coap.C19
