import CoapVerif.Lemmas.ObserveWake
/- C11 (5), progress measure: the number of stale entries of a session never grows in an I/O step and strictly decreases in a
   fair one. -/
namespace Coap.Observe
open Coap.Generated

/-- entry `o` of resource `r` belongs to session c and has not been told r's current state -/
def staleP (c : Nat) (r : Res) (o : Sub) : Bool := o.sess == c && (r.dirty || o.dirty)

def staleR (c : Nat) (y : Res) : Nat := if y.alive = true then (y.subs.filter (staleP c y)).length else 0

def staleOf (c : Nat) (st : State) : Nat := (st.res.map (staleR c)).sum

/-- after the walk the resource is clean: only the entry's own flag counts -/
def staleA (c : Nat) (o : Sub) : Bool := o.sess == c && o.dirty

theorem staleA_clean (c : Nat) {o : Sub} (h : o.dirty = false) : [o].filter (staleA c) = [] :=
  List.filter_cons_of_neg (by rw [staleA, h, Bool.and_false]; exact Bool.false_ne_true)

theorem staleA_deferred (c : Nat) (r : Res) (o : Sub) (h : r.dirty = true ∨ o.dirty = true) :
    staleA c { o with dirty := true } = staleP c r o := by
  rcases h with h | h <;> simp only [staleA, staleP, h, Bool.true_or, Bool.or_true]

theorem Visit.count_le {d : Bool} {r : Res} {o : Sub} {s : Option Sub} {pd : Bool} {outs : List Out} (c : Nat)
    (h : Visit d r o s pd outs) : (s.toList.filter (staleA c)).length ≤ ([o].filter (staleP c r)).length := by
  cases h with
  | skip _ ho => rw [Option.toList_some, staleA_clean c ho]; exact Nat.zero_le _
  | defer hst =>
    rw [Option.toList_some, List.filter_cons, List.filter_cons, staleA_deferred c r o hst]
    split <;> exact Nat.le_refl _
  | bye => rw [Option.toList_some, staleA_clean c rfl]; exact Nat.zero_le _
  | error => exact Nat.zero_le _
  | sent => rw [Option.toList_some, staleA_clean c rfl]; exact Nat.zero_le _

theorem Visits.count_le {d : Bool} {r : Res} {subs subs' : List Sub} {pd : Bool} {outs : List Out} (c : Nat)
    (h : Visits d r subs subs' pd outs) : (subs'.filter (staleA c)).length ≤ (subs.filter (staleP c r)).length := by
  induction h with
  | nil => exact Nat.le_refl _
  | @cons o s pd outs rest subs' pd' outs' hv _ ih =>
    have h1 := hv.count_le c
    rw [List.filter_append, List.length_append]
    have : ((o :: rest).filter (staleP c r)).length = ([o].filter (staleP c r)).length + (rest.filter (staleP c r)).length := by
      rw [← List.length_append, ← List.filter_append]; rfl
    omega

theorem notifyOne_served (d : Bool) (r : Res) (o : Sub) (st : State) (hbp : backPressured st r o = false) (c : Nat) :
    ((notifyOne d r o st).sub.toList.filter (staleA c)).length = 0 := by
  refine notifyOne_cases (P := fun x => (x.sub.toList.filter (staleA c)).length = 0) d r o st ?_ ?_ ?_ ?_ ?_
  · intro _ ho; exact congrArg List.length (staleA_clean c ho)
  · intro _ h; rw [hbp] at h; cases h
  · intro _ _ _ _ _; exact congrArg List.length (staleA_clean c rfl)
  · intro _ _ _ _ _ _; rfl
  · intro _ _ _ _ _ _; exact congrArg List.length (staleA_clean c rfl)

theorem notifyLoop_count_le (d : Bool) (r : Res) (c : Nat) (subs : List Sub) (st : State) :
    ((notifyLoop d r subs st).subs.filter (staleA c)).length ≤ (subs.filter (staleP c r)).length :=
  (notifyLoop_visits d r subs st).count_le c

theorem notifyLoop_count_lt (d : Bool) (r : Res) (spre spost : List Sub) (o : Sub) (st : State)
    (hst : staleP o.sess r o = true) (hbp : backPressured (notifyLoop d r spre st).st r o = false) :
    ((notifyLoop d r (spre ++ o :: spost) st).subs.filter (staleA o.sess)).length <
      ((spre ++ o :: spost).filter (staleP o.sess r)).length := by
  rw [(notifyLoop_append d r spre (o :: spost) st).1, List.filter_append, List.length_append, List.filter_append, List.length_append]
  have h1 := notifyLoop_count_le d r o.sess spre st
  have h2 : ((notifyLoop d r (o :: spost) (notifyLoop d r spre st).st).subs.filter (staleA o.sess)).length ≤
      (spost.filter (staleP o.sess r)).length := by
    unfold notifyLoop
    dsimp only
    rw [List.filter_append, List.length_append, notifyOne_served d r o _ hbp]
    have := notifyLoop_count_le d r o.sess spost (notifyOne d r o (notifyLoop d r spre st).st).st
    omega
  have h3 : ((o :: spost).filter (staleP o.sess r)).length = 1 + (spost.filter (staleP o.sess r)).length := by
    rw [List.filter_cons_of_pos hst, List.length_cons]; omega
  omega

theorem staleR_walked (c : Nat) (r : Res) (subs' : List Sub) (pd : Bool) :
    staleR c { r with subs := subs', pdirty := pd, dirty := false } = if r.alive = true then (subs'.filter (staleA c)).length else 0 := by
  unfold staleR
  dsimp only
  by_cases hal : r.alive = true
  · rw [if_pos hal, if_pos hal]
    congr 1
  · rw [if_neg hal, if_neg hal]

theorem notifyRes_count_le (r : Res) (st : State) (c : Nat) : staleR c (notifyRes false r st).1 ≤ staleR c r := by
  unfold notifyRes
  split
  · rename_i hc
    simp only [Bool.and_eq_true] at hc
    dsimp only
    rw [staleR_walked]
    unfold staleR
    rw [if_pos hc.1, if_pos hc.1]
    exact notifyLoop_count_le false r c r.subs st
  · -- not walked, but marked clean: an entry that counts afterwards counted before
    unfold staleR
    dsimp only
    split
    · rw [← List.countP_eq_length_filter, ← List.countP_eq_length_filter]
      refine List.countP_mono_left fun o _ h => ?_
      unfold staleP at h ⊢
      rw [Bool.and_eq_true, Bool.or_eq_true] at h ⊢
      exact ⟨h.1, Or.inr (h.2.resolve_left Bool.false_ne_true)⟩
    · exact Nat.le_refl _

theorem notifyRes_count_lt (y : Res) (spre spost : List Sub) (o : Sub) (st : State) (hsubs : y.subs = spre ++ o :: spost)
    (hal : y.alive = true) (hwalk : y.dirty = true ∨ y.pdirty = true) (hst : y.dirty = true ∨ o.dirty = true)
    (hbp : backPressured (notifyLoop false y spre st).st y o = false) :
    staleR o.sess (notifyRes false y st).1 < staleR o.sess y := by
  unfold notifyRes
  have hc : (y.alive && (y.dirty || y.pdirty)) = true := by
    rcases hwalk with h | h <;> simp [hal, h]
  rw [if_pos hc]
  dsimp only
  rw [staleR_walked]
  unfold staleR
  rw [if_pos hal, if_pos hal, hsubs]
  refine notifyLoop_count_lt false y spre spost o st ?_ hbp
  rcases hst with h | h <;> simp [staleP, h]

theorem notifyAll_count_le (c : Nat) : ∀ (rs : List Res) (st : State),
    ((notifyAll rs st).1.map (staleR c)).sum ≤ (rs.map (staleR c)).sum
  | [], _ => Nat.le_refl _
  | r :: rest, st => by
    unfold notifyAll
    simp only [List.map_cons, List.sum_cons]
    exact Nat.add_le_add (notifyRes_count_le r st c) (notifyAll_count_le c rest (notifyRes false r st).2.1)

theorem notifyAll_count_lt (pre post : List Res) (y : Res) (spre spost : List Sub) (o : Sub) (st : State)
    (hsubs : y.subs = spre ++ o :: spost) (hal : y.alive = true) (hwalk : y.dirty = true ∨ y.pdirty = true)
    (hst : y.dirty = true ∨ o.dirty = true)
    (hbp : backPressured (notifyLoop false y spre (notifyAll pre st).2.1).st y o = false) :
    ((notifyAll (pre ++ y :: post) st).1.map (staleR o.sess)).sum < ((pre ++ y :: post).map (staleR o.sess)).sum := by
  rw [(notifyAll_append pre (y :: post) st).1]
  simp only [List.map_append, List.sum_append]
  have h1 := notifyAll_count_le o.sess pre st
  have h2 : ((notifyAll (y :: post) (notifyAll pre st).2.1).1.map (staleR o.sess)).sum < ((y :: post).map (staleR o.sess)).sum := by
    unfold notifyAll
    simp only [List.map_cons, List.sum_cons]
    exact Nat.add_lt_add_of_lt_of_le (notifyRes_count_lt y spre spost o (notifyAll pre st).2.1 hsubs hal hwalk hst hbp)
      (notifyAll_count_le o.sess post (notifyRes false y (notifyAll pre st).2.1).2.1)
  exact Nat.add_lt_add_of_le_of_lt h1 h2

theorem staleR_le_of_le (c : Nat) {y' y : Res} (h : ResLeF y' y) : staleR c y' ≤ staleR c y := by
  unfold staleR
  rw [h.alive]
  split
  · have hsub := h.subs
    unfold SubsLeF at hsub
    have h1 := (hsub.filter (fun s => s.sess == c && (y.dirty || s.dirty))).length_le
    have e1 : ∀ (l : List Sub) (r : Res), r.dirty = y.dirty →
        ((l.map coreF).filter (fun s => s.sess == c && (y.dirty || s.dirty))).length = (l.filter (staleP c r)).length := by
      intro l r hr
      rw [List.filter_map, List.length_map]
      congr 1
      apply List.filter_congr
      intro o _
      simp [staleP, coreF, hr]
    rw [e1 y'.subs y' h.dirty, e1 y.subs y rfl] at h1
    exact h1
  · exact Nat.le_refl _

theorem staleOf_le_of_le (c : Nat) {st' st : State} (h : AllLeF st'.res st.res) : staleOf c st' ≤ staleOf c st := by
  unfold staleOf
  generalize st'.res = a, st.res = b at h
  induction h with
  | nil => exact Nat.le_refl _
  | cons hxy _ ih =>
    simp only [List.map_cons, List.sum_cons]
    exact Nat.add_le_add (staleR_le_of_le c hxy) ih

theorem io_stale_le (st : State) (c : Nat) : staleOf c (io st).1 ≤ staleOf c st := by
  refine Nat.le_trans (staleOf_le_of_le c (io_leF st)) ?_
  unfold checkNotify
  split
  · exact notifyAll_count_le c st.res _
  · exact Nat.le_refl _

theorem io_stale_lt (st : State) (pre post : List Res) (y : Res) (spre spost : List Sub) (o : Sub)
    (hres : st.res = pre ++ y :: post) (hsubs : y.subs = spre ++ o :: spost) (hp : st.pending = true) (hal : y.alive = true)
    (hwalk : y.dirty = true ∨ y.pdirty = true) (hst : y.dirty = true ∨ o.dirty = true)
    (hbp : backPressured (turnState st pre y spre) y o = false) :
    staleOf o.sess (io st).1 < staleOf o.sess st := by
  refine Nat.lt_of_le_of_lt (staleOf_le_of_le o.sess (io_leF st)) ?_
  unfold checkNotify
  rw [if_pos hp]
  unfold staleOf
  dsimp only
  rw [hres]
  refine notifyAll_count_lt pre post y spre spost o _ hsubs hal hwalk hst ?_
  unfold turnState at hbp
  rw [hres] at hbp
  exact hbp

end Coap.Observe
