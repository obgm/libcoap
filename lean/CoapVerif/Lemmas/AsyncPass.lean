import CoapVerif.Model.Async
import CoapVerif.Lemmas.ServerProps
/-
Lemmas for C10: the second pass of a deferred request — handle_request(context, async->session, async->pdu) called by
coap_check_async on the copy coap_register_async stored — against the first pass (the received datagram), and against
the resource table as it is at the time of the second pass (a resource may have been deleted in between: libcoap keeps
no pointer to the resource in the coap_async_t, the second pass looks the stored Uri-Path up again).
-/
namespace Coap.Async.L
open Coap Coap.Server Coap.Server.L Coap.Async

theorem pathBlock_plain (rq : Request) (ip : Bool) (os : Opts) (h35 : hasOpt os 35 = false) :
    M.pathBlock rq ip os = .go ip os (M.uriPath os) := by
  unfold M.pathBlock
  simp [h35]

theorem preStageD_plain (tbl : Table) (rq : Request) (os : Opts) (h35 : hasOpt os 35 = false)
    (h39 : hasOpt os 39 = false) : preStageD tbl rq false os = .go false os (M.uriPath os) := by
  unfold preStageD
  simp only [h35, h39, Bool.false_eq_true, false_and, false_or, if_false]
  unfold M.hopBlock
  simp only [if_true]
  exact pathBlock_plain rq false os h35

theorem callStage_call (cfg : Server.Cfg) (rq : Request) (os : Opts) (path : Bytes) (sel : Sel) (obs : Bool) (r : Reply) :
    (M.callStage cfg rq os path sel obs r).call =
      sel.who.map (fun who => ⟨who, rq.msg.code, path, M.query os, os, rq.msg.payload⟩) := by
  unfold M.callStage
  cases hw : sel.who with
  | none => rfl
  | some who => simp only [apply_ite Outcome.call, ite_self, Option.map_some]

theorem failResponse_call (cfg : Server.Cfg) (rq : Request) (os : Opts) (resp : Nat) (res : Option Nat) :
    (M.failResponse cfg rq os resp res).call = none := rfl

theorem runStageD_call (cfg : Server.Cfg) (rq : Request) (os : Opts) (path : Bytes) (sel : Sel) (h6 : hasOpt os 6 = false)
    (hp : sel.isPrx = false) :
    (runStageD cfg rq os path sel).call =
      sel.who.map (fun who => ⟨who, rq.msg.code, path, M.query os, os, rq.msg.payload⟩) := by
  unfold runStageD
  simp only [hp, h6, Bool.and_false, M.obsStage, Bool.false_eq_true, if_false]
  exact callStage_call ..

theorem checkStage_again (cfg : Server.Cfg) (rq rq2 : Request) (os : Opts) (sel : Sel) (hc : rq2.msg.code = rq.msg.code)
    (hm : rq2.mcast = false) : M.checkStage cfg rq os sel = none → M.checkStage cfg rq2 os sel = none := by
  unfold M.checkStage
  rw [hc, hm]
  let P (x y : Option Nat) : Prop := x = none → y = none
  have keep : ∀ k, P (some k) (some k) := fun _ h => h
  exact ite_ind2 (P := P) (keep _) <| ite_ind2 (keep _) <| ite_ind2 (keep _) <| ite_ind2 (keep _) fun _ =>
    if_neg fun h => Bool.noConfusion h.2.2

theorem findRes_spec : ∀ (rs : List Res) (p : Bytes) (i0 i : Nat) (r : Res), findRes rs p i0 = some (i, r) →
    i0 ≤ i ∧ rs[i - i0]? = some r ∧ r.path = p := by
  intro rs
  induction rs with
  | nil => intro p i0 i r h; simp [findRes] at h
  | cons a rest ih =>
    intro p i0 i r h
    unfold findRes at h
    split at h
    · rename_i hp
      injection h with h
      injection h with h1 h2
      subst h1 h2
      simp [hp]
    · have := ih p (i0 + 1) i r h
      refine ⟨by omega, ?_, this.2.2⟩
      have h2 : i - i0 = (i - (i0 + 1)) + 1 := by omega
      rw [h2, List.getElem?_cons_succ]
      exact this.2.1

/-- the selected resource is one of table `tbl` (for the path / the method asked for) -/
def InTable (tbl : Table) (code : Nat) (path : Bytes) : Sel → Prop
  | .res i r => tbl.res[i]? = some r ∧ r.path = path
  | .unk u => tbl.unk = some u ∧ handlerBit u.mask code = true
  | .prx _ => False
  | .wk => path = wellKnownCore

theorem select_in_table {tbl : Table} {code : Nat} {path : Bytes} {sel : Sel}
    (h : M.selectStage tbl code false path = .inr sel) : InTable tbl code path sel := by
  unfold M.selectStage at h
  simp only [Bool.false_eq_true, if_false] at h
  split at h
  · rename_i s hs
    injection h with h
    subst h
    cases hf : findRes tbl.res path 0 with
    | none => rw [hf] at hs; simp at hs
    | some x =>
      rw [hf] at hs; simp at hs; rw [← hs]
      have := findRes_spec tbl.res path 0 x.1 x.2 hf
      exact ⟨by simpa using this.2.1, this.2.2⟩
  · have hunk : ∀ u, (match tbl.unk with
        | some u => if handlerBit u.mask code = true then some u else none
        | none => none) = some u → tbl.unk = some u ∧ handlerBit u.mask code = true := by
      intro u hu
      split at hu
      · split at hu
        · rename_i hb; injection hu with hu; subst hu; exact ⟨by assumption, hb⟩
        · cases hu
      · cases hu
    split at h
    · rename_i u hu
      have := hunk u hu
      split at h
      · injection h with h; subst h; exact this
      · split at h
        · rename_i hp; injection h with h; subst h; exact hp
        · injection h with h; subst h; exact this
    · split at h
      · rename_i hp; injection h with h; subst h; exact hp
      · split at h <;> cases h

theorem select_notPrx {tbl : Table} {code : Nat} {path : Bytes} {sel : Sel}
    (h : M.selectStage tbl code false path = .inr sel) : sel.isPrx = false := by
  have := select_in_table h
  cases sel with
  | prx p => exact this.elim
  | _ => rfl

theorem decisionA_call (hit dup : Bool) (cfg : Server.Cfg) (tbl : Table) (rq : Request) :
    (M.serverDecisionA hit dup cfg tbl rq).call = none ∨
    ∃ crit, rq.verdict.code ≠ 168 ∧
      M.serverDecisionA hit dup cfg tbl rq = M.handleRequestA hit dup cfg tbl rq crit (clearBlock2M rq.msg.opts) := by
  let P (o : Outcome) : Prop :=
    o.call = none ∨ ∃ crit, rq.verdict.code ≠ 168 ∧ o = M.handleRequestA hit dup cfg tbl rq crit (clearBlock2M rq.msg.opts)
  have lib : ∀ {c : Prop} b rs, c → P ⟨b, rs, none⟩ := fun _ _ _ => Or.inl rfl
  unfold M.serverDecisionA
  exact ite_ind (P := P) (lib _ _) fun _ => ite_ind (lib _ _) fun _ => ite_ind (lib _ _) fun hv =>
    ite_ind (fun _ => ite_ind (lib _ _) fun _ => ite_ind (lib _ _) (lib _ _)) fun _ =>
    ite_ind (lib _ _) fun _ => ite_ind (lib _ _) fun _ => ite_ind (lib _ _) fun _ =>
    ite_ind (fun _ => ite_ind (lib _ _) (lib _ _)) fun _ => Or.inr ⟨_, hv, rfl⟩

/-- the stages the first pass went through are read off S, which M follows (`handleA_eq`; `erase` keeps the call) -/
theorem handleA_call (cfg : Server.Cfg) (tbl : Table) (rq : Request) (crit : Bool) (call : Call)
    (hv : rq.verdict.code ≠ 168) (h35 : hasOpt rq.msg.opts 35 = false) (h39 : hasOpt rq.msg.opts 39 = false)
    (h : (M.handleRequestA false false cfg tbl rq crit (clearBlock2M rq.msg.opts)).call = some call) :
    ∃ who os' sel, (∀ n, hasOpt os' n = hasOpt rq.msg.opts n) ∧
      M.selectStage tbl rq.msg.code false (M.uriPath os') = .inr sel ∧
      M.checkStage cfg rq os' sel = none ∧ sel.who = some who ∧
      call = ⟨who, rq.msg.code, M.uriPath os', M.query os', os', rq.msg.payload⟩ := by
  have hs : (S.handle E cfg tbl rq crit).call = some call := by
    rw [← handleA_fresh, ← handleA_eq false false cfg tbl rq crit hv]; exact h
  unfold S.handle at hs
  split at hs
  · cases hs
  · obtain ⟨ip, os', path, sel, hpre, hsel, hck, hc⟩ := stages_call E cfg tbl rq crit call hs
    obtain ⟨rfl, rfl, ho⟩ := pre_go_plain ((hasOpt_clear ..).trans h35) ((hasOpt_clear ..).trans h39) hpre
    obtain ⟨who, hw, rfl⟩ := Option.map_eq_some_iff.1 hc
    exact ⟨who, os', sel, fun n => (ho n).trans (hasOpt_clear ..), by rw [select_eq, uriPath_eq]; exact hsel, hck, hw,
      by rw [uriPath_eq, query_eq]⟩

theorem handleD_call (cfg : Server.Cfg) (tbl : Table) (m : Msg) (v : Verdict) (call : Call)
    (h35 : hasOpt m.opts 35 = false) (h39 : hasOpt m.opts 39 = false) (h6 : hasOpt m.opts 6 = false) :
    (handleRequestD cfg tbl m v).call = some call ↔
      (v.code ≠ 0 ∧ v.code ≠ 168) ∧ ∃ sel who, M.selectStage tbl m.code false (M.uriPath m.opts) = .inr sel ∧
        M.checkStage cfg ⟨false, m, v, .absent⟩ m.opts sel = none ∧ sel.who = some who ∧
        call = ⟨who, m.code, M.uriPath m.opts, M.query m.opts, m.opts, m.payload⟩ := by
  unfold handleRequestD
  by_cases h168 : v.code = 168
  · rw [if_pos h168]; exact ⟨nofun, fun h => absurd h168 h.1.2⟩
  by_cases h0 : v.code = 0
  · rw [if_neg h168, if_pos h0]; exact ⟨nofun, fun h => absurd h0 h.1.1⟩
  rw [if_neg h168, if_neg h0, preStageD_plain tbl _ m.opts h35 h39]
  dsimp only
  cases hs : M.selectStage tbl m.code false (M.uriPath m.opts) with
  | inl r => exact ⟨nofun, fun ⟨_, _, _, h, _⟩ => nomatch h⟩
  | inr sel =>
    dsimp only
    cases hc : M.checkStage cfg ⟨false, m, v, .absent⟩ m.opts sel with
    | some r => exact ⟨nofun, fun ⟨_, _, _, h, h', _⟩ => by cases h; rw [hc] at h'; cases h'⟩
    | none =>
      dsimp only
      rw [runStageD_call cfg _ m.opts _ sel h6 (select_notPrx hs), Option.map_eq_some_iff]
      exact ⟨fun ⟨who, hw, he⟩ => ⟨⟨h0, h168⟩, sel, who, rfl, hc, hw, he.symm⟩,
        fun ⟨_, _, who, h, _, hw, he⟩ => by cases h; exact ⟨who, hw, he.symm⟩⟩

end Coap.Async.L
