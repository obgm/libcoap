import CoapVerif.Lemmas.ObserveWait
import CoapVerif.Lemmas.Observe
/-
C06 section (12'), the invariants of `Coap.Observe` runs that the `obs_*_partial` theorems of section (12) assume:

  * the send queue is always in deadline order (`coap_insert_node` inserts in order; ACK / RST / cancel / session loss only remove);
  * after `coap_io_prepare_io_lkd` (`io`) nothing in it is due — although the due loop `retransmitDue` only has fuel
    `length + 1`: every node that is due is popped once, what `coap_retransmit` re-inserts is armed strictly later
    (`now + 2000·2^(cnt+1)`), what `coap_check_notify` inserts is armed for `now + 2000`, everything else only removes;
  * and between events nothing is due either (every event that moves the clock or queues something ends in `io`).

`Evolves now a b`: queue `b` comes from queue `a` by removals and ordered insertions of nodes that are not due at `now`.
-/
namespace Coap.ObsWait
open Coap.Observe Coap.Generated

abbrev SortedQ (l : List QNode) : Prop := l.Pairwise (fun a b => a.due ≤ b.due)

def dueCnt (now : Nat) (l : List QNode) : Nat := (l.filter (fun q => decide (q.due ≤ now))).length

theorem mem_insertNode (n : QNode) : ∀ (l : List QNode) (q : QNode), q ∈ insertNode n l ↔ q = n ∨ q ∈ l
  | [], q => by simp [insertNode]
  | x :: xs, q => by
    unfold insertNode
    split
    · simp
    · simp only [List.mem_cons, mem_insertNode n xs q]
      exact or_left_comm

theorem insertNode_sorted (n : QNode) : ∀ (l : List QNode), SortedQ l → SortedQ (insertNode n l)
  | [], _ => by simp [insertNode, SortedQ]
  | x :: xs, h => by
    have hx := List.pairwise_cons.mp h
    unfold insertNode
    split
    · rename_i hlt
      refine List.pairwise_cons.mpr ⟨?_, h⟩
      intro q hq
      rcases List.mem_cons.mp hq with rfl | hq
      · omega
      · have := hx.1 q hq; omega
    · rename_i hge
      refine List.pairwise_cons.mpr ⟨?_, insertNode_sorted n xs hx.2⟩
      intro q hq
      rcases (mem_insertNode n xs q).mp hq with rfl | hq
      · omega
      · exact hx.1 q hq

theorem dueCnt_insertNode (now : Nat) (n : QNode) (hn : now < n.due) : ∀ (l : List QNode),
    dueCnt now (insertNode n l) = dueCnt now l
  | [] => by
    have : ¬ n.due ≤ now := by omega
    simp [insertNode, dueCnt, this]
  | x :: xs => by
    have hnd : ¬ n.due ≤ now := by omega
    have ih := dueCnt_insertNode now n hn xs
    unfold insertNode
    split
    · simp [dueCnt, List.filter_cons, hnd]
    · unfold dueCnt at ih ⊢
      simp only [List.filter_cons]
      split
      · simp only [List.length_cons, ih]
      · exact ih

/-! ### how a queue evolves while the clock stands still -/

structure Evolves (now : Nat) (a b : List QNode) : Prop where
  sorted : SortedQ a → SortedQ b
  mem : ∀ q ∈ b, q ∈ a ∨ now < q.due
  cnt : dueCnt now b ≤ dueCnt now a

theorem Evolves.refl (now : Nat) (a : List QNode) : Evolves now a a :=
  ⟨id, fun _ h => Or.inl h, Nat.le_refl _⟩

theorem Evolves.trans {now : Nat} {a b c : List QNode} (h1 : Evolves now a b) (h2 : Evolves now b c) : Evolves now a c :=
  ⟨fun h => h2.sorted (h1.sorted h), fun q hq => by
    rcases h2.mem q hq with h | h
    · exact h1.mem q h
    · exact Or.inr h, Nat.le_trans h2.cnt h1.cnt⟩

theorem Evolves.of_sublist {now : Nat} {a b : List QNode} (h : b.Sublist a) : Evolves now a b :=
  ⟨fun hs => List.Pairwise.sublist h hs, fun _ hq => Or.inl (h.subset hq), (h.filter _).length_le⟩

theorem Evolves.of_insert {now : Nat} (a : List QNode) (n : QNode) (hn : now < n.due) : Evolves now a (insertNode n a) :=
  ⟨insertNode_sorted n a, fun q hq => by
    rcases (mem_insertNode n a q).mp hq with rfl | h
    · exact Or.inr hn
    · exact Or.inl h, Nat.le_of_eq (dueCnt_insertNode now n hn a)⟩

/-- what a function of the Observe model other than the I/O step may do (a relation between states: not the event alphabet,
which is `Coap.Observe.Event` here) -/
structure Ev (st st' : State) : Prop where
  now : st'.now = st.now
  q : Evolves st.now st.sendq st'.sendq

theorem Ev.refl (st : State) : Ev st st := ⟨rfl, Evolves.refl _ _⟩
theorem Ev.trans {a b c : State} (h1 : Ev a b) (h2 : Ev b c) : Ev a c :=
  ⟨by rw [h2.now, h1.now], Evolves.trans h1.q (by rw [← h1.now]; exact h2.q)⟩
theorem Ev.of_eq {st st' : State} (hn : st'.now = st.now) (hq : st'.sendq = st.sendq) : Ev st st' :=
  ⟨hn, by rw [hq]; exact Evolves.refl _ _⟩

/-! ### frame: what does not touch the queue or the clock -/

theorem ev_modSess (st : State) (c : Nat) (f : Sess → Sess) : Ev st (modSess st c f) := Ev.of_eq rfl rfl
theorem ev_mapRes (st : State) (f : Res → Res) : Ev st (mapRes st f) := Ev.of_eq rfl rfl
theorem ev_modRes (st : State) (r : Nat) (f : Res → Res) : Ev st (modRes st r f) := Ev.of_eq rfl rfl
theorem ev_refDec (st : State) (c : Nat) : Ev st (refDec st c) := Ev.of_eq rfl rfl
theorem ev_refInc (st : State) (c : Nat) : Ev st (refInc st c) := Ev.of_eq rfl rfl
theorem ev_conDec (st : State) (c : Nat) : Ev st (conDec st c) := Ev.of_eq rfl rfl
theorem ev_txStamp (st : State) (c : Nat) : Ev st (txStamp st c) := Ev.of_eq rfl rfl
theorem ev_rxSession (st : State) (c : Nat) : Ev st (rxSession st c) := Ev.of_eq rfl rfl
theorem ev_newMid (st : State) (c : Nat) : Ev st (newMid st c).2 := Ev.of_eq rfl rfl
theorem ev_addNote (st : State) (c : Nat) (n : Note) : Ev st (addNote st c n) := Ev.of_eq rfl rfl
theorem ev_touchObserver (st : State) (c tok : Nat) : Ev st (touchObserver st c tok) := Ev.of_eq rfl rfl
theorem ev_reclaim (st : State) : Ev st (reclaim st) := Ev.of_eq rfl rfl
theorem ev_pending (st : State) (b : Bool) : Ev st { st with pending := b } := Ev.of_eq rfl rfl
theorem ev_setRes (st : State) (rs : List Res) : Ev st { st with res := rs } := Ev.of_eq rfl rfl

/-- what touches the table, `ref` and the time stamps only (Lemmas/Observe.lean) -/
theorem _root_.Coap.Observe.TableOnly.ev {st st' : State} (h : TableOnly st st') : Ev st st' := Ev.of_eq h.now h.sendq

theorem ev_deleteObserver (st : State) (r c tok : Nat) : Ev st (deleteObserver st r c tok) := (deleteObserver_tableOnly st r c tok).ev

theorem ev_releaseAll (l : List Sub) (st : State) : Ev st (releaseAll st l) := (releaseAll_tableOnly l st).ev

theorem ev_change (st : State) (r : Nat) : Ev st (change st r) := by
  unfold change
  split
  · exact Ev.refl _
  · split
    · exact Ev.refl _
    · exact Ev.of_eq rfl rfl

theorem ev_filter (st : State) (p : QNode → Bool) : Ev st { st with sendq := st.sendq.filter p } :=
  ⟨rfl, Evolves.of_sublist List.filter_sublist⟩

theorem ev_eraseP (st : State) (p : QNode → Bool) : Ev st { st with sendq := st.sendq.eraseP p } :=
  ⟨rfl, Evolves.of_sublist List.eraseP_sublist⟩

theorem ev_cancelAllMessages (st : State) (c tok : Nat) : Ev st (cancelAllMessages st c tok) := by
  unfold cancelAllMessages
  exact Ev.trans (ev_filter st _) (ev_modSess _ _ _)

theorem ev_cancelSent (st : State) (c tok : Nat) : Ev st (cancelSent st c tok) :=
  cancelSent_ind (P := Ev st) st c tok (Ev.refl st)
    fun s rid h => h.trans ((ev_cancelAllMessages s c tok).trans (ev_deleteObserver _ rid c tok))

theorem ev_removeFailedOne (st : State) (x : Res) (c tok : Nat) : Ev st (removeFailedOne st x c tok) :=
  removeFailedOne_ind (P := Ev st) st x c tok (Ev.refl st)
    ((ev_cancelAllMessages st c tok).trans (ev_deleteObserver ..)) (ev_modRes ..)

theorem ev_handleFailedNotify (st : State) (c tok : Nat) : Ev st (handleFailedNotify st c tok) :=
  handleFailedNotify_ind (P := Ev st) st c tok (Ev.refl st) fun s x h => h.trans (ev_removeFailedOne s x c tok)

theorem ev_handleAck (st : State) (c mid : Nat) : Ev st (handleAck st c mid) := by
  unfold handleAck
  simp only []
  split
  · exact ev_rxSession _ _
  · refine Ev.trans (ev_rxSession st c) ?_
    refine Ev.trans (ev_eraseP (rxSession st c) (matchQ c mid)) ?_
    refine Ev.trans (ev_conDec _ c) ?_
    split
    · exact Ev.trans (ev_touchObserver _ _ _) (ev_refDec _ _)
    · exact ev_refDec _ _

theorem ev_handleRst (st : State) (c mid : Nat) : Ev st (handleRst st c mid) := by
  unfold handleRst
  simp only []
  split
  · refine Ev.trans (ev_rxSession st c) ?_
    refine Ev.trans (ev_eraseP (rxSession st c) (matchQ c mid)) ?_
    refine Ev.trans (ev_conDec _ c) ?_
    exact Ev.trans (ev_cancelSent _ _ _) (ev_refDec _ _)
  · split
    · exact Ev.trans (ev_rxSession st c) (ev_deleteObserver _ _ _ _)
    · exact ev_rxSession _ _

theorem ev_sessionLost (st : State) (c : Nat) : Ev st (sessionLost st c) := by
  unfold sessionLost
  split
  · exact Ev.refl _
  · exact Ev.trans (ev_mapRes st _) (Ev.trans (ev_filter _ _) (ev_modSess _ _ _))

/-! ### insertions: a Confirmable notification, a retransmission -/

theorem obsAck_pos : 0 < obsAckTimeoutTicks := by decide

theorem ev_sendNote (st : State) (c tok code : Nat) (obs : Option Nat) (isCon : Bool) (mid rid ver : Nat) :
    Ev st (sendNote st c tok code obs isCon mid rid ver).1 := by
  unfold sendNote
  cases isCon
  · exact Ev.trans (ev_txStamp st c) (ev_addNote _ _ _)
  · simp only [if_true]
    refine ⟨rfl, ?_⟩
    exact Evolves.of_insert _ _ (by have := obsAck_pos; simp only []; omega)

theorem ev_notifyOne (deleting : Bool) (r : Res) (o : Sub) (st : State) : Ev st (notifyOne deleting r o st).st := by
  have hm : Ev st (newMid st o.sess).2 := ev_newMid st o.sess
  refine notifyOne_cases (P := fun x => Ev st x.st) deleting r o st (fun _ _ => ev_pending _ _) (fun _ _ => ev_pending _ _) ?_ ?_ ?_
  · intro _ _ _ sn hsn; rw [hsn]; exact hm.trans (ev_sendNote _ _ _ _ _ _ _ _ _)
  · intro _ _ _ _ sn hsn; rw [hsn]; exact (hm.trans (ev_refDec _ _)).trans (ev_sendNote _ _ _ _ _ _ _ _ _)
  · intro _ _ _ _ sn hsn; rw [hsn]; exact hm.trans (ev_sendNote _ _ _ _ _ _ _ _ _)

theorem ev_notifyLoop (deleting : Bool) (r : Res) : ∀ (subs : List Sub) (st : State),
    Ev st (notifyLoop deleting r subs st).st
  | [], st => Ev.refl st
  | o :: rest, st => by
    unfold notifyLoop
    exact Ev.trans (ev_notifyOne deleting r o st) (ev_notifyLoop deleting r rest _)

theorem ev_notifyRes (deleting : Bool) (r : Res) (st : State) : Ev st (notifyRes deleting r st).2.1 := by
  unfold notifyRes
  split
  · exact ev_notifyLoop _ _ _ _
  · exact Ev.refl _

theorem ev_notifyAll : ∀ (rs : List Res) (st : State), Ev st (notifyAll rs st).2.1
  | [], st => Ev.refl st
  | r :: rest, st => by
    rcases h1 : notifyRes false r st with ⟨r', st1, o1⟩
    rcases h2 : notifyAll rest st1 with ⟨rs, st2, o2⟩
    have e1 := ev_notifyRes false r st
    have e2 := ev_notifyAll rest st1
    rw [h1] at e1
    rw [h2] at e2
    simp only [notifyAll, h1, h2]
    exact Ev.trans e1 e2

theorem ev_checkNotify (st : State) : Ev st (checkNotify st).1 := by
  unfold checkNotify
  split
  · rcases h : notifyAll st.res { st with pending := false } with ⟨rs, st1, outs⟩
    have e := ev_notifyAll st.res { st with pending := false }
    rw [h] at e
    exact Ev.trans (ev_pending st false) (Ev.trans e (ev_setRes _ _))
  · exact Ev.refl _

/-- the node `coap_retransmit` puts back: one more retransmission, armed for `now + ACK_TIMEOUT·2^(cnt+1)` -/
def reArm (st : State) (q : QNode) : QNode :=
  { q with cnt := q.cnt + 1, due := st.now + obsAckTimeoutTicks * 2 ^ (q.cnt + 1) }

theorem ev_reinsert (st : State) (q : QNode) : Ev st { st with sendq := insertNode (reArm st q) st.sendq } := by
  refine ⟨rfl, ?_⟩
  apply Evolves.of_insert
  have := Nat.mul_pos obsAck_pos (Nat.two_pow_pos (q.cnt + 1))
  simp only [reArm]
  omega

theorem ev_retransmit (st : State) (q : QNode) : Ev st (retransmit st q).1 := by
  unfold retransmit
  simp only []
  split
  · have e0 := ev_reinsert st q
    exact Ev.trans e0 (Ev.trans (ev_conDec _ q.sess) (Ev.trans (ev_modSess _ q.sess _) (ev_txStamp _ q.sess)))
  · exact Ev.trans (ev_handleFailedNotify st q.sess q.token) (Ev.trans (ev_conDec _ q.sess) (ev_refDec _ q.sess))

/-! ### the due loop has fuel for every due node -/

theorem dueCnt_cons_due (now : Nat) (q : QNode) (qs : List QNode) (h : q.due ≤ now) :
    dueCnt now (q :: qs) = dueCnt now qs + 1 := by
  simp [dueCnt, h]

/-- the head of the queue the loop leaves is not due, provided the fuel exceeds the number of due nodes -/
theorem retransmitDue_spec : ∀ (fuel : Nat) (st : State), dueCnt st.now st.sendq < fuel →
    Ev st (retransmitDue fuel st).1 ∧
    ∀ q qs, (retransmitDue fuel st).1.sendq = q :: qs → (retransmitDue fuel st).1.now < q.due
  | 0, st, h => by omega
  | fuel + 1, st, h => by
    unfold retransmitDue
    cases hq : st.sendq with
    | nil => exact ⟨Ev.refl _, fun q qs h' => by simp [hq] at h'⟩
    | cons q qs =>
      simp only []
      by_cases hdue : q.due ≤ st.now
      · simp only [hdue, if_true]
        rcases h1 : retransmit { st with sendq := qs } q with ⟨st1, o1⟩
        have e1 : Ev { st with sendq := qs } st1 := by
          have := ev_retransmit { st with sendq := qs } q
          rw [h1] at this; exact this
        have hc : dueCnt st1.now st1.sendq < fuel := by
          have := e1.q.cnt
          rw [e1.now]
          simp only [] at this ⊢
          rw [hq, dueCnt_cons_due _ _ _ hdue] at h
          omega
        obtain ⟨e2, hhead⟩ := retransmitDue_spec fuel st1 hc
        rcases h2 : retransmitDue fuel st1 with ⟨st2, o2⟩
        rw [h2] at e2 hhead
        simp only []
        refine ⟨?_, hhead⟩
        have e0 : Ev st { st with sendq := qs } :=
          ⟨rfl, by rw [hq]; exact Evolves.of_sublist (List.sublist_cons_self q qs)⟩
        exact Ev.trans e0 (Ev.trans e1 e2)
      · simp only [hdue, if_false]
        refine ⟨Ev.refl _, ?_⟩
        intro q' qs' h'
        rw [hq] at h'
        cases h'
        omega

theorem dueCnt_le_length (now : Nat) (l : List QNode) : dueCnt now l ≤ l.length :=
  List.length_filter_le _ _

theorem sorted_head_not_due {now : Nat} {l : List QNode} (hs : SortedQ l)
    (hh : ∀ q qs, l = q :: qs → now < q.due) : ∀ q ∈ l, now < q.due := by
  intro q hq
  cases l with
  | nil => cases hq
  | cons x xs =>
    have hx := hh x xs rfl
    rcases List.mem_cons.mp hq with rfl | hm
    · exact hx
    · have := (List.pairwise_cons.mp hs).1 q hm
      omega

/-! ### the invariant of runs -/

structure QInv (st : State) : Prop where
  sorted : SortedQ st.sendq
  fresh : ∀ q ∈ st.sendq, st.now < q.due

theorem QInv.of_ev {st st' : State} (h : QInv st) (e : Ev st st') : QInv st' :=
  ⟨e.q.sorted h.sorted, fun q hq => by
    rw [e.now]
    rcases e.q.mem q hq with hm | hlt
    · exact h.fresh q hm
    · exact hlt⟩

theorem ev_request (st : State) (obsOpt : Option Nat) (c r tok key : Nat) (con : Bool) (mid : Nat) :
    Ev st (request st obsOpt c r tok key con mid).1 := (request_tableOnly st obsOpt c r tok key con mid).ev

theorem ev_deleteResource (st : State) (r : Nat) : Ev st (deleteResource st r).1 := by
  unfold deleteResource
  simp only []
  split
  · exact Ev.refl _
  · split
    · exact ev_change st r
    · rename_i x1 hx1
      rcases h : notifyRes true x1 (change st r) with ⟨x2, st2, outs⟩
      have e := ev_notifyRes true x1 (change st r)
      rw [h] at e
      simp only []
      exact Ev.trans (ev_change st r) (Ev.trans e (Ev.trans (ev_releaseAll _ _) (ev_modRes _ _ _)))

theorem rxThenIo_fst (p : State × List Out) : (rxThenIo p).1 = (io p.1).1 := by
  rcases p with ⟨st1, o1⟩
  simp only [rxThenIo]

theorem io_spec (st : State) : Ev st (io st).1 ∧ (SortedQ st.sendq → QInv (io st).1) := by
  rcases h1 : checkNotify st with ⟨st1, o1⟩
  rcases h2 : retransmitDue (st1.sendq.length + 1) st1 with ⟨st2, o2⟩
  have hio : (io st).1 = reclaim st2 := by simp only [io, h1, h2]
  have e1 : Ev st st1 := by have := ev_checkNotify st; rw [h1] at this; exact this
  have hsp := retransmitDue_spec (st1.sendq.length + 1) st1 (by
    have := dueCnt_le_length st1.now st1.sendq; omega)
  rw [h2] at hsp
  have e : Ev st (reclaim st2) := Ev.trans e1 (Ev.trans hsp.1 (ev_reclaim st2))
  rw [hio]
  refine ⟨e, fun hs => ?_⟩
  have hs2 : SortedQ (reclaim st2).sendq := e.q.sorted hs
  exact ⟨hs2, sorted_head_not_due hs2 (fun q qs hq => hsp.2 q qs hq)⟩

/-- an event leaves the clock alone and lets the queue evolve, or it ends in the I/O step, run on a state whose queue is
still in deadline order if it was -/
theorem step_shape (st : State) (e : Event) :
    Ev st (step st e).1 ∨ ∃ st1, (SortedQ st.sendq → SortedQ st1.sendq) ∧ (step st e).1 = (io st1).1 :=
  step_cases (P := fun p => Ev st p.1 ∨ ∃ st1, (SortedQ st.sendq → SortedQ st1.sendq) ∧ p.1 = (io st1).1) st e
    (fun o c r tok key con mid _ => Or.inr ⟨_, (ev_request st o c r tok key con mid).q.sorted, rxThenIo_fst _⟩)
    (fun c mid => Or.inr ⟨_, (ev_handleAck st c mid).q.sorted, rxThenIo_fst _⟩)
    (fun c mid => Or.inr ⟨_, (ev_handleRst st c mid).q.sorted, rxThenIo_fst _⟩)
    (Or.inl (Ev.refl st)) (fun r => Or.inl (ev_change st r)) (fun ms => Or.inr ⟨{ st with now := st.now + ms }, id, rfl⟩)
    (fun r b => Or.inl (ev_modRes st r _)) (fun c => Or.inl (ev_sessionLost st c)) (fun r => Or.inl (ev_deleteResource st r))

theorem step_qinv (st : State) (e : Event) (h : QInv st) : QInv (step st e).1 := by
  rcases step_shape st e with he | ⟨st1, hs, heq⟩
  · exact h.of_ev he
  · rw [heq]; exact (io_spec st1).2 (hs h.sorted)

theorem run_qinv : ∀ (evs : List Event) (st : State), QInv st → QInv (run st evs).1 :=
  run_inv_state step_qinv

theorem qinv_init (res : List Res) (stTicks : Nat) : QInv (init res stTicks) :=
  ⟨List.Pairwise.nil, fun q hq => by cases hq⟩

end Coap.ObsWait
