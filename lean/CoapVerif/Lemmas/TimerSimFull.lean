import CoapVerif.Lemmas.Conserve
/-
C06, the simulation M ⊑ S without the two scope conditions of `Coap.Sim.step_sim` (NSTART room, nothing due at the
instant of a submission / RST).

  * The S events an M event stands for follow the ORDER IN WHICH THE CODE PROCESSES things (`tr`, computed along the code
    path): the due loop is one `tickN now 1` (fire the earliest due entry) per iteration; a Confirmable that leaves the
    delay queue (`coap_session_connected` → drain: from the ACK / RST branch of `coap_dispatch` or from the give-up branch
    of `coap_retransmit` in the MIDDLE of the due loop) is a `send` at that point — its schedule starts when it is really
    transmitted; a `coap_send` / RST at an instant at which something is due is preceded by `tickN now 0` (the clock has
    come to `now`, nothing has fired yet) — what is due fires when the code gets to it.
  * Invariant: `Coap.Sched.FInv` (sessions established, `con_active ≤ NSTART`, delay queues of never-transmitted
    Confirmables) — the delay queue is part of the invariant, not excluded.
  * Scope: the whole C06 alphabet `Sched.RunG` (every event but hold / disconnect): a NON is nothing for S, an ACK with an
    invalid / request code is an `ack`, a response (cancel by token) is one `ack` per removed node.
  * Relation `RelF`: the interleaving of one NACK with the first transmissions it unblocks at the same instant is the one
    thing not represented: the code transmits the delayed message BEFORE it calls the NACK handler; S reports the outcome
    and then sends.
  * The scope of `step_sim` lies inside this one (`Sim.runIn_runG`, at the end of Lemmas/TimerSim.lean); nothing
    here uses the exact simulation: this file stands on Lemmas/TimerAbs.lean (`absP`, observations, counters) through Conserve.
-/
namespace Coap.SimF
open Coap Coap.SQ Coap.Msg Coap.Timer Coap.Sim Coap.Sched

/-! ### observations, split into transmissions and outcome NACKs -/

def isTx : Obs → Bool
  | .tx _ _ _ _ c => c
  | _ => false

def isNk : Obs → Bool
  | .tx .. => false
  | _ => true

def txsM (out : List Out) : List Obs := (out.filterMap obsM).filter isTx
def txsS (outs : List TOut) : List Obs := (outs.filterMap obsS).filter isTx
def nksM (out : List Out) : List Obs := (out.filterMap obsM).filter isNk
def nksS (outs : List TOut) : List Obs := (outs.filterMap obsS).filter isNk

theorem txsM_append (a b : List Out) : txsM (a ++ b) = txsM a ++ txsM b := by simp [txsM]
theorem txsS_append (a b : List TOut) : txsS (a ++ b) = txsS a ++ txsS b := by simp [txsS]
theorem nksM_append (a b : List Out) : nksM (a ++ b) = nksM a ++ nksM b := by simp [nksM]
theorem nksS_append (a b : List TOut) : nksS (a ++ b) = nksS a ++ nksS b := by simp [nksS]

theorem obs_cons_tx {outs : List TOut} {out : List Out} (ht : txsS outs = txsM out) (hn : nksS outs = nksM out)
    (t s mid k t0 T mx : Nat) :
    txsS (.tx t s mid k t0 T mx :: outs) = txsM (.tx t s mid k true :: out) ∧
    nksS (.tx t s mid k t0 T mx :: outs) = nksM (.tx t s mid k true :: out) := by
  constructor
  · show txsS ([_] ++ outs) = txsM ([_] ++ out)
    rw [txsS_append, txsM_append, ht]
    simp [txsS, txsM, obsS, obsM]
  · show nksS ([_] ++ outs) = nksM ([_] ++ out)
    rw [nksS_append, nksM_append, hn]
    simp [nksS, nksM, obsS, obsM, isNk]

theorem obs_cons_acked (outs : List TOut) (t s mid : Nat) :
    txsS (.acked t s mid :: outs) = txsS outs ∧ nksS (.acked t s mid :: outs) = nksS outs :=
  ⟨by simp only [txsS, List.filterMap_cons, obsS], by simp only [nksS, List.filterMap_cons, obsS]⟩

/-- M state ~ S state for every run: S's clock not ahead of M's, the same pending list, the same transmissions of Confirmables
in the same order, the same outcome NACKs in the same order (the two lists are not interleaved) -/
structure RelF (mx : Nat → Nat) (l : L) (ts : TS) : Prop where
  now : ts.now ≤ l.now
  pend : ts.pend.map er = absP mx l.q.base l.q.nodes
  txs : txsS ts.outs = txsM l.out
  nacks : nksS ts.outs = nksM l.out

structure Core (mx : Nat → Nat) (l : L) (ts : TS) : Prop where
  now : ts.now = l.now
  pend : ts.pend.map er = absP mx l.q.base l.q.nodes

/-- what both sides have ADDED to their outputs: the same observations, all of them transmissions -/
def DOut (l l' : L) (ts ts' : TS) : Prop :=
  ∃ newM newS, l'.out = newM ++ l.out ∧ ts'.outs = newS ++ ts.outs ∧
    newS.filterMap obsS = newM.filterMap obsM ∧ ∀ o ∈ newM.filterMap obsM, isTx o = true

theorem DOut.refl (l : L) (ts : TS) : DOut l l ts ts := ⟨[], [], rfl, rfl, rfl, by simp⟩

theorem DOut.trans {l l' l'' : L} {ts ts' ts'' : TS} (h1 : DOut l l' ts ts') (h2 : DOut l' l'' ts' ts'') :
    DOut l l'' ts ts'' := by
  obtain ⟨m1, s1, a1, b1, c1, d1⟩ := h1
  obtain ⟨m2, s2, a2, b2, c2, d2⟩ := h2
  refine ⟨m2 ++ m1, s2 ++ s1, by rw [a2, a1, List.append_assoc], by rw [b2, b1, List.append_assoc], ?_, ?_⟩
  · simp [c1, c2]
  · intro o ho
    simp only [List.filterMap_append, List.mem_append] at ho
    rcases ho with ho | ho
    · exact d2 o ho
    · exact d1 o ho

theorem filter_all {α : Type} (p : α → Bool) (l : List α) (h : ∀ x ∈ l, p x = true) : l.filter p = l :=
  List.filter_eq_self.2 h

theorem nks_of_all_tx (l : List Obs) (h : ∀ x ∈ l, isTx x = true) : l.filter isNk = [] := by
  apply List.filter_eq_nil_iff.2
  intro x hx
  have := h x hx
  cases x with
  | tx t s mid k c => exact Bool.false_ne_true
  | _ => cases this

/-- the added outputs keep the two observation lists equal; an outcome NACK reported by S BEFORE and by M AFTER them
does too -/
theorem DOut.outs {l l' : L} {ts ts' : TS} (h : DOut l l' ts ts') (ht : txsS ts.outs = txsM l.out)
    (hn : nksS ts.outs = nksM l.out) : txsS ts'.outs = txsM l'.out ∧ nksS ts'.outs = nksM l'.out := by
  obtain ⟨m, s, a, b, c, d⟩ := h
  rw [a, b, txsS_append, txsM_append, nksS_append, nksM_append, ht, hn]
  constructor
  · simp only [txsS, txsM, c]
  · simp only [nksS, nksM, c]

theorem DOut.outs_nack {l l' : L} {tn : Nat} {tp : List (Nat × PMsg)} {ts' : TS} {oS : TOut} {oM : Out}
    {outs : List TOut} (h : DOut l l' ⟨tn, tp, oS :: outs⟩ ts') (ho : obsS oS = obsM oM)
    (hnk : ∀ o, obsM oM = some o → isTx o = false ∧ isNk o = true)
    (ht : txsS outs = txsM l.out) (hn : nksS outs = nksM l.out) :
    txsS ts'.outs = txsM (oM :: l'.out) ∧ nksS ts'.outs = nksM (oM :: l'.out) := by
  obtain ⟨m, s, a, b, c, d⟩ := h
  -- what both sides added are transmissions, the outcome is none
  have hm : nksM m = [] := nks_of_all_tx _ d
  have hs : nksS s = [] := by rw [nksS, c]; exact hm
  have hts : txsS s = txsM m := by rw [txsS, c]; rfl
  have hoS : txsS [oS] = txsM [oM] ∧ nksS [oS] = nksM [oM] := by
    simp only [txsS, txsM, nksS, nksM, List.filterMap_cons, List.filterMap_nil, ho, and_self]
  have hoM : txsM [oM] = [] := by
    simp only [txsM, List.filterMap_cons, List.filterMap_nil]
    cases hq : obsM oM with
    | none => rfl
    | some o => simp [(hnk o hq).1]
  rw [b, a]
  show txsS (s ++ ([oS] ++ outs)) = txsM ([oM] ++ (m ++ l.out)) ∧
    nksS (s ++ ([oS] ++ outs)) = nksM ([oM] ++ (m ++ l.out))
  simp only [txsS_append, txsM_append, nksS_append, nksM_append, hm, hs, hts, hoS.1, hoS.2, hoM, ht, hn,
    List.nil_append, and_self]

/-- the state after one round of the loop (as in `Msg.drain`) -/
def drainNext (l : L) (s : Nat) (n : Node) (rest : List Node) : L :=
  let se := l.getS s
  let ca := if n.con then (se.conActive + 1) % 256 else se.conActive
  let l := l.setS s { se with conActive := ca, delayq := rest }
  let l := l.emit (.tx l.now s n.mid n.cnt n.con)
  if n.con then waitAck l { n with sess := s } else l

/-- every Confirmable that leaves the delay queue is a `send` of S at that moment -/
def trDrain : Nat → L → Nat → List TEv
  | 0, _, _ => []
  | fuel + 1, l, s =>
    match (l.getS s).delayq with
    | [] => []
    | n :: rest =>
      if !(l.getS s).est then []
      else if n.con && decide ((l.getS s).conActive ≥ (l.getS s).nstart) then []
      else (if n.con then [TEv.send s n.mid n.timeout (l.getS s).maxRtx] else []) ++ trDrain fuel (drainNext l s n rest) s

def trConnected (l : L) (s : Nat) : List TEv :=
  trDrain ((l.getS s).delayq.length + 1) (l.setS s { (l.getS s) with est := true }) s

def trRelease (l : L) (s : Nat) : List TEv :=
  if (l.getS s).conActive = 0 then []
  else if (l.getS s).est then trConnected (l.setS s { (l.getS s) with conActive := (l.getS s).conActive - 1 }) s
  else []

/-- where the `send`s of a translated run come from: `P` holds of (session, mid, T) and the limit is the session's -/
def SendsOk (par : Nat → Sess) (P : Nat → Nat → Nat → Prop) (evs : List TEv) : Prop :=
  ∀ s mid T mx, TEv.send s mid T mx ∈ evs → P s mid T ∧ mx = (par s).maxRtx

theorem sendsOk_nil (par : Nat → Sess) (P : Nat → Nat → Nat → Prop) : SendsOk par P [] := by
  intro s mid T mx h; cases h

theorem sendsOk_append {par : Nat → Sess} {P : Nat → Nat → Nat → Prop} {a b : List TEv}
    (ha : SendsOk par P a) (hb : SendsOk par P b) : SendsOk par P (a ++ b) := by
  intro s mid T mx h
  rcases List.mem_append.mp h with h | h
  · exact ha s mid T mx h
  · exact hb s mid T mx h

theorem sendsOk_cons {par : Nat → Sess} {P : Nat → Nat → Nat → Prop} {e : TEv} {b : List TEv}
    (he : ∀ s mid T mx, e = .send s mid T mx → P s mid T ∧ mx = (par s).maxRtx) (hb : SendsOk par P b) :
    SendsOk par P (e :: b) := by
  intro s mid T mx h
  rcases List.mem_cons.mp h with h | h
  · exact he s mid T mx h.symm
  · exact hb s mid T mx h

/-- the drain loop against its `send`s — whatever both sides have shown before -/
theorem drain_sim {par : Nat → Sess} {P : Nat → Nat → Nat → Prop} (hp : GPar par) :
    ∀ (fuel : Nat) (l : L) (ts : TS) (s : Nat), FInv False par P l → Core (mxOf par) l ts →
      Core (mxOf par) (drain fuel l s) (Timer.run ts (trDrain fuel l s)) ∧
      DOut l (drain fuel l s) ts (Timer.run ts (trDrain fuel l s)) ∧
      RunOk ts (trDrain fuel l s) ∧ SendsOk par P (trDrain fuel l s) := by
  intro fuel
  induction fuel with
  | zero => intro l ts s _ hc; exact ⟨hc, DOut.refl _ _, trivial, sendsOk_nil _ _⟩
  | succ f ih =>
    intro l ts s hi hc
    obtain ⟨ca, dq, hg, hle, hdq⟩ := hi.sess s
    obtain ⟨hest, hopen, hns, h256⟩ := hp s
    cases dq with
    | nil =>
      have e1 : drain (f + 1) l s = l := by simp [drain, hg]
      have e2 : trDrain (f + 1) l s = [] := by simp [trDrain, hg]
      rw [e1, e2]; exact ⟨hc, DOut.refl _ _, trivial, sendsOk_nil _ _⟩
    | cons n rest =>
      obtain ⟨hcon, htok, hT, hT32, hcnt, h64, hP⟩ := hdq n (by simp)
      by_cases hgate : ca ≥ (par s).nstart
      · have e1 : drain (f + 1) l s = l := by simp [drain, hg, hest, hcon, hgate]
        have e2 : trDrain (f + 1) l s = [] := by simp [trDrain, hg, hest, hcon, hgate]
        rw [e1, e2]; exact ⟨hc, DOut.refl _ _, trivial, sendsOk_nil _ _⟩
      · obtain ⟨l2, hl2⟩ : ∃ l2, l2 = started par l s ca n rest := ⟨_, rfl⟩
        obtain ⟨hstep, hfin'⟩ := drain_start hp f l s ca n rest hi hg hdq hgate
        rw [← hl2] at hstep hfin'
        have hnext : drainNext l s n rest = l2 := by
          rw [hl2]
          simp [drainNext, started, hg, hcon, waitAck, hcnt, Nat.mod_eq_of_lt hT32, L.emit, L.setS]
        have hstepT : trDrain (f + 1) l s = .send s n.mid n.timeout (par s).maxRtx :: trDrain f l2 s := by
          rw [← hnext]
          simp [trDrain, hg, hest, hcon, hgate]
        rw [hstep, hstepT]
        -- S side: one `send`
        obtain ⟨ts2, hts2⟩ : ∃ ts2, ts2 = Timer.step ts (.send s n.mid n.timeout (par s).maxRtx) := ⟨_, rfl⟩
        have hc2 : Core (mxOf par) l2 ts2 := by
          rw [hl2, hts2]
          refine ⟨hc.now, ?_⟩
          simp only [Timer.step]
          exact pend_enqueue hc.pend hi.base n.timeout _ _ (by simp [er, toP, mxOf, hcnt, hc.now])
        have hd2 : DOut l l2 ts ts2 := by
          rw [hl2, hts2]
          refine ⟨[.tx l.now s n.mid 0 true], [.tx ts.now s n.mid 0 ts.now n.timeout (par s).maxRtx], rfl, rfl, ?_, ?_⟩
          · simp [obsS, obsM, hc.now]
          · simp [obsM, isTx]
        have h3 := ih l2 ts2 s hfin' hc2
        simp only [Timer.run, List.foldl_cons] at h3 ⊢
        rw [← hts2]
        refine ⟨h3.1, DOut.trans hd2 h3.2.1, ⟨hT, by rw [← hts2]; exact h3.2.2.1⟩, ?_⟩
        apply sendsOk_cons _ h3.2.2.2
        intro s' mid' T' mx' he
        injection he with e1 e2 e3 e4
        subst e1 e2 e3 e4
        exact ⟨hP, rfl⟩

theorem connected_sim {par : Nat → Sess} {P : Nat → Nat → Nat → Prop} (hp : GPar par) (l : L) (ts : TS)
    (s : Nat) (hi : FInv False par P l) (hc : Core (mxOf par) l ts) :
    Core (mxOf par) (connected l s) (Timer.run ts (trConnected l s)) ∧
    DOut l (connected l s) ts (Timer.run ts (trConnected l s)) ∧ RunOk ts (trConnected l s) ∧
    SendsOk par P (trConnected l s) :=
  drain_sim hp _ _ ts s (finv_setS_est hp hi s) ⟨hc.now, hc.pend⟩

theorem release_sim {par : Nat → Sess} {P : Nat → Nat → Nat → Prop} (hp : GPar par) (l : L) (ts : TS)
    (s : Nat) (hi : FInv False par P l) (hc : Core (mxOf par) l ts) :
    Core (mxOf par) (release l s) (Timer.run ts (trRelease l s)) ∧
    DOut l (release l s) ts (Timer.run ts (trRelease l s)) ∧ RunOk ts (trRelease l s) ∧
    SendsOk par P (trRelease l s) := by
  unfold release trRelease
  simp only []
  split
  · exact ⟨hc, DOut.refl _ _, trivial, sendsOk_nil _ _⟩
  · split
    · exact connected_sim hp _ ts s (finv_setS_dec hi s) ⟨hc.now, hc.pend⟩
    · exact ⟨⟨hc.now, hc.pend⟩, DOut.refl _ _, trivial, sendsOk_nil _ _⟩

/-- `coap_retransmit` of a node just popped (`l` = the state with the node popped): S fires its earliest due entry; when it
is a give-up, the Confirmables the released NSTART slot lets out of the delay queue are sent then -/
def trRetransmit (l : L) (n : Node) : List TEv :=
  .tickN l.now 1 :: (if n.cnt < (l.getS n.sess).maxRtx then [] else trRelease l n.sess)

def trDueLoop : Nat → L → List TEv
  | 0, _ => []
  | fuel + 1, l =>
    match l.q.nodes with
    | [] => []
    | h :: _ =>
      if l.now ≥ l.q.base ∧ h.t ≤ l.now - l.q.base then
        match popNext l.q.nodes with
        | none => []
        | some (n, rest) =>
          trRetransmit { l with q := { l.q with nodes := rest } } n ++
            trDueLoop fuel (retransmit { l with q := { l.q with nodes := rest } } n)
      else []

theorem RelF.core_of {mx : Nat → Nat} {l : L} {ts : TS} (hr : RelF mx l ts) :
    Core mx l { ts with now := l.now } := ⟨rfl, hr.pend⟩

theorem runOk_append' (ts : TS) (a b : List TEv) (h1 : RunOk ts a) (h2 : RunOk (Timer.run ts a) b) : RunOk ts (a ++ b) :=
  (Timer.runOk_append ts a b).2 ⟨h1, h2⟩

theorem trDueLoop_not_due (fuel : Nat) (l : L) (h : NothingDue l) : trDueLoop fuel l = [] := by
  rw [nothingDue_iff] at h
  cases fuel with
  | zero => rfl
  | succ f =>
    rcases hn : l.q.nodes with _ | ⟨hd, r⟩
    · simp [trDueLoop, hn]
    · have : ¬ (l.now ≥ l.q.base ∧ hd.t ≤ l.now - l.q.base) := by
        intro hc; have := h hd r hn; omega
      simp [trDueLoop, hn, this]

theorem trDueLoop_due (f : Nat) (l : L) (hd : Node) (rest : List Node) (hpop : popNext l.q.nodes = some (hd, rest))
    (hb : l.q.base ≤ l.now) (hdue : l.q.base + hd.t ≤ l.now) :
    trDueLoop (f + 1) l = trRetransmit { l with q := { l.q with nodes := rest } } hd ++
      trDueLoop f (retransmit { l with q := { l.q with nodes := rest } } hd) := by
  rcases hn : l.q.nodes with _ | ⟨a, r⟩
  · rw [hn] at hpop; cases hpop
  · have ha : a = hd := by
      rw [hn] at hpop
      rcases r with _ | ⟨q, r'⟩ <;> simp [popNext] at hpop <;> exact hpop.1
    have hcond : l.now ≥ l.q.base ∧ a.t ≤ l.now - l.q.base := ⟨hb, by rw [ha]; omega⟩
    rw [hn] at hpop
    simp [trDueLoop, hn, hcond, hpop]

theorem evOk_of_fut {mx : Nat → Nat} {l : L} {ts : TS} (hp : ts.pend.map er = absP mx l.q.base l.q.nodes)
    (h : ∀ e ∈ abs l.q, l.now ≤ e.deadline) : ∀ p ∈ ts.pend, l.now ≤ p.1 := by
  intro p hp'
  have h1 : p.1 ∈ ts.pend.map (·.1) := List.mem_map.2 ⟨p, hp', rfl⟩
  have h2 : ts.pend.map (·.1) = (ts.pend.map er).map (·.1) := by rw [List.map_map]; rfl
  rw [h2, hp, absP_fst] at h1
  obtain ⟨e, he, hd⟩ := List.mem_map.1 h1
  rw [← hd]; exact h e he

theorem dueLoop_simF {pu : Prop} {par : Nat → Sess} {P : Nat → Nat → Nat → Prop} (hp : GPar par) :
    ∀ (f : Nat) (l : L) (ts : TS), FInv False par P l → Fut pu l → RelF (mxOf par) l ts →
      RelF (mxOf par) (dueLoop f l) (Timer.run ts (trDueLoop f l)) ∧ (pu → RunOk ts (trDueLoop f l)) ∧
      SendsOk par P (trDueLoop f l) := by
  intro f
  induction f with
  | zero => intro l ts _ _ hr; exact ⟨hr, fun _ => trivial, sendsOk_nil _ _⟩
  | succ f ih =>
    intro l ts hi hf hr
    rcases dueLoop_cases hp f l hi with ⟨hnd, h⟩ | ⟨hd, rest, hpop, hdue, hloop, hi1, hnode, hi2⟩
    · rw [h, trDueLoop_not_due _ l hnd]; exact ⟨hr, fun _ => trivial, sendsOk_nil _ _⟩
    · obtain ⟨l1, hl1⟩ : ∃ l1, l1 = ({ l with q := { l.q with nodes := rest } } : L) := ⟨_, rfl⟩
      rw [hloop, trDueLoop_due f l hd rest hpop hi.base hdue, ← hl1]
      have hf2 : Fut pu (retransmit { l with q := { l.q with nodes := rest } } hd) :=
        (kept_retransmit (kept_fut pu) _ hd ((kept_fut pu).nodes l rest ⟨hi.base, hf⟩ (fun _ _ => trivial)
          (subQ_popNext hpop)) trivial).2
      rw [← hl1] at hi1 hi2 hf2
      have hab := absP_popNext (mxOf par) l.q.base l.q.nodes hd rest hpop
      have q1b : l1.q.base = l.q.base := by rw [hl1]
      have q1n : l1.q.nodes = rest := by rw [hl1]
      have n1 : l1.now = l.now := by rw [hl1]
      have o1 : l1.out = l.out := by rw [hl1]
      have s1 : l1.sess = l.sess := by rw [hl1]
      -- S side: the head of the pending list
      rcases ts with ⟨tnow, pend, outs⟩
      have hpd := hr.pend
      rw [hab] at hpd
      rcases pend with _ | ⟨⟨d, m⟩, pr⟩
      · simp at hpd
      simp only [List.map_cons, List.cons.injEq] at hpd
      obtain ⟨hdm, hpr'⟩ := hpd
      obtain ⟨e1, e2', e3, e4, e5, e6⟩ := er_eq_toP hdm
      have hd_le : d ≤ l.now := by omega
      obtain ⟨ca, dq, hg, hle, hdq⟩ := hi.sess hd.sess
      have hgs : l1.getS hd.sess = { par hd.sess with conActive := ca, delayq := dq } := by
        have : l1.getS hd.sess = l.getS hd.sess := by simp [L.getS, s1]
        rw [this]; exact hg
      have hnowR := retransmit_now l1 hd
      have htn : tnow ≤ l.now := hr.now
      have hevok : pu → EvOk ⟨tnow, (d, m) :: pr, outs⟩ (.tickN l.now 1) := by
        intro hpu'
        exact evOk_of_fut (ts := ⟨tnow, (d, m) :: pr, outs⟩) hr.pend (hf hpu')
      rcases (retransmit_cases hp l1 hd hi1 hnode).2 with ⟨hc, ho, hq, _⟩ | ⟨hc, heq⟩
      · -- retransmit and re-arm: one transmission on both sides
        have hcS : m.cnt < m.maxRtx := by rw [e5, e6]; exact hc
        have hcM : hd.cnt < (l1.getS hd.sess).maxRtx := by rw [hgs]; exact hc
        have etr : trRetransmit l1 hd = [.tickN l.now 1] := by simp [trRetransmit, hcM, n1]
        have hS : Timer.step ⟨tnow, (d, m) :: pr, outs⟩ (.tickN l.now 1) =
            { now := l.now, pend := pinsert pr (l.now + m.T * 2 ^ (m.cnt + 1), { m with cnt := m.cnt + 1 }),
              outs := TOut.tx l.now m.sess m.mid (m.cnt + 1) m.t0 m.T m.maxRtx :: outs } := by
          simp [Timer.step, htn, fire, hd_le, hcS]
        have hr2 : RelF (mxOf par) (retransmit l1 hd)
            { now := l.now, pend := pinsert pr (l.now + m.T * 2 ^ (m.cnt + 1), { m with cnt := m.cnt + 1 }),
              outs := TOut.tx l.now m.sess m.mid (m.cnt + 1) m.t0 m.T m.maxRtx :: outs } := by
          refine ⟨by rw [hnowR, n1]; exact Nat.le_refl _, ?_, ?_, ?_⟩
          · show List.map er (pinsert pr _) = _
            rw [hq]
            exact pend_enqueue (by rw [q1b, q1n]; exact hpr') hi1.base _ _ _ (by simp only [er, toP, mxOf, n1, e2', e3, e4, e5, e6])
          · rw [ho, o1, n1, ← e2', ← e3, ← e5]
            exact (obs_cons_tx hr.txs hr.nacks _ _ _ _ _ _ _).1
          · rw [ho, o1, n1, ← e2', ← e3, ← e5]
            exact (obs_cons_tx hr.txs hr.nacks _ _ _ _ _ _ _).2
        have h3 := ih _ _ hi2 hf2 hr2
        rw [etr]
        simp only [List.singleton_append, Timer.run, List.foldl_cons] at h3 ⊢
        rw [hS]
        refine ⟨h3.1, fun hpu' => ⟨hevok hpu', ?_⟩, sendsOk_cons (by intro _ _ _ _ he; cases he) h3.2.2⟩
        rw [hS]; exact h3.2.1 hpu'
      · -- give up: S reports the outcome, then sends what the released slot lets out; M transmits, then reports
        have hcS : ¬ m.cnt < m.maxRtx := by rw [e5, e6]; exact Nat.not_lt.2 hc
        have hcM : ¬ hd.cnt < (l1.getS hd.sess).maxRtx := by rw [hgs]; exact Nat.not_lt.2 hc
        have etr : trRetransmit l1 hd = .tickN l.now 1 :: trRelease l1 hd.sess := by simp [trRetransmit, hcM, n1]
        have hS : Timer.step ⟨tnow, (d, m) :: pr, outs⟩ (.tickN l.now 1) =
            { now := l.now, pend := pr, outs := TOut.nackRetries l.now m.sess m.mid :: outs } := by
          simp [Timer.step, htn, fire, hd_le, hcS]
        have hc1 : Core (mxOf par) l1 { now := l.now, pend := pr, outs := TOut.nackRetries l.now m.sess m.mid :: outs } :=
          ⟨n1.symm, by rw [q1b, q1n]; exact hpr'⟩
        obtain ⟨hc2, hd2, hok2, hso2⟩ := release_sim hp l1 _ hd.sess hi1 hc1
        have houts := DOut.outs_nack (oM := Out.nack (release l1 hd.sess).now hd.sess .retries hd.mid true) hd2
          (by simp [obsS, obsM, e2', e3, n1, release_now]) (by intro o ho; simp [obsM] at ho; subst ho; exact ⟨rfl, rfl⟩)
          (by rw [o1]; exact hr.txs) (by rw [o1]; exact hr.nacks)
        have hr2 : RelF (mxOf par) (retransmit l1 hd)
            (Timer.run { now := l.now, pend := pr, outs := TOut.nackRetries l.now m.sess m.mid :: outs }
              (trRelease l1 hd.sess)) := by
          rw [heq]
          exact ⟨by rw [hc2.now]; exact Nat.le_refl _, hc2.pend, houts.1, houts.2⟩
        have h3 := ih _ _ hi2 hf2 hr2
        rw [etr]
        simp only [List.cons_append, Timer.run, List.foldl_cons, List.foldl_append] at h3 ⊢
        rw [hS]
        refine ⟨h3.1, fun hpu' => ⟨hevok hpu', ?_⟩,
          sendsOk_cons (by intro _ _ _ _ he; cases he) (sendsOk_append hso2 h3.2.2)⟩
        rw [hS]
        exact runOk_append' _ _ _ hok2 (h3.2.1 hpu')

/-! ### the S events an M event stands for, in the order the code processes things -/

/-- the removal of (s, mid) from the send queue, then what the released NSTART slot lets out -/
def trRemoved (l : L) (s mid : Nat) : List TEv :=
  match (removeNode l.q.nodes s mid).1 with
  | some _ => trRelease { l with q := { l.q with nodes := (removeNode l.q.nodes s mid).2 } } s
  | none => []

/-- `coap_cancel_all_messages(session, token)` (a response arrived): every node of (session, token) leaves the send queue — for S
an `ack` of its message id — and each releases its NSTART slot -/
def trCancel : Nat → L → Nat → Nat → List TEv
  | 0, _, _, _ => []
  | fuel + 1, l, s, tok =>
    match removeTok l.q.nodes s tok with
    | (none, _) => []
    | (some n, rest) =>
      .ack s n.mid ::
        ((if n.con then trRelease { l with q := { l.q with nodes := rest } } s else []) ++
         trCancel fuel (if n.con then release { l with q := { l.q with nodes := rest } } s
                        else { l with q := { l.q with nodes := rest } }) s tok)

def tr (l : L) : Ev → List TEv
  | .setNow _ => []
  | .prepare => trDueLoop (dueFuel l) l
  | .submit s con mid r =>
    if !(l.getS s).sockOpen then []
    else if gate (l.getS s) con then []
    else if con then
      [.tickN l.now 0, .send s mid (calcTimeout (l.getS s).atI (l.getS s).atF (l.getS s).arfI (l.getS s).arfF r)
        (l.getS s).maxRtx]
    else []
  | .rxAck s mid =>
    if (l.getS s).sockOpen then
      .tickN l.now 0 :: .ack s mid :: (trRemoved l s mid ++ trDueLoop (dueFuel (rxAck l s mid)) (rxAck l s mid))
    else []
  | .rxRst s mid =>
    if (l.getS s).sockOpen then
      .tickN l.now 0 :: .rst s mid :: (trRemoved l s mid ++ trDueLoop (dueFuel (rxRst l s mid)) (rxRst l s mid))
    else []
  | .rxBad s mid =>       -- an ACK with an invalid / request code: for S an `ack` (the BAD_RESPONSE NACK is not an outcome of S)
    if (l.getS s).sockOpen then
      .tickN l.now 0 :: .ack s mid :: (trRemoved l s mid ++ trDueLoop (dueFuel (rxBad l s mid)) (rxBad l s mid))
    else []
  | .connect s => .tickN l.now 0 :: trConnected l s
  | .rxNon s mid tok =>   -- a response: cancel by token, then the I/O step
    if (l.getS s).sockOpen then
      .tickN l.now 0 :: (trCancel (l.q.nodes.length + 1) l s tok ++
        trDueLoop (dueFuel (rxNon l s mid tok)) (rxNon l s mid tok))
    else []
  | _ => []

def trRun (l : L) : List Ev → List TEv
  | [] => []
  | ev :: evs => tr l ev ++ trRun (Msg.step l ev) evs

/-- the scope `Sched.EvG` written out once more (the same predicate: `runInF_runG`, `runG_runInF`); the simulation is stated
over `EvG` / `RunG` -/
def EvInF (l : L) : Ev → Prop
  | .setNow t => l.now ≤ t
  | .prepare => True
  | .submit s con _ r =>
    con = true →
    (0 < calcTimeout (l.getS s).atI (l.getS s).atF (l.getS s).arfI (l.getS s).arfF r ∧
     calcTimeout (l.getS s).atI (l.getS s).atF (l.getS s).arfI (l.getS s).arfF r * 2 ^ (l.getS s).maxRtx < 2 ^ 64)
  | .rxAck _ _ => True
  | .rxRst _ _ => True
  | .rxBad _ _ => True
  | .rxNon _ _ _ => True
  | .connect _ => True
  | .hold _ => False
  | .disconnect _ => False

def RunInF (l : L) : List Ev → Prop
  | [] => True
  | ev :: evs => EvInF l ev ∧ RunInF (Msg.step l ev) evs

instance (l : L) (ev : Ev) : Decidable (EvInF l ev) := by
  cases ev <;> simp only [EvInF] <;> infer_instance

instance decRunInF : (evs : List Ev) → (l : L) → Decidable (RunInF l evs)
  | [], _ => isTrue trivial
  | ev :: evs, l => by
    unfold RunInF
    exact @instDecidableAnd _ _ _ (decRunInF evs _)

theorem evInF_evG {l : L} {ev : Ev} (h : EvInF l ev) : EvG l ev := by
  cases ev <;> exact h

theorem runInF_runG : ∀ (evs : List Ev) (l : L), RunInF l evs → RunG l evs
  | [], _, _ => trivial
  | _ :: evs, _, h => ⟨evInF_evG h.1, runInF_runG evs _ h.2⟩

theorem runG_runInF : ∀ (evs : List Ev) (l : L), RunG l evs → RunInF l evs
  | [], _, _ => trivial
  | ev :: evs, _, h => ⟨by cases ev <;> exact h.1, runG_runInF evs _ h.2⟩

theorem relF_emit_none {mx : Nat → Nat} {l : L} {ts : TS} (o : Out) (ho : obsM o = none) (hr : RelF mx l ts) :
    RelF mx (l.emit o) ts :=
  ⟨hr.now, hr.pend, by rw [hr.txs]; simp [L.emit, txsM, ho], by rw [hr.nacks]; simp [L.emit, nksM, ho]⟩

theorem relF_emit_non {mx : Nat → Nat} {l : L} {ts : TS} (t s mid k : Nat) (hr : RelF mx l ts) :
    RelF mx (l.emit (.tx t s mid k false)) ts :=
  ⟨hr.now, hr.pend, by rw [hr.txs]; simp [L.emit, txsM, obsM, isTx],
    by rw [hr.nacks]; simp [L.emit, nksM, obsM, isNk]⟩

theorem tickN0 (ts : TS) (t : Nat) (h : ts.now ≤ t) : Timer.step ts (.tickN t 0) = { ts with now := t } := by
  simp [Timer.step, h, fire]

theorem removed_simF {par : Nat → Sess} {P : Nat → Nat → Nat → Prop} (hp : GPar par) (l : L) (ts : TS)
    (s mid : Nat) (isRst : Bool) (hi : FInv False par P l) (hr : RelF (mxOf par) l ts)
    (hn : ts.now = l.now) :
    let l' := if isRst then rxRst l s mid else rxAck l s mid
    let evs := (if isRst then TEv.rst s mid else TEv.ack s mid) :: trRemoved l s mid
    RelF (mxOf par) l' (Timer.run ts evs) ∧ (Timer.run ts evs).now = l'.now ∧ RunOk ts evs ∧ SendsOk par P evs := by
  intro l' evs
  have hne2 : ∀ s' mid' T mx, (if isRst then TEv.rst s mid else TEv.ack s mid) = .send s' mid' T mx → 
      P s' mid' T ∧ mx = (par s').maxRtx := by
    intro _ _ _ _ he; cases isRst <;> simp at he
  obtain ⟨hi1, hk⟩ := removed_finv l s mid hi
  rcases ts with ⟨tnow, pend, outs⟩
  simp only [] at hn
  subst hn
  simp only [evs, Timer.run, List.foldl_cons, RunOk]
  rcases pend_remove hr.pend s mid with ⟨hnone, hpm, hp1⟩ | ⟨n, rest, m, r', hrem, hpm, hp1⟩
  · -- nothing found: S's `ack` / `rst` does nothing either
    obtain ⟨rest, hrem⟩ : ∃ rest, removeNode l.q.nodes s mid = (none, rest) := ⟨_, Prod.ext hnone rfl⟩
    rw [hrem] at hp1
    have etr : trRemoved l s mid = [] := by simp [trRemoved, hrem]
    have hS1 : Timer.step ⟨l.now, pend, outs⟩ (if isRst then TEv.rst s mid else TEv.ack s mid) = ⟨l.now, pend, outs⟩ := by
      cases isRst <;> simp [Timer.step, hpm]
    have hr1 : RelF (mxOf par) ({ l with q := { l.q with nodes := rest } } : L) ⟨l.now, pend, outs⟩ :=
      ⟨Nat.le_refl _, hp1, hr.txs, hr.nacks⟩
    rw [etr, hS1]
    refine ⟨?_, ?_, ⟨by cases isRst <;> trivial, trivial⟩, sendsOk_cons hne2 (sendsOk_nil _ _)⟩
    · cases isRst with
      | false =>
        have el : l' = { l with q := { l.q with nodes := rest } } := by simp [l', rxAck, hrem]
        rw [el]; exact hr1
      | true =>
        have el : l' = ({ l with q := { l.q with nodes := rest } } : L).emit (.nack l.now s .rst mid false) := by
          simp [l', rxRst, hrem]
        rw [el]; exact relF_emit_none _ rfl hr1
    · cases isRst <;> simp [l', rxAck, rxRst, hrem, L.emit]
  · rw [hrem] at hi1 hk
    simp only [] at hi1 hk
    obtain ⟨l1, hl1⟩ : ∃ l1, l1 = ({ l with q := { l.q with nodes := rest } } : L) := ⟨_, rfl⟩
    rw [← hl1] at hi1
    have etr : trRemoved l s mid = trRelease l1 s := by rw [hl1]; simp [trRemoved, hrem]
    rw [etr]
    have n1 : l1.now = l.now := by rw [hl1]
    have o1 : l1.out = l.out := by rw [hl1]
    have hkn := hk n rfl
    cases isRst with
    | false =>
      have el : l' = release l1 s := by rw [hl1]; simp [l', rxAck, hrem]
      have hS1 : Timer.step ⟨l.now, pend, outs⟩ (.ack s mid) = ⟨l.now, r', TOut.acked l.now s mid :: outs⟩ := by
        simp [Timer.step, hpm]
      rw [el]
      simp only [Bool.false_eq_true, if_false, hS1]
      have hc1 : Core (mxOf par) l1 ⟨l.now, r', TOut.acked l.now s mid :: outs⟩ :=
        ⟨n1.symm, by rw [hl1]; exact hp1⟩
      obtain ⟨hc2, hd2, hok2, hso2⟩ := release_sim hp l1 _ s hi1 hc1
      have houts := hd2.outs (by rw [o1, (obs_cons_acked _ _ _ _).1]; exact hr.txs)
        (by rw [o1, (obs_cons_acked _ _ _ _).2]; exact hr.nacks)
      exact ⟨⟨Nat.le_of_eq hc2.now, hc2.pend, houts.1, houts.2⟩, hc2.now, ⟨trivial, hok2⟩,
        sendsOk_cons (by intro _ _ _ _ he; cases he) hso2⟩
    | true =>
      have el : l' = (release l1 s).emit (.nack (release l1 s).now s .rst n.mid true) := by
        rw [hl1]; simp [l', rxRst, hrem, hkn.1]
      have hS1 : Timer.step ⟨l.now, pend, outs⟩ (.rst s mid) = ⟨l.now, r', TOut.nackRst l.now s mid :: outs⟩ := by
        simp [Timer.step, hpm]
      rw [el]
      simp only [if_true, hS1]
      have hc1 : Core (mxOf par) l1 ⟨l.now, r', TOut.nackRst l.now s mid :: outs⟩ :=
        ⟨n1.symm, by rw [hl1]; exact hp1⟩
      obtain ⟨hc2, hd2, hok2, hso2⟩ := release_sim hp l1 _ s hi1 hc1
      have houts := DOut.outs_nack (oM := Out.nack (release l1 s).now s .rst n.mid true) hd2
        (by simp [obsS, obsM, release_now, n1, hkn.2]) (by intro o ho; simp [obsM] at ho; subst ho; exact ⟨rfl, rfl⟩)
        (by rw [o1]; exact hr.txs) (by rw [o1]; exact hr.nacks)
      exact ⟨⟨Nat.le_of_eq hc2.now, hc2.pend, houts.1, houts.2⟩, hc2.now, ⟨trivial, hok2⟩,
        sendsOk_cons (by intro _ _ _ _ he; cases he) hso2⟩

theorem thenIo_simF {pu : Prop} {par : Nat → Sess} {P : Nat → Nat → Nat → Prop} (hp : GPar par) (l l' : L) (ts : TS)
    (evs : List TEv) (hf : Fut pu l) (hr : RelF (mxOf par) l ts) (hi' : FInv False par P l') (hf' : Fut pu l')
    (hr1 : RelF (mxOf par) l' (Timer.run { ts with now := l.now } evs)) (hok1 : RunOk { ts with now := l.now } evs)
    (hso1 : SendsOk par P evs) :
    RelF (mxOf par) (afterRx l') (Timer.run ts (.tickN l.now 0 :: (evs ++ trDueLoop (dueFuel l') l'))) ∧
    (pu → RunOk ts (.tickN l.now 0 :: (evs ++ trDueLoop (dueFuel l') l'))) ∧
    SendsOk par P (.tickN l.now 0 :: (evs ++ trDueLoop (dueFuel l') l')) := by
  have h2 := dueLoop_simF hp (dueFuel l') l' _ hi' hf' hr1
  simp only [Timer.run, List.foldl_cons, List.foldl_append, tickN0 ts l.now hr.now, RunOk]
  simp only [Timer.run] at h2 hok1
  unfold afterRx
  rw [prepareCore_fst]
  exact ⟨h2.1, fun hpu' => ⟨evOk_of_fut hr.pend (hf hpu'), runOk_append' _ _ _ hok1 (h2.2.1 hpu')⟩,
    sendsOk_cons (by intro _ _ _ _ he; cases he) (sendsOk_append hso1 h2.2.2)⟩

theorem rx_simF {pu : Prop} {par : Nat → Sess} {P : Nat → Nat → Nat → Prop} (hp : GPar par) (l : L) (ts : TS)
    (s mid : Nat) (isRst : Bool) (hi : FInv False par P l) (hf : Fut pu l) (hr : RelF (mxOf par) l ts) :
    let l' := if isRst then rxRst l s mid else rxAck l s mid
    let evs := TEv.tickN l.now 0 :: (if isRst then TEv.rst s mid else TEv.ack s mid) ::
      (trRemoved l s mid ++ trDueLoop (dueFuel l') l')
    RelF (mxOf par) (afterRx l') (Timer.run ts evs) ∧ (pu → RunOk ts evs) ∧ SendsOk par P evs := by
  intro l' evs
  obtain ⟨hr1, _, hok1, hso1⟩ := removed_simF hp l { ts with now := l.now } s mid isRst hi
    ⟨Nat.le_refl _, hr.pend, hr.txs, hr.nacks⟩ rfl
  obtain ⟨hi', hf'⟩ : FInv False par P l' ∧ Fut pu l' := by
    cases isRst
    · exact ⟨rxAck_finv hp l s mid hi, ((kept_fut pu).disp.rxAck l ⟨hi.base, hf⟩).2⟩
    · exact ⟨rxRst_finv hp l s mid hi, ((kept_fut pu).disp.rxRst l ⟨hi.base, hf⟩).2⟩
  exact thenIo_simF hp l l' ts _ hf hr hi' hf' hr1 hok1 hso1

theorem rxBad_simF {pu : Prop} {par : Nat → Sess} {P : Nat → Nat → Nat → Prop} (hp : GPar par) (l : L) (ts : TS)
    (s mid : Nat) (hi : FInv False par P l) (hf : Fut pu l) (hr : RelF (mxOf par) l ts) :
    let evs := TEv.tickN l.now 0 :: TEv.ack s mid ::
      (trRemoved l s mid ++ trDueLoop (dueFuel (rxBad l s mid)) (rxBad l s mid))
    RelF (mxOf par) (afterRx (rxBad l s mid)) (Timer.run ts evs) ∧ (pu → RunOk ts evs) ∧ SendsOk par P evs := by
  intro evs
  obtain ⟨hr1, _, hok1, hso1⟩ := removed_simF hp l { ts with now := l.now } s mid false hi
    ⟨Nat.le_refl _, hr.pend, hr.txs, hr.nacks⟩ rfl
  simp only [Bool.false_eq_true, if_false] at hr1 hok1 hso1
  have hr1' : RelF (mxOf par) (rxBad l s mid) (Timer.run { ts with now := l.now } (TEv.ack s mid :: trRemoved l s mid)) := by
    rcases rxBad_eq l s mid with h | ⟨o, ho, h⟩
    · rw [h]; exact hr1
    · rw [h]; exact relF_emit_none o ho hr1
  exact thenIo_simF hp l _ ts _ hf hr (rxBad_finv hp l s mid hi) ((kept_fut pu).disp.rxBad l ⟨hi.base, hf⟩).2
    hr1' hok1 hso1

/-! ### ACKs that find the message -/

def NoAck (evs : List TEv) : Prop := ∀ e ∈ evs, ∀ s m, e ≠ .ack s m

theorem noAck_nil : NoAck [] := by intro e he; cases he
theorem noAck_append {a b : List TEv} (ha : NoAck a) (hb : NoAck b) : NoAck (a ++ b) := by
  intro e he; rcases List.mem_append.mp he with h | h
  · exact ha e h
  · exact hb e h
theorem noAck_cons {e : TEv} {b : List TEv} (he : ∀ s m, e ≠ .ack s m) (hb : NoAck b) : NoAck (e :: b) := by
  intro x hx; rcases List.mem_cons.mp hx with h | h
  · rw [h]; exact he
  · exact hb x h

theorem ackS_noAck (s mid : Nat) : ∀ (evs : List TEv) (ts : TS), NoAck evs →
    ackS s mid (Timer.run ts evs).outs = ackS s mid ts.outs := by
  intro evs
  induction evs with
  | nil => intro ts _; rfl
  | cons e evs ih =>
    intro ts h
    simp only [Timer.run, List.foldl_cons]
    have h1 := ih (Timer.step ts e) (fun x hx => h x (List.mem_cons_of_mem _ hx))
    simp only [Timer.run] at h1
    rw [h1]
    cases e with
    | send s' m' T mx => exact ackS_send s mid ts s' m' T mx
    | tick t => exact ackS_tick s mid ts t
    | tickN t k => exact ackS_tickN s mid ts t k
    | rst s' m' => exact ackS_rst s mid ts s' m'
    | ack s' m' => exact absurd rfl (h _ (List.mem_cons_self ..) s' m')

/-- S's `ack`, then events without `ack`: one more `acked` exactly when the ACK finds the message in M's send queue -/
theorem ackS_ack_then (s0 m0 : Nat) {mx : Nat → Nat} {l : L} {ts : TS} (s mid : Nat) (rest : List TEv)
    (hno : NoAck rest) (hpend : ts.pend.map er = absP mx l.q.base l.q.nodes) :
    ackS s0 m0 (Timer.run ts (.ack s mid :: rest)).outs =
      ackS s0 m0 ts.outs + (if (s = s0 ∧ mid = m0) ∧ (removeNode l.q.nodes s mid).1 ≠ none then 1 else 0) := by
  have h3 := ackS_noAck s0 m0 rest (Timer.step ts (.ack s mid)) hno
  simp only [Timer.run, List.foldl_cons] at h3 ⊢
  rw [h3, ackS_ack]
  rcases pend_remove hpend s mid with ⟨hn, hs, _⟩ | ⟨n, _, m, pr, hm, hs, _⟩
  · simp [hn, hs]
  · simp [hm, hs]

theorem noAck_trDrain : ∀ (fuel : Nat) (l : L) (s : Nat), NoAck (trDrain fuel l s)
  | 0, _, _ => noAck_nil
  | fuel + 1, l, s => by
    unfold trDrain
    split
    · exact noAck_nil
    · refine ite_ind (fun _ => noAck_nil) fun _ => ite_ind (fun _ => noAck_nil) fun _ => ?_
      exact noAck_append (ite_ind (fun _ => noAck_cons (fun _ _ h => nomatch h) noAck_nil) fun _ => noAck_nil)
        (noAck_trDrain fuel _ s)

theorem noAck_trRelease (l : L) (s : Nat) : NoAck (trRelease l s) :=
  ite_ind (fun _ => noAck_nil) fun _ => ite_ind (fun _ => noAck_trDrain _ _ _) fun _ => noAck_nil

theorem noAck_trRemoved (l : L) (s mid : Nat) : NoAck (trRemoved l s mid) := by
  unfold trRemoved
  split
  · exact noAck_trRelease _ _
  · exact noAck_nil

theorem noAck_trDueLoop : ∀ (fuel : Nat) (l : L), NoAck (trDueLoop fuel l)
  | 0, _ => noAck_nil
  | fuel + 1, l => by
    unfold trDueLoop
    split
    · exact noAck_nil
    · refine ite_ind (fun _ => ?_) fun _ => noAck_nil
      split
      · exact noAck_nil
      · exact noAck_append
          (noAck_cons (fun _ _ h => nomatch h) (ite_ind (fun _ => noAck_nil) fun _ => noAck_trRelease _ _))
          (noAck_trDueLoop fuel _)

theorem cancel_simF {par : Nat → Sess} {P : Nat → Nat → Nat → Prop} (hp : GPar par) :
    ∀ (fuel : Nat) (l : L) (ts : TS) (s tok : Nat), FInv False par P l → RelF (mxOf par) l ts → ts.now = l.now →
      RelF (mxOf par) (cancelToken fuel l s tok) (Timer.run ts (trCancel fuel l s tok)) ∧
      (Timer.run ts (trCancel fuel l s tok)).now = (cancelToken fuel l s tok).now ∧
      RunOk ts (trCancel fuel l s tok) ∧ SendsOk par P (trCancel fuel l s tok) ∧
      ∀ s0 m0, ackS s0 m0 (Timer.run ts (trCancel fuel l s tok)).outs =
        ackS s0 m0 ts.outs + cancelCount s0 m0 fuel l s tok
  | 0, l, ts, s, tok, _, hr, hn =>
    ⟨hr, hn, trivial, sendsOk_nil _ _, fun _ _ => by simp [trCancel, Timer.run, cancelCount]⟩
  | f + 1, l, ts, s, tok, hi, hr, hn => by
    have heq := removeTok_eq_removeNode l.q.nodes s tok (fun x hx => (hi.nodes x hx).2.1)
    have hk := (removed_finv l s tok hi).2
    rcases hrem : removeNode l.q.nodes s tok with ⟨sent, rest⟩
    rw [hrem] at hk heq
    cases sent with
    | none =>
      have e1 : cancelToken (f + 1) l s tok = l := by simp [cancelToken, heq]
      have e2 : trCancel (f + 1) l s tok = [] := by simp [trCancel, heq]
      rw [e1, e2]
      exact ⟨hr, hn, trivial, sendsOk_nil _ _, fun _ _ => by simp [Timer.run, cancelCount, heq]⟩
    | some n =>
      have hkn := hk n rfl
      have hkey := (removeNode_found l.q.nodes s tok n (by rw [hrem])).2
      have el : rxAck l s tok = release { l with q := { l.q with nodes := rest } } s := by simp [rxAck, hrem]
      have etr : trRemoved l s tok = trRelease { l with q := { l.q with nodes := rest } } s := by simp [trRemoved, hrem]
      have e1 : cancelToken (f + 1) l s tok = cancelToken f (rxAck l s tok) s tok := by
        rw [el]; simp [cancelToken, heq, hkn.1]
      have e2 : trCancel (f + 1) l s tok = (.ack s tok :: trRemoved l s tok) ++ trCancel f (rxAck l s tok) s tok := by
        rw [el, etr]; simp [trCancel, heq, hkn.1, hkey.2]
      have e3 : ∀ s0 m0, cancelCount s0 m0 (f + 1) l s tok =
          (if s = s0 ∧ tok = m0 then 1 else 0) + cancelCount s0 m0 f (rxAck l s tok) s tok := by
        intro s0 m0; rw [el]; simp [cancelCount, heq, hkn.1, hkey.1, hkey.2]
      obtain ⟨hr1, hn1, hok1, hso1⟩ := removed_simF hp l ts s tok false hi hr hn
      have hi' := rxAck_finv hp l s tok hi
      simp only [Bool.false_eq_true, if_false] at hr1 hn1 hok1 hso1
      obtain ⟨h4r, h4n, h4ok, h4so, h4ack⟩ := cancel_simF hp f (rxAck l s tok) _ s tok hi' hr1 hn1
      rw [e1, e2, timer_run_append]
      refine ⟨h4r, h4n, runOk_append' _ _ _ hok1 h4ok, sendsOk_append hso1 h4so, fun s0 m0 => ?_⟩
      rw [h4ack s0 m0, e3 s0 m0, ackS_ack_then s0 m0 s tok _ (noAck_trRemoved l s tok) hr.pend]
      simp only [hrem, ne_eq, reduceCtorEq, not_false_eq_true, and_true]
      omega

theorem rxNon_simF {pu : Prop} {par : Nat → Sess} {P : Nat → Nat → Nat → Prop} (hp : GPar par) (l : L) (ts : TS)
    (s mid tok : Nat) (hi : FInv False par P l) (hf : Fut pu l) (hr : RelF (mxOf par) l ts) :
    let l' := rxNon l s mid tok
    let evs := TEv.tickN l.now 0 :: (trCancel (l.q.nodes.length + 1) l s tok ++ trDueLoop (dueFuel l') l')
    RelF (mxOf par) (afterRx l') (Timer.run ts evs) ∧ (pu → RunOk ts evs) ∧ SendsOk par P evs ∧
    ∀ s0 m0, ackS s0 m0 (Timer.run ts evs).outs =
      ackS s0 m0 ts.outs + cancelCount s0 m0 (l.q.nodes.length + 1) l s tok := by
  intro l' evs
  obtain ⟨hr1, _, hok1, hso1, hack1⟩ := cancel_simF hp (l.q.nodes.length + 1) l { ts with now := l.now } s tok hi
    ⟨Nat.le_refl _, hr.pend, hr.txs, hr.nacks⟩ rfl
  obtain ⟨h1, h2, h3⟩ := thenIo_simF hp l l' ts _ hf hr
    (finv_emit _ (cancelToken_finv hp (l.q.nodes.length + 1) l s tok hi))
    ((kept_fut pu).disp.cancelToken _ l ⟨hi.base, hf⟩).2
    (relF_emit_none _ rfl hr1) hok1 hso1
  refine ⟨h1, h2, h3, fun s0 m0 => ?_⟩
  have := ackS_noAck s0 m0 (trDueLoop (dueFuel l') l')
    (Timer.run { ts with now := l.now } (trCancel (l.q.nodes.length + 1) l s tok)) (noAck_trDueLoop _ _)
  simp only [evs, Timer.run, List.foldl_cons, List.foldl_append, tickN0 ts l.now hr.now]
  simp only [Timer.run] at this hack1
  rw [this, hack1 s0 m0]

theorem step_simF {pu : Prop} {par : Nat → Sess} {P : Nat → Nat → Nat → Prop} (hp : GPar par) (l : L) (ts : TS) (ev : Ev)
    (hi : FInv False par P l) (hr : RelF (mxOf par) l ts) (hok : EvG l ev) (hpu : pu → EvPunct l ev)
    (hP : ∀ s mid r, ev = .submit s true mid r →
      P s mid (calcTimeout (par s).atI (par s).atF (par s).arfI (par s).arfF r)) :
    RelF (mxOf par) (Msg.step l ev) (Timer.run ts (tr l ev)) ∧ (pu → RunOk ts (tr l ev)) ∧
    SendsOk par P (tr l ev) := by
  have hso := gsess_open hp hi.sess
  cases ev with
  | setNow t =>
    simp only [EvG] at hok
    exact ⟨⟨Nat.le_trans hr.now hok, hr.pend, hr.txs, hr.nacks⟩, fun _ => trivial, sendsOk_nil _ _⟩
  | prepare =>
    -- for every event but `setNow`, `EvPunct l ev` is the body of `Fut`
    have hf : Fut pu l := hpu
    have := dueLoop_simF hp (dueFuel l) l ts hi hf hr
    simp only [Msg.step, prepare, tr]
    rcases hpc : prepareCore l with ⟨l', w⟩
    have e : l' = dueLoop (dueFuel l) l := by rw [← prepareCore_fst, hpc]
    subst e
    exact ⟨relF_emit_none _ rfl this.1, this.2.1, this.2.2⟩
  | submit s con mid r =>
    have hf : Fut pu l := hpu
    cases con with
    | false =>
      -- a NON on an established session is transmitted at once and never queued: nothing for S
      have hT' : tr l (.submit s false mid r) = [] := by simp [tr, gate]
      rw [submit_non hp l s mid r hi, hT']
      exact ⟨relF_emit_none _ rfl (relF_emit_non _ _ _ _ hr), fun _ => trivial, sendsOk_nil _ _⟩
    | true =>
    obtain ⟨hT, h64⟩ := hok rfl
    rcases submit_con_cases hp l s mid r _ rfl hi with ⟨hgt, hM⟩ | ⟨hgt, _, ⟨_, hM⟩ | ⟨_, hM⟩⟩
    · have hT' : tr l (.submit s true mid r) = [.tickN l.now 0,
          .send s mid (calcTimeout (l.getS s).atI (l.getS s).atF (l.getS s).arfI (l.getS s).arfF r) (l.getS s).maxRtx] := by
        simp [tr, hso s, hgt]
      rw [hM, hT']
      obtain ⟨ca, dq, hg, hle, hdq⟩ := hi.sess s
      have emx : (l.getS s).maxRtx = (par s).maxRtx := by rw [hg]
      have hT32 := calcTimeout_mod (l.getS s).atI (l.getS s).atF (l.getS s).arfI (l.getS s).arfF r
      have hPs := hP s mid r rfl
      have epar : (calcTimeout (par s).atI (par s).atF (par s).arfI (par s).arfF r) =
          calcTimeout (l.getS s).atI (l.getS s).atF (l.getS s).arfI (l.getS s).arfF r := by rw [hg]
      rw [epar] at hPs
      generalize calcTimeout (l.getS s).atI (l.getS s).atF (l.getS s).arfI (l.getS s).arfF r = T at *
      simp only [Timer.run, List.foldl_cons, List.foldl_nil, tickN0 ts l.now hr.now, RunOk]
      refine ⟨relF_emit_none _ rfl ⟨Nat.le_refl _, ?_, ?_, ?_⟩, fun hpu' => ⟨evOk_of_fut hr.pend (hf hpu'), hT, trivial⟩,
        sendsOk_cons (by intro _ _ _ _ he; cases he) (sendsOk_cons (by
          intro s' mid' T' mx' he
          injection he with e1 e2 e3 e4
          subst e1 e2 e3 e4
          exact ⟨hPs, emx⟩) (sendsOk_nil _ _))⟩
      · simp only [Timer.step, waitAck, hT32]
        exact pend_enqueue hr.pend hi.base T _ _ (by simp [er, toP, mxOf, emx])
      · exact (obs_cons_tx hr.txs hr.nacks _ _ _ _ _ _ _).1
      · exact (obs_cons_tx hr.txs hr.nacks _ _ _ _ _ _ _).2
    · have hT' : tr l (.submit s true mid r) = [] := by simp [tr, hso s, hgt]
      rw [hT', hM]
      exact ⟨relF_emit_none _ rfl hr, fun _ => trivial, sendsOk_nil _ _⟩
    · have hT' : tr l (.submit s true mid r) = [] := by simp [tr, hso s, hgt]
      rw [hT', hM]
      exact ⟨relF_emit_none _ rfl ⟨hr.now, hr.pend, hr.txs, hr.nacks⟩, fun _ => trivial, sendsOk_nil _ _⟩
  | rxAck s mid =>
    have hf : Fut pu l := hpu
    have := rx_simF hp l ts s mid false hi hf hr
    simp only [Bool.false_eq_true, if_false] at this
    simp only [Msg.step, hso s, if_true, tr]
    exact this
  | rxRst s mid =>
    have hf : Fut pu l := hpu
    have := rx_simF hp l ts s mid true hi hf hr
    simp only [if_true] at this
    simp only [Msg.step, hso s, if_true, tr]
    exact this
  | rxNon s mid tok =>
    have hf : Fut pu l := hpu
    have := rxNon_simF hp l ts s mid tok hi hf hr
    simp only [Msg.step, hso s, if_true, tr]
    exact ⟨this.1, this.2.1, this.2.2.1⟩
  | rxBad s mid =>
    have hf : Fut pu l := hpu
    have := rxBad_simF hp l ts s mid hi hf hr
    simp only [Msg.step, hso s, if_true, tr]
    exact this
  | hold _ | disconnect _ => exact absurd hok (by simp [EvG])
  | connect s =>
    have hf : Fut pu l := hpu
    have hc0 : Core (mxOf par) l { ts with now := l.now } := hr.core_of
    obtain ⟨hc2, hd2, hok2, hso2⟩ := connected_sim hp l _ s hi hc0
    have houts := hd2.outs hr.txs hr.nacks
    simp only [Msg.step, tr, Timer.run, List.foldl_cons, tickN0 ts l.now hr.now, RunOk]
    exact ⟨⟨Nat.le_of_eq hc2.now, hc2.pend, houts.1, houts.2⟩,
      fun hpu' => ⟨evOk_of_fut hr.pend (hf hpu'), hok2⟩, sendsOk_cons (by intro _ _ _ _ he; cases he) hso2⟩

/-- one M event: the `acked` outputs of S grow by one exactly when an arriving ACK (empty: `rxAck`; invalid / request code:
`rxBad`) finds its message in the send queue — `Sched.remW` on this alphabet -/
theorem ackS_stepF {par : Nat → Sess} {P : Nat → Nat → Nat → Prop} (hp : GPar par) (s mid : Nat) (l : L)
    (ts : TS) (ev : Ev) (hi : FInv False par P l) (hr : RelF (mxOf par) l ts) :
    ackS s mid (Timer.run ts (tr l ev)).outs = ackS s mid ts.outs + remW s mid l ev := by
  have hopen := gsess_open hp hi.sess
  cases ev with
  | rxNon s' m' tok =>
    have := (rxNon_simF (pu := False) hp l ts s' m' tok hi (fun h => h.elim) hr).2.2.2 s mid
    simp only [tr, remW, hopen s', if_true]
    exact this
  | rxBad s' m' | rxAck s' m' =>
    simp only [tr, remW, hopen s', if_true, Timer.run, List.foldl_cons, tickN0 ts l.now hr.now]
    exact ackS_ack_then s mid s' m' _ (noAck_append (noAck_trRemoved l s' m') (noAck_trDueLoop _ _)) hr.pend
  | setNow _ | hold _ | disconnect _ => simp [tr, Timer.run, remW]
  | prepare => simp only [tr, remW, Nat.add_zero]; exact ackS_noAck s mid _ ts (noAck_trDueLoop _ _)
  | submit s' c m' r =>
    simp only [tr, remW, Nat.add_zero]
    refine ackS_noAck s mid _ ts (ite_ind (fun _ => noAck_nil) fun _ => ite_ind (fun _ => noAck_nil) fun _ =>
      ite_ind (fun _ => ?_) fun _ => noAck_nil)
    exact noAck_cons (fun _ _ h => nomatch h) (noAck_cons (fun _ _ h => nomatch h) noAck_nil)
  | rxRst s' m' =>
    simp only [tr, remW, Nat.add_zero]
    refine ackS_noAck s mid _ ts (ite_ind (fun _ => ?_) fun _ => noAck_nil)
    exact noAck_cons (fun _ _ h => nomatch h) (noAck_cons (fun _ _ h => nomatch h)
      (noAck_append (noAck_trRemoved l s' m') (noAck_trDueLoop _ _)))
  | connect s' =>
    simp only [tr, remW, Nat.add_zero]
    exact ackS_noAck s mid _ ts (noAck_cons (fun _ _ h => nomatch h) (noAck_trDrain _ _ _))

/-- what the simulation gives for a run of M from `l` beside S from `ts`: the invariant (delay queues included), the relation,
for punctual runs punctuality of the S run, the provenance of S's `send`s, and S's completions by ACK counted by `Sched.remC` -/
structure SimRun (pu : Prop) (par : Nat → Sess) (P : Nat → Nat → Nat → Prop) (l : L) (ts : TS) (evs : List Ev) : Prop where
  finv : FInv False par P (Msg.run l evs)
  rel : RelF (mxOf par) (Msg.run l evs) (Timer.run ts (trRun l evs))
  ok : pu → RunOk ts (trRun l evs)
  sends : SendsOk par P (trRun l evs)
  acks : ∀ s mid, ackS s mid (Timer.run ts (trRun l evs)).outs = ackS s mid ts.outs + remC s mid l evs

theorem run_simF {pu : Prop} {par : Nat → Sess} {P : Nat → Nat → Nat → Prop} (hp : GPar par) :
    ∀ (evs : List Ev) (l : L) (ts : TS), FInv False par P l → RelF (mxOf par) l ts → RunG l evs → (pu → Punctual l evs) →
      (∀ s mid r, Ev.submit s true mid r ∈ evs → P s mid (calcTimeout (par s).atI (par s).atF (par s).arfI (par s).arfF r)) →
      SimRun pu par P l ts evs := by
  intro evs
  induction evs with
  | nil => intro l ts hi hr _ _ _; exact ⟨hi, hr, fun _ => trivial, sendsOk_nil _ _, fun _ _ => rfl⟩
  | cons ev evs ih =>
    intro l ts hi hr hin hpu hP
    have hP1 : ∀ s mid r, ev = .submit s true mid r →
        P s mid (calcTimeout (par s).atI (par s).atF (par s).arfI (par s).arfF r) :=
      fun s mid r h => hP s mid r (by simp [h])
    obtain ⟨hr1, hok1, hso1⟩ := step_simF hp l ts ev hi hr hin.1 (fun h => (hpu h).1) hP1
    have hi1 := step_finv hp l ev hi hin.1 hP1
    obtain ⟨hi2, hr2, hok2, hso2, hack2⟩ := ih _ _ hi1 hr1 hin.2 (fun h => (hpu h).2)
      (fun s mid r h => hP s mid r (by simp [h]))
    have e : trRun l (ev :: evs) = tr l ev ++ trRun (Msg.step l ev) evs := rfl
    refine ⟨hi2, ?_, fun hpu' => ?_, ?_, fun s mid => ?_⟩
    · rw [e, timer_run_append]; exact hr2
    · rw [e]; exact runOk_append' _ _ _ (hok1 hpu') (hok2 hpu')
    · rw [e]; exact sendsOk_append hso1 hso2
    · rw [e, timer_run_append, hack2 s mid, ackS_stepF hp s mid l ts ev hi hr]
      simp only [remC]
      omega

theorem relF_init (mx : Nat → Nat) (now0 : Nat) (sess : List Sess) : RelF mx (Msg.init now0 sess) (Timer.init now0) :=
  ⟨Nat.le_refl _, rfl, rfl, rfl⟩

/-! ### transmissions seen on M are transmissions of S, and back (through the list of transmissions) -/

theorem tx_M_to_S {l : L} {ts : TS} (ho : txsS ts.outs = txsM l.out)
    {t s mid k : Nat} (h : Out.tx t s mid k true ∈ l.out) :
    ∃ t0 T mx, TOut.tx t s mid k t0 T mx ∈ ts.outs := by
  have h1 : Obs.tx t s mid k true ∈ txsM l.out :=
    List.mem_filter.2 ⟨List.mem_filterMap.2 ⟨_, h, rfl⟩, rfl⟩
  rw [← ho] at h1
  obtain ⟨o, ho1, ho2⟩ := List.mem_filterMap.1 (List.mem_filter.1 h1).1
  cases o with
  | tx t' s' mid' k' t0 T mx =>
    simp only [obsS, Option.some.injEq, Obs.tx.injEq] at ho2
    obtain ⟨rfl, rfl, rfl, rfl, _⟩ := ho2
    exact ⟨t0, T, mx, ho1⟩
  | _ => simp [obsS] at ho2

theorem tx_S_to_M {l : L} {ts : TS} (ho : txsS ts.outs = txsM l.out)
    {t s mid k t0 T mx : Nat} (h : TOut.tx t s mid k t0 T mx ∈ ts.outs) : Out.tx t s mid k true ∈ l.out := by
  have h1 : Obs.tx t s mid k true ∈ txsS ts.outs :=
    List.mem_filter.2 ⟨List.mem_filterMap.2 ⟨_, h, rfl⟩, rfl⟩
  rw [ho] at h1
  obtain ⟨o, ho1, ho2⟩ := List.mem_filterMap.1 (List.mem_filter.1 h1).1
  cases o with
  | tx t' s' mid' k' c =>
    simp only [obsM, Option.some.injEq, Obs.tx.injEq] at ho2
    obtain ⟨rfl, rfl, rfl, rfl, rfl⟩ := ho2
    exact ho1
  | nack t' s' reason mid' known =>
    cases reason <;> cases known <;> simp [obsM] at ho2
  | _ => simp [obsM] at ho2

theorem nack_M_to_S {l : L} {ts : TS} (ho : nksS ts.outs = nksM l.out)
    {t s mid : Nat} (h : Out.nack t s .retries mid true ∈ l.out) : TOut.nackRetries t s mid ∈ ts.outs := by
  have h1 : Obs.nackRetries t s mid ∈ nksM l.out :=
    List.mem_filter.2 ⟨List.mem_filterMap.2 ⟨_, h, rfl⟩, rfl⟩
  rw [← ho] at h1
  obtain ⟨o, ho1, ho2⟩ := List.mem_filterMap.1 (List.mem_filter.1 h1).1
  cases o with
  | nackRetries t' s' mid' =>
    simp only [obsS, Option.some.injEq, Obs.nackRetries.injEq] at ho2
    obtain ⟨rfl, rfl, rfl⟩ := ho2
    exact ho1
  | _ => simp [obsS] at ho2

/-- the schedule clauses of `FInv` are what S's invariants say (`TInv`: armed for the next slot, every transmission at its
slot; `Made`: no slot skipped, TOO_MANY_RETRIES after all of them; `Orig`: where `T` comes from), read through the relation:
S's ghost `t0` is the witness -/
theorem finv_of_sim {pu : Prop} {par : Nat → Sess} {P : Nat → Nat → Nat → Prop} {l : L} {ts : TS}
    (hi : FInv False par P l) (hr : RelF (mxOf par) l ts)
    (hS : pu → TInv ts ∧ Made ts ∧ Orig (fun s mid T mx => P s mid T ∧ mx = (par s).maxRtx) ts) : FInv pu par P l := by
  refine ⟨hi.base, hi.sess, hi.nodes, fun p hp hpu => ?_, fun hpu => ⟨fun t s mid k hmem => ?_, fun t s mid hmem => ?_⟩⟩
  all_goals obtain ⟨ht, hm, ho⟩ := hS hpu
  · rw [← hr.pend] at hp
    obtain ⟨p', hp', rfl⟩ := List.mem_map.1 hp
    exact ⟨p'.2.t0, fun j hj => tx_S_to_M hr.txs (hm.1 p' hp' j hj), (ht.1 p' hp').1⟩
  · obtain ⟨t0, T, mx, hS⟩ := tx_M_to_S hr.txs hmem
    obtain ⟨⟨hP, hmx⟩, h0⟩ := ho.2 _ _ _ _ _ _ _ hS
    exact ⟨t0, T, tx_S_to_M hr.txs h0, (ht.2 _ _ _ _ _ _ _ hS).1, hmx ▸ (ht.2 _ _ _ _ _ _ _ hS).2, hP⟩
  · obtain ⟨t0, T, mx, hall, ht'⟩ := hm.2 t s mid (nack_M_to_S hr.nacks hmem)
    obtain ⟨⟨hP, hmx⟩, _⟩ := ho.2 _ _ _ _ _ _ _ (hall 0 (Nat.zero_le _))
    subst hmx
    exact ⟨t0, T, fun j hj => tx_S_to_M hr.txs (hall j hj), ht', hP⟩

/-- `FInv` with its schedule clauses at the end of a run (punctual when `pu` holds), from any related pair whose S side is on
its schedule: the S run is punctual (`run_simF`), S's invariants hold along it, `finv_of_sim` reads them on M -/
theorem run_finv_sched {pu : Prop} {par : Nat → Sess} {P : Nat → Nat → Nat → Prop} (hp : GPar par) (evs : List Ev) (l : L)
    (ts : TS) (hi : FInv False par P l) (hr : RelF (mxOf par) l ts) (hin : RunG l evs) (hpu : pu → Punctual l evs)
    (hP : ∀ s mid r, Ev.submit s true mid r ∈ evs → P s mid (calcTimeout (par s).atI (par s).atF (par s).arfI (par s).arfF r))
    (hS : pu → TInv ts ∧ Made ts ∧ Orig (fun s mid T mx => P s mid T ∧ mx = (par s).maxRtx) ts) :
    FInv pu par P (Msg.run l evs) := by
  obtain ⟨hi', hr', hok, hsend, _⟩ := run_simF hp evs l ts hi hr hin hpu hP
  exact finv_of_sim hi' hr' fun h => ⟨run_inv _ _ (hS h).1 (hok h), run_made _ _ (hS h).1 (hS h).2.1 (hok h),
    run_orig _ _ (hS h).2.2 hsend⟩

/-! ### first transmissions and outcome NACKs counted on both sides (what `m_single_outcome_via_timer` reads through the relation) -/

/-- number of FIRST transmissions of (s, mid) among observations -/
def tx0O (s mid : Nat) : List Obs → Nat
  | [] => 0
  | o :: r => (match o with
      | .tx _ s' m' 0 _ => if s' = s ∧ m' = mid then 1 else 0
      | _ => 0) + tx0O s mid r

/-- M: number of first transmissions of the Confirmable (s, mid) — `coap_send`s that got past the NSTART gate at once, and
messages that left the delay queue -/
def tx0C (s mid : Nat) (out : List Out) : Nat := tx0O s mid (txsM out)

def tx0S (s mid : Nat) : List TOut → Nat
  | [] => 0
  | o :: r => (match o with
      | .tx _ s' m' 0 _ _ _ => if s' = s ∧ m' = mid then 1 else 0
      | _ => 0) + tx0S s mid r

theorem tx0S_obs (s mid : Nat) (outs : List TOut) : tx0S s mid outs = tx0O s mid (txsS outs) := by
  induction outs with
  | nil => rfl
  | cons o r ih =>
    cases o with
    | tx t s' m' k t0 T mx =>
      have e : txsS (TOut.tx t s' m' k t0 T mx :: r) = Obs.tx t s' m' k true :: txsS r := by
        simp [txsS, obsS, List.filter_cons, isTx]
      rw [e]
      cases k <;> simp only [tx0S, tx0O, ih]
    | nackRetries t s' m' =>
      have e : txsS (TOut.nackRetries t s' m' :: r) = txsS r := by simp [txsS, obsS, isTx]
      rw [e]; simp only [tx0S, ih]; omega
    | nackRst t s' m' =>
      have e : txsS (TOut.nackRst t s' m' :: r) = txsS r := by simp [txsS, obsS, isTx]
      rw [e]; simp only [tx0S, ih]; omega
    | acked t s' m' =>
      have e : txsS (TOut.acked t s' m' :: r) = txsS r := by
        simp only [txsS, List.filterMap_cons, obsS]
      rw [e]; simp only [tx0S, ih]; omega

theorem fire_tx0 (s mid : Nat) (f : Nat) (ts : TS) : tx0S s mid (fire f ts).outs = tx0S s mid ts.outs := by
  induction f generalizing ts with
  | zero => rfl
  | succ f ih =>
    rcases ts with ⟨now, pend, outs⟩
    rcases pend with _ | ⟨⟨d, m⟩, r⟩
    · rfl
    · simp only [fire]
      split
      · split <;> rw [ih] <;> simp [tx0S]
      · rfl

theorem step_tx0 (s mid : Nat) (ts : TS) (ev : TEv) :
    tx0S s mid (Timer.step ts ev).outs = sendW s mid ev + tx0S s mid ts.outs := by
  cases ev with
  | send s' m' T mx => simp [Timer.step, tx0S, sendW]
  | tick now' => simp only [Timer.step, sendW]; split <;> simp [fire_tx0]
  | tickN now' k => simp only [Timer.step, sendW]; split <;> simp [fire_tx0]
  | ack s' m' =>
    simp only [Timer.step, sendW]
    rcases premove ts.pend s' m' with ⟨_ | m, r⟩ <;> simp [tx0S]
  | rst s' m' =>
    simp only [Timer.step, sendW]
    rcases premove ts.pend s' m' with ⟨_ | m, r⟩ <;> simp [tx0S]

theorem run_tx0 (s mid : Nat) (evs : List TEv) : ∀ ts : TS,
    tx0S s mid (Timer.run ts evs).outs = sc s mid evs + tx0S s mid ts.outs := by
  induction evs with
  | nil => intro ts; simp [Timer.run, sc]
  | cons ev evs ih =>
    intro ts
    have h1 := ih (Timer.step ts ev)
    have h2 := step_tx0 s mid ts ev
    simp only [Timer.run, List.foldl_cons, sc] at h1 ⊢
    omega

theorem obsN_filter (s mid : Nat) (l : List Obs) : obsN s mid (l.filter isNk) = obsN s mid l := by
  induction l with
  | nil => rfl
  | cons o r ih => cases o <;> simp [List.filter_cons, isNk, obsN, ih]

theorem nackS_nks (s mid : Nat) (outs : List TOut) : nackS s mid outs = obsN s mid (nksS outs) := by
  rw [nackS_obs, nksS, obsN_filter]

theorem nackC_nks (s mid : Nat) (out : List Out) : nackC s mid out = obsN s mid (nksM out) := by
  rw [nackC_obs, nksM, obsN_filter]

theorem finv_open {pu : Prop} {par : Nat → Sess} {P : Nat → Nat → Nat → Prop} (hp : GPar par) {l : L}
    (hi : FInv pu par P l) (s : Nat) : (l.getS s).sockOpen = true :=
  gsess_open hp hi.sess s

end Coap.SimF
