import CoapVerif.Lemmas.Replay
import CoapVerif.Lemmas.OscoreNonce
/- C15 meets C14: the Partial IVs a sender context puts on the wire (`srun`, restarts included) are below 2^40 − 1 and
strictly increasing, so by C14's `nonces_pairwise_ne` the AEAD nonces built from them are pairwise different. -/
namespace Coap
open Coap.Replay Coap.Spec.Oscore

theorem srun_pivs_lt (ops : List SOp) (y : SSys) (U : List Nat) (n : Nat) (g : SGood y U n)
    (hn : n + ops.length < 2 ^ 63) : ∀ p ∈ pivs (srun y ops), p < SEQ_MAX :=
  fun p hp => ((srun_increasing ops y U n g hn).1 p hp).1

/-- **A sender context never uses an AEAD nonce twice, also across restarts**: the nonces `nonce civ kid (pivBytes piv)` of the
messages put on the wire are pairwise different. -/
theorem sender_nonces_distinct (civ kid : Bytes) (hk : kid.length ≤ 7) (f start : Nat) (ops : List SOp)
    (hs : start ≤ SEQ_MAX + 2 ^ 32) (hl : ops.length < 2 ^ 63) :
    ((pivs (srun (SSys.start f start) ops)).map fun s => nonce civ kid (pivBytes s)).Pairwise (· ≠ ·) := by
  have hsm : SEQ_MAX = 1099511627775 := rfl
  have hlt := srun_pivs_lt ops _ [] 0 (sgood_start f start hs) (by omega)
  exact nonces_pairwise_ne civ kid _ hk (fun s hm => by have := hlt s hm; omega)
    ((srun_increasing ops _ [] 0 (sgood_start f start hs) (by omega)).2.imp Nat.ne_of_lt)

end Coap
