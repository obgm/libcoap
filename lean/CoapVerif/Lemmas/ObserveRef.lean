import CoapVerif.Lemmas.ObserveRun
/-
C11, clause "the session stays alive while it has observers": as a GLOBAL invariant of M (Model/Observe.lean), for every
state reachable by ANY event sequence, the reference count of every session equals the number of its holders
    ref(c) = #observer entries of c (over ALL resources) + #queued Confirmable notifications of c           (RefInv)
(application references are 0 in M; a missing session object counts as ref 0, so RefInv also says that a session without
object has neither entries nor queued nodes).  Every `ref - 1` of M is therefore exact (Nat subtraction saturates), the
idle-session reclaim (`ref = 0`) can never free a session that still has an observer or a queued notification.

Proof architecture: `Bal st c K` : ref(c) = entries(c) + nodes(c) + K  (K = references held by the code that is running,
e.g. the node popped by coap_retransmit), `Pres st st'` : every balance of st is a balance of st' (same c, same K);
each primitive of M is `Pres` (with `IdsNodup`, because `modRes` rewrites every resource with the id while `findRes`
looks at the first alive one).  The notify loop threads a state whose resource table is written back at the end: `BalQ`
is the balance without the entries, the loop lemmas carry the entries in the offset.  `NoDupSt` is NOT needed.
-/
namespace Coap.Observe
open Coap.Generated

def cnt (c : Nat) (l : List Sub) : Nat := (l.filter fun s => s.sess == c).length
def qcnt (c : Nat) (l : List QNode) : Nat := (l.filter fun q => q.sess == c).length
def entriesL (rs : List Res) (c : Nat) : Nat := (rs.map fun x => cnt c x.subs).sum

def entriesOf (st : State) (c : Nat) : Nat := (st.res.map fun x => (x.subs.filter fun s => s.sess == c).length).sum
def nodesOf (st : State) (c : Nat) : Nat := (st.sendq.filter fun q => q.sess == c).length
def RefInv (st : State) : Prop := ∀ c, (getSess st c).ref = entriesOf st c + nodesOf st c

theorem entriesOf_eq (st : State) (c : Nat) : entriesOf st c = entriesL st.res c := rfl
theorem nodesOf_eq (st : State) (c : Nat) : nodesOf st c = qcnt c st.sendq := rfl

def sref (st : State) (c : Nat) : Nat := match st.sess c with | some s => s.ref | none => 0

theorem getSess_ref (st : State) (c : Nat) : (getSess st c).ref = sref st c := by
  unfold getSess sref; cases st.sess c <;> rfl

theorem sref_setSess (st : State) (c : Nat) (s : Sess) (c' : Nat) :
    sref (setSess st c s) c' = if c' = c then s.ref else sref st c' := by
  unfold sref setSess; dsimp only
  by_cases h : c' = c <;> simp [h]

theorem sref_modSess (st : State) (c : Nat) (f : Sess → Sess) (c' : Nat) :
    sref (modSess st c f) c' = if c' = c then (f (getSess st c)).ref else sref st c' := by
  unfold modSess; exact sref_setSess ..

theorem sref_modSess_same (st : State) (c : Nat) (f : Sess → Sess) (hf : ∀ s, (f s).ref = s.ref) (c' : Nat) :
    sref (modSess st c f) c' = sref st c' := by
  rw [sref_modSess]; split
  · rename_i h; rw [hf, getSess_ref, h]
  · rfl

@[simp] theorem sref_rxSession (st : State) (c c' : Nat) : sref (rxSession st c) c' = sref st c' := by
  unfold rxSession; apply sref_modSess_same; intro s; rfl
@[simp] theorem sref_txStamp (st : State) (c c' : Nat) : sref (txStamp st c) c' = sref st c' := by
  unfold txStamp; apply sref_modSess_same; intro s; rfl
@[simp] theorem sref_conDec (st : State) (c c' : Nat) : sref (conDec st c) c' = sref st c' := by
  unfold conDec; apply sref_modSess_same; intro s; rfl
@[simp] theorem sref_newMid (st : State) (c c' : Nat) : sref (newMid st c).2 c' = sref st c' := by
  unfold newMid; dsimp only; apply sref_modSess_same; intro s; rfl
@[simp] theorem sref_addNote (st : State) (c : Nat) (n : Note) (c' : Nat) : sref (addNote st c n) c' = sref st c' := rfl
theorem sref_refInc (st : State) (c c' : Nat) : sref (refInc st c) c' = if c' = c then sref st c + 1 else sref st c' := by
  unfold refInc; rw [sref_modSess]; simp only [getSess_ref]

theorem sref_refDec (st : State) (c c' : Nat) : sref (refDec st c) c' = if c' = c then sref st c - 1 else sref st c' := by
  unfold refDec; rw [sref_modSess]; simp only [getSess_ref]
@[simp] theorem sref_mapRes (st : State) (f : Res → Res) (c' : Nat) : sref (mapRes st f) c' = sref st c' := rfl
@[simp] theorem sref_modRes (st : State) (r : Nat) (f : Res → Res) (c' : Nat) : sref (modRes st r f) c' = sref st c' := rfl

@[simp] theorem setSess_sendq (st : State) (c : Nat) (s : Sess) : (setSess st c s).sendq = st.sendq := rfl
@[simp] theorem modSess_sendq (st : State) (c : Nat) (f : Sess → Sess) : (modSess st c f).sendq = st.sendq := rfl
@[simp] theorem rxSession_sendq (st : State) (c : Nat) : (rxSession st c).sendq = st.sendq := rfl
@[simp] theorem refInc_sendq (st : State) (c : Nat) : (refInc st c).sendq = st.sendq := rfl
@[simp] theorem refDec_sendq (st : State) (c : Nat) : (refDec st c).sendq = st.sendq := rfl
@[simp] theorem conDec_sendq (st : State) (c : Nat) : (conDec st c).sendq = st.sendq := rfl
@[simp] theorem txStamp_sendq (st : State) (c : Nat) : (txStamp st c).sendq = st.sendq := rfl
@[simp] theorem newMid_sendq (st : State) (c : Nat) : (newMid st c).2.sendq = st.sendq := rfl
@[simp] theorem addNote_sendq (st : State) (c : Nat) (n : Note) : (addNote st c n).sendq = st.sendq := rfl
@[simp] theorem mapRes_sendq (st : State) (f : Res → Res) : (mapRes st f).sendq = st.sendq := rfl
@[simp] theorem modRes_sendq (st : State) (r : Nat) (f : Res → Res) : (modRes st r f).sendq = st.sendq := rfl
@[simp] theorem reclaim_sendq (st : State) : (reclaim st).sendq = st.sendq := rfl

def Bal (st : State) (c K : Nat) : Prop := sref st c = entriesL st.res c + qcnt c st.sendq + K
def Pres (st st' : State) : Prop := ∀ c K, Bal st c K → Bal st' c K

theorem refInv_iff (st : State) : RefInv st ↔ ∀ c, Bal st c 0 := by
  unfold RefInv Bal
  simp only [getSess_ref, entriesOf_eq, nodesOf_eq, Nat.add_zero]

theorem Pres.refl (st : State) : Pres st st := fun _ _ h => h
theorem Pres.trans {a b c : State} (h1 : Pres a b) (h2 : Pres b c) : Pres a c := fun x K h => h2 x K (h1 x K h)
theorem Pres.refInv {st st' : State} (h : Pres st st') (hi : RefInv st) : RefInv st' := by
  rw [refInv_iff] at hi ⊢; exact fun c => h c 0 (hi c)

theorem Pres.of_eq {st st' : State} (hr : st'.res = st.res) (hq : st'.sendq = st.sendq) (hs : ∀ c, sref st' c = sref st c) :
    Pres st st' := by
  intro c K h; unfold Bal at h ⊢; rw [hr, hq, hs]; exact h

theorem pres_modSess_same (st : State) (c : Nat) (f : Sess → Sess) (hf : ∀ s, (f s).ref = s.ref) : Pres st (modSess st c f) :=
  Pres.of_eq rfl rfl (sref_modSess_same st c f hf)

theorem pres_rxSession (st : State) (c : Nat) : Pres st (rxSession st c) := Pres.of_eq rfl rfl (by simp)
theorem pres_txStamp (st : State) (c : Nat) : Pres st (txStamp st c) := Pres.of_eq rfl rfl (by simp)
theorem pres_conDec (st : State) (c : Nat) : Pres st (conDec st c) := Pres.of_eq rfl rfl (by simp)
theorem pres_newMid (st : State) (c : Nat) : Pres st (newMid st c).2 := Pres.of_eq rfl rfl (by simp)

def BalQ (st : State) (c K : Nat) : Prop := sref st c = qcnt c st.sendq + K
def PresQ (st st' : State) : Prop := ∀ c K, BalQ st c K → BalQ st' c K

theorem bal_iff (st : State) (c K : Nat) : Bal st c K ↔ BalQ st c (entriesL st.res c + K) := by
  unfold Bal BalQ; omega

theorem BalQ.cast {st : State} {c K K' : Nat} (h : BalQ st c K) (hk : K = K') : BalQ st c K' := hk ▸ h
theorem Bal.cast {st : State} {c K K' : Nat} (h : Bal st c K) (hk : K = K') : Bal st c K' := hk ▸ h
theorem PresQ.refl (st : State) : PresQ st st := fun _ _ h => h
theorem PresQ.trans {a b c : State} (h1 : PresQ a b) (h2 : PresQ b c) : PresQ a c := fun x K h => h2 x K (h1 x K h)
theorem PresQ.pres {st st' : State} (h : PresQ st st') (hr : st'.res = st.res) : Pres st st' := by
  intro c K hb; rw [bal_iff] at hb ⊢; rw [hr]; exact h c _ hb

theorem PresQ.of_eq {st st' : State} (hq : st'.sendq = st.sendq) (hs : ∀ c, sref st' c = sref st c) : PresQ st st' := by
  intro c K h; unfold BalQ at h ⊢; rw [hq, hs]; exact h

theorem presQ_txStamp (st : State) (c : Nat) : PresQ st (txStamp st c) := PresQ.of_eq rfl (by simp)
theorem presQ_newMid (st : State) (c : Nat) : PresQ st (newMid st c).2 := PresQ.of_eq rfl (by simp)

/-- releasing a reference that is accounted for in the offset -/
theorem refDec_balQ (st : State) (c c' K : Nat) (h : BalQ st c' (K + if c' = c then 1 else 0)) : BalQ (refDec st c) c' K := by
  unfold BalQ at h ⊢
  simp only [refDec_sendq, sref_refDec]
  by_cases hc : c' = c
  · subst hc; simp only [if_true] at h ⊢; omega
  · simp only [hc, if_false] at h ⊢; omega

theorem refDec_bal (st : State) (c c' K : Nat) (h : Bal st c' (K + if c' = c then 1 else 0)) : Bal (refDec st c) c' K := by
  rw [bal_iff] at h ⊢
  exact refDec_balQ st c c' _ (h.cast (by simp only [refDec_res]; omega))

theorem filter_eraseP_length {α : Type} (m p : α → Bool) : ∀ (l : List α) (a : α), l.find? m = some a →
    ((l.eraseP m).filter p).length + (if p a = true then 1 else 0) = (l.filter p).length
  | [], _, h => by simp at h
  | b :: t, a, h => by
    by_cases hb : m b = true
    · rw [List.find?_cons_of_pos hb] at h
      cases h
      rw [List.eraseP_cons_of_pos hb]
      by_cases hp : p b = true <;> simp [hp]
    · rw [List.find?_cons_of_neg (by simpa using hb)] at h
      rw [List.eraseP_cons_of_neg (by simpa using hb)]
      have ih := filter_eraseP_length m p t a h
      by_cases hp : p b = true <;> simp [hp] <;> omega

theorem find_of_any {α : Type} (m : α → Bool) (l : List α) (h : l.any m = true) : ∃ a, l.find? m = some a ∧ m a = true := by
  cases hf : l.find? m with
  | none =>
    rw [List.find?_eq_none] at hf
    obtain ⟨s, hs, hm⟩ := List.any_eq_true.mp h
    exact absurd hm (hf s hs)
  | some a => exact ⟨a, rfl, List.find?_some hf⟩

theorem cnt_nil (c : Nat) : cnt c [] = 0 := rfl
theorem cnt_cons (c : Nat) (s : Sub) (l : List Sub) : cnt c (s :: l) = (if s.sess = c then 1 else 0) + cnt c l := by
  unfold cnt; by_cases h : s.sess = c <;> simp [h] ; omega

theorem cnt_append (c : Nat) (a b : List Sub) : cnt c (a ++ b) = cnt c a + cnt c b := by
  unfold cnt; simp

theorem qcnt_cons (c : Nat) (q : QNode) (l : List QNode) : qcnt c (q :: l) = (if q.sess = c then 1 else 0) + qcnt c l := by
  unfold qcnt; by_cases h : q.sess = c <;> simp [h] ; omega

theorem cnt_eraseP_ST (c tok c' : Nat) (l : List Sub) (h : l.any (matchST c tok) = true) :
    cnt c' (l.eraseP (matchST c tok)) + (if c' = c then 1 else 0) = cnt c' l := by
  obtain ⟨a, hf, hm⟩ := find_of_any _ _ h
  have := filter_eraseP_length (matchST c tok) (fun s => s.sess == c') l a hf
  unfold matchST at hm; simp at hm
  unfold cnt; rw [← this]
  by_cases hc : c' = c
  · simp [hm.1, hc]
  · have : ¬ c = c' := by omega
    simp [hm.1, hc, this]

theorem qcnt_eraseP_Q (c mid c' : Nat) (l : List QNode) (q : QNode) (hf : l.find? (matchQ c mid) = some q) :
    qcnt c' (l.eraseP (matchQ c mid)) + (if c' = c then 1 else 0) = qcnt c' l := by
  have hm := List.find?_some hf
  have := filter_eraseP_length (matchQ c mid) (fun s => s.sess == c') l q hf
  unfold matchQ at hm; simp at hm
  unfold qcnt; rw [← this]
  by_cases hc : c' = c
  · simp [hm.1, hc]
  · have : ¬ c = c' := by omega
    simp [hm.1, hc, this]

theorem cnt_modFirst (c : Nat) (p : Sub → Bool) (f : Sub → Sub) (hf : ∀ s, (f s).sess = s.sess) :
    ∀ l : List Sub, cnt c (modFirst p f l) = cnt c l
  | [] => rfl
  | s :: r => by
    unfold modFirst; split
    · simp only [cnt_cons, hf]
    · simp only [cnt_cons, cnt_modFirst c p f hf r]

theorem length_filter_not {α : Type} (key : α → Nat) (c c' : Nat) (p : α → Bool) (hp : ∀ a, p a = true → key a = c) :
    ∀ l : List α, ((l.filter fun a => !p a).filter fun a => key a == c').length + (if c' = c then (l.filter p).length else 0)
      = (l.filter fun a => key a == c').length
  | [] => by simp
  | a :: r => by
    have ih := length_filter_not key c c' p hp r
    by_cases h : p a = true
    · have hk := hp a h
      rw [List.filter_cons_of_neg (by simp [h]), List.filter_cons_of_pos h]
      by_cases hc : c' = c
      · subst hc
        rw [List.filter_cons_of_pos (by simp [hk])]
        simp only [if_true, List.length_cons] at ih ⊢
        omega
      · rw [List.filter_cons_of_neg (by simp [hk]; omega)]
        simp only [hc, if_false] at ih ⊢
        exact ih
    · rw [List.filter_cons_of_pos (by simp [h]), List.filter_cons_of_neg h]
      by_cases hk : key a = c'
      · rw [List.filter_cons_of_pos (by simp [hk]), List.filter_cons_of_pos (by simp [hk])]
        simp only [List.length_cons]
        omega
      · rw [List.filter_cons_of_neg (by simp [hk]), List.filter_cons_of_neg (by simp [hk])]
        exact ih

theorem length_filter_ne {α : Type} (key : α → Nat) (c c' : Nat) (l : List α) :
    ((l.filter fun a => !(key a == c)).filter fun a => key a == c').length
      = if c' = c then 0 else (l.filter fun a => key a == c').length := by
  have := length_filter_not key c c' (fun a => key a == c) (fun a h => by simpa using h) l
  split
  · rename_i h
    subst h
    rw [if_pos rfl] at this
    omega
  · rename_i h
    rw [if_neg h] at this
    omega

theorem cnt_filter_ne (c c' : Nat) (l : List Sub) : cnt c' (l.filter fun s => !(s.sess == c)) = if c' = c then 0 else cnt c' l :=
  length_filter_ne Sub.sess c c' l

theorem qcnt_filter_ne (c c' : Nat) (l : List QNode) : qcnt c' (l.filter fun s => !(s.sess == c)) = if c' = c then 0 else qcnt c' l :=
  length_filter_ne QNode.sess c c' l

theorem qcnt_filter_not (c c' : Nat) (p : QNode → Bool) (hp : ∀ q, p q = true → q.sess = c) (l : List QNode) :
    qcnt c' (l.filter fun q => !p q) + (if c' = c then (l.filter p).length else 0) = qcnt c' l :=
  length_filter_not QNode.sess c c' p hp l

theorem qcnt_insertNode (c : Nat) (n : QNode) : ∀ l : List QNode, qcnt c (insertNode n l) = qcnt c l + (if n.sess = c then 1 else 0)
  | [] => by
    unfold insertNode; rw [qcnt_cons]; simp [qcnt]
  | q :: r => by
    unfold insertNode; split
    · simp only [qcnt_cons]; omega
    · simp only [qcnt_cons, qcnt_insertNode c n r]; omega

theorem entriesL_nil (c : Nat) : entriesL [] c = 0 := rfl
theorem entriesL_cons (x : Res) (rs : List Res) (c : Nat) : entriesL (x :: rs) c = cnt c x.subs + entriesL rs c := by
  unfold entriesL; simp

theorem entriesL_map_congr (c : Nat) (f : Res → Res) : ∀ (rs : List Res), (∀ y ∈ rs, cnt c (f y).subs = cnt c y.subs) →
    entriesL (rs.map f) c = entriesL rs c
  | [], _ => rfl
  | x :: t, h => by
    rw [List.map_cons, entriesL_cons, entriesL_cons, h x (List.mem_cons_self ..),
      entriesL_map_congr c f t (fun y hy => h y (List.mem_cons_of_mem _ hy))]

/-- with distinct ids, `modRes` changes exactly one summand -/
theorem entriesL_modify (c r : Nat) (f : Res → Res) : ∀ (rs : List Res), (rs.map (·.id)).Nodup → ∀ x ∈ rs, x.id = r →
    ∃ E, entriesL rs c = E + cnt c x.subs ∧ entriesL (rs.map fun y => if y.id = r then f y else y) c = E + cnt c (f x).subs
  | [], _, x, hx, _ => by cases hx
  | a :: t, hn, x, hx, hr => by
    rw [List.map_cons, List.nodup_cons] at hn
    cases hx with
    | head =>
      refine ⟨entriesL t c, ?_, ?_⟩
      · rw [entriesL_cons]; omega
      · rw [List.map_cons, entriesL_cons, if_pos hr]
        have : t.map (fun y => if y.id = r then f y else y) = t := by
          rw [List.map_congr_left (g := id)]
          · simp
          · intro y hy
            have : y.id ≠ r := fun h => hn.1 (by rw [hr, ← h]; exact List.mem_map_of_mem (f := (·.id)) hy)
            simp [this]
        rw [this]; omega
    | tail _ hx' =>
      obtain ⟨E, h1, h2⟩ := entriesL_modify c r f t hn.2 x hx' hr
      have : a.id ≠ r := fun h => hn.1 (by rw [h, ← hr]; exact List.mem_map_of_mem (f := (·.id)) hx')
      refine ⟨cnt c a.subs + E, ?_, ?_⟩
      · rw [entriesL_cons, h1]; omega
      · rw [List.map_cons, entriesL_cons, if_neg this, h2]; omega

theorem cnt_le_entriesL (c : Nat) : ∀ (rs : List Res), ∀ x ∈ rs, cnt c x.subs ≤ entriesL rs c
  | [], x, hx => by cases hx
  | a :: t, x, hx => by
    rw [entriesL_cons]
    cases hx with
    | head => omega
    | tail _ hx' => have := cnt_le_entriesL c t x hx'; omega

theorem cnt_pos_of_mem (l : List Sub) (o : Sub) (h : o ∈ l) : 1 ≤ cnt o.sess l :=
  List.length_pos_of_mem (List.mem_filter.mpr ⟨h, beq_self_eq_true _⟩)

theorem entries_modRes (st : State) (hn : IdsNodup st) (r : Nat) (x : Res) (hx : findRes st r = some x) (f : Res → Res) (c : Nat) :
    ∃ E, entriesL st.res c = E + cnt c x.subs ∧ entriesL (modRes st r f).res c = E + cnt c (f x).subs := by
  obtain ⟨hm, hid, _⟩ := findRes_mem hx
  exact entriesL_modify c r f st.res hn x hm hid

theorem pres_mapRes (st : State) (f : Res → Res) (hf : ∀ c y, cnt c (f y).subs = cnt c y.subs) : Pres st (mapRes st f) := by
  intro c K h; unfold Bal at h ⊢
  rw [mapRes_res, entriesL_map_congr c f st.res (fun y _ => hf c y)]
  exact h

theorem pres_modRes (st : State) (r : Nat) (f : Res → Res) (hf : ∀ c y, cnt c (f y).subs = cnt c y.subs) : Pres st (modRes st r f) := by
  unfold modRes; apply pres_mapRes; intro c y; split
  · exact hf c y
  · rfl

theorem pres_deleteObserver (st : State) (hn : IdsNodup st) (r c tok : Nat) : Pres st (deleteObserver st r c tok) := by
  unfold deleteObserver
  split
  · exact Pres.refl _
  · rename_i x hx
    split
    · rename_i hany
      intro c' K h
      apply refDec_bal
      unfold Bal at h ⊢
      obtain ⟨E, h1, h2⟩ := entries_modRes st hn r x hx (fun y => { y with subs := y.subs.eraseP (matchST c tok) }) c'
      rw [h2]; rw [h1] at h
      simp only [sref_modRes, modRes_sendq]
      have := cnt_eraseP_ST c tok c' x.subs hany
      omega
    · exact Pres.refl _

theorem pres_touchObserver (st : State) (c tok : Nat) : Pres st (touchObserver st c tok) := by
  unfold touchObserver; apply pres_mapRes; intro c' y; split
  · exact cnt_modFirst c' (matchST c tok) (fun s => { s with failCnt := 0 }) (fun _ => rfl) y.subs
  · rfl

theorem pres_change (st : State) (r : Nat) : Pres st (change st r) := by
  unfold change
  split
  · exact Pres.refl _
  · split
    · exact Pres.refl _
    · exact (pres_modRes st r (fun y => { y with dirty := true, observe := nextObserve y.observe, ver := y.ver + 1 })
        (fun _ _ => rfl)).trans (Pres.of_eq rfl rfl (fun _ => rfl))

theorem cnt_addToRes (x : Res) (c tok key m c' : Nat) (hany : ¬ x.subs.any (matchST c tok) = true) :
    cnt c' (addToRes x c tok key m).subs + (if (x.subs.find? (matchSK c key)).isSome = true ∧ c' = c then 1 else 0)
      = cnt c' x.subs + (if c' = c then 1 else 0) := by
  unfold addToRes
  rw [if_neg hany]
  dsimp only
  rw [cnt_cons]
  dsimp only
  cases hf : x.subs.find? (matchSK c key) with
  | none =>
    by_cases hc : c' = c
    · subst hc; simp; omega
    · have : ¬ c = c' := by omega
      simp [hc, this]
  | some old =>
    dsimp only
    have hm := List.find?_some hf
    have hmem := List.mem_of_find?_eq_some hf
    unfold matchSK at hm; simp at hm
    have hany' : x.subs.any (matchST c old.token) = true :=
      List.any_eq_true.mpr ⟨old, hmem, by unfold matchST; simp [hm.1]⟩
    have h3 := cnt_eraseP_ST c old.token c' x.subs hany'
    by_cases hc : c' = c
    · subst hc
      simp at h3 ⊢; omega
    · have : ¬ c = c' := by omega
      simp [hc, this] at h3 ⊢; omega

theorem pres_addObserver (st : State) (hn : IdsNodup st) (r c tok key : Nat) : Pres st (addObserver st r c tok key) := by
  unfold addObserver
  split
  · exact Pres.refl _
  · rename_i x hx
    split
    · exact Pres.refl _
    · rename_i hany
      dsimp only
      intro c' K h
      obtain ⟨hm, hid, hal⟩ := findRes_mem hx
      have main : ∀ st1 : State, st1.res = st.res → st1.sendq = st.sendq →
          sref st1 c' + (if (x.subs.find? (matchSK c key)).isSome = true ∧ c' = c then 1 else 0) = sref st c' →
          Bal (refInc (mapRes (newMid st1 c).2 fun y => if y.id = r ∧ y.alive = true then addToRes y c tok key (newMid st1 c).1 else y) c) c' K := by
        intro st1 hr hq hs
        unfold Bal at h ⊢
        simp only [refInc_res, refInc_sendq, mapRes_sendq, newMid_sendq, sref_refInc, sref_mapRes, sref_newMid, hq, mapRes_res,
          newMid_res, hr]
        have hfun : (fun y : Res => if y.id = r ∧ y.alive = true then addToRes y c tok key (newMid st1 c).1 else y)
            = (fun y => if y.id = r then (if y.alive = true then addToRes y c tok key (newMid st1 c).1 else y) else y) := by
          funext y; by_cases h1 : y.id = r <;> simp [h1]
        obtain ⟨E, h1, h2⟩ := entriesL_modify c' r (fun y => if y.alive = true then addToRes y c tok key (newMid st1 c).1 else y)
          st.res hn x hm hid
        rw [hfun, h2]; rw [h1] at h
        simp only [hal, if_true]
        have h3 := cnt_addToRes x c tok key (newMid st1 c).1 c' hany
        by_cases hc : c' = c
        · subst hc; simp only [if_true, and_true] at h3 hs ⊢; omega
        · simp only [hc, if_false, and_false] at h3 hs ⊢; omega
      split
      · rename_i old hf
        refine main (refDec st c) rfl rfl ?_
        rw [hf, sref_refDec]
        by_cases hc : c' = c
        · subst hc
          have hm' := List.find?_some hf
          have hmem := List.mem_of_find?_eq_some hf
          unfold matchSK at hm'; simp at hm'
          have h4 := cnt_pos_of_mem x.subs old hmem
          rw [hm'.1] at h4
          have h5 := cnt_le_entriesL c' st.res x hm
          unfold Bal at h
          simp; omega
        · simp [hc]
      · rename_i hf
        refine main st rfl rfl ?_
        rw [hf]; simp

theorem pres_cancelAllMessages (st : State) (c tok : Nat) : Pres st (cancelAllMessages st c tok) := by
  intro c' K h
  unfold Bal at h ⊢
  unfold cancelAllMessages
  simp only [modSess_res, modSess_sendq, sref_modSess, getSess_ref]
  have h1 := qcnt_filter_not c c' (matchQT c tok) (by intro q hq; unfold matchQT at hq; simp at hq; exact hq.1) st.sendq
  by_cases hc : c' = c
  · subst hc; simp only [if_true] at h1 ⊢
    show sref st c' - _ = _
    omega
  · simp only [hc, if_false] at h1 ⊢
    show sref st c' = _
    omega

theorem sref_of_sess {st st' : State} (h : st'.sess = st.sess) (c : Nat) : sref st' c = sref st c := by
  unfold sref; rw [h]

theorem balQ_insert (st : State) (n : QNode) (c' K : Nat) (h : BalQ st c' (K + if n.sess = c' then 1 else 0)) :
    BalQ { st with sendq := insertNode n st.sendq } c' K := by
  unfold BalQ at h ⊢
  dsimp only
  rw [qcnt_insertNode, show sref { st with sendq := insertNode n st.sendq } c' = sref st c' from rfl]
  omega

theorem balQ_refIncCon (st : State) (c c' K : Nat) (h : BalQ st c' K) :
    BalQ (modSess st c fun s => { s with conActive := s.conActive + 1, ref := s.ref + 1 }) c' (K + if c = c' then 1 else 0) := by
  unfold BalQ at h ⊢
  simp only [modSess_sendq, sref_modSess, getSess_ref]
  by_cases hc : c' = c
  · subst hc; simp only [if_true]; omega
  · have : ¬ c = c' := by omega
    simp only [hc, this, if_false]; omega

theorem presQ_sendNote (st : State) (c tok code : Nat) (obs : Option Nat) (isCon : Bool) (mid rid ver : Nat) :
    PresQ st (sendNote st c tok code obs isCon mid rid ver).1 := by
  intro c' K h
  have h1 : BalQ (addNote (txStamp st c) c { mid := mid, con := isCon }) c' K :=
    (presQ_txStamp st c).trans (PresQ.of_eq rfl (fun _ => rfl)) c' K h
  unfold sendNote
  dsimp only
  split
  · exact balQ_insert _ _ c' K (balQ_refIncCon _ c c' K h1)
  · exact h1

theorem pres_sendNote (st : State) (c tok code : Nat) (obs : Option Nat) (isCon : Bool) (mid rid ver : Nat) :
    Pres st (sendNote st c tok code obs isCon mid rid ver).1 :=
  (presQ_sendNote st c tok code obs isCon mid rid ver).pres (sendNote_res ..)

theorem cnt_one (c : Nat) (o : Sub) : cnt c [o] = if o.sess = c then 1 else 0 := by rw [cnt_cons, cnt_nil]; omega

theorem notifyOne_bal (d : Bool) (r : Res) (o : Sub) (st : State) (c K : Nat) (h : BalQ st c (cnt c [o] + K)) :
    BalQ (notifyOne d r o st).st c (cnt c (notifyOne d r o st).sub.toList + K) := by
  have hkept : ∀ o', (notifyOne d r o st).sub = some o' → cnt c (notifyOne d r o st).sub.toList = cnt c [o] := by
    intro o' hs
    have hv := notifyOne_visit d r o st
    rw [hs] at hv ⊢
    rw [Option.toList_some, cnt_one, cnt_one, hv.sess_eq]
  rcases notifyOne_st d r o st with ⟨_, hs, h1⟩ | ⟨st1, _, _, _, _, h1, h2⟩
  · obtain ⟨o', ho'⟩ := Option.ne_none_iff_exists'.mp hs
    rw [h1, hkept o' ho']
    exact h
  · rw [h1]
    apply presQ_sendNote
    have hm : BalQ (newMid st o.sess).2 c (cnt c [o] + K) := presQ_newMid _ _ c _ h
    rcases h2 with ⟨hs, rfl⟩ | ⟨hs, rfl⟩
    · obtain ⟨o', ho'⟩ := Option.ne_none_iff_exists'.mp hs
      rw [hkept o' ho']
      exact hm
    · -- the entry is dropped: its reference was released
      rw [hs]
      apply refDec_balQ
      refine hm.cast ?_
      rw [cnt_one]
      by_cases hc : o.sess = c
      · subst hc; simp [cnt_nil]; omega
      · have : ¬ c = o.sess := by omega
        simp [hc, this, cnt_nil]

theorem notifyLoop_bal (d : Bool) (r : Res) : ∀ (subs : List Sub) (st : State) (c K : Nat), BalQ st c (cnt c subs + K) →
    BalQ (notifyLoop d r subs st).st c (cnt c (notifyLoop d r subs st).subs + K)
  | [], st, c, K, h => h
  | o :: rest, st, c, K, h => by
    unfold notifyLoop
    dsimp only
    have h1 := notifyOne_bal d r o st c (cnt c rest + K) (h.cast (by rw [cnt_cons, cnt_one]; omega))
    have h2 := notifyLoop_bal d r rest _ c (cnt c (notifyOne d r o st).sub.toList + K) (h1.cast (by omega))
    exact h2.cast (by rw [cnt_append]; omega)

theorem notifyRes_bal (d : Bool) (r : Res) (st : State) (c K : Nat) (h : BalQ st c (cnt c r.subs + K)) :
    BalQ (notifyRes d r st).2.1 c (cnt c (notifyRes d r st).1.subs + K) := by
  unfold notifyRes
  split
  · exact notifyLoop_bal d r r.subs st c K h
  · exact h

theorem notifyAll_bal : ∀ (rs : List Res) (st : State) (c K : Nat), BalQ st c (entriesL rs c + K) →
    BalQ (notifyAll rs st).2.1 c (entriesL (notifyAll rs st).1 c + K)
  | [], st, c, K, h => h
  | r :: rest, st, c, K, h => by
    have h1 := notifyRes_bal false r st c (entriesL rest c + K) (h.cast (by rw [entriesL_cons]; omega))
    have h2 := notifyAll_bal rest _ c (cnt c (notifyRes false r st).1.subs + K) (h1.cast (by omega))
    have e1 : (notifyAll (r :: rest) st).2.1 = (notifyAll rest (notifyRes false r st).2.1).2.1 := rfl
    have e2 : (notifyAll (r :: rest) st).1 = (notifyRes false r st).1 :: (notifyAll rest (notifyRes false r st).2.1).1 := rfl
    rw [e1, e2]
    exact h2.cast (by rw [entriesL_cons]; omega)

theorem pres_checkNotify (st : State) : Pres st (checkNotify st).1 := by
  unfold checkNotify
  split
  · intro c K h
    rw [bal_iff] at h ⊢
    exact notifyAll_bal st.res { st with pending := false } c K h
  · exact Pres.refl _

theorem pres_removeFailedOne (st : State) (x : Res) (c tok : Nat) (hn : IdsNodup st) : Pres st (removeFailedOne st x c tok) :=
  removeFailedOne_ind (P := Pres st) st x c tok (Pres.refl _)
    ((pres_cancelAllMessages st c tok).trans (pres_deleteObserver (cancelAllMessages st c tok) hn x.id c tok))
    (pres_modRes st x.id _ fun c' y => cnt_modFirst c' (matchST c tok) (fun s => { s with failCnt := (s.failCnt + 1) % 256 })
      (fun _ => rfl) y.subs)

/-- one more step that only takes entries away: the ids stay distinct (which the step's own balance lemma asks for), the
    balances go on -/
theorem Pres.step_leF {st s s' : State} (h : IdsNodup s ∧ Pres st s) (hle : AllLeF s'.res s.res) (hp : IdsNodup s → Pres s s') :
    IdsNodup s' ∧ Pres st s' :=
  ⟨IdsNodup.of_leF hle h.1, h.2.trans (hp h.1)⟩

theorem pres_handleFailedNotify (st : State) (c tok : Nat) (hn : IdsNodup st) : Pres st (handleFailedNotify st c tok) :=
  (handleFailedNotify_ind (P := fun s => IdsNodup s ∧ Pres st s) st c tok ⟨hn, Pres.refl st⟩ fun s x h =>
    Pres.step_leF h (removeFailedOne_leF s x c tok) (pres_removeFailedOne s x c tok)).2

theorem pres_cancelSent (st : State) (c tok : Nat) (hn : IdsNodup st) : Pres st (cancelSent st c tok) :=
  (cancelSent_ind (P := fun s => IdsNodup s ∧ Pres st s) st c tok ⟨hn, Pres.refl st⟩ fun s rid h =>
    Pres.step_leF h (deleteObserver_leF (cancelAllMessages s c tok) rid c tok) fun hs =>
      (pres_cancelAllMessages s c tok).trans (pres_deleteObserver (cancelAllMessages s c tok) hs rid c tok)).2

theorem retransmit_bal (st : State) (q : QNode) (hn : IdsNodup st) (c K : Nat)
    (h : Bal st c (K + if q.sess = c then 1 else 0)) : Bal (retransmit st q).1 c K := by
  unfold retransmit
  split
  · dsimp only
    refine pres_txStamp _ _ c K ?_
    refine pres_modSess_same _ _ _ ?_ c K ?_
    · intro s; rfl
    refine pres_conDec _ _ c K ?_
    rw [bal_iff] at h ⊢
    exact balQ_insert st _ c _ (h.cast (by dsimp only; omega))
  · dsimp only
    apply refDec_bal
    refine pres_conDec _ _ c _ ?_
    refine pres_handleFailedNotify st q.sess q.token hn c _ ?_
    refine h.cast ?_
    by_cases hc : c = q.sess
    · simp [hc]
    · have : ¬ q.sess = c := by omega
      simp [hc, this]

theorem pres_retransmitDue (fuel : Nat) (st : State) (hn : IdsNodup st) : Pres st (retransmitDue fuel st).1 := by
  refine (retransmitDue_ind (P := fun s => IdsNodup s ∧ Pres st s) (fun s q qs hs hq => ?_) fuel st ⟨hn, Pres.refl _⟩).2
  refine ⟨IdsNodup.of_leF (st := s) (retransmit_leF { s with sendq := qs } q) hs.1, fun c K h => ?_⟩
  have h1 : Bal { s with sendq := qs } c (K + if q.sess = c then 1 else 0) := by
    have hb := hs.2 c K h
    unfold Bal at hb ⊢
    rw [hq, qcnt_cons] at hb
    show sref s c = entriesL s.res c + qcnt c qs + _
    omega
  exact retransmit_bal { s with sendq := qs } q hs.1 c K h1

theorem bal_erase (st : State) (c mid : Nat) (q : QNode) (hf : st.sendq.find? (matchQ c mid) = some q) (c' K : Nat) (h : Bal st c' K) :
    Bal { st with sendq := st.sendq.eraseP (matchQ c mid) } c' (K + if c' = c then 1 else 0) := by
  unfold Bal at h ⊢
  have := qcnt_eraseP_Q c mid c' _ q hf
  show sref st c' = entriesL st.res c' + qcnt c' (st.sendq.eraseP (matchQ c mid)) + _
  omega

theorem pres_handleAck (st : State) (c mid : Nat) : Pres st (handleAck st c mid) := by
  unfold handleAck
  dsimp only
  split
  · exact pres_rxSession st c
  · rename_i q hf
    intro c' K h
    apply refDec_bal
    have h1 := bal_erase _ c mid q hf c' K (pres_rxSession st c c' K h)
    have h2 := pres_conDec _ c c' _ h1
    split
    · exact pres_touchObserver _ c q.token c' _ h2
    · exact h2

theorem pres_handleRst (st : State) (c mid : Nat) (hn : IdsNodup st) : Pres st (handleRst st c mid) := by
  unfold handleRst
  dsimp only
  split
  · rename_i q hf
    intro c' K h
    apply refDec_bal
    have h1 := bal_erase _ c mid q hf c' K (pres_rxSession st c c' K h)
    have h2 := pres_conDec _ c c' _ h1
    refine pres_cancelSent _ c q.token ?_ c' _ h2
    exact hn
  · split
    · exact (pres_rxSession st c).trans (pres_deleteObserver (rxSession st c) hn _ _ _)
    · exact pres_rxSession st c

theorem entriesL_filter_ne (c c' : Nat) : ∀ rs : List Res,
    entriesL (rs.map fun x => { x with subs := x.subs.filter fun s => !(s.sess == c) }) c' = if c' = c then 0 else entriesL rs c'
  | [] => by simp [entriesL_nil]
  | x :: t => by
    rw [List.map_cons, entriesL_cons, entriesL_cons, entriesL_filter_ne c c' t]
    dsimp only
    rw [cnt_filter_ne]
    by_cases hc : c' = c <;> simp [hc]

theorem pres_sessionLost (st : State) (c : Nat) : Pres st (sessionLost st c) := by
  unfold sessionLost
  split
  · exact Pres.refl _
  · intro c' K h
    unfold Bal at h ⊢
    dsimp only
    simp only [modSess_res, modSess_sendq, mapRes_res, mapRes_sendq, sref_modSess, getSess_ref]
    rw [entriesL_filter_ne, qcnt_filter_ne]
    by_cases hc : c' = c
    · subst hc
      simp only [if_true]
      show sref st c' - entriesL st.res c' - qcnt c' st.sendq = _
      omega
    · simp only [hc, if_false]
      exact h

theorem releaseAll_bal : ∀ (l : List Sub) (st : State) (c K : Nat), BalQ st c (cnt c l + K) → BalQ (releaseAll st l) c K
  | [], st, c, K, h => h.cast (by rw [cnt_nil]; omega)
  | s :: rest, st, c, K, h => by
    unfold releaseAll
    apply releaseAll_bal rest
    apply refDec_balQ
    refine h.cast ?_
    rw [cnt_cons]
    by_cases hc : c = s.sess
    · simp [hc]; omega
    · have : ¬ s.sess = c := by omega
      simp [hc, this]

theorem releaseAll_sendq : ∀ (l : List Sub) (st : State), (releaseAll st l).sendq = st.sendq
  | [], st => rfl
  | s :: rest, st => by unfold releaseAll; rw [releaseAll_sendq rest]; rfl

theorem pres_deleteResource (st : State) (r : Nat) (hn : IdsNodup st) : Pres st (deleteResource st r).1 := by
  unfold deleteResource
  split
  · exact Pres.refl _
  · dsimp only
    split
    · exact pres_change st r
    · rename_i x1 hx1
      refine (pres_change st r).trans ?_
      have hn1 : IdsNodup (change st r) := (change_evo (A := NoReg) st r).idsNodup hn
      intro c K h
      obtain ⟨E, h1, h2⟩ := entries_modRes (change st r) hn1 r x1 hx1
        (fun y => { y with alive := false, subs := [], dirty := false, pdirty := (notifyRes true x1 (change st r)).1.pdirty }) c
      rw [bal_iff, h1] at h
      have h3 := notifyRes_bal true x1 (change st r) c (E + K) (h.cast (by omega))
      have h4 := releaseAll_bal _ _ c (E + K) h3
      show Bal (modRes (releaseAll (notifyRes true x1 (change st r)).2.1 (notifyRes true x1 (change st r)).1.subs) r _) c K
      rw [bal_iff]
      rw [modRes_res, releaseAll_res, notifyRes_res, ← modRes_res, h2]
      dsimp only
      rw [cnt_nil]
      exact h4.cast (by omega)

theorem sref_reclaim (st : State) (c : Nat) : sref (reclaim st) c = sref st c := by
  unfold sref reclaim; dsimp only
  cases h : st.sess c with
  | none => rfl
  | some s =>
    dsimp only
    split
    · rename_i h1; split at h1
      · cases h1
      · cases h1; rfl
    · rename_i h1; split at h1
      · rename_i h2; exact h2.1.symm
      · cases h1

theorem pres_io (st : State) (hn : IdsNodup st) : Pres st (io st).1 := by
  unfold io
  dsimp only
  have hn1 : IdsNodup (checkNotify st).1 := checkNotify_idsNodup st hn
  exact ((pres_checkNotify st).trans (pres_retransmitDue _ _ hn1)).trans (Pres.of_eq rfl rfl (sref_reclaim _))

theorem pres_rxThenIo (p : State × List Out) (hn : IdsNodup p.1) : Pres p.1 (rxThenIo p).1 := by
  unfold rxThenIo; exact pres_io p.1 hn

theorem pres_deleteObserverRequest (st : State) (r c tok key : Nat) (hn : IdsNodup st) :
    Pres st (deleteObserverRequest st r c tok key) := by
  unfold deleteObserverRequest
  split
  · exact Pres.refl _
  · split
    · exact pres_deleteObserver st hn _ _ _
    · split
      · exact pres_deleteObserver st hn _ _ _
      · exact Pres.refl _

theorem pres_request (st : State) (o : Option Nat) (c r tok key : Nat) (con : Bool) (mid : Nat) (hn : IdsNodup st) :
    Pres st (request st o c r tok key con mid).1 :=
  have h0 : IdsNodup (rxSession st c) ∧ Pres st (rxSession st c) := ⟨hn, pres_rxSession st c⟩
  (request_ind (P := fun s => IdsNodup s ∧ Pres st s) st o c r tok key con mid
    (fun s h => ⟨h.1, h.2.trans (pres_txStamp s c)⟩)
    (fun _ => h0)
    (fun _ => ⟨(register_evo (A := fun _ _ _ => True) (rxSession st c) r c tok key trivial).idsNodup hn,
      (h0.2.trans (pres_addObserver (rxSession st c) hn r c tok key)).trans (pres_touchObserver _ c tok)⟩)
    (fun _ => Pres.step_leF h0 (deleteObserverRequest_leF ..) (pres_deleteObserverRequest (rxSession st c) r c tok key))
    (fun s h => Pres.step_leF h (deleteObserver_leF ..) fun hs => pres_deleteObserver s hs r c tok)).2

theorem pres_step (st : State) (e : Event) (hn : IdsNodup st) : Pres st (step st e).1 :=
  step_cases (P := fun p => Pres st p.1) st e
    (fun o c r tok key con mid _ => (pres_request st o c r tok key con mid hn).trans
      (pres_rxThenIo _ (request_idsNodup st o c r tok key con mid hn)))
    (fun c mid => (pres_handleAck st c mid).trans (pres_rxThenIo (handleAck st c mid, []) (IdsNodup.of_leF (handleAck_leF ..) hn)))
    (fun c mid => (pres_handleRst st c mid hn).trans (pres_rxThenIo (handleRst st c mid, []) (IdsNodup.of_leF (handleRst_leF ..) hn)))
    (Pres.refl _) (pres_change st)
    (fun ms => (Pres.of_eq rfl rfl (fun c => sref_of_sess rfl c) : Pres st { st with now := st.now + ms }).trans (pres_io _ hn))
    (fun r b => pres_modRes st r (fun y => { y with err := b }) (fun _ _ => rfl))
    (pres_sessionLost st) (fun r => pres_deleteResource st r hn)

theorem step_refInv (st : State) (e : Event) (hid : IdsNodup st) (h : RefInv st) : RefInv (step st e).1 :=
  (pres_step st e hid).refInv h

theorem run_refInv (st : State) (evs : List Event) (hid : IdsNodup st) (h : RefInv st) : RefInv (run st evs).1 :=
  run_inv_ids step_refInv evs st hid h

theorem entriesL_empty (c : Nat) : ∀ (res : List Res), (∀ y ∈ res, y.subs = []) → entriesL res c = 0
  | [], _ => rfl
  | x :: t, h => by
    rw [entriesL_cons, h x (List.mem_cons_self ..), cnt_nil, entriesL_empty c t (fun y hy => h y (List.mem_cons_of_mem _ hy))]

theorem init_refInv (res : List Res) (stTicks : Nat) (h : ∀ y ∈ res, y.subs = []) : RefInv (init res stTicks) := by
  intro c
  rw [getSess_ref, entriesOf_eq, nodesOf_eq]
  show 0 = entriesL res c + 0
  rw [entriesL_empty c res h]

theorem qcnt_pos_of_mem (l : List QNode) (q : QNode) (h : q ∈ l) : 1 ≤ qcnt q.sess l :=
  List.length_pos_of_mem (List.mem_filter.mpr ⟨h, beq_self_eq_true _⟩)

theorem exists_of_sref_pos (st : State) (c : Nat) (h : 1 ≤ sref st c) : ∃ s, st.sess c = some s ∧ 1 ≤ s.ref := by
  unfold sref at h
  cases hs : st.sess c with
  | none => rw [hs] at h; simp at h
  | some s => rw [hs] at h; exact ⟨s, rfl, h⟩

theorem RefInv.observed {st : State} (h : RefInv st) : ∀ y ∈ st.res, ∀ o ∈ y.subs, ∃ s, st.sess o.sess = some s ∧ 1 ≤ s.ref := by
  intro y hy o ho
  apply exists_of_sref_pos
  have h1 := h o.sess
  rw [getSess_ref, entriesOf_eq] at h1
  have h2 := cnt_pos_of_mem y.subs o ho
  have h3 := cnt_le_entriesL o.sess st.res y hy
  omega

theorem RefInv.queued {st : State} (h : RefInv st) : ∀ q ∈ st.sendq, ∃ s, st.sess q.sess = some s ∧ 1 ≤ s.ref := by
  intro q hq
  apply exists_of_sref_pos
  have h1 := h q.sess
  rw [getSess_ref, nodesOf_eq] at h1
  have h2 := qcnt_pos_of_mem st.sendq q hq
  omega

/-- the session stays alive while it has observers: after ANY event sequence -/
theorem session_alive_while_observed (st : State) (evs : List Event) (hid : IdsNodup st) (h : RefInv st) :
    ∀ y ∈ (run st evs).1.res, ∀ o ∈ y.subs, ∃ s, (run st evs).1.sess o.sess = some s ∧ 1 ≤ s.ref :=
  (run_refInv st evs hid h).observed

theorem session_alive_while_queued (st : State) (evs : List Event) (hid : IdsNodup st) (h : RefInv st) :
    ∀ q ∈ (run st evs).1.sendq, ∃ s, (run st evs).1.sess q.sess = some s ∧ 1 ≤ s.ref :=
  (run_refInv st evs hid h).queued

theorem reclaim_keeps_of_ref {st : State} {c : Nat} {s : Sess} (hs : st.sess c = some s) (hr : 1 ≤ s.ref) :
    (reclaim st).sess c = st.sess c := by
  unfold reclaim; dsimp only
  rw [hs]; dsimp only
  rw [if_neg]
  intro h0; omega

/-- the idle-session reclaim of coap_io_prepare_io never frees a session that has an observer entry -/
theorem reclaim_keeps_observed (st : State) (h : RefInv st) : ∀ y ∈ st.res, ∀ o ∈ y.subs, (reclaim st).sess o.sess = st.sess o.sess := by
  intro y hy o ho
  obtain ⟨s, hs, hr⟩ := h.observed y hy o ho
  exact reclaim_keeps_of_ref hs hr

theorem reclaim_keeps_queued (st : State) (h : RefInv st) : ∀ q ∈ st.sendq, (reclaim st).sess q.sess = st.sess q.sess := by
  intro q hq
  obtain ⟨s, hs, hr⟩ := h.queued q hq
  exact reclaim_keeps_of_ref hs hr

theorem init_session_alive (res : List Res) (stTicks : Nat) (hs : ∀ y ∈ res, y.subs = []) (hn : (res.map (·.id)).Nodup)
    (evs : List Event) :
    RefInv (run (init res stTicks) evs).1 ∧
    (∀ y ∈ (run (init res stTicks) evs).1.res, ∀ o ∈ y.subs, ∃ s, (run (init res stTicks) evs).1.sess o.sess = some s ∧ 1 ≤ s.ref) ∧
    (∀ q ∈ (run (init res stTicks) evs).1.sendq, ∃ s, (run (init res stTicks) evs).1.sess q.sess = some s ∧ 1 ≤ s.ref) :=
  ⟨run_refInv _ evs hn (init_refInv res stTicks hs), session_alive_while_observed _ evs hn (init_refInv res stTicks hs),
   session_alive_while_queued _ evs hn (init_refInv res stTicks hs)⟩

/-! ### the hypotheses are satisfiable, the statement is not vacuous -/
example : IdsNodup (init [mkRes 0 false false 5, mkRes 1 true false 7] 30000) := by
  unfold IdsNodup resIds; decide

example : ∀ y ∈ [mkRes 0 false false 5, mkRes 1 true false 7], y.subs = [] := by decide

example :
    let st := (run (init [mkRes 0 false false 5, mkRes 1 true false 7] 30000)
      [.reg 0 0 1 0 true 1, .reg 1 1 2 0 false 7, .chg 1, .adv 0]).1
    (getSess st 1).ref = entriesOf st 1 + nodesOf st 1 ∧ entriesOf st 1 = 1 ∧ nodesOf st 1 = 1 ∧ (getSess st 1).ref = 2 ∧
    (getSess st 0).ref = 1 ∧ entriesOf st 0 = 1 ∧ nodesOf st 0 = 0 := by
  decide

end Coap.Observe
