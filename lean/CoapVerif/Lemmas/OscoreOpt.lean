import CoapVerif.Lemmas.OscoreNonce
/- Helper lemmas for C14 (M = S): libcoap's `oscore_encode_option_value` / `oscore_decode_option_value` are the §6.1
compression / decompression; the option split of the protect loop and the merge of the decrypt loop
(`coap_insert_option` one option at a time) are the class E / U filter and the ordered merge of S. -/
namespace Coap
open Coap.Spec.Crypto Coap.Spec.Oscore Coap.M.Oscore

/-! ### option value -/

/-- what the `|=` of `oscore_encode_option_value` add up to -/
theorem flag_or_eq_add : ∀ n, n ≤ 5 → (0 ||| (7 &&& n)) = n ∧ (n ||| 0x10) = n + 16 ∧ (n ||| 0x08) = n + 8 ∧ ((n + 16) ||| 0x08) = n + 16 + 8 := by decide

theorem encodeOptionValue_eq (bufLen : Nat) (piv : Bytes) (kidctx kid : Option Bytes)
    (hp : piv.length ≤ 5) (hc : ∀ c, kidctx = some c → 0 < c.length ∧ c.length ≤ 255) (hb : 0 < bufLen)
    (hfit : (optEncode ⟨piv, kidctx, kid⟩).length ≤ bufLen) :
    encodeOptionValue bufLen piv kidctx kid = R.ok (optEncode ⟨piv, kidctx, kid⟩) := by
  obtain ⟨b1, b2, b3, b4⟩ := flag_or_eq_add piv.length hp
  have e1 : (if piv.length > 0 then (0 ||| (7 &&& piv.length), piv) else ((0 : Nat), ([] : Bytes))) = (piv.length, piv) := by
    cases piv with
    | nil => rfl
    | cons x r => rw [if_pos (show (x :: r).length > 0 from Nat.succ_pos _), b1]
  unfold encodeOptionValue
  rw [if_neg (by omega), if_neg (by omega)]
  simp only [e1]
  clear e1 b1
  cases kidctx with
  | none =>
    clear b2 b4 hc
    cases kid with
    | none =>
      dsimp only
      by_cases he : piv = []
      · subst he
        rw [if_neg (by simp only [List.length_nil]; omega)]
        rfl
      · have hl : piv.length ≠ 0 := fun h => he (List.eq_nil_of_length_eq_zero h)
        have ho : optEncode ⟨piv, none, none⟩ = UInt8.ofNat piv.length :: piv := by
          simp [optEncode, he]
        rw [ho] at hfit ⊢
        rw [List.length_cons] at hfit
        rw [if_neg (by omega), if_neg (fun h => hl h.1)]
    | some k =>
      have ho : optEncode ⟨piv, none, some k⟩ = UInt8.ofNat (piv.length + 8) :: (piv ++ k) := by
        simp [optEncode]
      rw [ho] at hfit ⊢
      rw [List.length_cons, List.length_append] at hfit
      dsimp only
      rw [if_neg (by omega), if_neg (by omega), b3]
      dsimp only
      rw [if_neg (fun h => by omega)]
  | some c =>
    obtain ⟨c0, c1⟩ := hc c rfl
    clear hc
    simp only [if_pos c0, Nat.mod_eq_of_lt (show c.length < 256 by omega), b2]
    clear b2 b3
    cases kid with
    | none =>
      have ho : optEncode ⟨piv, some c, none⟩ = UInt8.ofNat (piv.length + 16) :: (piv ++ UInt8.ofNat c.length :: c) := by
        simp [optEncode]
      rw [ho] at hfit ⊢
      rw [List.length_cons, List.length_append, List.length_cons] at hfit
      rw [if_neg (by omega), if_neg (by omega)]
      dsimp only
      rw [if_neg (fun h => by omega)]
    | some k =>
      have ho : optEncode ⟨piv, some c, some k⟩ =
          UInt8.ofNat (piv.length + 16 + 8) :: ((piv ++ UInt8.ofNat c.length :: c) ++ k) := by
        simp [optEncode]
      rw [ho] at hfit ⊢
      rw [List.length_cons, List.length_append, List.length_append, List.length_cons] at hfit
      rw [if_neg (by omega), if_neg (by omega)]
      dsimp only
      rw [if_neg (by rw [List.length_append, List.length_cons]; omega), b4]
      dsimp only
      rw [if_neg (fun h => by omega)]

/-- masking with `w` one-bits at position `i` selects the digits `i .. i+w-1` -/
theorem and_mask (f w i : Nat) : f &&& ((2 ^ w - 1) * 2 ^ i) = 2 ^ i * (f / 2 ^ i % 2 ^ w) := by
  have h := Nat.div_add_mod (f &&& ((2 ^ w - 1) * 2 ^ i)) (2 ^ i)
  rw [Nat.and_div_two_pow, Nat.and_mod_two_pow, Nat.mul_div_cancel _ (Nat.two_pow_pos i), Nat.mul_mod_left,
    Nat.and_zero, Nat.and_two_pow_sub_one_eq_mod, Nat.add_zero] at h
  exact h.symm

theorem and_bit_ne_zero (f i : Nat) : f &&& 2 ^ i ≠ 0 ↔ f / 2 ^ i % 2 = 1 := by
  have h := and_mask f 1 i
  rw [show (2 ^ 1 - 1) * 2 ^ i = 2 ^ i from Nat.one_mul _] at h
  rw [h, Nat.mul_ne_zero_iff]
  have := Nat.two_pow_pos i
  omega

/-- the reserved bits 5..7 of the flag byte, as `oscore_decode_option_value` tests them -/
theorem reserved_bits (f : Nat) (hf : f < 256) : (f &&& 0xC0 ≠ 0 ∨ f &&& 0x20 ≠ 0) ↔ f / 32 ≠ 0 := by
  have hC0 : f &&& 0xC0 = 64 * (f / 64 % 4) := and_mask f 2 6
  have h20 : f &&& 0x20 = 32 * (f / 32 % 2) := and_mask f 1 5
  have hq : f / 64 = f / 32 / 2 := (Nat.div_div_eq_div_mul f 32 2).symm
  -- the three bits are the number `f / 32`, one of eight
  have tbl : ∀ q < 8, (64 * (q / 2 % 4) ≠ 0 ∨ 32 * (q % 2) ≠ 0) ↔ q ≠ 0 := by decide
  rw [hC0, h20, hq]
  exact tbl _ (Nat.div_lt_of_lt_mul hf)

theorem ite_ite_same {α : Type} {a b : Prop} [Decidable a] [Decidable b] (x y : α) :
    (if a then x else if b then x else y) = if a ∨ b then x else y := by
  by_cases ha : a
  · rw [if_pos ha, if_pos (Or.inl ha)]
  · by_cases hb : b
    · rw [if_neg ha, if_pos hb, if_pos (Or.inr hb)]
    · rw [if_neg ha, if_neg hb, if_neg (fun h => h.elim ha hb)]

theorem decodeOptionValue_eq (v : Bytes) :
    decodeOptionValue v = match optDecode v with | some o => R.ok ⟨o.piv, o.kidctx, o.kid⟩ | none => R.rej := by
  cases v with
  | nil => rfl
  | cons b0 r =>
    have hf : b0.toNat < 256 := UInt8.toNat_lt b0
    have m7 : b0.toNat &&& 0x07 = b0.toNat % 8 := Nat.and_two_pow_sub_one_eq_mod _ 3
    have t3 : ((b0.toNat &&& 0x10) ≠ 0) = (b0.toNat / 16 % 2 = 1) := propext (and_bit_ne_zero _ 4)
    have t4 : ((b0.toNat &&& 0x08) ≠ 0) = (b0.toNat / 8 % 2 = 1) := propext (and_bit_ne_zero _ 3)
    have hres := reserved_bits b0.toNat hf
    unfold decodeOptionValue optDecode
    simp only [m7, t3, t4, List.length_cons]
    clear m7 t3 t4
    have hn : b0.toNat % 8 < 8 := Nat.mod_lt _ (by decide)
    generalize b0.toNat % 8 = n at hn ⊢
    -- the three guards of M reject what the two guards of S reject
    rw [ite_ite_same, ite_ite_same, ite_ite_same (x := (none : Option OptVal))]
    by_cases hr : r.length ≥ 255 ∨ b0.toNat / 32 ≠ 0 ∨ n > 5 ∨ n > r.length
    · rw [if_pos hr, if_pos (by omega)]
    rw [if_neg hr, if_neg (by omega)]
    clear hres hf hn hr
    have e1 : (if n ≠ 0 then 1 + n else 1) = n + 1 := by
      by_cases h0 : n = 0
      · rw [if_neg (not_not_intro h0), h0]
      · rw [if_pos h0, Nat.add_comm]
    have e2 : (if n ≠ 0 then List.take n (List.drop 1 (b0 :: r)) else []) = List.take n r := by
      by_cases h0 : n = 0
      · rw [if_neg (by omega), h0, List.take_zero]
      · rw [if_pos h0, List.drop_succ_cons, List.drop_zero]
    simp only [e1, e2]
    simp only [List.drop_succ_cons, List.getD_cons_succ]
    by_cases hh : b0.toNat / 16 % 2 = 1
    · rw [if_pos hh, if_pos hh]
      cases hd : List.drop n r with
      | nil =>
        have : r.length ≤ n := by simpa using hd
        rw [if_pos (by omega)]
      | cons s r2 =>
        have hl : r.length = n + (r2.length + 1) := by
          have := congrArg List.length hd
          simp at this; omega
        have hg : r.getD n 0 = s := by
          rw [List.getD_eq_getElem?_getD, ← List.head?_drop, hd]; rfl
        have hdd : List.drop (n + 1) r = r2 := by
          rw [← List.drop_drop, hd]; rfl
        rw [if_neg (by omega), hg, hdd, ← List.drop_drop, List.drop_succ_cons, hdd]
        dsimp only
        by_cases c7 : s.toNat > r2.length
        · rw [if_pos c7, if_pos (by omega)]
        · rw [if_neg c7, if_neg (by omega)]
    · rw [if_neg hh, if_neg hh]

/-! ### option split (protect) -/

theorem insertOpt_append (l : List Opt) (o : Opt) (h : ∀ x ∈ l, x.1 ≤ o.1) : insertOpt l o = l ++ [o] := by
  induction l with
  | nil => rfl
  | cons x r ih =>
    have hx : ¬ x.1 > o.1 := by have := h x (by simp); omega
    simp only [insertOpt, hx, if_false, List.cons_append, ih (fun y hy => h y (by simp [hy]))]

theorem innerOpts_num_le (req : Bool) (pre : List Opt) (k : Nat) (h : ∀ x ∈ pre, x.1 ≤ k) : ∀ x ∈ innerOpts req pre, x.1 ≤ k := by
  intro x hx
  unfold innerOpts at hx
  rw [List.mem_map] at hx
  obtain ⟨y, hy, rfl⟩ := hx
  have := h y (List.mem_filter.mp hy).1
  split <;> simpa using this

theorem outerOpts_num_le (pre : List Opt) (k : Nat) (h : ∀ x ∈ pre, x.1 ≤ k) : ∀ x ∈ outerOpts pre, x.1 ≤ k := by
  intro x hx
  exact h x (List.mem_filter.mp hx).1

theorem outerOpts_append (a b : List Opt) : outerOpts (a ++ b) = outerOpts a ++ outerOpts b := by
  simp [outerOpts]

theorem innerOpts_append (req : Bool) (a b : List Opt) : innerOpts req (a ++ b) = innerOpts req a ++ innerOpts req b := by
  simp [innerOpts]

theorem split_classU (req : Bool) (o : Opt) (hu : classUOnly o.1 = true) (h9 : o.1 ≠ 9) :
    outerOpts [o] = [o] ∧ innerOpts req [o] = [] := by
  simp only [outerOpts, innerOpts, List.filter_cons, List.filter_nil, hu, optOscore, decide_eq_true h9, Bool.true_or,
    Bool.and_self, Bool.not_true, if_true, Bool.false_eq_true, if_false, List.map_nil, and_self]

theorem split_observe (req : Bool) (o : Opt) (h6 : o.1 = 6) :
    outerOpts [o] = [o] ∧ innerOpts req [o] = [if req then o else (o.1, [])] := by
  obtain ⟨n, v⟩ := o
  subst h6
  cases req <;> exact ⟨rfl, rfl⟩

theorem split_classE (req : Bool) (o : Opt) (hu : classUOnly o.1 = false) (h6 : o.1 ≠ 6) :
    outerOpts [o] = [] ∧ innerOpts req [o] = [o] := by
  simp [outerOpts, innerOpts, hu, h6]


theorem protectSplit_aux (req : Bool) : ∀ (rest pre : List Opt), (pre ++ rest).Pairwise (fun a b => a.1 ≤ b.1) →
    (∀ o ∈ rest, o.1 ≠ 9 ∧ o.1 ≠ 35) →
    rest.foldl (fun (acc : List (Nat × Bytes) × List (Nat × Bytes)) o =>
      match protectClass o.1 with
      | 0 => (insertOpt acc.1 o, acc.2)
      | 1 => (insertOpt acc.1 o, insertOpt acc.2 (if req then o else (o.1, [])))
      | 2 => acc
      | _ => (acc.1, insertOpt acc.2 o)) (outerOpts pre, innerOpts req pre) =
    (outerOpts (pre ++ rest), innerOpts req (pre ++ rest)) := by
  intro rest
  induction rest with
  | nil => intro pre _ _; simp
  | cons o rest ih =>
    intro pre hs hno
    have hle : ∀ x ∈ pre, x.1 ≤ o.1 := by
      intro x hx
      rw [List.pairwise_append] at hs
      exact hs.2.2 x hx o (by simp)
    obtain ⟨h9, h35⟩ := hno o (by simp)
    have hs' : ((pre ++ [o]) ++ rest).Pairwise (fun a b => a.1 ≤ b.1) := by simpa using hs
    have ih' := ih (pre ++ [o]) hs' (fun x hx => hno x (by simp [hx]))
    rw [List.foldl_cons]
    have e : pre ++ o :: rest = (pre ++ [o]) ++ rest := by simp
    rw [e, ← ih']
    congr 1
    rw [outerOpts_append, innerOpts_append]
    -- `coap_insert_option` appends, since the options arrive in order
    have io := insertOpt_append (outerOpts pre) o (outerOpts_num_le pre o.1 hle)
    have ii : ∀ v, insertOpt (innerOpts req pre) (o.1, v) = innerOpts req pre ++ [(o.1, v)] :=
      fun v => insertOpt_append _ _ (innerOpts_num_le req pre o.1 hle)
    by_cases c0 : o.1 = 3 ∨ o.1 = 7 ∨ o.1 = 39 ∨ o.1 = 16
    · have hu : classUOnly o.1 = true := by
        rcases c0 with h | h | h | h
        all_goals rw [h]; rfl
      obtain ⟨e1, e2⟩ := split_classU req o hu h9
      simp only [protectClass, if_pos c0, io, e1, e2, List.append_nil]
    · by_cases c1 : o.1 = 6
      · obtain ⟨e1, e2⟩ := split_observe req o c1
        have hc : protectClass o.1 = 1 := by simp only [protectClass, if_neg c0, if_pos c1]
        simp only [hc, io, e1, e2]
        cases req
        · exact congrArg _ (ii [])
        · exact congrArg _ (ii o.2)
      · have hu : classUOnly o.1 = false := by
          simp only [classUOnly, Bool.or_eq_false_iff, decide_eq_false_iff_not]
          exact ⟨⟨⟨⟨⟨fun h => c0 (Or.inl h), fun h => c0 (Or.inr (Or.inl h))⟩, h9⟩,
            fun h => c0 (Or.inr (Or.inr (Or.inr h)))⟩, h35⟩, fun h => c0 (Or.inr (Or.inr (Or.inl h)))⟩
        obtain ⟨e1, e2⟩ := split_classE req o hu c1
        have hc : protectClass o.1 = 3 := by simp only [protectClass, if_neg c0, if_neg c1, if_neg h35]
        simp only [hc, e1, e2, List.append_nil]
        exact congrArg _ (ii o.2)

theorem protectSplit_eq (req : Bool) (os : List Opt) (hs : os.Pairwise (fun a b => a.1 ≤ b.1))
    (hno : ∀ o ∈ os, o.1 ≠ 9 ∧ o.1 ≠ 35) : protectSplit req os = (outerOpts os, innerOpts req os) := by
  have := protectSplit_aux req os [] (by simpa using hs) hno
  simp only [List.nil_append] at this
  exact this

/-! ### option merge (decrypt) -/

theorem merge_insertOpt : ∀ (acc rest : List Opt) (o : Opt), (∀ r ∈ rest, o.1 ≤ r.1) →
    List.merge (insertOpt acc o) rest (fun a b => decide (a.1 ≤ b.1)) = List.merge acc (o :: rest) (fun a b => decide (a.1 ≤ b.1)) := by
  intro acc
  induction acc with
  | nil =>
    intro rest o h
    cases rest with
    | nil => simp [insertOpt]
    | cons r rest' =>
      have := h r (by simp)
      simp [insertOpt, this]
  | cons x acc ih =>
    intro rest o h
    by_cases hx : x.1 > o.1
    · have hx' : ¬ x.1 ≤ o.1 := by omega
      simp only [insertOpt, hx, if_true]
      cases rest with
      | nil => simp [hx']
      | cons r rest' =>
        have := h r (by simp)
        simp only [List.cons_merge_cons, this, hx', decide_true, decide_false, if_true, if_false, Bool.false_eq_true]
    · have hx' : x.1 ≤ o.1 := by omega
      simp only [insertOpt, hx, if_false]
      cases rest with
      | nil =>
        have := ih [] o (by simp)
        rw [List.cons_merge_cons]
        simp only [hx', decide_true, if_true]
        rw [← this]; simp
      | cons r rest' =>
        have hr := h r (by simp)
        have hxr : x.1 ≤ r.1 := by omega
        rw [List.cons_merge_cons, List.cons_merge_cons]
        simp only [hxr, hx', decide_true, if_true]
        rw [ih (r :: rest') o h]

theorem foldl_insertOpt_merge : ∀ (inner acc : List Opt), inner.Pairwise (fun a b => a.1 ≤ b.1) →
    inner.foldl insertOpt acc = List.merge acc inner (fun a b => decide (a.1 ≤ b.1)) := by
  intro inner
  induction inner with
  | nil => intro acc _; simp
  | cons o rest ih =>
    intro acc hs
    rw [List.pairwise_cons] at hs
    rw [List.foldl_cons, ih _ hs.2, merge_insertOpt acc rest o hs.1]

/-- D14.3: the recipient's substitution of the Observe value -/
def obsSet (obs : Bytes) (o : Opt) : Opt := if o.1 = optObserve then (o.1, obs) else o

theorem obsSet_fst (obs : Bytes) (o : Opt) : (obsSet obs o).1 = o.1 := by
  unfold obsSet; split <;> rfl

/-- what the recipient does with the inner options: OSCORE dropped, Observe of a response replaced -/
def innerSeen (req : Bool) (pivObs : Bytes) (inner : List Opt) : List Opt :=
  (inner.filter fun o => o.1 ≠ 9).map (if req then id else obsSet (last3 pivObs))

theorem decryptMerge_fold (req : Bool) (pivObs : Bytes) : ∀ (inner acc : List Opt),
    inner.foldl (fun acc o =>
      if o.1 = 9 then acc
      else if o.1 = 6 ∧ ¬ req then insertOpt acc (6, pivObs.drop (pivObs.length - 3))
      else insertOpt acc o) acc = (innerSeen req pivObs inner).foldl insertOpt acc := by
  intro inner
  induction inner with
  | nil => intro acc; rfl
  | cons o rest ih =>
    intro acc
    rw [List.foldl_cons, ih]
    by_cases h9 : o.1 = 9
    · simp [innerSeen, h9]
    · by_cases h6 : o.1 = 6
      · cases req <;> simp [innerSeen, obsSet, h6, last3]
      · cases req <;> simp [innerSeen, obsSet, h9, h6]

theorem innerSeen_sorted (req : Bool) (pivObs : Bytes) (inner : List Opt) (hs : inner.Pairwise (fun a b => a.1 ≤ b.1)) :
    (innerSeen req pivObs inner).Pairwise (fun a b => a.1 ≤ b.1) := by
  unfold innerSeen
  rw [List.pairwise_map]
  refine List.Pairwise.imp ?_ (List.Pairwise.filter _ hs)
  intro a b hab
  cases req
  · rw [if_neg Bool.false_ne_true, obsSet_fst, obsSet_fst]; exact hab
  · exact hab

theorem decryptSkips_eq (n : Nat) : (!decryptSkips n) = (!classE n && decide (n ≠ optOscore)) := by
  have h : decryptSkips n = (classE n || decide (n = optOscore)) := by
    unfold decryptSkips classE optOscore
    rw [Bool.or_right_comm _ (decide (n = 9)), Bool.or_right_comm _ (decide (n = 9)), Bool.or_right_comm _ (decide (n = 31))]
  rw [h, Bool.not_or, decide_not]

theorem decryptMerge_eq (req : Bool) (pivObs : Bytes) (outer inner : List Opt) (hs : inner.Pairwise (fun a b => a.1 ≤ b.1)) :
    decryptMerge req pivObs outer inner = mergeOpts outer (innerSeen req pivObs inner) := by
  unfold decryptMerge mergeOpts
  rw [decryptMerge_fold, foldl_insertOpt_merge _ _ (innerSeen_sorted req pivObs inner hs)]
  congr 1
  apply List.filter_congr
  intro o _
  exact decryptSkips_eq o.1

end Coap
