import CoapVerif.Model.AllocBlock
import CoapVerif.Lemmas.AllocOracle
/-
C18 — helper lemmas for the Block-layer containers (Model/AllocBlock.lean): how every function of the lg_srcv and lg_crcv
models, composed from the allocator calls, moves the OWNERSHIP invariant `Own o L h` of Lemmas/AllocOracle.lean ("the heap is
sound, and what is live is exactly the objects `o` the container owns plus the objects `L` that were live before"), and the
bounds invariant of the lg_crcv's list of Observe tokens.
-/
namespace Coap.AllocBlock
open Coap Coap.AllocOracle

theorem Own.freeOpt_head {x : Option Nat} {o L : List Nat} {h : Heap} (hO : Own (x.toList ++ o) L h) :
    Own o L (freeOpt x h) := by
  cases x with
  | none => simpa [freeOpt] using hO
  | some i => exact Own.free_head (by simpa using hO)

theorem perm_pull (x t b z : List Nat) : (x ++ (t ++ (b ++ z))).Perm (b ++ (x ++ (t ++ z))) :=
  (List.Perm.append_left x (List.perm_append_comm_assoc t b z)).trans (List.perm_append_comm_assoc x b _)

/-! ## server: the lg_srcv owns itself, the body under reassembly, the token of an early final block and (transfer to the
unknown resource) its copy of the URI path -/

def ownedS (lg : ASrcv) : List Nat := lg.uriPath.toList ++ ((ser lg.lastTok).toList ++ ((ser lg.body).toList ++ [lg.id]))

def ownedSt : Option ASrcv → List Nat
  | none => []
  | some lg => ownedS lg

theorem freeSrcv_own {lg : ASrcv} {L : List Nat} {h : Heap} (hO : Own (ownedS lg) L h) : Own [] L (freeSrcv lg h) := by
  unfold freeSrcv
  exact Own.free_head (Own.freeOpt_head (Own.freeOpt_head (Own.freeOpt_head hO)))

theorem sepResponse_own {o L : List Nat} {h : Heap} (hO : Own o L h) : Own o L (sepResponse h) := by
  unfold sepResponse
  rcases hA : h.alloc with ⟨_ | p, h1⟩
  · have := hO.alloc_none hA; simpa using this
  · have h1O := hO.alloc_some hA
    simp only
    rcases hB : h1.alloc with ⟨_ | b, h2⟩
    · have := h1O.alloc_none hB
      exact Own.free_head this
    · have h2O := h1O.alloc_some hB
      exact Own.free_head (Own.free_head h2O)

/-- coap_block_build_body: the body it returns replaces the one it was given (NULL: that one has been released) -/
theorem buildBody_own {body : Option (Nat × Nat)} {len off tot : Nat} {o L : List Nat} {h : Heap}
    (hO : Own ((ser body).toList ++ o) L h) :
    Own ((ser (buildBody body len off tot h).1).toList ++ o) L (buildBody body len off tot h).2 := by
  unfold buildBody
  extract_lets r
  -- first part: the body there is, or a new one
  have hr : Own ((ser r.1).toList ++ o) L r.2 := by
    cases body with
    | some b => simpa using hO
    | none =>
      simp only [r]
      split
      · rcases hA : h.alloc with ⟨_ | i, h1⟩
        · have := hO.alloc_none hA; simpa [ser] using this
        · have := hO.alloc_some hA; simpa [ser] using this
      · simpa using hO
  clear_value r
  rcases r with ⟨_ | ⟨i, blen⟩, hh⟩
  · simpa using hr
  · simp only
    split
    · simpa using hr
    · have hr' : Own (i :: o) L hh := by simpa [ser] using hr
      rcases hR : hh.realloc i with ⟨_ | j, h2⟩
      · have := hr'.realloc_none hR
        simpa [ser] using Own.free_head this
      · have := hr'.realloc_some hR
        simpa [ser] using this

theorem srcvDecide_own {lg : ASrcv} {m chunk tokLen : Nat} {L : List Nat} {h : Heap} (hO : Own (ownedS lg) L h) :
    Own (ownedSt (srcvDecide lg m chunk tokLen h).2.1) L (srcvDecide lg m chunk tokLen h).2.2 := by
  unfold srcvDecide
  simp only
  split
  · split
    · exact hO
    · exact freeSrcv_own (sepResponse_own hO)
  · split
    · have h1 : Own (lg.uriPath.toList ++ ((ser lg.body).toList ++ [lg.id])) L (freeOpt (ser lg.lastTok) h) :=
        Own.freeOpt_head (hO.perm (List.perm_append_comm_assoc _ _ _))
      rcases hA : (freeOpt (ser lg.lastTok) h).alloc with ⟨_ | t, h2⟩
      · have := h1.alloc_none hA
        exact freeSrcv_own (lg := { lg with noMoreSeen := true, lastTok := none }) (by simpa [ownedS, ser] using this)
      · have := h1.alloc_some hA
        have h3 : Own (lg.uriPath.toList ++ ([t] ++ ((ser lg.body).toList ++ [lg.id]))) L h2 :=
          Own.perm (o := [t] ++ (lg.uriPath.toList ++ ((ser lg.body).toList ++ [lg.id]))) (by simpa using this)
            (List.perm_append_comm_assoc _ _ _)
        simpa [ownedSt, ownedS, ser] using h3
    · exact freeSrcv_own hO

theorem srcvLocate_own {st : Option ASrcv} {szx : Nat} {size1 : Option Nat} {unk : Bool} {L : List Nat} {h : Heap}
    (hO : Own (ownedSt st) L h) : Own (ownedSt (srcvLocate st szx size1 unk h).1) L (srcvLocate st szx size1 unk h).2 := by
  unfold srcvLocate
  cases st with
  | some lg => exact hO
  | none =>
    simp only
    rcases hA : h.alloc with ⟨_ | i, h1⟩
    · have := hO.alloc_none hA; simpa [ownedSt] using this
    · have h1O := hO.alloc_some hA
      simp only
      cases unk with
      | false => simpa [ownedSt, ownedS, ser] using h1O
      | true =>
        simp only [if_true]
        rcases hB : h1.alloc with ⟨_ | p, h2⟩
        · have := h1O.alloc_none hB
          simpa [ownedSt] using Own.free_head this
        · have := h1O.alloc_some hB
          simpa [ownedSt, ownedS, ser] using this

theorem srcvUpdate_own {lg : ASrcv} {rec' : Block.Ranges} {len offset m chunk tokLen : Nat} {L : List Nat} {h : Heap}
    (hO : Own (ownedS lg) L h) :
    Own (ownedSt (srcvUpdate lg rec' len offset m chunk tokLen h).2.1) L (srcvUpdate lg rec' len offset m chunk tokLen h).2.2 := by
  unfold srcvUpdate
  simp only
  have hb : Own ((ser lg.body).toList ++ (lg.uriPath.toList ++ ((ser lg.lastTok).toList ++ [lg.id]))) L h :=
    hO.perm (perm_pull _ _ _ _).symm
  have hB := buildBody_own (len := len) (off := offset)
    (tot := if lg.totalLen < offset + len then offset + len else lg.totalLen) hb
  rcases hR : buildBody lg.body len offset (if lg.totalLen < offset + len then offset + len else lg.totalLen) h with ⟨_ | b, h2⟩
  · rw [hR] at hB
    exact freeSrcv_own (lg := { lg with recv := rec', totalLen := _, body := none }) (by simpa [ownedS, ser] using hB)
  · rw [hR] at hB
    exact srcvDecide_own (lg := { lg with recv := rec', totalLen := _, body := some b })
      ((show Own ((ser (some b)).toList ++ (lg.uriPath.toList ++ ((ser lg.lastTok).toList ++ [lg.id]))) L h2 from hB).perm
        (perm_pull _ _ _ _))

theorem srcvStore_own {cap : Nat} {lg : ASrcv} {num m len chunk tokLen : Nat} {L : List Nat} {h : Heap}
    (hO : Own (ownedS lg) L h) :
    Own (ownedSt (srcvStore cap lg num m len chunk tokLen h).2.1) L (srcvStore cap lg num m len chunk tokLen h).2.2 := by
  unfold srcvStore
  simp only
  split
  · exact freeSrcv_own hO
  · split
    · exact freeSrcv_own hO
    · split
      · exact srcvUpdate_own hO
      · exact srcvDecide_own (lg := { lg with recv := _ }) hO

theorem srcvStep_own {cap : Nat} {st : Option ASrcv} {num m szx plen tokLen : Nat} {size1 : Option Nat} {unk : Bool}
    {L : List Nat} {h : Heap} (hO : Own (ownedSt st) L h) :
    Own (ownedSt (srcvStep cap st num m szx plen tokLen size1 unk h).2.1) L
      (srcvStep cap st num m szx plen tokLen size1 unk h).2.2 := by
  unfold srcvStep
  simp only
  by_cases h1 : num = 0 ∧ m = 0
  · rw [if_pos h1]; exact hO
  · rw [if_neg h1]
    by_cases h2 : ¬ plen > 2 ^ (szx + 4) ∧ m = 1 ∧ plen ≠ 2 ^ (szx + 4)
    · rw [if_pos h2]; exact hO
    · rw [if_neg h2]
      have hL := srcvLocate_own (szx := szx) (size1 := size1) (unk := unk) hO
      generalize srcvLocate st szx size1 unk h = l at hL ⊢
      rcases l with ⟨_ | lg, h1⟩
      · simpa [ownedSt] using hL
      · simp only
        split
        · exact hL
        · exact srcvStore_own hL

theorem srcvEv_own {cfg : SCfg} {st : Option ASrcv} {e : SEv} {L : List Nat} {h : Heap} (hO : Own (ownedSt st) L h) :
    Own (ownedSt (srcvEv cfg st h e).2.1) L (srcvEv cfg st h e).2.2 := by
  cases e with
  | block num m plen => exact srcvStep_own hO
  | drop =>
    cases st with
    | none => exact hO
    | some lg => exact freeSrcv_own hO

theorem srcvRun_own (cfg : SCfg) (evs : List SEv) : ∀ (st : Option ASrcv) (L : List Nat) (h : Heap), Own (ownedSt st) L h →
    Own (ownedSt (srcvRun cfg st h evs).2.1) L (srcvRun cfg st h evs).2.2 := by
  induction evs with
  | nil => intro st L h hO; exact hO
  | cons e r ih =>
    intro st L h hO
    have h1 := srcvEv_own (cfg := cfg) (e := e) hO
    have := ih _ L _ h1
    simpa [srcvRun] using this

theorem srcvCleanup_own {st : Option ASrcv} {L : List Nat} {h : Heap} (hO : Own (ownedSt st) L h) :
    Own [] L (srcvCleanup st h) := by
  cases st with
  | none => exact hO
  | some lg => exact freeSrcv_own hO

/-! ## client: obs_token_cnt never exceeds the list (ALL call sequences, ALL oracles) -/

/-- what `coap_block_delete_lg_crcv` and the Observe-cancel look-up rely on: the count is within the allocated list, and a
NULL list has no entries -/
structure CBound (c : Crcv) : Prop where
  le : c.cnt ≤ c.tab.length
  nul : c.tabId = none → c.tab = []

theorem CBound.cnt_zero {c : Crcv} (hb : CBound c) (hn : c.tabId = none) : c.cnt = 0 := by
  have := hb.le
  rw [hb.nul hn] at this
  exact Nat.le_zero.mp this

theorem freeEntries_some : ∀ (n : Nat) (tab : List (Option (Nat × Nat))) (h : Heap), n ≤ tab.length →
    ∃ h', freeEntries n tab h = some h' := by
  intro n
  induction n with
  | zero => intro tab h _; exact ⟨h, by simp [freeEntries]⟩
  | succ n ih =>
    intro tab h hl
    cases tab with
    | nil => simp at hl
    | cons e r =>
      have := ih r (freeOpt (ser e) h) (by simpa using hl)
      simpa [freeEntries] using this

theorem deleteCrcv_some {c : Crcv} (hb : CBound c) (h : Heap) : ∃ h', deleteCrcv c h = some h' := by
  unfold deleteCrcv
  obtain ⟨h1, e⟩ := freeEntries_some c.cnt c.tab (freeOpt c.appTok (freeOpt c.bufId h)) hb.le
  rw [e]
  exact ⟨_, rfl⟩

theorem storeToken_bound {c : Crcv} {bn tokLen : Nat} {h : Heap} (hl : bn < c.tab.length) (hn : c.tabId ≠ none) :
    ∃ r, storeToken c bn tokLen h = some r ∧ CBound r.1 := by
  unfold storeToken
  have : c.tab[bn]? = some c.tab[bn] := List.getElem?_eq_getElem hl
  rw [this]
  simp only
  rcases (freeOpt (ser c.tab[bn]) h).alloc with ⟨_ | t, h2⟩
  · exact ⟨_, rfl, ⟨by simp; omega, fun e => absurd e hn⟩⟩
  · exact ⟨_, rfl, ⟨by simp; omega, fun e => absurd e hn⟩⟩

theorem trackEstablish_bound {c : Crcv} {bn tokLen : Nat} {h : Heap} (hb : CBound c) :
    ∃ r, trackEstablish c bn tokLen h = some r ∧ CBound r.1 := by
  unfold trackEstablish
  split
  · rename_i hle
    rcases reallocOpt c.tabId h with ⟨_ | t, h1⟩
    · exact ⟨_, rfl, hb⟩
    · simp only
      apply storeToken_bound
      · have := hb.le
        simp [List.length_take]
        omega
      · simp
  · rename_i hgt
    apply storeToken_bound
    · have := hb.le; omega
    · intro e
      have := hb.cnt_zero e
      omega

theorem track_cases (act : Option Nat) (c : Crcv) (bn tokLen : Nat) (h : Heap) (hl : c.cnt ≤ c.tab.length) :
    (act = some 0 ∧ track act c bn tokLen h = (trackEstablish c bn tokLen h).map fun r => (none, r.1, r.2)) ∨
    (act ≠ some 0 ∧ ∃ x, track act c bn tokLen h = some (x, c, h)) := by
  unfold track
  cases act with
  | none => exact Or.inr ⟨nofun, _, rfl⟩
  | some a =>
    simp only
    by_cases ha : a = 0
    · rw [if_pos ha, ha]; exact Or.inl ⟨rfl, rfl⟩
    · rw [if_neg ha]
      refine Or.inr ⟨fun e => ha (Option.some.inj e), ?_⟩
      split
      · split
        · rw [List.getElem?_eq_getElem (by omega)]; exact ⟨_, rfl⟩
        · exact ⟨_, rfl⟩
      · exact ⟨_, rfl⟩

theorem track_bound {act : Option Nat} {c : Crcv} {bn tokLen : Nat} {h : Heap} (hb : CBound c) :
    ∃ r, track act c bn tokLen h = some r ∧ CBound r.2.1 := by
  rcases track_cases act c bn tokLen h hb.le with ⟨_, e⟩ | ⟨_, x, e⟩
  · obtain ⟨r, er, hr⟩ := trackEstablish_bound (bn := bn) (tokLen := tokLen) (h := h) hb
    rw [e, er]
    exact ⟨_, rfl, hr⟩
  · exact ⟨_, e, hb⟩

theorem newCrcv_bound {fetch : Bool} {act : Option Nat} {tokLen : Nat} {h : Heap} :
    ∃ r, newCrcv fetch act tokLen h = some r ∧ ∀ c, r.1 = some c → CBound c := by
  unfold newCrcv
  rcases h.alloc with ⟨_ | id, h1⟩
  · exact ⟨_, rfl, fun c e => by simp at e⟩
  · simp only
    rcases h1.alloc with ⟨_ | b, h2⟩
    · obtain ⟨h', e⟩ := deleteCrcv_some (c := { id := id }) ⟨by simp, fun _ => rfl⟩ h2
      simp only [e]
      exact ⟨_, rfl, fun c e => by simp at e⟩
    · simp only
      rcases h2.alloc with ⟨_ | a, h3⟩
      · obtain ⟨h', e⟩ := deleteCrcv_some (c := { id := id, bufId := some b }) ⟨by simp, fun _ => rfl⟩ h3
        simp only [e]
        exact ⟨_, rfl, fun c e => by simp at e⟩
      · simp only
        have hb0 : CBound { id := id, bufId := some b, appTok := some a } := ⟨by simp, fun _ => rfl⟩
        split
        · obtain ⟨r, e, hr⟩ := track_bound (act := act) (bn := 0) (tokLen := tokLen) (h := h3) hb0
          rw [e]
          exact ⟨_, rfl, fun c ec => by simp at ec; rw [← ec]; exact hr⟩
        · exact ⟨_, rfl, fun c ec => by simp at ec; rw [← ec]; exact hb0⟩

def BoundSt (st : Option Crcv) : Prop := ∀ c, st = some c → CBound c

theorem crcvStep_bound {st : Option Crcv} {h : Heap} {e : CEv} (hb : BoundSt st) :
    (crcvStep st h e).1 ≠ .invalid ∧ BoundSt (crcvStep st h e).2.1 := by
  cases e with
  | new fetch act tl =>
    cases st with
    | some c => exact ⟨by simp [crcvStep], hb⟩
    | none =>
      obtain ⟨r, er, hr⟩ := newCrcv_bound (fetch := fetch) (act := act) (tokLen := tl) (h := h)
      simp only [crcvStep, er]
      exact ⟨by simp, hr⟩
  | track act bn tl =>
    cases st with
    | none => exact ⟨by simp [crcvStep], hb⟩
    | some c =>
      obtain ⟨r, er, hr⟩ := track_bound (act := act) (bn := bn) (tokLen := tl) (h := h) (hb c rfl)
      simp only [crcvStep, er]
      refine ⟨?_, fun c' ec => by simp at ec; rw [← ec]; exact hr⟩
      rcases r.1 with _ | ⟨_, l⟩ <;> simp
  | del =>
    cases st with
    | none => exact ⟨by simp [crcvStep], hb⟩
    | some c =>
      obtain ⟨h', eh⟩ := deleteCrcv_some (hb c rfl) h
      simp only [crcvStep, eh]
      exact ⟨by simp, fun c' ec => by simp at ec⟩

theorem crcvRun_bound (evs : List CEv) : ∀ (st : Option Crcv) (h : Heap), BoundSt st →
    (∀ o ∈ (crcvRun st h evs).1, o ≠ .invalid) ∧ BoundSt (crcvRun st h evs).2.1 := by
  induction evs with
  | nil => intro st h hb; exact ⟨by simp [crcvRun], hb⟩
  | cons e r ih =>
    intro st h hb
    obtain ⟨h1, h2⟩ := crcvStep_bound (h := h) (e := e) hb
    obtain ⟨h3, h4⟩ := ih _ (crcvStep st h e).2.2 h2
    simp only [crcvRun]
    refine ⟨?_, h4⟩
    intro o ho
    rcases List.mem_cons.mp ho with ho | ho
    · rw [ho]; exact h1
    · exact h3 o ho

/-! ## client: who owns what in the lg_crcv (call sequences the callers can produce, ALL oracles) -/

/-- serials of the tokens in the list -/
def fm (tab : List (Option (Nat × Nat))) : List Nat := tab.filterMap ser

def ownedC (c : Crcv) : List Nat :=
  fm c.tab ++ (c.tabId.toList ++ (c.bufId.toList ++ (c.appTok.toList ++ [c.id])))

theorem fm_cons (e : Option (Nat × Nat)) (r : List (Option (Nat × Nat))) : fm (e :: r) = (ser e).toList ++ fm r := by
  rcases e with _ | ⟨a, b⟩ <;> simp [fm, ser, List.filterMap_cons]

theorem fm_replicate_none (k : Nat) : fm (List.replicate k none) = [] := by
  induction k with
  | zero => rfl
  | succ k ih => rw [List.replicate_succ, fm_cons, ih]; rfl

theorem fm_append (a b : List (Option (Nat × Nat))) : fm (a ++ b) = fm a ++ fm b := by
  simp [fm, List.filterMap_append]

theorem fm_set_none : ∀ (tab : List (Option (Nat × Nat))) (bn : Nat) (hl : bn < tab.length),
    (fm tab).Perm ((ser tab[bn]).toList ++ fm (tab.set bn none)) := by
  intro tab
  induction tab with
  | nil => intro bn hl; simp at hl
  | cons e r ih =>
    intro bn hl
    cases bn with
    | zero => simp [fm_cons, ser]
    | succ n =>
      have := ih n (by simpa using hl)
      simp only [List.set_cons_succ, fm_cons, List.getElem_cons_succ]
      exact (List.Perm.append_left _ this).trans (List.perm_append_comm_assoc _ _ _)

theorem fm_set_some : ∀ (tab : List (Option (Nat × Nat))) (bn : Nat) (_ : bn < tab.length) (t l : Nat),
    (fm (tab.set bn (some (t, l)))).Perm (t :: fm (tab.set bn none)) := by
  intro tab
  induction tab with
  | nil => intro bn hl; simp at hl
  | cons e r ih =>
    intro bn hl t l
    cases bn with
    | zero => simp [fm_cons, ser]
    | succ n =>
      have := ih n (by simpa using hl) t l
      simp only [List.set_cons_succ, fm_cons]
      exact (List.Perm.append_left _ this).trans (List.perm_middle)

theorem freeEntries_own : ∀ (tab : List (Option (Nat × Nat))) (o L : List Nat) (h : Heap), Own (fm tab ++ o) L h →
    ∃ h', freeEntries tab.length tab h = some h' ∧ Own o L h' := by
  intro tab
  induction tab with
  | nil => intro o L h hO; exact ⟨h, rfl, by simpa [fm] using hO⟩
  | cons e r ih =>
    intro o L h hO
    have h1 : Own (fm r ++ o) L (freeOpt (ser e) h) := by
      apply Own.freeOpt_head
      simpa [fm_cons, List.append_assoc] using hO
    obtain ⟨h', e1, e2⟩ := ih o L _ h1
    exact ⟨h', by simpa [freeEntries] using e1, e2⟩

theorem deleteCrcv_own {c : Crcv} {L : List Nat} {h : Heap} (hO : Own (ownedC c) L h) (hl : c.tab.length = c.cnt) :
    ∃ h', deleteCrcv c h = some h' ∧ Own [] L h' := by
  unfold deleteCrcv
  -- the order of release: request copy, application token, the tokens, the list, the lg_crcv
  have h0 : Own (c.bufId.toList ++ (c.appTok.toList ++ (fm c.tab ++ (c.tabId.toList ++ [c.id])))) L h := by
    apply hO.perm
    unfold ownedC
    exact ((perm_pull (fm c.tab) c.tabId.toList c.bufId.toList (c.appTok.toList ++ [c.id])).trans
      (List.Perm.append_left c.bufId.toList (perm_pull (fm c.tab) c.tabId.toList c.appTok.toList [c.id]))).symm
  have h1 := Own.freeOpt_head (Own.freeOpt_head h0)
  obtain ⟨h', e1, e2⟩ := freeEntries_own c.tab _ L _ h1
  rw [← hl, e1]
  exact ⟨_, rfl, Own.free_head (Own.freeOpt_head e2)⟩

structure CInv (hi : Nat) (c : Crcv) (L : List Nat) (h : Heap) : Prop where
  own : Own (ownedC c) L h
  len : c.tab.length = c.cnt
  le : c.cnt ≤ hi

theorem CInv.mono {hi hi' : Nat} {c : Crcv} {L : List Nat} {h : Heap} (hI : CInv hi c L h) (hh : hi ≤ hi') : CInv hi' c L h :=
  ⟨hI.own, hI.len, Nat.le_trans hI.le hh⟩

theorem storeToken_own {c : Crcv} {bn tokLen : Nat} {L : List Nat} {h : Heap} (hO : Own (ownedC c) L h)
    (hl : bn < c.tab.length) :
    ∃ r, storeToken c bn tokLen h = some r ∧ Own (ownedC r.1) L r.2 ∧ r.1.tab.length = c.tab.length ∧ r.1.cnt = bn + 1 := by
  unfold storeToken
  rw [List.getElem?_eq_getElem hl]
  simp only
  -- the old token of this block is released
  have h1 : Own (fm (c.tab.set bn none) ++ (c.tabId.toList ++ (c.bufId.toList ++ (c.appTok.toList ++ [c.id])))) L
      (freeOpt (ser c.tab[bn]) h) := by
    apply Own.freeOpt_head
    apply hO.perm
    unfold ownedC
    rw [← List.append_assoc]
    exact List.Perm.append_right _ (fm_set_none c.tab bn hl).symm
  rcases hA : (freeOpt (ser c.tab[bn]) h).alloc with ⟨_ | t, h2⟩
  · have := h1.alloc_none hA
    exact ⟨_, rfl, by simpa [ownedC] using this, by simp, rfl⟩
  · have := h1.alloc_some hA
    refine ⟨_, rfl, ?_, by simp, rfl⟩
    apply this.perm
    simp only [ownedC]
    rw [← List.cons_append]
    exact List.Perm.append_right _ (fm_set_some c.tab bn hl t tokLen)

theorem trackEstablish_own {hi : Nat} {c : Crcv} {bn tokLen : Nat} {L : List Nat} {h : Heap} (hI : CInv hi c L h)
    (hf : hi ≤ bn + 1) : ∃ r, trackEstablish c bn tokLen h = some r ∧ CInv (bn + 1) r.1 L r.2 := by
  unfold trackEstablish
  have hlen := hI.len
  have hle := hI.le
  by_cases hcb : c.cnt ≤ bn
  · rw [if_pos hcb]
    -- the list grows
    have hgrow : ∀ (t : Nat) (h1 : Heap),
        Own (fm c.tab ++ (t :: (c.bufId.toList ++ (c.appTok.toList ++ [c.id])))) L h1 →
        ∃ r, storeToken { c with tabId := some t, tab := c.tab.take c.cnt ++ List.replicate (bn + 1 - c.cnt) none } bn tokLen h1 = some r ∧
          CInv (bn + 1) r.1 L r.2 := by
      intro t h1 hO1
      have htk : c.tab.take c.cnt = c.tab := List.take_of_length_le (by omega)
      have hO2 : Own (ownedC { c with tabId := some t, tab := c.tab.take c.cnt ++ List.replicate (bn + 1 - c.cnt) none }) L h1 := by
        simpa [ownedC, htk, fm_append, fm_replicate_none] using hO1
      obtain ⟨r, e, hr1, hr2, hr3⟩ := storeToken_own (bn := bn) (tokLen := tokLen) hO2 (by simp [htk]; omega)
      refine ⟨r, e, hr1, ?_, by omega⟩
      rw [hr2, hr3]
      simp [htk]
      omega
    cases hT : c.tabId with
    | none =>
      have hO0 : Own (fm c.tab ++ (c.bufId.toList ++ (c.appTok.toList ++ [c.id]))) L h := by
        simpa [ownedC, hT] using hI.own
      simp only [reallocOpt]
      rcases hA : h.alloc with ⟨_ | t, h1⟩
      · have := hO0.alloc_none hA
        exact ⟨_, rfl, ⟨by simpa [ownedC, hT] using this, hlen, Nat.le_trans hle hf⟩⟩
      · have := hO0.alloc_some hA
        exact hgrow t h1 (this.perm List.perm_middle)
    | some t0 =>
      have hO0 : Own (t0 :: (fm c.tab ++ (c.bufId.toList ++ (c.appTok.toList ++ [c.id])))) L h := by
        apply hI.own.perm
        simp only [ownedC, hT, Option.toList_some, List.singleton_append]
        exact List.perm_middle.symm
      simp only [reallocOpt]
      rcases hA : h.realloc t0 with ⟨_ | t, h1⟩
      · have := hO0.realloc_none hA
        refine ⟨_, rfl, ⟨?_, hlen, Nat.le_trans hle hf⟩⟩
        apply this.perm
        simp only [ownedC, hT, Option.toList_some, List.singleton_append]
        exact List.perm_middle
      · have := hO0.realloc_some hA
        exact hgrow t h1 (this.perm List.perm_middle)
  · rw [if_neg hcb]
    obtain ⟨r, e, hr1, hr2, hr3⟩ := storeToken_own (bn := bn) (tokLen := tokLen) hI.own (by omega)
    exact ⟨r, e, hr1, by omega, by omega⟩

theorem track_own {hi : Nat} {act : Option Nat} {c : Crcv} {bn tokLen : Nat} {L : List Nat} {h : Heap} (hI : CInv hi c L h)
    (hf : act = some 0 → hi ≤ bn + 1) :
    ∃ r, track act c bn tokLen h = some r ∧ CInv (if act = some 0 then bn + 1 else hi) r.2.1 L r.2.2 := by
  rcases track_cases act c bn tokLen h (Nat.le_of_eq hI.len.symm) with ⟨ha, e⟩ | ⟨ha, x, e⟩
  · obtain ⟨r, er, hr⟩ := trackEstablish_own (bn := bn) (tokLen := tokLen) hI (hf ha)
    rw [e, er, if_pos ha]
    exact ⟨_, rfl, hr⟩
  · rw [if_neg ha]
    exact ⟨_, e, hI⟩

theorem newCrcv_own {fetch : Bool} {act : Option Nat} {tokLen : Nat} {L : List Nat} {h : Heap} (hO : Own [] L h) :
    ∃ r, newCrcv fetch act tokLen h = some r ∧
      (match r.1 with | none => Own [] L r.2 | some c => CInv 1 c L r.2) := by
  unfold newCrcv
  rcases hA : h.alloc with ⟨_ | id, h1⟩
  · have := hO.alloc_none hA
    exact ⟨_, rfl, this⟩
  · have h1O := hO.alloc_some hA
    simp only
    rcases hB : h1.alloc with ⟨_ | b, h2⟩
    · have := h1O.alloc_none hB
      obtain ⟨h', e, hd⟩ := deleteCrcv_own (c := { id := id }) (L := L) (h := h2) (by simpa [ownedC, fm] using this) rfl
      simp only [e]
      exact ⟨_, rfl, hd⟩
    · have h2O := h1O.alloc_some hB
      simp only
      rcases hC : h2.alloc with ⟨_ | a, h3⟩
      · have := h2O.alloc_none hC
        obtain ⟨h', e, hd⟩ := deleteCrcv_own (c := { id := id, bufId := some b }) (L := L) (h := h3)
          (by simpa [ownedC, fm] using this) rfl
        simp only [e]
        exact ⟨_, rfl, hd⟩
      · have h3O := h2O.alloc_some hC
        simp only
        have hI0 : CInv 0 { id := id, bufId := some b, appTok := some a } L h3 :=
          ⟨by apply h3O.perm; simp only [ownedC, fm]; simp; exact List.Perm.swap a b [id], rfl, Nat.le_refl _⟩
        split
        · obtain ⟨r, e, hr⟩ := track_own (act := act) (bn := 0) (tokLen := tokLen) hI0 (fun _ => by omega)
          rw [e]
          refine ⟨_, rfl, ?_⟩
          split at hr
          · simpa using hr
          · exact hr.mono (by omega)
        · exact ⟨_, rfl, hI0.mono (by omega)⟩

def CrcvInv (hi : Nat) (st : Option Crcv) (L : List Nat) (h : Heap) : Prop :=
  match st with
  | none => Own [] L h
  | some c => CInv hi c L h

theorem CrcvInv.ok {hi : Nat} {st : Option Crcv} {L : List Nat} {h : Heap} (hI : CrcvInv hi st L h) : h.ok = true := by
  cases st with
  | none => exact Own.ok hI
  | some c => exact (CInv.own hI).ok

theorem crcvStep_own {hi : Nat} {st : Option Crcv} {L : List Nat} {h : Heap} {e : CEv} (hI : CrcvInv hi st L h)
    (hf : evOk hi e = true) : CrcvInv (nextHi hi e) (crcvStep st h e).2.1 L (crcvStep st h e).2.2 := by
  cases e with
  | new fetch act tl =>
    cases st with
    | some c => exact CInv.mono (hi' := max hi 1) hI (Nat.le_max_left _ _)
    | none =>
      obtain ⟨r, er, hr⟩ := newCrcv_own (fetch := fetch) (act := act) (tokLen := tl) (show Own [] L h from hI)
      simp only [crcvStep, er, nextHi]
      rcases r with ⟨_ | c, h1⟩
      · exact hr
      · exact CInv.mono (hi' := max hi 1) hr (Nat.le_max_right _ _)
  | track act bn tl =>
    cases st with
    | none => exact (show Own [] L h from hI)
    | some c =>
      have hf' : act = some 0 → hi ≤ bn + 1 := by
        intro ha
        simpa [evOk, ha] using hf
      obtain ⟨r, er, hr⟩ := track_own (act := act) (bn := bn) (tokLen := tl) (show CInv hi c L h from hI) hf'
      simp only [crcvStep, er, nextHi]
      exact hr
  | del =>
    cases st with
    | none => exact (show Own [] L h from hI)
    | some c =>
      have hc : CInv hi c L h := hI
      obtain ⟨h', eh, hd⟩ := deleteCrcv_own hc.own hc.len
      simp only [crcvStep, eh]
      exact hd

theorem crcvRun_own (evs : List CEv) : ∀ (hi : Nat) (st : Option Crcv) (L : List Nat) (h : Heap), CrcvInv hi st L h →
    feasible hi evs = true → ∃ hi', CrcvInv hi' (crcvRun st h evs).2.1 L (crcvRun st h evs).2.2 := by
  induction evs with
  | nil => intro hi st L h hI _; exact ⟨hi, hI⟩
  | cons e r ih =>
    intro hi st L h hI hf
    simp only [feasible, Bool.and_eq_true] at hf
    have h1 := crcvStep_own (e := e) hI hf.1
    obtain ⟨hi', h2⟩ := ih _ _ L _ h1 hf.2
    exact ⟨hi', by simpa [crcvRun] using h2⟩

theorem crcvCleanup_own {hi : Nat} {st : Option Crcv} {L : List Nat} {h : Heap} (hI : CrcvInv hi st L h) :
    ∃ h', crcvCleanup st h = some h' ∧ Own [] L h' := by
  cases st with
  | none => exact ⟨h, rfl, hI⟩
  | some c =>
    have hc : CInv hi c L h := hI
    exact deleteCrcv_own hc.own hc.len

end Coap.AllocBlock
