import CoapVerif.Model.PersistList
/- C17: induction over histories — the save files (as record lists) mirror the server's memory, which follows the
abstract state; what the loaders re-create from any stage of an interrupted event.  At the end: the endpoint walk
`epWalk` finds an endpoint iff one matches. -/
namespace Coap.Persist

theorem sameReq_iff (c : Nat) (n : Bytes) (x : ORec) : sameReq c n x = true ↔ x.client = c ∧ x.name = n := by
  simp [sameReq]

theorem not_sameReq_iff (c : Nat) (n : Bytes) (x : ORec) : (!sameReq c n x) = true ↔ ¬(x.client = c ∧ x.name = n) := by
  rw [← sameReq_iff]; cases sameReq c n x <;> simp

theorem not_sameReq_eq (c : Nat) (n : Bytes) (x : ORec) :
    (!sameReq c n x) = decide ¬(x.client = c ∧ x.name = n) := by
  rw [Bool.eq_iff_iff, not_sameReq_iff, decide_eq_true_iff]

/-- the subscriptions in memory: keys below `nextKey` and unique, one subscription per client and resource, only on
existing resources -/
structure SubsOk (subs : List ORec) (nextKey : Nat) (res : List Bytes) : Prop where
  fresh : ∀ r ∈ subs, r.key < nextKey
  keyU : ∀ x ∈ subs, ∀ y ∈ subs, x.key = y.key → x = y
  reqU : ∀ x ∈ subs, ∀ y ∈ subs, x.client = y.client → x.name = y.name → x = y
  live : ∀ r ∈ subs, r.name ∈ res

theorem SubsOk.filter {subs : List ORec} {k : Nat} {res res' : List Bytes} (h : SubsOk subs k res) (p : ORec → Bool)
    (hl : ∀ r ∈ subs, p r = true → r.name ∈ res') : SubsOk (subs.filter p) k res' :=
  have hsub : ∀ r, r ∈ subs.filter p → r ∈ subs := fun _ hr => (List.mem_filter.1 hr).1
  ⟨fun r hr => h.fresh r (hsub r hr), fun x hx y hy => h.keyU x (hsub x hx) y (hsub y hy),
    fun x hx y hy => h.reqU x (hsub x hx) y (hsub y hy), fun r hr => hl r (hsub r hr) (List.mem_filter.1 hr).2⟩

theorem SubsOk.cons {subs : List ORec} {k : Nat} {res : List Bytes} (h : SubsOk subs k res) (c : Nat) (n : Bytes)
    (v : Nat) (hn : n ∈ res) (hreq : ∀ r ∈ subs, ¬(r.client = c ∧ r.name = n)) :
    SubsOk (⟨k, c, n, v⟩ :: subs) (k + 1) res := by
  refine ⟨fun r hr => ?_, fun x hx y hy hk => ?_, fun x hx y hy h1 h2 => ?_, fun r hr => ?_⟩
  · rcases List.mem_cons.1 hr with rfl | hr
    · exact Nat.lt_succ_self _
    · exact Nat.lt_succ_of_lt (h.fresh r hr)
  · rcases List.mem_cons.1 hx with rfl | hx <;> rcases List.mem_cons.1 hy with rfl | hy
    · rfl
    · exact absurd hk (Nat.ne_of_gt (h.fresh y hy))
    · exact absurd hk (Nat.ne_of_lt (h.fresh x hx))
    · exact h.keyU x hx y hy hk
  · rcases List.mem_cons.1 hx with rfl | hx <;> rcases List.mem_cons.1 hy with rfl | hy
    · rfl
    · exact absurd ⟨h1.symm, h2.symm⟩ (hreq y hy)
    · exact absurd ⟨h1, h2⟩ (hreq x hx)
    · exact h.reqU x hx y hy h1 h2
  · rcases List.mem_cons.1 hr with rfl | hr
    · exact hn
    · exact h.live r hr

def KeysDropped (subs : List ORec) (obs : List (Nat × Bytes × Nat)) : Prop :=
  ∀ c n v, (∃ k, (⟨k, c, n, v⟩ : ORec) ∈ subs) ↔ (c, n, v) ∈ obs

theorem KeysDropped.filter {subs : List ORec} {obs : List (Nat × Bytes × Nat)} (h : KeysDropped subs obs)
    (p : ORec → Bool) (q : Nat × Bytes × Nat → Bool) (hpq : ∀ k c n v, p ⟨k, c, n, v⟩ = q (c, n, v)) :
    KeysDropped (subs.filter p) (obs.filter q) := by
  intro c n v
  simp only [List.mem_filter, ← h c n v, hpq]
  exact ⟨fun ⟨k, h1, h2⟩ => ⟨⟨k, h1⟩, h2⟩, fun ⟨⟨k, h1⟩, h2⟩ => ⟨k, h1, h2⟩⟩

theorem KeysDropped.cons {subs : List ORec} {obs : List (Nat × Bytes × Nat)} (h : KeysDropped subs obs)
    (k0 c0 : Nat) (n0 : Bytes) (v0 : Nat) : KeysDropped (⟨k0, c0, n0, v0⟩ :: subs) ((c0, n0, v0) :: obs) := by
  intro c n v
  simp only [List.mem_cons, ← h c n v, ORec.mk.injEq, Prod.mk.injEq]
  constructor
  · rintro ⟨k, ⟨_, h1⟩ | h1⟩
    · exact Or.inl h1
    · exact Or.inr ⟨k, h1⟩
  · rintro (h1 | ⟨k, h1⟩)
    · exact ⟨k0, Or.inl ⟨rfl, h1⟩⟩
    · exact ⟨k, Or.inr h1⟩

structure L.Inv (s : L) (a : Abs) : Prop where
  res : s.res = a.res
  obs : KeysDropped s.subs a.obs
  dyn : ∀ n, n ∈ s.files.dyn ↔ n ∈ s.res
  mir : ∀ r, r ∈ s.files.obs ↔ r ∈ s.subs
  subs : SubsOk s.subs s.nextKey s.res

theorem restore_of_inv {s : L} {a : Abs} (h : L.Inv s a) : RestoreEq s.files a := by
  refine ⟨fun n => ?_, fun c n v => ?_⟩
  · simp only [Files.restoredRes]; rw [h.dyn, h.res]
  · rw [← h.obs]
    simp only [Files.restoredObs, List.mem_map, List.mem_filter, decide_eq_true_eq]
    constructor
    · rintro ⟨r, ⟨hr, _⟩, he⟩
      refine ⟨r.key, ?_⟩
      have hm := (h.mir r).1 hr
      cases r; simp only [Prod.mk.injEq] at he; rcases he with ⟨rfl, rfl, rfl⟩; exact hm
    · rintro ⟨k, hk⟩
      exact ⟨⟨k, c, n, v⟩, ⟨(h.mir _).2 hk, (h.dyn _).2 (h.subs.live _ hk)⟩, rfl⟩

/-- where an event changes nothing in memory it triggers no update -/
theorem L.step_files (s : L) (e : HEv) : (s.step e).files = (s.updates e).foldl (fun f u => u f) s.files := by
  cases e with
  | create n =>
    refine Coap.ite_ind (P := fun t : L => t.files = _) (fun hn => ?_) fun _ => rfl
    rw [L.updates, if_pos hn]; rfl
  | delete n => rfl
  | observe c n v =>
    refine Coap.ite_ind (P := fun t : L => t.files = _) (fun hn => ?_) fun hn => ?_
    · refine Coap.ite_ind (P := fun t : L => t.files = _) (fun hany => ?_) fun _ => rfl
      rw [L.updates, if_pos hn, if_pos hany]; rfl
    · rw [L.updates, if_neg hn]; rfl
  | cancel c n => rfl

/-- files after removing the record of the subscription with the same request, if there is one -/
def removedFiles (s : L) (c : Nat) (n : Bytes) : Files :=
  match s.subs.find? (sameReq c n) with
  | some old => s.files.obsDeleted old.key
  | none => s.files

theorem removed_dyn (s : L) (c : Nat) (n : Bytes) : (removedFiles s c n).dyn = s.files.dyn := by
  simp only [removedFiles]; split <;> rfl

/-- removing the record by its key removes exactly the subscription of that client and resource -/
theorem removed_mir {s : L} {a : Abs} (h : L.Inv s a) (c : Nat) (n : Bytes) (r : ORec) :
    r ∈ (removedFiles s c n).obs ↔ r ∈ s.subs.filter (fun x => !sameReq c n x) := by
  simp only [removedFiles]
  cases hf : s.subs.find? (sameReq c n) with
  | none =>
    simp only [List.mem_filter, h.mir]
    have := List.find?_eq_none.1 hf
    exact ⟨fun hr => ⟨hr, by simpa using this r hr⟩, fun hr => hr.1⟩
  | some old =>
    have hold : old ∈ s.subs := List.mem_of_find?_eq_some hf
    have hsame : sameReq c n old = true := List.find?_some hf
    have ho := (sameReq_iff c n old).1 hsame
    simp only [Files.obsDeleted, List.mem_filter, h.mir, decide_eq_true_eq]
    constructor
    · rintro ⟨hr, hk⟩
      refine ⟨hr, (not_sameReq_iff c n r).2 ?_⟩
      rintro ⟨h1, h2⟩
      exact hk (by rw [h.subs.reqU r hr old hold (h1.trans ho.1.symm) (h2.trans ho.2.symm)])
    · rintro ⟨hr, hk⟩
      refine ⟨hr, fun hke => ?_⟩
      rw [h.subs.keyU r hr old hold hke, hsame] at hk
      cases hk

theorem files_cancel (s : L) (c : Nat) (n : Bytes) : (s.step (.cancel c n)).files = removedFiles s c n := by
  simp only [L.step, L.updates, removedFiles]; cases s.subs.find? (sameReq c n) <;> rfl

theorem files_observe {s : L} {c : Nat} {n : Bytes} {v : Nat} (hn : n ∈ s.res)
    (hany : s.subs.any (fun x => sameReq c n x && x.ver = v) = false) :
    (s.updates (.observe c n v)).foldl (fun f u => u f) s.files =
      (removedFiles s c n).obsAdded ⟨s.nextKey, c, n, v⟩ := by
  simp only [L.updates, hn, hany, if_true, Bool.false_eq_true, if_false, removedFiles, List.foldl_append,
    List.foldl_cons, List.foldl_nil]
  cases s.subs.find? (sameReq c n) <;> rfl

theorem foldl_obsDeleted (ds : List ORec) : ∀ (f : Files),
    ((ds.map fun (d : ORec) => fun (f : Files) => f.obsDeleted d.key).foldl (fun f u => u f) f).dyn = f.dyn ∧
    ∀ r, r ∈ ((ds.map fun (d : ORec) => fun (f : Files) => f.obsDeleted d.key).foldl (fun f u => u f) f).obs ↔
      r ∈ f.obs ∧ ∀ d ∈ ds, r.key ≠ d.key := by
  induction ds with
  | nil => intro f; simp
  | cons d ds ih =>
    intro f
    simp only [List.map_cons, List.foldl_cons]
    have := ih (f.obsDeleted d.key)
    refine ⟨this.1, fun r => ?_⟩
    rw [this.2 r]
    simp only [Files.obsDeleted, List.mem_filter, decide_eq_true_eq, List.mem_cons, forall_eq_or_imp]
    exact and_assoc

/-- removing the records of the subscriptions to `n` by their keys removes exactly those -/
theorem SubsOk.key_notin_named_iff {subs : List ORec} {k : Nat} {res : List Bytes} (h : SubsOk subs k res) (n : Bytes) (r : ORec)
    (hr : r ∈ subs) : (∀ d ∈ subs.filter (·.name = n), r.key ≠ d.key) ↔ r.name ≠ n := by
  constructor
  · intro hd hn
    exact hd r (List.mem_filter.2 ⟨hr, decide_eq_true hn⟩) rfl
  · intro hn d hd hk
    obtain ⟨hd1, hd2⟩ := List.mem_filter.1 hd
    exact hn (by rw [h.keyU r hr d hd1 hk]; exact of_decide_eq_true hd2)

theorem inv_step {s : L} {a : Abs} (h : L.Inv s a) (e : HEv) : L.Inv (s.step e) (a.step e) := by
  cases e with
  | create n =>
    -- `Classical.em` here and below: `by_cases` spends its time finding the `Decidable` instance for `∈` on `List Bytes`
    rcases Classical.em (n ∈ s.res) with hn | hn
    · have hn' : n ∈ a.res := h.res ▸ hn
      simp only [L.step, Abs.step, hn, hn', if_true]; exact h
    · have hn' : n ∉ a.res := h.res ▸ hn
      simp only [L.step, Abs.step, L.updates, hn, hn', if_false, List.foldl_cons, List.foldl_nil]
      refine ⟨by rw [h.res], h.obs, fun m => ?_, h.mir,
        ⟨h.subs.fresh, h.subs.keyU, h.subs.reqU, fun r hr => List.mem_append_left _ (h.subs.live r hr)⟩⟩
      simp only [Files.dynAdded, List.mem_append, List.mem_filter, decide_eq_true_eq, List.mem_singleton, h.dyn]
      exact or_congr_left (and_iff_left_of_imp fun hm he => hn (he ▸ hm))
  | delete n =>
    have hfiles : (∀ m, m ∈ ((s.updates (.delete n)).foldl (fun f u => u f) s.files).dyn ↔ m ∈ s.res.filter (· ≠ n)) ∧
        ∀ r, r ∈ ((s.updates (.delete n)).foldl (fun f u => u f) s.files).obs ↔ r ∈ s.subs.filter (·.name ≠ n) := by
      rcases Classical.em (n ∈ s.res) with hn | hn
      · simp only [L.updates, hn, if_true, List.foldl_cons]
        refine ⟨fun m => ?_, fun r => ?_⟩
        · rw [(foldl_obsDeleted _ _).1]
          simp only [Files.dynDeleted, List.mem_filter, h.dyn]
        · rw [(foldl_obsDeleted _ _).2 r]
          show r ∈ s.files.obs ∧ _ ↔ _
          rw [h.mir, List.mem_filter, decide_eq_true_eq]
          exact and_congr_right fun hr => h.subs.key_notin_named_iff n r hr
      · -- nothing is written: neither the resource nor a subscription to it exists
        simp only [L.updates, hn, if_false, List.foldl_nil, List.mem_filter, decide_eq_true_eq, h.dyn, h.mir]
        exact ⟨fun m => (and_iff_left_of_imp fun hm (he : m = n) => hn (he ▸ hm)).symm,
          fun r => (and_iff_left_of_imp fun hr (he : r.name = n) => hn (he ▸ h.subs.live r hr)).symm⟩
    exact ⟨congrArg _ h.res, h.obs.filter _ _ (fun _ _ _ _ => rfl), hfiles.1, hfiles.2,
      h.subs.filter _ fun r hr hp => List.mem_filter.2 ⟨h.subs.live r hr, hp⟩⟩
  | cancel c n =>
    refine ⟨h.res, h.obs.filter _ _ (fun _ _ _ _ => not_sameReq_eq c n _), fun m => ?_, fun r => ?_,
      h.subs.filter _ fun r hr _ => h.subs.live r hr⟩
    · rw [files_cancel, removed_dyn]; exact h.dyn m
    · rw [files_cancel]; exact removed_mir h c n r
  | observe c n v =>
    rcases Classical.em (n ∈ s.res) with hn | hn
    · have hn' : n ∈ a.res := h.res ▸ hn
      -- the abstract state: this registration in front of all others of other clients or resources
      have hobs := h.obs.filter (fun x => !sameReq c n x) (fun o => decide ¬(o.1 = c ∧ o.2.1 = n))
        (fun _ _ _ _ => not_sameReq_eq c n _)
      by_cases hany : s.subs.any (fun x => sameReq c n x && x.ver = v) = true
      · -- the very same registration: memory and files stay
        simp only [L.step, Abs.step, hn, hn', hany, if_true]
        obtain ⟨x, hx, hxp⟩ := List.any_eq_true.1 hany
        simp only [Bool.and_eq_true, decide_eq_true_eq, sameReq_iff] at hxp
        obtain ⟨⟨rfl, rfl⟩, rfl⟩ := hxp
        refine ⟨h.res, fun c' m v' => ?_, h.dyn, h.mir, h.subs⟩
        rw [← hobs.cons x.key]
        refine exists_congr fun k => ?_
        rw [List.mem_cons, List.mem_filter, not_sameReq_iff]
        constructor
        · intro hk
          by_cases hs : c' = x.client ∧ m = x.name
          · exact Or.inl (h.subs.reqU _ hk x hx hs.1 hs.2)
          · exact Or.inr ⟨hk, hs⟩
        · rintro (hk | hk)
          · exact hk ▸ hx
          · exact hk.1
      · -- a new subscription (possibly replacing the one with the same request)
        have hany' : s.subs.any (fun x => sameReq c n x && x.ver = v) = false := Bool.eq_false_iff.2 hany
        have hold : ∀ r ∈ s.subs.filter (fun x => !sameReq c n x), ¬(r.client = c ∧ r.name = n) :=
          fun r hr => (not_sameReq_iff c n r).1 (List.mem_filter.1 hr).2
        have hsubs := (h.subs.filter (fun x => !sameReq c n x) fun r hr _ => h.subs.live r hr)
        simp only [L.step, Abs.step, hn, hn', hany', if_true, Bool.false_eq_true, if_false, files_observe hn hany']
        refine ⟨h.res, hobs.cons _ _ _ _, ?_, fun r => ?_, hsubs.cons c n v hn hold⟩
        · simp only [Files.obsAdded, removed_dyn]; exact h.dyn
        · simp only [Files.obsAdded, List.mem_append, List.mem_filter, decide_eq_true_eq, List.mem_cons,
            List.not_mem_nil, or_false, removed_mir h c n r]
          exact Or.comm.trans (or_congr_right
            (and_iff_left_of_imp fun h1 => Nat.ne_of_lt (hsubs.fresh r (List.mem_filter.2 h1))))
    · have hn' : n ∉ a.res := h.res ▸ hn
      simp only [L.step, Abs.step, hn, hn', if_false]; exact h

theorem inv_init : L.Inv L.init ⟨[], []⟩ :=
  ⟨rfl, fun _ _ _ => ⟨fun ⟨_, h⟩ => (nomatch h), fun h => (nomatch h)⟩, fun _ => Iff.rfl, fun _ => Iff.rfl,
    ⟨fun _ h => (nomatch h), fun _ h => (nomatch h), fun _ h => (nomatch h), fun _ h => (nomatch h)⟩⟩

theorem inv_run (h : List HEv) : L.Inv (L.run h) (Abs.run h) :=
  Coap.foldl_rel L.Inv h (fun e _ _ _ hi => inv_step hi e) _ _ inv_init

theorem run_snoc (h : List HEv) (e : HEv) : L.run (h ++ [e]) = (L.run h).step e :=
  List.foldl_append

theorem stagesFrom_le_one {f fl : Files} {us : List (Files → Files)} (hl : us.length ≤ 1)
    (hfl : fl ∈ stagesFrom f us) : fl = f ∨ fl = us.foldl (fun f u => u f) f := by
  match us, hl with
  | [], _ => exact Or.inl (List.mem_singleton.1 hfl)
  | [u], _ =>
    simp only [stagesFrom, List.mem_cons, List.not_mem_nil, or_false] at hfl
    exact hfl

theorem stages_observe {s : L} {c : Nat} {n : Bytes} {v : Nat} {fl : Files}
    (hfl : fl ∈ s.stages (.observe c n v)) :
    fl = s.files ∨ fl = removedFiles s c n ∨ fl = (s.step (.observe c n v)).files := by
  rw [L.step_files]
  rcases Classical.em (n ∈ s.res) with hn | hn
  · cases hany : s.subs.any (fun x => sameReq c n x && x.ver = v) with
    | true =>
      simp only [L.stages, L.updates, hn, hany, if_true, stagesFrom, List.mem_singleton] at hfl
      exact Or.inl hfl
    | false =>
      rw [files_observe hn hany]
      simp only [L.stages, L.updates, hn, hany, if_true, Bool.false_eq_true, if_false] at hfl
      unfold removedFiles
      cases hf : s.subs.find? (sameReq c n) with
      | none =>
        simp only [hf, List.nil_append, stagesFrom, List.mem_cons, List.not_mem_nil, or_false] at hfl
        exact hfl.imp_right Or.inr
      | some old =>
        simp only [hf, List.cons_append, List.nil_append, stagesFrom, List.mem_cons, List.not_mem_nil, or_false] at hfl
        exact hfl
  · simp only [L.stages, L.updates, hn, if_false, stagesFrom, List.mem_singleton] at hfl
    exact Or.inl hfl

/-- stages of a resource deletion after the dyn file was rewritten: the dyn list is final, the observe list is
between the initial and the final one -/
theorem stages_obsDeleted (ds : List ORec) : ∀ (g : Files), ∀ fl ∈ stagesFrom g (ds.map fun (d : ORec) => fun (f : Files) => f.obsDeleted d.key),
    fl.dyn = g.dyn ∧ (∀ r, r ∈ fl.obs → r ∈ g.obs) ∧ (∀ r, r ∈ g.obs → (∀ d ∈ ds, r.key ≠ d.key) → r ∈ fl.obs) := by
  induction ds with
  | nil => intro g fl hfl; obtain rfl := List.mem_singleton.1 hfl; exact ⟨rfl, fun _ h => h, fun _ h _ => h⟩
  | cons d ds ih =>
    intro g fl hfl
    simp only [List.map_cons, stagesFrom, List.mem_cons] at hfl
    rcases hfl with rfl | hfl
    · exact ⟨rfl, fun _ h => h, fun _ h _ => h⟩
    · have := ih (g.obsDeleted d.key) fl hfl
      refine ⟨this.1, fun r hr => (List.mem_filter.1 (this.2.1 r hr)).1, fun r hr hd => ?_⟩
      exact this.2.2 r (List.mem_filter.2 ⟨hr, decide_eq_true (hd d List.mem_cons_self)⟩)
        fun d' hd' => hd d' (List.mem_cons_of_mem _ hd')

theorem stages_of_inv {s : L} {a : Abs} (h : L.Inv s a) (e : HEv) (fl : Files) (hfl : fl ∈ s.stages e) :
    RestoreEq fl a ∨ RestoreEq fl (a.step e) ∨
    (∃ c n v, e = .observe c n v ∧ RestoreEq fl (a.step (.cancel c n))) := by
  have hb := restore_of_inv h
  have ha := restore_of_inv (inv_step h e)
  -- an event with at most one update: the files before or after it
  have atomic : (s.updates e).length ≤ 1 → RestoreEq fl a ∨ RestoreEq fl (a.step e) := fun hl => by
    rcases stagesFrom_le_one hl hfl with rfl | rfl
    · exact Or.inl hb
    · exact Or.inr (L.step_files s e ▸ ha)
  cases e with
  | create n => exact (atomic (by simp only [L.updates]; split <;> simp)).imp_right Or.inl
  | cancel c n => exact (atomic (by simp only [L.updates]; split <;> simp)).imp_right Or.inl
  | observe c n v =>
    rcases stages_observe hfl with rfl | rfl | rfl
    · exact Or.inl hb
    · refine Or.inr (Or.inr ⟨c, n, v, rfl, ?_⟩)
      rw [← files_cancel]
      exact restore_of_inv (inv_step h (.cancel c n))
    · exact Or.inr (Or.inl ha)
  | delete n =>
    rcases Classical.em (n ∈ s.res) with hn | hn
    · simp only [L.stages, L.updates, hn, if_true, stagesFrom, List.mem_cons] at hfl
      rcases hfl with rfl | hfl
      · exact Or.inl hb
      · right; left
        have hst := stages_obsDeleted _ _ fl hfl
        refine ⟨fun m => ?_, fun c m v => ?_⟩
        · simp only [Files.restoredRes, hst.1, Files.dynDeleted, Abs.step, List.mem_filter, decide_eq_true_eq,
            h.dyn, h.res]
        · simp only [Files.restoredObs, hst.1, Files.dynDeleted, Abs.step, List.mem_map, List.mem_filter,
            decide_eq_true_eq, ← h.obs _ _ _]
          constructor
          · rintro ⟨r, ⟨hr, _, hne⟩, he⟩
            have hm := (h.mir r).1 (hst.2.1 r hr)
            cases r; simp only [Prod.mk.injEq] at he; rcases he with ⟨rfl, rfl, rfl⟩
            exact ⟨⟨_, hm⟩, hne⟩
          · rintro ⟨⟨k, hk⟩, hne⟩
            exact ⟨⟨k, c, m, v⟩, ⟨hst.2.2 _ ((h.mir _).2 hk) ((h.subs.key_notin_named_iff n _ hk).2 hne),
              (h.dyn _).2 (h.subs.live _ hk), hne⟩, rfl⟩
    · exact (atomic (by simp only [L.updates, hn, if_false]; simp)).imp_right Or.inl

theorem epWalk_some {proto : Nat} {listen : Bytes} {eps : List Ep} {e : Ep} (h : epWalk proto listen eps = some e) :
    e ∈ eps ∧ e.proto = proto ∧ e.addr = listen := by
  induction eps with
  | nil => cases h
  | cons x r ih =>
    rw [epWalk] at h
    split at h
    · next hx => cases h; exact ⟨List.mem_cons_self, hx⟩
    · exact ⟨List.mem_cons_of_mem _ (ih h).1, (ih h).2⟩

theorem epWalk_none {proto : Nat} {listen : Bytes} {eps : List Ep} :
    epWalk proto listen eps = none ↔ ∀ e ∈ eps, ¬(e.proto = proto ∧ e.addr = listen) := by
  induction eps with
  | nil => simp [epWalk]
  | cons x r ih =>
    simp only [epWalk, List.mem_cons, forall_eq_or_imp]
    by_cases hx : x.proto = proto ∧ x.addr = listen
    · simp [hx]
    · simp only [hx, if_false, not_false_eq_true, true_and]; exact ih

end Coap.Persist
