import CoapVerif.Lemmas.BlockRecv
/- C09 / C02, server side, Block1, single-body mode against a HOSTILE client: for EVERY sequence of Block1 requests — any
   NUM (< 2^20), More bit, SZX (≤ 6, changing in mid-transfer in both directions), Size1 (absent, too small, too large, up
   to anything), payload length, order, duplicates — whatever body `srcvStep` hands to the request handler consists of
   bytes the client sent for exactly those offsets; no never-written byte of the buffer (`junk`) is delivered.
   Rests on the fixes 11109ea (blocks in a smaller size: ranges rescaled), cb35487 (a short block must be the end of the
   body, nothing follows the block without More), 8abfc44 (block count not truncated to 32 bits), 0b3fb08. -/
namespace Coap.Block
open Coap.Spec.Block

/-- request `d` carries byte `v` for offset `o` of the body: `o` is not below the offset its Block1 option names and
the payload holds `v` at `o - NUM * 2^(SZX+4)` -/
def SentAt1 (d : Dgram) (o : Nat) (v : UInt8) : Prop :=
  d.num * 2 ^ (d.szx + 4) ≤ o ∧ d.payload[o - d.num * 2 ^ (d.szx + 4)]? = some v

def SentIn1 (hist : List Dgram) (o : Nat) (v : UInt8) : Prop := ∃ d, d ∈ hist ∧ SentAt1 d o v

theorem SentIn1_mono (h1 h2 : List Dgram) (o : Nat) (v : UInt8) (hsub : ∀ d, d ∈ h1 → d ∈ h2) (h : SentIn1 h1 o v) :
    SentIn1 h2 o v := by
  obtain ⟨d', hd', hs⟩ := h
  exact ⟨d', hsub d' hd', hs⟩

theorem SentIn1_cons (d : Dgram) (hist : List Dgram) (o : Nat) (v : UInt8) (h : SentIn1 hist o v) :
    SentIn1 (d :: hist) o v :=
  SentIn1_mono _ _ o v (fun _ => List.mem_cons_of_mem _) h

/-- The lg_srcv against ANY client: ranges well formed and bounded, the buffer is as long as the total known, and every
byte of a recorded block that lies below that total is in the buffer and was sent by the client for that offset. -/
structure HSCore (cap : Nat) (hist : List Dgram) (s : Srcv) : Prop where
  wf : WfFrom 0 s.recv
  cnt : s.recv.length ≤ cap - 1
  szxle : s.szx ≤ 6
  /-- NUM < 2^20 and blocks of at most 2^10 bytes (`block_end_bound`): the `uint32_t` rescaling of the ranges does not wrap -/
  bnd : ∀ k, Covers s.recv k → (k + 1) * chunkSize s.szx ≤ 2 ^ 30
  buf : match s.body with
        | none => s.recv = []
        | some b => b.length = s.totalLen ∧ s.recv ≠ [] ∧
            ∀ k, Covers s.recv k → ∀ i, i < chunkSize s.szx → k * chunkSize s.szx + i < s.totalLen →
              ∃ v, b[k * chunkSize s.szx + i]? = some v ∧ SentIn1 hist (k * chunkSize s.szx + i) v

/-- every recorded block lies entirely below the total known (so it is entirely written) -/
def HSFull (s : Srcv) : Prop := ∀ k, Covers s.recv k → (k + 1) * chunkSize s.szx ≤ s.totalLen

/-- … which holds as long as no block without More has been seen; afterwards the total does not grow any more -/
structure HSInv (cap : Nat) (hist : List Dgram) (s : Srcv) : Prop where
  core : HSCore cap hist s
  full : s.noMoreSeen = false → HSFull s

theorem HSCore_cons (cap : Nat) (hist : List Dgram) (d : Dgram) (s : Srcv) (h : HSCore cap hist s) :
    HSCore cap (d :: hist) s := by
  refine { wf := h.wf, cnt := h.cnt, szxle := h.szxle, bnd := h.bnd, buf := ?_ }
  have hb := h.buf
  cases hbody : s.body with
  | none => rw [hbody] at hb; exact hb
  | some b =>
    rw [hbody] at hb
    simp only at hb ⊢
    refine ⟨hb.1, hb.2.1, ?_⟩
    intro k hk i hi ho
    obtain ⟨v, h1, h2⟩ := hb.2.2 k hk i hi ho
    exact ⟨v, h1, SentIn1_cons d hist _ v h2⟩

theorem HSInv_cons (cap : Nat) (hist : List Dgram) (d : Dgram) (s : Srcv) (h : HSInv cap hist s) :
    HSInv cap (d :: hist) s :=
  { core := HSCore_cons cap hist d s h.core, full := h.full }

def GoodDeliver (hist : List Dgram) (out : SrcvOut) : Prop :=
  ∀ b l, out = SrcvOut.deliver b l → l ≤ b.length ∧ ∀ o, o < l → ∃ v, b[o]? = some v ∧ SentIn1 hist o v

theorem srcvGive_hostile (cap : Nat) (hist : List Dgram) (lg1 : Srcv) (hc : HSCore cap hist lg1)
    (hall : checkAllBlocksIn lg1.recv (totalBlocks lg1.totalLen (chunkSize lg1.szx)) = true) :
    GoodDeliver hist (srcvGive lg1) := by
  have hcp := chunk_pos lg1.szx
  intro b l hb
  unfold srcvGive at hb
  cases hbody : lg1.body with
  | none =>
    rw [hbody] at hb
    simp only at hb
    cases hb
    exact ⟨Nat.zero_le _, fun o ho => by omega⟩
  | some b0 =>
    rw [hbody] at hb
    simp only at hb
    cases hb
    obtain ⟨l1, l2, l3⟩ := buf_of_some hc.buf hbody
    refine ⟨by omega, ?_⟩
    intro o ho
    rw [totalBlocks_eq _ _ hcp] at hall
    have hcov := checkAllBlocksIn_covers hc.wf l2 hall
    obtain ⟨hkT, hml, hdm⟩ := block_of_byte lg1.szx ho
    have := l3 _ (hcov _ hkT) (o % chunkSize lg1.szx) hml (by omega)
    rw [hdm] at this
    exact this

theorem srcvDecide_hostile (cap : Nat) (hist : List Dgram) (lg1 : Srcv) (m : Nat) (st' : Option Srcv) (out : SrcvOut)
    (hc : HSCore cap hist lg1) (hf : m = 1 → lg1.noMoreSeen = false → HSFull lg1)
    (h : srcvDecide lg1 m (2 ^ (lg1.szx + 4)) = (st', out)) :
    (∀ s', st' = some s' → HSInv cap hist s') ∧ GoodDeliver hist out := by
  rw [pow_eq_chunkSize lg1.szx] at h
  rcases srcvDecide_cases lg1 m (chunkSize lg1.szx) with ⟨e, hm1⟩ | ⟨e, _⟩ | ⟨e, _, hall⟩
  · rw [e] at h
    cases h
    exact ⟨fun s' hs => by cases hs; exact { core := hc, full := hf hm1 }, fun b l hb => by cases hb⟩
  · rw [e] at h
    cases h
    exact ⟨fun s' hs => by cases hs; exact { core := { hc with }, full := fun hh => by cases hh },
      fun b l hb => by cases hb⟩
  · rw [e] at h
    cases h
    exact ⟨fun s' hs => (by cases hs), srcvGive_hostile cap hist lg1 hc hall⟩

/-! ## fix 11109ea: the ranges re-expressed in a smaller block size -/

/-- every block number multiplied by `M`: range `[b, e]` becomes `[b * M, (e + 1) * M - 1]` -/
def scaleRanges (rs : Ranges) (M : Nat) : Ranges := rs.map fun r => (r.1 * M, (r.2 + 1) * M - 1)

theorem rescale_eq_scale (rs : Ranges) (sh : Nat)
    (hb : ∀ r, r ∈ rs → r.1 ≤ r.2 ∧ (r.2 + 1) * 2 ^ sh < 2 ^ 32) : rescaleRanges rs sh = scaleRanges rs (2 ^ sh) := by
  unfold rescaleRanges scaleRanges
  apply List.map_congr_left
  intro r hr
  obtain ⟨h1, h2⟩ := hb r hr
  have hp : 0 < 2 ^ sh := Nat.two_pow_pos _
  have h3 : r.1 * 2 ^ sh ≤ (r.2 + 1) * 2 ^ sh := Nat.mul_le_mul_right _ (by omega)
  have h4 : r.2 + 1 ≤ (r.2 + 1) * 2 ^ sh := Nat.le_mul_of_pos_right _ hp
  have e1 : (r.1 * 2 ^ sh) % 2 ^ 32 = r.1 * 2 ^ sh := Nat.mod_eq_of_lt (by omega)
  have e2 : (r.2 + 1) % 2 ^ 32 = r.2 + 1 := Nat.mod_eq_of_lt (by omega)
  have e3 : ((r.2 + 1) * 2 ^ sh) % 2 ^ 32 = (r.2 + 1) * 2 ^ sh := Nat.mod_eq_of_lt h2
  have e4 : ((r.2 + 1) * 2 ^ sh + (2 ^ 32 - 1)) % 2 ^ 32 = (r.2 + 1) * 2 ^ sh - 1 := by
    generalize (r.2 + 1) * 2 ^ sh = x at *
    omega
  rw [e1, e2, e3, e4]

theorem scale_wf (M : Nat) (hM : 0 < M) : ∀ (rs : Ranges) (lo : Nat), WfFrom lo rs → WfFrom (lo * M) (scaleRanges rs M)
  | [], _, _ => trivial
  | (b, e) :: rest, lo, hw => by
    obtain ⟨h1, h2, h3⟩ := hw
    have ih := scale_wf M hM rest (e + 2) h3
    have a1 : lo * M ≤ b * M := Nat.mul_le_mul_right _ h1
    have a2 : b * M + M ≤ (e + 1) * M := by
      have : (b + 1) * M ≤ (e + 1) * M := Nat.mul_le_mul_right _ (by omega)
      rw [Nat.succ_mul] at this
      exact this
    have a3 : (e + 1) * M + M = (e + 2) * M := (Nat.succ_mul (e + 1) M).symm
    show lo * M ≤ b * M ∧ b * M ≤ (e + 1) * M - 1 ∧ WfFrom ((e + 1) * M - 1 + 2) (scaleRanges rest M)
    refine ⟨a1, by omega, ?_⟩
    exact WfFrom_mono _ _ _ (by omega) ih

theorem scale_covers (M : Nat) (hM : 0 < M) (rs : Ranges) (k : Nat) :
    Covers (scaleRanges rs M) k ↔ Covers rs (k / M) := by
  have key : ∀ r : Nat × Nat, (r.1 * M ≤ k ∧ k ≤ (r.2 + 1) * M - 1) ↔ (r.1 ≤ k / M ∧ k / M ≤ r.2) := by
    intro r
    have h1 : r.1 ≤ k / M ↔ r.1 * M ≤ k := Nat.le_div_iff_mul_le hM
    have h2 : k / M < r.2 + 1 ↔ k < (r.2 + 1) * M := Nat.div_lt_iff_lt_mul hM
    have h3 : 0 < (r.2 + 1) * M := Nat.mul_pos (by omega) hM
    constructor
    · intro ⟨a, b⟩
      exact ⟨h1.mpr a, by have := h2.mpr (by omega); omega⟩
    · intro ⟨a, b⟩
      exact ⟨h1.mp a, by have := h2.mp (by omega); omega⟩
  unfold Covers scaleRanges
  constructor
  · intro ⟨r', hr', h1, h2⟩
    obtain ⟨r, hr, e⟩ := List.mem_map.mp hr'
    subst e
    exact ⟨r, hr, (key r).mp ⟨h1, h2⟩⟩
  · intro ⟨r, hr, h1, h2⟩
    exact ⟨_, List.mem_map.mpr ⟨r, hr, rfl⟩, (key r).mpr ⟨h1, h2⟩⟩

/-- `k' * c' + i` in units `c = M * c'` -/
theorem rescale_index (M c c' k' i : Nat) (hM : 0 < M) (hc : c = M * c') (hi : i < c') :
    k' * c' + i = (k' / M) * c + ((k' % M) * c' + i) ∧ (k' % M) * c' + i < c ∧ (k' + 1) * c' ≤ (k' / M + 1) * c := by
  have hdm := Nat.div_add_mod k' M
  have hml := Nat.mod_lt k' hM
  generalize k' / M = K at *
  generalize k' % M = r at *
  have h1 : k' * c' = K * c + r * c' := by
    rw [← hdm, Nat.add_mul, hc, Nat.mul_comm M K, Nat.mul_assoc]
  have h2 : r * c' + c' ≤ M * c' := by
    have : (r + 1) * c' ≤ M * c' := Nat.mul_le_mul_right _ (by omega)
    rw [Nat.succ_mul] at this
    exact this
  have h3 : (K + 1) * c = K * c + c := Nat.succ_mul _ _
  have h4 : (k' + 1) * c' = k' * c' + c' := Nat.succ_mul _ _
  refine ⟨by omega, by omega, by omega⟩

theorem HSInv_rescale (cap : Nat) (hist : List Dgram) (lg : Srcv) (szx : Nat) (hlt : szx < lg.szx) (h : HSInv cap hist lg) :
    HSInv cap hist { lg with recv := rescaleRanges lg.recv (lg.szx - szx), szx := szx } := by
  have hM : 0 < 2 ^ (lg.szx - szx) := Nat.two_pow_pos _
  have hc := chunk_scale szx lg.szx (by omega)
  have hc' := chunk_pos szx
  have hcore := h.core
  -- no wrap
  have hres : rescaleRanges lg.recv (lg.szx - szx) = scaleRanges lg.recv (2 ^ (lg.szx - szx)) := by
    apply rescale_eq_scale
    intro r hr
    obtain ⟨a, b⟩ := WfFrom_mem lg.recv 0 r hcore.wf hr
    refine ⟨a, ?_⟩
    have hb := hcore.bnd r.2 b
    rw [hc, ← Nat.mul_assoc] at hb
    have : (r.2 + 1) * 2 ^ (lg.szx - szx) ≤ (r.2 + 1) * 2 ^ (lg.szx - szx) * chunkSize szx :=
      Nat.le_mul_of_pos_right _ hc'
    omega
  rw [hres]
  generalize hMe : 2 ^ (lg.szx - szx) = M at *
  have hcov : ∀ k', Covers (scaleRanges lg.recv M) k' → Covers lg.recv (k' / M) := fun k' hk => (scale_covers M hM lg.recv k').mp hk
  refine { core := { wf := ?_, cnt := ?_, szxle := ?_, bnd := ?_, buf := ?_ }, full := ?_ }
  · have := scale_wf M hM lg.recv 0 hcore.wf
    rw [Nat.zero_mul] at this
    exact this
  · show (scaleRanges lg.recv M).length ≤ cap - 1
    unfold scaleRanges
    rw [List.length_map]
    exact hcore.cnt
  · show szx ≤ 6
    have := hcore.szxle
    omega
  · intro k' hk'
    show (k' + 1) * chunkSize szx ≤ 2 ^ 30
    have hK := hcore.bnd _ (hcov k' hk')
    obtain ⟨_, _, e3⟩ := rescale_index M (chunkSize lg.szx) (chunkSize szx) k' 0 hM hc hc'
    omega
  · have hbuf := hcore.buf
    cases hbody : lg.body with
    | none =>
      rw [hbody] at hbuf
      simp only at hbuf ⊢
      rw [hbuf]
      rfl
    | some b =>
      rw [hbody] at hbuf
      simp only at hbuf ⊢
      obtain ⟨l1, l2, l3⟩ := hbuf
      refine ⟨l1, ?_, ?_⟩
      · intro he
        apply l2
        unfold scaleRanges at he
        exact List.map_eq_nil_iff.mp he
      · intro k' hk' i hi ho
        obtain ⟨e1, e2, _⟩ := rescale_index M (chunkSize lg.szx) (chunkSize szx) k' i hM hc hi
        rw [e1] at ho ⊢
        exact l3 _ (hcov k' hk') _ e2 ho
  · intro hn k' hk'
    show (k' + 1) * chunkSize szx ≤ lg.totalLen
    have hK := h.full hn _ (hcov k' hk')
    obtain ⟨_, _, e3⟩ := rescale_index M (chunkSize lg.szx) (chunkSize szx) k' 0 hM hc hc'
    omega

/-- `q` = how many blocks of the tracked size the request's block size is, `n` = its first block in tracked units -/
theorem srcvCore_hostile (cap : Nat) (junk : UInt8) (hist : List Dgram) (d : Dgram) (lg : Srcv) (n q : Nat)
    (data : Bytes) (st' : Option Srcv) (out : SrcvOut)
    (hinv : HSInv cap hist lg)
    (hq : 2 ^ (d.szx + 4) = q * chunkSize lg.szx)
    (hn : d.num * 2 ^ (d.szx + 4) = n * chunkSize lg.szx)
    (hbound : (n + q) * chunkSize lg.szx ≤ 2 ^ 30)
    (hdata : data = d.payload.take (2 ^ (d.szx + 4)))
    (hm : d.m = 1 → data.length = 2 ^ (d.szx + 4))
    (h : srcvCore cap junk lg n lg.szx d.m data (d.num * 2 ^ (d.szx + 4)) = (st', out)) :
    (∀ s', st' = some s' → HSInv cap (d :: hist) s') ∧ GoodDeliver (d :: hist) out := by
  have hc := chunk_pos lg.szx
  have hcore := hinv.core
  have hdl : data.length ≤ q * chunkSize lg.szx := by
    rw [hdata, List.length_take, ← hq]; exact Nat.min_le_left _ _
  -- the byte at offset `o` of the window is a byte this request carries for `o`
  have hsent : ∀ o, d.num * 2 ^ (d.szx + 4) ≤ o → o < d.num * 2 ^ (d.szx + 4) + data.length →
      ∃ v, data[o - d.num * 2 ^ (d.szx + 4)]? = some v ∧ SentIn1 (d :: hist) o v := by
    intro o h1 h2
    have hj : o - d.num * 2 ^ (d.szx + 4) < data.length := by omega
    refine ⟨data[o - d.num * 2 ^ (d.szx + 4)], List.getElem?_eq_getElem hj, d, List.mem_cons_self, h1, ?_⟩
    have e1 : data[o - d.num * 2 ^ (d.szx + 4)]? = (d.payload.take (2 ^ (d.szx + 4)))[o - d.num * 2 ^ (d.szx + 4)]? := by
      rw [← hdata]
    have hj2 : o - d.num * 2 ^ (d.szx + 4) < 2 ^ (d.szx + 4) := by
      have : data.length ≤ 2 ^ (d.szx + 4) := by rw [hdata, List.length_take]; exact Nat.min_le_left _ _
      omega
    rw [List.getElem?_take, if_pos hj2] at e1
    rw [← e1]
    exact List.getElem?_eq_getElem hj
  generalize hoff : d.num * 2 ^ (d.szx + 4) = off at *
  rcases srcvCore_cases cap junk lg n d.m data off hcore.wf hcore.cnt (fun b hb => (buf_of_some hcore.buf hb).1) with
    e | ⟨e, _⟩ | ⟨hD1, g1, g2, rec', tl', b', w1, w2, hne, w3, ⟨t1, t2, t3⟩, hb2, hb3, hb4, e⟩
  · rw [e] at h
    cases h
    exact ⟨fun s' hs => (by cases hs), fun b l hb => (by cases hb)⟩
  · -- nothing recorded: the decision on the state as it is
    rw [e] at h
    exact srcvDecide_hostile cap (d :: hist) lg d.m st' out (HSCore_cons cap hist d lg hcore)
      (fun _ hnm => hinv.full hnm) h
  · rw [e] at h
    obtain ⟨hnb, hF1, hF2⟩ := nBlocks_bounds data.length lg.szx hD1
    generalize hcn : nBlocks data.length lg.szx = cnt at *
    have hcq : cnt ≤ q := by
      have : (cnt - 1) * chunkSize lg.szx < q * chunkSize lg.szx := by omega
      have := Nat.lt_of_mul_lt_mul_right this
      omega
    have hfullwin : data.length % chunkSize lg.szx = 0 → cnt * chunkSize lg.szx = data.length := by
      intro hh
      rw [← hcn]
      exact nBlocks_mul_exact data.length lg.szx hh
    -- block `k` of the window, in bytes
    have hwin : ∀ k, n ≤ k → k < n + cnt → off ≤ k * chunkSize lg.szx ∧
        (k + 1) * chunkSize lg.szx ≤ off + cnt * chunkSize lg.szx ∧ (k + 1) * chunkSize lg.szx ≤ 2 ^ 30 := by
      intro k hk1 hk2
      have e2 : (k + 1) * chunkSize lg.szx ≤ (n + cnt) * chunkSize lg.szx := Nat.mul_le_mul_right _ hk2
      have e3 : (n + cnt) * chunkSize lg.szx ≤ (n + q) * chunkSize lg.szx :=
        Nat.mul_le_mul_right _ (Nat.add_le_add_left hcq n)
      refine ⟨hn ▸ Nat.mul_le_mul_right _ hk1, ?_, Nat.le_trans e2 (Nat.le_trans e3 hbound)⟩
      rw [hn, ← Nat.add_mul]
      exact e2
    have hcore1 : HSCore cap (d :: hist) { lg with recv := rec', totalLen := tl', body := some b' } := by
      refine { wf := w1, cnt := w2, szxle := hcore.szxle, bnd := ?_, buf := ?_ }
      · intro k hk
        show (k + 1) * chunkSize lg.szx ≤ 2 ^ 30
        rcases (w3 k).mp hk with hk | hk
        · exact hcore.bnd k hk
        · exact (hwin k hk.1 hk.2).2.2
      · show b'.length = tl' ∧ rec' ≠ [] ∧ ∀ k, Covers rec' k → ∀ i, i < chunkSize lg.szx → k * chunkSize lg.szx + i < tl' →
            ∃ v, b'[k * chunkSize lg.szx + i]? = some v ∧ SentIn1 (d :: hist) (k * chunkSize lg.szx + i) v
        refine ⟨hb2, hne, ?_⟩
        intro k hk i hi ho
        by_cases hw : off ≤ k * chunkSize lg.szx + i ∧ k * chunkSize lg.szx + i < off + data.length
        · obtain ⟨v, e1, e2⟩ := hsent _ hw.1 hw.2
          exact ⟨v, by rw [hb3 _ hw.1 hw.2]; exact e1, e2⟩
        · by_cases hkw : n ≤ k ∧ k < n + cnt
          · -- inside the window but behind the payload: impossible below the total
            obtain ⟨f1, f2, _⟩ := hwin k hkw.1 hkw.2
            refine (hw ⟨Nat.le_trans f1 (Nat.le_add_right _ _), ?_⟩).elim
            by_cases hmod : data.length % chunkSize lg.szx = 0
            · refine Nat.lt_of_lt_of_le ?_ (hfullwin hmod ▸ f2)
              rw [Nat.succ_mul]
              exact Nat.add_lt_add_left hi _
            · have := g1 hmod
              omega
          · -- a block recorded before
            have hkold : Covers lg.recv k := by
              rcases (w3 k).mp hk with hk | hk
              · exact hk
              · exact (hkw hk).elim
            have hlt : k * chunkSize lg.szx + i < lg.totalLen := by
              rcases t3 with t3 | ⟨t3, t4⟩
              · exact t3 ▸ ho
              · cases hnm : lg.noMoreSeen with
                | false =>
                  refine Nat.lt_of_lt_of_le ?_ (hinv.full hnm k hkold)
                  rw [Nat.succ_mul]
                  exact Nat.add_lt_add_left hi _
                | true => exact absurd (t3 ▸ g2 hnm) (Nat.not_le.mpr t4)
            obtain ⟨b, hbody, _, _, hbuf⟩ := buf_of_ne_nil hcore.buf (ne_nil_of_covers hkold)
            obtain ⟨v, e1, e2⟩ := hbuf k hkold i hi hlt
            refine ⟨v, ?_, SentIn1_cons d hist _ v e2⟩
            rw [hb4 b hbody _ hlt hw]
            exact e1
    have hfull1 : d.m = 1 → lg.noMoreSeen = false →
        HSFull { lg with recv := rec', totalLen := tl', body := some b' } := by
      intro hm1 hnm k hk
      show (k + 1) * chunkSize lg.szx ≤ tl'
      rcases (w3 k).mp hk with hk | hk
      · exact Nat.le_trans (hinv.full hnm k hk) t1
      · have hmod : data.length % chunkSize lg.szx = 0 := by
          rw [hm hm1, hq]; exact Nat.mul_mod_left _ _
        exact Nat.le_trans (hwin k hk.1 hk.2).2.1 (hfullwin hmod ▸ t2)
    exact srcvDecide_hostile cap (d :: hist) _ d.m st' out hcore1 hfull1 h

theorem block_end_bound (num szx : Nat) (hnum : num < 2 ^ 20) (hszx : szx ≤ 6) : (num + 1) * 2 ^ (szx + 4) ≤ 2 ^ 30 := by
  have h1 : num + 1 ≤ 2 ^ 20 := by omega
  have h2 : 2 ^ (szx + 4) ≤ 2 ^ 10 := Nat.pow_le_pow_right (by decide) (by omega)
  have h3 := Nat.mul_le_mul h1 h2
  have h4 : (2 : Nat) ^ 20 * 2 ^ 10 = 2 ^ 30 := by decide
  omega

/-- `hnum`, `hszx`: what `coap_get_block_b` lets through (`block_opt_bounds`) -/
theorem srcvStep_hostile (cap : Nat) (junk : UInt8) (maxBlk : Nat) (hist : List Dgram) (d : Dgram)
    (st st' : Option Srcv) (out : SrcvOut)
    (hst : ∀ s, st = some s → HSInv cap hist s) (hnum : d.num < 2 ^ 20) (hszx : d.szx ≤ 6)
    (h : srcvStep cap junk maxBlk st d.num d.m d.szx d.payload d.size1 = (st', out)) :
    (∀ s', st' = some s' → HSInv cap (d :: hist) s') ∧ GoodDeliver (d :: hist) out := by
  have hc0 : 0 < 2 ^ (d.szx + 4) := Nat.two_pow_pos _
  have hkeep : (∀ s', st = some s' → HSInv cap (d :: hist) s') := fun s' hs => HSInv_cons cap hist d s' (hst s' hs)
  unfold srcvStep at h
  dsimp only at h
  by_cases hsingle : d.num = 0 ∧ d.m = 0
  · -- "Not blocked, or a single block": the payload as it is
    rw [if_pos hsingle] at h
    cases h
    refine ⟨hkeep, ?_⟩
    intro b l hb
    cases hb
    refine ⟨Nat.le_refl _, ?_⟩
    intro o ho
    refine ⟨d.payload[o], List.getElem?_eq_getElem ho, d, List.mem_cons_self, ?_, ?_⟩
    · rw [hsingle.1, Nat.zero_mul]; exact Nat.zero_le _
    · rw [hsingle.1, Nat.zero_mul, Nat.sub_zero]; exact List.getElem?_eq_getElem ho
  rw [if_neg hsingle] at h
  by_cases hund : ¬ (d.payload.length > 2 ^ (d.szx + 4)) ∧ d.m = 1 ∧ d.payload.length ≠ 2 ^ (d.szx + 4)
  · rw [if_pos hund] at h
    cases h
    exact ⟨hkeep, fun b l hb => (by cases hb)⟩
  rw [if_neg hund] at h
  have hdata : (if d.payload.length > 2 ^ (d.szx + 4) then d.payload.take (2 ^ (d.szx + 4)) else d.payload) =
      d.payload.take (2 ^ (d.szx + 4)) :=
    ite_ind (P := fun x => x = d.payload.take (2 ^ (d.szx + 4))) (fun _ => rfl)
      fun hl => (List.take_of_length_le (Nat.le_of_not_lt hl)).symm
  rw [hdata] at h
  generalize hdd : d.payload.take (2 ^ (d.szx + 4)) = data at h
  have hm : d.m = 1 → data.length = 2 ^ (d.szx + 4) := by
    intro hm1
    rw [← hdd, List.length_take]
    by_cases hl : d.payload.length > 2 ^ (d.szx + 4)
    · omega
    · have : d.payload.length = 2 ^ (d.szx + 4) := Decidable.not_not.mp fun hh => hund ⟨hl, hm1, hh⟩
      omega
  generalize hlg : srcvLocate maxBlk st d.num d.szx d.size1 = lg at h
  have hlginv : HSInv cap hist lg := by
    unfold srcvLocate at hlg
    cases st with
    | some s => simp only at hlg; subst hlg; exact hst s rfl
    | none =>
      simp only at hlg
      subst hlg
      refine { core := { wf := trivial, cnt := Nat.zero_le _, szxle := ?_, bnd := ?_, buf := rfl }, full := ?_ }
      · dsimp only; split <;> omega
      · intro k hk; exact (covers_nil k hk).elim
      · intro _ k hk; exact (covers_nil k hk).elim
  have hbnd := block_end_bound d.num d.szx hnum hszx
  unfold srcvConv at h
  by_cases hbig : d.szx > lg.szx
  · -- a block in a larger size: several blocks of the tracked size
    rw [if_pos hbig] at h
    have hq := chunk_scale lg.szx d.szx (by omega)
    have hq' : 2 ^ (d.szx + 4) = 2 ^ (d.szx - lg.szx) * chunkSize lg.szx := hq
    have hp6 : 2 ^ (d.szx - lg.szx) ≤ 2 ^ 6 := Nat.pow_le_pow_right (by decide) (by omega)
    have hnw : (d.num * 2 ^ (d.szx - lg.szx)) % 2 ^ 32 = d.num * 2 ^ (d.szx - lg.szx) := by
      apply Nat.mod_eq_of_lt
      have h1 := Nat.mul_le_mul (Nat.le_of_lt hnum) hp6
      have h4 : (2 : Nat) ^ 20 * 2 ^ 6 = 2 ^ 26 := by decide
      omega
    rw [hnw] at h
    have hn : d.num * 2 ^ (d.szx + 4) = d.num * 2 ^ (d.szx - lg.szx) * chunkSize lg.szx := by
      rw [hq', Nat.mul_assoc]
    have hb2 : (d.num * 2 ^ (d.szx - lg.szx) + 2 ^ (d.szx - lg.szx)) * chunkSize lg.szx ≤ 2 ^ 30 := by
      have : (d.num * 2 ^ (d.szx - lg.szx) + 2 ^ (d.szx - lg.szx)) * chunkSize lg.szx = (d.num + 1) * 2 ^ (d.szx + 4) := by
        rw [hq', Nat.succ_mul, Nat.add_mul, Nat.mul_assoc]
      omega
    exact srcvCore_hostile cap junk hist d lg _ _ data st' out hlginv hq' hn hb2 hdd.symm hm h
  · rw [if_neg hbig] at h
    have hq1 : ∀ s : Nat, s = d.szx → 2 ^ (d.szx + 4) = 1 * chunkSize s := by
      intro s hs; rw [hs, Nat.one_mul]; rfl
    by_cases hsmall : d.szx < lg.szx
    · -- a block in a smaller size: the ranges are rescaled, that size is tracked from now on
      rw [if_pos hsmall] at h
      have hinv' := HSInv_rescale cap hist lg d.szx hsmall hlginv
      exact srcvCore_hostile cap junk hist d _ d.num 1 data st' out hinv' (hq1 _ rfl) rfl
        (by show (d.num + 1) * chunkSize d.szx ≤ 2 ^ 30; exact hbnd) hdd.symm hm h
    · rw [if_neg hsmall] at h
      have he : d.szx = lg.szx := by omega
      rw [he] at h
      have h' : srcvCore cap junk lg d.num lg.szx d.m data (d.num * 2 ^ (d.szx + 4)) = (st', out) := by
        rw [he]; exact h
      exact srcvCore_hostile cap junk hist d lg d.num 1 data st' out hlginv (hq1 _ he.symm) (by rw [he]; rfl)
        (by rw [← he]; exact hbnd) hdd.symm hm h'

theorem runSrcv_hostile (cap : Nat) (junk : UInt8) (maxBlk : Nat) : ∀ (ds : List Dgram) (st : Option Srcv) (hist : List Dgram),
    (∀ s, st = some s → HSInv cap hist s) → (∀ d, d ∈ ds → d.num < 2 ^ 20 ∧ d.szx ≤ 6) →
    ∀ i b l, (runSrcv cap junk maxBlk st ds)[i]? = some (SrcvOut.deliver b l) →
      l ≤ b.length ∧ ∀ o, o < l → ∃ v, b[o]? = some v ∧ SentIn1 (hist ++ ds.take (i + 1)) o v
  | [], _, _, _, _, i, b, l, h => by simp [runSrcv] at h
  | d :: ds, st, hist, hst, hds, i, b, l, h => by
    obtain ⟨hd1, hd2⟩ := hds d List.mem_cons_self
    obtain ⟨hnext, hout⟩ := srcvStep_hostile cap junk maxBlk hist d st _ _ hst hd1 hd2 rfl
    unfold runSrcv at h
    have key : l ≤ b.length ∧ ∀ o, o < l → ∃ v, b[o]? = some v ∧ SentIn1 ((d :: hist) ++ ds.take i) o v := by
      cases i with
      | zero =>
        simp only [List.getElem?_cons_zero, Option.some.injEq] at h
        obtain ⟨a, c⟩ := hout b l h
        exact ⟨a, fun o ho => (c o ho).imp fun v hv =>
          ⟨hv.1, SentIn1_mono _ _ o v (fun _ => List.mem_append_left _) hv.2⟩⟩
      | succ j =>
        simp only [List.getElem?_cons_succ] at h
        exact runSrcv_hostile cap junk maxBlk ds _ (d :: hist) hnext (fun x hx => hds x (List.mem_cons_of_mem _ hx)) j b l h
    exact ⟨key.1, fun o ho => (key.2 o ho).imp fun v hv =>
      ⟨hv.1, SentIn1_mono _ _ o v (fun x => mem_hist_take x d hist ds i) hv.2⟩⟩

end Coap.Block
