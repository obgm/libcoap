import CoapVerif.Lemmas.Replay
/- C15 — one operation of an endpoint (`nstep`: a request comes in, an own request, a response, the Echo challenge, a crash
and restart): the ghost log of the nonces it uses, the outcomes of `respond` and of a request (`respond_cases`, `reqIn_shape`),
and what an operation does on the sender side — nothing, or one operation of the sending process (`nstep_sys`), so that endpoint
histories inherit the sender theorems. -/
namespace Coap.Replay
variable {cfg : Cfg} {e : Endp} {a : Nat → Option Assoc}

/-- the Partial IVs used with the endpoint's own Sender ID in a list of nonces -/
def ownsOf : List Nonce → List Nat
  | [] => []
  | .own p :: r => p :: ownsOf r
  | .ofReq _ :: r => ownsOf r

/-- the Partial IVs of requests whose nonce was used again (for a response) -/
def ofReqsOf : List Nonce → List Nat
  | [] => []
  | .own _ :: r => ofReqsOf r
  | .ofReq p :: r => p :: ofReqsOf r

theorem ownsOf_append (a b : List Nonce) : ownsOf (a ++ b) = ownsOf a ++ ownsOf b := by
  induction a with
  | nil => rfl
  | cons x a ih => cases x <;> simp [ownsOf, ih]

theorem ofReqsOf_append (a b : List Nonce) : ofReqsOf (a ++ b) = ofReqsOf a ++ ofReqsOf b := by
  induction a with
  | nil => rfl
  | cons x a ih => cases x <;> simp [ofReqsOf, ih]

/-- every association that can protect a response (not `is_client`) holds the nonce of a request of the peer -/
def PeerNonces (a : Nat → Option Assoc) : Prop := ∀ t x, a t = some x → x.client = false → ∃ p, x.nonce = .ofReq p

theorem setAssoc_some {t t' : Nat} {v : Option Assoc} {x : Assoc}
    (h : setAssoc a t v t' = some x) : (t' = t ∧ v = some x) ∨ (t' ≠ t ∧ a t' = some x) := by
  unfold setAssoc at h
  by_cases ht : t' = t
  · rw [if_pos ht] at h; exact Or.inl ⟨ht, h⟩
  · rw [if_neg ht] at h; exact Or.inr ⟨ht, h⟩

theorem setAssoc_same (as : Nat → Option Assoc) (t : Nat) (v w : Option Assoc) :
    setAssoc (setAssoc as t v) t w = setAssoc as t w := by
  funext t'
  unfold setAssoc
  by_cases h : t' = t <;> simp [h]

theorem markObserve_set (a : Nat → Option Assoc) (t : Nat) (w : Assoc) :
    markObserve (setAssoc a t (some w)) t = setAssoc a t (some { w with observe := true }) := by
  unfold markObserve
  have h : setAssoc a t (some w) t = some w := by simp [setAssoc]
  simp only [h, setAssoc_same]

/-- one observation holds at most one nonce -/
theorem nemit_length (o : NObs) : (ownsOf (nemit o)).length ≤ 1 ∧ (ofReqsOf (nemit o)).length ≤ 1 := by
  have one : ∀ n : Nonce, (ownsOf [n]).length ≤ 1 ∧ (ofReqsOf [n]).length ≤ 1 := fun n => by
    cases n
    · exact ⟨Nat.le_refl 1, Nat.zero_le 1⟩
    · exact ⟨Nat.zero_le 1, Nat.le_refl 1⟩
  cases o with
  | sent _ n => exact one n
  | chal p =>
    cases p with
    | none => exact ⟨Nat.zero_le 1, Nat.zero_le 1⟩
    | some p => exact one _
  | verdict _ => exact ⟨Nat.zero_le 1, Nat.zero_le 1⟩
  | err => exact ⟨Nat.zero_le 1, Nat.zero_le 1⟩
  | resumed _ => exact ⟨Nat.zero_le 1, Nat.zero_le 1⟩

theorem recv_of_not_decrypted {r : Recip} {ev : Ev} (h : decrypted cfg r ev = false) :
    (recv cfg r ev).2 ≠ .acc ∧ (recv cfg r ev).2 ≠ .chal := by
  unfold decrypted at h
  unfold recv
  dsimp only at h ⊢
  cases hv : (if (!r.init || !cfg.b12) = true then validate cfg r ev.piv else VRes.ok r) with
  | ub => exact ⟨nofun, nofun⟩
  | rej r1 => exact ⟨nofun, nofun⟩
  | ok r1 =>
    rw [hv] at h
    dsimp only at h ⊢
    rw [h]
    exact ⟨nofun, nofun⟩

/-- The outcomes of `respond`: no association that can protect a response (nothing changes); the Sender Sequence
Number is exhausted; the response takes a Partial IV of its own; or it goes out under the nonce of the request — then
neither flag asked for a Partial IV, the association is not an Observe one, and it is deleted. -/
theorem respond_cases (e : Endp) (t : Nat) (o s : Bool) :
    respond e t o s = (e, .err) ∨
    ((ownPiv e.sys).2 = none ∧ respond e t o s = ({ e with sys := (ownPiv e.sys).1 }, .err)) ∨
    (∃ a p, e.assocs t = some a ∧ a.client = false ∧ (ownPiv e.sys).2 = some p ∧ respond e t o s =
      ({ e with sys := (ownPiv e.sys).1, assocs := if a.observe then e.assocs else setAssoc e.assocs t none },
        .sent (some p) (.own p))) ∨
    (∃ a, e.assocs t = some a ∧ a.client = false ∧ (o || s) = false ∧ a.observe = false ∧
      respond e t o s = ({ e with assocs := setAssoc e.assocs t none }, .sent none a.nonce)) := by
  unfold respond
  cases ha : e.assocs t with
  | none => exact Or.inl rfl
  | some a =>
    dsimp only
    cases hc : a.client with
    | true => exact Or.inl rfl
    | false =>
      rw [if_neg Bool.false_ne_true]
      by_cases hb : (o || (s || a.observe && !o)) = true
      · rw [if_pos hb]
        cases hp : (ownPiv e.sys).2 with
        | none => exact Or.inr (Or.inl ⟨rfl, rfl⟩)
        | some p => exact Or.inr (Or.inr (Or.inl ⟨a, p, rfl, hc, rfl, rfl⟩))
      · rw [if_neg hb]
        have hos : (o || s) = false ∧ a.observe = false := by
          revert hb; cases o <;> cases s <;> cases a.observe <;> decide
        rw [hos.2, if_neg Bool.false_ne_true]
        exact Or.inr (Or.inr (Or.inr ⟨a, rfl, hc, hos.1, hos.2, rfl⟩))

/-- The outcomes of a request: accepted — the association of its token is set up with its own nonce; challenged (Appendix
B.1.2) — the 4.01 is a response for that association with `OSCORE_SEND_PARTIAL_IV`, so it takes the Sender Sequence Number
(`chal none`: exhausted) and nothing else of `respond_cases` can happen, no association stays; any other verdict — the
table is as it was or without an association for the token (the other exits of the trap). -/
theorem reqIn_shape (cfg : Cfg) (e : Endp) (t : Nat) (ev : Ev) (obs : Bool) :
    ((recv cfg e.rcp ev).2 = .acc ∧ ∃ w, w.nonce = .ofReq ev.piv ∧ nstep cfg e (.reqIn t ev obs) =
        ({ e with rcp := (recv cfg e.rcp ev).1, assocs := setAssoc e.assocs t (some w) }, .verdict .acc)) ∨
    ((recv cfg e.rcp ev).2 = .chal ∧ nstep cfg e (.reqIn t ev obs) =
        (⟨(recv cfg e.rcp ev).1, (ownPiv e.sys).1, setAssoc e.assocs t none⟩, .chal (ownPiv e.sys).2)) ∨
    ((recv cfg e.rcp ev).2 ≠ .acc ∧ ∃ as, (as = e.assocs ∨ as = setAssoc e.assocs t none) ∧
      nstep cfg e (.reqIn t ev obs) =
        ({ e with rcp := (recv cfg e.rcp ev).1, assocs := as }, .verdict (recv cfg e.rcp ev).2)) := by
  simp only [nstep]
  cases hd : decrypted cfg e.rcp ev with
  | false =>
    -- not decrypted: neither challenged nor accepted, and no association is set up
    obtain ⟨hacc, hch⟩ := recv_of_not_decrypted hd
    rw [if_neg hch, Bool.false_and, if_neg Bool.false_ne_true, if_neg fun h => hacc h.1, if_neg Bool.false_ne_true]
    exact Or.inr (Or.inr ⟨hacc, _, Or.inl rfl, rfl⟩)
  | true =>
    rw [if_pos rfl, Bool.true_and]
    by_cases hch : (recv cfg e.rcp ev).2 = .chal
    · -- the challenge is a response for the association just set up (not `is_client`) that asks for a Partial IV
      rw [if_pos hch]
      refine Or.inr (Or.inl ⟨hch, ?_⟩)
      have ha : ∀ w : Assoc, setAssoc e.assocs t (some w) t = some w := fun _ => if_pos rfl
      simp only [respond, ha, Bool.false_eq_true, if_false, Bool.true_or, Bool.or_true, if_true]
      cases (ownPiv e.sys).2 with
      | none => simp only [chalPiv, setAssoc_same]
      | some p => cases keptObserve e.assocs t <;> simp only [chalPiv, setAssoc_same, Bool.false_eq_true, if_false, if_true]
    · rw [if_neg hch]
      by_cases hacc : (recv cfg e.rcp ev).2 = .acc
      · rw [if_neg (by rw [hacc]; decide), hacc]
        refine Or.inl ⟨rfl, ?_⟩
        by_cases hao : Verdict.acc = .acc ∧ obs = true
        · rw [if_pos hao, markObserve_set]; exact ⟨_, rfl, rfl⟩
        · rw [if_neg hao]; exact ⟨_, rfl, rfl⟩
      · rw [if_pos (bne_iff_ne.mpr hacc)]
        exact Or.inr (Or.inr ⟨hacc, _, Or.inr (setAssoc_same _ _ _ _), rfl⟩)

theorem emitted_protect (y : SSys) :
    emitted (sstep y .protect).2 = match (ownPiv y).2 with | some p => [p] | none => [] := rfl

theorem respond_sys (e : Endp) (t : Nat) (o s : Bool) (h : PeerNonces e.assocs) :
    ((respond e t o s).1.sys = e.sys ∧ ownsOf (nemit (respond e t o s).2) = []) ∨
    ((respond e t o s).1.sys = (sstep e.sys .protect).1 ∧
      ownsOf (nemit (respond e t o s).2) = emitted (sstep e.sys .protect).2) := by
  rcases respond_cases e t o s with he | ⟨hp, he⟩ | ⟨_, p, _, _, hp, he⟩ | ⟨a, ha, hc, _, _, he⟩ <;> rw [he]
  · exact Or.inl ⟨rfl, rfl⟩
  · exact Or.inr ⟨rfl, by rw [emitted_protect, hp]; rfl⟩
  · exact Or.inr ⟨rfl, by rw [emitted_protect, hp]; rfl⟩
  · obtain ⟨q, hq⟩ := h t a ha hc
    rw [hq]
    exact Or.inl ⟨rfl, rfl⟩

theorem nstep_sys (hs : PeerNonces e.assocs) (op : NOp) :
    ((nstep cfg e op).1.sys = e.sys ∧ ownsOf (nemit (nstep cfg e op).2) = []) ∨
    ∃ sop, (nstep cfg e op).1.sys = (sstep e.sys sop).1 ∧ ownsOf (nemit (nstep cfg e op).2) = emitted (sstep e.sys sop).2 := by
  cases op with
  | sendRsp t o s => exact (respond_sys e t o s hs).imp id fun h => ⟨.protect, h⟩
  | crash f => exact Or.inr ⟨.crash f, rfl, rfl⟩
  | sendReq t o d =>
    refine Or.inr ⟨.protect, ?_⟩
    simp only [nstep]
    rw [emitted_protect]
    cases (ownPiv e.sys).2 <;> exact ⟨rfl, rfl⟩
  | reqIn t ev obs =>
    rcases reqIn_shape cfg e t ev obs with ⟨_, _, _, h⟩ | ⟨_, h⟩ | ⟨_, _, _, h⟩ <;> rw [h]
    · exact Or.inl ⟨rfl, rfl⟩
    · refine Or.inr ⟨.protect, rfl, ?_⟩
      rw [emitted_protect]
      cases (ownPiv e.sys).2 <;> rfl
    · exact Or.inl ⟨rfl, rfl⟩

theorem sent_none_ofReq (hs : PeerNonces e.assocs) (op : NOp) (x : Nonce)
    (h : (nstep cfg e op).2 = .sent none x) : ∃ q, x = .ofReq q := by
  cases op with
  | sendRsp t o s =>
    have h' : (respond e t o s).2 = .sent none x := h
    rcases respond_cases e t o s with e1 | ⟨_, e1⟩ | ⟨_, _, _, _, _, e1⟩ | ⟨a, ha, hc, _, _, e1⟩
    · rw [e1] at h'; cases h'
    · rw [e1] at h'; cases h'
    · rw [e1] at h'; cases h'
    · rw [e1] at h'
      obtain ⟨q, hq⟩ := hs t a ha hc
      injection h' with _ h2
      exact ⟨q, h2 ▸ hq⟩
  | crash f => cases h
  | sendReq t o d =>
    simp only [nstep] at h
    split at h <;> cases h
  | reqIn t ev obs =>
    -- what a request gets back is a verdict or the Echo challenge
    rcases reqIn_shape cfg e t ev obs with ⟨_, _, _, h'⟩ | ⟨_, h'⟩ | ⟨_, _, _, h'⟩ <;> rw [h'] at h <;> cases h

end Coap.Replay
