import CoapVerif.Lemmas.Async
/-
Lemmas for C10: the session reference balance of the deferred-response machine (Model/Async.lean) as an inductive
invariant over `touch / register / checkAsync / reap / free / setNth`, for EVERY pair of decision procedures `Dec`:

  * `session->ref` = number of `coap_async_t` of the list whose `session` is this session (the machine has no other
    holder kind: observers, queued messages and application references are C11's / C12's state — C12's `ref_eq_holders`
    is the same statement over all holder kinds, `HKind.async / asyncD` being this one);
  * every entry names a session of the endpoint's session table (never a freed one);
  * the idle reaper never frees a session an entry of the list names.
-/
namespace Coap.Async.L
open Coap Coap.Server Coap.Async

/-- number of entries of the list holding a reference on the session of peer `p` -/
def cnt (l : List Entry) (p : Nat) : Nat := (l.map (·.sess)).count p

structure Bal (st : St) : Prop where
  /-- session->ref = number of holders -/
  refs : ∀ s ∈ st.sess, s.ref = cnt st.async s.peer
  /-- async->session is a session of the table -/
  live : ∀ p ∈ st.async.map (·.sess), p ∈ st.sess.map (·.peer)
  /-- one session per peer address -/
  nodup : (st.sess.map (·.peer)).Nodup

theorem cnt_cons (a : Entry) (r : List Entry) (p : Nat) :
    cnt (a :: r) p = cnt r p + (if p = a.sess then 1 else 0) := by
  by_cases h : p = a.sess
  · simp [cnt, h]
  · simp [cnt, h, Ne.symm h]

theorem cnt_pos_of_mem {l : List Entry} {e : Entry} (h : e ∈ l) : 0 < cnt l e.sess := by
  unfold cnt
  exact List.count_pos_iff.mpr (List.mem_map_of_mem h)

theorem cnt_zero_of_not_mem {l : List Entry} {p : Nat} (h : p ∉ l.map (·.sess)) : cnt l p = 0 := by
  unfold cnt
  exact List.count_eq_zero.mpr h

/-! ### the session table -/
theorem updSess_peers {ss : List Sess} {p : Nat} {f : Sess → Sess} (hf : ∀ s, (f s).peer = s.peer) :
    (updSess ss p f).map (·.peer) = ss.map (·.peer) := by
  unfold updSess
  rw [List.map_map]
  apply List.map_congr_left
  intro s _
  simp only [Function.comp]
  split
  · exact hf s
  · rfl

theorem updSess_forall {ss : List Sess} {p : Nat} {f : Sess → Sess} {P : Sess → Prop}
    (h1 : ∀ s ∈ ss, s.peer ≠ p → P s) (h2 : ∀ s ∈ ss, s.peer = p → P (f s)) : ∀ s ∈ updSess ss p f, P s := by
  intro s hs
  unfold updSess at hs
  rcases List.mem_map.mp hs with ⟨x, hx, rfl⟩
  by_cases hp : x.peer = p
  · simp only [hp, beq_self_eq_true, if_true]; exact h2 x hx hp
  · have : (x.peer == p) = false := by simpa using hp
    simp only [this, Bool.false_eq_true, if_false]; exact h1 x hx hp

theorem release_peers (ss : List Sess) (p : Nat) : (release ss p).map (·.peer) = ss.map (·.peer) :=
  updSess_peers fun _ => rfl

theorem sessOf_none {ss : List Sess} {p : Nat} (h : sessOf ss p = none) : p ∉ ss.map (·.peer) := by
  intro hm
  rcases List.mem_map.mp hm with ⟨s, hs, rfl⟩
  have := List.find?_eq_none.mp h s hs
  simp at this

theorem sessOf_some {ss : List Sess} {p : Nat} {s : Sess} (h : sessOf ss p = some s) : s ∈ ss ∧ s.peer = p := by
  refine ⟨List.mem_of_find?_eq_some h, ?_⟩
  have := List.find?_some h
  simpa using this

/-- a step that keeps the peers of the session table keeps `nodup`, and `live` if the entries still name sessions of the
table: what is left to show are the counts -/
theorem Bal.step {st st' : St} (h : Bal st) (hs : st'.sess.map (·.peer) = st.sess.map (·.peer))
    (hl : ∀ p ∈ st'.async.map (·.sess), p ∈ st.sess.map (·.peer)) (hr : ∀ s ∈ st'.sess, s.ref = cnt st'.async s.peer) :
    Bal st' :=
  ⟨hr, fun p hp => hs ▸ hl p hp, hs ▸ h.nodup⟩

/-! ### coap_endpoint_get_session -/
theorem touch_bal (c : Async.Cfg) (st : St) (p : Nat) (h : Bal st) :
    Bal { st with sess := touch c st.sess p st.now } := by
  unfold touch
  split
  · exact h.step (updSess_peers fun _ => rfl) h.live
      (updSess_forall (fun s hs _ => h.refs s hs) fun s hs _ => h.refs s hs)
  · rename_i hn
    have hn' : sessOf st.sess p = none := by simpa using hn
    have hnp := sessOf_none hn'
    refine ⟨?_, ?_, ?_⟩
    · intro s hs
      rcases List.mem_cons.mp hs with rfl | hs
      · dsimp only
        exact (cnt_zero_of_not_mem (fun hm => hnp (h.live p hm))).symm
      · exact h.refs s hs
    · intro q hq
      dsimp only
      rw [List.map_cons]
      exact List.mem_cons_of_mem _ (h.live q hq)
    · dsimp only
      rw [List.map_cons, List.nodup_cons]
      exact ⟨hnp, h.nodup⟩

/-! ### coap_register_async: coap_session_reference_lkd -/
theorem register_bal (st : St) (p : Nat) (call : Call) (type : Nat) (tok : Bytes) (d : Nat) (h : Bal st) :
    Bal (register st p call type tok d).1 := by
  unfold register
  split
  · exact h
  · split
    · exact h
    · split
      · exact h
      · rename_i s hs
        have hs' := sessOf_some hs
        refine h.step (updSess_peers fun _ => rfl) ?_ ?_
        · intro q hq
          rcases List.mem_cons.mp hq with rfl | hq
          · exact List.mem_map.mpr ⟨s, hs'.1, hs'.2⟩
          · exact h.live q hq
        · dsimp only
          apply updSess_forall
          · intro x hx hp
            rw [cnt_cons, if_neg hp]
            exact h.refs x hx
          · intro x hx hp
            rw [cnt_cons, if_pos hp]
            dsimp only
            rw [h.refs x hx]

/-! ### coap_check_async: coap_free_async_lkd of what fired -/
theorem check_peers (dec : Dec) (v : Verdict) (now : Nat) : ∀ (l : List Entry) (ss : List Sess) (nd : Nat),
    (checkAsync dec v now l ss nd).2.2.1.map (·.peer) = ss.map (·.peer) := by
  intro l
  induction l with
  | nil => intro ss nd; simp [checkAsync]
  | cons a r ih =>
    intro ss nd
    by_cases h : a.delay ≠ 0 ∧ a.delay ≤ now
    · rw [check_pos h]
      dsimp only
      rw [ih, release_peers]
      split
      · rfl
      · exact updSess_peers fun _ => rfl
    · rw [check_neg h]
      exact ih _ _

/-- the references while the loop runs: `base` = the entries already decided to stay -/
theorem check_refs (dec : Dec) (v : Verdict) (now : Nat) : ∀ (l : List Entry) (ss : List Sess) (nd : Nat) (base : Nat → Nat),
    (∀ s ∈ ss, s.ref = base s.peer + cnt l s.peer) →
    ∀ s ∈ (checkAsync dec v now l ss nd).2.2.1, s.ref = base s.peer + cnt (checkAsync dec v now l ss nd).2.1 s.peer := by
  intro l
  induction l with
  | nil => intro ss nd base h; simpa [checkAsync] using h
  | cons a r ih =>
    intro ss nd base hss
    by_cases h : a.delay ≠ 0 ∧ a.delay ≤ now
    · rw [check_pos h]
      dsimp only
      apply ih
      have h1 : ∀ s ∈ (if (dec.again a.req v).replies.isEmpty then ss else
          updSess ss a.sess (fun s => { s with last := now })), s.ref = base s.peer + cnt (a :: r) s.peer := by
        split
        · exact hss
        · exact updSess_forall (fun s hs _ => hss s hs) (fun s hs _ => hss s hs)
      unfold release
      apply updSess_forall
      · intro x hx hp
        have := h1 x hx
        rw [cnt_cons, if_neg hp] at this
        exact this
      · intro x hx hp
        have := h1 x hx
        rw [cnt_cons, if_pos hp] at this
        dsimp only
        omega
    · rw [check_neg h]
      dsimp only
      have := ih ss (if nd = 0 ∨ nd > (a.delay + W - now) % W then (a.delay + W - now) % W else nd)
        (fun p => base p + (if p = a.sess then 1 else 0)) (by
          intro s hs
          have := hss s hs
          rw [cnt_cons] at this
          omega)
      intro s hs
      have := this s hs
      rw [cnt_cons]
      omega

/-! ### coap_io_prepare_io: coap_check_async, then the idle sessions -/
theorem prepare_bal (c : Async.Cfg) (dec : Dec) (v : Verdict) (st : St) (h : Bal st) :
    Bal (prepare c dec v st).1 ∧
    (∀ p ∈ (prepare c dec v st).2.reaped, cnt (prepare c dec v st).1.async p = 0) := by
  have hr := check_refs dec v st.now st.async st.sess 0 (fun _ => 0) (by
    intro s hs; rw [h.refs s hs]; omega)
  have hpe := check_peers dec v st.now st.async st.sess 0
  have hk := (check_lists dec v st.now st.async st.sess 0).2
  unfold prepare reap
  generalize checkAsync dec v st.now st.async st.sess 0 = x at hr hpe hk
  obtain ⟨fired, kept, ss, nd⟩ := x
  dsimp only at hr hpe hk ⊢
  refine ⟨⟨?_, ?_, ?_⟩, ?_⟩
  · intro s hs
    show s.ref = cnt kept s.peer
    have := hr s (List.mem_filter.mp hs).1
    omega
  · -- a session that an entry left in the list names has a reference, so the reaper passes it by
    intro q hq
    obtain ⟨e, he, rfl⟩ := List.mem_map.mp hq
    have hq0 : e.sess ∈ st.sess.map (·.peer) :=
      h.live _ (List.mem_map_of_mem (List.mem_filter.mp (hk ▸ he)).1)
    rw [← hpe] at hq0
    obtain ⟨s, hs, hse⟩ := List.mem_map.mp hq0
    refine List.mem_map.mpr ⟨s, List.mem_filter.mpr ⟨hs, ?_⟩, hse⟩
    have h1 := hr s hs
    have h2 : 0 < cnt kept e.sess := cnt_pos_of_mem he
    rw [← hse] at h2
    have : s.ref ≠ 0 := by omega
    simp [idle, this]
  · exact (List.filter_sublist.map _).nodup (hpe ▸ h.nodup)
  · intro p hpm
    obtain ⟨s, hs, rfl⟩ := List.mem_map.mp hpm
    have hs' := List.mem_filter.mp hs
    have h1 := hr s hs'.1
    have h0 : s.ref = 0 := by
      have := hs'.2
      simp only [idle, Bool.and_eq_true, beq_iff_eq] at this
      exact this.1
    show cnt kept s.peer = 0
    omega

/-! ### coap_async_trigger / coap_async_set_delay -/
theorem setNth_bal (st : St) (k : Nat) (f : Entry → Entry) (hf : ∀ e, (f e).sess = e.sess) (h : Bal st) :
    Bal { st with async := setNth st.async k f } := by
  refine ⟨?_, ?_, h.nodup⟩
  · intro s hs
    dsimp only [cnt]
    rw [setNth_map (·.sess) f hf]
    exact h.refs s hs
  · dsimp only
    rw [setNth_map (·.sess) f hf]
    exact h.live

/-! ### coap_free_async: coap_session_release_lkd -/
theorem cnt_eraseIdx : ∀ (l : List Entry) (k : Nat) (e : Entry) (q : Nat), l[k]? = some e →
    cnt l q = cnt (l.eraseIdx k) q + (if q = e.sess then 1 else 0) := by
  intro l
  induction l with
  | nil => intro k e q h; simp at h
  | cons a r ih =>
    intro k e q h
    cases k with
    | zero =>
      simp only [List.getElem?_cons_zero, Option.some.injEq] at h
      subst h
      rw [List.eraseIdx_cons_zero, cnt_cons]
    | succ k =>
      simp only [List.getElem?_cons_succ] at h
      rw [List.eraseIdx_cons_succ, cnt_cons, cnt_cons, ih k e q h]
      omega

theorem free_bal (st : St) (k : Nat) (e : Entry) (hk : st.async[k]? = some e) (h : Bal st) :
    Bal { st with async := st.async.eraseIdx k, sess := release st.sess e.sess } := by
  refine h.step (release_peers ..) (fun q hq => h.live q ((List.eraseIdx_sublist st.async k).map _ |>.subset hq)) ?_
  dsimp only
  unfold release
  apply updSess_forall
  · intro x hx hp
    have := cnt_eraseIdx st.async k e x.peer hk
    rw [if_neg hp] at this
    rw [h.refs x hx]; omega
  · intro x hx hp
    have := cnt_eraseIdx st.async k e x.peer hk
    rw [if_pos hp] at this
    dsimp only
    rw [h.refs x hx]; omega

/-! ### every event -/
theorem rxOwn_bal (c : Async.Cfg) (dec : Dec) (st : St) (p : Nat) (defer : Option Nat) (rq : Request) (h : Bal st) :
    Bal (rxOwn c dec st p defer rq).1.1 := by
  unfold rxOwn
  dsimp only
  split
  · exact register_bal _ _ _ _ _ _ (touch_bal c st p h)
  · exact touch_bal c st p h

theorem step_bal (c : Async.Cfg) (dec : Dec) (st : St) (ev : Async.Ev) (h : Bal st) :
    Bal (step c dec st ev).1 ∧ (∀ p ∈ (step c dec st ev).2.reaped, cnt (step c dec st ev).1.async p = 0) := by
  cases ev with
  | rx p defer rq =>
    simp only [step]
    exact prepare_bal _ _ _ _ (rxOwn_bal c dec st p defer rq h)
  | io dt v =>
    simp only [step]
    exact prepare_bal _ _ _ _ ⟨h.refs, h.live, h.nodup⟩
  | trigger k =>
    simp only [step]
    exact ⟨setNth_bal st k _ (fun _ => rfl) h, by intro p hp; simp at hp⟩
  | setDelay k d =>
    simp only [step]
    exact ⟨setNth_bal st k _ (fun _ => rfl) h, by intro p hp; simp at hp⟩
  | free k =>
    simp only [step]
    split
    · rename_i e hk
      exact ⟨free_bal st k e hk h, by intro p hp; simp at hp⟩
    · exact ⟨h, by intro p hp; simp at hp⟩

theorem init_bal (c : Async.Cfg) : Bal (St.init c) :=
  ⟨by intro s hs; simp [St.init] at hs, by intro p hp; simp [St.init] at hp, by simp [St.init]⟩

theorem final_bal (c : Async.Cfg) (dec : Dec) : ∀ (evs : List Async.Ev) (st : St), Bal st → Bal (final c dec st evs)
  | [], _, h => h
  | ev :: r, st, h => final_bal c dec r _ (step_bal c dec st ev h).1

theorem reach_bal (c : Async.Cfg) (dec : Dec) (evs : List Async.Ev) : Bal (final c dec (St.init c) evs) :=
  final_bal c dec evs _ (init_bal c)

end Coap.Async.L
