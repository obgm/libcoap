import CoapVerif.Lemmas.TlsGate
/- C19 helper lemmas: what M does ABOVE the TLS layer, as one relation.  `Tame` (Lemmas/TlsGate.lean) says what a step inside
the TLS layer can do; `Mv` continues it upwards: every function of M from coap_send_pdu to a whole event is a sequence of the
moves listed here (`mv_sendPdu` … `mv_stepCtx`: M is walked once), and every ledger of C19 is closed under each move (`inv_mv` here,
`core_mv` / `both_mv`, `ord_mv`, `nak_mv` in the ledgers' files). -/
namespace Coap.TlsGate
open Ctx

/-- One move of M above the TLS layer.  Besides the context before and after, a move relates the GHOST state of the walk, which
stands for what the C call stack knows and `Ctx` does not hold:
  `g`  the oracle is known to have reported success — M has tested `state == ESTABLISHED` or GnuTLS' `established` flag on the way
       here (`openSt`, `openEst`); moves that need the handshake exist at `g = true` only;
  `f`  the PDU inside coap_send_internal: a serial has been handed out for it (`mint`), no queue holds it yet;
  `p`  the queue nodes a caller has taken off a queue and not yet put back or deleted (coap_session_connected between
       `session->delayqueue = q->next` and coap_wait_ack, coap_retransmit after coap_pop_next, coap_remove_from_queue): a stack,
       the local variables of the nested calls.  M handles queue nodes only outside coap_send_internal: the moves that push or
       pop `p` exist at `f = none` only. -/
inductive Mv : Bool → Option QMsg → List QMsg → Ctx → Bool → Option QMsg → List QMsg → Ctx → Prop
  | refl (g f p c) : Mv g f p c g f p c
  | trans : Mv g f p c g1 f1 p1 c1 → Mv g1 f1 p1 c1 g2 f2 p2 c2 → Mv g f p c g2 f2 p2 c2
  | tame : Tame c c' → Mv g f p c g f p c'
  | disc (c : Ctx) (r : Nack) : Mv g f p c g f p (c.disconnected r)
  | free (c : Ctx) : Mv g none p c g none p c.sessionFree
  | openSt : c.s.state = .established → Mv g f p c true f p c
  | openEst : c.s.est = true → Mv g f p c true f p c
  | relax : Mv true f p c g f p c
  | mint (m : QMsg) : m.sn = c.s.next → Mv g none p c g (some m) p (c.upd fun s => { s with next := s.next + 1 })
  /-- a serial is used up for a message that no queue ever holds: the CSM -/
  | burn : Mv g f p c g f p (c.upd fun s => { s with next := s.next + 1 })
  /-- the CSM is written at once.  coap_tls_write calls coap_session_send_csm when the handshake completes inside it, so on a TLS
  session this happens INSIDE another PDU's coap_session_send_pdu (`f` may be `some m`) -/
  | csm (v : View) :
      Mv true f p c true f p ((c.upd fun s => { s with next := s.next + 1 }).emit (.tx true v (some c.s.next) 0))
  | enq (m : QMsg) : Mv g (some m) p c g none p (c.upd fun s => { s with delayq := s.delayq ++ [m] })
  /-- the PDU is handed to the transport: through the TLS layer, or (`tls = false`) by the plain datagram write of a UDP session, where
  no ledger of C19 lives -/
  | txF (m : QMsg) (ack tls : Bool) (v : View) : (c.s.proto ≠ .udp → tls = true) →
      Mv true (some m) p c true (some m) p (c.emit (.tx tls v (m.snOf ack) m.cnt))
  /-- coap_wait_ack: only ever reached after the PDU was written on an established session -/
  | keepF (m : QMsg) : Mv true (some m) p c true none p (c.upd fun s => { s with inflight := s.inflight ++ [m] })
  | dropF (m : QMsg) : Mv g (some m) p c g none p c
  | popTx (q : QMsg) (rest : List QMsg) (tls : Bool) (v : View) (ca : Nat) : c.s.delayq = q :: rest →
      (c.s.proto ≠ .udp → tls = true) →
      Mv true none p c true none (q :: p)
        ((c.upd fun s => { s with conActive := ca, delayq := rest }).emit (.tx tls v (some q.sn) q.cnt))
  | detach (q : QMsg) : q ∈ c.s.inflight →
      Mv g none p c g none (q :: p) (c.upd fun s => { s with inflight := s.inflight.filter (·.sn ≠ q.sn) })
  | keepN (q : QMsg) : Mv true none (q :: p) c true none p (c.upd fun s => { s with inflight := s.inflight ++ [q] })
  | dropN (q : QMsg) : Mv g none (q :: p) c g none p c
  | report (r : Nack) (q : QMsg) : Mv g none (q :: p) c g none p (c.emit (nackOf r q))
  | anon (r : Nack) : Mv g f p c g f p (c.emit (.nack r none none))
  /-- reliable transport: an incomplete write puts the node back at the head of the queue -/
  | requeue (q : QMsg) : c.s.proto = .tls → Mv true f p c true f p (c.upd fun s => { s with delayq := q :: s.delayq })
  /-- coap_retransmit: the node stays in the send queue with its count raised … -/
  | bump (q q' : QMsg) (ca : Nat) : q ∈ c.s.inflight → q'.sn = q.sn →
      Mv g f p c g f p (c.upd fun s => { s with inflight := s.inflight.map fun x => if x.sn = q.sn then q' else x, conActive := ca })
  /-- … and is parked in the delay queue (coap_session_delay_pdu for a send-queue node) or written from where it is -/
  | park (m : QMsg) : m ∈ c.s.inflight → m.cnt ≠ 0 →
      Mv g f p c g f p (c.upd fun s => { s with inflight := s.inflight.filter (·.sn ≠ m.sn), delayq := s.delayq ++ [m] })
  | txN (m : QMsg) (ack tls : Bool) (v : View) : m ∈ c.s.inflight → m.cnt ≠ 0 → (c.s.proto ≠ .udp → tls = true) →
      Mv true f p c true f p (c.emit (.tx tls v (m.snOf ack) m.cnt))
  /-- coap_cancel_all_messages: nodes leave the send queue without a report -/
  | cancel (F : QMsg → Bool) (ca : Nat) :
      Mv g f p c g f p (c.upd fun s => { s with inflight := s.inflight.filter F, conActive := ca })
  | lgSub (l : List QMsg) : (∀ x ∈ l, x ∈ c.s.lgCrcv) → Mv g f p c g f p (c.upd fun s => { s with lgCrcv := l })
  /-- coap_send_lkd keeps the lg_crcv entry when coap_send_internal did not fail: the message is in the delay queue, or was written -/
  | lgPush (m : QMsg) : c.s.blockMode = true → g = true ∨ m ∈ c.s.delayq →
      Mv g f p c g f p (c.upd fun s => { s with lgCrcv := m :: s.lgCrcv })
  | req (tok payload : String) : Mv true f p c true f p (c.emit (.req tok payload))
  | rsp (tok : String) (code : Nat) : Mv true f p c true f p (c.emit (.rsp tok code))
  | est : Mv true f p c true f p (c.upd fun s => { s with state := .established })

/-- every function of M keeps the block mode and only appends to the trace -/
def Grows (c c' : Ctx) : Prop := c'.s.blockMode = c.s.blockMode ∧ ∃ l, c'.out = c.out ++ l

theorem Tame.grows {c c' : Ctx} (t : Tame c c') : Grows c c' :=
  t.out.elim fun l h => ⟨t.bm, l, h.1⟩

theorem Grows.trans {a b c : Ctx} (h1 : Grows a b) (h2 : Grows b c) : Grows a c := by
  obtain ⟨l1, e1⟩ := h1.2
  obtain ⟨l2, e2⟩ := h2.2
  exact ⟨h2.1.trans h1.1, l1 ++ l2, by rw [e2, e1, List.append_assoc]⟩

theorem sessionFree_grows (c : Ctx) : Grows c c.sessionFree :=
  Grows.trans (b := (c.upd fun s => { s with lgCrcv := [] }).sessionClose) (Grows.trans ⟨rfl, [], (List.append_nil _).symm⟩
    (tame_sessionClose _).grows) ⟨rfl, _, rfl⟩

theorem disconnected_grows (r : Nack) (c : Ctx) : Grows c (c.disconnected r) := by
  rcases disconnected_cases r c with ⟨_, e⟩ | ⟨_, tm⟩
  · rw [e]; exact ⟨rfl, _, rfl⟩
  · exact Grows.trans (b := discCore c r) ⟨rfl, c.discOuts r ++ (c.s.inflight.filter fun q : QMsg => q.con).map (nackOf r),
      (List.append_assoc ..)⟩ tm.grows

namespace Mv
variable {g g' : Bool} {f f' : Option QMsg} {p p' : List QMsg} {c c' : Ctx}

theorem setRet (r : Int) : Mv g f p c g f p (c.setRet r) := .tame tame_fields

theorem setFlag (b : Bool) : Mv g f p c g f p (c.setFlag b) := .tame tame_fields

theorem upd (f' : Sess → Sess) (ht : (f' c.s).tracked = c.s.tracked := by rfl)
    (hE : (f' c.s).state = .established → c.s.state = .established := by exact id)
    (hN : (f' c.s).state = .none → c.s.state = .none := by exact id) (he : (f' c.s).est = true → c.s.est = true := by exact id) :
    Mv g f p c g f p (c.upd f') := .tame (tame_upd f' ht hE hN he)

theorem emit (o : Out) (ho : o.silent = true := by rfl) : Mv g f p c g f p (c.emit o) := .tame (tame_emit o ho)

theorem dropFound (o : Option QMsg) : Mv g none (o.toList ++ p) c g none p c := by
  cases o with
  | none => exact .refl ..
  | some q => exact .dropN q

theorem grows (mv : Mv g f p c g' f' p' c') : Grows c c' := by
  induction mv with
  | trans _ _ ih1 ih2 => exact ih1.trans ih2
  | tame tm => exact tm.grows
  | disc c r => exact disconnected_grows r c
  | free c => exact sessionFree_grows c
  | csm v => exact ⟨rfl, [_], rfl⟩
  | txF m ack tls v _ => exact ⟨rfl, [_], rfl⟩
  | popTx q rest tls v ca _ _ => exact ⟨rfl, [_], rfl⟩
  | report r q => exact ⟨rfl, [_], rfl⟩
  | anon r => exact ⟨rfl, [_], rfl⟩
  | txN m ack tls v _ _ _ => exact ⟨rfl, [_], rfl⟩
  | req tok payload => exact ⟨rfl, [_], rfl⟩
  | rsp tok code => exact ⟨rfl, [_], rfl⟩
  | _ => exact ⟨rfl, [], (List.append_nil _).symm⟩

theorem seen {m0 : Mon} (mv : Mv g f p c g' f' p' c') (hs : (m0.run c.out).seen = true) : (m0.run c'.out).seen = true := by
  obtain ⟨l, e⟩ := mv.grows.2
  rw [e, Mon.run_append]
  exact Mon.seen_mono _ l hs

end Mv

/-! ## M as moves: the tails that act on `session->dtls_event`, the DTLS timer, the creating call -/

section
variable {g : Bool} {f : Option QMsg} {p : List QMsg} {c : Ctx}

theorem mv_disc_if (b : Prop) [Decidable b] (r : Nack) : Mv g f p c g f p (if b then c.disconnected r else c) :=
  ite_ind (fun _ => .disc c r) fun _ => .refl ..

theorem mv_sendTail : Mv g f p c g f p c.sendTail := by
  unfold Ctx.sendTail
  split
  · rename_i e _
    simp only
    exact (Mv.emit (.ev e)).trans (ite_ind (fun _ => (Mv.disc _ .tls).trans (Mv.setRet _)) fun _ => .refl ..)
  · exact .refl ..

theorem mv_tlsTail : Mv g f p c g f p c.tlsTail := by
  unfold Ctx.tlsTail
  split
  · rename_i e _
    simp only
    refine (Mv.tame (tame_ite_emit (e ≠ .closed) (.ev e))).trans ?_
    exact ite_ind (fun _ => (Mv.disc _ .tls).trans (Mv.setRet _)) fun _ => .refl ..
  · exact .refl ..

theorem mv_receiveTail : Mv g f p c g f p c.receiveTail := by
  unfold Ctx.receiveTail
  split
  · rename_i e _
    simp only
    exact (Mv.tame (tame_ite_emit (e ≠ .closed) (.ev e))).trans (mv_disc_if _ .tls)
  · exact .refl ..

theorem mv_readEnd : Mv g f p c g f p c.readEnd := by
  unfold Ctx.readEnd
  exact mv_tlsTail.trans (mv_disc_if _ .undeliv)

theorem mv_dtlsSend (m : QMsg) (ack : Bool) :
    Mv g f p (c.emit (.tx true (m.view ack) (m.snOf ack) m.cnt)) g f p (c.dtlsSend m ack) :=
  (Mv.tame (tame_dtlsSendCore m ack c)).trans mv_sendTail

theorem mv_tlsRecordSend (m : QMsg) (ack : Bool) :
    Mv g f p (c.emit (.tx true m.strmView (m.snOf ack) m.cnt)) g f p (c.tlsRecordSend m ack) := by
  unfold Ctx.tlsRecordSend
  simp only
  refine .trans (.tame ?_) mv_tlsTail
  refine (tame_upd (fun s => { s with dtlsEvent := none })).trans ((tame_popSnd _).trans ?_)
  generalize Ctx.popSnd _ = y
  split
  · exact tame_fields
  · exact tame_fields
  · exact tame_fields
  · exact tame_fields
  · exact tame_fields
  · exact (tame_emit (.unmodelled "partial-write")).trans tame_fields

theorem mv_tlsTimeout : Mv g f p c g f p c.tlsTimeout := by
  unfold Ctx.tlsTimeout
  refine ite_ind (fun _ => .refl ..) fun _ => ?_
  simp only
  refine (Mv.upd (fun s => { s with tmoCount := s.tmoCount + 1 })).trans ?_
  exact ite_ind (fun _ => .disc _ _) fun _ => (Mv.tame (tame_doHandshake _)).trans (mv_disc_if _ .tls)

theorem mv_dtlsEstablishClient : Mv g f p c g f p c.dtlsEstablishClient := by
  unfold Ctx.dtlsEstablishClient
  simp only
  have t1 := (tame_upd (c := c) (fun s => { s with state := .handshake }) (hE := fun h => by cases h) (hN := fun h => by cases h)).trans
    (tame_popEnv _)
  generalize (c.upd fun s => { s with state := .handshake }).popEnv = c1 at t1
  have t2 : Tame c1 (if c1.flag = true then
      (if c1.doHandshake.ret = -1 then c1.doHandshake.freeEnv true else c1.doHandshake.upd fun s => { s with tls := true }) else c1) :=
    ite_ind (fun _ => (tame_doHandshake c1).trans (ite_ind (fun _ => tame_freeEnv _ _) fun _ => tame_fields))
      fun _ => Tame.refl c1
  exact (Mv.tame (t1.trans t2)).trans (mv_disc_if _ .tlslayer)

end

/-! ## M as moves: the send path -/

section
variable {g : Bool} {f : Option QMsg} {p : List QMsg} {c : Ctx}

theorem mv_sendCsm : Mv true f p c true f p c.sendCsm := by
  unfold Ctx.sendCsm
  simp only
  refine (Mv.upd (fun s => { s with state := .csm }) (hE := fun e => by cases e) (hN := fun e => by cases e)).trans ?_
  generalize (c.upd fun s => { s with state := .csm }) = c0
  refine .trans (ite_ind (P := fun x => Mv true f p c0 true f p x) (fun _ => ?_) fun _ => ?_) (mv_disc_if _ _)
  · exact (Mv.csm (QMsg.strmView { sn := c0.s.next, con := true, code := 225, mid := 0, tok := "-" })).trans
      (mv_tlsRecordSend _ false)
  · exact Mv.burn.trans ((Mv.emit _).trans (Mv.setRet _))

/-- coap_session_send_pdu after the PDU has been logged (the harness logs it at entry): the layer table of coap_layers.c -/
theorem mv_sessionSendPdu (m : QMsg) (ack : Bool) :
    Mv true f p (c.emit (.tx (c.s.proto != .udp) (if c.s.proto = .tls then m.strmView else m.view ack) (m.snOf ack) m.cnt)) true f p
      (c.sessionSendPdu m ack) := by
  unfold Ctx.sessionSendPdu
  cases hpr : c.s.proto with
  | udp =>
    rw [if_neg (by decide)]
    exact Mv.setRet _
  | dtls =>
    rw [if_neg (by decide)]
    exact mv_dtlsSend m ack
  | tls =>
    rw [if_pos rfl]
    dsimp only
    unfold Ctx.tlsWrite
    refine ite_ind (fun _ => mv_tlsRecordSend m ack) fun _ => ?_
    simp only
    refine (Mv.tame ((tame_upd (fun s => { s with dtlsEvent := none })).trans (tame_doHandshake _))).trans ?_
    refine .trans (ite_ind (P := fun x => Mv true f p _ true f p x) (fun _ => ?_) fun _ => Mv.setRet _) mv_tlsTail
    exact (Mv.emit _).trans (mv_sendCsm.trans (Mv.setRet _))

theorem mv_conActive (b : Prop) [Decidable b] :
    Mv g f p c g f p (if b then c.upd fun s => { s with conActive := s.conActive + 1 } else c) :=
  ite_ind (fun _ => .upd (fun s => { s with conActive := s.conActive + 1 })) fun _ => .refl ..

/-- coap_send_pdu for the PDU of coap_send_internal: refused, queued (`DELAYED`), or written on an established session — then the gate
is left open (`g' = true`) for the caller -/
theorem mv_sendPdu (m : QMsg) (ack : Bool) :
    ((c.sendPdu m ack false).ret = -1 ∧ Mv g (some m) p c g (some m) p (c.sendPdu m ack false)) ∨
    (((c.sendPdu m ack false).ret = DELAYED ∧ m ∈ (c.sendPdu m ack false).s.delayq) ∧
      Mv g (some m) p c g none p (c.sendPdu m ack false)) ∨
    Mv g (some m) p c true (some m) p (c.sendPdu m ack false) := by
  unfold Ctx.sendPdu
  split
  · exact Or.inl ⟨rfl, Mv.setRet _⟩
  · split
    · unfold Ctx.delayPdu
      simp only [Bool.false_eq_true, if_false]
      split
      · exact Or.inl ⟨rfl, Mv.setRet _⟩
      · exact Or.inr (Or.inl ⟨⟨rfl, List.mem_append_right _ (List.mem_singleton_self m)⟩, (Mv.enq m).trans (Mv.setRet _)⟩)
    · rename_i hst
      have hs : c.s.state = .established := by
        simp only [Bool.or_eq_true, decide_eq_true_eq, not_or] at hst
        simpa using hst.1
      exact Or.inr (Or.inr ((Mv.openSt hs).trans (((Mv.txF m ack _ _ bne_iff_ne.mpr).trans (mv_sessionSendPdu m ack)).trans (mv_conActive _))))

theorem mv_sendPdu_node (m : QMsg) (ack : Bool) (hm : m ∈ c.s.inflight) (hc : m.cnt ≠ 0) :
    Mv g f p c g f p (c.sendPdu m ack true) := by
  unfold Ctx.sendPdu
  refine ite_ind (fun _ => Mv.setRet _) fun _ => ite_ind (fun _ => ?_) fun hst => ?_
  · unfold Ctx.delayPdu
    rw [if_pos rfl]
    exact (Mv.park m hm hc).trans (Mv.setRet _)
  · have hs : c.s.state = .established := by
      simp only [Bool.or_eq_true, decide_eq_true_eq, not_or] at hst
      simpa using hst.1
    exact (Mv.openSt hs).trans ((((Mv.txN m ack _ _ hm hc bne_iff_ne.mpr).trans (mv_sessionSendPdu m ack)).trans (mv_conActive _)).trans .relax)

/-- coap_send_pdu where nothing is kept for retransmission (a reliable transport): queued, or the PDU is deleted -/
theorem mv_sendPdu_drop (m : QMsg) (ack : Bool) : Mv true (some m) p c true none p (c.sendPdu m ack false) := by
  rcases mv_sendPdu (g := true) (p := p) (c := c) m ack with ⟨_, h⟩ | ⟨_, h⟩ | h
  · exact h.trans (.dropF m)
  · exact h
  · exact h.trans (.dropF m)

theorem mv_sendInternal_cases (m : QMsg) (ack : Bool) :
    (((c.sendInternal m ack).ret = DELAYED ∧ m ∈ (c.sendInternal m ack).s.delayq) ∧ Mv g (some m) p c g none p (c.sendInternal m ack)) ∨
    ((c.sendInternal m ack).ret = -1 ∧ Mv g (some m) p c g none p (c.sendInternal m ack)) ∨
    Mv g (some m) p c true none p (c.sendInternal m ack) := by
  unfold Ctx.sendInternal
  simp only
  have h1 := mv_sendPdu (g := g) (p := p) (c := c) m ack
  generalize c.sendPdu m ack false = c1 at h1
  rcases h1 with ⟨hr, h1⟩ | ⟨hr, h1⟩ | h1
  · rw [hr, if_neg (by decide), if_pos (by decide)]
    exact Or.inr (Or.inl ⟨hr, h1.trans ((Mv.dropF m).trans (Mv.emit _))⟩)
  · rw [if_pos hr.1]
    exact Or.inl ⟨hr, h1⟩
  · refine Or.inr (Or.inr (h1.trans ?_))
    refine ite_ind (fun _ => .dropF m) fun _ => ite_ind (fun _ => (Mv.dropF m).trans (Mv.emit _)) fun _ => ?_
    exact ite_ind (fun _ => .dropF m) fun _ => .keepF m

theorem mv_sendInternal (m : QMsg) (ack : Bool) : Mv g (some m) p c g none p (c.sendInternal m ack) := by
  rcases mv_sendInternal_cases (g := g) (p := p) (c := c) m ack with ⟨_, h⟩ | ⟨_, h⟩ | h
  · exact h
  · exact h
  · exact h.trans .relax

theorem eraseTok_subset (tok : String) (l : List QMsg) : ∀ g ∈ eraseTok tok l, g ∈ l := by
  induction l with
  | nil => simp [eraseTok]
  | cons a t' ih =>
    intro g hg
    unfold eraseTok at hg
    split at hg
    · simp [hg]
    · simp only [List.mem_cons] at hg ⊢
      rcases hg with rfl | hg
      · exact Or.inl rfl
      · exact Or.inr (ih g hg)

theorem mv_sendLkdTail (m : QMsg) (obs : Bool) : Mv g (some m) p c g none p (c.sendLkdTail m obs) := by
  unfold Ctx.sendLkdTail
  refine ite_ind (fun _ => mv_sendInternal m false) fun hb => ite_ind (fun _ => ?_) fun _ => mv_sendInternal m false
  simp only
  have h0 : Mv g (some m) p c g (some m) p (c.upd fun s => { s with lgCrcv := eraseTok m.tok s.lgCrcv }) :=
    .lgSub _ (eraseTok_subset _ _)
  have hbm : ∀ {g' f' p' c'}, Mv g (some m) p c g' f' p' c' → c'.s.blockMode = true := fun mv => by
    rw [mv.grows.1]; simpa using hb
  rcases mv_sendInternal_cases (g := g) (p := p) (c := c.upd fun s => { s with lgCrcv := eraseTok m.tok s.lgCrcv }) m false
    with ⟨hr, h1⟩ | ⟨hr, h1⟩ | h1
  · have h2 := h0.trans h1
    exact ite_ind (fun _ => h2.trans (.lgPush m (hbm h2) (Or.inr hr.2))) fun _ => h2
  · rw [if_neg (by rw [hr]; decide)]
    exact h0.trans h1
  · have h2 := h0.trans h1
    exact (ite_ind (P := fun x => Mv g (some m) p c true none p x) (fun _ => h2.trans (.lgPush m (hbm h2) (Or.inl rfl))) fun _ => h2).trans
      .relax

theorem mv_submit (m : QMsg) (hm : m.sn = c.s.next) (ack : Bool) :
    Mv g none p c g none p ((c.upd fun s => { s with next := s.next + 1 }).sendInternal m ack) :=
  (Mv.mint m hm).trans (mv_sendInternal m ack)

theorem mv_submitLkd (m : QMsg) (hm : m.sn = c.s.next) (obs : Bool) :
    Mv g none p c g none p ((c.upd fun s => { s with next := s.next + 1 }).sendLkdTail m obs) :=
  (Mv.mint m hm).trans (mv_sendLkdTail m obs)

/-! ## the flush of the delay queue -/

theorem mv_flushOne (q : QMsg) (rest : List QMsg) (hd : c.s.delayq = q :: rest) :
    Mv true none p c true none p (c.flushOne q rest) := by
  unfold Ctx.flushOne
  simp only
  have h1 : Mv true none p c true none (q :: p) ((c.upd fun s =>
      { s with conActive := if q.con && s.proto ≠ .tls then s.conActive + 1 else s.conActive, delayq := rest }).sessionSendPdu q false) :=
    (Mv.popTx q rest (c.s.proto != .udp) (if c.s.proto = .tls then q.strmView else q.view false)
      (if q.con && c.s.proto ≠ .tls then c.s.conActive + 1 else c.s.conActive) hd bne_iff_ne.mpr).trans (mv_sessionSendPdu q false)
  generalize Ctx.sessionSendPdu q false _ = c1 at h1 ⊢
  refine h1.trans ?_
  by_cases hb : (q.con && decide (c1.s.proto ≠ .tls)) = true
  · have e : (c1.upd fun s => { s with inflight := if (q.con && decide (s.proto ≠ .tls)) = true then s.inflight ++ [q] else s.inflight }) =
        c1.upd fun s => { s with inflight := s.inflight ++ [q] } := by simp only [Ctx.upd, hb, if_true]
    rw [e]
    exact .keepN q
  · have e : (c1.upd fun s => { s with inflight := if (q.con && decide (s.proto ≠ .tls)) = true then s.inflight ++ [q] else s.inflight }) =
        c1 := by simp only [Ctx.upd, hb]; rfl
    rw [e]
    exact .dropN q

theorem mv_flushLoop (fuel : Nat) : Mv true none p c true none p (Ctx.flushLoop fuel c) := by
  induction fuel generalizing c with
  | zero => exact .refl ..
  | succ n ih =>
    unfold Ctx.flushLoop
    split
    · exact .refl ..
    · rename_i q rest hd
      refine ite_ind (fun _ => .refl ..) fun _ => ite_ind (fun _ => .refl ..) fun _ => ?_
      have h1 := mv_flushOne (p := p) q rest hd
      exact ite_ind (fun ht => ite_ind (fun _ => h1.trans (.requeue q ht)) fun _ => h1.trans (ih)) fun _ =>
        ite_ind (fun _ => h1) fun _ => h1.trans (ih)

theorem mv_sessionConnected : Mv true none p c true none p c.sessionConnected := by
  unfold Ctx.sessionConnected
  have h1 : Mv true none p c true none p
      (if c.s.state = .csm then (c.emit (.evTcp .sessConnected)).upd fun s => { s with doingFirst := false } else c) :=
    ite_ind (fun _ => .tame ((tame_emit (.evTcp .sessConnected)).trans tame_fields)) fun _ => .refl ..
  have h2 := h1.trans .est
  exact h2.trans (mv_flushLoop _)

theorem mv_ackFlush : Mv g none p c g none p c.ackFlush := by
  unfold Ctx.ackFlush
  refine ite_ind (fun _ => ?_) fun _ => .refl ..
  refine (Mv.upd (fun s => { s with conActive := s.conActive - 1 })).trans ?_
  exact ite_ind (fun hs => (Mv.openSt hs).trans ((mv_sessionConnected).trans .relax)) fun _ => .refl ..

/-! ## the receive path, timers, whole events -/

theorem mv_maybeFree : Mv g none p c g none p c.maybeFree := by
  unfold Ctx.maybeFree
  exact ite_ind (fun _ => .free c) fun _ => .refl ..

theorem mv_lgResponse (v : View) : Mv g f p c g f p (c.lgResponse v) := by
  unfold Ctx.lgResponse
  exact ite_ind (fun _ => .refl ..) fun _ => ite_ind (fun _ => Mv.emit _) fun _ => .lgSub _ (eraseTok_subset _ _)

/-- coap_remove_from_queue: the node found, if any, is now the caller's -/
theorem mv_removeInflight (mid : Nat) : Mv g none p c g none ((c.removeInflight mid).found.toList ++ p) (c.removeInflight mid) := by
  unfold Ctx.removeInflight
  split
  · rename_i q hfind
    exact (Mv.detach q (List.mem_of_find?_eq_some hfind)).trans (.tame tame_fields)
  · exact .tame tame_fields

theorem mv_handleResponse (v : View) : Mv true f p c true f p (c.handleResponse v) := by
  unfold Ctx.handleResponse
  simp only
  rw [upd_if]
  have h1 : Mv true f p c true f p (if v.kind ≠ 2 then c.upd fun s =>
      { s with inflight := s.inflight.filter (fun q => q.tok ≠ v.tok),
               conActive := s.conActive - (s.inflight.filter fun q => q.tok = v.tok ∧ q.con).length } else c) :=
    ite_ind (fun _ => Mv.cancel (c := c) (fun q => q.tok ≠ v.tok) (c.s.conActive - (c.s.inflight.filter fun q => q.tok = v.tok ∧ q.con).length))
      fun _ => .refl ..
  refine ite_ind (fun _ => h1.trans (Mv.emit _)) fun _ => ite_ind (fun _ => h1) fun _ => ?_
  refine (h1.trans ?_).trans ((mv_lgResponse v).trans (.rsp _ _))
  rw [upd_if]
  exact ite_ind (fun _ => .upd (fun s => { s with lastAckMid := some v.mid })) fun _ => .refl ..

theorem mv_handleRequest (v : View) : Mv true none p c true none p (c.handleRequest v) := by
  unfold Ctx.handleRequest
  simp only
  exact (Mv.req _ _).trans (mv_submit _ rfl _)

theorem mv_dispatch (v : View) : Mv true none p c true none p (c.dispatch v) := by
  unfold Ctx.dispatch
  refine ite_ind (fun _ => ?_) fun _ => ite_ind (fun _ => ?_) fun _ => ?_
  · simp only
    have h1 := (mv_removeInflight (g := true) (p := p) (c := c) v.mid).trans (Mv.dropFound _)
    generalize c.removeInflight v.mid = c1 at h1 ⊢
    have h2 : Mv true none p c true none p (if c1.found.isSome then c1.ackFlush else c1) :=
      h1.trans (ite_ind (fun _ => mv_ackFlush) fun _ => .refl ..)
    exact ite_ind (fun _ => h2) fun _ => ite_ind (fun _ => h2) fun _ => h2.trans (mv_handleResponse v)
  · simp only
    have h2 := (mv_ackFlush (g := true) (p := p) (c := c)).trans (mv_removeInflight v.mid)
    generalize c.ackFlush.removeInflight v.mid = c2 at h2 ⊢
    generalize c2.found = o at h2 ⊢
    cases o with
    | none => exact h2.trans (.anon _)
    | some q => exact h2.trans (ite_ind (fun _ => .report .rst q) fun _ => .dropN q)
  · simp only
    have h1 : Mv true none p c true none p (if v.kind = 1 then c.removeInflight v.mid else c) :=
      ite_ind (fun _ => (mv_removeInflight v.mid).trans (Mv.dropFound _)) fun _ => .refl ..
    generalize (if v.kind = 1 then c.removeInflight v.mid else c) = c1 at h1 ⊢
    exact ite_ind (fun _ => h1.trans (Mv.emit _)) fun _ => ite_ind (fun _ => h1.trans (mv_handleRequest v)) fun _ =>
      ite_ind (fun _ => h1.trans (mv_handleResponse v)) fun _ => h1.trans (Mv.emit _)

theorem mv_retransmit (mid : Nat) : Mv g none p c g none p (c.retransmit mid) := by
  unfold Ctx.retransmit
  split
  · exact .refl ..
  · rename_i q hfind
    have hmem : q ∈ c.s.inflight := List.mem_of_find?_eq_some hfind
    refine ite_ind (fun _ => ?_) fun _ => ?_
    · simp only
      refine ((Mv.emit .evRtx).trans (.bump q { q with cnt := q.cnt + 1 } _ hmem rfl)).trans
        (mv_sendPdu_node _ false ?_ (by simp))
      show _ ∈ c.s.inflight.map _
      exact List.mem_map.mpr ⟨q, hmem, by simp⟩
    · simp only
      have h1 := (Mv.detach (g := g) (p := p) q hmem).trans (mv_ackFlush)
      exact ite_ind (fun _ => h1.trans (.report .retries q)) fun _ => h1.trans (.dropN q)

theorem mv_hsThenConnect : Mv g none p c g none p c.hsThenConnect := by
  unfold Ctx.hsThenConnect
  have h1 : Mv g none p c g none p c.doHandshake := .tame (tame_doHandshake c)
  refine ite_ind (fun hr => ?_) fun _ => h1.trans (Mv.setFlag _)
  exact h1.trans ((Mv.openEst (doHandshake_est c hr)).trans (((mv_sessionConnected).trans (Mv.setFlag _)).trans .relax))

theorem mv_recvHs : Mv g none p c g none p c.recvHs := by
  unfold Ctx.recvHs
  simp only
  have h1 := mv_hsThenConnect (g := g) (p := p) (c := c)
  generalize c.hsThenConnect = c1 at h1
  refine (h1.trans (ite_ind (fun _ => .refl ..) fun _ => ?_)).trans mv_receiveTail
  split
  · exact ite_ind (fun _ => mv_hsThenConnect) fun _ => .refl ..
  · exact .refl ..

theorem mv_recvEst : Mv true none p c true none p c.recvEst := by
  unfold Ctx.recvEst
  simp only
  have h2 : Mv true none p c true none p (if c.s.state = .handshake then (c.emit (.ev .connected)).sessionConnected else c).popRec :=
    (ite_ind (P := fun x => Mv true none p c true none p x) (fun _ => (Mv.emit _).trans (mv_sessionConnected)) fun _ => .refl ..).trans
      (.tame (tame_popRec _))
  generalize (if c.s.state = .handshake then (c.emit (.ev .connected)).sessionConnected else c).popRec = y at h2 ⊢
  have tail : ∀ x : Ctx, Tame y x → Mv true none p c true none p x.receiveTail := fun x t =>
    (h2.trans (.tame t)).trans mv_receiveTail
  split
  · exact h2.trans (mv_dispatch _)
  · exact h2
  · exact tail _ tame_fields
  · exact tail _ tame_fields
  · exact tail _ tame_fields
  · exact tail _ (Tame.refl _)
  · exact tail _ (Tame.refl _)
  · exact tail _ (Tame.refl _)

theorem mv_dtlsReceive : Mv g none p c g none p c.dtlsReceive := by
  unfold Ctx.dtlsReceive
  refine (Mv.upd (fun s => { s with dtlsEvent := none })).trans ?_
  exact ite_ind (fun he => (Mv.openEst he).trans ((mv_recvEst).trans .relax)) fun _ => mv_recvHs

theorem mv_handleDgramForProto : Mv g none p c g none p c.handleDgramForProto := by
  unfold Ctx.handleDgramForProto
  split
  · exact Mv.emit _
  · exact .refl ..
  · refine ite_ind (fun _ => ?_) fun _ => ite_ind (fun _ => mv_dtlsReceive) fun _ => .refl ..
    simp only
    refine (Mv.tame (tame_dtlsHello c)).trans (ite_ind (fun _ => ?_) fun _ => .refl ..)
    exact (Mv.upd (fun s => { s with typ := .server, state := .handshake }) (hE := fun h => by cases h) (hN := fun h => by cases h)).trans (mv_disc_if _ .tlslayer)

theorem mv_connectedCsm (hr : c.doHandshake.ret = 1) : Mv g f p c.doHandshake g f p (c.doHandshake.emit (.ev .connected)).sendCsm :=
  (Mv.openEst (doHandshake_est c hr)).trans (((Mv.emit _).trans mv_sendCsm).trans .relax)

theorem mv_tlsEstablish : Mv g f p c g f p c.tlsEstablish := by
  unfold Ctx.tlsEstablish
  simp only
  refine (Mv.tame ((tame_upd (fun s => { s with state := .handshake }) (hE := fun e => by cases e) (hN := fun e => by cases e)).trans
    (tame_popEnv _))).trans (ite_ind (fun _ => .disc _ _) fun _ => ?_)
  refine (Mv.tame ((tame_upd (fun s => { s with tls := true })).trans (tame_doHandshake _))).trans ?_
  exact ite_ind (fun hr => mv_connectedCsm hr) fun _ => .refl ..

theorem mv_tlsReadHs : Mv g f p c g f p c.tlsReadHs := by
  unfold Ctx.tlsReadHs
  refine ite_ind (fun _ => (Mv.tame (tame_doHandshake c)).trans ?_) fun _ => Mv.setRet _
  exact ite_ind (fun hr => (mv_connectedCsm hr).trans (Mv.setRet _)) fun _ => .refl ..

theorem mv_dispatchStrm (v : View) : Mv true none p c true none p (c.dispatchStrm v) := by
  unfold Ctx.dispatchStrm
  refine ite_ind (fun _ => ite_ind (fun _ => mv_sessionConnected) fun _ => .refl ..) fun _ => ?_
  refine ite_ind (fun _ => Mv.emit _) fun _ => ite_ind (fun _ => Mv.emit _) fun _ => ?_
  refine ite_ind (fun _ => ?_) fun _ => ite_ind (fun _ => (mv_lgResponse v).trans (.rsp _ _)) fun _ => Mv.emit _
  simp only
  exact ((Mv.req _ _).trans (.mint _ rfl)).trans (mv_sendPdu_drop _ false)

theorem mv_strmRead : Mv g none p c g none p c.strmRead := by
  unfold Ctx.strmRead
  refine ite_ind (fun _ => .disc _ _) fun _ => ?_
  simp only
  have h1 : Mv g none p c g none p (c.upd fun s => { s with dtlsEvent := none }).tlsReadHs :=
    (Mv.upd (fun s => { s with dtlsEvent := none })).trans mv_tlsReadHs
  generalize (c.upd fun s => { s with dtlsEvent := none }).tlsReadHs = c1 at h1 ⊢
  refine h1.trans (ite_ind (fun he => ?_) fun _ => mv_readEnd)
  have he' : c1.s.est = true := by simp at he; exact he.2
  -- GnuTLS is established: what the record carried
  refine (Mv.openEst he').trans (.trans ?_ .relax)
  have h2 : Mv true none p c1 true none p c1.popRec := .tame (tame_popRec _)
  generalize c1.popRec = y at h2 ⊢
  have tail : ∀ x : Ctx, Tame y x → Mv true none p c1 true none p x.readEnd := fun x t =>
    (h2.trans (.tame t)).trans mv_readEnd
  split
  · have h3 := (h2.trans (.tame (tame_fields (c' := y.setRet 1)))).trans mv_tlsTail
    exact ite_ind (fun _ => h3.trans (mv_dispatchStrm _)) fun _ => ite_ind (fun _ => h3.trans (.disc _ _)) fun _ => h3
  · exact h2.trans (Mv.emit _)
  · exact tail _ tame_fields
  · exact tail _ tame_fields
  · exact tail _ tame_fields
  · exact tail _ tame_fields
  · exact tail _ tame_fields
  · exact tail _ tame_fields

theorem mv_tcpConnect (ok : Bool) : Mv g f p c g f p (c.tcpConnect ok) := by
  unfold Ctx.tcpConnect
  exact ite_ind (fun _ => (Mv.emit _).trans mv_tlsEstablish) fun _ => (Mv.emit _).trans (.disc _ _)

theorem mv_appSendStrm (wt : Bool) (code mid : Nat) (tok : String) :
    Mv g none p c g none p (c.appSendStrm wt code mid tok) := by
  unfold Ctx.appSendStrm
  refine ite_ind (fun _ => Mv.emit _) fun _ => ite_ind (fun _ => Mv.emit _) fun _ => ?_
  simp only
  have h0 : Mv g none p c g none p (c.upd fun s => { s with doingFirst := false }) :=
    .upd (fun s => { s with doingFirst := false })
  have h1 : Mv g none p c g none p (if c.s.doingFirst = true then
      (if (c.upd fun s => { s with doingFirst := false }).s.state = .csm
       then (c.upd fun s => { s with doingFirst := false }).emit (.unmodelled "csm-timeout")
       else c.upd fun s => { s with doingFirst := false }) else c) :=
    ite_ind (fun _ => ite_ind (fun _ => h0.trans (Mv.emit _)) fun _ => h0) fun _ => .refl ..
  exact h1.trans (mv_submitLkd _ rfl false)

/-- one whole event on a DTLS or TLS session is a sequence of moves: it starts and ends with nothing in a local variable -/
theorem mv_stepCtx (s : Sess) (e : Ev) (orc : List Orc) :
    Mv g none p { s := s, orc := orc } g none p (s.stepCtx e orc) := by
  unfold Sess.stepCtx
  simp only
  refine ite_ind (fun _ => .refl ..) fun _ => ?_
  have free : ∀ {x : Ctx}, Mv g none p { s := s, orc := orc } g none p x → Mv g none p { s := s, orc := orc } g none p x.maybeFree :=
    fun h => h.trans mv_maybeFree
  split
  · exact mv_submit _ rfl false
  · exact free (mv_handleDgramForProto)
  · exact mv_tlsTimeout
  · exact free (mv_retransmit _)
  · exact .disc _ _
  · exact free (.tame tame_fields)
  · exact (Mv.emit _).trans (.free _)
  · exact free (mv_tcpConnect _)
  · exact free (mv_strmRead)
  · exact free (.tame (tame_strmWrite _))
  · exact mv_appSendStrm _ _ _ _
  · exact mv_submitLkd _ rfl _
  · exact .lgSub _ fun _ h => (List.mem_filter.mp h).1

end
/-! ## the gate invariant is closed under every move -/

section
variable {m0 : Mon}

theorem inv_mv {g f p c g' f' p' c'} (mv : Mv g f p c g' f' p' c') (h : Inv m0 g c) : Inv m0 g' c' := by
  induction mv with
  | refl => exact h
  | trans _ _ ih1 ih2 => exact ih2 (ih1 h)
  | tame t => exact inv_tame h t
  | disc c r => exact disconnected_inv r h
  | free c => exact sessionFree_inv h
  | openSt hs => exact h.strengthen (h.st hs)
  | openEst he => exact h.strengthen (h.est he)
  | relax => exact h.relax
  | csm v => exact inv_emit_known _ (inv_upd_true _ h)
  | txF m ack tls v ht => cases ht h.proto; exact inv_emit_known _ h
  | dropF m => exact h
  | popTx q rest tls v ca _ ht => cases ht h.proto; exact inv_emit_known _ (inv_upd_true _ h)
  | dropN q => exact h
  | report r q => exact inv_emit_inert _ h
  | anon r => exact inv_emit_inert _ h
  | requeue q _ => exact inv_upd_true _ h
  | txN m ack tls v _ _ ht => cases ht h.proto; exact inv_emit_known _ h
  | req tok payload => exact inv_emit_known _ h
  | rsp tok code => exact inv_emit_known _ h
  | est => exact inv_upd_true _ h
  -- every other move updates fields of the session that the gate does not look at
  | _ => exact inv_upd _ h

theorem stepCtx_inv (s : Sess) (e : Ev) (orc : List Orc) (h : Inv m0 false { s := s, orc := orc }) :
    Inv m0 false (s.stepCtx e orc) :=
  inv_mv (mv_stepCtx (p := []) s e orc) h

end

end Coap.TlsGate
