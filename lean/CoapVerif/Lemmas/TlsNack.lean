import CoapVerif.Lemmas.TlsLedger
import CoapVerif.Lemmas.TlsOrder
/-
C19 helper lemmas: the NACK ledger of a DTLS session over whole histories — before, at and AFTER the establishment, with
the send queue (`Sess.inflight`) in the accounting.  Outside block mode (no lg_crcv entries).

`hc j p s` = how many references the library holds to the message with serial `j`: detached nodes `p` (a node taken off a
queue and not yet put back / deleted: coap_session_connected between `session->delayqueue = q->next` and coap_wait_ack,
coap_retransmit after coap_pop_next, a PDU inside coap_send_internal), the delay queue, the send queue.  `Nak T0 p` is
preserved by every function of M, whatever the TLS library answers (`T0` = the trace of the earlier events):
  * every serial is held at most once, held serials are below `next`;
  * a held message has NOT been reported (`nk = 0`);
  * `nk j ≤ 2` for every `j`, and `nk j = 2` only by the pattern `Dbl` — two NACKs with the same non-ICMP reason and only
    NACKs between them: the first loop of coap_session_disconnected_lkd and coap_cancel_session_messages (D19a).
-/
namespace Coap.TlsGate
open Ctx

def sns (l : List QMsg) : List Nat := l.map (·.sn)

/-- how many references the library holds to serial `j` -/
def hc (j : Nat) (p : List Nat) (s : Sess) : Nat := p.count j + (sns s.delayq).count j + (sns s.inflight).count j

def Out.isNack : Out → Bool
  | .nack .. => true
  | _ => false

/-- a NACK that names a message -/
def Out.named : Out → Bool
  | .nack _ (some _) (some _) => true
  | _ => false

theorem quiet_of_named {o : Out} (h : o.named = false) : o.quiet := by
  intro j
  cases o <;> first | rfl | skip
  rename_i r t s
  cases t <;> cases s <;> first | rfl | simp [Out.named] at h

/-- D19a in the trace: message `j` is named by two NACKs with the same reason (not ICMP) and nothing but NACKs lies between
them — one call of coap_session_disconnected_lkd: its first loop, the delay-queue loop, coap_cancel_session_messages -/
def Dbl (j : Nat) (T : List Out) : Prop :=
  ∃ a b d r tok, T = a ++ .nack r tok (some j) :: (b ++ .nack r tok (some j) :: d) ∧ r ≠ .icmp ∧ ∀ o ∈ b, o.isNack = true

theorem Dbl.append {j : Nat} {T : List Out} (h : Dbl j T) (l : List Out) : Dbl j (T ++ l) := by
  obtain ⟨a, b, d, r, tok, rfl, hr, hb⟩ := h
  exact ⟨a, b, d ++ l, r, tok, by simp, hr, hb⟩

/-- the tracked message is still in the delay queue, never transmitted -/
def Waiting (k : Nat) (s : Sess) : Prop := ∃ q ∈ s.delayq, q.sn = k ∧ q.con = true ∧ q.cnt = 0

/-- the NACK ledger.  `T0` = the trace of the earlier events (`nak_rebase`), `p` = the serials of the detached nodes; `t`: the message
with serial `k` is being tracked -/
structure Nak (T0 : List Out) (p : List Nat) (t : Bool) (k : Nat) (c : Ctx) : Prop where
  nd : ∀ j, hc j p c.s ≤ 1
  lt : ∀ j, 0 < hc j p c.s → j < c.s.next
  /-- what the library still holds has not been reported -/
  z : ∀ j, 0 < hc j p c.s → nk j (T0 ++ c.out) = 0
  fut : ∀ j, c.s.next ≤ j → nk j (T0 ++ c.out) = 0
  le2 : ∀ j, nk j (T0 ++ c.out) ≤ 2
  dbl : ∀ j, nk j (T0 ++ c.out) = 2 → Dbl j (T0 ++ c.out)
  lg : c.s.lgCrcv = []
  bm : c.s.blockMode = false
  proto : c.s.proto = .dtls
  /-- the tracked Confirmable: waiting in the delay queue, or transmitted for the first time, or reported by a NACK naming it -/
  trk : t = true → Waiting k c.s ∨ k ∈ (T0 ++ c.out).filterMap Out.firstSn ∨ 1 ≤ nk k (T0 ++ c.out)

section
variable {T0 : List Out} {p : List Nat} {t : Bool} {k : Nat} {c : Ctx}

/-- the master step lemma: outputs `l` are appended, references are dropped / moved (never duplicated), and a message is
reported at most twice as often as references to it were dropped, twice only by the pattern `Dbl` -/
theorem nak_step {c' : Ctx} {p' : List Nat} (h : Nak T0 p t k c) (l : List Out) (hout : c'.out = c.out ++ l)
    (hhc : ∀ j, hc j p' c'.s ≤ hc j p c.s) (hnk : ∀ j, nk j l ≤ 2 * (hc j p c.s - hc j p' c'.s))
    (hd : ∀ j, nk j l = 2 → ∀ T, Dbl j (T ++ l))
    (htrk : Waiting k c.s → Waiting k c'.s ∨ k ∈ l.filterMap Out.firstSn ∨ 1 ≤ nk k l)
    (hnx : c.s.next ≤ c'.s.next) (hlg : c'.s.lgCrcv = c.s.lgCrcv) (hbm : c'.s.blockMode = c.s.blockMode)
    (hp : c'.s.proto = c.s.proto) : Nak T0 p' t k c' := by
  have hT : T0 ++ c'.out = (T0 ++ c.out) ++ l := by rw [hout, List.append_assoc]
  have hsum : ∀ j, nk j (T0 ++ c'.out) = nk j (T0 ++ c.out) + nk j l := fun j => by rw [hT, nk_append]
  have h0 : ∀ j, hc j p c.s = 0 → nk j l = 0 := fun j hj => by have := hnk j; omega
  refine ⟨fun j => Nat.le_trans (hhc j) (h.nd j), ?_, ?_, ?_, ?_, ?_, by rw [hlg]; exact h.lg, by rw [hbm]; exact h.bm,
    by rw [hp]; exact h.proto, ?_⟩
  · intro j hj; have := h.lt j (by have := hhc j; omega); omega
  · intro j hj
    have h1 := hhc j; have h2 := h.nd j; have h3 := hnk j
    rw [hsum, h.z j (by omega)]; omega
  · intro j hj
    have hz : hc j p c.s = 0 := by
      rcases Nat.eq_zero_or_pos (hc j p c.s) with hz | hz
      · exact hz
      · have := h.lt j hz; omega
    rw [hsum, h.fut j (by omega), h0 j hz]
  · intro j
    rw [hsum]
    rcases Nat.eq_zero_or_pos (hc j p c.s) with hz | hz
    · rw [h0 j hz]; exact h.le2 j
    · have h2 := h.nd j; have h3 := hnk j
      rw [h.z j hz]; omega
  · intro j hj
    rw [hsum] at hj
    rw [hT]
    rcases Nat.eq_zero_or_pos (hc j p c.s) with hz | hz
    · rw [h0 j hz] at hj
      exact (h.dbl j hj).append l
    · rw [h.z j hz] at hj
      exact hd j (by omega) _
  · intro ht
    rw [hT]
    rcases h.trk ht with b | b | b
    · rcases htrk b with b | b | b
      · exact Or.inl b
      · exact Or.inr (Or.inl (by rw [List.filterMap_append, List.mem_append]; exact Or.inr b))
      · exact Or.inr (Or.inr (by rw [nk_append]; omega))
    · exact Or.inr (Or.inl (by rw [List.filterMap_append, List.mem_append]; exact Or.inl b))
    · exact Or.inr (Or.inr (by rw [nk_append]; omega))

theorem nak_re {c' : Ctx} {p' : List Nat} (h : Nak T0 p t k c) (l : List Out) (hout : c'.out = c.out ++ l)
    (hq : ∀ o ∈ l, o.quiet) (hhc : ∀ j, hc j p' c'.s ≤ hc j p c.s) (hdq : ∀ q ∈ c.s.delayq, q ∈ c'.s.delayq)
    (hnx : c.s.next ≤ c'.s.next) (hlg : c'.s.lgCrcv = c.s.lgCrcv) (hbm : c'.s.blockMode = c.s.blockMode)
    (hp : c'.s.proto = c.s.proto) : Nak T0 p' t k c' :=
  nak_step h l hout hhc (fun j => by rw [nk_quiet_all l hq j]; omega)
    (fun j hj => by rw [nk_quiet_all l hq j] at hj; cases hj)
    (fun ⟨q, hq1, hq2⟩ => Or.inl ⟨q, hdq q hq1, hq2⟩) hnx hlg hbm hp

theorem nak_keep {c' : Ctx} (h : Nak T0 p t k c) (hout : c'.out = c.out) (hs : c'.s = c.s) : Nak T0 p t k c' :=
  nak_re h [] (by simp [hout]) (by simp) (fun j => by rw [hc, hc, hs]; exact Nat.le_refl _) (fun q hq => by rw [hs]; exact hq)
    (by rw [hs]; exact Nat.le_refl _) (by rw [hs]) (by rw [hs]) (by rw [hs])

theorem nak_tame {c' : Ctx} (h : Nak T0 p t k c) (tm : Tame c c') : Nak T0 p t k c' := by
  obtain ⟨l, ho, hs, _⟩ := tm.out
  exact nak_re h l ho (fun o ho j => Out.silent_reports (hs o ho) j) (fun j => by rw [hc, hc, tm.dq, tm.infl]; exact Nat.le_refl _)
    (fun q hq => tm.dq ▸ hq) (Nat.le_of_eq tm.nx.symm) tm.lg tm.bm tm.proto

theorem nak_outs_quiet (l : List Out) (hl : ∀ o ∈ l, o.quiet) (h : Nak T0 p t k c) :
    Nak T0 p t k { c with out := c.out ++ l } :=
  nak_re h l rfl hl (fun _ => Nat.le_refl _) (fun _ hq => hq) (Nat.le_refl _) rfl rfl rfl

theorem nak_emit_unnamed (o : Out) (h : Nak T0 p t k c) (ho : o.named = false := by rfl) : Nak T0 p t k (c.emit o) :=
  nak_outs_quiet [o] (fun _ ho' => List.mem_singleton.mp ho' ▸ quiet_of_named ho) h

theorem nak_upd (f : Sess → Sess) (h : Nak T0 p t k c) (hdq : (f c.s).delayq = c.s.delayq := by rfl)
    (hin : (f c.s).inflight = c.s.inflight := by rfl) (hnx : c.s.next ≤ (f c.s).next := by exact Nat.le_refl _)
    (hlg : (f c.s).lgCrcv = c.s.lgCrcv := by rfl) (hbm : (f c.s).blockMode = c.s.blockMode := by rfl)
    (hp : (f c.s).proto = c.s.proto := by rfl) : Nak T0 p t k (c.upd f) :=
  nak_re h [] (by simp [Ctx.upd]) (by simp)
    (fun j => by show hc j p (f c.s) ≤ _; rw [hc, hc, hdq, hin]; exact Nat.le_refl _)
    (fun q hq => by show q ∈ (f c.s).delayq; rw [hdq]; exact hq) hnx hlg hbm hp

/-- references are dropped (a node deleted without a report: acknowledged, a Non-confirmable written, a refused PDU) -/
theorem nak_drop {p' : List Nat} (f : Sess → Sess) (hhc : ∀ j, hc j p' (f c.s) ≤ hc j p c.s)
    (hdq : ∀ q ∈ c.s.delayq, q ∈ (f c.s).delayq) (h : Nak T0 p t k c)
    (hnx : c.s.next ≤ (f c.s).next := by exact Nat.le_refl _) (hlg : (f c.s).lgCrcv = c.s.lgCrcv := by rfl)
    (hbm : (f c.s).blockMode = c.s.blockMode := by rfl) (hp : (f c.s).proto = c.s.proto := by rfl) : Nak T0 p' t k (c.upd f) :=
  nak_re h [] (by simp [Ctx.upd]) (by simp) hhc hdq hnx hlg hbm hp

theorem nak_shrink (j0 : Nat) (h : Nak T0 (j0 :: p) t k c) : Nak T0 p t k c :=
  nak_re h [] (by simp) (by simp) (fun j => by simp only [hc, List.count_cons]; omega) (fun _ hq => hq) (Nat.le_refl _) rfl rfl rfl

/-- a fresh serial is handed out: the new message is a detached node -/
theorem nak_next (h : Nak T0 p t k c) : Nak T0 (c.s.next :: p) t k (c.upd fun s => { s with next := s.next + 1 }) := by
  have hz : hc c.s.next p c.s = 0 := by
    rcases Nat.eq_zero_or_pos (hc c.s.next p c.s) with hz | hz
    · exact hz
    · have := h.lt _ hz; omega
  have hcn : ∀ j, hc j (c.s.next :: p) (c.upd fun s => { s with next := s.next + 1 }).s =
      hc j p c.s + (if c.s.next == j then 1 else 0) := by
    intro j; simp only [hc, List.count_cons, Ctx.upd]; omega
  refine ⟨?_, ?_, ?_, ?_, h.le2, h.dbl, h.lg, h.bm, h.proto, h.trk⟩
  · intro j; rw [hcn]
    by_cases hj : c.s.next = j
    · subst hj; simp [hz]
    · simp [hj]; exact h.nd j
  · intro j hj; rw [hcn] at hj
    show j < c.s.next + 1
    by_cases hj' : c.s.next = j
    · omega
    · simp [hj'] at hj; have := h.lt j hj; omega
  · intro j hj; rw [hcn] at hj
    by_cases hj' : c.s.next = j
    · exact h.fut j (by omega)
    · simp [hj'] at hj; exact h.z j hj
  · intro j hj; exact h.fut j (by show c.s.next ≤ j; simp [Ctx.upd] at hj; omega)

theorem countP_sn_count (l : List QMsg) (j : Nat) : l.countP (fun q => q.sn == j) = (sns l).count j := by
  unfold sns; rw [List.count, List.countP_map]; rfl

theorem countP_filter_sn_le (l : List QMsg) (f : QMsg → Bool) (j : Nat) :
    (l.filter f).countP (fun q => q.sn == j) ≤ (sns l).count j := by
  rw [← countP_sn_count]; exact List.Sublist.countP_le (List.filter_sublist)

theorem count_filter_sn_le (l : List QMsg) (f : QMsg → Bool) (j : Nat) : (sns (l.filter f)).count j ≤ (sns l).count j := by
  rw [← countP_sn_count]; exact countP_filter_sn_le l f j

theorem nak_nack (r : Nack) (q : QMsg) (h : Nak T0 (q.sn :: p) t k c) : Nak T0 p t k (c.emit (nackOf r q)) := by
  refine nak_step h [nackOf r q] rfl (fun j => by simp only [hc, List.count_cons, Ctx.emit]; omega) ?_ ?_
    (fun hw => Or.inl hw) (Nat.le_refl _) rfl rfl rfl
  · intro j
    simp only [hc, List.count_cons, Ctx.emit, nk, List.countP_cons, List.countP_nil, reports_nackOf]
    by_cases hj : q.sn = j <;> simp [hj]
    split <;> omega
  · intro j hj
    simp only [nk, List.countP_cons, List.countP_nil] at hj
    split at hj <;> omega

theorem nak_pop_emit (q : QMsg) (rest : List QMsg) (tls : Bool) (v : View) (ca : Nat) (hd : c.s.delayq = q :: rest)
    (h : Nak T0 p t k c) :
    Nak T0 (q.sn :: p) t k ((c.upd fun s => { s with conActive := ca, delayq := rest }).emit (.tx tls v (some q.sn) q.cnt)) := by
  have hq : ∀ j, nk j [Out.tx tls v (some q.sn) q.cnt] = 0 := fun j => rfl
  refine nak_step h [.tx tls v (some q.sn) q.cnt] rfl (fun j => ?_) (fun j => by rw [hq]; omega) (fun j hj => by rw [hq] at hj; cases hj) ?_
    (Nat.le_refl _) rfl rfl rfl
  · show (q.sn :: p).count j + (sns rest).count j + (sns c.s.inflight).count j ≤ _
    simp only [hc, hd, sns, List.map_cons, List.count_cons]; omega
  · rintro ⟨q', hq', h1, h2, h3⟩
    rw [hd] at hq'
    rcases List.mem_cons.mp hq' with rfl | hq'
    · right; left
      simp [Out.firstSn, h3, h1]
    · left; exact ⟨q', hq', h1, h2, h3⟩

theorem nak_attach_dq (m : QMsg) (h : Nak T0 (m.sn :: p) t k c) :
    Nak T0 p t k (c.upd fun s => { s with delayq := s.delayq ++ [m] }) :=
  nak_drop _ (fun j => by simp only [hc, sns, List.map_append, List.map_cons, List.map_nil, List.count_append,
      List.count_cons, List.count_nil]; omega)
    (fun q hq => List.mem_append_left _ hq) h

theorem nak_attach_in (m : QMsg) (h : Nak T0 (m.sn :: p) t k c) :
    Nak T0 p t k (c.upd fun s => { s with inflight := s.inflight ++ [m] }) :=
  nak_drop _ (fun j => by simp only [hc, sns, List.map_append, List.map_cons, List.map_nil, List.count_append,
      List.count_cons, List.count_nil]; omega)
    (fun _ hq => hq) h

theorem headSn_le (l : List QMsg) (j : Nat) : headSn l j ≤ (sns l).count j := by
  cases l with
  | nil => exact Nat.le_refl _
  | cons q0 tl =>
    simp only [headSn, sns, List.map_cons, List.count_cons]
    split <;> simp_all

theorem discLg_nil (r : Nack) (hlg : c.s.lgCrcv = []) : c.discLg r = [] := by
  unfold Ctx.discLg
  rw [hlg]
  split <;> rfl

/-- one call of coap_session_disconnected_lkd (not ICMP, outside block mode) on a state of the ledger: every Confirmable on either
queue is named by at least one NACK; a serial is named TWICE exactly when it is the Confirmable at the head of the send queue -/
theorem disc_counts (r : Nack) (hr : r ≠ .icmp) (h : Nak T0 p t k c) (j : Nat) :
    ((∃ q ∈ c.s.delayq ++ c.s.inflight, q.sn = j ∧ q.con = true) →
        1 ≤ nk j (c.discOuts r ++ (c.s.inflight.filter fun q : QMsg => q.con).map (nackOf r))) ∧
    (nk j (c.discOuts r ++ (c.s.inflight.filter fun q : QMsg => q.con).map (nackOf r)) = 2 ↔
        ∃ q0 tl, c.s.inflight = q0 :: tl ∧ q0.sn = j ∧ q0.con = true) := by
  have hnd := h.nd j
  simp only [hc] at hnd
  have hB := countP_filter_sn_le c.s.delayq (fun q : QMsg => q.con) j
  have hC := countP_filter_sn_le c.s.inflight (fun q : QMsg => q.con) j
  have hH := headSn_le c.s.inflight j
  rw [disc_nk r hr j, discLg_nil r h.lg, nk_nil, Nat.add_zero]
  have pos : ∀ (l : List QMsg) (q : QMsg), q ∈ l → q.sn = j → q.con = true →
      0 < (l.filter fun q : QMsg => q.con).countP (fun q => q.sn == j) := fun l q hq h1 h2 =>
    h1 ▸ countP_sn_pos _ q (List.mem_filter.mpr ⟨hq, by simpa using h2⟩)
  refine ⟨?_, fun h2 => ?_, ?_⟩
  · rintro ⟨q, hq, h1, h2⟩
    rcases List.mem_append.mp hq with hq | hq
    · have := pos _ q hq h1 h2; omega
    · have := pos _ q hq h1 h2; omega
  · -- two reports: the head of the send queue carries `j`, and it is the one Confirmable of that queue that does
    cases hi : c.s.inflight with
    | nil => rw [hi] at h2 hH hC; simp only [headSn, List.filter_nil, List.countP_nil] at h2; omega
    | cons q0 tl =>
      refine ⟨q0, tl, rfl, ?_⟩
      rw [hi] at hnd hC h2
      have htl := countP_filter_sn_le tl (fun q : QMsg => q.con) j
      simp only [headSn, sns, List.map_cons, List.count_cons, List.filter_cons] at hnd h2 htl hB
      by_cases hq0 : q0.sn = j
      · refine ⟨hq0, ?_⟩
        cases hcq : q0.con with
        | true => rfl
        | false =>
          simp only [hcq, hq0, beq_self_eq_true, if_true, Bool.false_eq_true, if_false] at hnd h2
          omega
      · have hb : (q0.sn == j) = false := by simpa using hq0
        cases hcq : q0.con <;>
          simp only [hcq, hq0, hb, if_true, if_false, Bool.false_eq_true, List.countP_cons] at hnd h2 <;> omega
  · rintro ⟨q0, tl, h0, h1, h2⟩
    have hp := pos _ q0 (h0 ▸ List.mem_cons_self ..) h1 h2
    have hh : headSn c.s.inflight j = 1 := by rw [h0]; simp only [headSn, h1, if_true]
    omega

theorem nak_disc (r : Nack) (hr : r ≠ .icmp) {c' : Ctx} (h : Nak T0 p t k c)
    (hout : c'.out = c.out ++ (c.discOuts r ++ (c.s.inflight.filter fun q : QMsg => q.con).map (nackOf r)))
    (hdq : c'.s.delayq = []) (hin : c'.s.inflight = []) (hnx : c'.s.next = c.s.next) (hlg : c'.s.lgCrcv = c.s.lgCrcv)
    (hbm : c'.s.blockMode = c.s.blockMode) (hp : c'.s.proto = c.s.proto) : Nak T0 p t k c' := by
  have hhc' : ∀ j, hc j p c'.s = p.count j := fun j => by simp [hc, hdq, hin, sns]
  refine nak_step h _ hout (fun j => by rw [hhc']; simp only [hc]; omega) (fun j => ?_) (fun j hj T => ?_) (fun hw => ?_)
    (by omega) hlg hbm hp
  · have hB := countP_filter_sn_le c.s.delayq (fun q : QMsg => q.con) j
    have hC := countP_filter_sn_le c.s.inflight (fun q : QMsg => q.con) j
    have hH := headSn_le c.s.inflight j
    rw [disc_nk r hr j, discLg_nil r h.lg, nk_nil, Nat.add_zero, hhc']
    simp only [hc]
    omega
  · -- named twice: the head of the send queue, by the first loop and by coap_cancel_session_messages
    obtain ⟨q0, tl, hi, hq0, hcon⟩ := (disc_counts r hr h j).2.mp hj
    refine ⟨T, (c.s.delayq.filter fun q : QMsg => q.con).map (nackOf r), (tl.filter fun q : QMsg => q.con).map (nackOf r),
      r, some q0.tok, ?_, hr, fun o ho => ?_⟩
    · simp [Ctx.discOuts, Ctx.discFirst, Ctx.discDq, Ctx.discLg, hi, hr, hcon, nackOf, hq0]
    · obtain ⟨q, _, rfl⟩ := List.mem_map.mp ho
      rfl
  · obtain ⟨q, hq, h1, h2, _⟩ := hw
    exact Or.inr (Or.inr ((disc_counts r hr h k).1 ⟨q, List.mem_append_left _ hq, h1, h2⟩))

theorem nak_free (r : Nack) (hr : r ≠ .icmp) {c' : Ctx} (h : Nak T0 p t k c)
    (hout : c'.out = c.out ++ (c.s.delayq.filter fun q : QMsg => q.con).map (nackOf r))
    (hdq : c'.s.delayq = []) (hin : c'.s.inflight = c.s.inflight) (hnx : c'.s.next = c.s.next) (hlg : c'.s.lgCrcv = c.s.lgCrcv)
    (hbm : c'.s.blockMode = c.s.blockMode) (hp : c'.s.proto = c.s.proto) : Nak T0 p t k c' := by
  have hnd := h.nd
  have hB : ∀ j, nk j ((c.s.delayq.filter fun q : QMsg => q.con).map (nackOf r)) ≤ (sns c.s.delayq).count j := fun j => by
    rw [nk_map_nackOf j r hr]; exact countP_filter_sn_le _ _ j
  have hhc' : ∀ j, hc j p c'.s = p.count j + (sns c.s.inflight).count j := fun j => by simp [hc, hdq, hin, sns]
  refine nak_step h _ hout (fun j => by rw [hhc']; simp only [hc]; omega) ?_ ?_ ?_ (by omega) hlg hbm hp
  · intro j; rw [hhc']; have := hB j; simp only [hc]; omega
  · intro j hj; have := hB j; have := hnd j; simp only [hc] at this; omega
  · rintro ⟨q, hq, h1, h2, _⟩
    right; right
    rw [nk_map_nackOf k r hr, ← h1]
    exact countP_sn_pos _ q (List.mem_filter.mpr ⟨hq, by simpa using h2⟩)

/-! ## through M: the ledger is closed under every move -/

theorem disconnected_nak (r : Nack) (h : Nak T0 p t k c) : Nak T0 p t k (c.disconnected r) := by
  rcases disconnected_cases r c with ⟨hr, e⟩ | ⟨hr, tm⟩
  · rw [e]
    subst hr
    exact nak_outs_quiet _ (discOuts_icmp_quiet c) h
  · exact nak_tame (nak_disc (c' := discCore c r) r hr h (by simp [discCore, Ctx.upd]) rfl rfl rfl h.lg.symm rfl rfl) tm

theorem sns_count_detach (l : List QMsg) (m : QMsg) (hm : m ∈ l) (j : Nat) :
    (if m.sn = j then 1 else 0) + (sns (l.filter (·.sn ≠ m.sn))).count j ≤ (sns l).count j := by
  by_cases hj : m.sn = j
  · have h0 : (sns (l.filter (·.sn ≠ m.sn))).count j = 0 := by
      rw [List.count_eq_zero]
      intro hmem
      simp only [sns, List.mem_map, List.mem_filter] at hmem
      obtain ⟨q, ⟨_, hq⟩, hq2⟩ := hmem
      simp at hq; omega
    have h1 : 0 < (sns l).count j := by
      rw [← countP_sn_count, ← hj]; exact countP_sn_pos l m hm
    rw [if_pos hj, h0]; omega
  · rw [if_neg hj]; have := count_filter_sn_le l (·.sn ≠ m.sn) j; omega

theorem nak_detach (q : QMsg) (hq : q ∈ c.s.inflight) (h : Nak T0 p t k c) :
    Nak T0 (q.sn :: p) t k (c.upd fun s => { s with inflight := s.inflight.filter (·.sn ≠ q.sn) }) := by
  refine nak_drop _ (fun j => ?_) (fun _ hq => hq) h
  have := sns_count_detach c.s.inflight q hq j
  simp only [hc, List.count_cons] at this ⊢
  by_cases hj : q.sn = j <;> simp [hj] at this ⊢ <;> omega

theorem sessionFree_nak (h : Nak T0 p t k c) : Nak T0 p t k c.sessionFree := by
  unfold Ctx.sessionFree
  simp only
  have h1 := nak_tame (nak_upd (fun s => { s with lgCrcv := [] }) h (hlg := h.lg.symm)) (tame_sessionClose _)
  exact nak_free _ (by split <;> decide) h1 rfl rfl rfl rfl rfl rfl rfl

theorem sns_replace (l : List QMsg) (q q' : QMsg) (hq : q'.sn = q.sn) :
    sns (l.map fun x => if x.sn = q.sn then q' else x) = sns l := by
  unfold sns
  rw [List.map_map]
  apply List.map_congr_left
  intro x _
  simp only [Function.comp]
  split
  · rw [hq]; rename_i hx; exact hx.symm
  · rfl

theorem nak_park (m : QMsg) (hm : m ∈ c.s.inflight) (h : Nak T0 p t k c) :
    Nak T0 p t k (c.upd fun s => { s with inflight := s.inflight.filter (·.sn ≠ m.sn), delayq := s.delayq ++ [m] }) := by
  refine nak_drop _ (fun j => ?_) (fun q hq => List.mem_append_left _ hq) h
  have := sns_count_detach c.s.inflight m hm j
  simp only [hc, sns, List.map_append, List.map_cons, List.map_nil, List.count_append, List.count_cons, List.count_nil] at this ⊢
  by_cases hj : m.sn = j <;> simp [hj] at this ⊢ <;> omega

/-- the serials of the messages held in local variables (the ghost state of `Mv`) -/
def held (f : Option QMsg) (p : List QMsg) : List Nat := f.toList.map (·.sn) ++ p.map (·.sn)

/-- every move keeps the ledger: the detached references are the messages in local variables (besides `p0`, the caller's) -/
theorem nak_mv {p0 : List Nat} {g f ps c g' f' ps' c'} (mv : Mv g f ps c g' f' ps' c') (h : Nak T0 (held f ps ++ p0) t k c) :
    Nak T0 (held f' ps' ++ p0) t k c' := by
  induction mv with
  | refl => exact h
  | trans _ _ ih1 ih2 => exact ih2 (ih1 h)
  | tame tm => exact nak_tame h tm
  | disc c r => exact disconnected_nak r h
  | free c => exact sessionFree_nak h
  | openSt _ => exact h
  | openEst _ => exact h
  | relax => exact h
  | mint m hm =>
    have h1 := nak_next h
    rw [← hm] at h1
    exact h1
  | burn => exact nak_upd _ h (hnx := Nat.le_succ _)
  | csm v => exact nak_emit_unnamed _ (nak_upd _ h (hnx := Nat.le_succ _))
  | enq m => exact nak_attach_dq m h
  | keepF m => exact nak_attach_in m h
  | dropF m => exact nak_shrink _ h
  | popTx q rest tls v ca hd _ => exact nak_pop_emit q rest tls v ca hd h
  | detach q hq => exact nak_detach q hq h
  | keepN q => exact nak_attach_in q h
  | dropN q => exact nak_shrink q.sn h
  | report r q => exact nak_nack r q h
  | requeue q hp => exact absurd hp (by rw [h.proto]; decide)
  | bump q q' ca _ hsn =>
    refine nak_drop _ (fun j => ?_) (fun _ hq => hq) h
    simp only [hc]
    rw [sns_replace _ q q' hsn]
    exact Nat.le_refl _
  | park m hm _ => exact nak_park m hm h
  | @cancel _ _ _ c F ca =>
    refine nak_drop _ (fun j => ?_) (fun _ hq => hq) h
    have := count_filter_sn_le c.s.inflight F j
    simp only [hc]; omega
  | lgSub l hl =>
    refine nak_upd _ h (hlg := ?_)
    rw [h.lg]
    exact List.eq_nil_iff_forall_not_mem.mpr fun x hx => by have := hl x hx; rw [h.lg] at this; cases this
  | lgPush m hb _ => exact absurd hb (by rw [h.bm]; decide)
  | est => exact nak_upd _ h
  -- every other move emits an output that names no message
  | _ => exact nak_emit_unnamed _ h

theorem dtlsEstablishClient_nak (h : Nak T0 p t k c) : Nak T0 p t k c.dtlsEstablishClient :=
  nak_mv (p0 := p) (mv_dtlsEstablishClient (g := false) (f := none) (p := [])) h

theorem stepCtx_nak (s : Sess) (e : Ev) (orc : List Orc) (h : Nak T0 p t k { s := s, orc := orc }) :
    Nak T0 p t k (s.stepCtx e orc) :=
  nak_mv (p0 := p) (mv_stepCtx (g := false) (p := []) s e orc) h

/-! ## the start of a history, from one event to the next, whole histories -/

theorem nak_start (s : Sess) (hinf : s.inflight = []) (hsrt : (s.delayq.map (·.sn)).Pairwise (· < ·))
    (hlt : ∀ q ∈ s.delayq, q.sn < s.next) (hlg : s.lgCrcv = []) (hbm : s.blockMode = false) (hp : s.proto = .dtls) (k : Nat) :
    Nak [] [] false k { s := s } := by
  have hcq : ∀ j, hc j [] s = s.delayq.countP (fun q => q.sn == j) := fun j => by
    simp [hc, hinf, sns, countP_sn_count]
  refine ⟨?_, ?_, (fun _ _ => rfl), (fun _ _ => rfl), (fun _ => Nat.zero_le _), (fun j hj => absurd hj (by simp [nk])), hlg, hbm, hp,
    (fun ht => Bool.noConfusion ht)⟩
  · intro j; rw [hcq]; exact countP_sn_le_one _ hsrt j
  · intro j hj; rw [hcq] at hj
    obtain ⟨q, hq, rfl⟩ := countP_sn_mem _ _ hj
    exact hlt q hq

theorem nak_track {k' : Nat} (h : Nak T0 p false k c) (hw : Waiting k' c.s) : Nak T0 p true k' c :=
  { h with trk := fun _ => Or.inl hw }

theorem hc_pos_of_mem (s : Sess) (q : QMsg) (hq : q ∈ s.delayq ++ s.inflight) : 0 < hc q.sn [] s := by
  simp only [hc, List.count_nil, Nat.zero_add]
  rcases List.mem_append.mp hq with hq | hq
  · have := countP_sn_pos _ q hq; rw [countP_sn_count] at this; omega
  · have := countP_sn_pos _ q hq; rw [countP_sn_count] at this; omega

theorem nak_rebase (orc : List Orc) (h : Nak T0 p t k c) : Nak (T0 ++ c.out) p t k { s := c.s, orc := orc } := by
  exact ⟨h.nd, h.lt, by simpa using h.z, by simpa using h.fut, by simpa using h.le2, by simpa using h.dbl, h.lg, h.bm, h.proto, by simpa using h.trk⟩

theorem run_nak (s : Sess) (evs : List (Ev × List Orc)) (h : Nak T0 [] t k { s := s }) :
    Nak (T0 ++ (s.run evs).2) [] t k { s := (s.run evs).1 } := by
  refine Sess.run_ind (P := fun s tr => Nak (T0 ++ tr) [] t k { s := s }) (fun s tr e o h => ?_) evs s [] (by simpa using h)
  rw [← List.append_assoc]
  exact nak_rebase [] (stepCtx_nak s e o (nak_keep h rfl rfl))

end
end Coap.TlsGate
