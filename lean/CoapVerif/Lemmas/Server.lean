import CoapVerif.Model.Server
/-
C10, M against S: the tables, loops and stages of the transcription M (Model/Server.lean) against the declarative
vocabulary of S (Spec/Server.lean), up to `handleA_eq` for one datagram and `seq_eq` for datagram sequences.  The facts
about S alone that these proofs need (`deliver_shape`, `pre_elim`) stand where they are first used.
-/
namespace Coap.Server.L
open Coap.Server Coap.Generated.Server

/-! ### tables regenerated by T1 against the RFC tables of S -/
theorem critical_eq : criticalBuiltin = S.recognisedCritical := by decide
theorem nonrep_eq : nonRepeatable = S.nonRepeatable := by decide
theorem codeOk_eq_table : codeOk = [(0, 31), (64, 191)] := by decide
theorem filter_caps : filterShort = 6 ∧ filterLong = 2 := by decide

theorem codeOk_eq (c : Nat) : inIvs codeOk c = S.validCode c := by
  rw [codeOk_eq_table]
  simp [inIvs, S.validCode]

theorem bits_sum (mask : Nat) : ∀ n,
    (List.range n).foldl (fun acc i => acc + (if M.mbit mask i then 2 ^ i else 0)) 0 = mask % 2 ^ n
  | 0 => by simp [Nat.mod_one]
  | n + 1 => by
    rw [List.range_succ, List.foldl_append, bits_sum mask n, Nat.mod_pow_succ]
    unfold M.mbit
    rcases Nat.mod_two_eq_zero_or_one (mask / 2 ^ n) with h | h <;> simp [h]

/-- where the constructor registers by itself exactly what the application takes it to register (`doc = actual`), the
application's calls leave the handlers it asked for: the `i`-th digit of the result is the `i`-th digit of `mask` -/
theorem effMask_self (d mask : Nat) : M.effMask d d mask = mask % 128 := by
  unfold M.effMask
  rw [show (fun acc i => acc + (if (if M.mbit mask i then (!M.mbit d i || M.mbit d i) else (!M.mbit d i && M.mbit d i))
        then 2 ^ i else 0)) = fun acc i => acc + (if M.mbit mask i then 2 ^ i else 0) from
      funext fun acc => funext fun i => by cases M.mbit mask i <;> cases M.mbit d i <;> rfl]
  exact bits_sum mask 7

theorem inIvs_cons (a b : Nat) (t : List (Nat × Nat)) (c : Nat) :
    inIvs ((a, b) :: t) c = true ↔ (a ≤ c ∧ c ≤ b) ∨ inIvs t c = true := by
  simp [inIvs]

theorem mem_of_inIvs_runs (c : Nat) : ∀ l : List Nat, inIvs (S.runs l) c = true → c ∈ l
  | [] => fun h => by simp [S.runs, inIvs] at h
  | x :: r => fun h => by
    have ih := mem_of_inIvs_runs c r
    unfold S.runs at h
    split at h
    · rename_i a b t hr
      rw [hr] at ih
      split at h
      · rename_i hx
        rcases (inIvs_cons ..).1 h with ⟨h1, h2⟩ | h1
        · by_cases hc : c = x
          · exact hc ▸ List.mem_cons_self
          · exact List.mem_cons_of_mem _ (ih ((inIvs_cons ..).2 (Or.inl ⟨by omega, h2⟩)))
        · exact List.mem_cons_of_mem _ (ih ((inIvs_cons ..).2 (Or.inr h1)))
      · rcases (inIvs_cons ..).1 h with ⟨h1, h2⟩ | h1
        · exact (show c = x by omega) ▸ List.mem_cons_self
        · exact List.mem_cons_of_mem _ (ih h1)
    · rcases (inIvs_cons ..).1 h with ⟨h1, h2⟩ | h1
      · exact (show c = x by omega) ▸ List.mem_cons_self
      · simp [inIvs] at h1

/-- what `Esc.restrict` leaves unescaped is allowed unescaped by RFC 3986, whatever the choice `e` was -/
theorem restrict_legal (e : S.Esc) : S.Esc.legal (S.Esc.restrict e) := fun c _ =>
  ⟨fun h => (Bool.and_eq_true_iff.1 (List.mem_filter.1 (mem_of_inIvs_runs c _ h)).2).2,
   fun h => (Bool.and_eq_true_iff.1 (List.mem_filter.1 (mem_of_inIvs_runs c _ h)).2).2⟩

/-! ### path / query reconstruction loops -/
def tailForm (sep : UInt8) (segs : List Bytes) : Bytes := segs.flatMap fun s => sep :: s

theorem joinWith_cons (sep : UInt8) (a : Bytes) (r : List Bytes) : joinWith sep (a :: r) = a ++ tailForm sep r := by
  induction r generalizing a with
  | nil => simp [joinWith, tailForm]
  | cons b r ih => simp [joinWith, tailForm, ih]

/-- coap_get_uri_path() and coap_get_query() are one loop up to the option number `k`, the separator and the escape
set: the first value found is printed bare, every later one after a separator -/
theorem loop_join {k : Nat} {sep : UInt8} {un : List (Nat × Nat)} {loop : Bool → Opts → Bytes} (hnil : ∀ f, loop f [] = [])
    (hcons : ∀ f n v r, loop f ((n, v) :: r) =
      if n = k then (if f then [] else [sep]) ++ pctEncode un v ++ loop false r else loop f r) (os : Opts) :
    loop true os = joinWith sep ((os.filter fun o => o.1 == k).map fun o => pctEncode un o.2) := by
  have tail : ∀ os, loop false os = tailForm sep ((os.filter fun o => o.1 == k).map fun o => pctEncode un o.2) := by
    intro os
    induction os with
    | nil => simp [hnil, tailForm]
    | cons o r ih =>
      obtain ⟨n, v⟩ := o
      by_cases h : n = k
      · subst h; simp [hcons, ih, tailForm]
      · simp [hcons, h, ih]
  induction os with
  | nil => simp [hnil, joinWith]
  | cons o r ih =>
    obtain ⟨n, v⟩ := o
    by_cases h : n = k
    · subst h; simp [hcons, tail, joinWith_cons]
    · simp [hcons, h, ih]

/-- the escape sets regenerated from the code -/
def E : S.Esc := ⟨unescPath, unescQuery⟩

theorem uriPath_eq (os : Opts) : M.uriPath os = S.uriPath E os :=
  loop_join (loop := M.uriPathLoop) (fun _ => rfl) (fun _ _ _ _ => rfl) os

theorem query_eq (os : Opts) : M.query os = S.uriQuery E os :=
  loop_join (loop := M.queryLoop) (fun _ => rfl) (fun _ _ _ _ => rfl) os

/-! ### coap_option_check_critical: the scan against the declarative predicates -/
theorem contains_filter (l : List Nat) (p : Nat → Bool) (n : Nat) (hp : p n = true) :
    (l.filter p).contains n = l.contains n := by
  rw [Bool.eq_iff_iff]; simp [List.mem_filter, hp]

/-- every coap_register_option() found a free slot and no number was registered twice -/
def fits (cfg : Cfg) : Prop :=
  M.knownFilter cfg = ⟨cfg.known.filter (fun n => decide (n ≤ 255)), cfg.known.filter (fun n => decide (n > 255))⟩

instance (cfg : Cfg) : Decidable (fits cfg) := by unfold fits; infer_instance

theorem known_get {cfg : Cfg} (h : fits cfg) (n : Nat) : (M.knownFilter cfg).get n = cfg.known.contains n := by
  rw [h]; unfold M.Filter.get
  by_cases hn : n > 255
  · simp only [hn, if_true]; exact contains_filter _ _ _ (by simp [hn])
  · simp only [hn, if_false]; exact contains_filter _ _ _ (by simp; omega)

/-- one iteration of the scan that has not stopped, against S's predicates.  The third part is what makes the `break`
harmless: a scan only stops with `ok = false`, so what it skips cannot change the verdict (`crit_fold`, case `true`) -/
theorem critStep_spec {known : M.Filter} {cfg : Cfg} (hk : ∀ n, known.get n = cfg.known.contains n) (fwd : Bool)
    (st : M.Crit) (hs : st.stop = false) (n : Nat) :
    (M.critStep known fwd st n).ok =
        (st.ok && !(S.unknownCritical cfg fwd n) && !(st.last == some n && S.nonRepeatable.contains n)) ∧
    ((M.critStep known fwd st n).stop = false →
        (M.critStep known fwd st n).last = some n ∧
        (M.critStep known fwd st n).critOpt = (st.critOpt || S.tolerated cfg fwd n)) ∧
    ((M.critStep known fwd st n).stop = true → (M.critStep known fwd st n).ok = false) := by
  unfold M.critStep
  rw [if_neg (by rw [hs]; exact Bool.false_ne_true), critical_eq, nonrep_eq]
  extract_lets st1
  -- the switch on odd numbers: only `ok` and `critOpt` can change
  have hsw : st1.last = st.last ∧ st1.stop = false ∧ st1.ok = (st.ok && !(S.unknownCritical cfg fwd n)) ∧
      st1.critOpt = (st.critOpt || S.tolerated cfg fwd n) := by
    simp only [st1, hk]
    unfold S.unknownCritical S.tolerated S.recognised
    by_cases h2 : n % 2 = 1
    · by_cases hq : n = 19 ∨ n = 31
      · rcases hq with rfl | rfl <;> simp [hs]
      · have b1 : (n != 19) = true := bne_iff_ne.mpr fun h => hq (Or.inl h)
        have b2 : (n != 31) = true := bne_iff_ne.mpr fun h => hq (Or.inr h)
        simp only [h2, hq, b1, b2, if_true, if_false, beq_self_eq_true, Bool.true_and, Bool.and_true]
        by_cases hb : n ∈ S.recognisedCritical
        · simp [hb, hs]
        · by_cases hkn : n ∈ cfg.known
          · simp [hb, hkn, hs]
          · by_cases hf : n / 2 % 2 = 0 <;> cases fwd <;> simp [hb, hkn, hf, hs]
    · simp [h2, hs]
  obtain ⟨hl, hst, hok, hc⟩ := hsw
  clear_value st1
  -- the repeat check: a second instance of a non-repeatable number clears `ok` and may stop the scan
  rw [hl]
  by_cases h1 : st.last = some n
  · by_cases h2 : S.nonRepeatable.contains n = true
    · rw [if_pos h1, if_pos h2]
      exact ⟨by simp [h1, List.contains_iff_mem.1 h2], fun _ => ⟨rfl, hc⟩, fun _ => rfl⟩
    · rw [if_pos h1, if_neg h2]
      exact ⟨by simp [hok, mt List.contains_iff_mem.2 h2], fun _ => ⟨rfl, hc⟩, fun h => absurd (hst.symm.trans h) (by decide)⟩
  · rw [if_neg h1]
    exact ⟨by simp [hok, h1], fun _ => ⟨rfl, hc⟩, fun h => absurd (hst.symm.trans h) (by decide)⟩

theorem fold_stop (known : M.Filter) (fwd : Bool) (st : M.Crit) (h : st.stop = true) (l : List Nat) :
    l.foldl (M.critStep known fwd) st = st := by
  induction l with
  | nil => rfl
  | cons n l ih => simp only [List.foldl]; rw [show M.critStep known fwd st n = st by simp [M.critStep, h]]; exact ih

theorem crit_fold {known : M.Filter} {cfg : Cfg} (hk : ∀ n, known.get n = cfg.known.contains n) (fwd : Bool)
    (l : List Nat) (st : M.Crit) (hs : st.stop = false) :
    (l.foldl (M.critStep known fwd) st).ok =
        (st.ok && !(l.any (S.unknownCritical cfg fwd)) && !(S.repeatFrom st.last l)) ∧
    ((l.foldl (M.critStep known fwd) st).ok = true →
        (l.foldl (M.critStep known fwd) st).critOpt = (st.critOpt || l.any (S.tolerated cfg fwd))) := by
  induction l generalizing st with
  | nil => simp [S.repeatFrom]
  | cons n l ih =>
    simp only [List.foldl]
    obtain ⟨h1, h2, h3⟩ := critStep_spec hk fwd st hs n
    cases hstop : (M.critStep known fwd st n).stop with
    | false =>
      obtain ⟨hl, hc⟩ := h2 hstop
      obtain ⟨i1, i2⟩ := ih (M.critStep known fwd st n) hstop
      rw [i1, h1, hl]
      constructor
      · simp only [List.any_cons, S.repeatFrom]
        cases st.ok <;> cases S.unknownCritical cfg fwd n <;> cases (st.last == some n && S.nonRepeatable.contains n) <;> simp
      · intro hok
        rw [i1, h1, hl] at i2
        rw [i2 hok, hc]
        simp only [List.any_cons, Bool.or_assoc]
    | true =>
      rw [fold_stop _ _ _ hstop]
      have hf := h3 hstop
      rw [hf]
      rw [h1] at hf
      constructor
      · simp only [List.any_cons, S.repeatFrom]
        revert hf
        cases st.ok <;> cases S.unknownCritical cfg fwd n <;> cases (st.last == some n && S.nonRepeatable.contains n) <;> simp
      · intro h; cases h

theorem critCheck_spec {cfg : Cfg} (hfit : fits cfg) (fwd : Bool) (os : Opts) :
    (M.critCheck (M.knownFilter cfg) fwd os).ok = !(S.badOption cfg fwd os) ∧
    ((M.critCheck (M.knownFilter cfg) fwd os).ok = true →
      (M.critCheck (M.knownFilter cfg) fwd os).critOpt = (os.map (·.1)).any (S.tolerated cfg fwd)) := by
  have h := crit_fold (known_get hfit) fwd (os.map (·.1)) ⟨true, M.Filter.empty, false, none, false⟩ rfl
  unfold M.critCheck S.badOption
  constructor
  · rw [h.1]; simp
  · intro hok; rw [h.2 hok]; simp

/-! ### no_response() + the tail of handle_request against S.deliver -/
theorem sendFix_of_ne (mc : Bool) (r : Reply) (h : r.code ≠ 168) : M.sendFix mc r = r := by
  simp [M.sendFix, h]

theorem codeClass_pos_ne_zero {c : Nat} (h : codeClass c > 0) : c ≠ 0 := by
  intro h0; subst h0; simp [codeClass] at h

theorem codeClass_zero : codeClass 0 = 0 := by decide

@[simp] theorem stripObserve_fields (o : Bool) (x : Reply) :
    (stripObserve o x).code = x.code ∧ (stripObserve o x).type = x.type ∧ (stripObserve o x).src = x.src ∧
    (stripObserve o x).mid = x.mid ∧ (stripObserve o x).token = x.token := by
  unfold stripObserve; split <;> exact ⟨rfl, rfl, rfl, rfl, rfl⟩
theorem ackStrip_of_ne (x : Reply) (h : x.code ≠ 0) : ackStrip x = x := by simp [ackStrip, h]
theorem stripObserve_emptied (o : Bool) (x : Reply) : stripObserve o (emptied x) = emptied x := by
  unfold stripObserve emptied; split <;> simp
theorem ackStrip_emptied (x : Reply) : ackStrip (emptied x) = emptied x := by
  unfold ackStrip; split <;> simp [emptied]

theorem noResponse_plain (cfg : Cfg) (rq : Request) (fl : Option Nat) (r : Reply) (hr : r.type ≠ RST)
    (hc : codeClass r.code > 0) (h258 : firstOpt rq.msg.opts 258 = none) :
    M.noResponse cfg rq fl r = (if S.mcastSuppressed cfg rq fl r then .drop else .dflt, r) := by
  have htail : M.mcastTail cfg rq fl r =
      if rq.mcast = true ∧ (fl.isNone = true ∨ cfg.mpr = false) ∧ codeClass r.code > 2 then .drop else .dflt := by
    unfold M.mcastTail
    cases rq.mcast <;> simp [hr]
  simp only [M.noResponse, hc, h258, if_true, htail]
  unfold S.mcastSuppressed
  cases hm : rq.mcast
  · cases fl <;> simp
  cases fl with
  | none => simp
  | some f =>
    cases hp : cfg.mpr
    · simp
    simp only [Bool.true_and, and_self, if_true, Option.isNone_some, Bool.false_eq_true]
    generalize codeClass r.code = cls
    by_cases h1 : flag f F_SUPPRESS_2_XX = true ∧ cls = 2
    · simp [h1]
    by_cases h2 : flag f F_SUPPRESS_2_05 = true ∧ r.code = 69
    · by_cases h3 : r.body = Body.bytes [] <;> simp [h1, h2, h3]
    have h1' := Decidable.not_and_iff_or_not.1 h1
    have h2' := Decidable.not_and_iff_or_not.1 h2
    simp only [Bool.not_eq_true] at h1' h2'
    by_cases h4 : flag f F_DIS_SUPPRESS_4_XX = false ∧ cls = 4
    · simp [h2', h4]
      exact fun a b => absurd ⟨a, b⟩ h2
    by_cases h5 : flag f F_DIS_SUPPRESS_5_XX = false ∧ cls = 5
    · simp [h2', h5]
      exact fun a b => absurd ⟨a, b⟩ h2
    · simp [h1, h2, h1', h2', h4, h5]

theorem deliver_eq (cfg : Cfg) (rq : Request) (fl : Option Nat) (obs : Bool) (r : Reply) (hr : r.type ≠ RST) :
    M.deliver cfg rq fl obs r =
      (S.deliver cfg rq fl obs r).map (fun x => if M.immediate cfg rq fl then M.sendFix rq.mcast x else x) := by
  unfold M.deliver
  by_cases hc : codeClass r.code > 0
  · have hc0 : codeClass r.code ≠ 0 := by omega
    have hcode : r.code ≠ 0 := codeClass_pos_ne_zero hc
    cases h258 : firstOpt rq.msg.opts 258 with
    | some v =>
      by_cases hbit : (2 ^ (codeClass r.code - 1)) &&& (uintOf v % 4294967296) > 0
      · by_cases hack : r.type = ACK <;>
          simp [M.noResponse, M.post, S.deliver, S.noResponseSays, hc, hc0, h258, hbit, hack, stripObserve_emptied,
            ackStrip_emptied]
      · simp [M.noResponse, M.post, S.deliver, S.noResponseSays, hc, hc0, h258, hbit, ackStrip_of_ne, hcode]
    | none =>
      rw [noResponse_plain cfg rq fl r hr hc h258]
      by_cases hs : S.mcastSuppressed cfg rq fl r = true <;>
        simp [M.post, S.deliver, S.noResponseSays, hc0, h258, hs, ackStrip_of_ne, hcode]
  · have hc0 : codeClass r.code = 0 := by omega
    have hc2 : ¬ codeClass r.code > 2 := by omega
    by_cases hz : r.code = 0 ∧ r.type = NON
    · simp [M.noResponse, M.post, S.deliver, hz, codeClass_zero]
    · have ht : M.mcastTail cfg rq fl r = .dflt := by
        unfold M.mcastTail; cases rq.mcast <;> simp [hr, hc2]
      simp [M.noResponse, M.post, S.deliver, hc0, hz, ht]

/-! ### SPEC DECISION D4: `erase` commutes with delivery -/
theorem erase_lib {r : Reply} (h : r.src = .lib) : r.erase = { r with opts := [], body := .bytes [] } := by
  simp [Reply.erase, h]
theorem erase_app {r : Reply} (h : r.src = .app) : r.erase = r := by
  simp [Reply.erase, h]

theorem ackStrip_stripObserve (o : Bool) (x : Reply) :
    ackStrip (stripObserve o x) = stripObserve o x ∨ ackStrip (stripObserve o x) = emptied x := by
  unfold ackStrip
  split
  · right; unfold stripObserve; split <;> rfl
  · left; rfl

theorem deliver_shape (cfg : Cfg) (rq : Request) (fl : Option Nat) (obs : Bool) (r : Reply) :
    S.deliver cfg rq fl obs r = [] ∨ S.deliver cfg rq fl obs r = [emptied r] ∨
    S.deliver cfg rq fl obs r = [stripObserve obs r] := by
  unfold S.deliver
  simp only
  split
  · split
    · simp
    · rcases ackStrip_stripObserve obs r with h | h <;> simp [h]
  · split
    · split <;> simp
    · simp
    · split <;> simp

structure Delivered (r x : Reply) : Prop where
  src : x.src = r.src
  code : x.code = r.code ∨ x.code = 0
  type : x.type = r.type
  mid : x.mid = r.mid
  token : x.code ≠ 0 → x.token = r.token

theorem deliver_mem (cfg : Cfg) (rq : Request) (fl : Option Nat) (obs : Bool) (r : Reply) :
    ∀ x ∈ S.deliver cfg rq fl obs r, Delivered r x := by
  intro x hx
  rcases deliver_shape cfg rq fl obs r with h | h | h <;> rw [h] at hx <;> simp at hx <;> subst hx <;>
    constructor <;> simp [emptied]

theorem sendFix_src (mc : Bool) (x : Reply) : (M.sendFix mc x).src = x.src := by
  unfold M.sendFix; split <;> rfl

theorem sendFix_type (mc : Bool) (x : Reply) : (M.sendFix mc x).type = x.type := by
  unfold M.sendFix; split <;> rfl

theorem deliver_type (cfg : Cfg) (rq : Request) (fl : Option Nat) (obs : Bool) (r : Reply) (hr : r.type ≠ RST) :
    ∀ y ∈ M.deliver cfg rq fl obs r, y.type = r.type := by
  intro y hy
  rw [deliver_eq cfg rq fl obs r hr] at hy
  obtain ⟨x, hx, rfl⟩ := List.mem_map.1 hy
  rw [← (deliver_mem cfg rq fl obs r x hx).type]
  split
  · exact sendFix_type _ _
  · rfl

theorem erase_sendFix_lib (mc : Bool) (x : Reply) (h : x.src = .lib) : (M.sendFix mc x).erase = x.erase := by
  rw [erase_lib (by rw [sendFix_src]; exact h), erase_lib h]
  unfold M.sendFix; split <;> rfl

theorem ackStrip_erase (x : Reply) (h : x.src = .lib) : (ackStrip x).erase = ackStrip x.erase := by
  unfold ackStrip
  have h1 : x.erase.type = x.type := by rw [erase_lib h]
  have h2 : x.erase.code = x.code := by rw [erase_lib h]
  rw [h1, h2]
  split
  · rw [erase_lib (by simp [emptied, h]), erase_lib h]; simp [emptied]
  · rfl

/-- S.deliver only looks at type and code of a library reply (and at its body only for 2.05) -/
theorem deliver_erase (cfg : Cfg) (rq : Request) (fl : Option Nat) (obs : Bool) (r : Reply)
    (hs : r.src = .lib) (h69 : r.code ≠ 69) :
    (S.deliver cfg rq fl obs r).map Reply.erase = S.deliver cfg rq fl obs r.erase := by
  have b69 : (r.code == 69) = false := by simp [h69]
  have hcode : r.erase.code = r.code := by rw [erase_lib hs]
  have htype : r.erase.type = r.type := by rw [erase_lib hs]
  have hsup : S.mcastSuppressed cfg rq fl r.erase = S.mcastSuppressed cfg rq fl r := by
    simp [S.mcastSuppressed, hcode, b69]
  have he : (emptied r).erase = emptied r.erase := by
    rw [erase_lib hs, erase_lib (by simp [emptied, hs])]; simp [emptied]
  have hst : (stripObserve obs r).erase = stripObserve obs r.erase := by
    rw [erase_lib hs, erase_lib (by simp [hs])]; unfold stripObserve; split <;> simp
  have hak : (ackStrip (stripObserve obs r)).erase = ackStrip (stripObserve obs r.erase) := by
    rw [ackStrip_erase _ (by simp [hs]), hst]
  by_cases h0 : codeClass r.code = 0
  · by_cases hz : r.code = 0 ∧ r.type = NON
    · simp [S.deliver, hz, hcode, htype, codeClass_zero]
    · simp [S.deliver, h0, hz, hcode, htype, hak]
  · cases hn : S.noResponseSays rq (codeClass r.code) with
    | none =>
      by_cases hsu : S.mcastSuppressed cfg rq fl r = true <;> simp [S.deliver, h0, hn, hsu, hsup, hcode, hst]
    | some b =>
      cases b
      · simp [S.deliver, h0, hn, hcode, hst]
      · by_cases hack : r.type = ACK <;> simp [S.deliver, h0, hn, hcode, htype, hack, he]

theorem deliver_lib {cfg : Cfg} {rq : Request} {fl : Option Nat} {obs : Bool} {r : Reply}
    (hs : r.src = .lib) (h69 : r.code ≠ 69) (hr : r.type ≠ RST) :
    (M.deliver cfg rq fl obs r).map Reply.erase = S.deliver cfg rq fl obs r.erase := by
  rw [deliver_eq cfg rq fl obs r hr, List.map_map, ← deliver_erase cfg rq fl obs r hs h69]
  apply List.map_congr_left
  intro x hx
  simp only [Function.comp]; split
  · exact erase_sendFix_lib _ _ ((deliver_mem cfg rq fl obs r x hx).src.trans hs)
  · rfl

theorem deliver_app {cfg : Cfg} {rq : Request} {fl : Option Nat} {obs : Bool} {r : Reply}
    (hs : r.src = .app) (h168 : r.code ≠ 168) (hr : r.type ≠ RST) :
    (M.deliver cfg rq fl obs r).map Reply.erase = S.deliver cfg rq fl obs r := by
  rw [deliver_eq cfg rq fl obs r hr, List.map_map]
  conv => rhs; rw [← List.map_id (S.deliver cfg rq fl obs r)]
  apply List.map_congr_left
  intro x hx
  have hd := deliver_mem cfg rq fl obs r x hx
  have hc : x.code ≠ 168 := by rcases hd.code with h | h <;> rw [h] <;> first | exact h168 | decide
  simp only [Function.comp, id, sendFix_of_ne _ _ hc, ite_self]
  exact erase_app (hd.src.trans hs)

/-! ### handle_request against S.handle -/

theorem pre_eq (tbl : Table) (rq : Request) (c : Bool) (os : Opts) :
    M.preStage tbl rq c os = S.pre E tbl rq c os := by
  unfold M.preStage S.pre M.hopBlock S.hopLimit M.pathBlock S.pathOf S.proxyHost
  simp only [uriPath_eq]
  rfl

theorem check_eq (cfg : Cfg) (rq : Request) (os : Opts) (sel : Sel) :
    M.checkStage cfg rq os sel = S.precond cfg rq os sel := rfl

theorem select_eq (tbl : Table) (code : Nat) (isProxy : Bool) (path : Bytes) :
    M.selectStage tbl code isProxy path = S.select tbl code isProxy path := by
  unfold M.selectStage S.select
  cases isProxy
  · cases findRes tbl.res path 0 with
    | some x => simp
    | none =>
      cases tbl.unk with
      | none => simp
      | some u => by_cases h : handlerBit u.mask code = true <;> simp [h]
  · cases tbl.prx <;> simp

theorem respType_ne_rst (t : Nat) : M.respType t ≠ RST := by
  unfold M.respType; split <;> decide

theorem respType_eq (t : Nat) : M.respType t = S.respType t := rfl

theorem erase_errReply (m : Msg) (os : Opts) (code : Nat) (f : M.Filter) :
    (M.errReply m os code f).erase = S.errReply m code := by
  simp [M.errReply, S.errReply, S.lib, Reply.erase, respType_eq]

theorem fail_eq {cfg : Cfg} {rq : Request} {os : Opts} {resp : Nat} {res : Option Nat} (h : resp ≠ 69) :
    (M.failResponse cfg rq os resp res).erase = ⟨true, S.deliver cfg rq res false (S.errReply rq.msg resp), none⟩ := by
  unfold M.failResponse Outcome.erase
  simp only
  rw [deliver_lib (by simp [M.errReply]) (by simpa [M.errReply] using h)
        (by simp [M.errReply]; exact respType_ne_rst _), erase_errReply]

theorem erase_emptyMsg (t mid : Nat) : (M.emptyMsg t mid).erase = S.lib t 0 mid [] := by
  simp [M.emptyMsg, S.lib, Reply.erase]

theorem erase_outcome (b : Bool) (rs : List Reply) (c : Option Call) :
    (Outcome.mk b rs c).erase = ⟨b, rs.map Reply.erase, c⟩ := rfl

theorem call_eq {cfg : Cfg} {rq : Request} {os : Opts} {path : Bytes} {sel : Sel} {observe : Bool} {resp1 : Reply}
    (hv : rq.verdict.code ≠ 168) (hs : resp1.src = .app) (ht : resp1.type = M.respType rq.msg.type) (hc : resp1.code = 0) :
    (M.callStage cfg rq os path sel observe resp1).erase = S.finish E cfg rq os path sel observe resp1 := by
  unfold M.callStage S.finish
  simp only [codeOk_eq, query_eq, hc]
  have hpre : ∀ b : Bool, (if b then [M.emptyMsg ACK rq.msg.mid] else []).map Reply.erase =
      (if b then [S.lib ACK 0 rq.msg.mid []] else []) := by
    intro b; cases b <;> simp [erase_emptyMsg]
  cases hw : sel.who with
  | none =>
    simp only [erase_outcome, List.map_append, hpre]
    rw [deliver_app (by simp [hs]) (by simp) (by simp [ht]; exact respType_ne_rst _)]
  | some who =>
    simp only
    by_cases hval : S.validCode (if rq.verdict.code = 0 then 0 else rq.verdict.code) = true
    · simp only [hval, not_true_eq_false, if_false]
      cases he : (sel.isPrx && rq.msg.type == CON)
      · simp only [Bool.false_eq_true, false_and, if_false, erase_outcome, List.map_append]
        rw [deliver_app (by simp [hs]) (by simp; split <;> simp [hv]) (by simp [ht]; exact respType_ne_rst _)]
        simp
      · by_cases h0 : (if rq.verdict.code = 0 then 0 else rq.verdict.code) = 0
        · simp [h0, erase_outcome, erase_emptyMsg]
        · simp only [h0, and_false, if_false, if_true, erase_outcome, List.map_append]
          rw [deliver_app (by simp [hs]) (by simp; split <;> simp [hv]) (by simp; decide)]
          simp [erase_emptyMsg]
    · cases he : (sel.isPrx && rq.msg.type == CON) <;> simp [hval, Outcome.erase, erase_emptyMsg]

theorem run_eq {cfg : Cfg} {rq : Request} {os : Opts} {path : Bytes} {sel : Sel} (hv : rq.verdict.code ≠ 168) :
    (M.runStage cfg rq os path sel).erase = S.run E cfg rq os path sel := by
  unfold M.runStage S.run S.blockNonZero
  simp only
  generalize (sel.observable && (rq.msg.code == 1 || rq.msg.code == 5) && hasOpt os 6) = observe
  cases observe with
  | false =>
    simp only [M.obsStage, Bool.false_eq_true, if_false, Bool.false_and]
    exact call_eq hv rfl rfl rfl
  | true =>
    by_cases ha : uintOf ((firstOpt os 6).getD []) % 4294967296 = 0
    · cases hb : (firstOpt os 23).bind block with
      | none =>
        simp [M.obsStage, ha, hb]
        exact call_eq hv rfl rfl rfl
      | some t =>
        obtain ⟨num, mb, szx⟩ := t
        by_cases hn : num = 0
        · subst hn
          simp [M.obsStage, ha, hb]
          exact call_eq hv rfl rfl rfl
        · simp [M.obsStage, ha, hb, hn]
          rw [erase_outcome, deliver_lib rfl (by simp) (respType_ne_rst _)]
          simp [Reply.erase, respType_eq]
    · simp [M.obsStage, ha]
      exact call_eq hv rfl rfl rfl

/-! ### the ways `S.pre` can end, stage by stage (proofs about its result go through `pre_elim`); no failure code of
the stages is 2.05, which is what `fail_eq` asks for -/
theorem pathOf_elim {P : Pre → Prop} (e : S.Esc) (rq : Request) (ip : Bool) (os : Opts)
    (ignore : P .ignore) (go : ∀ path, (hasOpt os 35 = false → path = S.uriPath e os) → P (.go ip os path)) :
    P (S.pathOf e rq ip os) := by
  unfold S.pathOf
  split
  · rename_i h
    split
    · exact go _ fun h' => absurd (h.symm.trans h') (by decide)
    · exact ignore
  · exact go _ fun _ => rfl

theorem hopLimit_elim {P : Pre → Prop} (e : S.Esc) (rq : Request) (ip own : Bool) (os : Opts)
    (f168 : P (.fail 168 none)) (f128 : P (.fail 128 none)) (ignore : P .ignore)
    (go : ∀ os' path, (os' = os ∨ ∃ k, os' = setHop k os) → (hasOpt os' 35 = false → path = S.uriPath e os') →
      P (.go ip os' path)) : P (S.hopLimit e rq ip own os) := by
  have same := pathOf_elim e rq ip os ignore fun _ => go _ _ (Or.inl rfl)
  unfold S.hopLimit
  split
  · exact same
  · split
    · exact same
    · dsimp only
      split
      · exact f168
      · split
        · exact f128
        · exact pathOf_elim e rq ip _ ignore fun _ => go _ _ (Or.inr ⟨_, rfl⟩)

theorem pre_elim {P : Pre → Prop} (e : S.Esc) (tbl : Table) (rq : Request) (c : Bool) (os : Opts)
    (fail : ∀ code fl, code ∈ [130, 165, 168, 128] → P (.fail code fl)) (ignore : P .ignore)
    (go : ∀ ip os' path, (os' = os ∨ ∃ k, os' = setHop k os) → (hasOpt os' 35 = false → path = S.uriPath e os') →
      (ip = true → hasOpt os 39 = true ∨ hasOpt os 35 = true) → P (.go ip os' path)) : P (S.pre e tbl rq c os) := by
  have hop : ∀ ip own, (ip = true → hasOpt os 39 = true ∨ hasOpt os 35 = true) → P (S.hopLimit e rq ip own os) :=
    fun ip own hip => hopLimit_elim e rq ip own os (fail _ _ (by decide)) (fail _ _ (by decide)) ignore
      fun os' path h1 h2 => go ip os' path h1 h2 hip
  unfold S.pre
  dsimp only
  by_cases h1 : hasOpt os 39 = true ∧ ¬ hasOpt os 3 = true
  · rw [if_pos h1]; exact fail _ _ (by decide)
  rw [if_neg h1]
  by_cases h2 : ¬ (hasOpt os 39 = true ∨ hasOpt os 35 = true)
  · rw [if_neg h2]; exact hop _ _ nofun
  have h2 := Decidable.not_not.1 h2
  rw [if_pos h2]
  cases tbl.prx with
  | none => exact fail _ _ (by decide)
  | some p =>
    dsimp only
    by_cases h3 : 1 ≤ rq.msg.code ∧ rq.msg.code ≤ 7 ∧ ¬ handlerBit p.mask rq.msg.code = true
    · rw [if_pos h3]; exact fail _ _ (by decide)
    rw [if_neg h3]
    cases S.proxyHost rq os with
    | none => exact fail _ _ (by decide)
    | some h =>
      dsimp only
      split
      · split
        · exact fail _ _ (by decide)
        · exact hop _ _ fun _ => h2
      · exact hop _ _ fun _ => h2

theorem pre_ne_205 {e : S.Esc} {tbl : Table} {rq : Request} {c : Bool} {os : Opts} {code : Nat} {fl : Option Nat} :
    S.pre e tbl rq c os = .fail code fl → code ≠ 69 :=
  pre_elim (P := fun p => p = .fail code fl → code ≠ 69) e tbl rq c os
    (fun _ _ h he h69 => by injection he with h1; subst h1 h69; exact absurd h (by decide)) nofun nofun

theorem select_ne_205 (tbl : Table) (code : Nat) (ip : Bool) (path : Bytes) : S.select tbl code ip path ≠ .inl 69 := by
  unfold S.select
  dsimp only
  repeat' split
  all_goals simp

theorem ite_some_ne {c : Prop} [Decidable c] {k a r : Nat} {x : Option Nat} (ha : a ≠ k) (hx : x = some r → r ≠ k) :
    (if c then some a else x) = some r → r ≠ k := by
  split
  · intro h; exact Option.some.inj h ▸ ha
  · exact hx

theorem precond_ne_205 {cfg : Cfg} {rq : Request} {os : Opts} {sel : Sel} {resp : Nat} :
    S.precond cfg rq os sel = some resp → resp ≠ 69 :=
  ite_some_ne (by decide) <| ite_some_ne (by decide) <| ite_some_ne (by decide) <| ite_some_ne (by decide) <|
    ite_some_ne (by decide) nofun

/-! ### a request that finds state left by earlier datagrams (`hit`, `dup`): with nothing found M's A-functions are the
fresh-context functions; M against S -/
theorem runStageA_false (cfg : Cfg) (rq : Request) (os : Opts) (path : Bytes) (sel : Sel) :
    M.runStageA false cfg rq os path sel = M.runStage cfg rq os path sel := by
  simp [M.runStageA]

theorem handleRequestA_fresh (cfg : Cfg) (tbl : Table) (rq : Request) (c : Bool) (os : Opts) :
    M.handleRequestA false false cfg tbl rq c os = M.handleRequest cfg tbl rq c os := by
  unfold M.handleRequestA M.handleRequest
  simp only [runStageA_false, Bool.false_eq_true, if_false]

theorem serverDecisionA_fresh (cfg : Cfg) (tbl : Table) (rq : Request) :
    M.serverDecisionA false false cfg tbl rq = M.serverDecision cfg tbl rq := by
  unfold M.serverDecisionA M.serverDecision
  simp only [handleRequestA_fresh]

theorem runA_eq {dup : Bool} {cfg : Cfg} {rq : Request} {os : Opts} {path : Bytes} {sel : Sel} (hv : rq.verdict.code ≠ 168) :
    (M.runStageA dup cfg rq os path sel).erase = S.runA E dup cfg rq os path sel := by
  unfold M.runStageA S.runA
  by_cases h : sel.isPrx = true ∧ rq.msg.type = CON ∧ dup = true
  · simp only [h, and_self, if_true, erase_outcome, List.map_cons, List.map_nil, erase_emptyMsg]
  · simp only [h, if_false]
    exact run_eq hv

theorem handleA_eq (hit dup : Bool) (cfg : Cfg) (tbl : Table) (rq : Request) (c : Bool) (hv : rq.verdict.code ≠ 168) :
    (M.handleRequestA hit dup cfg tbl rq c (clearBlock2M rq.msg.opts)).erase = S.handleA E hit dup cfg tbl rq c := by
  unfold M.handleRequestA S.handleA S.stagesA
  simp only [pre_eq, select_eq, check_eq]
  split
  · rfl
  · cases hit with
    | true =>
      simp only [if_true]
      by_cases ht : rq.msg.type = CON <;> simp [ht, erase_outcome, erase_emptyMsg]
    | false =>
      simp only [Bool.false_eq_true, if_false]
      cases hpre : S.pre E tbl rq c (clearBlock2M rq.msg.opts) with
      | fail code fl => exact fail_eq (pre_ne_205 hpre)
      | ignore => rfl
      | go ip os path =>
        simp only
        cases hsel : S.select tbl rq.msg.code ip path with
        | inl resp => exact fail_eq fun h => select_ne_205 tbl _ ip path (h ▸ hsel)
        | inr sel =>
          simp only
          cases hck : S.precond cfg rq os sel with
          | some resp => exact fail_eq (precond_ne_205 hck)
          | none => exact runA_eq hv

/-- the histories evolve alike because `erase` keeps the handler call -/
theorem seq_eq (cfg : Cfg) (tbl : Table)
    (hdec : ∀ hit dup rq, (M.serverDecisionA hit dup cfg tbl rq).erase = S.serverSpecA E hit dup cfg tbl rq)
    (evs : List Ev) (h : Hist) :
    (M.serverSeq cfg tbl h evs).map Outcome.erase = S.seqSpec E cfg tbl h evs := by
  unfold M.serverSeq S.seqSpec
  induction evs generalizing h with
  | nil => rfl
  | cons ev r ih =>
    simp only [seqRun, List.map_cons]
    have hc : (M.serverDecisionA (h.hit ev) (h.dup ev) cfg tbl ev.rq).call =
        (S.serverSpecA E (h.hit ev) (h.dup ev) cfg tbl ev.rq).call := by
      rw [← hdec]; rfl
    have ha : h.after ev (M.serverDecisionA (h.hit ev) (h.dup ev) cfg tbl ev.rq) =
        h.after ev (S.serverSpecA E (h.hit ev) (h.dup ev) cfg tbl ev.rq) := by
      unfold Hist.after Hist.noteCon; rw [hc]
    rw [hdec, ha, ih]

end Coap.Server.L
