import CoapVerif.Model.LinkFormat
/- Helper lemmas for C20: the output macros write exactly a window (`copy_closed`), the RESOURCES_ITER loop prints the
   comma-joined links (`wkLoop_eq`), `match()` is the specification's matching (`matchM_eq`), and the pieces of the
   filter — query splitter, attribute lookup, quote test — compute what the specification's `selects` uses. -/
namespace Coap.M.LF
open Coap Coap.LF

/-! ### the writer: closed form of COPY_COND_WITH_OFFSET from any state -/

theorem copy_nil (w : W) : copy w [] = w := rfl
theorem copy_cons (w : W) (c : UInt8) (s : Bytes) : copy w (c :: s) = copy (putc w c) s := rfl
theorem copy_append (w : W) (a b : Bytes) : copy w (a ++ b) = copy (copy w a) b := by
  simp [copy, List.foldl_append]
theorem putc_eq_copy (w : W) (c : UInt8) : putc w c = copy w [c] := rfl

theorem putc_full (w : W) (c : UInt8) (h : w.room = 0) : putc w c = { w with result := w.result + 1 } := by
  simp [putc, h]
theorem putc_store (w : W) (c : UInt8) (r : Nat) (h : w.room = r + 1) (ho : w.offset = 0) :
    putc w c = ⟨w.out ++ [c], r, 0, w.result + 1⟩ := by
  simp [putc, h, ho]
theorem putc_skip (w : W) (c : UInt8) (r o : Nat) (h : w.room = r + 1) (ho : w.offset = o + 1) :
    putc w c = ⟨w.out, r + 1, o, w.result + 1⟩ := by
  simp [putc, h, ho]

/-- sending the bytes `s` through the macros from state `w` appends exactly the
window `(s.drop offset).take room`, consumes `offset` (only while there is room) and counts `s`. -/
theorem copy_closed (s : Bytes) (w : W) :
    copy w s = ⟨w.out ++ (s.drop w.offset).take w.room,
                w.room - ((s.drop w.offset).take w.room).length,
                if w.room = 0 then w.offset else w.offset - s.length,
                w.result + s.length⟩ := by
  induction s generalizing w with
  | nil => cases w; simp [copy]
  | cons c s ih =>
    rw [copy_cons, ih]
    rcases w with ⟨out, room, offset, result⟩
    cases room with
    | zero => simp [putc]; omega
    | succ r =>
      cases offset with
      | zero =>
        rw [putc_store _ c r rfl rfl]
        simp
        omega
      | succ o =>
        rw [putc_skip _ c r o rfl rfl]
        simp
        omega

theorem copy_init (s : Bytes) (n off : Nat) :
    copy ⟨[], n, off, 0⟩ s = ⟨window s off n, n - (window s off n).length,
                               if n = 0 then off else off - s.length, s.length⟩ := by
  rw [copy_closed]; simp [window]

/-- a nested call on the rest of the buffer (`coap_print_link(r, p, &left, &offset)`) composes:
advancing `p` by what it wrote and adding what it counted is the same as writing in place -/
theorem copy_nested (w : W) (s : Bytes) :
    let v := copy ⟨[], w.room, w.offset, 0⟩ s
    copy w s = ⟨w.out ++ v.out, w.room - v.out.length, v.offset, w.result + v.result⟩ := by
  simp only [copy_closed]; simp

theorem copy_out_length_le (w : W) (s : Bytes) : (copy ⟨[], w.room, w.offset, 0⟩ s).out.length ≤ w.room := by
  rw [copy_closed]; simp; omega

theorem copy_room_le (w : W) (s : Bytes) : (copy w s).room ≤ w.room := by
  rw [copy_closed]; simp

/-! ### coap_print_link writes the RFC 6690 link -/

theorem putAttr_eq (w : W) (a : Attr) : putAttr w a = copy w (attrBytes a) := by
  unfold putAttr attrBytes
  cases a.value with
  | none => simp only [putc_eq_copy, ← copy_append]; congr 1; simp
  | some v => simp only [putc_eq_copy, ← copy_append]; congr 1; simp

theorem foldl_putAttr_eq (as : List Attr) (w : W) :
    as.foldl putAttr w = copy w (as.map attrBytes).flatten := by
  induction as generalizing w with
  | nil => rfl
  | cons a as ih => simp [List.foldl_cons, ih, putAttr_eq, copy_append]

theorem printBody_eq (r : Resource) (w : W) : printBody r w = copy w (link r) := by
  unfold printBody link
  simp only [foldl_putAttr_eq, putc_eq_copy]
  cases r.observable <;> cases r.oscoreOnly <;> simp only [← copy_append, if_true, if_false, Bool.false_eq_true] <;>
    congr 1 <;> simp

theorem printLink_eq (r : Resource) (n off : Nat) :
    printLink r n off =
      (let v := copy ⟨[], n, off, 0⟩ (link r); ⟨v.out, v.result, v.offset, finish v off⟩) := by
  simp [printLink, printBody_eq]

theorem finish_ok (w : W) (off : Nat) (h : w.out.length ≤ STATUS_MAX) :
    finish w off = ⟨w.out.length, decide (w.out.length + off - w.offset < w.result), false⟩ := by
  have h2 : w.out.length % 2 ^ 32 = w.out.length := Nat.mod_eq_of_lt (by simp [STATUS_MAX] at h; omega)
  simp only [finish, h2]
  rw [if_neg (by omega)]

/-! ### the RESOURCES_ITER loop prints the comma-joined links of the selected resources -/

/-- `joinComma` continued after `sub` links have already been written -/
def joinFrom : Bool → List Bytes → Bytes
  | _, [] => []
  | false, x :: r => x ++ joinFrom true r
  | true, x :: r => 0x2C :: x ++ joinFrom true r

theorem joinComma_cons (x : Bytes) (r : List Bytes) : joinComma (x :: r) = x ++ joinFrom true r := by
  induction r generalizing x with
  | nil => simp [joinComma, joinFrom]
  | cons y r ih => simp [joinComma, joinFrom, ih]

theorem joinComma_eq (l : List Bytes) : joinComma l = joinFrom false l := by
  cases l with
  | nil => rfl
  | cons x r => simp [joinComma_cons, joinFrom]

theorem isWk_eq (p : Bytes) : isWk p = (p == wkPath) := by
  by_cases h : p = wkPath
  · subst h; decide
  · have h1 : (p == wkPath) = false := by simpa using h
    rw [h1]
    by_cases hl : p.length = wkPath.length
    · have : p.length ≠ 0 := by rw [hl]; decide
      simp [isWk, h, this]
    · simp [isWk, hl]

/-- with `room ≤ COAP_PRINT_STATUS_MAX` every nested `printLink` returns a length that fits the status word, so the
error / `break` branch is dead and the loop is one `copy` of the comma-joined links -/
theorem wkLoop_eq (fp : FP) (sel : Resource → Bool) (hsel : ∀ r, selectsM fp r = R.ok (sel r)) :
    ∀ (t : Table) (w : W) (sub : Bool), w.room ≤ STATUS_MAX →
      wkLoop fp t w sub =
        R.ok (copy w (joinFrom sub ((t.filter (fun r => r.path != wkPath && sel r)).map link))) := by
  intro t
  induction t with
  | nil => intro w sub _; simp [wkLoop, joinFrom, copy_nil]
  | cons r rs ih =>
    intro w sub hroom
    unfold wkLoop
    rw [isWk_eq]
    by_cases hwk : (r.path == wkPath) = true
    · simp only [hwk, if_true]
      rw [ih w sub hroom]
      have hp : r.path = wkPath := by simpa using hwk
      simp [hp]
    · have hwk' : (r.path == wkPath) = false := by simpa using hwk
      have hp : ¬ r.path = wkPath := by simpa using hwk
      simp only [hwk', Bool.false_eq_true, if_false]
      rw [hsel r]
      cases hs : sel r with
      | false =>
        simp only []
        rw [ih w sub hroom]
        simp [hs]
      | true =>
        simp only []
        have hfil : (List.filter (fun r => r.path != wkPath && sel r) (r :: rs)) =
            r :: List.filter (fun r => r.path != wkPath && sel r) rs := by
          simp [hp, hs]
        rw [hfil]
        have hw1 : (if sub = true then putc w 0x2C else w) = copy w (if sub then [0x2C] else []) := by
          cases sub <;> simp [putc_eq_copy, copy_nil]
        rw [hw1]
        generalize hw1d : copy w (if sub then [0x2C] else []) = w1
        have hr1 : w1.room ≤ STATUS_MAX := by
          rw [← hw1d]; exact Nat.le_trans (copy_room_le _ _) hroom
        rw [printLink_eq]
        simp only []
        have hlen := copy_out_length_le w1 (link r)
        rw [finish_ok _ _ (Nat.le_trans hlen hr1)]
        simp only [Bool.false_eq_true, if_false]
        have hnest := copy_nested w1 (link r)
        simp only [] at hnest
        rw [← hnest]
        rw [ih _ true (Nat.le_trans (copy_room_le _ _) hr1)]
        rw [← hw1d, ← copy_append, ← copy_append]
        congr 2
        cases sub <;> simp [joinFrom]

/-! ### match() is the specification's matching -/

theorem memcmpEq_ok (a b : Bytes) (n : Nat) (ha : n ≤ a.length) (hb : n ≤ b.length) :
    memcmpEq a b n = R.ok (a.take n == b.take n) := by
  unfold memcmpEq
  rw [if_neg (by omega)]

theorem matchOne_take (pfx : Bool) (pat tok : Bytes) (plen tl : Nat) (hp : plen ≤ pat.length) (ht : tl ≤ tok.length) :
    matchOne pfx (pat.take plen) (tok.take tl) =
      (decide (if pfx = true then plen ≤ tl else plen = tl) && (tok.take plen == pat.take plen)) := by
  rw [Bool.eq_iff_iff]
  cases pfx with
  | true =>
    simp only [matchOne, if_true, List.isPrefixOf_iff_prefix, Bool.and_eq_true, decide_eq_true_eq, beq_iff_eq]
    constructor
    · intro h
      have hl := h.length_le
      simp only [List.length_take] at hl
      have hle : plen ≤ tl := by omega
      refine ⟨hle, ?_⟩
      have := List.prefix_iff_eq_take.mp h
      simp only [List.length_take, List.take_take] at this
      rw [Nat.min_eq_left hp, Nat.min_eq_left hle] at this
      exact this.symm
    · rintro ⟨hle, he⟩
      rw [← he]
      have : tok.take plen = (tok.take tl).take plen := by rw [List.take_take, Nat.min_eq_left hle]
      rw [this]
      exact List.take_prefix _ _
  | false =>
    simp only [matchOne, Bool.false_eq_true, if_false, Bool.and_eq_true, decide_eq_true_eq, beq_iff_eq]
    constructor
    · intro h
      have hl := congrArg List.length h
      simp only [List.length_take] at hl
      have hle : plen = tl := by omega
      subst hle
      exact ⟨rfl, h.symm⟩
    · rintro ⟨hle, he⟩
      subst hle
      exact he.symm

theorem tokens_cons_sp (r : Bytes) : tokens (0x20 :: r) = [] :: tokens r := by simp [tokens]

theorem tokens_cons_ne_nil (b : UInt8) (r : Bytes) (h : b ≠ 0x20) (hr : tokens r = []) :
    tokens (b :: r) = [[b]] := by
  simp [tokens, h, hr]

theorem tokens_cons_ne_cons (b : UInt8) (r t : Bytes) (ts : List Bytes) (h : b ≠ 0x20) (hr : tokens r = t :: ts) :
    tokens (b :: r) = (b :: t) :: ts := by
  simp [tokens, h, hr]

/-- what `memchr(p, ' ', n)` finds is where the first token of the first `n` bytes ends -/
theorem memchr_tokens : ∀ (n : Nat) (p : Bytes), n ≤ p.length → 0 < n →
    (memchrSp p n = R.ok none ∧ tokens (p.take n) = [p.take n]) ∨
    (∃ k, memchrSp p n = R.ok (some k) ∧ k < n ∧
          tokens (p.take n) = p.take k :: tokens ((p.drop (k + 1)).take (n - (k + 1)))) := by
  intro n
  induction n with
  | zero => intro p _ h; omega
  | succ m ih =>
    intro p hp _
    cases p with
    | nil => simp at hp
    | cons b r =>
      have hr : m ≤ r.length := by simpa using hp
      by_cases hb : b = 0x20
      · right
        refine ⟨0, by simp [memchrSp, hb], by omega, ?_⟩
        subst hb
        simp [tokens_cons_sp]
      · rw [List.take_succ_cons]
        cases m with
        | zero =>
          left
          simp [memchrSp, hb, tokens]
        | succ m' =>
          rcases ih r hr (by omega) with ⟨h1, h2⟩ | ⟨k, h1, h2, h3⟩
          · left
            rw [tokens_cons_ne_cons b _ _ _ hb h2]
            simp [memchrSp, hb, h1]
          · right
            refine ⟨k + 1, by simp [memchrSp, hb, h1], by omega, ?_⟩
            rw [tokens_cons_ne_cons b _ _ _ hb h3]
            simp

theorem tokens_length_le : ∀ (v : Bytes) (t : Bytes), t ∈ tokens v → t.length ≤ v.length
  | [], t, h => by simp [tokens] at h
  | b :: r, t, h => by
    have ih := tokens_length_le r
    by_cases hb : b = 0x20
    · subst hb
      rw [tokens_cons_sp] at h
      rcases List.mem_cons.mp h with rfl | h
      · exact Nat.zero_le _
      · exact Nat.le_succ_of_le (ih t h)
    · cases hr : tokens r with
      | nil =>
        rw [tokens_cons_ne_nil b r hb hr] at h
        rw [List.mem_singleton.mp h]
        exact Nat.succ_le_succ (Nat.zero_le _)
      | cons t0 ts =>
        rw [tokens_cons_ne_cons b r t0 ts hb hr] at h
        rw [hr] at ih
        rcases List.mem_cons.mp h with rfl | h
        · exact Nat.succ_le_succ (ih t0 List.mem_cons_self)
        · exact Nat.le_succ_of_le (ih t (List.mem_cons_of_mem _ h))

/-- the body of the token loop for one token `tok[0..tl)`: it is compared iff its length suits the pattern -/
theorem matchToken_step (pat tok : Bytes) (plen tl : Nat) (pfx : Bool) (hp : plen ≤ pat.length) (ht : tl ≤ tok.length)
    (rest : R Bool) (b : Bool) (hrest : rest = R.ok b) :
    (if (if pfx then plen ≤ tl else plen = tl) then
        match memcmpEq tok pat plen with
        | R.ok true => R.ok true
        | R.ok false => rest
        | R.rej => R.rej
        | R.oob => R.oob
      else rest) = R.ok (matchOne pfx (pat.take plen) (tok.take tl) || b) := by
  rw [matchOne_take pfx pat tok plen tl hp ht, hrest]
  by_cases hc : (if pfx = true then plen ≤ tl else plen = tl)
  · rw [if_pos hc]
    have hpl : plen ≤ tok.length := by split at hc <;> omega
    rw [memcmpEq_ok tok pat plen hpl hp]
    cases he : (tok.take plen == pat.take plen) <;> simp [hc]
  · rw [if_neg hc]
    simp [hc]

theorem matchTokens_eq (pat : Bytes) (plen : Nat) (pfx : Bool) (hp : plen ≤ pat.length) :
    ∀ (fuel : Nat) (tok : Bytes) (remaining : Nat), remaining < fuel → remaining ≤ tok.length →
      matchTokens fuel tok remaining pat plen pfx =
        R.ok ((tokens (tok.take remaining)).any (matchOne pfx (pat.take plen))) := by
  intro fuel
  induction fuel with
  | zero => intro tok remaining h; omega
  | succ fuel ih =>
    intro tok remaining hf hr
    unfold matchTokens
    by_cases h0 : remaining = 0
    · simp [h0, tokens]
    · rw [if_neg h0]
      rcases memchr_tokens remaining tok hr (by omega) with ⟨h1, h2⟩ | ⟨k, h1, h2, h3⟩
      · have hrec : matchTokens fuel [] 0 pat plen pfx = R.ok false := by
          cases fuel <;> simp [matchTokens]
        rw [h1, h2]
        simp only [List.any_cons, List.any_nil]
        exact matchToken_step pat tok plen remaining pfx hp hr _ _ hrec
      · have hrec := ih (tok.drop (k + 1)) (remaining - (k + 1)) (by omega) (by simp; omega)
        rw [h1, h3]
        simp only [List.any_cons]
        exact matchToken_step pat tok plen k pfx hp (by omega) _ _ hrec

theorem matchM_eq (text pat : Bytes) (tlen plen : Nat) (pfx sub : Bool)
    (ht : tlen ≤ text.length) (hp : plen ≤ pat.length) :
    matchM text tlen (some pat) plen pfx sub = R.ok (matchSpec pfx sub (pat.take plen) (text.take tlen)) := by
  unfold matchM matchSpec
  by_cases hlt : tlen < plen
  · rw [if_pos hlt]
    cases sub with
    | true =>
      simp only [if_true]
      have : (tokens (text.take tlen)).any (matchOne pfx (pat.take plen)) = false := by
        rw [List.any_eq_false]
        intro t htm
        have hl := tokens_length_le _ t htm
        simp only [List.length_take] at hl
        have htl : t.length ≤ t.length := Nat.le_refl _
        have := matchOne_take pfx pat t plen t.length hp htl
        rw [List.take_length] at this
        rw [this]
        have : ¬ (if pfx = true then plen ≤ t.length else plen = t.length) := by split <;> omega
        simp [this]
      rw [this]
    | false =>
      simp only [Bool.false_eq_true, if_false]
      rw [matchOne_take pfx pat text plen tlen hp ht]
      have : ¬ (if pfx = true then plen ≤ tlen else plen = tlen) := by split <;> omega
      simp [this]
  · rw [if_neg hlt]
    simp only []
    cases sub with
    | true =>
      simp only [if_true]
      exact matchTokens_eq pat plen pfx hp (tlen + 1) text tlen (by omega) ht
    | false =>
      simp only [Bool.false_eq_true, if_false]
      rw [matchOne_take pfx pat text plen tlen hp ht, memcmpEq_ok text pat plen (by omega) hp]
      cases pfx with
      | true =>
        have : plen ≤ tlen := by omega
        simp [this]
      | false => by_cases he : plen = tlen <;> simp [he]

theorem matchM_none (text : Bytes) (tlen plen : Nat) (pfx sub : Bool) :
    matchM text tlen none plen pfx sub = R.ok false := by
  unfold matchM
  split <;> rfl

/-! ### the pieces of the per-resource filter: query splitter, attribute lookup, unquoting -/

theorem scanEq_eq (q : Bytes) : scanEq q = (q.takeWhile (· != 0x3D)).length := by
  induction q with
  | nil => rfl
  | cons b r ih =>
    by_cases h : (b != 0x3D) = true
    · simp [scanEq, h, ih]
    · simp [scanEq, h]

theorem scanEq_le (q : Bytes) : scanEq q ≤ q.length := by
  rw [scanEq_eq]; exact (List.takeWhile_prefix _).length_le

theorem take_scanEq (q : Bytes) : q.take (scanEq q) = q.takeWhile (· != 0x3D) := by
  rw [scanEq_eq]; exact (List.prefix_iff_eq_take.mp (List.takeWhile_prefix _)).symm

theorem nameIs_eq (q : Bytes) (n : Nat) (lit : Bytes) (hn : n ≤ q.length) :
    nameIs q n lit = R.ok (q.take n == lit) := by
  unfold nameIs
  by_cases h : n = lit.length
  · rw [if_pos h, memcmpEq_ok q lit lit.length (by omega) (Nat.le_refl _), List.take_length, h]
  · rw [if_neg h]
    have : (q.take n == lit) = false := by
      rw [beq_eq_false_iff_ne]
      intro he
      have := congrArg List.length he
      simp at this; omega
    rw [this]

theorem isListAttrM_eq (q : Bytes) (n : Nat) (hn : n ≤ q.length) (l : List Bytes) :
    isListAttrM q n l = R.ok (l.any (q.take n == ·)) := by
  induction l with
  | nil => rfl
  | cons a rest ih =>
    unfold isListAttrM
    rw [nameIs_eq q n a hn]
    cases h : (q.take n == a) <;> simp only [List.any_cons, h, ih, Bool.false_or, Bool.true_or]

theorem findAttrM_eq (q : Bytes) (n : Nat) (hn : n ≤ q.length) (as : List Attr) :
    findAttrM q n as = R.ok (findAttr (q.take n) as) := by
  induction as with
  | nil => rfl
  | cons a rest ih =>
    unfold findAttrM findAttr
    by_cases h : a.name.length = n
    · rw [if_pos h, memcmpEq_ok a.name q n (by omega) hn]
      have : a.name.take n = a.name := by rw [← h, List.take_length]
      rw [this]
      cases he : (a.name == q.take n) <;> simp [ih]
    · rw [if_neg h]
      have : (a.name == q.take n) = false := by
        rw [beq_eq_false_iff_ne]
        intro he
        have := congrArg List.length he
        simp at this; omega
      simp [this, ih]

theorem firstIs_eq (p : Bytes) (c : UInt8) : firstIs p p.length c = R.ok (p.head? == some c) := by
  cases p with
  | nil => simp [firstIs]
  | cons b r => simp [firstIs, rd]

theorem lastIs_eq (p : Bytes) (c : UInt8) : lastIs p p.length c = R.ok (p.getLast? == some c) := by
  cases p with
  | nil => simp [lastIs]
  | cons b r =>
    have : (b :: r)[(b :: r).length - 1]? = (b :: r).getLast? := (List.getLast?_eq_getElem? (l := b :: r)).symm
    simp only [lastIs, rd, this]
    cases h : (b :: r).getLast? with
    | none => simp at h
    | some x => simp

theorem isQuoted_eq (v : Bytes) :
    isQuoted v = R.ok (decide (2 ≤ v.length ∧ v.head? = some 0x22 ∧ v.getLast? = some 0x22)) := by
  unfold isQuoted
  by_cases h : v.length < 2
  · rw [if_pos h]; simp; intro h2; omega
  · rw [if_neg h, firstIs_eq]
    have h2 : 2 ≤ v.length := by omega
    cases hf : (v.head? == some 0x22) with
    | false =>
      have : ¬ v.head? = some 0x22 := by simpa using hf
      simp [this]
    | true =>
      have : v.head? = some 0x22 := by simpa using hf
      simp only [lastIs_eq]
      congr 1
      rw [Bool.eq_iff_iff]
      simp [this, h2]

theorem stripSlash_eq (tok : Bytes) :
    stripSlash tok = if (tok.head? == some 0x2F) = true then tok.drop 1 else tok := by
  unfold stripSlash
  by_cases h : tok.head? = some 0x2F
  · simp [h]
  · simp [h]

theorem starSplit_eq (p : Bytes) :
    starSplit p = (p.getLast? == some 0x2A,
                   p.take (if (p.getLast? == some 0x2A) = true then p.length - 1 else p.length)) := by
  unfold starSplit
  by_cases h : p.getLast? = some 0x2A
  · simp [h, List.dropLast_eq_take]
  · simp [h]

theorem unquote_eq (v : Bytes) :
    unquote v = if 2 ≤ v.length ∧ v.head? = some 0x22 ∧ v.getLast? = some 0x22
                then (v.drop 1).take (v.length - 2) else v := by
  unfold unquote
  split
  · rw [List.dropLast_eq_take, List.length_tail, ← List.drop_one]
    congr 1
  · rfl

theorem isListAttr_any (name : Bytes) : ([sRt, sIf, sRel].any (name == ·)) = isListAttr name := by
  simp [isListAttr, List.any, Bool.or_assoc]

theorem parseFilter_some (q : Bytes) (hlt : scanEq q < q.length) :
    ∃ p1 plen st,
      parseFilter (some q) =
        R.ok ⟨scanEq q, q, some p1, plen, q.take (scanEq q) == sHref, st, isListAttr (q.take (scanEq q))⟩ ∧
      plen ≤ p1.length ∧
      starSplit (if (q.take (scanEq q) == sHref) = true then stripSlash (q.drop (scanEq q + 1))
                 else q.drop (scanEq q + 1)) = (st, p1.take plen) := by
  have hn := scanEq_le q
  unfold parseFilter
  simp only []
  rw [if_pos hlt, nameIs_eq q _ _ hn, isListAttrM_eq q _ hn, isListAttr_any]
  simp only []
  have hl0 : q.length - (scanEq q + 1) = (q.drop (scanEq q + 1)).length := by simp
  rw [hl0, firstIs_eq]
  simp only []
  generalize q.drop (scanEq q + 1) = tok
  generalize (q.take (scanEq q) == sHref) = uri
  -- S strips the slash of an `href` token; the code tests `s[0] == '/'` first and the flag then: the same token either way
  have hp1 : (if uri = true then stripSlash tok else tok) =
      if (tok.head? == some 0x2F && uri) = true then tok.drop 1 else tok := by
    rw [stripSlash_eq]
    cases uri <;> cases (tok.head? == some 0x2F) <;> rfl
  generalize (tok.head? == some 0x2F && uri) = sl at hp1 ⊢
  have hl1 : (if sl = true then tok.length - 1 else tok.length) = (if sl = true then tok.drop 1 else tok).length := by
    cases sl <;> simp
  rw [hl1]
  generalize (if sl = true then tok.drop 1 else tok) = p1 at hp1 ⊢
  rw [lastIs_eq]
  exact ⟨_, _, _, rfl, by split <;> omega, by rw [hp1, starSplit_eq]⟩

end Coap.M.LF
