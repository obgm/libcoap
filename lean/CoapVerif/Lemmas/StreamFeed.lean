import CoapVerif.Lemmas.Stream
/- C05, TCP: the reader of `coap_read_session` against the framing of the specification.
   `stateOf pend` is the reader state that holds the bytes `pend` of an unfinished frame.  S reads a stream as whole
   frames (`OneFrame`) followed by a proper frame prefix (`Pend`) or a header that declares too much (`TooBig`); one round
   of the reader's loop takes bytes up to the next of these points (`loop_round`), so the loop on a chunk is S on
   pending ++ chunk (`loop_eq_frames`).  S is an online parser (`frames_append`) whose leftover is a proper frame
   prefix, so one call and a whole sequence of calls are S on the concatenation (`call_eq_frames`, `feed_eq_frames`). -/
namespace Coap
open Coap.M Coap.M.Stream Coap.Spec.Stream

/-- `pend` sits in `read_header` while the header is incomplete, in `partial_pdu` after -/
def stateOf (pend : Bytes) : St :=
  match pend with
  | [] => ⟨[], 0, none⟩
  | b0 :: _ =>
    if pend.length < hdrLen b0 then ⟨pend, pend.length, none⟩
    else ⟨[], pend.length, some ⟨headerSize .tcp b0.toNat, declared (pend.take (hdrLen b0)), pend⟩⟩

def outOf : End → Out
  | .open l => .cont (stateOf l)
  | .closed => .closed

def conv (r : List Msg × End) : List Msg × Out := (r.1, outOf r.2)

/-- a proper prefix of a frame within `max`: the header is incomplete, or it is complete, declares at most `max`, and
the frame is not -/
def Pend (max : Nat) (pend : Bytes) : Prop :=
  match pend with
  | [] => True
  | b0 :: _ => pend.length < hdrLen b0 ∨
      (declared (pend.take (hdrLen b0)) ≤ max ∧ pend.length < fixedLen b0 + declared (pend.take (hdrLen b0)))

/-- the receive maximum handed to the reader: positive, and with the largest header within COAP_DEFAULT_MAX_PDU_RX_SIZE -/
def Cap (maxRcv : Nat) : Prop := 0 < maxRcv ∧ maxRcv + maxHdr ≤ maxRx

theorem pduAlloc_refuses_iff (maxRcv size : Nat) (hc : Cap maxRcv) :
    (size > maxRx ∨ pduAlloc maxRcv size = false) ↔ maxRcv < size := by
  obtain ⟨h0, h1⟩ := hc
  simp only [maxHdr, maxRx] at h1
  simp only [pduAlloc, maxRx, maxHdr]
  constructor
  · intro h
    rcases h with h | h
    · omega
    · by_cases a : maxRcv > 8388864 - 6
      · omega
      · by_cases b : min maxRcv 256 < size
        · by_cases c : maxRcv ≠ 0 ∧ size > maxRcv
          · exact c.2
          · simp [a, b, c] at h
        · simp [a, b] at h
  · intro h
    right
    have a : ¬ (maxRcv > 8388864 - 6) := by omega
    have b : min maxRcv 256 < size := by omega
    have c : maxRcv ≠ 0 ∧ size > maxRcv := ⟨by omega, h⟩
    simp [a, b, c]

theorem headerSize_pos (x : Nat) : headerSize .tcp x ≠ 0 := by
  simp only [headerSize]; split <;> (try split) <;> (try split) <;> omega

theorem loop_nil (m fuel : Nat) (st : St) : loop m fuel st [] = ([], .cont st) := by
  cases fuel <;> simp [loop]

theorem frames_full (m f : Nat) (bs : Bytes) (b0 : UInt8) (r : Bytes) (hbs : bs = b0 :: r) (h : ¬ bs.length < hdrLen b0) :
    frames m (f + 1) bs =
      if m < declared (bs.take (hdrLen b0)) then ([], .closed) else
      if bs.length < fixedLen b0 + declared (bs.take (hdrLen b0)) then ([], .open bs) else
      (deliver (Spec.decode .tcp (bs.take (fixedLen b0 + declared (bs.take (hdrLen b0)))))
        (frames m f (bs.drop (fixedLen b0 + declared (bs.take (hdrLen b0))))).1,
       (frames m f (bs.drop (fixedLen b0 + declared (bs.take (hdrLen b0))))).2) := by
  subst hbs; simp only [frames, if_neg h]

theorem frames_pend (m : Nat) (pend : Bytes) (fS : Nat) (hp : Pend m pend) (hf : pend.length < fS) :
    frames m fS pend = ([], .open pend) := by
  cases fS with
  | zero => omega
  | succ f =>
    cases pend with
    | nil => simp [frames]
    | cons b0 p =>
      simp only [frames]
      rcases hp with h | ⟨h1, h2⟩
      · rw [if_pos h]
      · by_cases hh : (b0 :: p).length < hdrLen b0
        · rw [if_pos hh]
        · rw [if_neg hh, if_neg (Nat.not_lt.mpr h1), if_pos h2]

def TooBig (m : Nat) (a : Bytes) : Prop :=
  ∃ b0 r, a = b0 :: r ∧ hdrLen b0 ≤ a.length ∧ m < declared (a.take (hdrLen b0))

def OneFrame (m : Nat) (a : Bytes) : Prop :=
  ∃ b0 r, a = b0 :: r ∧ hdrLen b0 ≤ a.length ∧ declared (a.take (hdrLen b0)) ≤ m ∧
    a.length = fixedLen b0 + declared (a.take (hdrLen b0))

theorem OneFrame.two_le {m : Nat} {a : Bytes} (h : OneFrame m a) : 2 ≤ a.length := by
  obtain ⟨b0, _, _, _, _, ht⟩ := h
  have := fixedLen_ge b0
  omega

theorem frames_closed (m f : Nat) (a rest : Bytes) (h : TooBig m a) : frames m (f + 1) (a ++ rest) = ([], .closed) := by
  obtain ⟨b0, r, ha, hl, hbig⟩ := h
  rw [frames_full m f (a ++ rest) b0 (r ++ rest) (by rw [ha]; rfl) (by rw [List.length_append]; omega),
    List.take_append_of_le_length hl, if_pos hbig]

theorem frames_frame (m f : Nat) (a rest : Bytes) (h : OneFrame m a) :
    frames m (f + 1) (a ++ rest) = (deliver (Spec.decode .tcp a) (frames m f rest).1, (frames m f rest).2) := by
  obtain ⟨b0, r, ha, hl, hd, ht⟩ := h
  rw [frames_full m f (a ++ rest) b0 (r ++ rest) (by rw [ha]; rfl) (by rw [List.length_append]; omega),
    List.take_append_of_le_length hl, if_neg (Nat.not_lt.mpr hd), if_neg (by rw [List.length_append]; omega),
    List.take_left' ht, List.drop_left' ht]

theorem stateOf_hdr (bs : Bytes) (b0 : UInt8) (r : Bytes) (hbs : bs = b0 :: r) (h : bs.length < hdrLen b0) :
    stateOf bs = ⟨bs, bs.length, none⟩ := by
  subst hbs; simp only [stateOf, if_pos h]

theorem stateOf_body (bs : Bytes) (b0 : UInt8) (r : Bytes) (hbs : bs = b0 :: r) (h : ¬ bs.length < hdrLen b0) :
    stateOf bs = ⟨[], bs.length, some ⟨headerSize .tcp b0.toNat, declared (bs.take (hdrLen b0)), bs⟩⟩ := by
  subst hbs; simp only [stateOf, if_neg h]

theorem loop_idle (m f : Nat) (c : UInt8) (cs : Bytes) :
    loop m (f + 1) (stateOf []) (c :: cs) = loop m f (stateOf [c]) cs := by
  rw [stateOf_hdr [c] c [] rfl (hdrLen_ge c)]
  simp [stateOf, loop, headerSize_pos]

theorem loop_hdr_short (m f : Nat) (pend bs : Bytes) (b0 : UInt8) (p : Bytes) (hpe : pend = b0 :: p) (hbs : bs ≠ [])
    (hs : pend.length + bs.length < hdrLen b0) :
    loop m (f + 1) (stateOf pend) bs = ([], .cont (stateOf (pend ++ bs))) := by
  subst hpe
  rw [stateOf_hdr _ b0 p rfl (by omega), stateOf_hdr ((b0 :: p) ++ bs) b0 (p ++ bs) rfl (by rw [List.length_append]; exact hs),
    List.length_append]
  have hl := hdrLen_eq b0
  have h8 := hdrLen_le b0
  have hne : ¬ bs.length = 0 := by
    intro h; exact hbs (List.eq_nil_of_length_eq_zero h)
  have hpos : (b0 :: p).length > 0 := by simp
  have hmin : min (hdrLen b0 - (b0 :: p).length) bs.length = bs.length := Nat.min_eq_right (by omega)
  have h1 : ¬ ((b0 :: p).length + bs.length > rhCap) := by simp only [rhCap]; omega
  have h2 : ¬ (bs.length = hdrLen b0 - (b0 :: p).length) := by omega
  simp only [loop, if_neg hne, if_pos hpos, rd_cons_zero, ← hl, hmin, if_neg h1, if_neg h2,
    List.take_length, List.drop_length, loop_nil]

theorem loop_hdr_full (m f : Nat) (hc : Cap m) (pend bs hdr : Bytes) (b0 : UInt8) (p : Bytes) (k : Nat) (hpe : pend = b0 :: p)
    (hp : pend.length < hdrLen b0) (hk : k = hdrLen b0 - pend.length) (hkl : k ≤ bs.length) (hh : hdr = pend ++ bs.take k) :
    loop m (f + 1) (stateOf pend) bs =
      if m < declared hdr then ([], .closed)
      else if declared hdr = 0 then
        (deliverR (parsePdu (headerSize .tcp b0.toNat) hdr) (loop m f (stateOf []) (bs.drop k)).1,
         (loop m f (stateOf []) (bs.drop k)).2)
      else loop m f (stateOf hdr) (bs.drop k) := by
  subst hpe hk
  have hlen : hdr.length = hdrLen b0 := by
    rw [hh, List.length_append, List.length_take, Nat.min_eq_left hkl]; omega
  have hcons : hdr = b0 :: (p ++ bs.take (hdrLen b0 - (b0 :: p).length)) := by rw [hh]; rfl
  have htk : hdr.take (hdrLen b0) = hdr := List.take_of_length_le (Nat.le_of_eq hlen)
  have hst := stateOf_body hdr b0 _ hcons (by omega)
  have e0 : stateOf [] = ⟨[], 0, none⟩ := rfl
  rw [htk, hlen] at hst
  rw [stateOf_hdr _ b0 p rfl hp, hst, e0]
  have hl := hdrLen_eq b0
  have h8 := hdrLen_le b0
  have hne : ¬ bs.length = 0 := by omega
  have hpos : (b0 :: p).length > 0 := by simp
  have hmin : min (hdrLen b0 - (b0 :: p).length) bs.length = hdrLen b0 - (b0 :: p).length := Nat.min_eq_left hkl
  have h1 : ¬ ((b0 :: p).length + (hdrLen b0 - (b0 :: p).length) > rhCap) := by simp only [rhCap]; omega
  have hps : parseSizeTcp hdr = R.ok (declared hdr) := by
    have h := parseSize_eq_declared b0 _ (by rw [← hcons, hlen]; exact Nat.le_refl _)
    rw [← hcons, htk] at h; exact h
  simp only [loop, if_neg hne, if_pos hpos, rd_cons_zero, ← hl, hmin, if_neg h1, if_true, List.take_length, ← hh, hps, htk]
  by_cases hbig : m < declared hdr
  · rw [if_pos hbig]
    rcases (pduAlloc_refuses_iff m _ hc).mpr hbig with h | h
    · rw [if_pos h]
    · by_cases h' : declared hdr > maxRx
      · rw [if_pos h']
      · rw [if_neg h', if_pos h]
  · rw [if_neg hbig]
    have hn := mt (pduAlloc_refuses_iff m _ hc).mp hbig
    rw [if_neg (fun h => hn (Or.inl h)), if_neg (fun h => hn (Or.inr h))]

theorem loop_body_short (m f : Nat) (pend bs : Bytes) (b0 : UInt8) (p : Bytes) (hpe : pend = b0 :: p)
    (hH : ¬ pend.length < hdrLen b0) (hbs : bs ≠ [])
    (hk : pend.length + bs.length < fixedLen b0 + declared (pend.take (hdrLen b0))) :
    loop m (f + 1) (stateOf pend) bs = ([], .cont (stateOf (pend ++ bs))) := by
  rw [stateOf_body _ b0 p hpe hH, stateOf_body (pend ++ bs) b0 (p ++ bs) (by rw [hpe]; rfl) (by rw [List.length_append]; omega),
    List.take_append_of_le_length (by omega), List.length_append]
  rw [fixedLen_eq] at hk
  generalize declared (pend.take (hdrLen b0)) = d at hk ⊢
  generalize headerSize .tcp b0.toNat = hs at hk ⊢
  have hne : ¬ bs.length = 0 := by
    intro h; exact hbs (List.eq_nil_of_length_eq_zero h)
  have hmin : min (d + hs - pend.length) bs.length = bs.length := Nat.min_eq_right (by omega)
  have h2 : ¬ (bs.length = d + hs - pend.length) := by omega
  simp only [loop, if_neg hne, hmin, if_neg h2, List.take_length, List.drop_length, loop_nil]

theorem loop_body_full (m f : Nat) (pend bs : Bytes) (b0 : UInt8) (p : Bytes) (k : Nat) (hpe : pend = b0 :: p)
    (hH : ¬ pend.length < hdrLen b0) (hL : pend.length < fixedLen b0 + declared (pend.take (hdrLen b0)))
    (hk : k = fixedLen b0 + declared (pend.take (hdrLen b0)) - pend.length) (hkl : k ≤ bs.length) :
    loop m (f + 1) (stateOf pend) bs =
      (deliverR (parsePdu (headerSize .tcp b0.toNat) (pend ++ bs.take k)) (loop m f (stateOf []) (bs.drop k)).1,
       (loop m f (stateOf []) (bs.drop k)).2) := by
  have e0 : stateOf [] = ⟨[], 0, none⟩ := rfl
  rw [stateOf_body _ b0 p hpe hH, e0]
  rw [fixedLen_eq] at hk hL
  generalize declared (pend.take (hdrLen b0)) = d at hk hL ⊢
  generalize headerSize .tcp b0.toNat = hs at hk hL ⊢
  have hne : ¬ bs.length = 0 := by omega
  have hkd : d + hs - pend.length = k := by omega
  simp only [loop, if_neg hne, hkd, Nat.min_eq_left hkl, if_true, List.take_length]

theorem loop_round (m f : Nat) (hc : Cap m) (pend chunk : Bytes) (hp : Pend m pend) (hne : chunk ≠ []) :
    ∃ k, 0 < k ∧ k ≤ chunk.length ∧
      ((Pend m (pend ++ chunk.take k) ∧
          loop m (f + 1) (stateOf pend) chunk = loop m f (stateOf (pend ++ chunk.take k)) (chunk.drop k)) ∨
       (TooBig m (pend ++ chunk.take k) ∧ loop m (f + 1) (stateOf pend) chunk = ([], .closed)) ∨
       (OneFrame m (pend ++ chunk.take k) ∧
          loop m (f + 1) (stateOf pend) chunk =
            (deliver (Spec.decode .tcp (pend ++ chunk.take k)) (loop m f (stateOf []) (chunk.drop k)).1,
             (loop m f (stateOf []) (chunk.drop k)).2))) := by
  have hpos : 0 < chunk.length := List.length_pos_iff.mpr hne
  rcases hpe : pend with _ | ⟨b0, p⟩
  · obtain ⟨c, cs, rfl⟩ := List.exists_cons_of_ne_nil hne
    exact ⟨1, Nat.one_pos, by simp, Or.inl ⟨Or.inl (hdrLen_ge c), loop_idle m f c cs⟩⟩
  rw [← hpe]
  have h2f := fixedLen_ge b0
  by_cases hH : pend.length < hdrLen b0
  · by_cases hs : pend.length + chunk.length < hdrLen b0
    · refine ⟨chunk.length, hpos, Nat.le_refl _, Or.inl ?_⟩
      rw [List.take_length, List.drop_length, loop_nil]
      refine ⟨?_, loop_hdr_short m f pend chunk b0 p hpe hne hs⟩
      rw [hpe]; left; rw [← hpe, List.length_append]; exact hs
    · generalize hk : hdrLen b0 - pend.length = k
      have hkl : k ≤ chunk.length := by omega
      generalize hh : pend ++ chunk.take k = hdr
      have hlen : hdr.length = hdrLen b0 := by
        rw [← hh, List.length_append, List.length_take, Nat.min_eq_left hkl]; omega
      have hcons : hdr = b0 :: (p ++ chunk.take k) := by rw [← hh, hpe]; rfl
      have htk : hdr.take (hdrLen b0) = hdr := List.take_of_length_le (Nat.le_of_eq hlen)
      have htd := tokExt_lt_declared hdr b0 _ hcons (Nat.le_of_eq hlen.symm)
      rw [htk] at htd
      have hHdr : hdrLen b0 = fixedLen b0 + tokExtBytes (b0.toNat % 16) := rfl
      refine ⟨k, by omega, hkl, ?_⟩
      rw [hh, loop_hdr_full m f hc pend chunk hdr b0 p k hpe hH hk.symm hkl hh.symm]
      by_cases hbig : m < declared hdr
      · exact Or.inr (Or.inl ⟨⟨b0, _, hcons, Nat.le_of_eq hlen.symm, by rw [htk]; exact hbig⟩, if_pos hbig⟩)
      · rw [if_neg hbig]
        by_cases hz : declared hdr = 0
        · -- nothing declared: no token extension bytes either (`htd`), the header is the whole frame
          have hfr : OneFrame m hdr := ⟨b0, _, hcons, Nat.le_of_eq hlen.symm, by rw [htk]; omega, by rw [htk]; omega⟩
          refine Or.inr (Or.inr ⟨hfr, ?_⟩)
          rw [if_pos hz, deliverR, parsePdu_eq_decode hdr b0 _ hcons (Nat.le_of_eq hlen.symm) (by rw [htk]; omega)]
        · refine Or.inl ⟨?_, if_neg hz⟩
          rw [hcons]; right; rw [← hcons, htk]; exact ⟨by omega, by omega⟩
  · have hp' : declared (pend.take (hdrLen b0)) ≤ m ∧ pend.length < fixedLen b0 + declared (pend.take (hdrLen b0)) := by
      rw [hpe] at hp ⊢
      rcases hp with h | h
      · exact absurd h (by rw [← hpe]; exact hH)
      · exact h
    have htk : ∀ x : Bytes, (pend ++ x).take (hdrLen b0) = pend.take (hdrLen b0) :=
      fun x => List.take_append_of_le_length (by omega)
    by_cases hs : pend.length + chunk.length < fixedLen b0 + declared (pend.take (hdrLen b0))
    · refine ⟨chunk.length, hpos, Nat.le_refl _, Or.inl ?_⟩
      rw [List.take_length, List.drop_length, loop_nil]
      refine ⟨?_, loop_body_short m f pend chunk b0 p hpe hH hne hs⟩
      rw [hpe, List.cons_append]; right; rw [← List.cons_append, ← hpe, htk, List.length_append]; exact ⟨hp'.1, hs⟩
    · generalize hk : fixedLen b0 + declared (pend.take (hdrLen b0)) - pend.length = k
      have hkl : k ≤ chunk.length := by omega
      have hlen : (pend ++ chunk.take k).length = fixedLen b0 + declared (pend.take (hdrLen b0)) := by
        rw [List.length_append, List.length_take, Nat.min_eq_left hkl]; omega
      have hcons : pend ++ chunk.take k = b0 :: (p ++ chunk.take k) := by rw [hpe]; rfl
      have hfr : OneFrame m (pend ++ chunk.take k) :=
        ⟨b0, _, hcons, by rw [List.length_append]; omega, by rw [htk]; exact hp'.1, by rw [htk]; exact hlen⟩
      refine ⟨k, by omega, hkl, Or.inr (Or.inr ⟨hfr, ?_⟩)⟩
      rw [loop_body_full m f pend chunk b0 p k hpe hH hp'.2 hk.symm hkl, deliverR,
        parsePdu_eq_decode _ b0 _ hcons (by rw [List.length_append]; omega) (by rw [htk]; exact hlen)]

theorem loop_eq_frames (m : Nat) (hc : Cap m) : ∀ (fM : Nat) (chunk pend : Bytes) (fS : Nat),
    chunk.length < fM → (pend ++ chunk).length < fS → Pend m pend →
    loop m fM (stateOf pend) chunk = conv (frames m fS (pend ++ chunk)) := by
  intro fM
  induction fM with
  | zero => intro chunk pend fS h; omega
  | succ fM ih =>
    intro chunk pend fS h2 h3 hp
    by_cases hne : chunk = []
    · subst hne
      rw [loop_nil, List.append_nil, frames_pend m pend fS hp (by simpa using h3)]
      rfl
    obtain ⟨fS, rfl⟩ : ∃ k, fS = k + 1 := ⟨fS - 1, by omega⟩
    obtain ⟨k, hk0, hkl, hr⟩ := loop_round m fM hc pend chunk hp hne
    have hsplit : pend ++ chunk = (pend ++ chunk.take k) ++ chunk.drop k := by
      rw [List.append_assoc, List.take_append_drop]
    have hdl : (chunk.drop k).length + k = chunk.length := by rw [List.length_drop]; omega
    rw [hsplit] at h3 ⊢
    rcases hr with ⟨hp', e⟩ | ⟨hb, e⟩ | ⟨hfr, e⟩
    · rw [e]; exact ih _ _ (fS + 1) (by omega) h3 hp'
    · rw [e, frames_closed m fS _ _ hb]; rfl
    · have := hfr.two_le
      rw [List.length_append] at h3
      have hih := ih (chunk.drop k) [] fS (by omega) (by simp only [List.nil_append]; omega) trivial
      rw [List.nil_append] at hih
      rw [e, hih, frames_frame m fS _ _ hfr]; rfl

/-- S reads a stream as whole frames followed by a proper frame prefix, or by a header that declares too much: what
holds of a result built that way holds of `frames` -/
theorem frames_ind (m : Nat) (P : Bytes → List Msg × End → Prop)
    (pend : ∀ bs, Pend m bs → P bs ([], .open bs))
    (closed : ∀ bs, TooBig m bs → P bs ([], .closed))
    (frame : ∀ a rest res, OneFrame m a → P rest res → P (a ++ rest) (deliver (Spec.decode .tcp a) res.1, res.2)) :
    ∀ (f : Nat) (bs : Bytes), bs.length < f → P bs (frames m f bs) := by
  intro f
  induction f with
  | zero => intro bs h; omega
  | succ f ih =>
    intro bs h
    by_cases hp : Pend m bs
    · rw [frames_pend m bs _ hp h]; exact pend bs hp
    rcases bs with _ | ⟨b0, r⟩
    · exact absurd trivial hp
    have hH : hdrLen b0 ≤ (b0 :: r).length := Nat.le_of_not_lt fun h => hp (Or.inl h)
    by_cases hbig : m < declared ((b0 :: r).take (hdrLen b0))
    · have ht : TooBig m (b0 :: r) := ⟨b0, r, rfl, hH, hbig⟩
      have e := frames_closed m f _ [] ht
      rw [List.append_nil] at e
      rw [e]; exact closed _ ht
    · -- a whole frame is there: the token extension bytes are part of what the header declares
      generalize hn : fixedLen b0 + declared ((b0 :: r).take (hdrLen b0)) = n
      have hnl : n ≤ (b0 :: r).length := Nat.le_of_not_lt fun h => hp (Or.inr ⟨Nat.le_of_not_lt hbig, hn ▸ h⟩)
      have h2f := fixedLen_ge b0
      have htd := tokExt_lt_declared (b0 :: r) b0 r rfl hH
      have hHdr : hdrLen b0 = fixedLen b0 + tokExtBytes (b0.toNat % 16) := rfl
      have htk : ((b0 :: r).take n).take (hdrLen b0) = (b0 :: r).take (hdrLen b0) := by
        rw [List.take_take, Nat.min_eq_left (by omega)]
      have hfr : OneFrame m ((b0 :: r).take n) :=
        ⟨b0, r.take (n - 1), by rw [show n = (n - 1) + 1 by omega]; rfl, by rw [List.length_take]; omega,
          by rw [htk]; omega, by rw [htk, List.length_take]; omega⟩
      have hdl : ((b0 :: r).drop n).length < f := by rw [List.length_drop]; omega
      rw [← List.take_append_drop n (b0 :: r), frames_frame m f _ _ hfr]
      exact frame _ _ _ hfr (ih _ hdl)

theorem frames_fuel (m : Nat) (f1 f2 : Nat) (bs : Bytes) (h1 : bs.length < f1) (h2 : bs.length < f2) :
    frames m f1 bs = frames m f2 bs := by
  refine (frames_ind m (fun bs res => ∀ f2, bs.length < f2 → res = frames m f2 bs) ?_ ?_ ?_ f1 bs h1) f2 h2
  · intro bs hp f2 h; exact (frames_pend m bs f2 hp h).symm
  · intro bs ht f2 h
    obtain ⟨f2, rfl⟩ : ∃ k, f2 = k + 1 := ⟨f2 - 1, by omega⟩
    have e := frames_closed m f2 _ [] ht
    rw [List.append_nil] at e
    exact e.symm
  · intro a rest res hfr ih f2 h
    obtain ⟨f2, rfl⟩ : ∃ k, f2 = k + 1 := ⟨f2 - 1, by omega⟩
    have := hfr.two_le
    rw [List.length_append] at h
    rw [frames_frame m f2 _ _ hfr, ← ih f2 (by omega)]

theorem deliver_append (x : Option Msg) (a b : List Msg) : deliver x (a ++ b) = deliver x a ++ b := by
  cases x <;> rfl

/-- how the specification continues after a prefix: S is an online parser -/
def after (m : Nat) (r : List Msg × End) (b : Bytes) : List Msg × End :=
  match r.2 with
  | .open l => (r.1 ++ (framesOf m (l ++ b)).1, (framesOf m (l ++ b)).2)
  | .closed => (r.1, .closed)

theorem frames_append (m : Nat) (fa : Nat) (a b : Bytes) (h : a.length < fa) :
    framesOf m (a ++ b) = after m (frames m fa a) b := by
  refine frames_ind m (fun a res => framesOf m (a ++ b) = after m res b) ?_ ?_ ?_ fa a h
  · intro a _; simp [after]
  · intro a ht; exact frames_closed m _ a b ht
  · intro a rest res hfr ih
    have := hfr.two_le
    rw [List.append_assoc, framesOf, frames_frame m _ _ _ hfr,
      frames_fuel m _ ((rest ++ b).length + 1) _ (by simp only [List.length_append]; omega) (Nat.lt_succ_self _)]
    change (deliver _ (framesOf m (rest ++ b)).1, (framesOf m (rest ++ b)).2) = _
    rw [ih]
    obtain ⟨ms, e⟩ := res
    cases e with
    | «open» l => simp only [after]; rw [deliver_append]
    | closed => simp only [after]

theorem frames_leftover_pend (m : Nat) (f : Nat) (a : Bytes) (ms : List Msg) (l : Bytes) (h : a.length < f)
    (he : frames m f a = (ms, .open l)) : Pend m l := by
  refine frames_ind m (fun _ res => ∀ ms, res = (ms, .open l) → Pend m l) ?_ ?_ ?_ f a h ms he
  · intro bs hp ms e
    simp only [Prod.mk.injEq, End.open.injEq] at e
    exact e.2 ▸ hp
  · intro bs _ ms e; cases e
  · intro a rest res _ ih ms e
    exact ih res.1 (Prod.ext rfl (show res.2 = .open l from congrArg Prod.snd e))

theorem framesOf_pend (m : Nat) (pend : Bytes) (hp : Pend m pend) : framesOf m pend = ([], .open pend) :=
  frames_pend m pend _ hp (Nat.lt_succ_self _)

theorem framesOf_append (m : Nat) (a b : Bytes) : framesOf m (a ++ b) = after m (framesOf m a) b :=
  frames_append m _ a b (Nat.lt_succ_self _)

theorem framesOf_leftover_pend {m : Nat} {a : Bytes} {ms : List Msg} {l : Bytes} (he : framesOf m a = (ms, .open l)) :
    Pend m l :=
  frames_leftover_pend m _ a ms l (Nat.lt_succ_self _) he

theorem conv_after_closed (m : Nat) (ms : List Msg) (b : Bytes) : conv (after m (ms, .closed) b) = (ms, .closed) := rfl

theorem call_eq_frames (m : Nat) (hc : Cap m) : ∀ (fuel : Nat) (avail pend : Bytes), avail.length < fuel → Pend m pend →
    call m fuel (stateOf pend) avail = conv (framesOf m (pend ++ avail)) := by
  intro fuel
  induction fuel with
  | zero => intro avail pend h; omega
  | succ f ih =>
    intro avail pend h hp
    have hloop : loop m ((avail.take rxBuf).length + 1) (stateOf pend) (avail.take rxBuf) =
        conv (framesOf m (pend ++ avail.take rxBuf)) :=
      loop_eq_frames m hc _ _ pend _ (Nat.lt_succ_self _) (Nat.lt_succ_self _) hp
    have hsplit : pend ++ avail = (pend ++ avail.take rxBuf) ++ avail.drop rxBuf := by
      rw [List.append_assoc, List.take_append_drop]
    simp only [call]
    rw [hloop, hsplit, framesOf_append m (pend ++ avail.take rxBuf)]
    cases hrr : framesOf m (pend ++ avail.take rxBuf) with | mk ms e =>
    cases e with
    | closed => rfl
    | «open» l =>
      have hpl : Pend m l := framesOf_leftover_pend hrr
      simp only [conv, outOf, after]
      by_cases hfull : (avail.take rxBuf).length = rxBuf
      · rw [if_pos hfull]
        have hdl : (avail.drop rxBuf).length < f := by
          rw [List.length_take] at hfull
          rw [List.length_drop]; simp only [rxBuf] at hfull ⊢; omega
        rw [ih (avail.drop rxBuf) l hdl hpl]
        rfl
      · rw [if_neg hfull]
        have hlt : avail.length < rxBuf := by
          rw [List.length_take] at hfull; omega
        have hd0 : avail.drop rxBuf = [] := List.drop_eq_nil_of_le (by omega)
        rw [hd0, List.append_nil, framesOf_pend m l hpl]
        simp

theorem feed_eq_frames (m : Nat) (hc : Cap m) : ∀ (chunks : List Bytes) (pend : Bytes), Pend m pend →
    feed m (stateOf pend) chunks = conv (framesOf m (pend ++ chunks.flatten)) := by
  intro chunks
  induction chunks with
  | nil =>
    intro pend hp
    simp only [feed, List.flatten_nil, List.append_nil]
    rw [framesOf_pend m pend hp]; rfl
  | cons c cs ih =>
    intro pend hp
    have hcall := call_eq_frames m hc (c.length + 1) c pend (Nat.lt_succ_self _) hp
    simp only [feed, List.flatten_cons]
    rw [hcall, ← List.append_assoc, framesOf_append m (pend ++ c)]
    cases hrr : framesOf m (pend ++ c) with | mk ms e =>
    cases e with
    | closed => rfl
    | «open» l =>
      have hpl : Pend m l := framesOf_leftover_pend hrr
      simp only [conv, outOf, after]
      rw [ih l hpl]
      rfl
end Coap
