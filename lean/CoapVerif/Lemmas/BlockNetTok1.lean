import CoapVerif.Model.BlockNetTok1
import CoapVerif.Lemmas.BlockNetTok
/- Tokens in the composed Block1 system (C09): invariant `T1Inv` of `b1tStep` and the step lemma
   `rspStep1T_spec`: the token shown to the response handler is the application's or belongs to an lg_xmit / lg_crcv
   released before the response was dispatched.  Second half: `b1tStep` is simulated by `b1Step` on the state without tokens
   (`absB1`, `b1t_simulated`), so the body theorem of the composed Block1 system carries over. -/
namespace Coap.Block

theorem tokHit_false {tok a : Bytes} {st : Nat} (h : tokHit tok a st = false) :
    stateTokenBase (decodeVar8 tok) ≠ stateTokenBase st ∧ tok ≠ a := by
  simpa [tokHit] using h

theorem tokHit_of_base {tok a : Bytes} {st : Nat} (h : stateTokenBase (decodeVar8 tok) = stateTokenBase st) :
    tokHit tok a st = true := by
  simp [tokHit, h]

theorem tokHit_true {tok a : Bytes} {st : Nat} (h : tokHit tok a st = true) :
    stateTokenBase (decodeVar8 tok) = stateTokenBase st ∨ tok = a := by
  by_cases hb : stateTokenBase (decodeVar8 tok) = stateTokenBase st
  · exact Or.inl hb
  · by_cases ha : tok = a
    · exact Or.inr ha
    · simp [tokHit, hb, ha] at h

/-- bases of the transfer state the session holds -/
def live1 (c : Cli1T) (b : Nat) : Prop :=
  (∃ xm, c.xmit = some xm ∧ b = stateTokenBase xm.state) ∨ (∃ cr, c.crcv = some cr ∧ b = stateTokenBase cr.state)

/-- a token on the wire: the application's, or generated from the state token of an lg_xmit / lg_crcv that exists or existed -/
def Tok1OK (app : Bytes) (c : Cli1T) (t : Bytes) : Prop :=
  t = app ∨ live1 c (stateTokenBase (decodeVar8 t)) ∨ stateTokenBase (decodeVar8 t) ∈ c.released

structure Cli1Inv (app : Bytes) (c : Cli1T) : Prop where
  xa : ∀ xm, c.xmit = some xm → xm.appTok = app
  ca : ∀ cr, c.crcv = some cr → cr.appTok = app
  link : ∀ xm, c.xmit = some xm → xm.link = true →
    ∃ cr, c.crcv = some cr ∧ stateTokenBase cr.state = stateTokenBase xm.state

def Cli1Le (c c' : Cli1T) : Prop :=
  (∀ b, live1 c b → live1 c' b ∨ b ∈ c'.released) ∧ (∀ b ∈ c.released, b ∈ c'.released)

theorem Tok1OK.mono {app c c' t} (h : Tok1OK app c t) (hle : Cli1Le c c') : Tok1OK app c' t := by
  rcases h with h | h | h
  · exact Or.inl h
  · exact Or.inr (hle.1 _ h)
  · exact Or.inr (Or.inr (hle.2 _ h))

theorem Cli1Le.refl (c : Cli1T) : Cli1Le c c := ⟨fun _ h => Or.inl h, fun _ h => h⟩

theorem unlinkXmit_some {x : Option XmitT} {xm : XmitT} (h : unlinkXmit x = some xm) :
    ∃ xm0, x = some xm0 ∧ xm = { xm0 with link := false } := by
  cases x with
  | none => cases h
  | some xm0 => cases h; exact ⟨xm0, rfl, rfl⟩

/-- coap_block_delete_lg_crcv (time-out, or the response without Block2 that ends the transfer) -/
theorem dropCrcv_spec (app : Bytes) (c : Cli1T) (cr : CrcvL) (hc : c.crcv = some cr) (hinv : Cli1Inv app c) :
    Cli1Le c { c with crcv := none, xmit := unlinkXmit c.xmit, released := c.released ++ [stateTokenBase cr.state] } ∧
    Cli1Inv app { c with crcv := none, xmit := unlinkXmit c.xmit, released := c.released ++ [stateTokenBase cr.state] } := by
  refine ⟨⟨?_, fun b hb => List.mem_append_left _ hb⟩, ⟨?_, fun cr' h' => (by cases h'), ?_⟩⟩
  · intro b hb
    rcases hb with ⟨xm, hx, rfl⟩ | ⟨cr', hc', rfl⟩
    · exact Or.inl (Or.inl ⟨{ xm with link := false }, by rw [hx]; rfl, rfl⟩)
    · rw [hc] at hc'; cases hc'
      exact Or.inr (List.mem_append_right _ List.mem_cons_self)
  · intro xm hx
    obtain ⟨xm0, h0, rfl⟩ := unlinkXmit_some hx
    exact hinv.xa xm0 h0
  · intro xm hx hl
    obtain ⟨xm0, h0, rfl⟩ := unlinkXmit_some hx
    cases hl

/-- coap_block_delete_lg_xmit of an lg_xmit (time-out, or `lg_xmit_finished:` without lg_crcv) -/
theorem dropXmit_spec (app : Bytes) (c : Cli1T) (xm : XmitT) (hx : c.xmit = some xm) (hinv : Cli1Inv app c) :
    Cli1Le c { c with xmit := none, released := c.released ++ [stateTokenBase xm.state] } ∧
    Cli1Inv app { c with xmit := none, released := c.released ++ [stateTokenBase xm.state] } := by
  refine ⟨⟨?_, fun b hb => List.mem_append_left _ hb⟩, ⟨fun xm' h' => (by cases h'), hinv.ca, fun xm' h' => (by cases h')⟩⟩
  intro b hb
  rcases hb with ⟨xm0, hx0, rfl⟩ | ⟨cr, hc, rfl⟩
  · rw [hx] at hx0; cases hx0
    exact Or.inr (List.mem_append_right _ List.mem_cons_self)
  · exact Or.inl (Or.inr ⟨cr, hc, rfl⟩)

theorem getStep1T_spec (app : Bytes) (c1 : Cli1T) (tok1 : Bytes) (hinv : Cli1Inv app c1) :
    Cli1Le c1 (getStep1T c1 tok1).1 ∧ Cli1Inv app (getStep1T c1 tok1).1 ∧
    ((getStep1T c1 tok1).2 = app ∨
      ((getStep1T c1 tok1).2 = tok1 ∧ (getStep1T c1 tok1).1 = c1 ∧
        ∀ cr, c1.crcv = some cr → tokHit tok1 cr.appTok cr.state = false)) := by
  unfold getStep1T
  cases hc : c1.crcv with
  | none =>
    exact ⟨Cli1Le.refl _, hinv, Or.inr ⟨rfl, rfl, fun cr h => by cases h⟩⟩
  | some cr =>
    dsimp only
    by_cases hh : tokHit tok1 cr.appTok cr.state = true
    · rw [if_pos hh]
      obtain ⟨hle, hinv'⟩ := dropCrcv_spec app c1 cr hc hinv
      exact ⟨hle, hinv', Or.inl (hinv.ca cr hc)⟩
    · have hf : tokHit tok1 cr.appTok cr.state = false := Bool.eq_false_iff.2 hh
      rw [if_neg hh]
      refine ⟨Cli1Le.refl _, hinv, Or.inr ⟨rfl, rfl, ?_⟩⟩
      intro cr' h'
      cases h'
      exact hf

theorem keepXmit_spec (app : Bytes) (c : Cli1T) (xm xm' : XmitT) (hx : c.xmit = some xm) (ha : xm'.appTok = xm.appTok)
    (hs : xm'.state = xm.state) (hl : xm'.link = xm.link) (hinv : Cli1Inv app c) :
    Cli1Le c { c with xmit := some xm' } ∧ Cli1Inv app { c with xmit := some xm' } := by
  refine ⟨⟨?_, fun b hb => hb⟩, ⟨?_, hinv.ca, ?_⟩⟩
  · intro b hb
    left
    rcases hb with ⟨xm0, hx0, rfl⟩ | ⟨cr, hc, rfl⟩
    · rw [hx] at hx0; cases hx0
      exact Or.inl ⟨xm', rfl, by rw [hs]⟩
    · exact Or.inr ⟨cr, hc, rfl⟩
  · intro xm0 h0
    cases h0
    rw [ha]; exact hinv.xa xm hx
  · intro xm0 h0 hl0
    cases h0
    rw [hl] at hl0
    obtain ⟨cr, hc, hb⟩ := hinv.link xm hx hl0
    exact ⟨cr, hc, by rw [hs]; exact hb⟩

theorem sendStep1T_miss (room : Nat) (c : Cli1T) (tok : Bytes) (ok : Bool) (blk : Option (Nat × Nat))
    (h : ∀ xm, c.xmit = some xm → tokHit tok xm.appTok xm.state = false) :
    sendStep1T room c tok ok blk = { c := c, ret := false, tok := tok, out := none, req := none } := by
  unfold sendStep1T
  cases hx : c.xmit with
  | none => rfl
  | some xm => simp only [h xm hx, Bool.false_eq_true, if_false]

/-- The three ways coap_handle_response_send_block returns 0 (last conjunct):
the lg_xmit finished without lg_crcv and the application's token is put back; no lg_xmit was selected, nothing changed; the lg_xmit
finished with its lg_crcv linked, the token is left as it is and selects that lg_crcv (or is the application's) — `getStep1T` will
hit it -/
theorem sendStep1T_spec (room : Nat) (app : Bytes) (c : Cli1T) (tok : Bytes) (ok : Bool) (blk : Option (Nat × Nat))
    (hinv : Cli1Inv app c) :
    Cli1Le c (sendStep1T room c tok ok blk).c ∧ Cli1Inv app (sendStep1T room c tok ok blk).c ∧
    (∀ q t, (sendStep1T room c tok ok blk).req = some (q, t) → Tok1OK app (sendStep1T room c tok ok blk).c t) ∧
    ((sendStep1T room c tok ok blk).ret = false →
      (sendStep1T room c tok ok blk).tok = app ∨ ((sendStep1T room c tok ok blk).tok = tok ∧
        (((sendStep1T room c tok ok blk).c = c ∧ ∀ xm, c.xmit = some xm → tokHit tok xm.appTok xm.state = false) ∨
         ∃ cr, (sendStep1T room c tok ok blk).c.crcv = some cr ∧
           (stateTokenBase (decodeVar8 tok) = stateTokenBase cr.state ∨ tok = app)))) := by
  by_cases hmiss : ∀ xm, c.xmit = some xm → tokHit tok xm.appTok xm.state = false
  · rw [sendStep1T_miss room c tok ok blk hmiss]
    exact ⟨Cli1Le.refl c, hinv, fun q t ht => (by cases ht), fun _ => Or.inr ⟨rfl, Or.inl ⟨rfl, hmiss⟩⟩⟩
  cases hx : c.xmit with
  | none => exact absurd (fun xm h' => by rw [hx] at h'; cases h') hmiss
  | some xm =>
    cases hh : tokHit tok xm.appTok xm.state with
    | false => exact absurd (fun xm' h' => by rw [hx] at h'; cases h'; exact hh) hmiss
    | true =>
      rcases hs : xmitB1Step xm.x room ok blk with ⟨st, o⟩
      have happ := hinv.xa xm hx
      generalize hres : sendStep1T room c tok ok blk = res
      unfold sendStep1T at hres
      cases st with
      | some x' =>
        -- the lg_xmit stays: return 1
        cases o with
        | sendNext n m sx p =>
          simp only [hx, hh, hs, if_true] at hres
          subst hres
          obtain ⟨k1, k2⟩ := keepXmit_spec app c xm { xm with x := x', count := (xm.count + 1) % 2 ^ 32 } hx rfl rfl rfl hinv
          refine ⟨k1, k2, fun q t ht => ?_, fun h' => (by cases h')⟩
          cases ht
          exact Or.inr (Or.inl (Or.inl ⟨_, rfl, base_wire_any _ _⟩))
        | dupIgnored | finished | fail500 =>
          simp only [hx, hh, hs, if_true] at hres
          subst hres
          obtain ⟨k1, k2⟩ := keepXmit_spec app c xm { xm with x := x' } hx rfl rfl rfl hinv
          exact ⟨k1, k2, fun q t ht => (by cases ht), fun h' => (by cases h')⟩
      | none =>
        -- lg_xmit_finished
        cases hl : xm.link with
        | false =>
          simp only [hx, hh, hs, hl, if_true, Bool.false_eq_true, if_false] at hres
          subst hres
          obtain ⟨hle, hinv'⟩ := dropXmit_spec app c xm hx hinv
          exact ⟨hle, hinv', fun q t ht => (by cases ht), fun _ => Or.inl happ⟩
        | true =>
          obtain ⟨cr, hc, hb⟩ := hinv.link xm hx hl
          simp only [hx, hh, hs, hl, hc, Option.map_some, hb, if_true] at hres
          subst hres
          refine ⟨⟨?_, fun b hb => List.mem_append_left _ hb⟩,
            ⟨fun xm' h' => (by cases h'), ?_, fun xm' h' => (by cases h')⟩, fun q t ht => (by cases ht), fun _ => ?_⟩
          · intro b hb'
            rcases hb' with ⟨xm0, hx0, rfl⟩ | ⟨cr0, hc0, rfl⟩
            · rw [hx] at hx0; cases hx0
              exact Or.inr (List.mem_append_right _ List.mem_cons_self)
            · rw [hc] at hc0; cases hc0
              exact Or.inl (Or.inr ⟨_, rfl, hb⟩)
          · intro cr' h'
            cases h'
            exact hinv.ca cr hc
          · refine Or.inr ⟨rfl, Or.inr ⟨_, rfl, ?_⟩⟩
            rcases tokHit_true hh with h1 | h1
            · exact Or.inl h1
            · exact Or.inr (h1.trans happ)

theorem rspStep1T_spec (room : Nat) (app : Bytes) (c : Cli1T) (tok : Bytes) (ok : Bool) (blk : Option (Nat × Nat))
    (hinv : Cli1Inv app c) (htok : Tok1OK app c tok) :
    Cli1Le c (rspStep1T room c tok ok blk).1 ∧ Cli1Inv app (rspStep1T room c tok ok blk).1 ∧
    (∀ q t, (rspStep1T room c tok ok blk).2.req = some (q, t) → Tok1OK app (rspStep1T room c tok ok blk).1 t) ∧
    ((rspStep1T room c tok ok blk).2.handler = true →
      (rspStep1T room c tok ok blk).2.shown = app ∨
      stateTokenBase (decodeVar8 (rspStep1T room c tok ok blk).2.shown) ∈ c.released) := by
  obtain ⟨s1, s2, s3, s4⟩ := sendStep1T_spec room app c tok ok blk hinv
  unfold rspStep1T
  dsimp only
  generalize sendStep1T room c tok ok blk = sb at *
  cases hr : sb.ret with
  | true =>
    simp only [if_true]
    exact ⟨s1, s2, s3, fun h => (by simp at h)⟩
  | false =>
    simp only [Bool.false_eq_true, if_false]
    obtain ⟨g1, g2, g3⟩ := getStep1T_spec app sb.c sb.tok s2
    refine ⟨?_, g2, fun q t ht => (by simp at ht), fun _ => ?_⟩
    · refine ⟨fun b hb => ?_, fun b hb => g1.2 _ (s1.2 _ hb)⟩
      rcases s1.1 b hb with h | h
      · exact g1.1 b h
      · exact Or.inr (g1.2 _ h)
    · rcases g3 with g3 | ⟨g3, g4, g5⟩
      · exact Or.inl g3
      · rw [g3]
        rcases s4 hr with h | ⟨h, h'⟩
        · exact Or.inl h
        · rw [h]
          rcases h' with ⟨hc, hno⟩ | ⟨cr, hcr, hb⟩
          · -- nothing matched: the token is the application's or of released state
            rcases htok with ht | ht | ht
            · exact Or.inl ht
            · exfalso
              rcases ht with ⟨xm, hx, hbx⟩ | ⟨cr, hcc, hbc⟩
              · have := hno xm hx
                rw [tokHit_of_base hbx] at this
                cases this
              · have := g5 cr (by rw [hc]; exact hcc)
                rw [h, tokHit_of_base hbc] at this
                cases this
            · exact Or.inr ht
          · rcases hb with hb | hb
            · exfalso
              have := g5 cr hcr
              rw [h, tokHit_of_base hb] at this
              cases this
            · exact Or.inl hb

/-- With ONE application token the search of coap_add_data_large_internal deletes whatever lg_xmit the session holds and
the search of coap_send_lkd whatever lg_crcv, so an lg_xmit afterwards is the new one, linked exactly when coap_send set
up an lg_crcv for a request with Block1. -/
theorem putStep1T_eq (app : Bytes) (c : Cli1T) (lgx : Option LgXmit) (need hb1 : Bool)
    (hxa : ∀ xm, c.xmit = some xm → xm.appTok = app) (hca : ∀ cr, c.crcv = some cr → cr.appTok = app) :
    putStep1T c app lgx need hb1 =
      let tx1 := match lgx with | some _ => (c.txTok + 1) % 2 ^ 64 | none => c.txTok
      let tx2 := (tx1 + 1) % 2 ^ 64
      let rel1 := c.released ++ (match c.xmit with | some xm => [stateTokenBase xm.state] | none => [])
      if need then
        { xmit := lgx.map fun x => { appTok := app, state := stateTokenFull (if hb1 then tx2 else tx1) 1, count := 1, x := x, link := hb1 },
          crcv := some { appTok := app, state := stateTokenFull tx2 1, retry := 1 }, txTok := tx2,
          released := rel1 ++ (match c.crcv with | some cr => [stateTokenBase cr.state] | none => []) }
      else
        { xmit := lgx.map fun x => { appTok := app, state := stateTokenFull tx1 1, count := 1, x := x, link := false },
          crcv := c.crcv, txTok := tx1, released := rel1 } := by
  cases hx : c.xmit with
  | none =>
    cases hc : c.crcv with
    | none => cases lgx <;> cases need <;> cases hb1 <;> simp [putStep1T, hx, hc]
    | some cr =>
      cases hca cr hc
      cases lgx <;> cases need <;> cases hb1 <;> simp [putStep1T, hx, hc, unlinkXmit]
  | some xm =>
    cases hxa xm hx
    cases hc : c.crcv with
    | none => cases lgx <;> cases need <;> cases hb1 <;> simp [putStep1T, hx, hc]
    | some cr =>
      have := hca cr hc
      cases lgx <;> cases need <;> cases hb1 <;> simp [putStep1T, hx, hc, unlinkXmit, this]

theorem putStep1T_spec (app : Bytes) (c : Cli1T) (lgx : Option LgXmit) (need hb1 : Bool) (hinv : Cli1Inv app c) :
    Cli1Le c (putStep1T c app lgx need hb1) ∧ Cli1Inv app (putStep1T c app lgx need hb1) := by
  rw [putStep1T_eq app c lgx need hb1 hinv.xa hinv.ca]
  dsimp only
  have hrx : ∀ xm, c.xmit = some xm → ∀ l : List Nat, stateTokenBase xm.state ∈
      (c.released ++ match c.xmit with | some xm => [stateTokenBase xm.state] | none => []) ++ l := by
    intro xm hx l
    rw [hx]
    exact List.mem_append_left _ (List.mem_append_right _ List.mem_cons_self)
  cases need with
  | false =>
    rw [if_neg Bool.false_ne_true]
    refine ⟨⟨?_, fun b hb => List.mem_append_left _ hb⟩, ⟨?_, hinv.ca, ?_⟩⟩
    · intro b hb
      rcases hb with ⟨xm, hx, rfl⟩ | hb
      · right
        have := hrx xm hx []
        rwa [List.append_nil] at this
      · exact Or.inl (Or.inr hb)
    · intro xm' h'
      cases lgx <;> cases h'
      rfl
    · intro xm' h' hl
      cases lgx <;> cases h'
      cases hl
  | true =>
    rw [if_pos rfl]
    refine ⟨⟨?_, fun b hb => List.mem_append_left _ (List.mem_append_left _ hb)⟩, ⟨?_, ?_, ?_⟩⟩
    · intro b hb
      right
      rcases hb with ⟨xm, hx, rfl⟩ | ⟨cr, hc, rfl⟩
      · exact hrx xm hx _
      · rw [hc]
        exact List.mem_append_right _ List.mem_cons_self
    · intro xm' h'
      cases lgx <;> cases h'
      rfl
    · intro cr' h'
      cases h'
      rfl
    · intro xm' h' hl
      cases lgx <;> cases h'
      refine ⟨_, rfl, ?_⟩
      have hl' : hb1 = true := hl
      show stateTokenBase _ = stateTokenBase (stateTokenFull (if hb1 = true then _ else _) 1)
      rw [if_pos hl']

theorem putStep1T_x (app : Bytes) (c : Cli1T) (lgx : Option LgXmit) (need hb1 : Bool)
    (hxa : ∀ xm, c.xmit = some xm → xm.appTok = app) (hca : ∀ cr, c.crcv = some cr → cr.appTok = app) :
    (putStep1T c app lgx need hb1).xmit.map (·.x) = lgx := by
  rw [putStep1T_eq app c lgx need hb1 hxa hca]
  cases need <;> cases lgx <;> rfl

structure T1Inv (app : Bytes) (s : B1TSys) : Prop where
  req : ∀ t ∈ s.reqToks, Tok1OK app s.cli t
  rsp : ∀ t ∈ s.rspToks, Tok1OK app s.cli t
  cli : Cli1Inv app s.cli
  shown : ∀ x ∈ s.hToks, x.1 = app ∨ stateTokenBase (decodeVar8 x.1) ∈ x.2

theorem t1_put (app : Bytes) (s : B1TSys) (h : T1Inv app s) (lgx : Option LgXmit) (need hb1 : Bool)
    (n : B1Sys) :
    T1Inv app { s with cli := putStep1T s.cli app lgx need hb1, net := n, reqToks := s.reqToks ++ [app] } := by
  obtain ⟨hle, hinv⟩ := putStep1T_spec app s.cli lgx need hb1 h.cli
  exact ⟨forall_mem_snoc (fun t ht => (h.req t ht).mono hle) (Or.inl rfl), fun t ht => (h.rsp t ht).mono hle, hinv, h.shown⟩

theorem b1tStep_inv (P : B1Par) (app : Bytes) (non : Bool) (s : B1TSys) (ev : B1TEvent) (h : T1Inv app s) :
    T1Inv app (b1tStep P app non s ev) := by
  cases ev with
  | appPut =>
    simp only [b1tStep]
    split
    · split
      · split
        · exact t1_put app s h _ _ _ _
        · exact h
      · exact t1_put app s h _ _ _ _
    · exact h
  | reqArrives i =>
    simp only [b1tStep]
    split
    · rename_i d tok h1 h2
      refine ⟨h.req, fun t ht => ?_, h.cli, h.shown⟩
      rcases List.mem_append.1 ht with ht | ht
      · exact h.rsp t ht
      · rw [List.eq_of_mem_replicate ht]
        exact h.req tok (List.mem_of_getElem? h2)
    · exact h
  | rspArrives j =>
    simp only [b1tStep]
    split
    · rename_i ok blk tok h1 h2
      have htok : Tok1OK app s.cli tok := h.rsp tok (List.mem_of_getElem? h2)
      obtain ⟨hle, hinv, hreq, hshown⟩ := rspStep1T_spec P.room app s.cli tok ok blk h.cli htok
      generalize rspStep1T P.room s.cli tok ok blk = res at *
      refine ⟨fun t ht => ?_, fun t ht => (h.rsp t ht).mono hle, hinv, forall_mem_snoc_if h.shown hshown⟩
      rcases List.mem_append.1 ht with ht | ht
      · exact (h.req t ht).mono hle
      · split at ht
        · rename_i q t' hq
          simp only [List.mem_singleton] at ht
          subst ht
          exact hreq _ _ hq
        · simp at ht
    · exact h
  | srvExpire => exact ⟨h.req, h.rsp, h.cli, h.shown⟩
  | xmitExpire =>
    simp only [b1tStep]
    split
    · rename_i xm hx
      obtain ⟨hle, hinv'⟩ := dropXmit_spec app s.cli xm hx h.cli
      exact ⟨fun t ht => (h.req t ht).mono hle, fun t ht => (h.rsp t ht).mono hle, hinv', h.shown⟩
    · exact h
  | crcvExpire =>
    simp only [b1tStep]
    split
    · rename_i cr hc
      obtain ⟨hle, hinv'⟩ := dropCrcv_spec app s.cli cr hc h.cli
      exact ⟨fun t ht => (h.req t ht).mono hle, fun t ht => (h.rsp t ht).mono hle, hinv', h.shown⟩
    · exact h

def b1tRun (P : B1Par) (app : Bytes) (non : Bool) (s : B1TSys) (evs : List B1TEvent) : B1TSys :=
  evs.foldl (b1tStep P app non) s

theorem t1Inv_init (app : Bytes) : T1Inv app {} :=
  ⟨fun _ h => (by cases h), fun _ h => (by cases h),
   ⟨fun _ h => (by cases h), fun _ h => (by cases h), fun _ h => (by cases h)⟩, fun _ h => (by cases h)⟩

theorem b1tRun_inv (P : B1Par) (app : Bytes) (non : Bool) (evs : List B1TEvent) : T1Inv app (b1tRun P app non {} evs) :=
  foldl_inv (T1Inv app) (b1tStep_inv P app non) evs {} (t1Inv_init app)

/-- forget the tokens: the `b1Step` state underneath -/
def absB1 (s : B1TSys) : B1Sys := { s.net with cli := s.cli.xmit.map (·.x) }

theorem getStep1T_x (c : Cli1T) (tok : Bytes) : (getStep1T c tok).1.xmit.map (·.x) = c.xmit.map (·.x) := by
  unfold getStep1T
  split
  · split
    · cases c.xmit <;> simp [unlinkXmit]
    · rfl
  · rfl

/-- every step of the system with tokens is a (possibly empty) sequence of steps of `b1Step` on the state underneath: a response
whose token selects the lg_xmit = `rspArrives`, one that selects none = no step; a PUT whose body fits one message = `cliExpire` (the
supersede search) then `appPut`; lg_xmit time-out = `cliExpire`; lg_crcv time-out = no step -/
theorem b1t_simulated (P : B1Par) (app : Bytes) (non : Bool) (s : B1TSys) (ev : B1TEvent) (h : Cli1Inv app s.cli) :
    ∃ evs : List B1Event, absB1 (b1tStep P app non s ev) = evs.foldl (b1Step P) (absB1 s) := by
  cases ev with
  | appPut =>
    simp only [b1tStep]
    cases ha : addDataLarge P.maxSize P.tokLen P.optBytes P.lastOpt P.blk P.maxBlkC P.body.length P.rtagLen with
    | none => exact ⟨[], rfl⟩
    | some r =>
      cases hl : r.lgXmit with
      | true =>
        cases hv : r.blockVal with
        | none => exact ⟨[], by simp [hl, hv]⟩
        | some v =>
          refine ⟨[.appPut], ?_⟩
          simp only [hl, hv, if_true, List.foldl, b1Step, ha, absB1]
          rw [putStep1T_x _ _ _ _ _ h.xa h.ca]
      | false =>
        refine ⟨[.cliExpire, .appPut], ?_⟩
        simp only [hl, Bool.false_eq_true, if_false, List.foldl, b1Step, ha, absB1]
        rw [putStep1T_x _ _ _ _ _ h.xa h.ca]
        rfl
  | reqArrives i =>
    simp only [b1tStep]
    split
    · rename_i d tok h1 h2
      refine ⟨[.reqArrives i], ?_⟩
      have h1' : (absB1 s).reqs[i]? = some d := h1
      simp only [List.foldl, b1Step, h1']
      rfl
    · exact ⟨[], rfl⟩
  | rspArrives j =>
    simp only [b1tStep]
    split
    · rename_i ok blk tok h1 h2
      unfold rspStep1T
      by_cases hmiss : ∀ xm, s.cli.xmit = some xm → tokHit tok xm.appTok xm.state = false
      · -- the token selects no lg_xmit: no step underneath
        refine ⟨[], ?_⟩
        simp only [sendStep1T_miss P.room s.cli tok ok blk hmiss, Bool.false_eq_true, if_false, List.foldl, absB1,
          getStep1T_x, List.append_nil]
      cases hx : s.cli.xmit with
      | none => exact absurd (fun xm h' => by rw [hx] at h'; cases h') hmiss
      | some xm =>
        cases hh : tokHit tok xm.appTok xm.state with
        | false => exact absurd (fun xm' h' => by rw [hx] at h'; cases h'; exact hh) hmiss
        | true =>
          refine ⟨[.rspArrives j], ?_⟩
          have h1' : (absB1 s).rsps[j]? = some (ok, blk) := h1
          have hc' : (absB1 s).cli = some xm.x := by simp [absB1, hx]
          simp only [List.foldl, b1Step, h1', hc']
          rcases hs : xmitB1Step xm.x P.room ok blk with ⟨st, o⟩
          cases st with
          | some x' =>
            cases o <;> simp [sendStep1T, hx, hh, hs, absB1]
          | none =>
            cases o with
            | sendNext n m sx p => exact absurd hs (xmitB1Step_sendNext _ _ _ _ _ _ _ _)
            | dupIgnored | finished | fail500 => simp [sendStep1T, hx, hh, hs, absB1, getStep1T_x]
    · exact ⟨[], rfl⟩
  | srvExpire => exact ⟨[.srvExpire], rfl⟩
  | xmitExpire =>
    simp only [b1tStep]
    split
    · exact ⟨[.cliExpire], rfl⟩
    · rename_i hx
      exact ⟨[], rfl⟩
  | crcvExpire =>
    simp only [b1tStep]
    split
    · refine ⟨[], ?_⟩
      simp only [List.foldl, absB1]
      cases s.cli.xmit <;> simp [unlinkXmit]
    · exact ⟨[], rfl⟩

theorem b1tRun_simulated (P : B1Par) (app : Bytes) (non : Bool) (evs : List B1TEvent) :
    ∀ s, T1Inv app s → ∃ evs' : List B1Event, absB1 (b1tRun P app non s evs) = evs'.foldl (b1Step P) (absB1 s) := by
  induction evs with
  | nil => intro s _; exact ⟨[], rfl⟩
  | cons ev evs ih =>
    intro s h
    obtain ⟨e1, h1⟩ := b1t_simulated P app non s ev h.cli
    obtain ⟨e2, h2⟩ := ih _ (b1tStep_inv P app non s ev h)
    refine ⟨e1 ++ e2, ?_⟩
    rw [List.foldl_append, ← h1]
    exact h2

end Coap.Block
