import CoapVerif.Lemmas.ObserveInv
/- C11 (5) "the last state is always eventually notified": `observe_pending` bookkeeping (no lost wake-up) as a global invariant,
   and the state of the notify loop at the turn of a given entry (for the explicit fairness hypothesis). -/
namespace Coap.Observe
open Coap.Generated

@[simp] theorem setSess_pending (st : State) (c : Nat) (s : Sess) : (setSess st c s).pending = st.pending := rfl
@[simp] theorem modSess_pending (st : State) (c : Nat) (f : Sess → Sess) : (modSess st c f).pending = st.pending := rfl
@[simp] theorem rxSession_pending (st : State) (c : Nat) : (rxSession st c).pending = st.pending := rfl
@[simp] theorem refInc_pending (st : State) (c : Nat) : (refInc st c).pending = st.pending := rfl
@[simp] theorem refDec_pending (st : State) (c : Nat) : (refDec st c).pending = st.pending := rfl
@[simp] theorem conDec_pending (st : State) (c : Nat) : (conDec st c).pending = st.pending := rfl
@[simp] theorem txStamp_pending (st : State) (c : Nat) : (txStamp st c).pending = st.pending := rfl
@[simp] theorem newMid_pending (st : State) (c : Nat) : (newMid st c).2.pending = st.pending := rfl
@[simp] theorem addNote_pending (st : State) (c : Nat) (n : Note) : (addNote st c n).pending = st.pending := rfl
@[simp] theorem cancelAllMessages_pending (st : State) (c tok : Nat) : (cancelAllMessages st c tok).pending = st.pending := rfl
@[simp] theorem reclaim_pending (st : State) : (reclaim st).pending = st.pending := rfl
@[simp] theorem mapRes_pending (st : State) (f : Res → Res) : (mapRes st f).pending = st.pending := rfl
@[simp] theorem modRes_pending (st : State) (r : Nat) (f : Res → Res) : (modRes st r f).pending = st.pending := rfl
@[simp] theorem touchObserver_pending (st : State) (c tok : Nat) : (touchObserver st c tok).pending = st.pending := rfl
@[simp] theorem sendNote_pending (st : State) (c tok code : Nat) (obs : Option Nat) (isCon : Bool) (mid rid ver : Nat) :
    (sendNote st c tok code obs isCon mid rid ver).1.pending = st.pending := by
  unfold sendNote; split <;> rfl

@[simp] theorem deleteObserver_pending (st : State) (r c tok : Nat) : (deleteObserver st r c tok).pending = st.pending :=
  (deleteObserver_tableOnly st r c tok).pending

@[simp] theorem addObserver_pending (st : State) (r c tok key : Nat) : (addObserver st r c tok key).pending = st.pending :=
  (addObserver_tableOnly st r c tok key).pending

@[simp] theorem deleteObserverRequest_pending (st : State) (r c tok key : Nat) :
    (deleteObserverRequest st r c tok key).pending = st.pending :=
  (deleteObserverRequest_tableOnly st r c tok key).pending

@[simp] theorem removeFailedOne_pending (st : State) (x : Res) (c tok : Nat) : (removeFailedOne st x c tok).pending = st.pending :=
  removeFailedOne_ind (P := fun s => s.pending = st.pending) st x c tok rfl
    ((deleteObserver_pending ..).trans (cancelAllMessages_pending ..)) rfl

@[simp] theorem handleFailedNotify_pending (st : State) (c tok : Nat) : (handleFailedNotify st c tok).pending = st.pending :=
  handleFailedNotify_ind (P := fun s => s.pending = st.pending) st c tok rfl
    (fun s x h => (removeFailedOne_pending s x c tok).trans h)

@[simp] theorem cancelSent_pending (st : State) (c tok : Nat) : (cancelSent st c tok).pending = st.pending :=
  cancelSent_ind (P := fun s => s.pending = st.pending) st c tok rfl
    (fun s rid h => ((deleteObserver_pending ..).trans (cancelAllMessages_pending ..)).trans h)

@[simp] theorem handleAck_pending (st : State) (c mid : Nat) : (handleAck st c mid).pending = st.pending := by
  unfold handleAck; dsimp only; split
  · rfl
  · simp only [refDec_pending]; split <;> simp

@[simp] theorem handleRst_pending (st : State) (c mid : Nat) : (handleRst st c mid).pending = st.pending := by
  unfold handleRst; dsimp only; split
  · simp
  · split
    · simp
    · rfl

@[simp] theorem sessionLost_pending (st : State) (c : Nat) : (sessionLost st c).pending = st.pending := by
  unfold sessionLost; split <;> rfl

@[simp] theorem retransmit_pending (st : State) (q : QNode) : (retransmit st q).1.pending = st.pending := by
  unfold retransmit; split
  · rfl
  · simp

theorem retransmitDue_pending (fuel : Nat) (st : State) : (retransmitDue fuel st).1.pending = st.pending :=
  retransmitDue_ind (P := fun s => s.pending = st.pending) (fun s q qs h _ => (retransmit_pending { s with sendq := qs } q).trans h)
    fuel st rfl

theorem releaseAll_pending (l : List Sub) (st : State) : (releaseAll st l).pending = st.pending :=
  (releaseAll_tableOnly l st).pending

def NeedsWalk (st : State) : Prop :=
  ∃ y ∈ st.res, y.dirty = true ∨ (y.alive = true ∧ ∃ o ∈ y.subs, o.dirty = true)

/-- no lost wake-up: as long as somebody has something to be told, coap_check_notify will run the notify pass -/
def WakeInv (st : State) : Prop := NeedsWalk st → st.pending = true

def PdAll (st : State) : Prop := ∀ y ∈ st.res, ∀ o ∈ y.subs, o.dirty = true → y.pdirty = true

/-- the wake-up invariant: `WakeInv` is the property wanted, `PdAll` what the notify pass needs to keep it -/
def Wake (st : State) : Prop := WakeInv st ∧ PdAll st

def WakeStep (st st' : State) : Prop :=
  (st.pending = true → st'.pending = true) ∧ (NeedsWalk st' → NeedsWalk st ∨ st'.pending = true)

theorem WakeStep.refl (st : State) : WakeStep st st := ⟨id, Or.inl⟩
theorem WakeStep.trans {a b c : State} (h1 : WakeStep a b) (h2 : WakeStep b c) : WakeStep a c := by
  refine ⟨fun h => h2.1 (h1.1 h), ?_⟩
  intro hn
  rcases h2.2 hn with h | h
  · rcases h1.2 h with h' | h'
    · exact Or.inl h'
    · exact Or.inr (h2.1 h')
  · exact Or.inr h

theorem WakeStep.wake {st st' : State} (h : WakeStep st st') (hw : WakeInv st) : WakeInv st' := by
  intro hn
  rcases h.2 hn with h' | h'
  · exact h.1 (hw h')
  · exact h'

theorem WakeStep.of_le {st st' : State} (h : AllLeF st'.res st.res) (hp : st'.pending = st.pending) : WakeStep st st' := by
  refine ⟨fun h' => hp ▸ h', fun hn => Or.inl ?_⟩
  obtain ⟨y', hy', hd⟩ := hn
  obtain ⟨y, hy, hle⟩ := All2.exists_right h y' hy'
  refine ⟨y, hy, ?_⟩
  rcases hd with hd | ⟨hal, o', ho', hod⟩
  · exact Or.inl (hle.dirty ▸ hd)
  · obtain ⟨o1, ho1, hc⟩ := hle.mem_sub ho'
    exact Or.inr ⟨hle.alive ▸ hal, o1, ho1, coreF_dirty hc ▸ hod⟩

theorem needsWalk_of_map {st : State} {f : Res → Res}
    (hf : ∀ y ∈ st.res, ((f y).dirty = true → y.dirty = true) ∧ ((f y).alive = true → y.alive = true) ∧
      ∀ o ∈ (f y).subs, o.dirty = true → ∃ o1 ∈ y.subs, o1.dirty = true)
    {st' : State} (hres : st'.res = st.res.map f) (hn : NeedsWalk st') : NeedsWalk st := by
  obtain ⟨y', hy', hd⟩ := hn
  rw [hres] at hy'
  obtain ⟨y, hy, rfl⟩ := List.mem_map.mp hy'
  obtain ⟨h1, h2, h3⟩ := hf y hy
  refine ⟨y, hy, ?_⟩
  rcases hd with hd | ⟨hal, o', ho', hod⟩
  · exact Or.inl (h1 hd)
  · exact Or.inr ⟨h2 hal, h3 o' ho' hod⟩

theorem wakeStep_addObserver (st : State) (r c tok key : Nat) : WakeStep st (addObserver st r c tok key) := by
  refine ⟨fun h => by simpa using h, fun hn => Or.inl ?_⟩
  obtain ⟨m, hres | hres⟩ := addObserver_table st r c tok key
  · obtain ⟨y, hy, hd⟩ := hn
    exact ⟨y, hres ▸ hy, hd⟩
  · refine needsWalk_of_map ?_ hres hn
    intro y _
    unfold addR
    split
    · have hf := addToRes_fields y c tok key m
      refine ⟨fun h => hf.dirty ▸ h, fun h => hf.alive ▸ h, ?_⟩
      intro o ho hod
      rcases mem_addToRes ho with rfl | ho1
      · cases hod
      · exact ⟨o, ho1, hod⟩
    · exact ⟨id, id, fun o ho hod => ⟨o, ho, hod⟩⟩

theorem wakeStep_change (st : State) (r : Nat) : WakeStep st (change st r) := by
  unfold change
  split
  · exact WakeStep.refl _
  · split
    · exact WakeStep.refl _
    · exact ⟨fun _ => rfl, fun _ => Or.inr rfl⟩

theorem wakeStep_errFlag (st : State) (r : Nat) (b : Bool) : WakeStep st (modRes st r fun y => { y with err := b }) := by
  refine ⟨id, fun hn => Or.inl ?_⟩
  refine needsWalk_of_map (f := fun x => if x.id = r then { x with err := b } else x) ?_ rfl hn
  intro y _
  split
  · exact ⟨id, id, fun o ho hod => ⟨o, ho, hod⟩⟩
  · exact ⟨id, id, fun o ho hod => ⟨o, ho, hod⟩⟩

theorem wakeStep_request (st : State) (o : Option Nat) (c r tok key : Nat) (con : Bool) (mid : Nat) :
    WakeStep st (request st o c r tok key con mid).1 :=
  have h0 : WakeStep st (rxSession st c) := WakeStep.of_le (AllLeF.refl _) rfl
  request_ind (P := WakeStep st) st o c r tok key con mid
    (fun _ h => h.trans (WakeStep.of_le (AllLeF.refl _) rfl))
    (fun _ => h0)
    (fun _ => (h0.trans (wakeStep_addObserver _ r c tok key)).trans (WakeStep.of_le (touchObserver_leF ..) rfl))
    (fun _ => h0.trans (WakeStep.of_le (deleteObserverRequest_leF ..) (deleteObserverRequest_pending ..)))
    (fun _ h => h.trans (WakeStep.of_le (deleteObserver_leF ..) (deleteObserver_pending ..)))

theorem notifyOne_pending (d : Bool) (r : Res) (o : Sub) (st : State) :
    (st.pending = true → (notifyOne d r o st).st.pending = true) ∧
    ∀ o', (notifyOne d r o st).sub = some o' → o'.dirty = true → (notifyOne d r o st).st.pending = true := by
  rcases notifyOne_st d r o st with ⟨_, _, h1⟩ | ⟨st1, _, _, _, hne, h1, h2⟩
  · rw [h1]
    exact ⟨fun _ => rfl, fun _ _ _ => rfl⟩
  · constructor
    · intro h
      rw [h1, sendNote_pending]
      rcases h2 with ⟨_, rfl⟩ | ⟨_, rfl⟩
      · exact h
      · exact h
    · intro o' hs hd
      rw [((notifyOne_visit d r o st).of_outs_ne_nil hne).2 o' hs] at hd
      cases hd

theorem notifyLoop_pending (d : Bool) (r : Res) : ∀ (subs : List Sub) (st : State),
    (st.pending = true → (notifyLoop d r subs st).st.pending = true) ∧
    (∀ o' ∈ (notifyLoop d r subs st).subs, o'.dirty = true → (notifyLoop d r subs st).st.pending = true)
  | [], st => ⟨id, fun o' ho' => by cases ho'⟩
  | o :: rest, st => by
    unfold notifyLoop
    dsimp only
    obtain ⟨ih1, ih2⟩ := notifyLoop_pending d r rest (notifyOne d r o st).st
    obtain ⟨h1, h2⟩ := notifyOne_pending d r o st
    refine ⟨fun h => ih1 (h1 h), ?_⟩
    intro o' ho' hd
    rcases List.mem_append.mp ho' with ho' | ho'
    · cases hs : (notifyOne d r o st).sub with
      | none => rw [hs] at ho'; simp at ho'
      | some o'' =>
        rw [hs] at ho'; simp at ho'; subst ho'
        exact ih1 (h2 o' hs hd)
    · exact ih2 o' ho' hd

theorem notifyRes_pending (d : Bool) (r : Res) (st : State) (hpd : PdInv r) :
    (st.pending = true → (notifyRes d r st).2.1.pending = true) ∧ (notifyRes d r st).1.dirty = false ∧
    ((notifyRes d r st).1.alive = true → ∀ o' ∈ (notifyRes d r st).1.subs, o'.dirty = true → (notifyRes d r st).2.1.pending = true) := by
  unfold notifyRes
  by_cases h : (r.alive && (r.dirty || r.pdirty)) = true
  · rw [if_pos h]
    obtain ⟨h1, h2⟩ := notifyLoop_pending d r r.subs st
    exact ⟨h1, rfl, fun _ => h2⟩
  · rw [if_neg h]
    refine ⟨id, rfl, ?_⟩
    intro hal o' ho' hd
    exfalso
    dsimp only at hal ho'
    have := hpd o' ho' hd
    simp [hal, this] at h

theorem notifyAll_pending : ∀ (rs : List Res) (st : State), (∀ y ∈ rs, PdInv y) →
    (st.pending = true → (notifyAll rs st).2.1.pending = true) ∧
    (∀ y' ∈ (notifyAll rs st).1, y'.dirty = false ∧
      (y'.alive = true → ∀ o' ∈ y'.subs, o'.dirty = true → (notifyAll rs st).2.1.pending = true))
  | [], st, _ => ⟨id, fun y' hy' => by cases hy'⟩
  | r :: rest, st, hpd => by
    unfold notifyAll
    dsimp only
    obtain ⟨h1, h2, h3⟩ := notifyRes_pending false r st (hpd r (List.mem_cons_self ..))
    obtain ⟨ih1, ih2⟩ := notifyAll_pending rest (notifyRes false r st).2.1 (fun y hy => hpd y (List.mem_cons_of_mem _ hy))
    refine ⟨fun h => ih1 (h1 h), ?_⟩
    intro y' hy'
    cases hy' with
    | head => exact ⟨h2, fun hal o' ho' hd => ih1 (h3 hal o' ho' hd)⟩
    | tail _ hy'' => exact ih2 y' hy''

theorem pdAll_of_rel {A : Nat → Nat → Nat → Prop} {st' st : State} {outs : List Out} (h : StepRel A st' st outs)
    (hp : PdAll st) : PdAll st' := by
  intro y' hy'
  obtain ⟨y, hy, ht⟩ := All2.exists_right h y' hy'
  exact ht.preserves (Q := fun y _ => PdInv y) (fun y o y' _ hq hm => PdInv.micro y o y' hq hm) [] (hp y hy)

theorem io_wake (st : State) (hw : WakeInv st) (hpd : PdAll st) : WakeInv (io st).1 := by
  unfold io
  dsimp only
  have h1 : WakeInv (checkNotify st).1 := by
    unfold checkNotify
    by_cases hp : st.pending = true
    · rw [if_pos hp]
      dsimp only
      obtain ⟨_, h2⟩ := notifyAll_pending st.res { st with pending := false } hpd
      rintro ⟨y', hy', hd⟩
      obtain ⟨h3, h4⟩ := h2 y' hy'
      rcases hd with hd | ⟨hal, o', ho', hod⟩
      · rw [h3] at hd
        cases hd
      · exact h4 hal o' ho' hod
    · rw [if_neg hp]
      exact hw
  have h2 : WakeStep (checkNotify st).1 (reclaim (retransmitDue ((checkNotify st).1.sendq.length + 1) (checkNotify st).1).1) :=
    WakeStep.of_le (by simp only [reclaim_res]; exact retransmitDue_leF _ _) (by simp only [reclaim_pending]; exact retransmitDue_pending _ _)
  exact h2.wake h1

theorem notifyRes_pending_mono (d : Bool) (r : Res) (st : State) (h : st.pending = true) : (notifyRes d r st).2.1.pending = true := by
  unfold notifyRes
  split
  · exact (notifyLoop_pending d r r.subs st).1 h
  · exact h

theorem wakeStep_deleteResource (st : State) (r : Nat) : WakeStep st (deleteResource st r).1 := by
  unfold deleteResource
  split
  · exact WakeStep.refl _
  · dsimp only
    have hc := wakeStep_change st r
    split
    · exact hc
    · rename_i x1 _
      refine hc.trans ⟨?_, ?_⟩
      · intro h
        simp only [modRes_pending]
        rw [releaseAll_pending]
        exact notifyRes_pending_mono true x1 _ h
      · intro hn
        left
        refine needsWalk_of_map (f := fun x => if x.id = r then
          { x with alive := false, subs := [], dirty := false, pdirty := (notifyRes true x1 (change st r)).1.pdirty } else x) ?_ ?_ hn
        · intro y _
          split
          · exact ⟨(fun h => by cases h), (fun h => by cases h), (fun o ho => by cases ho)⟩
          · exact ⟨id, id, fun o ho hod => ⟨o, ho, hod⟩⟩
        · show (modRes _ r _).res = _
          unfold modRes mapRes
          dsimp only
          rw [releaseAll_res, notifyRes_res]

theorem rxThenIo_wake (p : State × List Out) (hw : WakeInv p.1) (hpd : PdAll p.1) : WakeInv (rxThenIo p).1 := by
  unfold rxThenIo
  exact io_wake p.1 hw hpd

/-- `PdAll` is read off `step_rel`; `WakeInv` goes primitive by primitive, and the I/O step that follows a received message
    needs `PdAll` of the state in between. -/
theorem step_wake (st : State) (e : Event) (hid : IdsNodup st) (h : Wake st) : Wake (step st e).1 := by
  obtain ⟨hw, hpd⟩ := h
  refine ⟨?_, pdAll_of_rel (step_rel st e hid) hpd⟩
  refine step_cases (P := fun p => WakeInv p.1) st e ?_ ?_ ?_ hw (fun r => (wakeStep_change st r).wake hw)
    (fun _ => io_wake _ hw hpd) (fun r b => (wakeStep_errFlag st r b).wake hw)
    (fun c => (WakeStep.of_le (sessionLost_leF ..) (by simp)).wake hw) (fun r => (wakeStep_deleteResource st r).wake hw)
  · intro o c r tok key con mid _
    refine rxThenIo_wake _ ((wakeStep_request st _ c r tok key con mid).wake hw) ?_
    by_cases ho : o = some 0
    · subst ho
      exact pdAll_of_rel (request_rel_reg (fun _ _ _ => True) st c r tok key con mid hid trivial) hpd
    · exact pdAll_of_rel (request_rel_other NoReg st _ c r tok key con mid ho) hpd
  · intro c mid
    exact rxThenIo_wake _ ((WakeStep.of_le (handleAck_leF ..) (by simp)).wake hw)
      (pdAll_of_rel (StepRel.of_le_nil (A := NoReg) (handleAck_leF ..)) hpd)
  · intro c mid
    exact rxThenIo_wake _ ((WakeStep.of_le (handleRst_leF ..) (by simp)).wake hw)
      (pdAll_of_rel (StepRel.of_le_nil (A := NoReg) (handleRst_leF ..)) hpd)

theorem run_wake (st : State) (evs : List Event) (hid : IdsNodup st) (h : Wake st) : Wake (run st evs).1 :=
  run_inv_ids step_wake evs st hid h

theorem wake_init (res : List Res) (stTicks : Nat) (h : ∀ y ∈ res, y.subs = [] ∧ y.dirty = false) : Wake (init res stTicks) := by
  refine ⟨?_, ?_⟩
  · intro hn
    obtain ⟨y, hy, hd⟩ := hn
    obtain ⟨h1, h2⟩ := h y hy
    rcases hd with hd | ⟨_, o, ho, _⟩
    · rw [h2] at hd; cases hd
    · rw [h1] at ho; cases ho
  · intro y hy o ho
    rw [(h y hy).1] at ho; cases ho

theorem liveInv_init (res : List Res) (h : ∀ y ∈ res, y.subs = []) : ∀ y ∈ res, LiveInv y [] := by
  intro y hy
  refine ⟨?_, ?_⟩
  · intro _ _ o ho; rw [h y hy] at ho; cases ho
  · intro o ho; rw [h y hy] at ho; cases ho

theorem notifyLoop_append (d : Bool) (r : Res) : ∀ (a b : List Sub) (st : State),
    (notifyLoop d r (a ++ b) st).subs = (notifyLoop d r a st).subs ++ (notifyLoop d r b (notifyLoop d r a st).st).subs ∧
    (notifyLoop d r (a ++ b) st).outs = (notifyLoop d r a st).outs ++ (notifyLoop d r b (notifyLoop d r a st).st).outs
  | [], b, st => ⟨rfl, rfl⟩
  | o :: a, b, st => by
    obtain ⟨h1, h2⟩ := notifyLoop_append d r a b (notifyOne d r o st).st
    simp only [List.cons_append, notifyLoop, h1, h2, List.append_assoc, and_self]

theorem notifyAll_append : ∀ (a b : List Res) (st : State),
    (notifyAll (a ++ b) st).1 = (notifyAll a st).1 ++ (notifyAll b (notifyAll a st).2.1).1 ∧
    (notifyAll (a ++ b) st).2.2 = (notifyAll a st).2.2 ++ (notifyAll b (notifyAll a st).2.1).2.2
  | [], b, st => ⟨rfl, rfl⟩
  | r :: a, b, st => by
    obtain ⟨h1, h2⟩ := notifyAll_append a b (notifyRes false r st).2.1
    simp only [List.cons_append, notifyAll, h1, h2, List.append_assoc, and_self]

/-- the state in which coap_check_notify reaches entry `o` = the one after `spre` in the list of resource `y` = the one after `pre`
    in the table -/
def turnState (st : State) (pre : List Res) (y : Res) (spre : List Sub) : State :=
  (notifyLoop false y spre (notifyAll pre { st with pending := false }).2.1).st

theorem io_outs_of_turn (st : State) (pre post : List Res) (y : Res) (spre spost : List Sub) (o : Sub)
    (hres : st.res = pre ++ y :: post) (hsubs : y.subs = spre ++ o :: spost) (hp : st.pending = true) (hal : y.alive = true)
    (hwalk : y.dirty = true ∨ y.pdirty = true) :
    ∀ out ∈ (notifyOne false y o (turnState st pre y spre)).outs, out ∈ (io st).2 := by
  intro out ho
  unfold io
  dsimp only
  apply List.mem_append_left
  unfold checkNotify
  rw [if_pos hp]
  dsimp only
  rw [hres, (notifyAll_append pre (y :: post) _).2]
  apply List.mem_append_right
  unfold notifyAll
  dsimp only
  apply List.mem_append_left
  unfold notifyRes
  have hc : (y.alive && (y.dirty || y.pdirty)) = true := by
    rcases hwalk with h | h <;> simp [hal, h]
  rw [if_pos hc]
  dsimp only
  rw [hsubs, (notifyLoop_append false y spre (o :: spost) _).2]
  apply List.mem_append_right
  unfold notifyLoop
  dsimp only
  apply List.mem_append_left
  unfold turnState at ho
  rw [hres] at ho
  exact ho

theorem modSess_sess_ne (st : State) (c' : Nat) (f : Sess → Sess) (c : Nat) (h : c ≠ c') : (modSess st c' f).sess c = st.sess c := by
  unfold modSess setSess; simp [h]

@[simp] theorem modSess_now (st : State) (c : Nat) (f : Sess → Sess) : (modSess st c f).now = st.now := rfl

theorem notifyOne_frame (d : Bool) (r : Res) (o : Sub) (st : State) (c : Nat)
    (h : o.sess ≠ c ∨ (r.dirty = false ∧ o.dirty = false)) :
    (notifyOne d r o st).st.sess c = st.sess c ∧ (notifyOne d r o st).st.now = st.now := by
  rcases notifyOne_st d r o st with ⟨_, _, h1⟩ | ⟨st1, code, obs, isCon, hsent, h1, h2⟩
  · rw [h1]
    exact ⟨rfl, rfl⟩
  · have hne : c ≠ o.sess := by
      rcases h with h | ⟨hr, ho⟩
      · exact fun hh => h hh.symm
      · rcases ((notifyOne_visit d r o st).of_outs_ne_nil hsent).1 with h' | h'
        · rw [hr] at h'; cases h'
        · rw [ho] at h'; cases h'
    have hm : (newMid st o.sess).2.sess c = st.sess c := by
      unfold newMid
      dsimp only
      exact modSess_sess_ne _ _ _ _ hne
    have hs : (sendNote st1 o.sess o.token code obs isCon (newMid st o.sess).1 r.id r.ver).1.sess c = st1.sess c ∧
        (sendNote st1 o.sess o.token code obs isCon (newMid st o.sess).1 r.id r.ver).1.now = st1.now := by
      have ht : (txStamp st1 o.sess).sess c = st1.sess c := modSess_sess_ne _ _ _ _ hne
      unfold sendNote
      split
      · dsimp only
        rw [modSess_sess_ne _ _ _ _ hne]
        exact ⟨ht, rfl⟩
      · exact ⟨ht, rfl⟩
    rw [h1]
    rcases h2 with ⟨_, rfl⟩ | ⟨_, rfl⟩
    · exact ⟨hs.1.trans hm, hs.2⟩
    · exact ⟨hs.1.trans ((modSess_sess_ne _ _ _ _ hne).trans hm), hs.2⟩

theorem notifyLoop_frame (d : Bool) (r : Res) (c : Nat) : ∀ (subs : List Sub) (st : State),
    (∀ o ∈ subs, o.sess ≠ c ∨ (r.dirty = false ∧ o.dirty = false)) →
    (notifyLoop d r subs st).st.sess c = st.sess c ∧ (notifyLoop d r subs st).st.now = st.now
  | [], _, _ => ⟨rfl, rfl⟩
  | o :: rest, st, h => by
    unfold notifyLoop
    dsimp only
    have h1 := notifyOne_frame d r o st c (h o (List.mem_cons_self ..))
    have h2 := notifyLoop_frame d r c rest (notifyOne d r o st).st (fun o' ho' => h o' (List.mem_cons_of_mem _ ho'))
    exact ⟨h2.1.trans h1.1, h2.2.trans h1.2⟩

theorem notifyAll_frame (c : Nat) : ∀ (rs : List Res) (st : State),
    (∀ y ∈ rs, y.alive = true → ∀ o ∈ y.subs, o.sess ≠ c ∨ (y.dirty = false ∧ o.dirty = false)) →
    (notifyAll rs st).2.1.sess c = st.sess c ∧ (notifyAll rs st).2.1.now = st.now
  | [], _, _ => ⟨rfl, rfl⟩
  | r :: rest, st, h => by
    unfold notifyAll
    dsimp only
    have h1 : (notifyRes false r st).2.1.sess c = st.sess c ∧ (notifyRes false r st).2.1.now = st.now := by
      unfold notifyRes
      split
      · rename_i hc
        simp only [Bool.and_eq_true] at hc
        exact notifyLoop_frame false r c r.subs st (h r (List.mem_cons_self ..) hc.1)
      · exact ⟨rfl, rfl⟩
    have h2 := notifyAll_frame c rest (notifyRes false r st).2.1 (fun y hy => h y (List.mem_cons_of_mem _ hy))
    exact ⟨h2.1.trans h1.1, h2.2.trans h1.2⟩

theorem getSess_conActive_now (st : State) (n c : Nat) : (getSess { st with now := n } c).conActive = (getSess st c).conActive := by
  unfold getSess
  cases st.sess c <;> rfl

end Coap.Observe
