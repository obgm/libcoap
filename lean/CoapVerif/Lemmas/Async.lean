import CoapVerif.Model.Async
/-
Lemmas for C10 about the deferred-response machine (Model/Async.lean), for EVERY pair of decision procedures `Dec`:
what coap_check_async hands to the application, its return value, and that the entry list has at most one entry per
(session, token) after arbitrary event sequences.  The session reference counts are in Lemmas/AsyncRefs.lean.
-/
namespace Coap.Async.L
open Coap Coap.Server Coap.Async

/-- the entry's time has come: `async->delay != 0 && async->delay <= now` -/
def due (now : Nat) (e : Entry) : Bool := decide (e.delay ≠ 0 ∧ e.delay ≤ now)

/-! ### coap_check_async -/
theorem check_pos {dec : Dec} {v : Verdict} {now : Nat} {a : Entry} {r : List Entry} {ss : List Sess} {nd : Nat}
    (h : a.delay ≠ 0 ∧ a.delay ≤ now) :
    checkAsync dec v now (a :: r) ss nd =
      let o := dec.again a.req v
      let x := checkAsync dec v now r
        (release (if o.replies.isEmpty then ss else updSess ss a.sess (fun s => { s with last := now })) a.sess) nd
      (⟨a, o⟩ :: x.1, x.2.1, x.2.2.1, x.2.2.2) := by
  rw [checkAsync, if_pos h]

theorem check_neg {dec : Dec} {v : Verdict} {now : Nat} {a : Entry} {r : List Entry} {ss : List Sess} {nd : Nat}
    (h : ¬ (a.delay ≠ 0 ∧ a.delay ≤ now)) :
    checkAsync dec v now (a :: r) ss nd =
      let d := (a.delay + W - now) % W
      let x := checkAsync dec v now r ss (if nd = 0 ∨ nd > d then d else nd)
      (x.1, a :: x.2.1, x.2.2.1, x.2.2.2) := by
  rw [checkAsync, if_neg h]

theorem due_pos {now : Nat} {a : Entry} (h : a.delay ≠ 0 ∧ a.delay ≤ now) : due now a = true := by simp [due, h]
theorem due_neg {now : Nat} {a : Entry} (h : ¬ (a.delay ≠ 0 ∧ a.delay ≤ now)) : due now a = false := by
  unfold due; exact decide_eq_false h

theorem check_lists (dec : Dec) (v : Verdict) (now : Nat) : ∀ (l : List Entry) (ss : List Sess) (nd : Nat),
    (checkAsync dec v now l ss nd).1 = (l.filter (due now)).map (fun a => ⟨a, dec.again a.req v⟩) ∧
    (checkAsync dec v now l ss nd).2.1 = l.filter (fun e => !due now e) := by
  intro l
  induction l with
  | nil => intro ss nd; exact ⟨rfl, rfl⟩
  | cons a r ih =>
    intro ss nd
    by_cases h : a.delay ≠ 0 ∧ a.delay ≤ now
    · rw [check_pos h]
      simp only [ih, List.filter_cons, due_pos h, List.map_cons, Bool.not_true, Bool.false_eq_true, if_true, if_false, and_self]
    · rw [check_neg h]
      simp only [ih, List.filter_cons, due_neg h, Bool.not_false, Bool.false_eq_true, if_true, if_false, and_self]

/-- the distance `async->delay - now` (uint64_t) of an entry that is not due is not 0 when the clock is not 0 -/
theorem dist_ne_zero {now : Nat} {a : Entry} (hnow : 0 < now ∧ now < W) (ha : a.delay < W)
    (h : ¬ (a.delay ≠ 0 ∧ a.delay ≤ now)) : (a.delay + W - now) % W ≠ 0 := by
  unfold W at *
  by_cases h0 : a.delay = 0
  · omega
  · have : now < a.delay := by
      apply Nat.lt_of_not_le
      intro hle
      exact h ⟨h0, hle⟩
    omega

theorem dist_eq {now : Nat} {a : Entry} (hnow : now < W) (ha : a.delay < W) (h : now < a.delay) :
    (a.delay + W - now) % W = a.delay - now := by
  unfold W at *
  omega

/-- next_due: never 0 once set, never above what it was, never above the distance of an entry that stays -/
theorem check_wait (dec : Dec) (v : Verdict) (now : Nat) (hnow : 0 < now ∧ now < W) :
    ∀ (l : List Entry) (ss : List Sess) (nd : Nat), (∀ e ∈ l, e.delay < W) →
    (nd ≠ 0 → (checkAsync dec v now l ss nd).2.2.2 ≠ 0 ∧ (checkAsync dec v now l ss nd).2.2.2 ≤ nd) ∧
    (∀ e ∈ l, due now e = false →
      (checkAsync dec v now l ss nd).2.2.2 ≠ 0 ∧ (checkAsync dec v now l ss nd).2.2.2 ≤ (e.delay + W - now) % W) := by
  intro l
  induction l with
  | nil => intro ss nd _; simp [checkAsync]
  | cons a r ih =>
    intro ss nd hl
    have hr : ∀ e ∈ r, e.delay < W := fun e he => hl e (List.mem_cons_of_mem _ he)
    by_cases h : a.delay ≠ 0 ∧ a.delay ≤ now
    · have ih' := ih (release (if (dec.again a.req v).replies.isEmpty then ss else updSess ss a.sess (fun s => { s with last := now })) a.sess) nd hr
      rw [check_pos h]
      refine ⟨ih'.1, ?_⟩
      intro e he hd
      rcases List.mem_cons.mp he with rfl | he
      · rw [due_pos h] at hd; exact absurd hd (by decide)
      · exact ih'.2 e he hd
    · rw [check_neg h]
      have hz := dist_ne_zero hnow (hl a List.mem_cons_self) h
      dsimp only
      generalize hd : (a.delay + W - now) % W = d at hz ⊢
      -- the new next_due is not 0, at most this entry's distance, and at most the old one if that was set
      have hn : (if nd = 0 ∨ nd > d then d else nd) ≠ 0 ∧ (if nd = 0 ∨ nd > d then d else nd) ≤ d ∧
          (nd ≠ 0 → (if nd = 0 ∨ nd > d then d else nd) ≤ nd) := by
        split <;> omega
      have ih' := ih ss (if nd = 0 ∨ nd > d then d else nd) hr
      generalize (if nd = 0 ∨ nd > d then d else nd) = nd1 at hn ih'
      obtain ⟨k1, k2⟩ := ih'.1 hn.1
      refine ⟨fun hnd => ⟨k1, Nat.le_trans k2 (hn.2.2 hnd)⟩, fun e he hdue => ?_⟩
      rcases List.mem_cons.mp he with rfl | he
      · exact ⟨k1, hd ▸ Nat.le_trans k2 hn.2.1⟩
      · exact ih'.2 e he hdue

/-! ### the I/O step -/
theorem prepare_fired (c : Async.Cfg) (dec : Dec) (v : Verdict) (st : St) :
    (prepare c dec v st).2.fired = (st.async.filter (due st.now)).map (fun a => ⟨a, dec.again a.req v⟩) :=
  (check_lists dec v st.now st.async st.sess 0).1

theorem prepare_kept (c : Async.Cfg) (dec : Dec) (v : Verdict) (st : St) :
    (prepare c dec v st).1.async = st.async.filter (fun e => !due st.now e) :=
  (check_lists dec v st.now st.async st.sess 0).2

theorem prepare_fired_mem (c : Async.Cfg) (dec : Dec) (v : Verdict) (st : St) : ∀ f ∈ (prepare c dec v st).2.fired,
    (f.entry ∈ st.async ∧ f.entry.delay ≠ 0 ∧ f.entry.delay ≤ st.now) ∧ f.out = dec.again f.entry.req v := by
  intro f hf
  rw [prepare_fired] at hf
  obtain ⟨a, ha, rfl⟩ := List.mem_map.1 hf
  have hd := List.mem_filter.1 ha
  exact ⟨⟨hd.1, of_decide_eq_true hd.2⟩, rfl⟩

/-! ### at most one entry per (session, token) -/
def key (e : Entry) : Nat × Bytes := (e.sess, e.req.token)
def Uniq (l : List Entry) : Prop := (l.map key).Nodup

theorem uniq_sublist {l l' : List Entry} (h : l'.Sublist l) (hu : Uniq l) : Uniq l' :=
  List.Nodup.sublist (h.map key) hu

theorem setNth_map {β : Type} (g : Entry → β) (f : Entry → Entry) (hf : ∀ e, g (f e) = g e) : ∀ (l : List Entry) (k : Nat),
    (setNth l k f).map g = l.map g := by
  intro l
  induction l with
  | nil => intro k; simp [setNth]
  | cons a r ih =>
    intro k
    cases k with
    | zero => simp [setNth, hf]
    | succ k => simp [setNth, ih]

theorem register_uniq {st : St} {p : Nat} {call : Call} {type : Nat} {tok : Bytes} {d : Nat} (hu : Uniq st.async) :
    Uniq (register st p call type tok d).1.async := by
  unfold register
  split
  · exact hu
  · split
    · exact hu
    · rename_i hf
      split
      · exact hu
      · dsimp only
        unfold Uniq
        rw [List.map_cons, List.nodup_cons]
        refine ⟨?_, hu⟩
        intro hmem
        rcases List.mem_map.mp hmem with ⟨x, hx, hk⟩
        have := List.find?_eq_none.mp hf x hx
        apply this
        simp only [key, Prod.mk.injEq] at hk
        simp [hits, hk.1, hk.2]

theorem prepare_uniq {c : Async.Cfg} {dec : Dec} {v : Verdict} {st : St} (hu : Uniq st.async) :
    Uniq (prepare c dec v st).1.async := by
  rw [prepare_kept]
  exact uniq_sublist List.filter_sublist hu

theorem register_cases (st : St) (p : Nat) (call : Call) (type : Nat) (tok : Bytes) (d : Nat) :
    ((register st p call type tok d).1.async = st.async ∧ (register st p call type tok d).2 = none) ∨
    ∃ e, (register st p call type tok d).2 = some e ∧ (register st p call type tok d).1.async = e :: st.async := by
  unfold register
  split
  · exact Or.inl ⟨rfl, rfl⟩
  · split
    · exact Or.inl ⟨rfl, rfl⟩
    · split
      · exact Or.inl ⟨rfl, rfl⟩
      · exact Or.inr ⟨_, rfl, rfl⟩

theorem register_some {st : St} {p : Nat} {call : Call} {type : Nat} {tok : Bytes} {d : Nat} {e : Entry}
    (h : (register st p call type tok d).2 = some e) :
    find st.async p tok = none ∧ ∃ mid, e.req = ⟨type, call.code, mid, tok, call.opts, call.payload⟩ := by
  unfold register at h
  split at h
  · cases h
  · split at h
    · cases h
    · rename_i hf
      split at h
      · cases h
      · dsimp only at h
        injection h with h
        subst h
        exact ⟨hf, _, rfl⟩

theorem rxOwn_cases (c : Async.Cfg) (dec : Dec) (st : St) (p : Nat) (defer : Option Nat) (rq : Request) :
    ((rxOwn c dec st p defer rq).1.1.async = st.async ∧ (rxOwn c dec st p defer rq).1.2 = none) ∨
    ∃ e, (rxOwn c dec st p defer rq).1.2 = some e ∧ (rxOwn c dec st p defer rq).1.1.async = e :: st.async := by
  unfold rxOwn
  dsimp only
  split
  · exact register_cases ..
  · exact Or.inl ⟨rfl, rfl⟩

theorem rxOwn_uniq (c : Async.Cfg) (dec : Dec) (st : St) (p : Nat) (defer : Option Nat) (rq : Request) (hu : Uniq st.async) :
    Uniq (rxOwn c dec st p defer rq).1.1.async := by
  unfold rxOwn
  dsimp only
  split
  · exact register_uniq hu
  · exact hu

theorem step_uniq (c : Async.Cfg) (dec : Dec) (st : St) (ev : Async.Ev) (hu : Uniq st.async) :
    Uniq (step c dec st ev).1.async := by
  cases ev with
  | rx p defer rq =>
    simp only [step]
    exact prepare_uniq (rxOwn_uniq c dec st p defer rq hu)
  | io dt v => simp only [step]; exact prepare_uniq hu
  | trigger k =>
    simp only [step]; unfold Uniq; rw [setNth_map key _ (by intro e; rfl)]; exact hu
  | setDelay k d =>
    simp only [step]; unfold Uniq; rw [setNth_map key _ (by intro e; rfl)]; exact hu
  | free k =>
    simp only [step]
    split
    · exact uniq_sublist (List.eraseIdx_sublist ..) hu
    · exact hu

theorem final_uniq (c : Async.Cfg) (dec : Dec) : ∀ (evs : List Async.Ev) (st : St), Uniq st.async →
    Uniq (final c dec st evs).async
  | [], _, h => h
  | ev :: r, st, h => final_uniq c dec r _ (step_uniq c dec st ev h)

theorem register_hit {st : St} {p : Nat} {call : Call} {type : Nat} {tok : Bytes} {d : Nat} {e : Entry}
    (h : find st.async p tok = some e) : register st p call type tok d = (st, none) := by
  unfold register
  split
  · rfl
  · rw [h]

theorem rxOwn_hit (c : Async.Cfg) (dec : Dec) (st : St) (p : Nat) (defer : Option Nat) (rq : Request) (e : Entry)
    (h : find st.async p rq.msg.token = some e) :
    (rxOwn c dec st p defer rq).1 = ({ st with sess := touch c st.sess p st.now }, none) ∧
    (rxOwn c dec st p defer rq).2 = dec.first true (if defer.isSome then { rq with verdict := ⟨0, []⟩ } else rq) := by
  unfold rxOwn
  simp only [h, Option.isSome_some]
  refine ⟨?_, trivial⟩
  split
  · exact register_hit h
  · rfl

end Coap.Async.L
