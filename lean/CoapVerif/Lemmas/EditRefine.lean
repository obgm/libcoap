import CoapVerif.Lemmas.EditPatch
/-
M-side lemmas for the editors (C04): coap_insert_option / coap_remove_option / coap_update_option on the
representing PDU are the abstract edits (`*_conc`), for every abstract message satisfying `Shape`, every capacity.

Two layers.  On any PDU whose buffer is known as `A ++ (… ++ Z)` around the option the search loop found, each
editor is a splice of that buffer (`*_splice`, `removeOption_last` / `_next`): here the model function is run, with nothing but byte lists in
sight.  On the representing PDU the option list is cut at the same place (`conc_buf_cut`), and putting the
spliced bytes back is `conc_upd_split`; what differs between the three editors is only the arithmetic of the
payload offset.
-/
namespace Coap
open Coap.M

theorem extLen_class (d : Nat) :
    (d < 13 ∧ (Spec.extBytes d).length = 0) ∨ (13 ≤ d ∧ d < 269 ∧ (Spec.extBytes d).length = 1) ∨
      (269 ≤ d ∧ (Spec.extBytes d).length = 2) := by
  rw [extBytes_length]
  by_cases h1 : d < 13
  · exact Or.inl ⟨h1, if_pos h1⟩
  · rw [if_neg h1]
    by_cases h2 : d < 269
    · exact Or.inr (Or.inl ⟨by omega, h2, if_pos h2⟩)
    · exact Or.inr (Or.inr ⟨by omega, if_neg h2⟩)

theorem extBytes_len_mono {d1 d2 : Nat} (h : d1 ≤ d2) : (Spec.extBytes d1).length ≤ (Spec.extBytes d2).length := by
  have := extLen_class d1
  have := extLen_class d2
  omega

/-- a delta that absorbs `d1` grows by no more bytes than the header of the option that carried `d1` had -/
theorem ext_growth (d1 d2 : Nat) :
    (Spec.extBytes (d1 + d2)).length ≤ (Spec.extBytes d2).length + (1 + (Spec.extBytes d1).length) := by
  have := extLen_class d1
  have := extLen_class d2
  have := extLen_class (d1 + d2)
  omega

/-- the same option behind another predecessor: only the delta extension bytes differ -/
theorem encOpt_length_delta (d d' : Nat) (v : Bytes) :
    (Spec.encOpt d v).length + (Spec.extBytes d').length = (Spec.encOpt d' v).length + (Spec.extBytes d).length := by
  rw [encOpt_length, encOpt_length]
  omega

theorem rd_app_cons (A : Bytes) (b : UInt8) (T : Bytes) : rd (A ++ b :: T) A.length = R.ok b.toNat := by
  rw [rd_app0, rd_cons_zero]

theorem updateOption_splice (pdu : Pdu) (n : Nat) (v : Bytes) (it : It) (nxt : Option It) (d : Nat) (A W Z : Bytes)
    (hv : v.length ≤ 65804) (hfind : findEq n (items pdu) = some (it, nxt))
    (hbuf : pdu.buf = A ++ (W ++ Z)) (hofs : it.ofs = A.length) (hd : it.p.delta = d) (hsize : it.p.size = W.length)
    (hW : W.length ≠ 0) :
    updateOption pdu n v =
      if optEncodeSize d v.length > W.length ∧
          ¬ checkResize pdu (pdu.buf.length + optEncodeSize d v.length - W.length) = true
      then R.ok (0, pdu)
      else R.ok (1, { pdu with buf := A ++ (optEncode d v ++ Z),
                               data := pdu.data.map (· + optEncodeSize d v.length - W.length) }) := by
  have hnv : ¬ (v.length > 65804) := by omega
  unfold updateOption
  simp only [hnv, if_false, hfind, hsize, hW, hofs, hd, splice_mid hbuf]

/-- `coap_insert_option` in front of the option found at `A`, whose header is re-encoded for the smaller delta -/
theorem insertBody_splice (pdu : Pdu) (n : Nat) (v : Bytes) (it : It) (prev d m : Nat) (A w Z : Bytes)
    (hfind : findInsert n 0 (items pdu) = some (it, prev))
    (hbuf : pdu.buf = A ++ (Spec.encOpt d w ++ Z)) (hofs : it.ofs = A.length) (hd : it.p.delta = d)
    (hm : it.num = m) (hle : m - n ≤ d) (hrep : ¬ (m - n = 0 ∧ ¬ repeatable n = true)) :
    insertBody pdu n v =
      if checkResize pdu (pdu.buf.length + optEncodeSize ((n - prev) % 65536) v.length) = true then
        R.ok (optEncodeSize ((n - prev) % 65536) v.length,
          { pdu with buf := A ++ (optEncode ((n - prev) % 65536) v ++ (Spec.encOpt (m - n) w ++ Z)),
                     data := pdu.data.map (· + optEncodeSize ((n - prev) % 65536) v.length -
                       ((Spec.extBytes d).length - (Spec.extBytes (m - n)).length)) })
      else R.ok (0, pdu) := by
  rw [encOpt_hdrB] at hbuf
  rw [insertBody_eq, hfind, encOpt_hdrB]
  simp only [hm, hrep, if_false, hd]
  by_cases hfit : checkResize pdu (pdu.buf.length + optEncodeSize ((n - prev) % 65536) v.length) = true
  · obtain ⟨J, hJ, hpatch⟩ := insPatch_spec A ((Spec.extBytes w.length ++ w) ++ Z) d (m - n) (Spec.nib w.length)
      (UInt8.ofNat (Spec.nib d * 16 + Spec.nib w.length)).toNat (hdr_byte _ _).2.2 hle
    have hrd : rd pdu.buf it.ofs = R.ok (UInt8.ofNat (Spec.nib d * 16 + Spec.nib w.length)).toNat := by
      rw [hbuf, hofs, hdrB_cons, List.cons_append, rd_app_cons]
    simp only [hfit, not_true_eq_false, if_false, if_true, hrd, R.bind_ok]
    rw [hofs, hbuf, hpatch, R.bind_ok, ← hJ, splice_mid (A := A) (M := J) rfl]
  · rw [if_pos hfit, if_neg hfit]

theorem removeOption_last (pdu : Pdu) (n : Nat) (it : It) (A W Z : Bytes)
    (hfind : findEq n (items pdu) = some (it, none))
    (hbuf : pdu.buf = A ++ (W ++ Z)) (hofs : it.ofs = A.length)
    (hW : optEncodeSize it.p.delta it.p.length = W.length) :
    removeOption pdu n =
      R.ok (1, { pdu with buf := A ++ Z, maxOpt := (pdu.maxOpt + 65536 - it.p.delta) % 65536,
                          data := pdu.data.map (· - W.length) }) := by
  have h := splice_mid hbuf []
  rw [List.append_nil, List.nil_append] at h
  rw [removeOption_eq, hfind]
  simp only [hW, hofs, h, Nat.add_sub_cancel_left]

/-- `coap_remove_option` of an option found at `A`, occupying `W`, with another one behind it: the header of
that one is re-encoded for the sum of the deltas, over the last bytes of `W` where it grows.  `s` is the number of bytes the
buffer loses; `+ 0` is M's `grown`, 1 only in the shuffle-up arm that `hW` rules out -/
theorem removeOption_next (pdu : Pdu) (n : Nat) (it nx : It) (d dn : Nat) (A W w Z : Bytes)
    (hfind : findEq n (items pdu) = some (it, some nx))
    (hbuf : pdu.buf = A ++ (W ++ (Spec.encOpt dn w ++ Z)))
    (hofs : it.ofs = A.length) (hnofs : nx.ofs = A.length + W.length) (hd : it.p.delta = d) (hdn : nx.p.delta = dn)
    (hW : 1 + (Spec.extBytes d).length ≤ W.length) :
    ∃ s, s + (Spec.extBytes (d + dn)).length = W.length + (Spec.extBytes dn).length ∧
      removeOption pdu n =
        R.ok (1, { pdu with buf := A ++ (Spec.encOpt (d + dn) w ++ Z),
                            data := pdu.data.map (· + 0 - s) }) := by
  rw [encOpt_hdrB] at hbuf
  rw [encOpt_hdrB]
  generalize (Spec.extBytes w.length ++ w) ++ Z = T at hbuf ⊢
  generalize w.length = l at hbuf ⊢
  have hg := ext_growth d dn
  have hm := extBytes_len_mono (Nat.le_add_left dn d)
  -- `W = W1 ++ J`, `J` the bytes the grown header takes
  obtain ⟨s, hs⟩ : ∃ s, s + (Spec.extBytes (d + dn)).length =
      W.length + (Spec.extBytes dn).length := ⟨_, Nat.sub_add_cancel (by omega)⟩
  refine ⟨s, hs, ?_⟩
  have hW1 : (W.take s).length = s := List.length_take_of_le (by omega)
  have hJ : (W.drop s).length =
      (Spec.extBytes (d + dn)).length - (Spec.extBytes dn).length := by
    rw [List.length_drop]; omega
  have hbuf2 : pdu.buf = (A ++ W.take s) ++ (W.drop s ++ (hdrB dn (Spec.nib l) ++ T)) := by
    rw [hbuf, List.append_assoc, ← List.append_assoc (W.take s), List.take_append_drop]
  have hPl : (A ++ W.take s).length = A.length + s := by rw [List.length_append, hW1]
  have hn : nx.ofs = (A ++ W.take s).length + (W.drop s).length := by
    rw [hnofs, hPl, hJ]; omega
  have hrd : rd pdu.buf nx.ofs = R.ok (UInt8.ofNat (Spec.nib dn * 16 + Spec.nib l)).toNat := by
    rw [hn, hbuf2, ← List.append_assoc, ← List.length_append, hdrB_cons, List.cons_append, rd_app_cons]
  have hpatch := remPatch_spec pdu _ _ T it.ofs dn (d + dn) (Spec.nib l) _ hbuf2
    (hdr_byte dn l).2.2 hJ (Nat.le_add_left _ _) (by rw [hPl]; omega)
  have hnlt : ¬ (A.length + s < A.length) := by omega
  rw [removeOption_eq, hfind]
  simp only [hrd, R.bind_ok, hd, hdn]
  rw [hn, hpatch, R.bind_ok]
  simp only [hPl, hofs, hnlt, if_false, Nat.add_sub_cancel_left]
  rw [List.append_assoc, List.take_left, ← hPl, ← List.append_assoc, List.drop_left]

theorem conc_buf_cut (ms : Nat) (a : Msg) {pre post : List (Nat × Bytes)} {o : Nat × Bytes}
    (h : a.opts = pre ++ o :: post) :
    (conc ms a).buf = (Spec.encToken a.token ++ Spec.encOpts 0 pre) ++
      (Spec.encOpt (o.1 - lastD 0 pre) o.2 ++ (Spec.encOpts o.1 post ++ Spec.encPayload a.payload)) := by
  show Spec.encToken a.token ++ (Spec.encOpts 0 a.opts ++ _) = _
  rw [h, encOpts_split, encOpts_cons]
  simp only [List.append_assoc]

theorem conc_pre_length (a : Msg) (pre : List (Nat × Bytes)) :
    (Spec.extBytes a.token.length).length + a.token.length + (Spec.encOpts 0 pre).length =
      (Spec.encToken a.token ++ Spec.encOpts 0 pre).length := by
  rw [List.length_append, encToken_length]

/-- the PDU representing `a` with the options behind `pre` replaced (`M`'s field updates seen abstractly): the bytes in
front stay, and the payload offset moves up by `k` and down by `j`, which make up the difference of the two encodings -/
theorem conc_upd_split (ms : Nat) (a : Msg) {pre rest : List (Nat × Bytes)} (rest' : List (Nat × Bytes)) (B : Bytes)
    (mo k j : Nat) (h : a.opts = pre ++ rest)
    (hB : B = (Spec.encToken a.token ++ Spec.encOpts 0 pre) ++
      (Spec.encOpts (lastD 0 pre) rest' ++ Spec.encPayload a.payload))
    (hmo : mo = lastD (lastD 0 pre) rest')
    (hlen : (Spec.encOpts (lastD 0 pre) rest).length + k = (Spec.encOpts (lastD 0 pre) rest').length + j) :
    ({ conc ms a with buf := B, maxOpt := mo, data := (conc ms a).data.map (· + k - j) } : Pdu) =
      conc ms { a with opts := pre ++ rest' } := by
  rw [← lastD_append, ← lastNum_eq_lastD] at hmo
  subst hB hmo
  by_cases hp : a.payload = []
  · simp [conc, hp, encOpts_split]
  · simp [conc, hp, encOpts_split, h, Nat.add_assoc]
    omega

theorem shape_cut {a : Msg} (hs : Shape a) {pre post : List (Nat × Bytes)} {o : Nat × Bytes}
    (h : a.opts = pre ++ o :: post) :
    lastD 0 pre ≤ o.1 ∧ o.1 ≤ 65535 ∧ o.2.length ≤ 65804 ∧ optsB o.1 post := by
  have hB := optsB_of_shape hs
  rw [h] at hB
  obtain ⟨_, b2, b3, b4, b5, _⟩ := optsB_split hB
  exact ⟨b2, b3, b4, b5⟩

/-- `coap_insert_option` below its first test (`number < pdu->max_opt`) -/
theorem insertBody_conc (ms : Nat) (a : Msg) (n : Nat) (v : Bytes) (hs : Shape a) (hn : n < lastNum a.opts) :
    insertBody (conc ms a) n v =
      if ms = 0 ∨ (conc ms a).buf.length + (Spec.encOpt (n - prevNum n a.opts) v).length ≤ ms then
        R.ok ((Spec.encOpt (n - prevNum n a.opts) v).length, conc ms { a with opts := Spec.insertStable n v a.opts })
      else R.ok (0, conc ms a) := by
  have hex : ∃ o ∈ a.opts, n < o.1 := Classical.byContradiction fun hne =>
    Nat.lt_irrefl _ (Nat.lt_of_lt_of_le hn
      (lastD_le (Nat.zero_le n) fun o ho => Nat.le_of_not_lt fun hlt => hne ⟨o, ho, hlt⟩))
  obtain ⟨pre, nx, post, e1, e2, e3, e4, e5, e6⟩ :=
    findInsert_abs n v a.opts ((Spec.extBytes a.token.length).length + a.token.length) 0 hex
  have hpv : prevNum n a.opts = lastD 0 pre := by unfold prevNum; rw [← e6]
  rw [hpv]
  obtain ⟨b2, b3, _, _⟩ := shape_cut hs e1
  have hpn : lastD 0 pre ≤ n := lastD_le (Nat.zero_le n) e2
  rw [← items_conc ms a hs, conc_pre_length] at e4
  have hδ : (n - lastD 0 pre) % 65536 = n - lastD 0 pre := Nat.mod_eq_of_lt (by omega)
  have henc := optEncode_eq (n - lastD 0 pre) v
  have hsz := optEncodeSize_encOpt (n - lastD 0 pre) v
  rw [insertBody_splice (conc ms a) n v _ _ (nx.1 - lastD 0 pre) nx.1 _ nx.2 _ e4 (conc_buf_cut ms a e1) rfl rfl rfl
    (show nx.1 - n ≤ nx.1 - lastD 0 pre by omega) (show ¬ (nx.1 - n = 0 ∧ _) by omega), hδ, hsz, henc]
  refine ite_congr (propext (checkResize_iff _ _)) (fun _ => congrArg R.ok (Prod.ext rfl ?_)) (fun _ => rfl)
  rw [e5]
  refine conc_upd_split ms a _ _ _ _ _ e1 (by simp only [encOpts_cons, List.append_assoc]) ?_ ?_
  · show lastNum a.opts = _
    rw [e1, lastNum_eq_lastD, lastD_append_cons, lastD_cons, lastD_cons]
  · have hmono := extBytes_len_mono (show nx.1 - n ≤ nx.1 - lastD 0 pre by omega)
    have hre := encOpt_length_delta (nx.1 - lastD 0 pre) (nx.1 - n) nx.2
    simp only [encOpts_cons, List.length_append]
    omega

theorem removeOption_conc (ms : Nat) (a : Msg) (n : Nat) (hs : Shape a) :
    removeOption (conc ms a) n =
      if Spec.hasOpt n a.opts = true then R.ok (1, conc ms { a with opts := Spec.removeFirst n a.opts })
      else R.ok (0, conc ms a) := by
  cases hh : Spec.hasOpt n a.opts with
  | false =>
    rw [removeOption_eq, items_conc ms a hs, findEq_none n a.opts _ _ hh]
    rfl
  | true =>
    obtain ⟨pre, w, post, e1, _, e3, e4, _⟩ :=
      findEq_abs n a.opts ((Spec.extBytes a.token.length).length + a.token.length) 0 hh
    obtain ⟨b2, _, _, b5⟩ : lastD 0 pre ≤ n ∧ n ≤ 65535 ∧ w.length ≤ 65804 ∧ optsB n post := shape_cut hs e1
    have hbuf : (conc ms a).buf = _ ++ (Spec.encOpt (n - lastD 0 pre) w ++ (Spec.encOpts n post ++ _)) :=
      conc_buf_cut ms a (o := (n, w)) e1
    rw [← items_conc ms a hs, conc_pre_length] at e3
    rw [if_pos rfl, e4]
    rcases post with _ | ⟨nx, post⟩
    · -- last option: cut it off, max_opt falls back to the previous number
      rw [removeOption_last (conc ms a) n _ _ (Spec.encOpt (n - lastD 0 pre) w) _ e3 hbuf rfl
        (optEncodeSize_encOpt _ _)]
      refine congrArg R.ok (Prod.ext rfl ?_)
      refine conc_upd_split ms a _ _ _ 0 _ e1 rfl ?_ ?_
      · show (lastNum a.opts + 65536 - (n - lastD 0 pre)) % 65536 = _
        rw [e1, lastNum_eq_lastD, lastD_append_cons, lastD_nil, lastD_nil]
        omega
      · simp only [Spec.encOpts, List.length_append, List.length_nil]
        omega
    · -- an option follows: its delta absorbs the removed one's
      have hle : n ≤ nx.1 := b5.1
      have hW : 1 + (Spec.extBytes (n - lastD 0 pre)).length ≤ (Spec.encOpt (n - lastD 0 pre) w).length := by
        rw [encOpt_length]; omega
      obtain ⟨s, hs', hrem⟩ := removeOption_next (conc ms a) n _ _ (n - lastD 0 pre) (nx.1 - n) _ _ nx.2
        (Spec.encOpts nx.1 post ++ Spec.encPayload a.payload) e3
        (hbuf.trans (by simp only [encOpts_cons, List.append_assoc])) rfl rfl rfl rfl hW
      rw [hrem]
      have hsum : n - lastD 0 pre + (nx.1 - n) = nx.1 - lastD 0 pre := by omega
      rw [hsum] at hs' ⊢
      refine congrArg R.ok (Prod.ext rfl ?_)
      refine conc_upd_split ms a _ _ _ _ _ e1 (by simp only [encOpts_cons, List.append_assoc]) ?_ ?_
      · show lastNum a.opts = _
        rw [e1, lastNum_eq_lastD, lastD_append_cons, lastD_cons, lastD_cons]
      · have hre := encOpt_length_delta (nx.1 - lastD 0 pre) (nx.1 - n) nx.2
        simp only [encOpts_cons, List.length_append]
        omega

theorem updateOption_found (ms : Nat) (a : Msg) (n : Nat) (v : Bytes) (hs : Shape a) (hv : v.length ≤ 65804)
    (hh : Spec.hasOpt n a.opts = true) :
    updateOption (conc ms a) n v =
      if (conc ms { a with opts := Spec.replaceFirst n v a.opts }).buf.length ≤ (conc ms a).buf.length ∨ ms = 0 ∨
         (conc ms { a with opts := Spec.replaceFirst n v a.opts }).buf.length ≤ ms
      then R.ok (1, conc ms { a with opts := Spec.replaceFirst n v a.opts })
      else R.ok (0, conc ms a) := by
  obtain ⟨pre, w, post, e1, _, e3, _, e5⟩ :=
    findEq_abs n a.opts ((Spec.extBytes a.token.length).length + a.token.length) 0 hh
  obtain ⟨b2, b3, _, _⟩ : lastD 0 pre ≤ n ∧ n ≤ 65535 ∧ w.length ≤ 65804 ∧ optsB n post := shape_cut hs e1
  have hbuf : (conc ms a).buf = _ ++ (Spec.encOpt (n - lastD 0 pre) w ++ (Spec.encOpts n post ++ _)) :=
    conc_buf_cut ms a (o := (n, w)) e1
  have hbuf' : (conc ms { a with opts := Spec.replaceFirst n v a.opts }).buf =
      (Spec.encToken a.token ++ _) ++ (Spec.encOpt (n - lastD 0 pre) v ++ (Spec.encOpts n post ++ Spec.encPayload a.payload)) :=
    conc_buf_cut ms { a with opts := Spec.replaceFirst n v a.opts } (o := (n, v)) (e5 v)
  have hl := congrArg List.length hbuf
  have hl' := congrArg List.length hbuf'
  simp only [List.length_append] at hl hl'
  rw [← items_conc ms a hs, conc_pre_length] at e3
  have henc := optEncode_eq (n - lastD 0 pre) v
  have hsz := optEncodeSize_encOpt (n - lastD 0 pre) v
  have hold : (Spec.encOpt (n - lastD 0 pre) w).length ≠ 0 := by rw [encOpt_length]; omega
  have hcr := checkResize_iff (conc ms a)
    ((conc ms a).buf.length + (Spec.encOpt (n - lastD 0 pre) v).length - (Spec.encOpt (n - lastD 0 pre) w).length)
  rw [conc_maxSize] at hcr
  rw [updateOption_splice (conc ms a) n v _ _ (n - lastD 0 pre) _ (Spec.encOpt (n - lastD 0 pre) w) _ hv e3 hbuf rfl rfl rfl hold,
    hsz, henc]
  refine Eq.trans ?_ (ite_not _ _ _)
  refine ite_congr (propext ?_) (fun _ => rfl) (fun _ => congrArg R.ok (Prod.ext rfl ?_))
  · rw [hcr]; omega
  · rw [e5 v]
    refine conc_upd_split ms a _ _ _ _ _ e1 (by simp only [encOpts_cons, List.append_assoc]) ?_ ?_
    · show lastNum a.opts = _
      rw [e1, lastNum_eq_lastD, lastD_append_cons, lastD_cons]
    · simp only [encOpts_cons, List.length_append]
      omega

end Coap
