import CoapVerif.Lemmas.AllocRecv
/-
C18 — simulation of the allocation skeleton of the receive path (Model/AllocRecv.lean) by C05's byte-level reader
(Model/StreamReader.lean) when MEMORY IS AVAILABLE (the oracle is exhausted: every request is granted) and no coap_dispatch
disconnects the session: same exits, same reader state, and the messages handed to coap_dispatch (ghost `msgs`, one `dsp`
record each) are the messages the reader delivers, in order.
-/
namespace Coap.AllocRecv
open Coap Coap.M Coap.AllocOracle Coap.Sessions
open Coap.C18 (alloc_granted allTrue_of_nil orcNil_closed pduInit_allTrue resize_allTrue)

def toPdu (p : RPdu) : Stream.Pdu := ⟨p.hdrSize, p.usedSize, p.buf⟩

def toSt (s : RSess) : Stream.St := ⟨s.rh, s.partialRead, s.ppdu.map toPdu⟩

/-- memory is available from here on and no dispatch disconnects -/
def Avail (w : RW) : Prop := w.h.orc = [] ∧ w.dcs = []

/-- the result `r` of the skeleton corresponds to the result `q` of the reader, started from world `w` -/
def Sim (w : RW) (r : Exit × RSess × RW) (q : List Msg × Stream.Out) : Prop :=
  Avail r.2.2 ∧ r.2.2.msgs = w.msgs ++ q.1 ∧ r.2.2.dsp.length = w.dsp.length + q.1.length ∧
  match q.2 with
  | .cont st => r.1 = .ok ∧ r.2.1.up = true ∧ toSt r.2.1 = st
  | .closed => r.1 = .fail
  | .oob => r.1 = .oob

theorem free_orc (h : Heap) (i : Nat) : (h.free i).orc = h.orc := rfl

theorem pduDelete_orc (p : OPdu) (h : Heap) : (pduDelete p h).orc = h.orc := rfl

/-- with memory available the receive PDU is obtained exactly when the size limit allows it (C05's `pduAlloc`); the exhausted
oracle is a case of the all-true one (`allTrue_of_nil`) and stays exhausted (`orcNil_closed`) -/
theorem pduInit_avail_big (maxRcv : Nat) {h : Heap} (ho : h.orc = []) (hm : maxRcv > 8388864 - 6) :
    (AllocOracle.pduInit maxRcv h).1 = none ∧ (AllocOracle.pduInit maxRcv h).2.orc = [] := by
  refine ⟨?_, orcNil_closed.pduInit maxRcv h ho⟩
  obtain ⟨h1, e1, _⟩ := alloc_granted h (allTrue_of_nil ho)
  unfold AllocOracle.pduInit
  rw [e1]; simp only
  rw [if_pos hm]

theorem pduInit_avail (maxRcv : Nat) {h : Heap} (ho : h.orc = []) (hm : ¬ maxRcv > 8388864 - 6) :
    ∃ p0 h1, AllocOracle.pduInit maxRcv h = (some p0, h1) ∧ h1.orc = [] ∧ p0.allocSize = min maxRcv 256 ∧ p0.maxSize = maxRcv := by
  obtain ⟨p, h1, e, _, hmx, _, hal⟩ := pduInit_allTrue maxRcv h (allTrue_of_nil ho) (by omega)
  exact ⟨p, h1, e, by have := orcNil_closed.pduInit maxRcv h ho; rwa [e] at this, hal, hmx⟩

theorem growTo_avail {p0 : OPdu} {h1 : Heap} (size : Nat) (ho : h1.orc = []) :
    (growTo p0 size h1).2.2.orc = [] ∧
    ((growTo p0 size h1).1 = 0 ↔ (p0.allocSize < size ∧ p0.maxSize ≠ 0 ∧ size > p0.maxSize)) := by
  unfold growTo
  by_cases hs : p0.allocSize < size
  · rw [if_pos hs]
    refine ⟨orcNil_closed.resize p0 size h1 ho, fun hz => ⟨hs, ?_⟩, fun hx => ?_⟩
    · apply Decidable.by_contra
      intro hn
      rw [resize_allTrue p0 size h1 (allTrue_of_nil ho) (by omega)] at hz
      cases hz
    · unfold resize; rw [if_pos hs, if_pos hx.2]
  · rw [if_neg hs]; exact ⟨ho, by simp [hs]⟩

theorem dispatchDelete_avail (parsed : Option Msg) (p : OPdu) (s : RSess) (w : RW) (ha : Avail w) :
    Avail (dispatchDelete parsed p s w).2 ∧ (dispatchDelete parsed p s w).1 = s ∧
    (dispatchDelete parsed p s w).2.msgs = w.msgs ++ Spec.Stream.deliver parsed [] ∧
    (dispatchDelete parsed p s w).2.dsp.length = w.dsp.length + (Spec.Stream.deliver parsed []).length := by
  obtain ⟨ho, hd⟩ := ha
  unfold dispatchDelete
  cases parsed with
  | none => simp [Avail, Spec.Stream.deliver, pduDelete_orc, ho, hd]
  | some m => simp [Avail, Spec.Stream.deliver, pduDelete_orc, ho, hd, dcHead]

theorem pduAlloc_false_iff (maxRcv size : Nat) : Stream.pduAlloc maxRcv size = false ↔
    (maxRcv > 8388864 - 6 ∨ (min maxRcv 256 < size ∧ maxRcv ≠ 0 ∧ size > maxRcv)) := by
  unfold Stream.pduAlloc Stream.maxRx Stream.maxHdr
  by_cases hb : maxRcv > 8388864 - 6
  · simp [hb]
  · by_cases h1 : min maxRcv 256 < size <;> by_cases h2 : (maxRcv ≠ 0 ∧ size > maxRcv) <;> simp [hb, h1, h2]

theorem deliver_cons (o : Option Msg) (rest : List Msg) :
    Spec.Stream.deliver o rest = Spec.Stream.deliver o [] ++ rest := by
  cases o <;> rfl

/-- Sim is transitive along the loop: a dispatch followed by the rest -/
theorem Sim.after {w w1 : RW} {r : Exit × RSess × RW} {q : List Msg × Stream.Out} (pre : List Msg)
    (hm : w1.msgs = w.msgs ++ pre) (hd : w1.dsp.length = w.dsp.length + pre.length) (h : Sim w1 r q) :
    Sim w r (pre ++ q.1, q.2) := by
  obtain ⟨h1, h2, h3, h4⟩ := h
  refine ⟨h1, ?_, ?_, h4⟩
  · rw [h2, hm, List.append_assoc]
  · rw [h3, hd, List.length_append]; omega

theorem Sim.stop {w : RW} (ha : Avail w) {e : Exit} {s : RSess} {o : Stream.Out}
    (h : match o with
      | .cont st => e = .ok ∧ s.up = true ∧ toSt s = st
      | .closed => e = .fail
      | .oob => e = .oob) : Sim w (e, s, w) ([], o) :=
  ⟨ha, (List.append_nil _).symm, rfl, h⟩

theorem Sim.same {w : RW} {r : Exit × RSess × RW} {q : List Msg × Stream.Out} (h : Sim w r q) : Sim w r (q.1, q.2) := h

theorem Sim.dispatch {w : RW} (ha : Avail w) (parsed : Option Msg) (p : OPdu) (s : RSess)
    {q : List Msg × Stream.Out} {f : RSess → RW → Exit × RSess × RW}
    (h : ∀ w', Avail w' → Sim w' (f s w') q) :
    Sim w (f (dispatchDelete parsed p s w).1 (dispatchDelete parsed p s w).2) (Spec.Stream.deliver parsed q.1, q.2) := by
  obtain ⟨hav, hs, hm, hd⟩ := dispatchDelete_avail parsed p s w ha
  rw [hs, deliver_cons]
  exact Sim.after _ hm hd (h _ hav)

/-- C05's reader at the point where the header `rh` is complete, with the rest of the loop as `k`.  This IS the code that
`Stream.loop` (Model/StreamReader) has inline after `n = len`, by unfolding: the `exact` in `loop_sim` rests on that, so a
change of the model's text fails there and not silently. -/
def readerHeader (maxRcv : Nat) (rh : Bytes) (hdrSize hl : Nat) (k : Stream.St → List Msg × Stream.Out) :
    List Msg × Stream.Out :=
  match parseSizeTcp rh with
  | R.ok size =>
    if size > Stream.maxRx then ([], .closed)
    else if Stream.pduAlloc maxRcv size = false then ([], .closed)
    else
      if size = 0 then
        let r := k ⟨[], 0, none⟩
        (Stream.deliverR (Stream.parsePdu hdrSize (rh.take hl)) r.1, r.2)
      else k ⟨[], hl, some ⟨hdrSize, size, rh.take hl⟩⟩
  | _ => ([], .oob)

/-- with memory available the outcome at a complete header is decided by the size limits alone (C05's `pduAlloc`); `f`, `k`: the
rest of the two loops -/
theorem headerDone_sim (maxRcv : Nat) (s : RSess) (w : RW) (rh : Bytes) (hdrSize hl : Nat) (ha : Avail w) (hu : s.up = true)
    (f : RSess → RW → Exit × RSess × RW) (k : Stream.St → List Msg × Stream.Out)
    (h : ∀ s' w', Avail w' → s'.up = true → Sim w' (f s' w') (k (toSt s'))) :
    Sim w (if (headerDone maxRcv s w rh hdrSize hl).1 = .ok then
        f (headerDone maxRcv s w rh hdrSize hl).2.1 (headerDone maxRcv s w rh hdrSize hl).2.2
      else headerDone maxRcv s w rh hdrSize hl) (readerHeader maxRcv rh hdrSize hl k) := by
  obtain ⟨ho, hd⟩ := ha
  unfold headerDone readerHeader
  cases parseSizeTcp rh with
  | rej => exact Sim.stop ⟨ho, hd⟩ rfl
  | oob => exact Sim.stop ⟨ho, hd⟩ rfl
  | ok size =>
    simp only
    by_cases hm : size > Stream.maxRx
    · rw [if_pos hm, if_pos hm]; exact Sim.stop ⟨ho, hd⟩ rfl
    · rw [if_neg hm, if_neg hm]
      by_cases hb : maxRcv > 8388864 - 6
      · have hP := pduInit_avail_big maxRcv ho hb
        rw [if_pos ((pduAlloc_false_iff maxRcv size).mpr (Or.inl hb))]
        rcases hq : AllocOracle.pduInit maxRcv w.h with ⟨_ | p0, h1⟩
        · rw [hq] at hP
          exact ⟨⟨hP.2, hd⟩, (List.append_nil _).symm, rfl, rfl⟩
        · rw [hq] at hP; cases hP.1
      · obtain ⟨p0, h1, hq, o1, hal, hmx⟩ := pduInit_avail maxRcv ho hb
        rw [hq]
        simp only
        have hG := growTo_avail (p0 := p0) size o1
        rw [hal, hmx] at hG
        by_cases hg : min maxRcv 256 < size ∧ maxRcv ≠ 0 ∧ size > maxRcv
        · rw [if_pos (hG.2.mpr hg), if_pos ((pduAlloc_false_iff maxRcv size).mpr (Or.inr hg))]
          exact ⟨⟨hG.1, hd⟩, (List.append_nil _).symm, rfl, rfl⟩
        · rw [if_neg fun h => hg (hG.2.mp h), if_neg fun h => ((pduAlloc_false_iff maxRcv size).mp h).elim hb hg]
          by_cases h0 : size = 0
          · rw [if_pos h0, if_pos h0]
            -- the dispatch happens in the world with the grown heap; `Sim` reads only `msgs` and `dsp` of its first argument
            exact Sim.dispatch (w := { w with h := _ }) (f := f) ⟨hG.1, hd⟩ _ _ _ fun w' ha' => h _ w' ha' hu
          · rw [if_neg h0, if_neg h0]
            exact h _ _ ⟨hG.1, hd⟩ hu

theorem loop_sim (maxRcv : Nat) : ∀ (fuel : Nat) (s : RSess) (w : RW) (bs : Bytes), Avail w → s.up = true →
    Sim w (loop maxRcv fuel s w bs) (Stream.loop maxRcv fuel (toSt s) bs) := by
  intro fuel
  induction fuel with
  | zero => intro s w bs ha hu; exact Sim.stop ha ⟨rfl, hu, rfl⟩
  | succ fuel ih =>
    intro s w bs ha hu
    unfold loop Stream.loop
    by_cases hb : bs.length = 0
    · rw [if_pos hb, if_pos hb]; exact Sim.stop ha ⟨rfl, hu, rfl⟩
    · rw [if_neg hb, if_neg hb]
      cases hp : s.ppdu with
      | some p =>
        simp only [toSt, hp, Option.map_some, toPdu]
        generalize min (p.usedSize + p.hdrSize - s.partialRead) bs.length = n
        by_cases hn : n = p.usedSize + p.hdrSize - s.partialRead
        · rw [if_pos hn, if_pos hn]
          exact Sim.dispatch (f := fun s w => loop maxRcv fuel s w (bs.drop n)) ha _ p.pdu _
            fun w' ha' => ih _ w' _ ha' hu
        · rw [if_neg hn, if_neg hn]
          exact ih _ _ _ ha hu
      | none =>
        simp only [toSt, hp, Option.map_none]
        by_cases hpr : s.partialRead > 0
        · rw [if_pos hpr, if_pos hpr]
          cases hr : M.rd s.rh 0 with
          | rej => exact Sim.stop ha rfl
          | oob => exact Sim.stop ha rfl
          | ok b0 =>
            simp only
            have hte : (if b0 % 16 = 13 then 1 else if b0 % 16 = 14 then 2 else 0) = tokExtOf b0 := rfl
            rw [hte]
            generalize headerSize .tcp b0 + tokExtOf b0 = hl
            generalize min (hl - s.partialRead) bs.length = n
            by_cases hcap : s.partialRead + n > Stream.rhCap
            · rw [if_pos hcap, if_pos hcap]; exact Sim.stop ha rfl
            · rw [if_neg hcap, if_neg hcap]
              by_cases hn : n = hl - s.partialRead
              · rw [if_pos hn, if_pos hn]
                exact headerDone_sim maxRcv s w _ _ hl ha hu (fun s w => loop maxRcv fuel s w (bs.drop n))
                  (fun st => Stream.loop maxRcv fuel st (bs.drop n)) fun s' w' ha' hu' => ih s' w' _ ha' hu'
              · rw [if_neg hn, if_neg hn]
                exact ih _ _ _ ha hu
        · rw [if_neg hpr, if_neg hpr]
          cases bs with
          | nil => exact Sim.stop ha ⟨rfl, hu, by simp [toSt, hp]⟩
          | cons b r =>
            simp only
            by_cases hh : headerSize .tcp b.toNat = 0
            · rw [if_pos hh, if_pos hh]; exact Sim.stop ha rfl
            · rw [if_neg hh, if_neg hh]
              exact ih _ _ _ ha hu

/-- a closed reader is a DISCONNECTED session (`call_fail`) -/
theorem call_sim (maxRcv : Nat) : ∀ (fuel : Nat) (s : RSess) (w : RW) (avail : Bytes), Avail w → s.up = true →
    Sim w (call maxRcv fuel s w avail) (Stream.call maxRcv fuel (toSt s) avail) := by
  intro fuel
  induction fuel with
  | zero => intro s w avail ha hu; exact Sim.stop ha ⟨rfl, hu, rfl⟩
  | succ fuel ih =>
    intro s w avail ha hu
    unfold call Stream.call
    have hL := loop_sim maxRcv ((List.take Stream.rxBuf avail).length + 1) s w (List.take Stream.rxBuf avail) ha hu
    simp only
    generalize loop maxRcv ((List.take Stream.rxBuf avail).length + 1) s w (List.take Stream.rxBuf avail) = r at hL ⊢
    generalize Stream.loop maxRcv ((List.take Stream.rxBuf avail).length + 1) (toSt s) (List.take Stream.rxBuf avail) = q at hL ⊢
    obtain ⟨ms, o⟩ := q
    obtain ⟨h1, h2, h3, h4⟩ := hL
    cases o with
    | cont st =>
      simp only at h4 ⊢
      obtain ⟨e1, e2, e3⟩ := h4
      rw [e1]; simp only
      by_cases hg : (List.take Stream.rxBuf avail).length = Stream.rxBuf
      · rw [if_pos hg, if_pos hg]
        have hI := ih r.2.1 r.2.2 (avail.drop Stream.rxBuf) h1 e2
        rw [e3] at hI
        exact Sim.after ms h2 h3 hI
      · rw [if_neg hg, if_neg hg]
        exact ⟨h1, h2, h3, e1, e2, e3⟩
    | closed =>
      simp only at h4 ⊢
      rw [h4]
      -- coap_session_disconnected_lkd makes no request and dispatches nothing
      have hd : (disconnected r.2.1 r.2.2).2.h.orc = r.2.2.h.orc := by
        unfold disconnected
        cases r.2.1.ppdu <;> rfl
      exact ⟨⟨hd.trans h1.1, h1.2⟩, h2, h3, rfl⟩
    | oob =>
      simp only at h4 ⊢
      rw [h4]
      exact ⟨h1, h2, h3, h4⟩

theorem recvRun_down (maxRcv : Nat) : ∀ (chunks : List Bytes) (s : RSess) (w : RW), s.up = false →
    (recvRun maxRcv { sess := some s, w := w } (chunks.map .chunk)).2 = { sess := some s, w := w } := by
  intro chunks
  induction chunks with
  | nil => intro s w _; rfl
  | cons c cs ih =>
    intro s w hu
    simp only [List.map_cons, recvRun, recvStep, hu, Bool.false_eq_true, if_false]
    exact ih s w hu

theorem run_sim (maxRcv : Nat) : ∀ (chunks : List Bytes) (s : RSess) (w : RW), Avail w → s.up = true →
    (Stream.feed maxRcv (toSt s) chunks).2 ≠ .oob →
    Avail (recvRun maxRcv { sess := some s, w := w } (chunks.map .chunk)).2.w ∧
    (recvRun maxRcv { sess := some s, w := w } (chunks.map .chunk)).2.w.msgs = w.msgs ++ (Stream.feed maxRcv (toSt s) chunks).1 ∧
    (recvRun maxRcv { sess := some s, w := w } (chunks.map .chunk)).2.w.dsp.length =
      w.dsp.length + (Stream.feed maxRcv (toSt s) chunks).1.length ∧
    ∃ s', (recvRun maxRcv { sess := some s, w := w } (chunks.map .chunk)).2.sess = some s' ∧
      match (Stream.feed maxRcv (toSt s) chunks).2 with
      | .cont st => s'.up = true ∧ toSt s' = st
      | _ => s'.up = false := by
  intro chunks
  induction chunks with
  | nil => intro s w ha hu _; exact ⟨ha, by simp [recvRun, Stream.feed], by simp [recvRun, Stream.feed], s, rfl, hu, rfl⟩
  | cons c cs ih =>
    intro s w ha hu hno
    have hC := call_sim maxRcv (c.length + 1) s w c ha hu
    have hF := call_fail maxRcv (c.length + 1) s w c
    simp only [List.map_cons, recvRun, recvStep, hu, if_true]
    unfold Stream.feed at hno ⊢
    generalize call maxRcv (c.length + 1) s w c = r at hC hF ⊢
    generalize Stream.call maxRcv (c.length + 1) (toSt s) c = q at hC hno ⊢
    obtain ⟨ms, o⟩ := q
    obtain ⟨h1, h2, h3, h4⟩ := hC
    cases o with
    | cont st =>
      simp only at h4 hno ⊢
      obtain ⟨e1, e2, e3⟩ := h4
      have hI := ih r.2.1 r.2.2 h1 e2 (by rw [e3]; exact hno)
      rw [e3] at hI
      obtain ⟨i1, i2, i3, s', i4, i5⟩ := hI
      refine ⟨i1, ?_, ?_, s', i4, i5⟩
      · rw [i2, h2, List.append_assoc]
      · rw [i3, h3, List.length_append]; simp only at *; omega
    | closed =>
      simp only at h4 hno ⊢
      rw [recvRun_down maxRcv cs r.2.1 r.2.2 (hF h4).1]
      exact ⟨h1, h2, h3, r.2.1, rfl, (hF h4).1⟩
    | oob => exact absurd rfl hno

theorem sessionFree_avail (s : RSess) (w : RW) (ha : Avail w) :
    Avail (sessionFree s w) ∧ (sessionFree s w).msgs = w.msgs ∧ (sessionFree s w).dsp = w.dsp := by
  unfold sessionFree Avail
  cases s.ppdu <;> exact ⟨⟨by simp only [pduDelete_orc]; exact ha.1, ha.2⟩, rfl, rfl⟩

theorem newSess_spec (m : Nat) (st0 : RState) (ha : Avail st0.w) :
    ∃ w', (recvStep m st0 .newSess).2 = { sess := some {}, w := w' } ∧ Avail w' ∧ w'.msgs = st0.w.msgs ∧ w'.dsp = st0.w.dsp := by
  cases st0 with
  | mk sess w =>
    cases sess with
    | none => exact ⟨w, rfl, ha, rfl, rfl⟩
    | some s => exact ⟨sessionFree s w, rfl, sessionFree_avail s w ha⟩

end Coap.AllocRecv
