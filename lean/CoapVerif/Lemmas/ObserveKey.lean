import CoapVerif.Model.ObserveKey
/- Lemmas about the observation's cache key (Model/ObserveKey.lean): the key depends only on the cache-key options of the
   request, and — since the length of each value is digested — on ALL of them (injective); the key of a whole request (method,
   options, FETCH payload) likewise. -/
namespace Coap.Observe

theorem digestInput_cacheOpts (ign : List Nat) : ∀ opts : List ReqOpt, digestInput ign (cacheOpts ign opts) = digestInput ign opts
  | [] => rfl
  | o :: rest => by
    have ih := digestInput_cacheOpts ign rest
    unfold cacheOpts at ih ⊢
    by_cases h : isCacheKey ign o.num = true
    · simp only [List.filter_cons, h, if_true, digestInput, ih]
    · simp [h, digestInput, ih]

theorem digestInput_eq_of_cacheOpts_eq (ign : List Nat) (a b : List ReqOpt) (h : cacheOpts ign a = cacheOpts ign b) :
    digestInput ign a = digestInput ign b := by
  rw [← digestInput_cacheOpts ign a, ← digestInput_cacheOpts ign b, h]

theorem cacheOpts_append (ign : List Nat) (a b : List ReqOpt) : cacheOpts ign (a ++ b) = cacheOpts ign a ++ cacheOpts ign b := by
  unfold cacheOpts
  exact List.filter_append ..

theorem cacheOpts_ignores (ign : List Nat) (a b : List ReqOpt) (o : ReqOpt) (h : isCacheKey ign o.num = false) :
    cacheOpts ign (a ++ o :: b) = cacheOpts ign (a ++ b) := by
  rw [cacheOpts_append, cacheOpts_append]
  congr 1
  unfold cacheOpts
  rw [List.filter_cons_of_neg (by simp [h])]

theorem reqKey_eq_of_cacheOpts_eq (code : Nat) (a b : List ReqOpt) (p : List Nat)
    (h : cacheOpts obsIgnore a = cacheOpts obsIgnore b) : reqKey code a p = reqKey code b p := by
  unfold reqKey reqDigest
  rw [digestInput_eq_of_cacheOpts_eq obsIgnore a b h]

theorem obsKey_eq_of_cacheOpts_eq (a b : List ReqOpt) (h : cacheOpts obsIgnore a = cacheOpts obsIgnore b) : obsKey a = obsKey b :=
  reqKey_eq_of_cacheOpts_eq 1 a b [] h

theorem reqKey_ignores_payload_unless_fetch (code : Nat) (a : List ReqOpt) (p q : List Nat) (h : code ≠ 5) :
    reqKey code a p = reqKey code a q := by
  unfold reqKey reqDigest
  simp [h]

theorem eq_of_byte_eq {a b : Nat} (h0 : a % 256 = b % 256) (h1 : a / 256 = b / 256) : a = b := by
  rw [← Nat.div_add_mod a 256, ← Nat.div_add_mod b 256, h0, h1]

theorem le16_inj (a b : Nat) (ha : a < 65536) (hb : b < 65536) (h : le16 a = le16 b) : a = b := by
  unfold le16 at h
  simp only [List.cons.injEq, and_true] at h
  have ha1 : a / 256 < 256 := Nat.div_lt_of_lt_mul ha
  have hb1 : b / 256 < 256 := Nat.div_lt_of_lt_mul hb
  rw [Nat.mod_eq_of_lt ha1, Nat.mod_eq_of_lt hb1] at h
  exact eq_of_byte_eq h.1 h.2

theorem le32_inj (a b : Nat) (ha : a < 4294967296) (hb : b < 4294967296) (h : le32 a = le32 b) : a = b := by
  unfold le32 at h
  simp only [List.cons.injEq, and_true] at h
  obtain ⟨h0, h1, h2, h3⟩ := h
  have ha3 : a / 16777216 < 256 := Nat.div_lt_of_lt_mul ha
  have hb3 : b / 16777216 < 256 := Nat.div_lt_of_lt_mul hb
  rw [Nat.mod_eq_of_lt ha3, Nat.mod_eq_of_lt hb3] at h3
  have e2 : a / 65536 = b / 65536 :=
    eq_of_byte_eq h2 ((Nat.div_div_eq_div_mul a 65536 256).trans (h3.trans (Nat.div_div_eq_div_mul b 65536 256).symm))
  have e1 : a / 256 = b / 256 :=
    eq_of_byte_eq h1 ((Nat.div_div_eq_div_mul a 256 256).trans (e2.trans (Nat.div_div_eq_div_mul b 256 256).symm))
  exact eq_of_byte_eq h0 e1

def WfOpt (o : ReqOpt) : Prop := o.num < 65536 ∧ o.val.length < 4294967296 ∧ ∀ b ∈ o.val, b < 256

/-- number and length have fixed widths, so the three parts of an option's contribution can be told apart -/
theorem digestOpt_append_inj (o o' : ReqOpt) (r r' : List Nat) (ho : WfOpt o) (ho' : WfOpt o')
    (h : digestOpt o ++ r = digestOpt o' ++ r') : o = o' ∧ r = r' := by
  unfold digestOpt at h
  rw [List.append_assoc, List.append_assoc, List.append_assoc, List.append_assoc] at h
  obtain ⟨h16, h⟩ := List.append_inj h (rfl : (le16 o.num).length = (le16 o'.num).length)
  obtain ⟨h32, h⟩ := List.append_inj h (rfl : (le32 o.val.length).length = (le32 o'.val.length).length)
  have hn : o.num = o'.num := le16_inj _ _ ho.1 ho'.1 h16
  have hl : o.val.length = o'.val.length := le32_inj _ _ ho.2.1 ho'.2.1 h32
  obtain ⟨hv, hr⟩ := List.append_inj h hl
  refine ⟨?_, hr⟩
  cases o; cases o'
  simp only at hn hv
  rw [hn, hv]

def digestAll : List ReqOpt → List Nat
  | [] => []
  | o :: rest => digestOpt o ++ digestAll rest

theorem digestInput_of_all (ign : List Nat) : ∀ opts : List ReqOpt, (∀ o ∈ opts, isCacheKey ign o.num = true) →
    digestInput ign opts = digestAll opts
  | [], _ => rfl
  | o :: rest, h => by
    simp only [digestInput, h o (List.mem_cons_self ..), if_true, digestAll]
    rw [digestInput_of_all ign rest (fun o' ho' => h o' (List.mem_cons_of_mem _ ho'))]

theorem digestOpt_ne_nil (o : ReqOpt) (r : List Nat) : digestOpt o ++ r ≠ [] := by
  unfold digestOpt le16
  simp

theorem digestAll_inj : ∀ (a b : List ReqOpt), (∀ o ∈ a, WfOpt o) → (∀ o ∈ b, WfOpt o) → digestAll a = digestAll b → a = b
  | [], [], _, _, _ => rfl
  | [], o :: r, _, _, h => by
    simp only [digestAll] at h
    exact absurd h.symm (digestOpt_ne_nil o _)
  | o :: r, [], _, _, h => by
    simp only [digestAll] at h
    exact absurd h (digestOpt_ne_nil o _)
  | o :: r, o' :: r', ha, hb, h => by
    simp only [digestAll] at h
    obtain ⟨h1, h2⟩ := digestOpt_append_inj o o' _ _ (ha o (List.mem_cons_self ..)) (hb o' (List.mem_cons_self ..)) h
    rw [h1, digestAll_inj r r' (fun x hx => ha x (List.mem_cons_of_mem _ hx)) (fun x hx => hb x (List.mem_cons_of_mem _ hx)) h2]

theorem mem_cacheOpts {ign : List Nat} {a : List ReqOpt} {o : ReqOpt} :
    o ∈ cacheOpts ign a ↔ o ∈ a ∧ isCacheKey ign o.num = true := List.mem_filter

theorem digestInput_injective (ign : List Nat) (a b : List ReqOpt) (ha : WfOpts a) (hb : WfOpts b)
    (h : digestInput ign a = digestInput ign b) : cacheOpts ign a = cacheOpts ign b := by
  rw [← digestInput_cacheOpts ign a, ← digestInput_cacheOpts ign b,
    digestInput_of_all ign _ (fun o ho => (mem_cacheOpts.mp ho).2), digestInput_of_all ign _ (fun o ho => (mem_cacheOpts.mp ho).2)] at h
  exact digestAll_inj _ _ (fun o ho => ha o (mem_cacheOpts.mp ho).1) (fun o ho => hb o (mem_cacheOpts.mp ho).1) h

theorem encBytes_injective : ∀ (a b : List Nat), (∀ x ∈ a, x < 256) → (∀ x ∈ b, x < 256) → encBytes a = encBytes b → a = b
  | [], [], _, _, _ => rfl
  | [], y :: s, _, _, h => by simp only [encBytes] at h; omega
  | x :: r, [], _, _, h => by simp only [encBytes] at h; omega
  | x :: r, y :: s, ha, hb, h => by
    simp only [encBytes] at h
    have hx := ha x (List.mem_cons_self ..)
    have hy := hb y (List.mem_cons_self ..)
    have h12 : x = y ∧ encBytes r = encBytes s := by omega
    rw [h12.1, encBytes_injective r s (fun z hz => ha z (List.mem_cons_of_mem _ hz)) (fun z hz => hb z (List.mem_cons_of_mem _ hz)) h12.2]

theorem le16_bytes (n : Nat) : ∀ b ∈ le16 n, b < 256 := by
  intro b hb
  unfold le16 at hb
  simp only [List.mem_cons, List.not_mem_nil, or_false] at hb
  rcases hb with h | h <;> exact h ▸ Nat.mod_lt _ (by decide)

theorem le32_bytes (n : Nat) : ∀ b ∈ le32 n, b < 256 := by
  intro b hb
  unfold le32 at hb
  simp only [List.mem_cons, List.not_mem_nil, or_false] at hb
  rcases hb with h | h | h | h <;> exact h ▸ Nat.mod_lt _ (by decide)

theorem digestOpt_bytes (o : ReqOpt) (ho : WfOpt o) : ∀ b ∈ digestOpt o, b < 256 := by
  unfold digestOpt
  rw [List.forall_mem_append, List.forall_mem_append]
  exact ⟨le16_bytes _, le32_bytes _, ho.2.2⟩

theorem digestInput_bytes (ign : List Nat) : ∀ opts : List ReqOpt, WfOpts opts → ∀ b ∈ digestInput ign opts, b < 256
  | [], _ => nofun
  | o :: rest, h => by
    have hr := digestInput_bytes ign rest fun x hx => h x (List.mem_cons_of_mem _ hx)
    unfold digestInput
    split
    · rw [List.forall_mem_append]
      exact ⟨digestOpt_bytes o (h o (List.mem_cons_self ..)), hr⟩
    · exact hr

theorem reqDigest_bytes (code : Nat) (a : List ReqOpt) (p : List Nat) (hc : code < 256) (ha : WfOpts a) (hp : WfPayload p) :
    ∀ b ∈ reqDigest code a p, b < 256 := by
  unfold reqDigest
  rw [List.forall_mem_cons, List.forall_mem_append]
  refine ⟨hc, ?_, digestInput_bytes obsIgnore a ha⟩
  split
  · rw [List.forall_mem_append]
    exact ⟨le32_bytes _, hp.2⟩
  · nofun

theorem reqDigest_injective (m m' : Nat) (a b : List ReqOpt) (p q : List Nat) (hp : WfPayload p) (hq : WfPayload q)
    (h : reqDigest m a p = reqDigest m' b q) :
    m = m' ∧ digestInput obsIgnore a = digestInput obsIgnore b ∧ (m = 5 → p = q) := by
  unfold reqDigest at h
  simp only [List.cons.injEq] at h
  obtain ⟨hm, h⟩ := h
  subst hm
  refine ⟨rfl, ?_⟩
  by_cases h5 : m = 5
  · subst h5
    simp only [beq_self_eq_true, if_true, List.append_assoc] at h
    have hl : (le32 p.length).length = (le32 q.length).length := rfl
    obtain ⟨h1, h2⟩ := List.append_inj h hl
    have hlen : p.length = q.length := le32_inj _ _ hp.1 hq.1 h1
    obtain ⟨h3, h4⟩ := List.append_inj h2 hlen
    exact ⟨h4, fun _ => h3⟩
  · have : (m == 5) = false := by simp [h5]
    simp only [this] at h
    exact ⟨h, fun x => absurd x h5⟩

theorem reqKey_eq_iff (m m' : Nat) (a b : List ReqOpt) (p q : List Nat) (hm : m < 256) (hm' : m' < 256)
    (ha : WfOpts a) (hb : WfOpts b) (hp : WfPayload p) (hq : WfPayload q) :
    reqKey m a p = reqKey m' b q ↔ m = m' ∧ cacheOpts obsIgnore a = cacheOpts obsIgnore b ∧ (m = 5 → p = q) := by
  constructor
  · intro h
    unfold reqKey at h
    obtain ⟨h1, h2, h3⟩ := reqDigest_injective m m' a b p q hp hq
      (encBytes_injective _ _ (reqDigest_bytes m a p hm ha hp) (reqDigest_bytes m' b q hm' hb hq) h)
    exact ⟨h1, digestInput_injective obsIgnore a b ha hb h2, h3⟩
  · rintro ⟨rfl, h2, h3⟩
    by_cases h5 : m = 5
    · rw [h3 h5]
      exact reqKey_eq_of_cacheOpts_eq m a b q h2
    · rw [reqKey_ignores_payload_unless_fetch m a p q h5]
      exact reqKey_eq_of_cacheOpts_eq m a b q h2

theorem wfPayload_nil : WfPayload [] := ⟨by decide, fun _ h => by simp at h⟩

end Coap.Observe
