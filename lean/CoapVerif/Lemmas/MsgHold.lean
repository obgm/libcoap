import CoapVerif.Lemmas.MsgLayerX
/-
C08, "held … and later transmitted as earlier exchanges finish": the invariant `NIH` (no idle hold) — on an
ESTABLISHED session a message sits in the delay queue only if it is a Confirmable and `con_active ≥ NSTART` —
is kept by every event of the base model (`Coap.Msg.step`) and of the extended model (`Coap.MsgX.stepX`).
With `WF` (con_active = in flight ≤ NSTART) this says: a message waits only while exactly NSTART Confirmables
are in flight; every event that ends an exchange (ACK, RST, pong, invalid reply, give-up, cancel by token)
re-opens the gate at once.  Core Lean only.
-/
namespace Coap.MsgX
open Coap.SQ Coap.Msg

/-- the delay queue of an established session is empty, or blocked by a Confirmable at its head for which there is
no free NSTART slot -/
def Blocked (se : Sess) : Prop :=
  se.est = true → ∀ n ∈ se.delayq.head?, n.con = true ∧ se.nstart ≤ se.conActive

def NIH (l : L) : Prop := ∀ s, s < l.sess.length → Blocked (l.getS s)

theorem Blocked.of_nil {se : Sess} (h : se.delayq = []) : Blocked se := by
  intro _ n hn; simp [h] at hn

theorem Blocked.of_not_est {se : Sess} (h : se.est = false) : Blocked se := by
  intro he; simp [h] at he

theorem NIH.of_frame {l l' : L} {s0 : Nat} (h : NIH l) (hf : Frame s0 l l')
    (hb : s0 < l.sess.length → Blocked (l'.getS s0)) : NIH l' := by
  intro s hlt
  have hlt' : s < l.sess.length := hf.len ▸ hlt
  by_cases e : s = s0
  · subst e; exact hb hlt'
  · rw [(hf.other s e).1]; exact h s hlt'

theorem NIH.of_sess {l l' : L} (h : NIH l) (e : l'.sess = l.sess) : NIH l' := by
  intro s hlt
  have : l'.getS s = l.getS s := by simp [L.getS, e]
  rw [this]; exact h s (by rw [← e]; exact hlt)

/-- with more fuel than held messages the loop of `coap_session_connected` stops by its own test, and that test is `Blocked`; a loop
cut short (`connectedK`, `MsgW.drainW`) may stop in front of a free head, which is why `NIH` is not claimed for them -/
theorem drain_blocked : ∀ (fuel : Nat) (l : L) (s : Nat), s < l.sess.length →
    (l.getS s).delayq.length < fuel → Blocked ((drain fuel l s).getS s)
  | 0, _, _, _, hf => absurd hf (Nat.not_lt_zero _)
  | fuel + 1, l, s, hlt, hf => by
    rcases drain_succ fuel l s with ⟨n, rest, hdq, _, e⟩ | ⟨e, hstop⟩ <;> rw [e]
    · apply drain_blocked fuel _ s (by rw [drainOne_len]; exact hlt)
      rw [drainOne_getS hlt]
      rw [hdq] at hf
      exact Nat.lt_of_succ_lt_succ hf
    · intro hest m hm
      have := hstop m hm
      simp only [drainGoes, hest, true_and, Decidable.not_not] at this
      exact this

theorem connected_blocked (l : L) (s : Nat) (hlt : s < l.sess.length) : Blocked ((connected l s).getS s) := by
  unfold connected
  simp only []
  apply drain_blocked _ _ s (by simpa using hlt)
  rw [getS_setS_same hlt]
  exact Nat.lt_succ_self _

theorem release_blocked (l : L) (s : Nat) (hlt : s < l.sess.length) (h : Blocked (l.getS s)) :
    Blocked ((release l s).getS s) := by
  unfold release
  simp only []
  split
  · exact h
  · split
    · exact connected_blocked _ s (by simpa using hlt)
    · rename_i hest
      rw [getS_setS_same hlt]
      exact Blocked.of_not_est (by simpa using hest)

theorem sendCore_blocked (l : L) (s : Nat) (con : Bool) (mid r tok : Nat) (hlt : s < l.sess.length)
    (h : Blocked (l.getS s)) : Blocked ((sendCore l s con mid r tok).1.getS s) := by
  rcases sendCore_cases l s con mid r tok with ⟨_, e⟩ | ⟨hg, e⟩ | ⟨_, _, e⟩ | ⟨hg, hc, e⟩ <;> rw [e]
  · exact h
  · -- held: behind a blocked head, or itself the head the gate has just refused
    rw [getS_setS_same hlt]
    intro hest m hm
    cases hdq : (l.getS s).delayq with
    | nil =>
      simp [hdq, sendNode] at hm
      subst hm
      simp [gate, show (l.getS s).est = true from hest] at hg
      simpa using hg
    | cons a t =>
      simp [hdq] at hm
      subst hm
      exact h hest a (by simp [hdq])
  · exact h
  · rw [getS_waitAck, getS_setS_same (by simpa using hlt)]
    simp [gate, hc] at hg
    intro hest m hm
    have := h hest m hm
    simp only []
    omega

theorem nih_sendCore (l : L) (s : Nat) (con : Bool) (mid r tok : Nat) (h : NIH l) : NIH (sendCore l s con mid r tok).1 :=
  h.of_frame (sendCore_mid l s con mid r tok).frame (fun hlt => sendCore_blocked l s con mid r tok hlt (h s hlt))

theorem retransmitX_blocked (pt prng : Nat) (l : L) (n : Node) (hc : n.con = true) (hlt : n.sess < l.sess.length)
    (hb : (l.getS n.sess).conActive ≤ 255) (h : Blocked (l.getS n.sess)) :
    Blocked ((retransmitX pt prng l n).getS n.sess) := by
  rcases retransmitX_cases pt prng l n with ⟨d, _, hg, e⟩ | ⟨d, _, _, e⟩ | ⟨_, e⟩ <;> rw [e]
  · rw [getS_setS_same (by simpa using hlt)]
    intro hest m hm
    simp only [] at hest
    simp [gate, hc, hest] at hg
    cases hdq : (l.getS n.sess).delayq with
    | nil =>
      simp [hdq] at hm
      subst hm
      exact ⟨hc, hg⟩
    | cons a t =>
      simp [hdq] at hm
      subst hm
      exact ⟨(h hest a (by simp [hdq])).1, hg⟩
  · rw [getS_setS_same (by simpa using hlt)]
    intro hest m hm
    have := h hest m hm
    refine ⟨this.1, ?_⟩
    simp only [hc, if_true]
    omega
  · rw [if_pos hc, getS_emit]
    exact release_blocked l n.sess hlt h

/-- for any node list `rest` in place of the send queue (only `n ∈ l.q.nodes` is used: `n` is a Confirmable, by `WF`) -/
theorem nih_retransmitX (pt prng : Nat) {l : L} (hw : WF l) (h : NIH l) (n : Node) (rest : List Node)
    (hm : n ∈ l.q.nodes) :
    NIH (retransmitX pt prng { l with q := { l.q with nodes := rest } } n) := by
  have hc : n.con = true := hw.1.mem hm
  have h1 : NIH { l with q := { l.q with nodes := rest } } := h.of_sess rfl
  refine h1.of_frame (retransmitX_ok pt prng _ n hc).1 (fun hlt => ?_)
  refine retransmitX_blocked pt prng _ n hc hlt ?_ (h n.sess hlt)
  have := hw.2 n.sess hlt
  show (l.getS n.sess).conActive ≤ 255
  omega

variable {R : Node → Prop} {F : Nat → Prop}

/-- every event that ends an exchange re-opens the gate at once: `release` runs the loop of `coap_session_connected` to its end -/
theorem nih_disp : Disp R NIH where
  emit _ _ h := h.of_sess rfl
  finish l _ rest h _ _ :=
    have h1 : NIH { l with q := { l.q with nodes := rest } } := h.of_sess rfl
    h1.of_frame (release_mid _ _).frame fun hlt => release_blocked _ _ hlt (h1 _ hlt)
  dropNon _ _ _ h _ _ _ := h.of_sess rfl

theorem wfNih_evtX : EvtX R F (fun l => WF l ∧ NIH l) where
  toDisp := wf_disp.and nih_disp
  now _ _ h := ⟨h.1, h.2.of_sess rfl⟩
  hold l s h := ⟨(Mid.est l s false).reach.wf h.1,
    h.2.of_frame (Frame.setS _ _ _) fun hlt => by rw [getS_setS_same hlt]; exact Blocked.of_not_est rfl⟩
  send l s con mid r tok h := ⟨(sendCore_reach l s con mid r tok).wf h.1, nih_sendCore l s con mid r tok h.2⟩
  retx pt prng _ n rest h hp := ⟨(popRetransmitX_reach pt prng hp).wf h.1,
    nih_retransmitX pt prng h.1 h.2 n rest (without_popNext hp).1⟩
  connected l s h := ⟨(connected_reach l s).wf h.1, h.2.of_frame (connected_mid l s).frame fun hlt => connected_blocked l s hlt⟩
  fail l s h _ := ⟨(disconnect_reach l s).wf h.1,
    h.2.of_frame (disconnect_frame l s) fun hlt => Blocked.of_nil (by rw [disconnect_getS l s hlt])⟩

theorem nih_run (evs : List Ev) (l : L) (hw : WF l) (h : NIH l) : NIH (run l evs) :=
  (EvtX.run (fun _ => wfNih_evtX) evs l ⟨hw, h⟩).2

theorem nihX_run (evs : List EvX) (lx : LX) (hw : WF lx.l) (h : NIH lx.l) : NIH (runX lx evs).l :=
  (EvtX.runX (fun _ => wfNih_evtX) evs lx ⟨hw, h⟩).2

theorem NIH.full {l : L} (hn : NIH l) (hw : WF l) {s : Nat} (hlt : s < l.sess.length) (he : (l.getS s).est = true) :
    ∀ n ∈ (l.getS s).delayq.head?, n.con = true ∧ inflight l s = (l.getS s).nstart := fun n hm => by
  have h1 := hn s hlt he n hm
  have h2 := hw.2 s hlt
  exact ⟨h1.1, by omega⟩

theorem nih_init (t0 : Nat) (ss : List Sess) (hss : ∀ se ∈ ss, se.conActive = 0 ∧ se.delayq = [] ∧ se.nstart ≤ 255) :
    NIH (init t0 ss) := by
  intro s hlt
  have hlt' : s < ss.length := hlt
  have hm : (init t0 ss).getS s ∈ ss := by
    simp [init, L.getS, List.getD_eq_getElem?_getD, hlt']
  exact Blocked.of_nil (hss _ hm).2.1

end Coap.MsgX
