import CoapVerif.Lemmas.SchedInv
/-
C06, counting on the code model M for the whole C06 alphabet including the NSTART gate: for every (session, mid)
  accepted `coap_send`s = outcome NACKs + silent completions by ACK + nodes in the send queue + nodes in the delay queue,
a message that is neither queued nor delayed is never transmitted again, at most MAX_RETRANSMIT + 1 transmissions are made per
accepted `coap_send`, and after the due loop nothing is due.

`Keeps` says what a function does to the counters of one (session, mid) — two laws, conservation and budget —, starting from what
SchedInv says the function does on an `FInv` state; it is carried through the session bookkeeping (`connected`, `release`) by
`Walk`.  "Never transmitted again" is read off the two at the run level (`quiet_of_laws`): no node left means no budget left.
-/
namespace Coap.Sched
open Coap Coap.SQ Coap.Msg Coap.Timer Coap.Sim

def midC (mid : Nat) : List Node → Nat
  | [] => 0
  | n :: r => (if n.mid = mid then 1 else 0) + midC mid r

/-- outcome NACKs + nodes in the send queue + nodes in the delay queue, of (s, mid) -/
def Phi (s mid : Nat) (l : L) : Nat :=
  nackC s mid l.out + pendC s mid l.q.nodes + midC mid (l.getS s).delayq

/-- 1 if the event is a `coap_send` of (s, mid) that is accepted (it is refused only when the same message id is
already waiting in the session's delay queue) -/
def accW (s mid : Nat) (l : L) : Ev → Nat
  | .submit s' true m' _ =>
    if (s' = s ∧ m' = mid) ∧ ¬ (gate (l.getS s') true = true ∧ (l.getS s').delayq.any (fun x => x.mid = m') = true)
    then 1 else 0
  | _ => 0

def accC (s mid : Nat) : L → List Ev → Nat
  | _, [] => 0
  | l, ev :: evs => accW s mid l ev + accC s mid (Msg.step l ev) evs

/-- number of nodes of (s, mid) the event takes out of the send queue WITHOUT an outcome NACK (TOO_MANY_RETRIES / RST):
an ACK that finds the message (the silent completion), an invalid-code ACK that finds it (reported as NACK "bad
response"), a response carrying its token (`coap_cancel_all_messages`) -/
def remW (s mid : Nat) (l : L) : Ev → Nat
  | .rxAck s' m' => if (s' = s ∧ m' = mid) ∧ (removeNode l.q.nodes s' m').1 ≠ none then 1 else 0
  | .rxBad s' m' => if (s' = s ∧ m' = mid) ∧ (removeNode l.q.nodes s' m').1 ≠ none then 1 else 0
  | .rxNon s' _ tok => if (l.getS s').sockOpen then cancelCount s mid (l.q.nodes.length + 1) l s' tok else 0
  | _ => 0

def remC (s mid : Nat) : L → List Ev → Nat
  | _, [] => 0
  | l, ev :: evs => remW s mid l ev + remC s mid (Msg.step l ev) evs

theorem midC_append (mid : Nat) (a b : List Node) : midC mid (a ++ b) = midC mid a + midC mid b := by
  induction a with
  | nil => simp [midC]
  | cons x a ih => simp only [List.cons_append, midC, ih]; omega

/-- the counters of queued nodes are weight sums (`SQ.wsum`), so they follow the queue operations whatever these do to `t` -/
theorem pendC_eq (s mid : Nat) : pendC s mid = wsum (fun n => if n.sess = s ∧ n.mid = mid then 1 else 0) := by
  funext l
  induction l with
  | nil => rfl
  | cons n r ih => simp only [pendC, wsum, ih]

theorem pendC_enqueue (s mid : Nat) (q : Queue) (now d : Nat) (n : Node) :
    pendC s mid (enqueue q now d n).nodes = pendC s mid q.nodes + (if n.sess = s ∧ n.mid = mid then 1 else 0) := by
  rw [pendC_eq, wsum_enqueue (fun _ _ => rfl)]
  exact Nat.add_comm _ _

theorem pendC_popNext (s mid : Nat) (l : List Node) (n : Node) (rest : List Node) (h : popNext l = some (n, rest)) :
    pendC s mid l = pendC s mid rest + (if n.sess = s ∧ n.mid = mid then 1 else 0) := by
  rw [pendC_eq, wsum_popNext (fun _ _ => rfl) l n rest h]
  exact Nat.add_comm _ _

theorem pendC_removeNode (s mid : Nat) (l : List Node) (s' m' : Nat) :
    pendC s mid l = pendC s mid (removeNode l s' m').2 +
      (if (s' = s ∧ m' = mid) ∧ (removeNode l s' m').1 ≠ none then 1 else 0) := by
  have h := wsum_removeNode (w := fun n => if n.sess = s ∧ n.mid = mid then 1 else 0) (fun _ _ => rfl) l s' m'
  have hkey := removeNode_found l s' m'
  rw [pendC_eq, h]
  cases hr : (removeNode l s' m').1 with
  | none => simp
  | some x => simp [(hkey x hr).2.1, (hkey x hr).2.2]

/-- transmissions a queued node of (s, mid) may still make -/
def budC (s mid mx : Nat) : List Node → Nat
  | [] => 0
  | n :: r => (if n.sess = s ∧ n.mid = mid then mx - n.cnt else 0) + budC s mid mx r

theorem budC_eq (s mid mx : Nat) :
    budC s mid mx = wsum (fun n => if n.sess = s ∧ n.mid = mid then mx - n.cnt else 0) := by
  funext l
  induction l with
  | nil => rfl
  | cons n r ih => simp only [budC, wsum, ih]

theorem budC_enqueue (s mid mx : Nat) (q : Queue) (now d : Nat) (n : Node) :
    budC s mid mx (enqueue q now d n).nodes =
      (if n.sess = s ∧ n.mid = mid then mx - n.cnt else 0) + budC s mid mx q.nodes := by
  rw [budC_eq]; exact wsum_enqueue (fun _ _ => rfl) ..

theorem budC_popNext (s mid mx : Nat) (l : List Node) (n : Node) (rest : List Node) (h : popNext l = some (n, rest)) :
    budC s mid mx l = (if n.sess = s ∧ n.mid = mid then mx - n.cnt else 0) + budC s mid mx rest := by
  rw [budC_eq]; exact wsum_popNext (fun _ _ => rfl) l n rest h

theorem budC_removeNode_le (s mid mx : Nat) (l : List Node) (s' m' : Nat) :
    budC s mid mx (removeNode l s' m').2 ≤ budC s mid mx l := by
  rw [budC_eq, wsum_removeNode (fun _ _ => rfl) l s' m']
  exact Nat.le_add_right _ _

theorem budC_zero (s mid mx : Nat) : ∀ l : List Node, pendC s mid l = 0 → budC s mid mx l = 0
  | [], _ => rfl
  | n :: r, h => by
    simp only [pendC] at h
    by_cases hk : n.sess = s ∧ n.mid = mid
    · rw [if_pos hk] at h; omega
    · simp only [budC, if_neg hk, budC_zero s mid mx r (by omega)]

theorem nackC_cons_other (s mid : Nat) (o : Out) (out : List Out) (h : nackW s mid o = 0) :
    nackC s mid (o :: out) = nackC s mid out := by
  simp only [nackC, h, Nat.zero_add]

theorem nackC_append (s mid : Nat) (x y : List Out) : nackC s mid (x ++ y) = nackC s mid x + nackC s mid y := by
  induction x with
  | nil => simp [nackC]
  | cons o x ih => simp only [List.cons_append, nackC, ih]; omega

theorem txC_append (s mid : Nat) (x y : List Out) : txC s mid (x ++ y) = txC s mid x + txC s mid y := by
  induction x with
  | nil => simp [txC]
  | cons o x ih => simp only [List.cons_append, txC, ih]; omega

/-- nodes of (s, mid) in the send queue + in the delay queue -/
def Psi (s mid : Nat) (l : L) : Nat := pendC s mid l.q.nodes + midC mid (l.getS s).delayq

theorem phi_eq (s mid : Nat) (l : L) : Phi s mid l = nackC s mid l.out + Psi s mid l := by
  simp only [Phi, Psi]; omega

/-- transmissions made + transmissions the queued and the delayed nodes of (s, mid) may still make -/
def W (s mid mx : Nat) (l : L) : Nat :=
  txC s mid l.out + budC s mid mx l.q.nodes + (mx + 1) * midC mid (l.getS s).delayq

theorem W_quiet (s mid mx : Nat) (l : L) (h0 : Psi s mid l = 0) : W s mid mx l = txC s mid l.out := by
  simp only [Psi] at h0
  simp only [W, budC_zero s mid mx l.q.nodes (by omega), show midC mid (l.getS s).delayq = 0 by omega]
  omega

/-- what a function of the model does to the counters of (s, mid): outcome NACKs + queued + delayed is conserved, and
transmissions made + transmissions still allowed is conserved.  That queued + delayed does not grow and that nothing of
(s, mid) is transmitted while it is 0 is not carried: along a run it follows from these two (`quiet_of_laws`) -/
structure Keeps (s mid mx : Nat) (l l' : L) : Prop where
  phi : Phi s mid l' = Phi s mid l
  w : W s mid mx l' = W s mid mx l

theorem Keeps.refl (s mid mx : Nat) (l : L) : Keeps s mid mx l l := ⟨rfl, rfl⟩

theorem Keeps.trans {s mid mx : Nat} {l l' l'' : L} (h1 : Keeps s mid mx l l') (h2 : Keeps s mid mx l' l'') :
    Keeps s mid mx l l'' :=
  ⟨h2.phi.trans h1.phi, h2.w.trans h1.w⟩

theorem keeps_setS_keep (s mid mx : Nat) (l : L) (s' : Nat) (se : Sess) (h : se.delayq = (l.getS s').delayq) :
    Keeps s mid mx l (l.setS s' se) := by
  have hd := delayq_setS_keep l s' s se h
  refine ⟨?_, ?_⟩
  · simp only [Phi]; rw [hd]; rfl
  · simp only [W]; rw [hd]; rfl

theorem emit_counts (s mid mx : Nat) (l : L) (o : Out) (h2 : txC s mid [o] = 0) :
    Phi s mid (l.emit o) = Phi s mid l + nackW s mid o ∧ W s mid mx (l.emit o) = W s mid mx l := by
  have ht : txC s mid (o :: l.out) = txC s mid l.out := by simp only [txC] at h2 ⊢; omega
  refine ⟨?_, ?_⟩
  · simp only [Phi]
    show nackW s mid o + nackC s mid l.out + pendC s mid l.q.nodes + midC mid (l.getS s).delayq = _
    omega
  · simp only [W]
    show txC s mid (o :: l.out) + _ + _ = _
    rw [ht]
    rfl

theorem keeps_emit_other (s mid mx : Nat) (l : L) (o : Out) (h1 : nackW s mid o = 0)
    (h2 : txC s mid [o] = 0) : Keeps s mid mx l (l.emit o) := by
  obtain ⟨e1, e2⟩ := emit_counts s mid mx l o h2
  exact ⟨by rw [e1, h1]; rfl, e2⟩

theorem counts_without (s mid mx : Nat) (l : L) (ns : List Node) (k : Nat)
    (hk : pendC s mid l.q.nodes = pendC s mid ns + k) (hb : budC s mid mx ns ≤ budC s mid mx l.q.nodes) :
    Phi s mid ({ l with q := { l.q with nodes := ns } } : L) + k = Phi s mid l ∧
    W s mid mx ({ l with q := { l.q with nodes := ns } } : L) ≤ W s mid mx l := by
  simp only [Phi, W]
  refine ⟨?_, ?_⟩
  · show nackC s mid l.out + pendC s mid ns + midC mid (l.getS s).delayq + k = _
    omega
  · show txC s mid l.out + budC s mid mx ns + (mx + 1) * midC mid (l.getS s).delayq ≤ _
    omega

theorem sent_counts (s mid mx : Nat) {l l' : L} (n : Node) (t k d e : Nat)
    (ho : l'.out = .tx t n.sess n.mid k true :: l.out) (hq : l'.q = enqueue l.q l.now d n)
    (hd : midC mid (l'.getS s).delayq + e = midC mid (l.getS s).delayq) :
    Phi s mid l' + e = Phi s mid l + (if n.sess = s ∧ n.mid = mid then 1 else 0) ∧
    W s mid mx l' + (mx + 1) * e =
      W s mid mx l + (if n.sess = s ∧ n.mid = mid then 1 else 0) + (if n.sess = s ∧ n.mid = mid then mx - n.cnt else 0) := by
  have hpq := pendC_enqueue s mid l.q l.now d n
  have hbq := budC_enqueue s mid mx l.q l.now d n
  have hnk : nackC s mid l'.out = nackC s mid l.out := by
    rw [ho]; exact nackC_cons_other _ _ _ _ rfl
  have htx : txC s mid l'.out = (if n.sess = s ∧ n.mid = mid then 1 else 0) + txC s mid l.out := by rw [ho]; rfl
  simp only [Phi, W, hq, hnk, htx, hpq, hbq, ← hd, Nat.mul_add]
  refine ⟨by omega, by omega⟩

/-- a relation between states that the session bookkeeping respects: a preorder that holds across a `setS` which keeps
the delay queue and across one round of the drain loop -/
structure Walk (par : Nat → Sess) (P : Nat → Nat → Nat → Prop) (R : L → L → Prop) : Prop where
  refl : ∀ l, R l l
  trans : ∀ {l l' l''}, R l l' → R l' l'' → R l l''
  sess : ∀ l s se, se.delayq = (l.getS s).delayq → R l (l.setS s se)
  start : ∀ l s ca n rest, l.getS s = { par s with conActive := ca, delayq := n :: rest } → DNodeOk par P s n →
    l.q.base ≤ l.now → R l (started par l s ca n rest)

theorem drain_walk {par : Nat → Sess} {P : Nat → Nat → Nat → Prop} {R : L → L → Prop} (hp : GPar par)
    (hR : Walk par P R) : ∀ (fuel : Nat) (l : L) (s : Nat), FInv False par P l → R l (drain fuel l s)
  | 0, l, _, _ => hR.refl l
  | f + 1, l, s, hi => by
    rcases drain_cases hp f l s hi with h | ⟨ca, n, rest, hg, hn, h, hi'⟩
    · rw [h]; exact hR.refl l
    · rw [h]; exact hR.trans (hR.start l s ca n rest hg hn hi.base) (drain_walk hp hR f _ s hi')

theorem connected_walk {par : Nat → Sess} {P : Nat → Nat → Nat → Prop} {R : L → L → Prop} (hp : GPar par)
    (hR : Walk par P R) (l : L) (s : Nat) (hi : FInv False par P l) : R l (connected l s) :=
  hR.trans (hR.sess l s { (l.getS s) with est := true } rfl) (drain_walk hp hR _ _ s (finv_setS_est hp hi s))

theorem release_walk {par : Nat → Sess} {P : Nat → Nat → Nat → Prop} {R : L → L → Prop} (hp : GPar par)
    (hR : Walk par P R) (l : L) (s : Nat) (hi : FInv False par P l) : R l (release l s) := by
  have hk := hR.sess l s { (l.getS s) with conActive := (l.getS s).conActive - 1 } rfl
  unfold release
  simp only []
  exact ite_ind (fun _ => hR.refl l) fun _ =>
    ite_ind (fun _ => hR.trans hk (connected_walk hp hR _ s (finv_setS_dec hi s))) fun _ => hk

theorem started_keeps {par : Nat → Sess} (s mid mx : Nat) (l : L) (s' ca : Nat) (n : Node) (rest : List Node)
    (hg : l.getS s' = { par s' with conActive := ca, delayq := n :: rest }) (hcnt : n.cnt = 0) :
    Keeps s mid mx l (started par l s' ca n rest) := by
  have hdl : (l.getS s').delayq = n :: rest := by rw [hg]
  have hin := delayq_in_range hdl
  have hd : midC mid ((started par l s' ca n rest).getS s).delayq + (if s' = s ∧ n.mid = mid then 1 else 0) =
      midC mid (l.getS s).delayq := by
    show midC mid ((l.setS s' _).getS s).delayq + _ = _
    by_cases hss : s' = s
    · subst hss
      rw [getS_setS_same hin, hdl]
      simp only [midC, true_and]
      omega
    · rw [getS_setS_other hss]
      simp [hss]
  obtain ⟨h1, h2⟩ := sent_counts s mid mx (l := l) (l' := started par l s' ca n rest) { n with sess := s' } l.now 0
    n.timeout _ rfl rfl hd
  simp only [hcnt, Nat.sub_zero] at h1 h2
  refine ⟨by omega, ?_⟩
  · by_cases hm : s' = s ∧ n.mid = mid
    · rw [if_pos hm, if_pos hm] at h2; omega
    · rw [if_neg hm, if_neg hm] at h2; omega

theorem keeps_walk (par : Nat → Sess) (P : Nat → Nat → Nat → Prop) (s mid mx : Nat) :
    Walk par P (Keeps s mid mx) :=
  ⟨Keeps.refl s mid mx, Keeps.trans, keeps_setS_keep s mid mx,
    fun l s' ca n rest hg hn _ => started_keeps s mid mx l s' ca n rest hg hn.2.2.2.2.1⟩

theorem release_keeps {par : Nat → Sess} {P : Nat → Nat → Nat → Prop} (hp : GPar par) (s mid mx : Nat) (l : L)
    (s' : Nat) (hi : FInv False par P l) : Keeps s mid mx l (release l s') :=
  release_walk hp (keeps_walk par P s mid mx) l s' hi

/-- `coap_retransmit` of a popped node: it comes back (re-queued with one transmission of its budget spent, or as its
NACK when none is left) -/
theorem retransmit_keeps {par : Nat → Sess} {P : Nat → Nat → Nat → Prop} (hp : GPar par) (s mid : Nat) (l : L)
    (n : Node) (hi : FInv False par P l) (hn : NodeOk par P n) :
    Phi s mid (retransmit l n) = Phi s mid l + (if n.sess = s ∧ n.mid = mid then 1 else 0) ∧
    W s mid (par s).maxRtx (retransmit l n) =
      W s mid (par s).maxRtx l + (if n.sess = s ∧ n.mid = mid then (par s).maxRtx - n.cnt else 0) := by
  rcases (retransmit_cases hp l n hi hn).2 with ⟨hc, ho, hq, hd⟩ | ⟨hc, heq⟩
  · obtain ⟨h1, h2⟩ := sent_counts s mid (par s).maxRtx (l := l) (l' := retransmit l n)
      { n with cnt := n.cnt + 1 } l.now (n.cnt + 1) _ 0 ho hq (by rw [hd s]; rfl)
    simp only [Nat.add_zero, Nat.mul_zero] at h1 h2
    refine ⟨h1, ?_⟩
    by_cases hm : n.sess = s ∧ n.mid = mid
    · have hmx : (par s).maxRtx = (par n.sess).maxRtx := by rw [hm.1]
      rw [if_pos hm, if_pos hm] at h2
      rw [if_pos hm]
      omega
    · rw [if_neg hm, if_neg hm] at h2
      rw [if_neg hm]
      omega
  · rw [heq]
    have hk := release_keeps hp s mid (par s).maxRtx l n.sess hi
    have hw : nackW s mid (.nack (release l n.sess).now n.sess .retries n.mid true) =
        (if n.sess = s ∧ n.mid = mid then 1 else 0) := by simp [nackW, obsM]
    obtain ⟨e1, e2⟩ := emit_counts s mid (par s).maxRtx (release l n.sess)
      (.nack (release l n.sess).now n.sess .retries n.mid true) rfl
    refine ⟨by rw [e1, hw, hk.phi], ?_⟩
    rw [e2, hk.w]
    by_cases hm : n.sess = s ∧ n.mid = mid
    · have hmx : (par s).maxRtx = (par n.sess).maxRtx := by rw [hm.1]
      simp only [hm, and_self, if_true]
      omega
    · simp only [hm, if_false, Nat.add_zero]

theorem dueLoop_keeps {par : Nat → Sess} {P : Nat → Nat → Nat → Prop} (hp : GPar par) (s mid : Nat) :
    ∀ (f : Nat) (l : L), FInv False par P l → Keeps s mid (par s).maxRtx l (dueLoop f l)
  | 0, l, _ => Keeps.refl _ _ _ l
  | f + 1, l, hi => by
    rcases dueLoop_cases hp f l hi with ⟨_, h⟩ | ⟨hd, rest, hpop, _, h, hi1, hn, hi2⟩
    · rw [h]; exact Keeps.refl _ _ _ l
    · rw [h]
      refine Keeps.trans ?_ (dueLoop_keeps hp s mid f _ hi2)
      have hpc := pendC_popNext s mid l.q.nodes hd rest hpop
      have hbc := budC_popNext s mid (par s).maxRtx l.q.nodes hd rest hpop
      obtain ⟨e1, _⟩ := counts_without s mid (par s).maxRtx l rest _ hpc (by omega)
      have e3 : W s mid (par s).maxRtx ({ l with q := { l.q with nodes := rest } } : L) +
          (if hd.sess = s ∧ hd.mid = mid then (par s).maxRtx - hd.cnt else 0) = W s mid (par s).maxRtx l := by
        simp only [W]
        show txC s mid l.out + budC s mid (par s).maxRtx rest +
          ((par s).maxRtx + 1) * midC mid (l.getS s).delayq + _ = _
        omega
      obtain ⟨r1, r2⟩ := retransmit_keeps hp s mid _ hd hi1 hn
      exact ⟨by omega, by omega⟩

theorem afterRx_keeps {par : Nat → Sess} {P : Nat → Nat → Nat → Prop} (hp : GPar par) (s mid : Nat) (l : L)
    (hi : FInv False par P l) : Keeps s mid (par s).maxRtx l (afterRx l) := by
  unfold afterRx
  rw [prepareCore_fst]
  exact dueLoop_keeps hp s mid _ l hi

theorem removed_then {s mid mx : Nat} {l l' : L} (s' m' : Nat)
    (hk : Keeps s mid mx { l with q := { l.q with nodes := (removeNode l.q.nodes s' m').2 } } l') :
    Phi s mid l' + (if (s' = s ∧ m' = mid) ∧ (removeNode l.q.nodes s' m').1 ≠ none then 1 else 0) = Phi s mid l ∧
    W s mid mx l' ≤ W s mid mx l := by
  obtain ⟨e1, e2⟩ := counts_without s mid mx l _ _ (pendC_removeNode s mid l.q.nodes s' m')
    (budC_removeNode_le s mid mx l.q.nodes s' m')
  have h1 := hk.phi
  have h2 := hk.w
  exact ⟨by omega, by omega⟩

theorem rxAck_keeps {par : Nat → Sess} {P : Nat → Nat → Nat → Prop} (hp : GPar par) (s mid mx : Nat) (l : L)
    (s' m' : Nat) (hi : FInv False par P l) :
    Keeps s mid mx { l with q := { l.q with nodes := (removeNode l.q.nodes s' m').2 } } (rxAck l s' m') := by
  have hi1 := (removed_finv l s' m' hi).1
  unfold rxAck
  rcases hrm : removeNode l.q.nodes s' m' with ⟨sent, rest⟩
  rw [hrm] at hi1
  cases sent with
  | none => exact Keeps.refl _ _ _ _
  | some n => exact release_keeps hp s mid mx _ s' hi1

theorem cancelToken_keeps {par : Nat → Sess} {P : Nat → Nat → Nat → Prop} (hp : GPar par) (s mid mx : Nat) :
    ∀ (fuel : Nat) (l : L) (s' tok : Nat), FInv False par P l →
      Phi s mid (cancelToken fuel l s' tok) + cancelCount s mid fuel l s' tok = Phi s mid l ∧
      W s mid mx (cancelToken fuel l s' tok) ≤ W s mid mx l
  | 0, l, _, _, _ => ⟨rfl, Nat.le_refl _⟩
  | f + 1, l, s', tok, hi => by
    rcases cancelToken_cases f l s' tok hi with ⟨_, h1, h2⟩ | ⟨hne, h1, h2⟩
    · rw [h1, h2]; exact ⟨rfl, Nat.le_refl _⟩
    · rw [h1, h2]
      obtain ⟨r1, r2⟩ := removed_then s' tok (rxAck_keeps hp s mid mx l s' tok hi)
      obtain ⟨c1, c2⟩ := cancelToken_keeps hp s mid mx f _ s' tok (rxAck_finv hp l s' tok hi)
      simp only [hne, ne_eq, not_false_eq_true, and_true] at r1
      exact ⟨by omega, by omega⟩

/-- what one event does to the counters of (s, mid).  Conservation: what the event accepts (`accW`) and what it takes out of the
send queue without an outcome NACK (`remW`) balance the change of Phi.  Budget: an accepted `coap_send` adds the `mx + 1`
transmissions its message may make; nothing else adds to `W` -/
def StepKeeps (s mid mx : Nat) (l : L) (ev : Ev) : Prop :=
  Phi s mid (Msg.step l ev) + remW s mid l ev = Phi s mid l + accW s mid l ev ∧
  W s mid mx (Msg.step l ev) ≤ W s mid mx l + (mx + 1) * accW s mid l ev

theorem Keeps.step {s mid mx : Nat} {l : L} {ev : Ev} (hk : Keeps s mid mx l (Msg.step l ev))
    (hr : remW s mid l ev = 0) (ha : accW s mid l ev = 0) : StepKeeps s mid mx l ev :=
  ⟨by rw [hk.phi, hr, ha], by rw [hk.w]; exact Nat.le_add_right _ _⟩

theorem submit_keeps {par : Nat → Sess} {P : Nat → Nat → Nat → Prop} (hp : GPar par) (s mid : Nat) (l : L)
    (s' m' r : Nat) (hi : FInv False par P l) : StepKeeps s mid (par s).maxRtx l (.submit s' true m' r) := by
  unfold StepKeeps
  simp only [remW, Nat.add_zero]
  rcases submit_con_cases hp l s' m' r _ rfl hi with ⟨hgt, hM⟩ | ⟨hgt, hin, ⟨hany, hM⟩ | ⟨hany, hM⟩⟩
  · have hacc : accW s mid l (.submit s' true m' r) = (if s' = s ∧ m' = mid then 1 else 0) := by
      simp [accW, hgt]
    rw [hM, hacc]
    generalize calcTimeout (l.getS s').atI (l.getS s').atF (l.getS s').arfI (l.getS s').arfF r = T
    obtain ⟨x, hx⟩ : ∃ x, x = waitAck ((l.emit (.tx l.now s' m' 0 true)).setS s'
        { (l.getS s') with conActive := ((l.getS s').conActive + 1) % 256 })
        { sess := s', mid := m', t := 0, timeout := T, cnt := 0, tok := m', con := true } := ⟨_, rfl⟩
    rw [← hx]
    have hd : midC mid (x.getS s).delayq + 0 = midC mid (l.getS s).delayq := by
      rw [hx]
      exact congrArg (midC mid) (delayq_setS_keep (l.emit (.tx l.now s' m' 0 true)) s' s
        { (l.getS s') with conActive := ((l.getS s').conActive + 1) % 256 } rfl)
    obtain ⟨h1, h2⟩ := sent_counts s mid (par s).maxRtx (l := l) (l' := x)
      { sess := s', mid := m', t := 0, timeout := T, cnt := 0, tok := m', con := true } l.now 0
      (T * 2 ^ 0 % 4294967296) 0 (by rw [hx]; rfl) (by rw [hx]; rfl) hd
    obtain ⟨e1, e2⟩ := emit_counts s mid (par s).maxRtx x (.sub (some m')) rfl
    simp only [Nat.add_zero, Nat.mul_zero, Nat.sub_zero] at h1 h2
    rw [e1, e2]
    refine ⟨by rw [h1]; rfl, ?_⟩
    · by_cases hm : s' = s ∧ m' = mid
      · rw [if_pos hm, if_pos hm] at h2; rw [if_pos hm]; omega
      · rw [if_neg hm, if_neg hm] at h2; rw [if_neg hm]; omega
  · have hacc : accW s mid l (.submit s' true m' r) = 0 := by
      simp only [accW, hgt, hany, and_self, not_true_eq_false, and_false, if_false]
    rw [hM, hacc]
    have hk := keeps_emit_other s mid (par s).maxRtx l (.sub none) rfl rfl
    exact ⟨hk.phi, by rw [hk.w]; exact Nat.le_add_right _ _⟩
  · have hacc : accW s mid l (.submit s' true m' r) = (if s' = s ∧ m' = mid then 1 else 0) := by
      simp [accW, hgt, hany]
    rw [hM, hacc, (emit_counts s mid (par s).maxRtx _ (.sub (some m')) rfl).2]
    generalize calcTimeout (l.getS s').atI (l.getS s').atF (l.getS s').arfI (l.getS s').arfF r = T
    have hd : midC mid ((l.setS s' { (l.getS s') with delayq := (l.getS s').delayq ++
          [{ sess := s', mid := m', t := 0, timeout := T, cnt := 0, tok := m', con := true }] }).getS s).delayq =
        midC mid (l.getS s).delayq + (if s' = s ∧ m' = mid then 1 else 0) := by
      by_cases hss : s' = s
      · subst hss
        rw [getS_setS_same hin]
        simp only [midC_append, midC, true_and, Nat.add_zero]
      · rw [getS_setS_other hss]
        simp [hss]
    simp only [Phi, W]
    refine ⟨?_, ?_⟩
    · show nackC s mid (_ :: l.out) + pendC s mid l.q.nodes + midC mid (L.getS (L.setS l s' _) s).delayq = _
      rw [nackC_cons_other s mid _ _ rfl, hd]
      omega
    · show txC s mid l.out + budC s mid (par s).maxRtx l.q.nodes +
        ((par s).maxRtx + 1) * midC mid (L.getS (L.setS l s' _) s).delayq ≤ _
      rw [hd, Nat.mul_add]
      omega

theorem step_keeps {par : Nat → Sess} {P : Nat → Nat → Nat → Prop} (hp : GPar par) (s mid : Nat) (l : L) (ev : Ev)
    (hi : FInv False par P l) (hok : EvG l ev) : StepKeeps s mid (par s).maxRtx l ev := by
  cases ev with
  | setNow t => exact Keeps.step ⟨rfl, rfl⟩ rfl rfl
  | prepare =>
    refine Keeps.step ?_ rfl rfl
    have hk := dueLoop_keeps hp s mid (dueFuel l) l hi
    simp only [Msg.step, prepare]
    rcases hpc : prepareCore l with ⟨l', w⟩
    have e : l' = dueLoop (dueFuel l) l := by rw [← prepareCore_fst, hpc]
    subst e
    exact Keeps.trans hk (keeps_emit_other s mid _ _ (.wait (dueLoop (dueFuel l) l).now w) rfl rfl)
  | submit s' con m' r =>
    cases con with
    | false =>
      refine Keeps.step ?_ rfl rfl
      rw [submit_non hp l s' m' r hi]
      exact Keeps.trans (keeps_emit_other s mid _ l (.tx l.now s' m' 0 false) rfl rfl)
        (keeps_emit_other s mid _ _ (.sub (some m')) rfl rfl)
    | true => exact submit_keeps hp s mid l s' m' r hi
  | rxAck s' m' =>
    have hk1 := rxAck_keeps hp s mid (par s).maxRtx l s' m' hi
    have hf1 := rxAck_finv hp l s' m' hi
    unfold StepKeeps
    simp only [Msg.step, gsess_open hp hi.sess s', if_true, accW, Nat.add_zero, Nat.mul_zero]
    exact removed_then s' m' (Keeps.trans hk1 (afterRx_keeps hp s mid _ hf1))
  | rxBad s' m' =>
    have hk1 := rxAck_keeps hp s mid (par s).maxRtx l s' m' hi
    have hk2 : Keeps s mid (par s).maxRtx { l with q := { l.q with nodes := (removeNode l.q.nodes s' m').2 } }
        (rxBad l s' m') := by
      rcases rxBad_eq l s' m' with h | ⟨o, ho, h⟩
      · rw [h]; exact hk1
      · rw [h]
        exact hk1.trans (keeps_emit_other s mid _ _ o (by simp only [nackW, ho])
          (by cases o <;> first | rfl | cases ho))
    unfold StepKeeps
    simp only [Msg.step, gsess_open hp hi.sess s', if_true, accW, Nat.add_zero, Nat.mul_zero]
    exact removed_then s' m' (hk2.trans (afterRx_keeps hp s mid _ (rxBad_finv hp l s' m' hi)))
  | rxRst s' m' =>
    -- the removed node comes back as its NACK
    have hk1 := rxAck_keeps hp s mid (par s).maxRtx l s' m' hi
    have hf1 := rxAck_finv hp l s' m' hi
    obtain ⟨r1, r2⟩ := removed_then s' m' hk1
    unfold StepKeeps
    simp only [Msg.step, gsess_open hp hi.sess s', if_true, accW, remW, Nat.add_zero, Nat.mul_zero]
    rw [rxRst_eq l s' m' (fun n hn => ((removed_finv l s' m' hi).2 n hn).1)]
    have hk := afterRx_keeps hp s mid _ (finv_emit (.nack l.now s' .rst m' (removeNode l.q.nodes s' m').1.isSome) hf1)
    have h1 := hk.phi
    have h2 := hk.w
    have hw : nackW s mid (.nack l.now s' .rst m' (removeNode l.q.nodes s' m').1.isSome) =
        (if (s' = s ∧ m' = mid) ∧ (removeNode l.q.nodes s' m').1 ≠ none then 1 else 0) := by
      cases (removeNode l.q.nodes s' m').1 <;> simp [nackW, obsM]
    obtain ⟨e1, e2⟩ := emit_counts s mid (par s).maxRtx (rxAck l s' m')
      (.nack l.now s' .rst m' (removeNode l.q.nodes s' m').1.isSome) rfl
    rw [hw] at e1
    exact ⟨by omega, by omega⟩
  | rxNon s' m' tok =>
    unfold StepKeeps
    simp only [Msg.step, gsess_open hp hi.sess s', if_true, accW, remW, Nat.add_zero, Nat.mul_zero]
    obtain ⟨c1, c2⟩ := cancelToken_keeps hp s mid (par s).maxRtx (l.q.nodes.length + 1) l s' tok hi
    have hcf := cancelToken_finv hp (l.q.nodes.length + 1) l s' tok hi
    have hfe : FInv False par P (rxNon l s' m' tok) := finv_emit _ hcf
    have hk : Keeps s mid (par s).maxRtx (cancelToken (l.q.nodes.length + 1) l s' tok) (afterRx (rxNon l s' m' tok)) :=
      Keeps.trans (keeps_emit_other s mid _ _ (.rsp (cancelToken (l.q.nodes.length + 1) l s' tok).now s' m') rfl
        rfl) (afterRx_keeps hp s mid _ hfe)
    have h1 := hk.phi
    have h2 := hk.w
    exact ⟨by omega, by omega⟩
  | hold _ | disconnect _ => exact absurd hok (by simp [EvG])
  | connect s' => exact Keeps.step (connected_walk hp (keeps_walk par P s mid _) l s' hi) rfl rfl

/-- once (s, mid) is neither queued nor delayed and is not submitted again it is not transmitted again and stays out of the
queues — read off the other two laws: outputs are only added (`run_outs`), so by conservation queued + delayed stays 0, and
there the budget is the number of transmissions made (`W_quiet`), which does not grow -/
theorem quiet_of_laws (s mid mx : Nat) (l : L) (evs : List Ev)
    (h1 : Phi s mid (Msg.run l evs) + remC s mid l evs = Phi s mid l + accC s mid l evs)
    (h2 : W s mid mx (Msg.run l evs) ≤ W s mid mx l + (mx + 1) * accC s mid l evs)
    (h0 : Psi s mid l = 0) (hacc : accC s mid l evs = 0) :
    txC s mid (Msg.run l evs).out = txC s mid l.out ∧ Psi s mid (Msg.run l evs) = 0 := by
  obtain ⟨new, hn⟩ := run_outs evs l
  have hnk := nackC_append s mid new l.out
  have htx := txC_append s mid new l.out
  rw [← hn] at hnk htx
  rw [phi_eq, phi_eq, hnk] at h1
  have hpsi : Psi s mid (Msg.run l evs) = 0 := by omega
  rw [W_quiet s mid mx _ hpsi, W_quiet s mid mx l h0, hacc] at h2
  exact ⟨by omega, hpsi⟩

theorem run_keeps {par : Nat → Sess} {P : Nat → Nat → Nat → Prop} (hp : GPar par) (s mid : Nat) :
    ∀ (evs : List Ev) (l : L), FInv False par P l → RunG l evs →
      (∀ s mid r, Ev.submit s true mid r ∈ evs → P s mid (calcTimeout (par s).atI (par s).atF (par s).arfI (par s).arfF r)) →
      Phi s mid (Msg.run l evs) + remC s mid l evs = Phi s mid l + accC s mid l evs ∧
      W s mid (par s).maxRtx (Msg.run l evs) ≤ W s mid (par s).maxRtx l + ((par s).maxRtx + 1) * accC s mid l evs ∧
      (Psi s mid l = 0 → accC s mid l evs = 0 →
        txC s mid (Msg.run l evs).out = txC s mid l.out ∧ Psi s mid (Msg.run l evs) = 0) := by
  suffices h : ∀ (evs : List Ev) (l : L), FInv False par P l → RunG l evs →
      (∀ s mid r, Ev.submit s true mid r ∈ evs → P s mid (calcTimeout (par s).atI (par s).atF (par s).arfI (par s).arfF r)) →
      Phi s mid (Msg.run l evs) + remC s mid l evs = Phi s mid l + accC s mid l evs ∧
      W s mid (par s).maxRtx (Msg.run l evs) ≤ W s mid (par s).maxRtx l + ((par s).maxRtx + 1) * accC s mid l evs from
    fun evs l hi hin hP => ⟨(h evs l hi hin hP).1, (h evs l hi hin hP).2,
      quiet_of_laws s mid _ l evs (h evs l hi hin hP).1 (h evs l hi hin hP).2⟩
  intro evs
  induction evs with
  | nil => intro l _ _ _; exact ⟨rfl, Nat.le_add_right _ _⟩
  | cons ev evs ih =>
    intro l hi hin hP
    have hi1 := step_finv hp l ev hi hin.1 (fun s mid r h => hP s mid r (by simp [h]))
    obtain ⟨k1, k2⟩ := step_keeps hp s mid l ev hi hin.1
    obtain ⟨h1, h2⟩ := ih _ hi1 hin.2 (fun s mid r h => hP s mid r (by simp [h]))
    simp only [Msg.run, List.foldl_cons, remC, accC, Nat.mul_add] at h1 h2 ⊢
    exact ⟨by omega, by omega⟩

theorem phi_init (s mid now0 : Nat) (sess : List Sess) (h : ∀ se ∈ sess, SessOk se) :
    Phi s mid (Msg.init now0 sess) = 0 := by
  have := (parOf_ok sess h s).2.1
  simp only [Phi, Msg.init, nackC, pendC]
  show 0 + 0 + midC mid (parOf sess s).delayq = 0
  rw [this]; rfl

theorem W_init (s mid mx now0 : Nat) (sess : List Sess) (h : ∀ se ∈ sess, SessOk se) :
    W s mid mx (Msg.init now0 sess) = 0 := by
  have := (parOf_ok sess h s).2.1
  simp only [W, Msg.init, txC, budC]
  show 0 + 0 + (mx + 1) * midC mid (parOf sess s).delayq = 0
  rw [this]; rfl

/-! ### after the due loop nothing is due (the loop has fuel for every due node, delayed messages included) -/

/-- S's count `dc` of due entries, on what the queue stands for -/
def dueC (l : L) : Nat := dc l.now (absP (fun _ => 0) l.q.base l.q.nodes)

theorem dueC_enq {l l' : L} (n : Node) (d : Nat) (hnow : l'.now = l.now)
    (hq : l'.q = enqueue l.q l.now d n) (hb : l.q.base ≤ l.now) (hd : 0 < d) : dueC l' = dueC l := by
  simp only [dueC, hnow, hq]
  rw [absP_enqueue _ _ _ _ _ hb, dc_pinsert]
  have : ¬ (l.now + d ≤ l.now) := by omega
  simp [this]

theorem dueC_walk (par : Nat → Sess) (P : Nat → Nat → Nat → Prop) :
    Walk par P (fun l l' => dueC l' = dueC l) :=
  ⟨fun _ => rfl, fun h1 h2 => h2.trans h1, fun _ _ _ _ => rfl,
    fun _ s _ n _ _ hn hb => dueC_enq { n with sess := s } n.timeout rfl rfl hb hn.2.2.1⟩

theorem retransmit_dueC {par : Nat → Sess} {P : Nat → Nat → Nat → Prop} (hp : GPar par) (l : L) (n : Node)
    (hi : FInv False par P l) (hn : NodeOk par P n) : dueC (retransmit l n) = dueC l := by
  rcases (retransmit_cases hp l n hi hn).2 with ⟨_, _, hq, _⟩ | ⟨_, heq⟩
  · exact dueC_enq _ _ (retransmit_now l n) hq hi.base (Nat.mul_pos hn.2.2.1 (Nat.two_pow_pos _))
  · rw [heq]
    exact release_walk hp (dueC_walk par P) l n.sess hi

theorem dueLoop_nothingDue {par : Nat → Sess} {P : Nat → Nat → Nat → Prop} (hp : GPar par) :
    ∀ (f : Nat) (l : L), FInv False par P l → dueC l ≤ f → NothingDue (dueLoop f l)
  | 0, l, _, h0 => by
    show NothingDue l
    rw [nothingDue_iff]
    intro h r hn
    simp only [dueC, hn, absP, dc] at h0
    by_cases hd : l.q.base + h.t ≤ l.now
    · simp [hd] at h0
    · omega
  | f + 1, l, hi, hf => by
    rcases dueLoop_cases hp f l hi with ⟨hnd, h⟩ | ⟨hd, rest, hpop, hdue, h, hi1, hn, hi2⟩
    · rw [h]; exact hnd
    · rw [h]
      apply dueLoop_nothingDue hp f _ hi2
      rw [retransmit_dueC hp _ hd hi1 hn]
      have : dueC l = 1 + dueC ({ l with q := { l.q with nodes := rest } } : L) := by
        simp only [dueC]
        rw [absP_popNext _ l.q.base l.q.nodes hd rest hpop]
        simp [dc, hdue]
      omega

theorem prepareCore_nothingDue {par : Nat → Sess} {P : Nat → Nat → Nat → Prop} (hp : GPar par) (l : L)
    (hi : FInv False par P l) : NothingDue (prepareCore l).1 := by
  rw [prepareCore_fst]
  apply dueLoop_nothingDue hp _ l hi
  have h1 := dc_le_length l.now (absP (fun _ => 0) l.q.base l.q.nodes)
  rw [absP_length] at h1
  unfold dueC dueFuel
  omega

/-! ### counting the distinct retransmission numbers of a message -/

def txKs (s mid : Nat) : List Out → List Nat
  | [] => []
  | o :: r => (match o with
      | .tx _ s' m' k true => if s' = s ∧ m' = mid then [k] else []
      | _ => []) ++ txKs s mid r

theorem txKs_length (s mid : Nat) (out : List Out) : (txKs s mid out).length = txC s mid out := by
  induction out with
  | nil => rfl
  | cons o r ih =>
    cases o with
    | tx t s' m' k c =>
      cases c with
      | true => by_cases h : s' = s ∧ m' = mid <;> simp [txKs, txC, h, ih] <;> omega
      | false => simp [txKs, txC, ih]
    | _ => simp [txKs, txC, ih]

theorem mem_txKs {s mid : Nat} {out : List Out} {t k : Nat} (h : Out.tx t s mid k true ∈ out) : k ∈ txKs s mid out := by
  induction out with
  | nil => cases h
  | cons o r ih =>
    simp only [List.mem_cons] at h
    rcases h with rfl | h
    · simp [txKs]
    · simp only [txKs, List.mem_append]
      exact Or.inr (ih h)

theorem txC_ge (s mid c : Nat) (out : List Out) (f : Nat → Nat)
    (h : ∀ j, j ≤ c → Out.tx (f j) s mid j true ∈ out) : c + 1 ≤ txC s mid out := by
  rw [← txKs_length]
  have hsub : List.range (c + 1) ⊆ txKs s mid out := by
    intro j hj
    exact mem_txKs (h j (by simpa [Nat.lt_succ_iff] using hj))
  have := List.Nodup.length_le_of_subset List.nodup_range hsub
  simpa using this

end Coap.Sched
