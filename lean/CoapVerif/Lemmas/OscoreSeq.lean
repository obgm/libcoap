import CoapVerif.Spec.OscoreSeq
import CoapVerif.Model.OscoreAssoc
import CoapVerif.Lemmas.Oscore
/- Helper lemmas for the sequence theorems of C14 (Props/C14.lean): `find?` by a key after a filter, a map, a cons
(both stores are lists searched by token); the token ↦ binding store of S (Spec/OscoreSeq.lean) and libcoap's
association list (Model/OscoreAssoc.lean). -/
namespace Coap
open Coap.Spec.Oscore

/-! ### lists searched by a key -/

theorem find_filter_key {α : Type} (key : α → Bytes) (l : List α) (t t' : Bytes) :
    (l.filter (fun a => key a ≠ t')).find? (fun a => key a = t) =
      if t = t' then none else l.find? (fun a => key a = t) := by
  rw [List.find?_filter]
  by_cases ht : t = t'
  · rw [if_pos ht, List.find?_eq_none]
    intro x _
    simp [ht]
  · rw [if_neg ht]
    congr 1
    funext a
    by_cases h : key a = t <;> simp [h, ht]

theorem find_map_key {α : Type} (key : α → Bytes) (l : List α) (t t' : Bytes) (f : α → α) (hf : ∀ a, key (f a) = key a) :
    (l.map fun a => if key a = t then f a else a).find? (fun a => key a = t') =
      if t' = t then (l.find? (fun a => key a = t')).map f else l.find? (fun a => key a = t') := by
  rw [List.find?_map]
  have hcomp : ((fun a : α => decide (key a = t')) ∘ fun a => if key a = t then f a else a) =
      fun a => decide (key a = t') := by
    funext a
    by_cases h : key a = t
    · simp only [Function.comp, h, if_true]
      rw [hf a, h]
    · simp only [Function.comp, h, if_false]
  rw [hcomp]
  cases hfd : List.find? (fun a : α => decide (key a = t')) l with
  | none => simp
  | some a =>
    have ha : key a = t' := by simpa using List.find?_some hfd
    by_cases ht : t' = t
    · have : key a = t := ha.trans ht
      simp [ht, this]
    · have : ¬ key a = t := fun h => ht (ha ▸ h)
      simp [ht, this]

theorem find_cons_key {α : Type} (key : α → Bytes) (e : α) (l : List α) (t : Bytes) :
    (e :: l).find? (fun a => key a = t) = if t = key e then some e else l.find? (fun a => key a = t) := by
  rw [List.find?_cons]
  by_cases h : t = key e
  · rw [if_pos h, decide_eq_true h.symm]
  · rw [if_neg h, decide_eq_false fun x => h x.symm]

theorem find_cons_filter_key {α : Type} (key : α → Bytes) (l : List α) (e : α) (t : Bytes) :
    (e :: l.filter (fun a => key a ≠ key e)).find? (fun a => key a = t) =
      if key e = t then some e else l.find? (fun a => key a = t) := by
  by_cases h : key e = t
  · rw [List.find?_cons_of_pos (by simpa using h), if_pos h]
  · rw [List.find?_cons_of_neg (by simpa using h), if_neg h, find_filter_key, if_neg (fun x => h x.symm)]

/-- reading an entry off a table equation `find (step …) t' = if t' = t then … else find … t'` -/
theorem ite_eq_some {α : Type} {c : Prop} [Decidable c] {x o : Option α} {a : α} (h : (if c then x else o) = some a) :
    (c ∧ x = some a) ∨ (¬ c ∧ o = some a) := by
  by_cases hc : c
  · rw [if_pos hc] at h; exact Or.inl ⟨hc, h⟩
  · rw [if_neg hc] at h; exact Or.inr ⟨hc, h⟩

/-! ### S: the store -/

theorem sFind_token (st : Store) (t : Bytes) (e : Entry) (h : sFind st t = some e) : e.token = t := by
  unfold sFind at h
  have := List.find?_some h
  simpa using this

theorem sFind_sDel (st : Store) (t t' : Bytes) :
    sFind (sDel st t') t = if t = t' then none else sFind st t :=
  find_filter_key (fun e : Entry => e.token) st t t'

theorem sFind_sSet (st : Store) (e : Entry) (t : Bytes) :
    sFind (sSet st e) t = if e.token = t then some e else sFind st t :=
  find_cons_filter_key (fun e : Entry => e.token) st e t

theorem clientRecv_store (cipher : Bytes → Bytes → Bytes) (c : Ctx) (st : Store) (r : Msg) :
    (clientRecv cipher c st r).2 = st ∨ (clientRecv cipher c st r).2 = sDel st r.token := by
  unfold clientRecv
  cases sFind st r.token with
  | none => exact Or.inl rfl
  | some e =>
    simp only
    cases unprotectResponse cipher c (some e.b) r with
    | plain => exact Or.inl rfl
    | rej => exact Or.inl rfl
    | ok m b =>
      by_cases hk : e.keep = true
      · simp [hk]
      · simp [hk]

/-- the invariant of the client's store over the events `steps`: every binding is the one of the latest request sent with
its token (`acc`), that request is one of `steps`, and the `keep` flag is that request's -/
def SInv (cipher : Bytes → Bytes → Bytes) (c : Ctx) (steps : List CStep) (st : Store) (acc : Bytes → Option Binding) : Prop :=
  ∀ t e, sFind st t = some e →
    acc t = some e.b ∧
    ∃ m seq pm, CStep.send m seq ∈ steps ∧ m.token = t ∧ protectRequest cipher c m seq = some (pm, e.b) ∧
      e.keep = isRegistration m.opts ∧ e.observe = hasObserve m.opts

theorem clientStep_send_some (cipher : Bytes → Bytes → Bytes) (c : Ctx) (st : Store) (m : Msg) (seq : Nat) (pm : Msg)
    (b : Binding) (hp : protectRequest cipher c m seq = some (pm, b)) :
    clientStep cipher c st (.send m seq) = sSet st ⟨m.token, b, isRegistration m.opts, hasObserve m.opts⟩ := by
  simp [clientStep, clientSend, hp]

theorem trackStep_send_some (cipher : Bytes → Bytes → Bytes) (c : Ctx) (acc : Bytes → Option Binding) (m : Msg) (seq : Nat)
    (pm : Msg) (b : Binding) (hp : protectRequest cipher c m seq = some (pm, b)) :
    trackStep cipher c acc (.send m seq) = fun t => if t = m.token then some b else acc t := by
  simp [trackStep, hp]

theorem SInv_step (cipher : Bytes → Bytes → Bytes) (c : Ctx) (steps : List CStep) (s : CStep) (hs : s ∈ steps) (st : Store)
    (acc : Bytes → Option Binding) (h : SInv cipher c steps st acc) :
    SInv cipher c steps (clientStep cipher c st s) (trackStep cipher c acc s) := by
  cases s with
  | send m seq =>
    cases hp : protectRequest cipher c m seq with
    | none =>
      have e1 : clientStep cipher c st (.send m seq) = st := by simp [clientStep, clientSend, hp]
      have e2 : trackStep cipher c acc (.send m seq) = acc := by simp [trackStep, hp]
      rw [e1, e2]
      exact h
    | some pb =>
      obtain ⟨pm, b⟩ := pb
      rw [clientStep_send_some cipher c st m seq pm b hp, trackStep_send_some cipher c acc m seq pm b hp]
      intro t e he
      rw [sFind_sSet] at he
      rcases ite_eq_some he with ⟨ht, ⟨⟩⟩ | ⟨ht, he⟩
      · exact ⟨if_pos ht.symm, m, seq, pm, hs, ht, hp, rfl, rfl⟩
      · exact ⟨(if_neg fun x => ht x.symm).trans (h t e he).1, (h t e he).2⟩
  | recv r =>
    show SInv cipher c steps (clientRecv cipher c st r).2 acc
    intro t e he
    rcases clientRecv_store cipher c st r with hr | hr
    · rw [hr] at he
      exact h t e he
    · rw [hr, sFind_sDel] at he
      rcases ite_eq_some he with ⟨_, ⟨⟩⟩ | ⟨_, he⟩
      exact h t e he

theorem SInv_clientRun (cipher : Bytes → Bytes → Bytes) (c : Ctx) (steps : List CStep) :
    SInv cipher c steps (clientRun cipher c [] steps) (latestRequest cipher c steps) :=
  foldl_rel (SInv cipher c steps) steps (SInv_step cipher c steps) [] (fun _ => none) fun t e he => by simp [sFind] at he

theorem serverSend_some {cipher : Bytes → Bytes → Bytes} {c : Ctx} {st st' : Store} {m r : Msg} {ask : Bool} {seq : Nat}
    {sepMid : Option Nat} (h : serverSend cipher c st m ask seq sepMid = some (r, st')) :
    ∃ e, sFind st m.token = some e ∧ protectResponseFor cipher c e.b e.observe m ask seq sepMid = some r ∧
      st' = if e.keep then st else sDel st m.token := by
  unfold serverSend at h
  cases hf : sFind st m.token with
  | none => simp [hf] at h
  | some e =>
    cases hp : protectResponseFor cipher c e.b e.observe m ask seq sepMid with
    | none => simp [hf, hp] at h
    | some r0 =>
      simp only [hf, hp, Option.some.injEq, Prod.mk.injEq] at h
      exact ⟨e, rfl, h.1 ▸ hp, h.2.symm⟩

/-- D14.5: a response without its own Partial IV answers a request without Observe -/
theorem ownPiv_false {ask o : Bool} {m : Msg} (h : ownPiv ask o m = false) : o = false :=
  (Bool.or_eq_false_iff.mp h).2

theorem protectRequest_token (cipher : Bytes → Bytes → Bytes) (c : Ctx) (m : Msg) (seq : Nat) (r : Msg × Binding)
    (h : protectRequest cipher c m seq = some r) : r.1.token = m.token := by
  rw [(protectRequest_some h).2.2]

theorem protectResponse_token (cipher : Bytes → Bytes → Bytes) (c : Ctx) (b : Binding) (m : Msg) (seq sepMid : Option Nat)
    (r : Msg) (h : protectResponse cipher c b m seq sepMid = some r) : r.token = m.token := by
  rw [(protectResponse_some h).2.2]

theorem protectResponseFor_token (cipher : Bytes → Bytes → Bytes) (c : Ctx) (b : Binding) (o : Bool) (m : Msg) (ask : Bool)
    (seq : Nat) (sepMid : Option Nat) (r : Msg) (h : protectResponseFor cipher c b o m ask seq sepMid = some r) :
    r.token = m.token :=
  protectResponse_token cipher c b m _ sepMid r h

/-- a registration is an Observe request: a binding that is kept belongs to a request whose responses carry their own
Partial IV (D14.5) -/
theorem hasObserve_of_isRegistration (os : List (Nat × Bytes)) (h : isRegistration os = true) : hasObserve os = true := by
  unfold isRegistration at h
  unfold hasObserve
  rw [List.any_eq_true] at h ⊢
  obtain ⟨o, ho, h2⟩ := h
  refine ⟨o, ho, ?_⟩
  simp only [Bool.and_eq_true, decide_eq_true_eq] at h2
  simp [h2.1]

/-! ### M: libcoap's association list -/
open Coap.M.Oscore

theorem findAssoc_del (as : List Assoc) (t t' : Bytes) :
    findAssoc (delAssoc as t') t = if t = t' then none else findAssoc as t :=
  find_filter_key (fun a : Assoc => a.token) as t t'

theorem findAssoc_upd (as : List Assoc) (t t' : Bytes) (f : Assoc → Assoc) (hf : ∀ a, (f a).token = a.token) :
    findAssoc (updAssoc as t f) t' = if t' = t then (findAssoc as t').map f else findAssoc as t' :=
  find_map_key (fun a : Assoc => a.token) as t t' f hf

theorem findAssoc_token (as : List Assoc) (t : Bytes) (a : Assoc) (h : findAssoc as t = some a) : a.token = t := by
  unfold findAssoc at h
  have := List.find?_some h
  simpa using this

/-- every association holds (aad, nonce, partial_iv) of the latest `protect` step with its token -/
def AInv (as : List Assoc) (acc : Bytes → Option (Bytes × Bytes × Bytes)) : Prop :=
  ∀ t a, findAssoc as t = some a → acc t = some (a.aad, a.nonce, a.piv)

theorem findAssoc_protect (as : List Assoc) (t aad nonce piv : Bytes) (o : Bool) (v : Nat) (t' : Bytes) :
    findAssoc (protectAssoc as t aad nonce piv o v) t' =
      if t' = t then some ⟨t, aad, nonce, piv, if (findAssoc as t).isSome then o && v != 1 else o⟩ else findAssoc as t' := by
  unfold protectAssoc
  cases hf : findAssoc as t with
  | none => exact find_cons_key (fun a : Assoc => a.token) _ as t'
  | some a0 =>
    refine (findAssoc_upd as t t' _ ?_).trans ?_
    · exact fun _ => rfl
    by_cases ht : t' = t
    · rw [if_pos ht, if_pos ht, ht, hf, ← findAssoc_token as t a0 hf]
      rfl
    · rw [if_neg ht, if_neg ht]

theorem AInv_step (as : List Assoc) (acc : Bytes → Option (Bytes × Bytes × Bytes)) (s : AStep) (h : AInv as acc) :
    AInv (assocStep as s) (assocTrack acc s) := by
  intro t' a ha
  cases s with
  | protect t aad nonce piv o v =>
    simp only [assocStep] at ha
    rw [findAssoc_protect] at ha
    rcases ite_eq_some ha with ⟨ht, ⟨⟩⟩ | ⟨ht, ha⟩
    · exact if_pos ht
    · exact (if_neg ht).trans (h t' a ha)
  | decrypt t ok =>
    -- a response only removes an association
    refine h t' a ?_
    simp only [assocStep, decryptAssoc] at ha
    cases hf : findAssoc as t with
    | none => rw [hf] at ha; exact ha
    | some a0 =>
      simp only [hf] at ha
      by_cases hc : (ok && !a0.isObserve) = true
      · rw [if_pos hc, findAssoc_del] at ha
        rcases ite_eq_some ha with ⟨_, ⟨⟩⟩ | ⟨_, ha⟩
        exact ha
      · rw [if_neg hc] at ha
        exact ha

end Coap
