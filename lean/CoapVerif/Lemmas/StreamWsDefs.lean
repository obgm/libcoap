import CoapVerif.Lemmas.StreamWs
/- C05, WebSocket part: the vocabulary of the correspondence proof M_ws = S_ws.

   * "remaining work" views of the specification: `hsRes` (what S makes of the bytes from a handshake-line
     boundary on) and `frRes` (from a frame boundary on);
   * the abstraction of a reader state: `Abs` = the phase and the bytes consumed but not yet delivered, and the
     invariant `WsInv mode st a` ("the reader state `st` is what S's incremental parser holds at `a`");

   All bytes are covered in the handshake phase: a NUL byte inside a line is part of S (D20: the line has no end; the
   model's strchr stops at it in the same way, `lfIdx_eq`), and a header line that starts with its separator is refused
   by the per-line checks (`splitHdr`). -/
namespace Coap
open Coap.M Coap.M.Ws Coap.Spec.Stream Coap.Spec.Stream.Ws

def frRes (mode : Mode) (bs : Bytes) : Res :=
  ⟨(frames mode (bs.length + 1) bs).1, true, (frames mode (bs.length + 1) bs).2⟩

def hsRes {σ} (V : Validator σ) (mode : Mode) (s : σ) (bs : Bytes) : Res :=
  match handshake V (bs.length + 1) s bs with
  | .more => ⟨[], false, false⟩
  | .failed => ⟨[], false, true⟩
  | .done rest => frRes mode rest

def Res.pre (ms : List Msg) (r : Res) : Res := ⟨ms ++ r.msgs, r.up, r.closed⟩

/-- number of extended-length bytes / of header bytes after the two fixed ones, from the second header byte -/
def hExt (b1 : Nat) : Nat := if b1 % 128 = 127 then 8 else if b1 % 128 = 126 then 2 else 0
def hExtra (b1 : Nat) : Nat := hExt b1 + (if b1 / 128 = 1 then 4 else 0)
/-- declared payload length: `r` = the header bytes after the two fixed ones -/
def hSize (b1 : Nat) (r : Bytes) : Nat := if hExt b1 = 0 then b1 % 128 else be (r.take (hExt b1))

/-- a proper prefix of a frame header (and not yet refused) -/
def HdrPend (mode : Mode) (p : Bytes) : Prop :=
  match p with
  | _ :: b1 :: r => ¬ (mode = .server ∧ ¬ b1.toNat / 128 = 1) ∧ r.length < hExtra b1.toNat
  | _ => True

/-- the reader between frames / inside a frame header: `rd_header[0 .. hdr_ofs)` = `p` -/
def FrPre (st : St) (p : Bytes) : Prop :=
  st.up = true ∧ st.allHdrIn = false ∧ st.rdHeader = p ∧ st.rxData = none

/-- the reader inside a frame payload: `p` = complete header ++ payload bytes so far -/
def DataInv (mode : Mode) (st : St) (p : Bytes) : Prop :=
  st.up = true ∧ st.allHdrIn = true ∧
  ∃ (b0 b1 : UInt8) (r D : Bytes), p = b0 :: b1 :: (r ++ D) ∧ r.length = hExtra b1.toNat ∧
    ¬ (mode = .server ∧ ¬ b1.toNat / 128 = 1) ∧ b0.toNat % 16 = 2 ∧
    st.dataSize = hSize b1.toNat r ∧ 0 < st.dataSize ∧ st.dataSize ≤ maxFrame ∧
    (mode = .server → st.maskKey = (r.drop (hExt b1.toNat)).take 4) ∧
    st.dataOfs = D.length ∧ D.length < st.dataSize ∧
    st.rxData = (if D = [] then none else some D) ∧
    (b0 :: b1 :: r) <+: st.rdHeader

/-- the reader inside the handshake: the current line so far is `http_hdr[0 .. http_ofs)`; it has no line end
yet (no LF, or a NUL byte in front of it) -/
def HsInv (st : St) : Prop :=
  st.up = false ∧ lfIndex st.httpHdr = none ∧ st.httpHdr.length < httpCap - 1 ∧
  st.rdHeader = [] ∧ st.allHdrIn = false ∧ st.rxData = none

inductive Abs where
  | hs (s : Seen) (line : Bytes)
  | fr (p : Bytes)
  deriving DecidableEq, Repr

def WsInv (mode : Mode) (st : St) : Abs → Prop
  | .hs s l => HsInv st ∧ st.seen = s ∧ st.httpHdr = l
  | .fr p => (FrPre st p ∧ HdrPend mode p) ∨ DataInv mode st p

/-- what S makes of position `a` followed by the bytes `Y` -/
def specFrom (mode : Mode) (accept : Bytes) : Abs → Bytes → Res
  | .hs s l, Y => hsRes (validator mode accept) mode s (l ++ Y)
  | .fr p, Y => frRes mode (p ++ Y)

theorem specFrom_init (mode : Mode) (accept Y : Bytes) :
    specFrom mode accept (.hs {} []) Y = run (validator mode accept) mode Y := by
  show hsRes (validator mode accept) mode (validator mode accept).init Y = _
  unfold run hsRes frRes
  cases handshake (validator mode accept) (Y.length + 1) (validator mode accept).init Y <;> rfl

end Coap
