import CoapVerif.Lemmas.Encode
import CoapVerif.Model.Build
/-
The abstraction used by the M-side theorems of C01 / C04: the PDU that represents an abstract
message.  Every field of `M.Pdu` other than type / code / mid / max_size is a function of the
abstract (token, options, payload), so "M refines S" is stated as an equation between PDUs:

    M.op (conc maxSize a) args = R.ok (rc, conc maxSize a')       with a' = a (refused) or a' = S.op a args
-/
namespace Coap
open Coap.M

/-- highest option number of a list in ascending order = number of its last element (`pdu->max_opt`) -/
def lastNum (os : List (Nat × Bytes)) : Nat := (os.getLast?.map (·.1)).getD 0

def conc (maxSize : Nat) (a : Msg) : Pdu :=
  { type := a.type, code := a.code, mid := a.mid, maxSize := maxSize,
    buf := Spec.encToken a.token ++ (Spec.encOpts 0 a.opts ++ Spec.encPayload a.payload),
    etl := (Spec.extBytes a.token.length).length + a.token.length,
    tokLen := a.token.length,
    maxOpt := lastNum a.opts,
    data := if a.payload = [] then none
            else some ((Spec.extBytes a.token.length).length + a.token.length + (Spec.encOpts 0 a.opts).length + 1) }

/-- the invariant on abstract messages that the builders maintain (no per-option RFC length limits
here: the API does not enforce them; they are a hypothesis on the caller wherever the decoder is involved) -/
def Shape (a : Msg) : Prop :=
  a.token.length ≤ 65804 ∧ a.opts.Pairwise (fun x y => x.1 ≤ y.1) ∧
  ∀ o ∈ a.opts, o.1 ≤ 65535 ∧ o.2.length ≤ 65804

/-- does the capacity admit `n` more bytes? (`coap_pdu_check_resize(pdu, used_size + n)`) -/
def fits (maxSize : Nat) (a : Msg) (n : Nat) : Prop :=
  maxSize = 0 ∨ (conc maxSize a).buf.length + n ≤ maxSize

end Coap
