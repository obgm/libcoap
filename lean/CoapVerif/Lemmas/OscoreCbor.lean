import CoapVerif.Lemmas.Oscore
/- Helper lemmas for C14: the CBOR heads of RFC 8949 §3 are injective and prefix-free; so are the byte-string,
integer and array items built from them; hence external_aad / Enc_structure determine (alg, kid, piv).
libcoap's `oscore_cbor_put_*` write these heads. -/
namespace Coap
open Coap.Spec.Crypto Coap.Spec.Oscore

theorem beBytes_length (k n : Nat) : (beBytes k n).length = k := by
  induction k generalizing n with
  | zero => rfl
  | succ k ih => simp [beBytes, ih]

theorem u8_ofNat_inj {a b : Nat} (ha : a < 256) (hb : b < 256) (h : UInt8.ofNat a = UInt8.ofNat b) : a = b := by
  have := congrArg UInt8.toNat h
  rwa [UInt8.toNat_ofNat', UInt8.toNat_ofNat', Nat.mod_eq_of_lt ha, Nat.mod_eq_of_lt hb] at this

theorem beBytes_inj (k : Nat) : ∀ n m : Nat, n < 256 ^ k → m < 256 ^ k → beBytes k n = beBytes k m → n = m := by
  induction k with
  | zero => intro n m hn hm _; rw [Nat.pow_zero, Nat.lt_one_iff] at hn hm; rw [hn, hm]
  | succ k ih =>
    intro n m hn hm h
    rw [Nat.pow_succ] at hn hm
    simp only [beBytes] at h
    obtain ⟨h1, h2⟩ := List.append_inj h (by rw [beBytes_length, beBytes_length])
    have hq : n / 256 = m / 256 :=
      ih _ _ (Nat.div_lt_of_lt_mul (Nat.mul_comm _ _ ▸ hn)) (Nat.div_lt_of_lt_mul (Nat.mul_comm _ _ ▸ hm)) h1
    have hr : n % 256 = m % 256 :=
      u8_ofNat_inj (Nat.mod_lt _ (by decide)) (Nat.mod_lt _ (by decide)) (List.cons.inj h2).1
    rw [← Nat.div_add_mod n 256, ← Nat.div_add_mod m 256, hq, hr]

/-- the 5-bit "additional information" of a head -/
def cborAi (n : Nat) : Nat :=
  if n < 24 then n else if n < 256 then 24 else if n < 65536 then 25 else if n < 4294967296 then 26 else 27

/-- the argument bytes that follow the initial byte -/
def cborArg (n : Nat) : Bytes :=
  if n < 24 then [] else if n < 256 then beBytes 1 n else if n < 65536 then beBytes 2 n
  else if n < 4294967296 then beBytes 4 n else beBytes 8 n

theorem cborHead_eq (mt n : Nat) : cborHead mt n = UInt8.ofNat (mt * 32 + cborAi n) :: cborArg n := by
  unfold cborHead cborAi cborArg
  by_cases h1 : n < 24
  · simp only [if_pos h1]
  by_cases h2 : n < 256
  · simp only [if_neg h1, if_pos h2]
  by_cases h3 : n < 65536
  · simp only [if_neg h1, if_neg h2, if_pos h3]
  by_cases h4 : n < 4294967296
  · simp only [if_neg h1, if_neg h2, if_neg h3, if_pos h4]
  · simp only [if_neg h1, if_neg h2, if_neg h3, if_neg h4]

theorem cborAi_small {n : Nat} (h : n < 24) : cborAi n = n ∧ cborArg n = [] := by
  simp only [cborAi, cborArg, if_pos h, and_self]

theorem cborAi_wide {n : Nat} (h1 : ¬ n < 24) :
    24 ≤ cborAi n ∧ cborAi n < 28 ∧ cborArg n = beBytes (2 ^ (cborAi n - 24)) n ∧ (n < 2 ^ 64 → n < 256 ^ 2 ^ (cborAi n - 24)) := by
  unfold cborAi cborArg
  by_cases h2 : n < 256
  · simp only [if_neg h1, if_pos h2]
    exact ⟨by decide, by decide, trivial, fun _ => h2⟩
  by_cases h3 : n < 65536
  · simp only [if_neg h1, if_neg h2, if_pos h3]
    exact ⟨by decide, by decide, trivial, fun _ => h3⟩
  by_cases h4 : n < 4294967296
  · simp only [if_neg h1, if_neg h2, if_neg h3, if_pos h4]
    exact ⟨by decide, by decide, trivial, fun _ => h4⟩
  · simp only [if_neg h1, if_neg h2, if_neg h3, if_neg h4]
    exact ⟨by decide, by decide, trivial, fun h => h⟩

theorem cborAi_lt (n : Nat) : cborAi n < 28 := by
  by_cases h : n < 24
  · rw [(cborAi_small h).1]; omega
  · exact (cborAi_wide h).2.1

theorem cborHead_length (mt n : Nat) : (cborHead mt n).length ≤ 9 := by
  rw [cborHead_eq, List.length_cons]
  by_cases h : n < 24
  · rw [(cborAi_small h).2]; exact Nat.le_add_left 1 8
  · obtain ⟨_, h2, h3, _⟩ := cborAi_wide h
    rw [h3, beBytes_length]
    exact Nat.succ_le_succ (Nat.pow_le_pow_right (by decide) (show cborAi n - 24 ≤ 3 by omega))

theorem cborArg_inj (a b : Nat) (x y : Bytes) (ha : a < 2 ^ 64) (hb : b < 2 ^ 64) (hai : cborAi a = cborAi b)
    (h : cborArg a ++ x = cborArg b ++ y) : a = b ∧ x = y := by
  by_cases a1 : a < 24
  · -- the value sits in the head itself
    obtain ⟨ea, eax⟩ := cborAi_small a1
    have b1 : b < 24 := by
      apply Classical.byContradiction
      intro b1
      have := (cborAi_wide b1).1
      omega
    obtain ⟨eb, ebx⟩ := cborAi_small b1
    rw [eax, ebx] at h
    exact ⟨by omega, h⟩
  · obtain ⟨la, _, eax, ba⟩ := cborAi_wide a1
    have b1 : ¬ b < 24 := by
      intro b1
      have := (cborAi_small b1).1
      omega
    obtain ⟨_, _, ebx, bb⟩ := cborAi_wide b1
    rw [eax, ebx, hai] at h
    obtain ⟨h1, h2⟩ := List.append_inj h (by rw [beBytes_length, beBytes_length])
    exact ⟨beBytes_inj _ a b (hai ▸ ba ha) (bb hb) h1, h2⟩

/-- injective and prefix-free, across major types; arguments below 2^64 are the range of the encoding -/
theorem cborHead_inj (mt mt' a b : Nat) (x y : Bytes) (hmt : mt < 8) (hmt' : mt' < 8) (ha : a < 2 ^ 64) (hb : b < 2 ^ 64)
    (h : cborHead mt a ++ x = cborHead mt' b ++ y) : mt = mt' ∧ a = b ∧ x = y := by
  rw [cborHead_eq, cborHead_eq] at h
  simp only [List.cons_append, List.cons.injEq] at h
  obtain ⟨h0, h1⟩ := h
  have la := cborAi_lt a
  have lb := cborAi_lt b
  have := u8_ofNat_inj (by omega) (by omega) h0
  -- the additional information stays below 32, so it does not reach the major type
  obtain ⟨hm, hai⟩ : mt = mt' ∧ cborAi a = cborAi b := by omega
  exact ⟨hm, cborArg_inj a b x y ha hb hai h1⟩

theorem cborStr_inj (mt : Nat) (hmt : mt < 8) (a b x y : Bytes) (ha : a.length < 2 ^ 64) (hb : b.length < 2 ^ 64)
    (h : (cborHead mt a.length ++ a) ++ x = (cborHead mt b.length ++ b) ++ y) : a = b ∧ x = y := by
  rw [List.append_assoc, List.append_assoc] at h
  obtain ⟨_, hl, hr⟩ := cborHead_inj mt mt _ _ _ _ hmt hmt ha hb h
  exact List.append_inj hr hl

theorem cborBstr_inj (a b x y : Bytes) (ha : a.length < 2 ^ 64) (hb : b.length < 2 ^ 64)
    (h : cborBstr a ++ x = cborBstr b ++ y) : a = b ∧ x = y :=
  cborStr_inj 2 (by decide) a b x y ha hb h

theorem cborInt_inj (i j : Int) (x y : Bytes) (hi : -(2 ^ 64) ≤ i ∧ i < 2 ^ 64) (hj : -(2 ^ 64) ≤ j ∧ j < 2 ^ 64)
    (h : cborInt i ++ x = cborInt j ++ y) : i = j ∧ x = y := by
  -- an integer in range is a head whose major type and argument give it back
  have hd : ∀ k : Int, -(2 ^ 64) ≤ k ∧ k < 2 ^ 64 →
      ∃ mt n, mt < 8 ∧ n < 2 ^ 64 ∧ cborInt k = cborHead mt n ∧ k = if mt = 0 then (n : Int) else -1 - n := by
    intro k hk
    unfold cborInt
    by_cases h0 : 0 ≤ k
    · exact ⟨0, k.toNat, by decide, by omega, if_pos h0, by rw [if_pos rfl]; omega⟩
    · exact ⟨1, (-1 - k).toNat, by decide, by omega, if_neg h0, by rw [if_neg (by decide)]; omega⟩
  obtain ⟨mi, ni, hmi, hni, ei, vi⟩ := hd i hi
  obtain ⟨mj, nj, hmj, hnj, ej, vj⟩ := hd j hj
  rw [ei, ej] at h
  obtain ⟨hm, hn, hr⟩ := cborHead_inj mi mj ni nj x y hmi hmj hni hnj h
  exact ⟨by rw [vi, vj, hm, hn], hr⟩

theorem aadArray_length_le (alg : Int) (kid piv : Bytes) : (aadArray alg kid piv).length ≤ 64 + kid.length + piv.length := by
  have h4 : (cborInt alg).length ≤ 9 := by
    unfold cborInt
    split <;> exact cborHead_length _ _
  unfold aadArray cborArray cborUint cborBstr
  have h1 := cborHead_length 4 5
  have h2 := cborHead_length 0 1
  have h3 := cborHead_length 4 1
  have h5 := cborHead_length 2 kid.length
  have h6 := cborHead_length 2 piv.length
  have h7 := cborHead_length 2 0
  simp only [List.length_append, List.length_nil, Nat.add_zero]
  omega

theorem aadArray_inj (alg alg' : Int) (kid kid' piv piv' : Bytes)
    (ha : -(2 ^ 64) ≤ alg ∧ alg < 2 ^ 64) (ha' : -(2 ^ 64) ≤ alg' ∧ alg' < 2 ^ 64)
    (hk : kid.length < 2 ^ 64) (hk' : kid'.length < 2 ^ 64) (hp : piv.length < 2 ^ 64) (hp' : piv'.length < 2 ^ 64)
    (h : aadArray alg kid piv = aadArray alg' kid' piv') : alg = alg' ∧ kid = kid' ∧ piv = piv' := by
  unfold aadArray at h
  simp only [List.append_assoc] at h
  have h := List.append_cancel_left h
  have h := List.append_cancel_left h
  have h := List.append_cancel_left h
  obtain ⟨e1, h⟩ := cborInt_inj _ _ _ _ ha ha' h
  obtain ⟨e2, h⟩ := cborBstr_inj _ _ _ _ hk hk' h
  obtain ⟨e3, _⟩ := cborBstr_inj _ _ _ _ hp hp' h
  exact ⟨e1, e2, e3⟩

theorem encStructure_inj (e e' : Bytes) (he : e.length < 2 ^ 64) (he' : e'.length < 2 ^ 64)
    (h : encStructure e = encStructure e') : e = e' := by
  unfold encStructure at h
  simp only [List.append_assoc] at h
  have h := List.append_cancel_left h
  have h := List.append_cancel_left h
  have h := List.append_cancel_left h
  have := cborBstr_inj e e' [] [] he he' (by simpa using h)
  exact this.1

/-! ### M = S: `oscore_cbor_put_*` -/
section MvsS
open Coap.M.Oscore
theorem putBF_eq (k v : Nat) : putBF k v = beBytes k v := by
  induction k generalizing v with
  | zero => rfl
  | succ k ih => simp [putBF, beBytes, ih]

theorem putUnsigned_eq (n : Nat) : putUnsigned n = cborHead 0 n := by
  unfold putUnsigned cborHead
  simp only [putBF_eq, Nat.zero_mul, Nat.zero_add]
  rfl

/-- or-ing the major type into the first byte: the additional information occupies the low five bits -/
theorem orFirst_major (mt n : Nat) : orFirst (UInt8.ofNat (mt * 32)) (putUnsigned n) = cborHead mt n := by
  have h5 : cborAi n < 2 ^ 5 := Nat.lt_trans (cborAi_lt n) (by decide)
  rw [putUnsigned_eq, cborHead_eq, cborHead_eq, Nat.zero_mul, Nat.zero_add, orFirst, ← UInt8.ofNat_or, Nat.or_comm,
    Nat.mul_comm mt 32, ← Nat.two_pow_add_eq_or_of_lt h5 mt]

theorem putArray_eq (n : Nat) : putArray n = cborArray n := orFirst_major 4 n
theorem putBytes_eq (b : Bytes) : putBytes b = cborBstr b := congrArg (· ++ b) (orFirst_major 2 b.length)
theorem putText_eq (t : Bytes) : putText t = cborTstr t := congrArg (· ++ t) (orFirst_major 3 t.length)

theorem putNumber_eq (v : Int) : putNumber v = cborInt v := by
  unfold putNumber cborInt
  by_cases h : v < 0
  · rw [if_pos h, if_neg (by omega), show (-v).toNat - 1 = (-1 - v).toNat by omega]
    exact orFirst_major 1 _
  · rw [if_neg h, if_pos (by omega), putUnsigned_eq]

end MvsS
