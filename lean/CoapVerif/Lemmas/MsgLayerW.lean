import CoapVerif.Model.MsgLayerW
import CoapVerif.Lemmas.MsgLayer
/-
C06, socket-write failures: the model with a write oracle (`Model/MsgLayerW.lean`) against the base model.

`Sim lw lw' l'` relates what a function of the write-failure model makes of `lw` to what the base function makes of `lw.l`:
as long as no FIRST transmission fails in the write (`dev = false` at the end), the write-failure model reaches exactly the
state (send queue, sessions, clock, output list) the base function reaches — whatever the oracle says about
RETRANSMISSIONS — and with an oracle that never says "fails" `dev` is never set.  A retransmission that cannot be written
is, for the message layer, a datagram lost on the wire: same queue, same deadline, same `con_active`, same later outcome.
`Out.tx` in the write-failure model is a write ATTEMPT, so the base model's theorems about transmissions read as theorems
about attempts.  Core Lean only.
-/
namespace Coap.MsgW
open Coap.SQ Coap.Msg

@[simp] theorem write_l (lw : LW) (s mid cnt : Nat) (con : Bool) :
    (write lw s mid cnt con).2.l = lw.l.emit (.tx lw.l.now s mid cnt con) := by
  unfold write; dsimp only; split <;> rfl

@[simp] theorem write_dev (lw : LW) (s mid cnt : Nat) (con : Bool) : (write lw s mid cnt con).2.dev = lw.dev := by
  unfold write; dsimp only; split <;> rfl

@[simp] theorem write_wf (lw : LW) (s mid cnt : Nat) (con : Bool) : (write lw s mid cnt con).2.wf = lw.wf.tail := by
  unfold write; dsimp only; split <;> rfl

@[simp] theorem write_res (lw : LW) (s mid cnt : Nat) (con : Bool) : (write lw s mid cnt con).1 = lw.wf.headD false := rfl

/-- the attempts marked as failed so far stay marked; a failing write marks exactly the new `tx` -/
theorem write_failed (lw : LW) (s mid cnt : Nat) (con : Bool) :
    (write lw s mid cnt con).2.failed =
      if lw.wf.headD false then lw.l.out.length :: lw.failed else lw.failed := by
  unfold write; dsimp only; split <;> rfl

@[simp] theorem drainRound_res (lw : LW) (s : Nat) (n : Node) (rest : List Node) :
    (drainRound lw s n rest).1 = lw.wf.headD false := rfl

@[simp] theorem drainRound_wf (lw : LW) (s : Nat) (n : Node) (rest : List Node) :
    (drainRound lw s n rest).2.wf = lw.wf.tail := by
  unfold drainRound; dsimp only; split <;> simp

@[simp] theorem drainRound_dev (lw : LW) (s : Nat) (n : Node) (rest : List Node) :
    (drainRound lw s n rest).2.dev = lw.dev := by
  unfold drainRound; dsimp only; split <;> simp

theorem drainRound_l (lw : LW) (s : Nat) (n : Node) (rest : List Node) :
    (drainRound lw s n rest).2.l = drainOne lw.l s n rest := by
  unfold drainRound drainOne; dsimp only; split <;> simp

/-- the loop of `coap_session_connected` with its `if (bytes_written < 0) break;`, in the rounds of the base loop -/
theorem drainW_succ (fuel : Nat) (lw : LW) (s : Nat) :
    drainW (fuel + 1) lw s =
      match (lw.l.getS s).delayq with
      | [] => lw
      | n :: rest =>
        if !(lw.l.getS s).est then lw
        else if n.con && decide ((lw.l.getS s).conActive ≥ (lw.l.getS s).nstart) then lw
        else if lw.wf.headD false then { (drainRound lw s n rest).2 with dev := true }
        else drainW fuel (drainRound lw s n rest).2 s := rfl

/-! ### against the base model -/

/-- the oracle never says "fails" -/
def NoFail (lw : LW) : Prop := ∀ b ∈ lw.wf, b = false

/-- the function neither meets a failing write nor sets `dev` -/
def Quiet (lw lw' : LW) : Prop := NoFail lw → NoFail lw' ∧ lw'.dev = lw.dev

theorem Quiet.refl (lw : LW) : Quiet lw lw := fun h => ⟨h, rfl⟩
theorem Quiet.trans {a b c : LW} (h1 : Quiet a b) (h2 : Quiet b c) : Quiet a c := fun h =>
  ⟨(h2 (h1 h).1).1, (h2 (h1 h).1).2.trans (h1 h).2⟩

theorem noFail_head {lw : LW} (h : NoFail lw) : lw.wf.headD false = false := by
  cases hw : lw.wf with
  | nil => rfl
  | cons b r => exact h b (by simp [hw])

/-- `lw'` is what a function of this model makes of `lw`, `l'` what the base function makes of `lw.l`: unless the write of a
FIRST transmission failed on the way (`dev`) the two agree, and an oracle that never says "fails" leaves `dev` as it was -/
structure Sim (lw lw' : LW) (l' : L) : Prop where
  tracks : lw'.dev = false → lw.dev = false ∧ lw'.l = l'
  quiet : Quiet lw lw'

/-- a step that consumes at most one answer of the oracle and leaves `dev` alone -/
theorem Sim.of_eq {lw lw' : LW} {l' : L} (hl : lw'.l = l') (hd : lw'.dev = lw.dev)
    (hw : lw'.wf = lw.wf ∨ lw'.wf = lw.wf.tail) : Sim lw lw' l' := by
  refine ⟨fun h => ⟨hd ▸ h, hl⟩, fun h => ⟨fun b hb => h b ?_, hd⟩⟩
  rcases hw with e | e
  · exact e ▸ hb
  · exact List.mem_of_mem_tail (e ▸ hb)

theorem Sim.refl (lw : LW) : Sim lw lw lw.l := Sim.of_eq rfl rfl (.inl rfl)

theorem Sim.setL (lw : LW) (l : L) : Sim lw { lw with l := l } l := Sim.of_eq rfl rfl (.inl rfl)

theorem Sim.of_fail {lw lw' : LW} {l' : L} (hw : lw.wf.headD false = true) (hd : lw'.dev = true) : Sim lw lw' l' :=
  ⟨fun h => Bool.noConfusion (hd.symm.trans h), fun h => Bool.noConfusion ((noFail_head h).symm.trans hw)⟩

/-- two stages; `g` is the base function of the second -/
theorem Sim.trans {a b c : LW} {lb : L} (h1 : Sim a b lb) (g : L → L) (h2 : Sim b c (g b.l)) : Sim a c (g lb) := by
  refine ⟨fun h => ?_, h1.quiet.trans h2.quiet⟩
  obtain ⟨hb, e2⟩ := h2.tracks h
  obtain ⟨ha, e1⟩ := h1.tracks hb
  exact ⟨ha, e1 ▸ e2⟩

theorem Sim.update {a b : LW} {lb : L} (h : Sim a b lb) (g : L → L) : Sim a { b with l := g b.l } (g lb) :=
  h.trans g (Sim.setL _ _)

theorem Sim.ite {lw a b : LW} {la lb : L} (c : Prop) [Decidable c] (ha : c → Sim lw a la) (hb : ¬ c → Sim lw b lb) :
    Sim lw (if c then a else b) (if c then la else lb) := by
  by_cases h : c
  · rw [if_pos h, if_pos h]; exact ha h
  · rw [if_neg h, if_neg h]; exact hb h

theorem drainW_sim : ∀ (fuel : Nat) (lw : LW) (s : Nat), Sim lw (drainW fuel lw s) (drain fuel lw.l s)
  | 0, lw, _ => Sim.refl lw
  | fuel + 1, lw, s => by
    rw [drainW_succ, drain_succ_eq]
    cases (lw.l.getS s).delayq with
    | nil => exact Sim.refl lw
    | cons n rest =>
      dsimp only
      refine Sim.ite _ (fun _ => Sim.refl lw) (fun _ => Sim.ite _ (fun _ => Sim.refl lw) (fun _ => ?_))
      cases hw : lw.wf.headD false
      · exact (Sim.of_eq (drainRound_l lw s n rest) (drainRound_dev ..) (.inr (drainRound_wf ..))).trans
          (drain fuel · s) (drainW_sim fuel _ s)
      · exact Sim.of_fail hw rfl

theorem connectedW_sim (lw : LW) (s : Nat) : Sim lw (connectedW lw s) (connected lw.l s) :=
  (Sim.setL lw _).trans (drain _ · s) (drainW_sim _ _ s)

/-- the slot of session `s` is released in a state whose base layer has just been updated to `l1` (a node taken out of the send
queue) -/
theorem releaseW_sim (lw : LW) (l1 : L) (s : Nat) : Sim lw (releaseW { lw with l := l1 } s) (release l1 s) := by
  unfold releaseW release
  dsimp only
  refine Sim.ite _ (fun _ => Sim.setL lw l1) (fun _ => Sim.ite _ (fun _ => ?_) (fun _ => Sim.setL lw _))
  exact (Sim.setL lw _).trans (connected · s) (connectedW_sim _ s)

/-- `coap_send` is refused: the message passes the gate and its write fails -/
def refused (lw : LW) (s : Nat) (con : Bool) : Bool :=
  (lw.l.getS s).sockOpen && !gate (lw.l.getS s) con && lw.wf.headD false

/-- `coap_send` against the base model: a refused message leaves its attempt and COAP_INVALID_MID in the output list and
nothing else; every other call is the base model's -/
theorem submitW_eq (lw : LW) (s : Nat) (con : Bool) (mid r : Nat) :
    (submitW lw s con mid r).l =
        (if refused lw s con then (lw.l.emit (.tx lw.l.now s mid 0 con)).emit (.sub none) else submit lw.l s con mid r) ∧
      (submitW lw s con mid r).dev = (lw.dev || refused lw s con) ∧
      ((submitW lw s con mid r).wf = lw.wf ∨ (submitW lw s con mid r).wf = lw.wf.tail) := by
  unfold submitW submit refused
  simp only [write_res]
  cases (lw.l.getS s).sockOpen
  · simp
  · cases gate (lw.l.getS s) con
    · cases lw.wf.headD false
      · cases con <;> simp
      · simp
    · simp only [Bool.not_true, Bool.false_eq_true, if_false, if_true]
      split <;> simp

theorem submitW_sim (lw : LW) (s : Nat) (con : Bool) (mid r : Nat) :
    Sim lw (submitW lw s con mid r) (submit lw.l s con mid r) := by
  obtain ⟨hl, hd, hw⟩ := submitW_eq lw s con mid r
  cases hr : refused lw s con
  · rw [hr] at hl hd
    exact Sim.of_eq hl (hd.trans (Bool.or_false _)) hw
  · rw [hr, Bool.or_true] at hd
    simp only [refused, Bool.and_eq_true] at hr
    exact Sim.of_fail hr.2 hd

/-- with retransmissions left, `coap_retransmit` never deviates, whatever the write returns: a retransmission that cannot be written
leaves the state of one that was written (and lost) -/
theorem retransmitW_resend (lw : LW) (n : Node) (hc : n.cnt < (lw.l.getS n.sess).maxRtx) :
    (retransmitW lw n).l = retransmit lw.l n ∧ (retransmitW lw n).dev = lw.dev := by
  unfold retransmitW retransmit
  dsimp only
  simp only [hc, if_true]
  split <;> simp

theorem retransmitW_sim (lw : LW) (n : Node) : Sim lw (retransmitW lw n) (retransmit lw.l n) := by
  unfold retransmitW retransmit
  dsimp only
  refine Sim.ite _ (fun _ => Sim.ite _ (fun _ => Sim.setL lw _) (fun _ => ?_)) (fun _ => Sim.ite _ (fun _ => ?_) (fun _ => ?_))
  · exact Sim.of_eq (by simp) (by simp) (.inr (by simp))
  · exact (releaseW_sim lw lw.l n.sess).update (fun l => l.emit (.nack l.now n.sess .retries n.mid true))
  · exact releaseW_sim lw lw.l n.sess

theorem dueLoopW_sim : ∀ (fuel : Nat) (lw : LW), Sim lw (dueLoopW fuel lw) (dueLoop fuel lw.l)
  | 0, lw => Sim.refl lw
  | fuel + 1, lw => by
    unfold dueLoopW dueLoop
    cases lw.l.q.nodes with
    | nil => exact Sim.refl lw
    | cons hd tl =>
      dsimp only
      refine Sim.ite _ (fun _ => ?_) (fun _ => Sim.refl lw)
      cases popNext (hd :: tl) with
      | none => exact Sim.refl lw
      | some p =>
        exact ((Sim.setL lw _).trans (retransmit · p.1) (retransmitW_sim _ p.1)).trans (dueLoop fuel) (dueLoopW_sim fuel _)

theorem prepareCoreW_fst (lw : LW) : (prepareCoreW lw).1 = dueLoopW (dueFuel lw.l) lw := by
  unfold prepareCoreW
  dsimp only
  split <;> rfl

theorem afterRxW_sim (lw : LW) : Sim lw (afterRxW lw) (afterRx lw.l) := by
  unfold afterRxW afterRx
  rw [prepareCoreW_fst, prepareCore_fst]
  exact dueLoopW_sim _ lw

theorem prepareCoreW_wait (lw : LW) (h : (afterRxW lw).l = afterRx lw.l) : (prepareCoreW lw).2 = (prepareCore lw.l).2 := by
  unfold afterRxW afterRx at h
  rw [prepareCoreW_fst, prepareCore_fst] at h
  unfold prepareCoreW prepareCore
  dsimp only
  rw [← h]
  cases (dueLoopW (dueFuel lw.l) lw).l.q.nodes <;> rfl

theorem prepareW_sim (lw : LW) : Sim lw (prepareW lw) (prepare lw.l) := by
  refine ⟨fun h => ?_, (afterRxW_sim lw).quiet.trans (Sim.setL _ _).quiet⟩
  obtain ⟨h0, e⟩ := (afterRxW_sim lw).tracks h
  refine ⟨h0, ?_⟩
  show (afterRxW lw).l.emit (.wait (afterRxW lw).l.now (prepareCoreW lw).2) = _
  rw [prepareCoreW_wait lw e, e]
  rfl

theorem rxAckW_sim (lw : LW) (s mid : Nat) : Sim lw (rxAckW lw s mid) (rxAck lw.l s mid) := by
  unfold rxAckW rxAck
  rcases removeNode lw.l.q.nodes s mid with ⟨sent, rest⟩
  cases sent with
  | none => exact Sim.setL lw _
  | some n => exact releaseW_sim lw _ s

theorem rxRstW_sim (lw : LW) (s mid : Nat) : Sim lw (rxRstW lw s mid) (rxRst lw.l s mid) := by
  unfold rxRstW rxRst
  rcases removeNode lw.l.q.nodes s mid with ⟨sent, rest⟩
  cases sent with
  | none => exact (Sim.setL lw _).update (fun l => l.emit (.nack l.now s .rst mid false))
  | some n =>
    have h := releaseW_sim lw { lw.l with q := { lw.l.q with nodes := rest } } s
    exact Sim.ite _ (fun _ => h.update (fun l => l.emit (.nack l.now s .rst n.mid true))) (fun _ => h)

theorem rxBadW_sim (lw : LW) (s mid : Nat) : Sim lw (rxBadW lw s mid) (rxBad lw.l s mid) := by
  unfold rxBadW rxBad
  rcases removeNode lw.l.q.nodes s mid with ⟨sent, rest⟩
  cases sent with
  | none => exact Sim.setL lw _
  | some n =>
    exact (releaseW_sim lw _ s).update (fun l => l.emit (.nack l.now s .bad n.mid true))

theorem cancelTokenW_sim : ∀ (fuel : Nat) (lw : LW) (s tok : Nat),
    Sim lw (cancelTokenW fuel lw s tok) (cancelToken fuel lw.l s tok)
  | 0, lw, _, _ => Sim.refl lw
  | fuel + 1, lw, s, tok => by
    unfold cancelTokenW cancelToken
    rcases removeTok lw.l.q.nodes s tok with ⟨sent, rest⟩
    cases sent with
    | none => exact Sim.refl lw
    | some n =>
      refine Sim.trans (b := if n.con then releaseW _ s else _) ?_ (cancelToken fuel · s tok) (cancelTokenW_sim fuel _ s tok)
      exact Sim.ite _ (fun _ => releaseW_sim lw _ s) (fun _ => Sim.setL lw _)

theorem rxNonW_sim (lw : LW) (s mid tok : Nat) : Sim lw (rxNonW lw s mid tok) (rxNon lw.l s mid tok) :=
  (cancelTokenW_sim _ lw s tok).update (fun l => l.emit (.rsp l.now s mid))

theorem stepW_sim (lw : LW) (e : Ev) : Sim lw (stepW lw e) (step lw.l e) := by
  -- a datagram arrives: the dispatch branch, then the I/O step
  have rx : ∀ {lw1 : LW} {l1 : L} (s : Nat), Sim lw lw1 l1 →
      Sim lw (if (lw.l.getS s).sockOpen then afterRxW lw1 else lw) (if (lw.l.getS s).sockOpen then afterRx l1 else lw.l) :=
    fun s h => Sim.ite _ (fun _ => h.trans afterRx (afterRxW_sim _)) (fun _ => Sim.refl lw)
  cases e with
  | setNow t => exact Sim.setL lw _
  | submit s con mid r => exact submitW_sim lw s con mid r
  | prepare => exact prepareW_sim lw
  | rxAck s mid => exact rx s (rxAckW_sim lw s mid)
  | rxRst s mid => exact rx s (rxRstW_sim lw s mid)
  | rxNon s mid tok => exact rx s (rxNonW_sim lw s mid tok)
  | rxBad s mid => exact rx s (rxBadW_sim lw s mid)
  | hold s => exact Sim.setL lw _
  | connect s => exact connectedW_sim lw s
  | disconnect s => exact Sim.ite _ (fun _ => Sim.setL lw _) (fun _ => Sim.refl lw)

theorem runW_sim (evs : List Ev) : ∀ lw : LW, Sim lw (runW lw evs) (run lw.l evs) := by
  induction evs with
  | nil => exact Sim.refl
  | cons e es ih => exact fun lw => (stepW_sim lw e).trans (run · es) (ih _)

theorem stepW_tracks (lw : LW) (e : Ev) : (stepW lw e).dev = false → lw.dev = false ∧ (stepW lw e).l = step lw.l e :=
  (stepW_sim lw e).tracks

theorem runW_tracks (evs : List Ev) (lw : LW) :
    (runW lw evs).dev = false → lw.dev = false ∧ (runW lw evs).l = run lw.l evs :=
  (runW_sim evs lw).tracks

theorem runW_quiet (evs : List Ev) (lw : LW) : Quiet lw (runW lw evs) := (runW_sim evs lw).quiet

end Coap.MsgW
