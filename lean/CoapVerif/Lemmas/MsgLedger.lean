import CoapVerif.Lemmas.MsgHold
/-
The LEDGER of a message (C08): for a session `s` and a message id `mid`,

    led s mid g l  =  number of Confirmables with that id in the send queue that belong to `s`          (in flight)
                    + number of Confirmables with that id in the delay queue of `s`                       (held)
                    + number of `TOO_MANY_RETRIES` NACKs reported for (`s`, `mid`) so far                 (given up)

(`g` is an additional condition on the token, `fun _ => true` unless stated).  Every function of the extended model
keeps or increases it, unless the event is one that CONCLUDES that message: an ACK / RST / invalid-code reply / piggy-backed
response carrying its id, a separate response carrying the token of a message with that id, the failure of its session.
So a Confirmable that has been sent stays in flight (or goes back to the delay queue of a session that is not established)
until it is acknowledged, reset, answered, given up - with a report - or its session fails.  Core Lean only.
-/
namespace Coap.MsgX
open Coap.SQ Coap.Msg

/-- a Confirmable of session `s` with message id `mid` (and a token satisfying `g`) in the send queue -/
def pq (s mid : Nat) (g : Nat → Bool) (n : Node) : Bool :=
  decide (n.sess = s) && (decide (n.mid = mid) && (n.con && g n.tok))

/-- the same in the delay queue of session `s` (a node there belongs to `s`) -/
def pd (mid : Nat) (g : Nat → Bool) (n : Node) : Bool :=
  decide (n.mid = mid) && (n.con && g n.tok)

/-- the report "given up": `COAP_NACK_TOO_MANY_RETRIES` for (`s`, `mid`) with the sent PDU -/
def isGiveUp (s mid : Nat) : Out → Bool
  | .nack _ s' .retries m true => decide (s' = s) && decide (m = mid)
  | _ => false

def led (s mid : Nat) (g : Nat → Bool) (l : L) : Nat :=
  l.q.nodes.countP (pq s mid g) + ((l.getS s).delayq.countP (pd mid g) + l.out.countP (isGiveUp s mid))

/-- no condition on the token -/
abbrev gT : Nat → Bool := fun _ => true

theorem led_now (s mid : Nat) (g : Nat → Bool) (l : L) (t : Nat) : led s mid g { l with now := t } = led s mid g l := rfl

theorem pq_tstable (s mid : Nat) (g : Nat → Bool) : TStable (pq s mid g) := fun _ _ => rfl

theorem pq_sess {s mid : Nat} {g : Nat → Bool} {n : Node} (h : pq s mid g n = true) : n.sess = s := by
  simp [pq] at h; exact h.1

theorem pq_of_sess {s mid : Nat} {g : Nat → Bool} {n : Node} (h : n.sess = s) : pq s mid g n = pd mid g n := by
  simp [pq, pd, h]

variable {s mid : Nat} {g : Nat → Bool}

theorem pq_ne_sess {n : Node} (h : n.sess ≠ s) : pq s mid g n = false := by
  simp [pq, h]

theorem pq_not_key {n : Node} {s' m : Nat} (hne : ¬ (s' = s ∧ m = mid)) (h1 : n.sess = s') (h2 : n.mid = m) :
    pq s mid g n = false := by
  cases hp : pq s mid g n
  · rfl
  · simp [pq] at hp
    exact absurd ⟨h1.symm.trans hp.1, h2.symm.trans hp.2.1⟩ hne

/-! ### how the basic state changes move the ledger -/

theorem led_emit (l : L) (o : Out) :
    led s mid g (l.emit o) = led s mid g l + (if isGiveUp s mid o then 1 else 0) := by
  simp only [led, emit_q, getS_emit, emit_out, List.countP_cons]
  omega

theorem led_setS_other (l : L) {s' : Nat} (se : Sess) (h : s' ≠ s) : led s mid g (l.setS s' se) = led s mid g l := by
  simp only [led, setS_q, setS_out, getS_setS_other h]

theorem led_setS_same (l : L) (se : Sess) (hs : s < l.sess.length) :
    led s mid g (l.setS s se) =
      l.q.nodes.countP (pq s mid g) + (se.delayq.countP (pd mid g) + l.out.countP (isGiveUp s mid)) := by
  simp only [led, setS_q, setS_out, getS_setS_same hs]

theorem led_setS_push (l : L) {se : Sess} {x : Node} (hd : se.delayq = (l.getS x.sess).delayq ++ [x])
    (hs : s < l.sess.length) :
    led s mid g (l.setS x.sess se) = led s mid g l + (if pq s mid g x then 1 else 0) := by
  by_cases h : x.sess = s
  · subst h
    rw [led_setS_same l se hs, hd, List.countP_append, pq_of_sess rfl]
    simp only [led, List.countP_cons, List.countP_nil]
    omega
  · rw [led_setS_other l se h, pq_ne_sess h]; rfl

theorem led_enq (l : L) (now d : Nat) (n : Node) :
    led s mid g { l with q := enqueue l.q now d n } = led s mid g l + (if pq s mid g n then 1 else 0) := by
  simp only [led, countP_enqueue (pq s mid g) (pq_tstable s mid g)]
  show _ + _ + ((l.getS s).delayq.countP _ + _) = _
  omega

theorem led_nodes (l : L) (n : Node) (rest : List Node)
    (hc : l.q.nodes.countP (pq s mid g) = rest.countP (pq s mid g) + (if pq s mid g n then 1 else 0)) :
    led s mid g l = led s mid g { l with q := { l.q with nodes := rest } } + (if pq s mid g n then 1 else 0) := by
  simp only [led, hc]
  show _ = rest.countP _ + ((l.getS s).delayq.countP _ + _) + _
  omega

/-- from `l` to `l'` session `s` stays and the ledger of (`s`, `mid`) does not go down -/
def Keeps (s mid : Nat) (g : Nat → Bool) (l l' : L) : Prop :=
  s < l.sess.length → s < l'.sess.length ∧ led s mid g l ≤ led s mid g l'

theorem Keeps.refl (l : L) : Keeps s mid g l l := fun h => ⟨h, Nat.le_refl _⟩

theorem Keeps.trans {a b c : L} (h1 : Keeps s mid g a b) (h2 : Keeps s mid g b c) : Keeps s mid g a c := fun h =>
  ⟨(h2 (h1 h).1).1, Nat.le_trans (h1 h).2 (h2 (h1 h).1).2⟩

theorem Keeps.emit (l : L) (o : Out) : Keeps s mid g l (l.emit o) := fun h =>
  ⟨h, by rw [led_emit]; exact Nat.le_add_right _ _⟩

theorem Keeps.out (l : L) (added : List Out) : Keeps s mid g l { l with out := added ++ l.out } := fun hs => by
  refine ⟨hs, ?_⟩
  unfold led
  show _ ≤ l.q.nodes.countP _ + ((l.getS s).delayq.countP _ + (_ ++ l.out).countP _)
  simp only [List.countP_append]
  omega

theorem Keeps.enq (l : L) (now d : Nat) (n : Node) : Keeps s mid g l { l with q := enqueue l.q now d n } := fun h =>
  ⟨h, by rw [led_enq]; exact Nat.le_add_right _ _⟩

theorem Keeps.setS (l : L) (s' : Nat) (se : Sess) (hd : se.delayq = (l.getS s').delayq) :
    Keeps s mid g l (l.setS s' se) := fun hs => by
  refine ⟨by rw [setS_len]; exact hs, Nat.le_of_eq ?_⟩
  by_cases h : s' = s
  · subst h; rw [led_setS_same l se hs, hd]; rfl
  · rw [led_setS_other l se h]

theorem Keeps.setS_other (l : L) {s' : Nat} (se : Sess) (h : s' ≠ s) : Keeps s mid g l (l.setS s' se) := fun hs =>
  ⟨by rw [setS_len]; exact hs, Nat.le_of_eq (led_setS_other l se h).symm⟩

theorem Keeps.remove {l : L} {n : Node} {rest : List Node}
    (hc : l.q.nodes.countP (pq s mid g) = rest.countP (pq s mid g) + (if pq s mid g n then 1 else 0))
    (hpn : pq s mid g n = false) : Keeps s mid g l { l with q := { l.q with nodes := rest } } := fun hs => by
  refine ⟨hs, Nat.le_of_eq ?_⟩
  rw [led_nodes l n rest hc, hpn]
  rfl

/-! ### the functions that release a slot only add to the queues -/

theorem drain_keeps (fuel : Nat) (l : L) (s' : Nat) : Keeps s mid g l (drain fuel l s') := by
  refine drain_inv (s := s') (P := Keeps s mid g l)
    (fun l1 n rest h hdq _ => h.trans fun hs1 => ⟨by rw [drainOne_len]; exact hs1, ?_⟩) fuel l (Keeps.refl l)
  -- the head moves from the delay queue to the send queue (a Confirmable), or was not counted (a Non-confirmable)
  simp only [led, drainOne_countP (pq_tstable s mid g), drainOne_out, List.countP_cons, isGiveUp]
  by_cases hss : s' = s
  · subst hss
    rw [drainOne_getS hs1, hdq, List.countP_cons, pq_of_sess (n := { n with sess := s' }) rfl]
    have e : pd mid g { n with sess := s' } = pd mid g n := rfl
    rw [e]
    cases hc : n.con
    · have : pd mid g n = false := by simp [pd, hc]
      simp [this]
    · simp only [Bool.true_and]; omega
  · rw [drainOne_getS_other _ hss, pq_ne_sess (n := { n with sess := s' }) hss, Bool.and_false]
    simp

theorem connected_keeps (l : L) (s' : Nat) : Keeps s mid g l (connected l s') :=
  (Keeps.setS l s' _ (by rfl)).trans (drain_keeps _ _ s')

theorem release_keeps (l : L) (s' : Nat) : Keeps s mid g l (release l s') := by
  unfold release
  dsimp only
  exact ite_ind (P := Keeps s mid g l) (fun _ => Keeps.refl l) fun _ =>
    ite_ind (P := Keeps s mid g l) (fun _ => (Keeps.setS l s' _ (by rfl)).trans (connected_keeps _ s')) fun _ => Keeps.setS l s' _ (by rfl)

theorem sendCore_keeps (l : L) (s' : Nat) (con : Bool) (m r tok : Nat) :
    Keeps s mid g l (sendCore l s' con m r tok).1 := by
  rcases sendCore_cases l s' con m r tok with ⟨_, e⟩ | ⟨_, e⟩ | ⟨_, _, e⟩ | ⟨_, _, e⟩ <;> rw [e]
  · exact Keeps.refl l
  · -- held: one more node in the delay queue
    exact fun hs => ⟨by rw [setS_len]; exact hs,
      Nat.le.intro (led_setS_push (x := sendNode (l.getS s') s' con m r tok) l rfl hs).symm⟩
  · exact Keeps.emit _ _
  · dsimp only
    exact ((Keeps.emit _ _).trans (Keeps.setS _ s' _ (by rfl))).trans (Keeps.enq _ _ _ _)

/-! ### retransmission: the node is put back, moves to the delay queue (session not established) or is given up WITH a report -/

theorem pq_cnt (n : Node) (c : Nat) : pq s mid g { n with cnt := c } = pq s mid g n := rfl

/-- the popped node `n` is counted again after `coap_retransmit` -/
theorem retransmitX_led (pt prng : Nat) (l : L) (n : Node) (hs : s < l.sess.length) (hc : n.con = true) :
    led s mid gT l + (if pq s mid gT n then 1 else 0) ≤ led s mid gT (retransmitX pt prng l n) := by
  rcases retransmitX_cases pt prng l n with ⟨d, _, _, e⟩ | ⟨d, _, _, e⟩ | ⟨_, e⟩ <;> rw [e]
  · -- the gate is closed: coap_session_delay_pdu(session, pdu, node)
    obtain ⟨m, hms, hmm, hcnt⟩ := requeue_remove l.q l.now d { n with cnt := (n.cnt + 1) % 256 }
    have hcnt := hcnt _ (pq_tstable s mid gT)
    simp only [pq_cnt] at hcnt
    -- the node that went out has the session and id of `n`: it is counted only if `n` is
    have hm : pq s mid gT m = true → pq s mid gT n = true := fun hpm => by
      simp [pq, gT] at hpm ⊢
      exact ⟨hms.symm.trans hpm.1, hmm.symm.trans hpm.2.1, hc⟩
    -- in the delay queue it is counted as `n` was in the send queue
    rw [led_setS_push (x := { n with t := 0, cnt := (n.cnt + 1) % 256 }) _ rfl (by simpa using hs)]
    show led s mid gT l + _ ≤ (removeNode _ n.sess n.mid).2.countP (pq s mid gT) +
      ((l.getS s).delayq.countP (pd mid gT) + l.out.countP (isGiveUp s mid)) + (if pq s mid gT n then 1 else 0)
    simp only [led]
    cases hpm : pq s mid gT m
    · simp [hpm] at hcnt; omega
    · simp [hpm, hm hpm] at hcnt ⊢; omega
  · -- retransmitted
    have hcnt := led_enq (s := s) (mid := mid) (g := gT) l l.now d { n with cnt := (n.cnt + 1) % 256 }
    rw [pq_cnt] at hcnt
    rw [← hcnt]
    exact (((Keeps.emit _ _).trans (Keeps.setS _ n.sess _ (by rfl))) (by exact hs)).2
  · -- given up: the slot is released, the NACK handler is told
    have hr := (release_keeps (s := s) (mid := mid) (g := gT) l n.sess hs).2
    rw [if_pos hc, led_emit]
    by_cases hp : pq s mid gT n = true
    · have : isGiveUp s mid (Out.nack (release l n.sess).now n.sess Reason.retries n.mid true) = true := by
        simp [pq] at hp; simp [isGiveUp, hp.1, hp.2.1]
      rw [this]; simp [hp]; omega
    · simp [hp]; omega

/-! ### arrivals: a node that is not the message leaves the send queue, its slot is released -/

theorem keeps_disp {R : Node → Prop} (l0 : L) (hR : ∀ n, R n → pq s mid g n = false) : Disp R (Keeps s mid g l0) where
  emit _ _ h := h.trans (Keeps.emit _ _)
  finish _ n _ h hwo hn := h.trans ((Keeps.remove (hwo.count _ (pq_tstable s mid g)) (hR n hn)).trans (release_keeps _ _))
  dropNon _ n _ h hwo hn _ := h.trans (Keeps.remove (hwo.count _ (pq_tstable s mid g)) (hR n hn))

theorem led_gT_ge (s mid : Nat) (g : Nat → Bool) (l : L) : led s mid g l ≤ led s mid gT l := by
  unfold led
  have h1 : l.q.nodes.countP (pq s mid g) ≤ l.q.nodes.countP (pq s mid gT) :=
    List.countP_mono_left (fun n _ hn => by simp [pq, gT] at hn ⊢; exact ⟨hn.1, hn.2.1, hn.2.2.1⟩)
  have h2 : (l.getS s).delayq.countP (pd mid g) ≤ (l.getS s).delayq.countP (pd mid gT) :=
    List.countP_mono_left (fun n _ hn => by simp [pd, gT] at hn ⊢; exact ⟨hn.1, hn.2.1⟩)
  omega

/-- when no message with that id carries the token, the condition "token ≠ tok" changes nothing -/
theorem led_gT_eq (s mid tok : Nat) (l : L)
    (hq : ∀ n ∈ l.q.nodes, n.sess = s → n.mid = mid → n.tok ≠ tok)
    (hd : ∀ n ∈ (l.getS s).delayq, n.mid = mid → n.tok ≠ tok) :
    led s mid gT l = led s mid (fun t => decide (t ≠ tok)) l := by
  unfold led
  have h1 : l.q.nodes.countP (pq s mid gT) = l.q.nodes.countP (pq s mid (fun t => decide (t ≠ tok))) := by
    apply List.countP_congr
    intro n hn
    simp only [pq, gT, Bool.and_true, Bool.and_eq_true, decide_eq_true_eq]
    constructor
    · intro h; exact ⟨h.1, h.2.1, h.2.2, hq n hn h.1 h.2.1⟩
    · intro h; exact ⟨h.1, h.2.1, h.2.2.1⟩
  have h2 : (l.getS s).delayq.countP (pd mid gT) = (l.getS s).delayq.countP (pd mid (fun t => decide (t ≠ tok))) := by
    apply List.countP_congr
    intro n hn
    simp only [pd, gT, Bool.and_true, Bool.and_eq_true, decide_eq_true_eq]
    constructor
    · intro h; exact ⟨h.1, h.2, hd n hn h.1⟩
    · intro h; exact ⟨h.1, h.2.1⟩
  rw [h1, h2]

/-! ### the failure of ANOTHER session -/

theorem nackAll_keeps (l : L) (s' : Nat) (r : Reason) (ns : List Node) : Keeps s mid g l (nackAll l s' r ns) := by
  rw [nackAll_eq]
  exact Keeps.out l _

theorem discHead_keeps (l : L) (s' : Nat) : Keeps s mid g l (discHead l s') := by
  obtain ⟨pre, post0, e, _⟩ := discHead_eq l s'
  rw [e]
  exact Keeps.out l _

theorem cancel_keeps (l : L) {s' : Nat} (hne : s' ≠ s) :
    Keeps s mid g l { l with q := { l.q with nodes := (cancelSession l.q.nodes s').2 } } := fun hs => by
  refine ⟨hs, Nat.le_of_eq ?_⟩
  unfold led
  show _ = (cancelSession l.q.nodes s').2.countP _ + ((l.getS s).delayq.countP _ + _)
  simp only [cancelSession, countP_cancelAux (pq s mid g) (pq_tstable s mid g)]
  congr 1
  apply List.countP_congr
  intro n _
  simp only [Bool.and_eq_true, Bool.not_eq_true', decide_eq_false_iff_not]
  exact ⟨fun hh => ⟨hh, fun e => hne (e.symm.trans (pq_sess hh))⟩, fun hh => hh.1⟩

theorem discTail_keeps (l : L) {s' : Nat} (se : Sess) (hne : s' ≠ s) : Keeps s mid g l (discTail l s' se) := by
  unfold discTail
  simp only []
  exact (((Keeps.setS_other _ _ hne).trans (cancel_keeps _ hne)).trans (nackAll_keeps _ _ _ _)).trans (Keeps.setS_other _ _ hne)

theorem disconnectP_keeps (p : Proto) (l : L) {s' : Nat} (hne : s' ≠ s) : Keeps s mid g l (disconnectP p l s') := by
  have h : Keeps s mid g l (disconnect l s') := (discHead_keeps l s').trans (discTail_keeps _ _ hne)
  unfold disconnectP
  cases p with
  | udp => exact h
  | dtls => exact h.trans (Keeps.setS_other _ _ hne)

/-! ### every event -/

/-- the events that CONCLUDE the exchange of the message with id `mid` of session `s`: an ACK (empty, with an invalid
code, or piggy-backed response) or a RST carrying that id; a separate response carrying the token of a message with
that id (in flight or - it may be released and cancelled within the same call - held); the failure of the session.  For every
event but `rxNon`, `¬ Concludes` is the `hR` / `hF` of `keeps_evtX` at `e.gone` / `e.fails`; `rxNon` needs a token condition (`led_stepX`) -/
def Concludes (l : L) (s mid : Nat) : EvX → Prop
  | .base (.rxAck s' m) => s' = s ∧ m = mid
  | .base (.rxRst s' m) => s' = s ∧ m = mid
  | .base (.rxBad s' m) => s' = s ∧ m = mid
  | .rxAckP s' m _ => s' = s ∧ m = mid
  | .base (.rxNon s' _ tok) => s' = s ∧ ((∃ n ∈ l.q.nodes, n.sess = s ∧ n.mid = mid ∧ n.tok = tok) ∨
      ∃ n ∈ (l.getS s).delayq, n.mid = mid ∧ n.tok = tok)
  | .base (.disconnect s') => s' = s
  | _ => False

/-- the ledger survives what the events are made of, as long as no node that counts is concluded (`R`) and the session does not
fail (`F`); a retransmission needs `WF` (the popped node is a Confirmable) -/
theorem keeps_evtX {R : Node → Prop} {F : Nat → Prop} (s mid : Nat) (l0 : L) (hR : ∀ n, R n → pq s mid gT n = false)
    (hF : ∀ s', F s' → s' ≠ s) : EvtX R F (fun l => WF l ∧ Keeps s mid gT l0 l) where
  toDisp := wf_disp.and (keeps_disp l0 hR)
  now _ _ h := ⟨h.1, h.2.trans fun hs => ⟨hs, Nat.le_refl _⟩⟩
  hold l s' h := ⟨(Mid.est l s' false).reach.wf h.1, h.2.trans (Keeps.setS l s' _ rfl)⟩
  send l s' con m r tok h := ⟨(sendCore_reach l s' con m r tok).wf h.1, h.2.trans (sendCore_keeps l s' con m r tok)⟩
  retx pt prng l n rest h hp :=
    have hr := popRetransmitX_reach pt prng hp
    ⟨hr.wf h.1, h.2.trans fun hs => ⟨hr.len ▸ hs, by
      rw [led_nodes l n rest ((without_popNext hp).count _ (pq_tstable s mid gT))]
      exact retransmitX_led pt prng _ n hs (h.1.1.mem (without_popNext hp).1)⟩⟩
  connected l s' h := ⟨(connected_reach l s').wf h.1, h.2.trans (connected_keeps l s')⟩
  fail l s' h hf := ⟨(disconnect_reach l s').wf h.1, h.2.trans (disconnectP_keeps .udp l (hF s' hf))⟩

theorem led_stepX (s mid : Nat) (lx : LX) (e : EvX) (hw : WF lx.l) (hs : s < lx.l.sess.length)
    (hn : ¬ Concludes lx.l s mid e) : led s mid gT lx.l ≤ led s mid gT (stepX lx e).l := by
  have key : ∀ {s' m : Nat}, ¬ (s' = s ∧ m = mid) → ∀ n : Node, n.sess = s' ∧ n.mid = m → pq s mid gT n = false :=
    fun hne n h => pq_not_key hne h.1 h.2
  have no : (∀ n, False → pq s mid gT n = false) ∧ ∀ s', False → s' ≠ s := ⟨fun _ h => h.elim, fun _ h => h.elim⟩
  suffices h : WF (stepX lx e).l ∧ Keeps s mid gT lx.l (stepX lx e).l from (h.2 hs).2
  have inst : (∀ n, e.gone n → pq s mid gT n = false) → (∀ s', e.fails s' → s' ≠ s) →
      WF (stepX lx e).l ∧ Keeps s mid gT lx.l (stepX lx e).l :=
    fun hR hF => (keeps_evtX s mid lx.l hR hF).stepX lx ⟨hw, Keeps.refl _⟩
  cases e with
  | base e =>
    cases e with
    | rxAck s' m => exact inst (key hn) no.2
    | rxRst s' m => exact inst (key hn) no.2
    | rxBad s' m => exact inst (key hn) no.2
    | rxNon s' m tok =>
      -- Not an instance of the walk: the cancel walk is counted under a token condition `g` of its own (below), the due loop
      -- after it only under `gT` (`coap_retransmit`'s delay path finds the node by session and id, whatever its token).
      have E := keeps_evtX (R := fun _ => False) (F := fun _ => False) s mid lx.l no.1 no.2
      have walk : ∀ {g : Nat → Bool}, (∀ n : Node, n.sess = s' ∧ n.tok = tok → pq s mid g n = false) →
          Keeps s mid g lx.l (rxNonX lx.l s' m tok) := fun hg =>
        (keeps_disp lx.l hg).emit _ _ ((keeps_disp lx.l hg).cancelWalk _ lx.l 0 (Keeps.refl _))
      have h1 : WF (rxNonX lx.l s' m tok) ∧ Keeps s mid gT lx.l (rxNonX lx.l s' m tok) := by
        have W := wf_disp (R := fun n : Node => n.sess = s' ∧ n.tok = tok)
        refine ⟨W.emit _ _ (W.cancelWalk _ lx.l 0 hw), ?_⟩
        by_cases hss : s' = s
        · -- no message with that id carries the token: count the messages whose token differs
          have hq : ∀ n ∈ lx.l.q.nodes, n.sess = s → n.mid = mid → n.tok ≠ tok :=
            fun n hn1 h1 h2 h3 => hn ⟨hss, Or.inl ⟨n, hn1, h1, h2, h3⟩⟩
          have hd : ∀ n ∈ (lx.l.getS s).delayq, n.mid = mid → n.tok ≠ tok :=
            fun n hn1 h2 h3 => hn ⟨hss, Or.inr ⟨n, hn1, h2, h3⟩⟩
          have h := walk (g := fun t => decide (t ≠ tok)) (fun n h2 => by simp [pq, h2.2])
          intro hs'
          refine ⟨(h hs').1, ?_⟩
          rw [led_gT_eq s mid tok lx.l hq hd]
          exact Nat.le_trans (h hs').2 (led_gT_ge s mid _ _)
        · exact walk fun n h1 => pq_ne_sess (by rw [h1.1]; exact hss)
      simp only [stepX]
      -- the state after the branch gets a name first: with `lift` (a fold over the outputs) in sight the I/O step is slow to check
      rw [← lift_l (lx.read s') (rxNonX lx.l s' m tok)] at h1
      generalize (lx.read s').lift (rxNonX lx.l s' m tok) = lx1 at h1 ⊢
      split
      · exact E.io lx1 h1
      · exact ⟨hw, Keeps.refl _⟩
    | disconnect s' => exact inst no.1 fun _ h => h ▸ hn
    | _ => exact inst no.1 no.2
  | rxAckP s' m tok => exact inst (key hn) no.2
  | _ => exact inst no.1 no.2

theorem led_runX (s mid : Nat) : ∀ (evs : List EvX) (lx : LX), WF lx.l → s < lx.l.sess.length →
    (∀ (pre : List EvX) (e : EvX) (post : List EvX), evs = pre ++ e :: post → ¬ Concludes (runX lx pre).l s mid e) →
    led s mid gT lx.l ≤ led s mid gT (runX lx evs).l
  | [], _, _, _, _ => Nat.le_refl _
  | e :: es, lx, hw, hs, hn => by
    have h1 := led_stepX s mid lx e hw hs (hn [] e es rfl)
    have hs' : s < (stepX lx e).l.sess.length := by rw [(stepX_reach lx e).len]; exact hs
    have h2 := led_runX s mid es (stepX lx e) (wfX_step lx e hw) hs'
      (fun pre e' post he => by
        have := hn (e :: pre) e' post (by rw [he]; rfl)
        simpa [runX] using this)
    exact Nat.le_trans h1 (by simpa [runX] using h2)

end Coap.MsgX
