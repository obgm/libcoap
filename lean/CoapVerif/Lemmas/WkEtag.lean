import CoapVerif.Model.WkLive
import CoapVerif.Lemmas.WkBlock
/- Helper lemmas for C20's block-level live server (`runB`): every cached Block2 body is the listing of the table as it was
   when the block 0 that carries its ETag was served; ETags are never reused. -/
namespace Coap.M.LF
open Coap Coap.LF

def etagOf : RespB → Option Nat
  | .blk _ _ e => e
  | .err _ => none

/-- the ETags handed out with a block 0, in order -/
def issued (tr : List Obs) : List Nat := tr.filterMap (fun o => if o.req.num = 0 then etagOf o.resp else none)

/-- two requests whose `coap_get_query()` strings compare equal -/
def SameKey (a b : List Bytes) : Prop :=
  ∃ k1 k2, MU.getQuery a = R.ok k1 ∧ MU.getQuery b = R.ok k2 ∧ keyEq k1 k2 = true

/-- cache entry `e` of session `sid` was made by the block-0 exchange `o0` -/
def Issued (o0 : Obs) (sid : Nat) (e : LgB) : Prop :=
  o0.req.sid = sid ∧ o0.req.num = 0 ∧ o0.req.szx = e.szx ∧ o0.req.rtag = e.rtag ∧
  MU.getQuery o0.req.opts = R.ok e.key ∧ e.data = getListing o0.table o0.req.opts ∧
  etagOf o0.resp = some e.etag

structure InvB (st : BState) (past : List Obs) : Prop where
  entries : ∀ sid, ∀ e ∈ st.cache sid, ∃ o0 ∈ past, Issued o0 sid e
  nodup : (issued past).Nodup
  le : ∀ E ∈ issued past, E ≤ st.etag

/-- what the property says about one exchange `o` of a trace `tr` -/
def GoodB (tr : List Obs) (o : Obs) : Prop :=
  (o.req.num = 0 →
     o.resp = RespB.blk ((getListing o.table o.req.opts).take (2 ^ (o.req.szx + 4)))
                (decide (2 ^ (o.req.szx + 4) < (getListing o.table o.req.opts).length)) (etagOf o.resp) ∧
     (etagOf o.resp).isSome = decide (2 ^ (o.req.szx + 4) < (getListing o.table o.req.opts).length)) ∧
  (∀ p more E, o.resp = RespB.blk p more (some E) →
     ∃ o0 ∈ tr, o0.req.num = 0 ∧ o0.req.sid = o.req.sid ∧ o0.req.rtag = o.req.rtag ∧ o0.req.szx = o.req.szx ∧
       SameKey o0.req.opts o.req.opts ∧ etagOf o0.resp = some E ∧
       p = block (getListing o0.table o0.req.opts) (2 ^ (o.req.szx + 4)) o.req.num ∧
       more = decide (o.req.num * 2 ^ (o.req.szx + 4) + 2 ^ (o.req.szx + 4) <
                        (getListing o0.table o0.req.opts).length))

def OkObs (o : Obs) : Prop := ReqOk o.table o.req.opts

theorem GoodB.mono {tr tr' : List Obs} {o : Obs} (h : GoodB tr o) (hs : ∀ x ∈ tr, x ∈ tr') : GoodB tr' o := by
  refine ⟨h.1, ?_⟩
  intro p more E he
  obtain ⟨o0, hm, hr⟩ := h.2 p more E he
  exact ⟨o0, hs o0 hm, hr⟩

theorem keepMask_sub (c : CacheB) (m : List Bool) : ∀ e ∈ keepMask c m, e ∈ c := by
  induction c generalizing m with
  | nil => intro e he; cases m <;> simp [keepMask] at he
  | cons a c ih =>
    intro e he
    cases m with
    | nil => simp [keepMask] at he
    | cons b m =>
      cases b
      · simp only [keepMask] at he
        exact List.mem_cons_of_mem _ (ih m e he)
      · simp only [keepMask, List.mem_cons] at he
        rcases he with he | he
        · simp [he]
        · exact List.mem_cons_of_mem _ (ih m e he)

theorem issued_append (a b : List Obs) : issued (a ++ b) = issued a ++ issued b := by
  simp [issued, List.filterMap_append]

theorem issued_inj (tr : List Obs) (hn : (issued tr).Nodup) (a b : Obs) (ha : a ∈ tr) (hb : b ∈ tr) (E : Nat)
    (ha0 : a.req.num = 0) (hb0 : b.req.num = 0) (hae : etagOf a.resp = some E) (hbe : etagOf b.resp = some E) :
    a = b := by
  have hmem : ∀ (l : List Obs) (x : Obs), x ∈ l → x.req.num = 0 → etagOf x.resp = some E → E ∈ issued l := by
    intro l x hx h0 he
    simp only [issued, List.mem_filterMap]
    exact ⟨x, hx, by simp [h0, he]⟩
  induction tr with
  | nil => simp at ha
  | cons x xs ih =>
    have hcons : issued (x :: xs) = issued [x] ++ issued xs := issued_append [x] xs
    rw [hcons] at hn
    have hnx := (List.nodup_append.mp hn)
    simp only [List.mem_cons] at ha hb
    rcases ha with ha | ha <;> rcases hb with hb | hb
    · rw [ha, hb]
    · subst ha
      exact absurd rfl (hnx.2.2 E (hmem [a] a (by simp) ha0 hae) E (hmem xs b hb hb0 hbe))
    · subst hb
      exact absurd rfl (hnx.2.2 E (hmem [b] b (by simp) hb0 hbe) E (hmem xs a ha ha0 hae))
    · exact ih hnx.2.1 ha hb

theorem InvB.mono {st st' : BState} {past past' : List Obs} (I : InvB st past)
    (hc : ∀ s, ∀ e ∈ st'.cache s, e ∈ st.cache s) (hp : ∀ o ∈ past, o ∈ past')
    (hi : issued past' = issued past) (he : st.etag ≤ st'.etag) : InvB st' past' := by
  refine ⟨?_, ?_, ?_⟩
  · intro sid e hm
    obtain ⟨o0, h0, h1⟩ := I.entries sid e (hc sid e hm)
    exact ⟨o0, hp o0 h0, h1⟩
  · rw [hi]; exact I.nodup
  · intro E hE
    rw [hi] at hE
    exact Nat.le_trans (I.le E hE) he

theorem invB_init (t : Table) (e0 : Nat) : InvB (BState.init t e0) [] :=
  ⟨by intro sid e he; simp [BState.init] at he, by simp [issued], by intro E hE; simp [issued] at hE⟩

theorem nextEtag_eq (e : Nat) (h : e + 1 < 2 ^ 64) : nextEtag e = e + 1 := by
  unfold nextEtag
  rw [Nat.mod_eq_of_lt h]
  simp

theorem mem_upd_cache {st : BState} {sid : Nat} {c' : CacheB} (hsub : ∀ e ∈ c', e ∈ st.cache sid) :
    ∀ s, ∀ e ∈ upd st.cache sid c' s, e ∈ st.cache s := by
  intro s e he
  unfold upd at he
  by_cases hs : s = sid
  · subst hs; simp at he; exact hsub e he
  · simp [hs] at he; exact he

theorem GoodB.of_no_etag {tr : List Obs} {o : Obs} (he : etagOf o.resp = none)
    (h0 : o.req.num = 0 → o.resp = RespB.blk (getListing o.table o.req.opts) false none ∧
      (getListing o.table o.req.opts).length ≤ 2 ^ (o.req.szx + 4)) : GoodB tr o := by
  refine ⟨fun hn => ?_, fun p more E hr => ?_⟩
  · obtain ⟨hr, hle⟩ := h0 hn
    have hd : decide (2 ^ (o.req.szx + 4) < (getListing o.table o.req.opts).length) = false :=
      decide_eq_false (Nat.not_lt.mpr hle)
    rw [he, hd]
    exact ⟨by rw [hr, List.take_of_length_le hle], rfl⟩
  · rw [hr] at he; cases he

theorem InvB.quiet {st : BState} {past : List Obs} (I : InvB st past) (r : ReqB) (c' : CacheB) (resp : RespB)
    (hsub : ∀ e ∈ c', e ∈ st.cache r.sid) (hiss : r.num = 0 → etagOf resp = none) :
    InvB ⟨st.table, upd st.cache r.sid c', st.etag⟩ (past ++ [⟨r, st.table, resp⟩]) := by
  refine I.mono (mem_upd_cache (st := st) hsub) (fun o ho => List.mem_append_left _ ho) ?_ (Nat.le_refl _)
  rw [issued_append]
  by_cases hn : r.num = 0
  · simp [issued, hn, hiss hn]
  · simp [issued, hn]

/-- `serveB` answers request `r` in state `st` after the exchanges `past`: the invariant is kept, the exchange is good -/
def Served (st : BState) (past : List Obs) (r : ReqB) : Prop :=
  ∃ c' ce' resp, serveB st.table (st.cache r.sid) st.etag r = R.ok (c', ce', resp) ∧
    InvB ⟨st.table, upd st.cache r.sid c', ce'⟩ (past ++ [⟨r, st.table, resp⟩]) ∧
    GoodB (past ++ [⟨r, st.table, resp⟩]) ⟨r, st.table, resp⟩ ∧ ce' ≤ st.etag + 1

theorem stepB_get (st : BState) (past : List Obs) (r : ReqB) (I : InvB st past)
    (hok : ReqOk st.table r.opts) (hw : st.etag + 1 < 2 ^ 64) : Served st past r := by
  obtain ⟨⟨key, hq⟩, hb⟩ := hok
  -- a response without ETag that leaves the cache within what it was
  have quiet : ∀ c' resp, serveB st.table (st.cache r.sid) st.etag r = R.ok (c', st.etag, resp) →
      (∀ e ∈ c', e ∈ st.cache r.sid) → etagOf resp = none →
      (r.num = 0 → resp = RespB.blk (getListing st.table r.opts) false none ∧
        (getListing st.table r.opts).length ≤ 2 ^ (r.szx + 4)) → Served st past r :=
    fun c' resp hs hsub he h0 =>
      ⟨c', st.etag, resp, hs, I.quiet r c' resp hsub (fun _ => he), GoodB.of_no_etag he h0, Nat.le_succ _⟩
  by_cases hfresh : r.num = 0 ∨ (st.cache r.sid).find? (matchB key r.rtag) = none
  · -- the handler path
    have hs : serveB st.table (st.cache r.sid) st.etag r = serveFreshB st.table (st.cache r.sid) st.etag key r := by
      unfold serveB
      rw [hq]
      rcases hfresh with h | h
      · simp only [h, if_true]
      · simp only [h]
        split <;> rfl
    unfold serveFreshB at hs
    rw [hb] at hs
    simp only at hs
    by_cases hl0 : (getListing st.table r.opts).length = 0
    · rw [if_pos hl0] at hs
      have hnil : getListing st.table r.opts = [] := List.eq_nil_of_length_eq_zero hl0
      exact quiet _ _ hs (fun e he => he) rfl (fun _ => ⟨by rw [hnil], by rw [hl0]; exact Nat.zero_le _⟩)
    · rw [if_neg hl0] at hs
      by_cases hill : r.num ≠ 0 ∧ (getListing st.table r.opts).length ≤ r.num * 2 ^ (r.szx + 4)
      · rw [if_pos hill] at hs
        exact quiet _ _ hs (fun e he => he) rfl (fun h0 => absurd h0 hill.1)
      · rw [if_neg hill] at hs
        by_cases hn : r.num ≠ 0
        · rw [if_pos hn] at hs
          exact quiet _ _ hs (fun e he => List.mem_of_mem_eraseP he) rfl (fun h0 => absurd h0 hn)
        · rw [if_neg hn] at hs
          have hn0 : r.num = 0 := Decidable.not_not.mp hn
          by_cases hbig : (getListing st.table r.opts).length > 2 ^ (r.szx + 4)
          · -- a new lg_xmit with a new ETag
            rw [if_pos hbig, nextEtag_eq _ hw] at hs
            have hiss : issued (past ++ [(⟨r, st.table, RespB.blk ((getListing st.table r.opts).take (2 ^ (r.szx + 4))) true
                (some (st.etag + 1))⟩ : Obs)]) = issued past ++ [st.etag + 1] := by
              rw [issued_append]; simp [issued, hn0, etagOf]
            refine ⟨_, _, _, hs, ⟨?_, ?_, ?_⟩, ⟨?_, ?_⟩, Nat.le_refl _⟩
            · intro sid e hm
              simp only [upd] at hm
              by_cases hs' : sid = r.sid
              · subst hs'
                simp only [if_true, List.mem_cons] at hm
                rcases hm with hm | hm
                · subst hm
                  exact ⟨_, List.mem_append_right _ (List.mem_singleton_self _), rfl, hn0, rfl, rfl, hq, rfl, rfl⟩
                · obtain ⟨o0, h0, h1⟩ := I.entries _ e (List.mem_of_mem_eraseP hm)
                  exact ⟨o0, List.mem_append_left _ h0, h1⟩
              · simp only [hs', if_false] at hm
                obtain ⟨o0, h0, h1⟩ := I.entries _ e hm
                exact ⟨o0, List.mem_append_left _ h0, h1⟩
            · rw [hiss]
              refine List.nodup_append.mpr ⟨I.nodup, by simp, ?_⟩
              intro a ha b hb'
              have := I.le a ha
              rw [List.mem_singleton.mp hb']
              omega
            · intro E hE
              rw [hiss] at hE
              rcases List.mem_append.mp hE with hE | hE
              · exact Nat.le_succ_of_le (I.le E hE)
              · exact Nat.le_of_eq (List.mem_singleton.mp hE)
            · intro _
              exact ⟨by rw [decide_eq_true hbig]; rfl, by rw [decide_eq_true hbig]; rfl⟩
            · intro p more E he
              simp only [RespB.blk.injEq] at he
              refine ⟨_, List.mem_append_right _ (List.mem_singleton_self _), hn0, rfl, rfl, rfl,
                ⟨key, key, hq, hq, by simp [keyEq]⟩, ?_, ?_, ?_⟩
              · simp [etagOf, he.2.2]
              · rw [← he.1]; simp [block, hn0]
              · rw [← he.2.1]
                simp only [hn0, Nat.zero_mul, Nat.zero_add]
                exact (decide_eq_true hbig).symm
          · rw [if_neg hbig] at hs
            exact quiet _ _ hs (fun e he => List.mem_of_mem_eraseP he) rfl (fun _ => ⟨rfl, Nat.not_lt.mp hbig⟩)
  · -- a later block of a cached body
    have hn : r.num ≠ 0 := fun h => hfresh (Or.inl h)
    obtain ⟨e, hfind⟩ : ∃ e, (st.cache r.sid).find? (matchB key r.rtag) = some e := by
      cases hf : (st.cache r.sid).find? (matchB key r.rtag) with
      | none => exact absurd (Or.inr hf) hfresh
      | some e => exact ⟨e, rfl⟩
    have hs : serveB st.table (st.cache r.sid) st.etag r =
        (if r.szx ≠ e.szx then R.ok (st.cache r.sid, st.etag, RespB.err 400)
         else if e.data.length ≤ r.num * 2 ^ (e.szx + 4) then R.ok (st.cache r.sid, st.etag, RespB.err 500)
         else R.ok (st.cache r.sid, st.etag, RespB.blk (block e.data (2 ^ (e.szx + 4)) r.num)
                (decide (r.num * 2 ^ (e.szx + 4) + 2 ^ (e.szx + 4) < e.data.length)) (some e.etag))) := by
      unfold serveB
      rw [hq]
      simp only [hn, if_false, hfind]
    by_cases hsz : r.szx ≠ e.szx
    · rw [if_pos hsz] at hs
      exact quiet _ _ hs (fun e he => he) rfl (fun h0 => absurd h0 hn)
    · rw [if_neg hsz] at hs
      have hsz' : r.szx = e.szx := Decidable.not_not.mp hsz
      by_cases hshort : e.data.length ≤ r.num * 2 ^ (e.szx + 4)
      · rw [if_pos hshort] at hs
        exact quiet _ _ hs (fun e he => he) rfl (fun h0 => absurd h0 hn)
      · rw [if_neg hshort] at hs
        refine ⟨_, _, _, hs, I.quiet r _ _ (fun e he => he) (fun h0 => absurd h0 hn),
          ⟨fun h0 => absurd h0 hn, ?_⟩, Nat.le_succ _⟩
        intro p more E he
        obtain ⟨o0, h0, i1, i2, i3, i4, i5, i6, i7⟩ := I.entries _ e (List.mem_of_find?_eq_some hfind)
        have hmatch := List.find?_some hfind
        simp only [matchB, Bool.and_eq_true, beq_iff_eq] at hmatch
        simp only [RespB.blk.injEq, Option.some.injEq] at he
        refine ⟨o0, List.mem_append_left _ h0, i2, i1, ?_, ?_, ⟨e.key, key, i5, hq, hmatch.1⟩, ?_, ?_, ?_⟩
        · simp only; rw [i4, hmatch.2]
        · simp only; rw [i3, hsz']
        · rw [i7, he.2.2]
        · simp only; rw [← he.1, ← i6, hsz']
        · simp only; rw [← he.2.1, ← i6, hsz']

theorem runB_good (evs : List BEv) : ∀ (st : BState) (past : List Obs), InvB st past →
    (∀ o ∈ runB st evs, OkObs o) → st.etag + evs.length < 2 ^ 64 →
    (∀ o ∈ runB st evs, GoodB (past ++ runB st evs) o) ∧ (issued (past ++ runB st evs)).Nodup := by
  induction evs with
  | nil => intro st past I _ _; simp [runB]; exact I.nodup
  | cons ev r ih =>
    intro st past I hok hw
    simp only [List.length_cons] at hw
    cases ev with
    | op o =>
      have hI : InvB (stepB st (.op o)).1 past :=
        I.mono (fun s e he => he) (fun o ho => ho) rfl (Nat.le_refl _)
      have hrun : runB st (.op o :: r) = runB (stepB st (.op o)).1 r := by simp [runB, stepB]
      rw [hrun] at hok ⊢
      exact ih _ past hI hok (by simp only [stepB]; omega)
    | expire sid keep =>
      have hI : InvB (stepB st (.expire sid keep)).1 past :=
        I.mono (mem_upd_cache (st := st) (keepMask_sub _ _)) (fun o ho => ho) rfl (Nat.le_refl _)
      have hrun : runB st (.expire sid keep :: r) = runB (stepB st (.expire sid keep)).1 r := by simp [runB, stepB]
      rw [hrun] at hok ⊢
      exact ih _ past hI hok (by simp only [stepB]; omega)
    | get q =>
      -- the exchange is `⟨q, st.table, _⟩` whatever `serveB` returns, so `hok` speaks of this request and this table
      have hstep : ∃ resp, (stepB st (.get q)).2 = some ⟨q, st.table, resp⟩ := by
        simp only [stepB]
        split <;> exact ⟨_, rfl⟩
      obtain ⟨resp0, h0⟩ := hstep
      have hok1 : ReqOk st.table q.opts :=
        hok ⟨q, st.table, resp0⟩ (by simp only [runB, h0]; exact List.mem_cons_self)
      obtain ⟨c', ce', resp, hs, hI, hG, hE⟩ := stepB_get st past q I hok1 (by omega)
      have hst : stepB st (.get q) = (⟨st.table, upd st.cache q.sid c', ce'⟩, some ⟨q, st.table, resp⟩) := by
        simp only [stepB, hs]
      have hrun : runB st (.get q :: r) = ⟨q, st.table, resp⟩ :: runB ⟨st.table, upd st.cache q.sid c', ce'⟩ r := by
        simp only [runB, hst]
      rw [hrun] at hok ⊢
      have ih' := ih _ (past ++ [⟨q, st.table, resp⟩]) hI (fun o ho => hok o (List.mem_cons_of_mem _ ho))
        (by show ce' + r.length < 2 ^ 64; omega)
      rw [List.append_cons]
      refine ⟨?_, ih'.2⟩
      intro o ho
      rcases List.mem_cons.mp ho with rfl | ho
      · exact hG.mono (fun x hx => List.mem_append_left _ hx)
      · exact ih'.1 o ho

end Coap.M.LF
