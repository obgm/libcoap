import CoapVerif.Lemmas.StreamWsHs
/- C05, WebSocket part, frame phase: S's `frames` seen one frame at a time; `coap_ws_read` (label next_frame on:
   `readFrame`) for any caller buffer in normal form (`afterHdrD`) with its case rules (`readFrame_cases`,
   `afterHdrD_cases`), which every later statement about all exits of `readFrame` goes through (a statement about one
   exit unfolds `afterHdrD` itself: the refused headers of `readFrame_refused`, the `goto next_frame` of
   `afterHdrD_congr`); and one call with the 1472-byte buffer of `coap_read_session` = S on the pending bytes ++ the
   bytes it consumed. -/
namespace Coap
open Coap.M Coap.M.Ws Coap.Spec.Stream Coap.Spec.Stream.Ws

/-- `frames` on a stream with at least the two fixed header bytes, in the vocabulary of StreamWsDefs -/
theorem wsFrames_cons2 (mode : Mode) (fuel : Nat) (b0 b1 : UInt8) (r : Bytes) :
    frames mode (fuel + 1) (b0 :: b1 :: r) =
      if mode = .server ∧ ¬ b1.toNat / 128 = 1 then ([], true) else
      if r.length < hExtra b1.toNat then ([], false) else
      if b0.toNat % 16 ≠ 2 then ([], true) else
      if hSize b1.toNat r > maxFrame then ([], true) else
      if (r.drop (hExtra b1.toNat)).length < hSize b1.toNat r then ([], false) else
      let pl := if mode = .server then unmask ((r.drop (hExt b1.toNat)).take 4) 0 ((r.drop (hExtra b1.toNat)).take (hSize b1.toNat r))
                else (r.drop (hExtra b1.toNat)).take (hSize b1.toNat r)
      let rest := frames mode fuel ((r.drop (hExtra b1.toNat)).drop (hSize b1.toNat r))
      (if hSize b1.toNat r = 0 then rest.1 else deliver (Spec.decode .ws pl) rest.1, rest.2) := by
  rfl

theorem wsFrames_short (mode : Mode) (fuel : Nat) (bs : Bytes) (h : bs.length < 2) : frames mode fuel bs = ([], false) := by
  cases fuel with
  | zero => rfl
  | succ f =>
    match bs, h with
    | [], _ => rfl
    | [_], _ => rfl

theorem wsFrames_fuel (mode : Mode) : ∀ (f1 f2 : Nat) (bs : Bytes), bs.length < f1 → bs.length < f2 →
    frames mode f1 bs = frames mode f2 bs := by
  intro f1
  induction f1 with
  | zero => intro f2 bs h; omega
  | succ f1 ih =>
    intro f2 bs h1 h2
    obtain ⟨f2, rfl⟩ : ∃ k, f2 = k + 1 := ⟨f2 - 1, by omega⟩
    match bs, h1, h2 with
    | [], _, _ => rfl
    | [_], _, _ => rfl
    | b0 :: b1 :: r, h1, h2 =>
      rw [wsFrames_cons2, wsFrames_cons2]
      have hd : ((r.drop (hExtra b1.toNat)).drop (hSize b1.toNat r)).length ≤ r.length := by
        rw [List.length_drop, List.length_drop]; omega
      simp only [List.length_cons] at h1 h2
      rw [ih f2 _ (by omega) (by omega)]

def frOf (mode : Mode) (bs : Bytes) : List Msg × Bool := frames mode (bs.length + 1) bs

theorem frRes_eq (mode : Mode) (bs : Bytes) : frRes mode bs = ⟨(frOf mode bs).1, true, (frOf mode bs).2⟩ := rfl

theorem frOf_short (mode : Mode) (bs : Bytes) (h : bs.length < 2) : frOf mode bs = ([], false) :=
  wsFrames_short mode _ bs h

theorem frOf_cons2 (mode : Mode) (b0 b1 : UInt8) (r : Bytes) :
    frOf mode (b0 :: b1 :: r) =
      if mode = .server ∧ ¬ b1.toNat / 128 = 1 then ([], true) else
      if r.length < hExtra b1.toNat then ([], false) else
      if b0.toNat % 16 ≠ 2 then ([], true) else
      if hSize b1.toNat r > maxFrame then ([], true) else
      if (r.drop (hExtra b1.toNat)).length < hSize b1.toNat r then ([], false) else
      let pl := if mode = .server then unmask ((r.drop (hExt b1.toNat)).take 4) 0 ((r.drop (hExtra b1.toNat)).take (hSize b1.toNat r))
                else (r.drop (hExtra b1.toNat)).take (hSize b1.toNat r)
      let rest := frOf mode ((r.drop (hExtra b1.toNat)).drop (hSize b1.toNat r))
      (if hSize b1.toNat r = 0 then rest.1 else deliver (Spec.decode .ws pl) rest.1, rest.2) := by
  have hd : ((r.drop (hExtra b1.toNat)).drop (hSize b1.toNat r)).length ≤ r.length := by
    rw [List.length_drop, List.length_drop]; omega
  unfold frOf
  rw [wsFrames_cons2]
  simp only [List.length_cons]
  rw [wsFrames_fuel mode (r.length + 1 + 1) (((r.drop (hExtra b1.toNat)).drop (hSize b1.toNat r)).length + 1) _ (by omega) (by omega)]

theorem xorKey_eq (key : Bytes) : ∀ (bs : Bytes) (i : Nat), xorKey key i bs = unmask key i bs := by
  intro bs
  induction bs with
  | nil => intro i; rfl
  | cons b r ih => intro i; simp only [xorKey, unmask, ih]

theorem be64_eq (bs : Bytes) : be64 bs = be bs := rfl

theorem drop2 (b0 b1 : UInt8) (r : Bytes) (k : Nat) : (b0 :: b1 :: r).drop (2 + k) = r.drop k := by
  rw [Nat.add_comm]; rfl

def keyOf (st : St) (b1 : UInt8) (r' : Bytes) : Bytes :=
  if b1.toNat / 128 = 1 then (r'.drop (hExt b1.toNat)).take 4 else st.maskKey
/-- the reader state once a binary frame's header is complete (`all_hdr_in = 1`, mask key and `data_size` decoded) -/
def hdrSt (st : St) (b1 : UInt8) (r' : Bytes) : St :=
  { st with allHdrIn := true, maskKey := keyOf st b1 r', dataSize := hSize b1.toNat r' }
def unmaskIf (mode : Mode) (key data : Bytes) : Bytes := if mode = .server then xorKey key 0 data else data

/-- `readFrame` (any caller buffer size `datalen`) once the two fixed header bytes are in `rd_header`;
`st` already has `rdHeader := b0 :: b1 :: r'` -/
def afterHdrD (mode : Mode) (datalen fuel : Nat) (st : St) (b0 b1 : UInt8) (r' : Bytes) (av : Bytes) : Ret × St × Bytes :=
  if mode = .server ∧ ¬ b1.toNat / 128 = 1 then (.closed, st, av) else
  if r'.length < hExtra b1.toNat then (.zero, st, av) else
  if b0.toNat % 16 ≠ 2 then (.closed, st, av) else
  if hSize b1.toNat r' > datalen then (.closed, hdrSt st b1 r', av) else
  if hSize b1.toNat r' = 0 then
    if (r'.drop (hExtra b1.toNat)).length > 0 then
      readFrame mode datalen fuel { hdrSt st b1 r' with rdHeader := r'.drop (hExtra b1.toNat), allHdrIn := false } av
    else (.zero, { hdrSt st b1 r' with rdHeader := r'.drop (hExtra b1.toNat), allHdrIn := false }, av)
  else if (r'.drop (hExtra b1.toNat)).length > 0 then
    if (r'.drop (hExtra b1.toNat)).length ≤ hSize b1.toNat r' then
      if (r'.drop (hExtra b1.toNat)).length = hSize b1.toNat r' then
        (.pkt (unmaskIf mode (keyOf st b1 r') (r'.drop (hExtra b1.toNat))),
          { hdrSt st b1 r' with dataOfs := (r'.drop (hExtra b1.toNat)).length, allHdrIn := false, rdHeader := [] }, av)
      else readData mode { hdrSt st b1 r' with dataOfs := (r'.drop (hExtra b1.toNat)).length } av (r'.drop (hExtra b1.toNat)) datalen
    else
      (.pkt (unmaskIf mode (keyOf st b1 r') ((r'.drop (hExtra b1.toNat)).take (hSize b1.toNat r'))),
        { hdrSt st b1 r' with dataOfs := hSize b1.toNat r', allHdrIn := false,
                              rdHeader := (r'.drop (hExtra b1.toNat)).drop (hSize b1.toNat r') }, av)
  else readData mode { hdrSt st b1 r' with dataOfs := 0 } av [] datalen

def afterHdr (mode : Mode) (fuel : Nat) (st : St) (b0 b1 : UInt8) (r' : Bytes) (av : Bytes) : Ret × St × Bytes :=
  afterHdrD mode rxBuf fuel st b0 b1 r' av

theorem hExt_cases (b1 : Nat) : (b1 % 128 = 127 ∧ hExt b1 = 8) ∨ (b1 % 128 = 126 ∧ hExt b1 = 2) ∨
    (b1 % 128 ≠ 127 ∧ b1 % 128 ≠ 126 ∧ hExt b1 = 0) := by
  unfold hExt
  by_cases h1 : b1 % 128 = 127
  · simp [h1]
  · by_cases h2 : b1 % 128 = 126
    · simp [h2]
    · simp [h1, h2]

theorem hExtra_le (b1 : Nat) : hExtra b1 ≤ 12 := by
  unfold hExtra
  rcases hExt_cases b1 with ⟨_, h⟩ | ⟨_, h⟩ | ⟨_, _, h⟩ <;> rw [h] <;> split <;> omega

theorem hExt_le_hExtra (b1 : Nat) : hExt b1 ≤ hExtra b1 := by unfold hExtra; omega

theorem hSize_eq_model (b0 b1 : UInt8) (r' : Bytes) :
    (if b1.toNat % 128 = 127 then be64 (List.take 8 (List.drop 2 (b0 :: b1 :: r')))
      else if b1.toNat % 128 = 126 then be64 (List.take 2 (List.drop 2 (b0 :: b1 :: r'))) else b1.toNat % 128) =
    hSize b1.toNat r' := by
  unfold hSize
  rcases hExt_cases b1.toNat with ⟨h1, h⟩ | ⟨h1, h⟩ | ⟨h1, h2, h⟩
  · simp [h1, h, be64_eq]
  · simp [h1, h, be64_eq]
  · simp [h1, h2, h]

theorem readFrame_hdrD (mode : Mode) (datalen fuel : Nat) (st : St) (av : Bytes) (b0 b1 : UInt8) (r' : Bytes)
    (hall : st.allHdrIn = false)
    (hh : st.rdHeader ++ av.take (fsCap - st.rdHeader.length) = b0 :: b1 :: r') :
    readFrame mode datalen (fuel + 1) st av =
      afterHdrD mode datalen fuel { st with rdHeader := b0 :: b1 :: r' } b0 b1 r' (av.drop (fsCap - st.rdHeader.length)) := by
  obtain ⟨up, H, seen, p, all, key, ofs, size, rx⟩ := st
  simp only at hall hh
  subst hall
  have e1 : (if b1.toNat % 128 = 127 then 8 else if b1.toNat % 128 = 126 then 2 else 0) = hExt b1.toNat := rfl
  have e2 : hExt b1.toNat + (if b1.toNat / 128 = 1 then 4 else 0) = hExtra b1.toNat := rfl
  have e3 : List.length r' + 1 + 1 - 2 - hExtra b1.toNat = (r'.drop (hExtra b1.toNat)).length := by
    rw [List.length_drop]; omega
  have hle := hExtra_le b1.toNat
  have e4 : ¬ (2 + hExtra b1.toNat > fsCap) := by simp only [fsCap]; omega
  have e5 : ¬ (List.length r' + 1 + 1 < 2) := by omega
  have e6 : (List.length r' + 1 + 1 < 2 + hExtra b1.toNat) = (r'.length < hExtra b1.toNat) := by
    apply propext; constructor <;> intro h <;> omega
  simp only [readFrame, hh, Bool.false_eq_true, if_false, List.length_cons, rd_cons_zero, rd_cons_succ, hSize_eq_model, e1, e2,
    e3, e4, e5, e6, drop2, Nat.add_assoc]
  simp only [afterHdrD, hdrSt, keyOf, unmaskIf, List.drop_drop]
  by_cases hop : b0.toNat % 16 = 2
  · simp [hop]
  · by_cases h8 : b0.toNat % 16 = 8
    · simp [h8]
    · simp [hop, h8]

theorem readFrame_shortD (mode : Mode) (datalen fuel : Nat) (st : St) (av : Bytes) (hall : st.allHdrIn = false)
    (hh : (st.rdHeader ++ av.take (fsCap - st.rdHeader.length)).length < 2) :
    readFrame mode datalen (fuel + 1) st av =
      (.zero, { st with rdHeader := st.rdHeader ++ av.take (fsCap - st.rdHeader.length) },
        av.drop (fsCap - st.rdHeader.length)) := by
  simp only [readFrame, hall, Bool.false_eq_true, if_false, hh, if_true]

theorem readFrame_dataD (mode : Mode) (datalen fuel : Nat) (st : St) (av : Bytes) (hall : st.allHdrIn = true) :
    readFrame mode datalen (fuel + 1) st av = readData mode st av [] datalen := by
  simp only [readFrame, hall, if_true]

theorem readFrame_cases (mode : Mode) (datalen fuel : Nat) (st : St) (av : Bytes)
    (P : Ret × St × Bytes → Prop)
    (hdata : st.allHdrIn = true → P (readData mode st av [] datalen))
    (hshort : st.allHdrIn = false → (st.rdHeader ++ av.take (fsCap - st.rdHeader.length)).length < 2 →
      P (.zero, { st with rdHeader := st.rdHeader ++ av.take (fsCap - st.rdHeader.length) }, av.drop (fsCap - st.rdHeader.length)))
    (hhdr : ∀ b0 b1 r', st.allHdrIn = false → st.rdHeader ++ av.take (fsCap - st.rdHeader.length) = b0 :: b1 :: r' →
      P (afterHdrD mode datalen fuel { st with rdHeader := b0 :: b1 :: r' } b0 b1 r' (av.drop (fsCap - st.rdHeader.length)))) :
    P (readFrame mode datalen (fuel + 1) st av) := by
  cases hall : st.allHdrIn with
  | true => rw [readFrame_dataD _ _ _ _ _ hall]; exact hdata hall
  | false =>
    match hh : st.rdHeader ++ av.take (fsCap - st.rdHeader.length) with
    | [] => rw [readFrame_shortD _ _ _ _ _ hall (by rw [hh]; simp)]; rw [hh] at hshort ⊢; exact hshort hall (by simp)
    | [b] => rw [readFrame_shortD _ _ _ _ _ hall (by rw [hh]; simp)]; rw [hh] at hshort ⊢; exact hshort hall (by simp)
    | b0 :: b1 :: r' => rw [readFrame_hdrD _ _ _ _ _ b0 b1 r' hall hh]; exact hhdr b0 b1 r' hall hh


/-- The C code splits on `ret`, the payload bytes read with the header, four ways; they are two here: `ret = size` is the
boundary case of `ret > size` (nothing is left for `rd_header`) and `ret = 0` the boundary case of `ret < size` (nothing
is copied out of `rd_header`). -/
theorem afterHdrD_cases (mode : Mode) (datalen fuel : Nat) (st : St) (b0 b1 : UInt8) (r' av : Bytes)
    (P : Ret × St × Bytes → Prop)
    (h1002 : mode = .server → ¬ b1.toNat / 128 = 1 → P (.closed, st, av))
    (hinc : r'.length < hExtra b1.toNat → P (.zero, st, av))
    (hop : hExtra b1.toNat ≤ r'.length → b0.toNat % 16 ≠ 2 → P (.closed, st, av))
    (hbig : hExtra b1.toNat ≤ r'.length → b0.toNat % 16 = 2 → hSize b1.toNat r' > datalen → P (.closed, hdrSt st b1 r', av))
    (hnext : hExtra b1.toNat < r'.length → b0.toNat % 16 = 2 → hSize b1.toNat r' = 0 →
      P (readFrame mode datalen fuel { hdrSt st b1 r' with rdHeader := r'.drop (hExtra b1.toNat), allHdrIn := false } av))
    (hempty : hExtra b1.toNat = r'.length → b0.toNat % 16 = 2 → hSize b1.toNat r' = 0 →
      P (.zero, { hdrSt st b1 r' with rdHeader := r'.drop (hExtra b1.toNat), allHdrIn := false }, av))
    (hpkt : hExtra b1.toNat < r'.length → b0.toNat % 16 = 2 → hSize b1.toNat r' ≤ datalen → hSize b1.toNat r' ≠ 0 →
      hSize b1.toNat r' ≤ (r'.drop (hExtra b1.toNat)).length →
      P (.pkt (unmaskIf mode (keyOf st b1 r') ((r'.drop (hExtra b1.toNat)).take (hSize b1.toNat r'))),
        { hdrSt st b1 r' with dataOfs := hSize b1.toNat r', allHdrIn := false,
                              rdHeader := (r'.drop (hExtra b1.toNat)).drop (hSize b1.toNat r') }, av))
    (hdata : hExtra b1.toNat ≤ r'.length → b0.toNat % 16 = 2 → hSize b1.toNat r' ≤ datalen →
      (r'.drop (hExtra b1.toNat)).length < hSize b1.toNat r' →
      P (readData mode { hdrSt st b1 r' with dataOfs := (r'.drop (hExtra b1.toNat)).length } av (r'.drop (hExtra b1.toNat)) datalen)) :
    P (afterHdrD mode datalen fuel st b0 b1 r' av) := by
  unfold afterHdrD
  by_cases c1 : mode = .server ∧ ¬ b1.toNat / 128 = 1
  · rw [if_pos c1]; exact h1002 c1.1 c1.2
  rw [if_neg c1]
  by_cases c2 : r'.length < hExtra b1.toNat
  · rw [if_pos c2]; exact hinc c2
  rw [if_neg c2]
  by_cases c3 : b0.toNat % 16 ≠ 2
  · rw [if_pos c3]; exact hop (by omega) c3
  rw [if_neg c3]
  have c3' : b0.toNat % 16 = 2 := by omega
  by_cases c4 : hSize b1.toNat r' > datalen
  · rw [if_pos c4]; exact hbig (by omega) c3' c4
  rw [if_neg c4]
  have hlen : (r'.drop (hExtra b1.toNat)).length = r'.length - hExtra b1.toNat := List.length_drop
  by_cases c5 : hSize b1.toNat r' = 0
  · rw [if_pos c5]
    by_cases c6 : (r'.drop (hExtra b1.toNat)).length > 0
    · rw [if_pos c6]; exact hnext (by omega) c3' c5
    · rw [if_neg c6]; exact hempty (by omega) c3' c5
  rw [if_neg c5]
  by_cases c6 : (r'.drop (hExtra b1.toNat)).length > 0
  · rw [if_pos c6]
    by_cases c7 : (r'.drop (hExtra b1.toNat)).length ≤ hSize b1.toNat r'
    · rw [if_pos c7]
      by_cases c8 : (r'.drop (hExtra b1.toNat)).length = hSize b1.toNat r'
      · rw [if_pos c8]
        have := hpkt (by omega) c3' (by omega) c5 (Nat.le_of_eq c8.symm)
        rwa [List.take_of_length_le (Nat.le_of_eq c8), List.drop_eq_nil_of_le (Nat.le_of_eq c8), ← c8] at this
      · rw [if_neg c8]; exact hdata (by omega) c3' (by omega) (by omega)
    · rw [if_neg c7]; exact hpkt (by omega) c3' (by omega) c5 (by omega)
  · rw [if_neg c6]
    have := hdata (by omega) c3' (by omega) (by omega)
    rwa [List.drop_eq_nil_of_le (by omega)] at this

/-- "Get in (remaining) data": `D` = the payload bytes collected so far -/
theorem readData_eq (mode : Mode) (st : St) (av data D : Bytes)
    (hD : (match st.rxData with | some rx => rx.take st.dataOfs | none => data.take st.dataOfs) = D)
    (hlen : D.length = st.dataOfs) (hsz : st.dataSize ≤ rxBuf) (hlt : st.dataOfs < st.dataSize)
    (hrx : st.rxData = none ∨ D ≠ []) :
    readData mode st av data rxBuf =
      if st.dataSize ≤ D.length + av.length then
        (.pkt (if mode = .server then xorKey st.maskKey 0 (D ++ av.take (st.dataSize - D.length))
               else D ++ av.take (st.dataSize - D.length)),
          { st with allHdrIn := false, rdHeader := [], dataOfs := 0, rxData := none }, av.drop (st.dataSize - D.length))
      else
        (.zero, { st with dataOfs := D.length + av.length, rxData := if D ++ av = [] then none else some (D ++ av) }, []) := by
  obtain ⟨up, H, seen, p, all, key, ofs, size, rx⟩ := st
  simp only at hD hlen hsz hlt hrx ⊢
  subst hlen
  have h0 : ¬ size > rxBuf := by omega
  by_cases hc : size ≤ D.length + av.length
  · have hg : D.length + (av.take (size - D.length)).length = size := by rw [List.length_take]; omega
    cases rx with
    | none =>
      simp only at hD
      simp only [readData, h0, if_false, hD, hg, if_true, if_pos hc]
    | some rx0 =>
      simp only at hD
      simp only [readData, h0, if_false, hD, hg, if_true, if_pos hc]
  · have ht : av.take (size - D.length) = av := List.take_of_length_le (by omega)
    have hd : av.drop (size - D.length) = [] := List.drop_eq_nil_of_le (by omega)
    have hg : ¬ D.length + av.length = size := by omega
    have hgt : (D.length + av.length > 0) = ¬ (D ++ av = []) := by
      apply propext
      rw [← List.length_append]
      constructor
      · intro h he; rw [he] at h; simp at h
      · intro h; exact List.length_pos_iff.mpr h
    cases rx with
    | none =>
      simp only at hD
      simp only [readData, h0, if_false, hD, ht, hd, hg, if_neg hc, hgt]
      by_cases he : D ++ av = []
      · simp only [he, not_true_eq_false, if_false, if_true]
      · simp only [he, not_false_eq_true, if_true, if_false]
    | some rx0 =>
      simp only at hD
      have hne : D ≠ [] := by
        rcases hrx with h | h
        · cases h
        · exact h
      have he : ¬ (D ++ av = []) := by simp [hne]
      simp only [readData, h0, if_false, hD, ht, hd, hg, if_neg hc, if_neg he]

theorem take_app3 (D av X : Bytes) (n : Nat) (h1 : D.length ≤ n) (h2 : n ≤ D.length + av.length) :
    (D ++ (av ++ X)).take n = D ++ av.take (n - D.length) := by
  rw [List.take_append, List.take_of_length_le h1, List.take_append_of_le_length (by omega)]

theorem drop_app3 (D av X : Bytes) (n : Nat) (h1 : D.length ≤ n) (h2 : n ≤ D.length + av.length) :
    (D ++ (av ++ X)).drop n = av.drop (n - D.length) ++ X := by
  rw [List.drop_append, List.drop_of_length_le h1, List.drop_append_of_le_length (by omega)]; rfl

theorem hSize_append (b1 : Nat) (r body : Bytes) (h : hExtra b1 ≤ r.length) : hSize b1 (r ++ body) = hSize b1 r := by
  unfold hSize
  rw [List.take_append_of_le_length (by have := hExt_le_hExtra b1; omega)]

theorem masked_of_server {mode : Mode} {b1 : Nat} (hm : ¬ (mode = .server ∧ ¬ b1 / 128 = 1)) (hs : mode = .server) :
    b1 / 128 = 1 := Classical.byContradiction fun hn => hm ⟨hs, hn⟩

theorem frOf_hdr (mode : Mode) (b0 b1 : UInt8) (r' Y : Bytes) (he : hExtra b1.toNat ≤ r'.length)
    (hm : ¬ (mode = .server ∧ ¬ b1.toNat / 128 = 1)) (hop : b0.toNat % 16 = 2) (hsz : hSize b1.toNat r' ≤ maxFrame) :
    frOf mode (b0 :: b1 :: (r' ++ Y)) =
      if (r'.drop (hExtra b1.toNat) ++ Y).length < hSize b1.toNat r' then ([], false) else
      ((if hSize b1.toNat r' = 0 then (frOf mode ((r'.drop (hExtra b1.toNat) ++ Y).drop (hSize b1.toNat r'))).1
        else deliver (Spec.decode .ws
            (if mode = .server then
              unmask ((r'.drop (hExt b1.toNat)).take 4) 0 ((r'.drop (hExtra b1.toNat) ++ Y).take (hSize b1.toNat r'))
             else (r'.drop (hExtra b1.toNat) ++ Y).take (hSize b1.toNat r')))
          (frOf mode ((r'.drop (hExtra b1.toNat) ++ Y).drop (hSize b1.toNat r'))).1),
       (frOf mode ((r'.drop (hExtra b1.toNat) ++ Y).drop (hSize b1.toNat r'))).2) := by
  have h1 : ¬ (r' ++ Y).length < hExtra b1.toNat := by rw [List.length_append]; omega
  have h2 : ¬ (b0.toNat % 16 ≠ 2) := by omega
  have h3 : ¬ hSize b1.toNat r' > maxFrame := by omega
  have hkey : mode = .server → ((r' ++ Y).drop (hExt b1.toNat)).take 4 = (r'.drop (hExt b1.toNat)).take 4 := by
    intro hs
    have hl : hExt b1.toNat + 4 ≤ r'.length := by
      unfold hExtra at he; rw [if_pos (masked_of_server hm hs)] at he; exact he
    rw [List.drop_append_of_le_length (by omega), List.take_append_of_le_length (by rw [List.length_drop]; omega)]
  rw [frOf_cons2, if_neg hm, if_neg h1, if_neg h2, hSize_append _ _ _ he, if_neg h3, List.drop_append_of_le_length he]
  by_cases hs : mode = .server
  · simp only [hs, if_true, hkey hs]
  · simp only [hs, if_false]

theorem frOf_frame (mode : Mode) (b0 b1 : UInt8) (r body : Bytes) (hr : r.length = hExtra b1.toNat)
    (hm : ¬ (mode = .server ∧ ¬ b1.toNat / 128 = 1)) (hop : b0.toNat % 16 = 2) (hsz : hSize b1.toNat r ≤ maxFrame) :
    frOf mode (b0 :: b1 :: (r ++ body)) =
      if body.length < hSize b1.toNat r then ([], false) else
      ((if hSize b1.toNat r = 0 then (frOf mode (body.drop (hSize b1.toNat r))).1
        else deliver (Spec.decode .ws (if mode = .server then unmask ((r.drop (hExt b1.toNat)).take 4) 0 (body.take (hSize b1.toNat r))
                else body.take (hSize b1.toNat r))) (frOf mode (body.drop (hSize b1.toNat r))).1),
       (frOf mode (body.drop (hSize b1.toNat r))).2) := by
  have := frOf_hdr mode b0 b1 r body (Nat.le_of_eq hr.symm) hm hop hsz
  rw [List.drop_eq_nil_of_le (Nat.le_of_eq hr), List.nil_append] at this
  exact this

/-! ### what one `coap_ws_read` may do, relative to S

`p` = pending bytes before, `av` = available bytes, `X` = the rest of the stream (not yet available). -/

/-- bytes are only consumed; under the condition `c` a call with bytes available consumes at least one.  `c` is `True`
for the data part and for a whole call from a state of the invariant, `p.length < fsCap` for a call between frames (it tops
`rd_header` up), `False` for the part behind the top-up -/
def Prog (c : Prop) (av av' : Bytes) : Prop := av'.length ≤ av.length ∧ (c → av ≠ [] → av'.length < av.length)

/-- what a `coap_ws_read` call started with `p` pending and `av` available has to deliver: S's answer on `p ++ av ++ X` is
what the call returned followed by S's answer from the state reached.  In the packet clause the state need not satisfy the
invariant (complete frames may be left in `rd_header`); its third conjunct is the termination measure of the `while (more)`
loop of `coap_read_session`: a packet takes at least two header bytes and one payload byte out of `rd_header` ++ the bytes
available -/
def FrPost (mode : Mode) (X : Bytes) (c : Prop) (p av : Bytes) : Ret × St × Bytes → Prop
  | (.zero, st', av') =>
      (∃ p', WsInv mode st' (.fr p') ∧ frOf mode (p ++ (av ++ X)) = frOf mode (p' ++ (av' ++ X))) ∧ Prog c av av'
  | (.pkt pl, st', av') =>
      FrPre st' st'.rdHeader ∧ st'.rdHeader.length ≤ fsCap ∧
      st'.rdHeader.length + av'.length + 3 ≤ min p.length fsCap + av.length ∧
      frOf mode (p ++ (av ++ X)) =
        (deliver (Spec.decode .ws pl) (frOf mode (st'.rdHeader ++ (av' ++ X))).1, (frOf mode (st'.rdHeader ++ (av' ++ X))).2) ∧
      Prog c av av'
  | (.closed, _, _) => frOf mode (p ++ (av ++ X)) = ([], true)
  | (.err, _, _) => False
  | (.oob, _, _) => False

/-- a postcondition for (`p1`, `av1`) serves (`p`, `av`) when S sees the same stream and the measures fit; progress on a
non-empty `av` either comes from `av1` being shorter, or is inherited (`av1 = av`) -/
theorem FrPost.transfer {mode : Mode} {X : Bytes} {c c1 : Prop} {p av p1 av1 : Bytes} {res : Ret × St × Bytes}
    (h : FrPost mode X c1 p1 av1 res) (he : frOf mode (p ++ (av ++ X)) = frOf mode (p1 ++ (av1 ++ X)))
    (hl : min p1.length fsCap + av1.length ≤ min p.length fsCap + av.length) (hav : av1.length ≤ av.length)
    (hs : c → av ≠ [] → av1.length < av.length ∨ (c1 ∧ av1 = av)) : FrPost mode X c p av res := by
  have hprog : ∀ av', Prog c1 av1 av' → Prog c av av' := fun av' hp =>
    ⟨Nat.le_trans hp.1 hav, fun hc hne => by
      rcases hs hc hne with h | ⟨h1, rfl⟩
      · exact Nat.lt_of_le_of_lt hp.1 h
      · exact hp.2 h1 hne⟩
  obtain ⟨ret, st', av'⟩ := res
  cases ret with
  | err => exact h
  | oob => exact h
  | closed => simp only [FrPost] at h ⊢; rw [he]; exact h
  | zero => exact ⟨⟨h.1.choose, h.1.choose_spec.1, he.trans h.1.choose_spec.2⟩, hprog _ h.2⟩
  | pkt pl =>
    obtain ⟨h1, h2, h3, h4, hp⟩ := h
    exact ⟨h1, h2, Nat.le_trans h3 hl, he.trans h4, hprog _ hp⟩

theorem FrPost.weaken {mode : Mode} {X : Bytes} {c c1 : Prop} {p av : Bytes} {res : Ret × St × Bytes}
    (h : FrPost mode X c1 p av res) (hc : c → c1) : FrPost mode X c p av res :=
  h.transfer rfl (Nat.le_refl _) (Nat.le_refl _) fun hc' _ => Or.inr ⟨hc hc', rfl⟩

def DataSt (mode : Mode) (st : St) (b0 b1 : UInt8) (r : Bytes) : Prop :=
  r.length = hExtra b1.toNat ∧ ¬ (mode = .server ∧ ¬ b1.toNat / 128 = 1) ∧ b0.toNat % 16 = 2 ∧
  st.dataSize = hSize b1.toNat r ∧ 0 < st.dataSize ∧ st.dataSize ≤ maxFrame ∧
  (mode = .server → st.maskKey = (r.drop (hExt b1.toNat)).take 4)

theorem readData_post (mode : Mode) (X : Bytes) (st : St) (av data D : Bytes) (b0 b1 : UInt8) (r : Bytes)
    (hup : st.up = true) (hall : st.allHdrIn = true) (hds : DataSt mode st b0 b1 r)
    (hD : (match st.rxData with | some rx => rx.take st.dataOfs | none => data.take st.dataOfs) = D)
    (hlen : D.length = st.dataOfs) (hlt : st.dataOfs < st.dataSize) (hrx : st.rxData = none ∨ D ≠ [])
    (hpre : (b0 :: b1 :: r) <+: st.rdHeader) :
    FrPost mode X True (b0 :: b1 :: (r ++ D)) av (readData mode st av data rxBuf) := by
  obtain ⟨hr, hm, hop, hsize, hpos, hmax, hkey⟩ := hds
  rw [readData_eq mode st av data D hD hlen hmax hlt hrx]
  have hstream : (b0 :: b1 :: (r ++ D)) ++ (av ++ X) = b0 :: b1 :: (r ++ (D ++ (av ++ X))) := by simp
  by_cases hc : st.dataSize ≤ D.length + av.length
  · -- the payload completes: S delivers the same message and goes on behind it
    rw [if_pos hc]
    have hdl : (av.drop (st.dataSize - D.length)).length < av.length := by rw [List.length_drop]; omega
    refine ⟨⟨hup, rfl, rfl, rfl⟩, by simp, by simp only [List.length_nil, List.length_cons, fsCap]; omega, ?_,
      by omega, fun _ _ => hdl⟩
    have hb : ¬ (D ++ (av ++ X)).length < st.dataSize := by
      rw [List.length_append, List.length_append]; omega
    rw [hstream, frOf_frame mode b0 b1 r _ hr hm hop (by rw [← hsize]; exact hmax), ← hsize, if_neg hb,
      if_neg (by omega), take_app3 D av X _ (by omega) hc, drop_app3 D av X _ (by omega) hc]
    by_cases hs : mode = .server
    · simp only [hs, if_true, hkey hs, xorKey_eq, List.nil_append]
    · simp only [hs, if_false, List.nil_append]
  · -- still inside the payload: everything available has been taken
    rw [if_neg hc]
    refine ⟨⟨b0 :: b1 :: (r ++ (D ++ av)), Or.inr ⟨hup, hall, b0, b1, r, D ++ av, rfl, hr, hm, hop, hsize, hpos, hmax,
      hkey, by simp, by simp only [List.length_append]; omega, rfl, hpre⟩, by simp⟩, by simp, fun _ hne => ?_⟩
    exact List.length_pos_iff.mpr hne

theorem key_append (b1 : Nat) (r data : Bytes) (hr : r.length = hExtra b1) (hmask : b1 / 128 = 1) :
    ((r ++ data).drop (hExt b1)).take 4 = (r.drop (hExt b1)).take 4 := by
  have hl : r.length = hExt b1 + 4 := by rw [hr]; unfold hExtra; rw [if_pos hmask]
  rw [List.drop_append_of_le_length (by omega), List.take_append_of_le_length (by rw [List.length_drop]; omega)]

/-- the state `coap_ws_read` leaves the header part in when it goes on to the data part: `r'` = the header bytes after the
two fixed ones followed by the payload bytes read with them -/
theorem DataSt_hdrSt (mode : Mode) (st : St) (b0 b1 : UInt8) (r' : Bytes) (ofs : Nat) (he : hExtra b1.toNat ≤ r'.length)
    (hm : ¬ (mode = .server ∧ ¬ b1.toNat / 128 = 1)) (hop : b0.toNat % 16 = 2) (h0 : hSize b1.toNat r' ≠ 0)
    (hsz : hSize b1.toNat r' ≤ maxFrame) :
    DataSt mode { hdrSt st b1 r' with dataOfs := ofs } b0 b1 (r'.take (hExtra b1.toNat)) := by
  have hl : (r'.take (hExtra b1.toNat)).length = hExtra b1.toNat := by rw [List.length_take]; omega
  have hsplit : r'.take (hExtra b1.toNat) ++ r'.drop (hExtra b1.toNat) = r' := List.take_append_drop _ _
  have hsize : hSize b1.toNat r' = hSize b1.toNat (r'.take (hExtra b1.toNat)) := by
    rw [← hSize_append _ _ (r'.drop (hExtra b1.toNat)) (Nat.le_of_eq hl.symm), hsplit]
  refine ⟨hl, hm, hop, hsize, by simp only [hdrSt]; omega, hsz, fun hs => ?_⟩
  have hmask := masked_of_server hm hs
  rw [← key_append _ _ (r'.drop (hExtra b1.toNat)) hl hmask, hsplit]
  simp only [hdrSt, keyOf, if_pos hmask]

/-- `afterHdr` against S; `ih` = the statement for the `goto next_frame` round -/
theorem afterHdr_spec (mode : Mode) (X : Bytes) (fuel : Nat)
    (ih : ∀ (st : St) (av p : Bytes), FrPre st p → p.length ≤ fsCap → p.length + av.length < fuel →
      FrPost mode X (p.length < fsCap) p av (readFrame mode rxBuf fuel st av))
    (st : St) (b0 b1 : UInt8) (r' av1 : Bytes) (hup : st.up = true) (hall : st.allHdrIn = false)
    (hrd : st.rdHeader = b0 :: b1 :: r') (hrx : st.rxData = none) (hcap : r'.length + 2 ≤ fsCap)
    (hfuel : r'.length + av1.length < fuel) (hnotfull : r'.length + 2 < fsCap → av1 = []) :
    FrPost mode X False (b0 :: b1 :: r') av1 (afterHdr mode fuel st b0 b1 r' av1) := by
  have hle := hExtra_le b1.toNat
  have hstream : (b0 :: b1 :: r') ++ (av1 ++ X) = b0 :: b1 :: (r' ++ (av1 ++ X)) := rfl
  by_cases hm : mode = .server ∧ ¬ b1.toNat / 128 = 1
  · simp only [afterHdr, afterHdrD, if_pos hm, FrPost]
    rw [hstream, frOf_cons2, if_pos hm]
  -- S on the stream once the header is complete and acceptable; `r'.drop _` = the payload bytes read with the header
  have hS := fun he hop hsz => frOf_hdr mode b0 b1 r' (av1 ++ X) he hm hop hsz
  have hdl : (r'.drop (hExtra b1.toNat)).length = r'.length - hExtra b1.toNat := List.length_drop
  have hunmask : ∀ bs, unmaskIf mode (keyOf st b1 r') bs =
      if mode = .server then unmask ((r'.drop (hExt b1.toNat)).take 4) 0 bs else bs := by
    intro bs
    by_cases hs : mode = .server
    · simp only [unmaskIf, keyOf, hs, if_true, if_pos (masked_of_server hm hs), xorKey_eq]
    · simp only [unmaskIf, if_neg hs]
  have hpre : b0 :: b1 :: r'.take (hExtra b1.toNat) <+: st.rdHeader :=
    ⟨r'.drop (hExtra b1.toNat), by rw [hrd]; simp⟩
  unfold afterHdr
  apply afterHdrD_cases
  · intro h1 h2; exact absurd ⟨h1, h2⟩ hm
  · intro hshort
    have hav : av1 = [] := hnotfull (by simp only [fsCap]; omega)
    exact ⟨⟨b0 :: b1 :: r', Or.inl ⟨⟨hup, hall, hrd, hrx⟩, hm, hshort⟩, rfl⟩, Nat.le_refl _, fun h => h.elim⟩
  · intro he hop
    have hlong : ¬ (r' ++ (av1 ++ X)).length < hExtra b1.toNat := by rw [List.length_append]; omega
    simp only [FrPost]
    rw [hstream, frOf_cons2, if_neg hm, if_neg hlong, if_pos hop]
  · intro he hop hbig
    have hlong : ¬ (r' ++ (av1 ++ X)).length < hExtra b1.toNat := by rw [List.length_append]; omega
    simp only [FrPost]
    rw [hstream, frOf_cons2, if_neg hm, if_neg hlong, if_neg (by omega), hSize_append _ _ _ he,
      if_pos (show hSize b1.toNat r' > maxFrame from hbig)]
  · -- frame without data, bytes of the next frame behind it in the header buffer
    intro he hop h0
    have hE : frOf mode ((b0 :: b1 :: r') ++ (av1 ++ X)) = frOf mode (r'.drop (hExtra b1.toNat) ++ (av1 ++ X)) := by
      rw [hstream, hS (by omega) hop (by omega), h0]; simp
    have := ih { hdrSt st b1 r' with rdHeader := r'.drop (hExtra b1.toNat), allHdrIn := false } av1
      (r'.drop (hExtra b1.toNat)) ⟨hup, rfl, rfl, hrx⟩ (by omega) (by omega)
    exact this.transfer hE (by simp only [List.length_cons]; omega) (Nat.le_refl _)
      (fun h => h.elim)
  · -- frame without data, nothing behind it
    intro he hop h0
    have hdn : r'.drop (hExtra b1.toNat) = [] := List.drop_eq_nil_of_le (by omega)
    refine ⟨⟨r'.drop (hExtra b1.toNat), Or.inl ⟨⟨hup, rfl, rfl, hrx⟩, by rw [hdn]; trivial⟩, ?_⟩, Nat.le_refl _,
      fun h => h.elim⟩
    rw [hstream, hS (by omega) hop (by omega), h0]; simp
  · -- the header buffer holds the whole payload (and perhaps the beginning of the next frame)
    intro he hop hsz h0 hle
    have hb : ¬ (r'.drop (hExtra b1.toNat) ++ (av1 ++ X)).length < hSize b1.toNat r' := by
      rw [List.length_append]; omega
    refine ⟨⟨hup, rfl, rfl, hrx⟩, by simp only [List.length_drop]; omega,
      by simp only [List.length_drop, List.length_cons]; omega, ?_, Nat.le_refl _, fun h => h.elim⟩
    rw [hstream, hS (by omega) hop hsz, if_neg hb, if_neg h0, List.take_append_of_le_length hle,
      List.drop_append_of_le_length hle, hunmask]
  · -- the header buffer holds less than the payload (perhaps nothing of it)
    intro he hop hsz hlt
    have := readData_post mode X { hdrSt st b1 r' with dataOfs := (r'.drop (hExtra b1.toNat)).length } av1
      (r'.drop (hExtra b1.toNat)) (r'.drop (hExtra b1.toNat)) b0 b1 _
      hup rfl (DataSt_hdrSt mode st b0 b1 r' _ he hm hop (by omega) hsz)
      (by simp only [hdrSt, hrx, List.take_length]) rfl hlt (Or.inl hrx) hpre
    rw [List.take_append_drop] at this
    exact this.weaken False.elim

theorem readFrame_spec (mode : Mode) (X : Bytes) : ∀ (fuel : Nat) (st : St) (av p : Bytes),
    FrPre st p → p.length ≤ fsCap → p.length + av.length < fuel →
    FrPost mode X (p.length < fsCap) p av (readFrame mode rxBuf fuel st av) := by
  intro fuel
  induction fuel with
  | zero => intro st av p _ _ h; omega
  | succ fuel ih =>
    intro st av p hpre hpl hfuel
    obtain ⟨hup, hall, hrd, hrx⟩ := hpre
    generalize hn : fsCap - p.length = n
    have hsplit : p ++ (av ++ X) = (p ++ av.take n) ++ (av.drop n ++ X) := by
      rw [List.append_assoc, ← List.append_assoc (av.take n), List.take_append_drop]
    have hlen_hdr : (p ++ av.take n).length + (av.drop n).length = p.length + av.length := by
      rw [List.length_append, List.length_take, List.length_drop]; omega
    have hdrop_le : (av.drop n).length ≤ av.length := by rw [List.length_drop]; omega
    have hstrict : p.length < fsCap → av ≠ [] → (av.drop n).length < av.length := by
      intro h1 h2
      have := List.length_pos_iff.mpr h2
      rw [List.length_drop]; omega
    have hcap : (p ++ av.take n).length ≤ fsCap := by
      rw [List.length_append, List.length_take]; omega
    -- a header buffer that is not full has consumed everything available
    have hnotfull : (p ++ av.take n).length < fsCap → av.drop n = [] ∧ p ++ av.take n = p ++ av := by
      intro h
      rw [List.length_append, List.length_take] at h
      have : av.length ≤ n := by omega
      exact ⟨List.drop_eq_nil_of_le this, by rw [List.take_of_length_le this]⟩
    subst hrd hn
    apply readFrame_cases
    · intro h; rw [hall] at h; cases h
    · intro _ hs
      refine ⟨⟨_, Or.inl ⟨⟨hup, hall, rfl, hrx⟩, ?_⟩, congrArg _ hsplit⟩, hdrop_le, hstrict⟩
      match st.rdHeader ++ av.take (fsCap - st.rdHeader.length), hs with
      | [], _ => trivial
      | [_], _ => trivial
    · intro b0 b1 r' _ hh
      rw [hh] at hsplit hlen_hdr hcap hnotfull
      simp only [List.length_cons] at hcap hlen_hdr hnotfull
      have := afterHdr_spec mode X fuel ih { st with rdHeader := b0 :: b1 :: r' } b0 b1 r' _ hup hall rfl hrx
        (by omega) (by omega) (fun h => (hnotfull (by omega)).1)
      exact this.transfer (congrArg _ hsplit)
        (by simp only [List.length_cons]; omega) hdrop_le (fun hc hne => Or.inl (hstrict hc hne))

end Coap
