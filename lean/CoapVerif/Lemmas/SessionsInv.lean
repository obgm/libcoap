import CoapVerif.Lemmas.Sessions
/-
C12 helper lemmas, part 2.  The generic skeletons — `ClosedIO` (what an I/O pass uses), `Closed` (the primitives), `ClosedEv`
(what the events use; its `step` is the one case analysis over `Event`).  Then the invariants `SInv`, `LInv`, `PInv`, each with
one lemma per primitive, `Inv` with `Inv.closed`, and the teardown.
-/
namespace Coap.Sessions

/-- a function on sessions that keeps identity, reference count and peer (it may change the TYPE: call home; `BenignC` keeps that too) -/
def Benign (f : Sess → Sess) : Prop := ∀ s, (f s).sid = s.sid ∧ (f s).ref = s.ref ∧ (f s).peer = s.peer

def HBenign (g : Holder → Holder) : Prop := ∀ x, (g x).sid = x.sid ∧ (g x).hid = x.hid ∧ (g x).kind.isAlloc = x.kind.isAlloc

def BenignC (f : Sess → Sess) : Prop :=
  ∀ s, (f s).sid = s.sid ∧ (f s).ref = s.ref ∧ (f s).peer = s.peer ∧ (f s).client = s.client

theorem BenignC.benign {f : Sess → Sess} (h : BenignC f) : Benign f := fun s => ⟨(h s).1, (h s).2.1, (h s).2.2.1⟩

theorem lookup_reclaim_none {st : St} {p : Peer} (sid : Nat) (h : st.lookup p = none) : (st.reclaim sid).lookup p = none := by
  rcases reclaim_cases st sid with e | ⟨_, _, _, _, e⟩ <;> rw [e]
  · exact h
  · unfold St.lookup at h ⊢
    simp only [List.find?_eq_none] at h ⊢
    intro x hx
    exact h x (mem_unlink.mp hx).1

theorem reclaim_eps (st : St) (sid : Nat) : (st.reclaim sid).eps = st.eps := by
  rcases reclaim_cases st sid with e | ⟨_, _, _, _, e⟩ <;> rw [e] <;> rfl

/-- what a predicate must be closed under to survive an I/O pass (`coap_io_prepare_io_lkd`) and a session lookup
    (`coap_endpoint_get_session`): the release primitive is the WHOLE coap_session_release_lkd (`St.releaseHolder`), not the
    raw `--ref` -/
structure ClosedIO (P : St → Prop) : Prop where
  benign : ∀ st sid f, P st → BenignC f → P (st.updSess sid f)
  refRelease : ∀ st sid, P st → P ((st.updSess sid Sess.reference).updSess sid Sess.release)
  releaseHolder : ∀ {st : St}, P st → ∀ x, P (st.releaseHolder x)
  reclaim : ∀ st sid, P st → P (st.reclaim sid)
  promote : ∀ st x due, P st → (∃ s ∈ st.sessions, s.sid = x.2) → P (st.promote x due)
  newSession : ∀ st p, P st → st.lookup p = none → (p.lport, p.proto) ∈ st.eps → P (st.newSession p)
  mapHolders : ∀ st g, P st → HBenign g → P { st with holders := st.holders.map g }
  misc : ∀ st (now timeout maxIdle : Nat) (res dirty : List Nat), P st →
    P { st with now := now, timeout := timeout, maxIdle := maxIdle, resAlive := res, dirty := dirty }

namespace ClosedIO
variable {P : St → Prop} (c : ClosedIO P)
include c

theorem flushDelayed {st : St} (h : P st) (sid : Nat) : P (st.flushDelayed sid) := by
  unfold St.flushDelayed
  split
  · exact h
  · rename_i s hs
    split
    · exact h
    · split
      · exact h
      · rename_i x hx
        have hx2 : x.2 = sid := by
          have := List.find?_some hx
          simpa using this
        refine c.promote _ _ _ ?_ ?_
        · exact c.benign _ _ _ h (fun _ => ⟨rfl, rfl, rfl, rfl⟩)
        · obtain ⟨hm, he⟩ := getSess_some hs
          exact live_updSess sid _ (fun _ => rfl) ⟨s, hm, by rw [hx2]; exact he⟩

theorem retransmit {st : St} (h : P st) (x : Holder) : P (st.retransmit x) := by
  unfold St.retransmit
  split
  · split
    · split
      · refine c.mapHolders _ _ ?_ ?_
        · exact c.benign _ _ _ h (fun _ => ⟨rfl, rfl, rfl, rfl⟩)
        · rename_i hk _ _
          intro y
          by_cases e : y = x
          · subst e; simp [hk, HKind.isAlloc]
          · simp [e]
      · apply c.releaseHolder
        apply c.flushDelayed
        exact c.benign _ _ _ h (fun _ => ⟨rfl, rfl, rfl, rfl⟩)
    · exact h
  · exact h

theorem reclaimStep {st : St} (h : P st) (now sid : Nat) : P (st.reclaimStep now sid) := by
  unfold St.reclaimStep
  split
  · exact h
  · split
    · exact c.reclaim _ _ h
    · exact c.refRelease _ _ h

theorem notifyOne {st : St} (h : P st) (x : Holder) : P (st.notifyOne x) := by
  unfold St.notifyOne
  split
  · exact h
  · refine c.mapHolders _ _ (c.benign _ _ _ h (fun s => ⟨rfl, rfl, rfl, rfl⟩)) ?_
    intro y
    by_cases e : y = x
    · subst e; simp [setNote_isAlloc]
    · simp [e]

theorem notifyRes {st : St} (h : P st) (k : Nat) : P (st.notifyRes k) :=
  foldl_inv P (fun _ x ha => c.notifyOne ha x) _ st h

theorem checkNotify {st : St} (h : P st) : P st.checkNotify := by
  unfold St.checkNotify
  have h1 : P ((st.resAlive.filter (· ∈ st.dirty)).foldl St.notifyRes st) :=
    foldl_inv P (fun _ k ha => c.notifyRes ha k) _ st h
  exact c.misc _ _ _ _ _ [] h1

theorem fireAsync {st : St} (h : P st) (now : Nat) (x : Holder) : P (st.fireAsync now x) := by
  unfold St.fireAsync
  split
  · split
    · apply c.releaseHolder
      refine c.benign _ _ _ (c.misc st _ st.timeout st.maxIdle st.resAlive st.dirty h) ?_
      intro s; dsimp only; split <;> exact ⟨rfl, rfl, rfl, rfl⟩
    · exact h
  · exact h

theorem checkAsync {st : St} (h : P st) (now : Nat) : P (st.checkAsync now) :=
  foldl_inv P (fun _ x ha => c.fireAsync ha now x) _ st h

theorem preReclaim {st : St} (h : P st) (now : Nat) : P (st.preReclaim now) := by
  have h0 := c.checkAsync (c.checkNotify h) now
  unfold St.preReclaim
  exact foldl_inv P (fun a x ha => c.retransmit ha x) _ _ h0

theorem reclaimPass {st : St} (h : P st) (now : Nat) : P (st.reclaimPass now) := by
  unfold St.reclaimPass
  apply foldl_inv P
  · intro a ep ha
    exact foldl_inv P (fun b sid hb => c.reclaimStep hb now sid) _ a ha
  · exact h

theorem prepareIoAt {st : St} (h : P st) (now : Nat) : P (st.prepareIoAt now) :=
  c.reclaimPass (c.preReclaim h now) now

theorem prepareIo {st : St} (h : P st) : P st.prepareIo := c.prepareIoAt h st.now

theorem getSession {st : St} (h : P st) (p : Peer) (hp : (st.lookup p).isSome ∨ (p.lport, p.proto) ∈ st.eps) :
    P (st.getSession p).1 := by
  unfold St.getSession
  split
  · exact c.benign _ _ _ h (fun _ => ⟨rfl, rfl, rfl, rfl⟩)
  · rename_i hn
    have hp' : (p.lport, p.proto) ∈ st.eps := by
      rcases hp with hp | hp
      · simp [hn] at hp
      · exact hp
    dsimp only
    split
    · split
      · refine c.newSession _ _ (c.reclaim _ _ h) (lookup_reclaim_none _ hn) ?_
        rw [reclaim_eps]; exact hp'
      · exact c.newSession _ _ h hn hp'
    · exact c.newSession _ _ h hn hp'

end ClosedIO

/-- `P` survives every primitive of Model/Sessions (one field each, with the precondition the model guarantees at its calls):
    then it survives every event (`Closed.step`) -/
structure Closed (P : St → Prop) : Prop where
  benign : ∀ st sid f, P st → Benign f → P (st.updSess sid f)
  refRelease : ∀ st sid, P st → P ((st.updSess sid Sess.reference).updSess sid Sess.release)
  addHolder : ∀ st sid k, P st → (∃ s ∈ st.sessions, s.sid = sid) → P (st.addHolder sid k)
  dropHolder : ∀ st x, P st → P (st.dropHolder x)
  reclaim : ∀ st sid, P st → P (st.reclaim sid)
  clientFree : ∀ st sid, P st → P (st.clientFree sid)
  addPartial : ∀ st sid, P st → (∃ s ∈ st.sessions, s.sid = sid) → P (st.addPartial sid)
  dropPartial : ∀ st sid, P st → P (st.dropPartial sid)
  promote : ∀ st x due, P st → (∃ s ∈ st.sessions, s.sid = x.2) → P (st.promote x due)
  newSession : ∀ st p, P st → st.lookup p = none → (p.lport, p.proto) ∈ st.eps → P (st.newSession p)
  mapHolders : ∀ st g, P st → HBenign g → P { st with holders := st.holders.map g }
  misc : ∀ st (now timeout maxIdle : Nat) (res dirty : List Nat), P st →
    P { st with now := now, timeout := timeout, maxIdle := maxIdle, resAlive := res, dirty := dirty }
  teardownEnd : ∀ st, P st → P { (st.freeObjs st.ctxObjs) with ctxObjs := [], resAlive := [], freed := true }
  newOwned : ∀ st, P st → P st.newOwned

namespace Closed
variable {P : St → Prop} (c : Closed P)
include c

theorem dropHolders {st : St} (h : P st) (xs : List Holder) : P (st.dropHolders xs) :=
  foldl_inv P (fun a x ha => c.dropHolder a x ha) xs st h

theorem releaseHolder {st : St} (h : P st) (x : Holder) : P (st.releaseHolder x) :=
  c.clientFree _ _ (c.dropHolder _ _ h)

theorem releaseHolders {st : St} (h : P st) (xs : List Holder) : P (st.releaseHolders xs) :=
  foldl_inv P (fun _ x ha => c.releaseHolder ha x) xs st h

theorem io : ClosedIO P where
  benign st sid f h hf := c.benign st sid f h hf.benign
  refRelease := c.refRelease
  releaseHolder h x := c.releaseHolder h x
  reclaim := c.reclaim
  promote := c.promote
  newSession := c.newSession
  mapHolders := c.mapHolders
  misc := c.misc

theorem retransmit {st : St} (h : P st) (x : Holder) : P (st.retransmit x) := c.io.retransmit h x

theorem addObserver {st : St} (h : P st) (sid k q tok : Nat) (hl : ∃ s ∈ st.sessions, s.sid = sid) :
    P (st.addObserver sid k q tok) := by
  unfold St.addObserver
  split
  · exact h
  · split
    · exact c.addHolder _ _ _ (c.dropHolder _ _ h) (live_dropHolder _ hl)
    · exact c.addHolder _ _ _ h hl

theorem rstNote {st : St} (h : P st) (sid n : Nat) : P (st.rstNote sid n) := by
  unfold St.rstNote
  split
  · rename_i x hx
    rw [rstCancel_eq st sid x (findHolder_some hx).1]
    exact c.dropHolder _ _ h
  · exact h

theorem serve {st : St} (h : P st) (sid : Nat) (r : Req) (hl : ∃ s ∈ st.sessions, s.sid = sid) : P (st.serve sid r) := by
  rcases serve_cases st sid r with e | ⟨k, e⟩ | ⟨x, k, hx, e⟩ | ⟨x, _, e⟩ <;> rw [e]
  · exact h
  · exact c.addHolder _ _ _ h hl
  · exact c.addHolder _ _ _ (c.dropHolder _ _ h) (live_dropHolder _ (by rw [hx]; exact hl))
  · exact c.dropHolder _ _ h

theorem freeEndpoint {st : St} (h : P st) (ep : Nat × Nat) : P (st.freeEndpoint ep) := by
  unfold St.freeEndpoint
  exact foldl_inv P (fun a sid ha => c.reclaim _ _ (c.dropHolders ha _)) _ st h

theorem disconnectSess {st : St} (h : P st) (s : Sess) : P (st.disconnectSess s) := by
  unfold St.disconnectSess
  dsimp only
  apply c.dropHolders
  apply c.dropPartial
  exact c.benign _ _ _ (c.dropHolders h _) (fun _ => ⟨rfl, rfl, rfl⟩)

theorem freeHolders {st : St} (h : P st) : P st.freeHolders :=
  c.releaseHolders (c.releaseHolders (c.releaseHolders h _) _) _

theorem freeRest {st : St} (h : P st) : P st.freeRest :=
  c.teardownEnd _ (foldl_inv P (fun _ ep ha => c.freeEndpoint ha ep) _ _ h)

end Closed

theorem getSession_live (st : St) (p : Peer) :
    ∃ s ∈ (st.getSession p).1.sessions, s.sid = (st.getSession p).2 ∧ s.peer = p := by
  unfold St.getSession
  split
  · rename_i s hs
    obtain ⟨hm, hp⟩ := lookup_some hs
    exact ⟨_, mem_updSess.mpr ⟨s, hm, rfl⟩, by simp, by simp [hp]⟩
  · exact ⟨_, List.mem_append.mpr (Or.inr (List.mem_singleton.mpr rfl)), rfl, rfl⟩

theorem rxSkip_false_eps {st : St} {p : Peer} {r : Req} (h : ¬ st.rxSkip p r = true) : (p.lport, p.proto) ∈ st.eps := by
  unfold St.rxSkip at h
  simp at h
  exact h.2

/-! ## closed under what the events do ⇒ closed under every event

The events use the primitives in combinations; a predicate like `J` (Lemmas/SessionsClient) survives the combinations but not every
primitive on its own (the raw `--ref`).  `ClosedEv` lists what `St.step` needs, event by event. -/

theorem getSession_snd_of_lookup {st : St} {p : Peer} {s : Sess} (h : st.lookup p = some s) :
    (st.getSession p).2 = s.sid := by
  unfold St.getSession; rw [h]

theorem app_or_home_not {k : HKind} (h : isApp k = true ∨ isHome k = true) : isAnyObs k = false ∧ isNode k = false := by
  cases k <;> simp_all [isApp, isHome, isAnyObs, isNode]

structure ClosedEv (P : St → Prop) : Prop where
  io : ClosedIO P
  addHolder : ∀ st sid k, P st → (∃ s ∈ st.sessions, s.sid = sid) → P (st.addHolder sid k)
  addPartial : ∀ st sid, P st → (∃ s ∈ st.sessions, s.sid = sid) → P (st.addPartial sid)
  dropPartial : ∀ st sid, P st → P (st.dropPartial sid)
  clientFree : ∀ st sid, P st → P (st.clientFree sid)
  newOwned : ∀ st, P st → P st.newOwned
  /-- a message on a stream session -/
  serveStream : ∀ st (s : Sess) r f, P st → s ∈ st.sessions → s.peer.reliable = true → BenignC f →
    P ((st.updSess s.sid f).serve s.sid r)
  /-- a datagram, with the closing release of coap_read_endpoint's bracket -/
  serveFree : ∀ st sid r, P st → (∃ s ∈ st.sessions, s.sid = sid) → P ((st.serve sid r).clientFree sid)
  rstNoteFree : ∀ st sid n, P st → P ((st.rstNote sid n).clientFree sid)
  /-- coap_session_disconnected_lkd; on a datagram client session only while a holder that survives it is left (D17) -/
  disconnect : ∀ st (s : Sess), P st → s ∈ st.sessions →
    (s.client = true → s.peer.reliable = false →
      ∃ g ∈ st.holders, g.sid = s.sid ∧ isAnyObs g.kind = false ∧ isNode g.kind = false) → P (st.disconnectSess s)
  callHome : ∀ st (s : Sess), P st → s ∈ st.sessions → s.peer.reliable = false →
    P ((st.updSess s.sid fun t => { t with client := true }).addHolder s.sid .home)
  teardown : ∀ st, P st → P st.freeHolders.freeRest

namespace ClosedEv
variable {P : St → Prop} (c : ClosedEv P)
include c

/- `f` is implicit in the next two: at a call the proof of `BenignC f` is given as `by exact fun _ => ⟨rfl, rfl, rfl, rfl⟩`, elaborated
   after `f` is known from the goal — the bare term would let its `rfl`s fix `f` to `fun x => x`. -/
theorem updAddHolder {st : St} {s : Sess} (h : P st) (hm : s ∈ st.sessions) {f : Sess → Sess} (hf : BenignC f) (k : HKind) :
    P ((st.updSess s.sid f).addHolder s.sid k) :=
  c.addHolder _ _ _ (c.io.benign _ _ _ h hf) (live_updSess s.sid f (fun t => (hf t).1) ⟨s, hm, rfl⟩)

theorem updAddPartial {st : St} {s : Sess} (h : P st) (hm : s ∈ st.sessions) {f : Sess → Sess} (hf : BenignC f) :
    P ((st.updSess s.sid f).addPartial s.sid) :=
  c.addPartial _ _ (c.io.benign _ _ _ h hf) (live_updSess s.sid f (fun t => (hf t).1) ⟨s, hm, rfl⟩)

theorem step {st : St} (h : P st) (e : Event) : P (st.step e).1 := by
  have cio := c.io
  unfold St.step
  by_cases hf : st.freed = true
  · rw [if_pos hf]; exact h
  rw [if_neg hf]
  -- `dsimp only` selects the branch of the event, and at a leaf reduces `(st', outcome).1` to `st'`: a lemma applied
  -- to the unreduced projection makes the unifier unfold `St.prepareIo` instead
  cases e with
  | rx p r =>
    dsimp only
    split
    · exact h
    · rename_i hs
      split
      · rename_i hrel
        split
        · exact h
        · rename_i s hl
          obtain ⟨hm, hpe⟩ := lookup_some hl
          split
          · exact h
          · dsimp only
            exact cio.prepareIo (c.serveStream st s r _ h hm (by rw [hpe]; exact hrel) (fun _ => ⟨rfl, rfl, rfl, rfl⟩))
      · dsimp only
        exact cio.prepareIo
          (c.serveFree _ _ r (cio.getSession h p (Or.inr (rxSkip_false_eps hs)))
            (let ⟨s, hs, e, _⟩ := getSession_live st p; ⟨s, hs, e⟩))
  -- a Reset and an ACK (also a bad one) leave the same state
  | rst p | ack p _ =>
    dsimp only
    split
    · exact h
    · rename_i s hs
      split
      · exact h
      · rename_i x hx
        dsimp only
        apply cio.prepareIo
        have e : (st.getSession p).2 = x.sid := by
          rw [getSession_snd_of_lookup hs, (findHolder_some hx).2.1]
        rw [e]
        apply cio.releaseHolder
        apply cio.flushDelayed
        exact cio.benign _ _ _ (cio.getSession h p (Or.inl (by simp [hs]))) (fun _ => ⟨rfl, rfl, rfl, rfl⟩)
  | sendCon p =>
    dsimp only
    split
    · exact h
    · rename_i s hs
      obtain ⟨hm, _⟩ := lookup_some hs
      split
      · exact h
      · split
        · dsimp only
          exact c.updAddPartial h hm (by exact fun _ => ⟨rfl, rfl, rfl, rfl⟩)
        · dsimp only
          exact c.updAddHolder h hm (by exact fun _ => ⟨rfl, rfl, rfl, rfl⟩) _
  | ping p =>
    dsimp only
    split
    · exact h
    · rename_i s hs
      split
      · exact h
      · dsimp only
        exact c.updAddHolder h (lookup_some hs).1 (by exact fun _ => ⟨rfl, rfl, rfl, rfl⟩) _
  | asyncFree p | appRelease p =>
    dsimp only
    split
    · exact h
    · split
      · exact h
      · exact cio.releaseHolder h _
  | appRef p =>
    dsimp only
    split
    · exact h
    · rename_i s hs
      dsimp only
      exact c.addHolder _ s.sid _ h ⟨s, (lookup_some hs).1, rfl⟩
  | disconnect p =>
    dsimp only
    split
    · exact h
    · rename_i s hs
      split
      · exact h
      · rename_i hg
        refine c.disconnect st s h (lookup_some hs).1 ?_
        intro hc _
        cases ha : st.findHolder s.sid isApp with
        | some g =>
          obtain ⟨g1, g2, g3⟩ := findHolder_some ha
          exact ⟨g, g1, g2, app_or_home_not (Or.inl g3)⟩
        | none =>
          cases hb : st.findHolder s.sid isHome with
          | some g =>
            obtain ⟨g1, g2, g3⟩ := findHolder_some hb
            exact ⟨g, g1, g2, app_or_home_not (Or.inr g3)⟩
          | none => exact absurd (by simp [hc, ha, hb]) hg
  | callHome p =>
    dsimp only
    split
    · exact h
    · rename_i s hs
      split
      · exact h
      · rename_i hg
        obtain ⟨hm, hpe⟩ := lookup_some hs
        dsimp only
        refine c.callHome st s h hm ?_
        rw [hpe]
        cases hq : p.reliable with
        | false => rfl
        | true => simp [hq] at hg
  | endCallHome p =>
    dsimp only
    split
    · exact h
    · rename_i s hs
      split
      · exact h
      · rename_i x hx
        rw [← (findHolder_some hx).2.1]
        exact cio.releaseHolder h x
  | connect p =>
    dsimp only
    split
    · exact h
    · rename_i hc
      split
      · exact h
      · rename_i hl
        have hep : (p.lport, p.proto) ∈ st.eps := by
          simp only [Bool.or_eq_true, Bool.not_eq_true', decide_eq_false_iff_not, not_or, Decidable.not_not] at hc
          exact hc.2
        dsimp only
        apply cio.prepareIo
        exact cio.benign _ _ _ (cio.prepareIo (cio.newSession _ p h hl hep)) (fun _ => ⟨rfl, rfl, rfl, rfl⟩)
  | partialRx p n =>
    dsimp only
    split
    · exact h
    · rename_i s hl
      split
      · exact h
      · dsimp only
        apply cio.prepareIo
        split
        · exact c.updAddPartial h (lookup_some hl).1 (by exact fun _ => ⟨rfl, rfl, rfl, rfl⟩)
        · exact cio.benign _ _ _ h (fun _ => ⟨rfl, rfl, rfl, rfl⟩)
  | restRx p =>
    dsimp only
    split
    · exact h
    · split
      · exact h
      · dsimp only
        exact cio.prepareIo (c.dropPartial _ _ (cio.benign _ _ _ h (fun _ => ⟨rfl, rfl, rfl, rfl⟩)))
  | peerClose p =>
    dsimp only
    split
    · exact h
    · rename_i s hs
      obtain ⟨hm, hpe⟩ := lookup_some hs
      split
      · exact h
      · rename_i hg
        have hrel : s.peer.reliable = true := by
          rw [hpe]
          cases hq : p.reliable with
          | true => rfl
          | false => simp [hq] at hg
        dsimp only
        refine cio.prepareIo (c.disconnect st s h hm ?_)
        intro _ hn
        rw [hrel] at hn
        exact absurd hn (by decide)
  | delResource k =>
    dsimp only
    split
    · dsimp only
      refine cio.misc _ _ _ _ _ _ (foldl_inv P (fun a x ha => ?_) _ st h)
      exact cio.releaseHolder (cio.benign _ _ _ ha (by exact fun _ => ⟨rfl, rfl, rfl, rfl⟩)) x
    · exact h
  | changed k =>
    dsimp only
    split
    · split
      · exact cio.misc st st.now st.timeout st.maxIdle st.resAlive _ h
      · exact h
    · exact h
  | noteRst p j =>
    dsimp only
    split
    · exact h
    · rename_i s hs
      split
      · dsimp only
        exact cio.prepareIo (c.rstNoteFree _ _ _ (cio.getSession h p (Or.inl (by simp [hs]))))
      · exact h
  | noteAck p j =>
    dsimp only
    split
    · exact h
    · rename_i s hs
      split
      · dsimp only
        exact cio.prepareIo (c.clientFree _ _ (cio.getSession h p (Or.inl (by simp [hs]))))
      · exact h
  | advance d => exact cio.misc st (st.now + d) st.timeout st.maxIdle st.resAlive st.dirty h
  | io => exact cio.prepareIo h
  | ioStale d => exact cio.prepareIoAt h _
  | setMaxIdle n => exact cio.misc st st.now st.timeout n st.resAlive st.dirty h
  | setTimeout n => exact cio.misc st st.now n st.maxIdle st.resAlive st.dirty h
  | ownClient k => exact c.newOwned st h
  | freeContext => exact c.teardown st h

theorem run {st : St} (h : P st) (es : List Event) : P (st.run es) :=
  foldl_inv P (fun _ e ha => c.step ha e) es st h

end ClosedEv

theorem Closed.ev {P : St → Prop} (c : Closed P) : ClosedEv P where
  io := c.io
  addHolder := c.addHolder
  addPartial := c.addPartial
  dropPartial := c.dropPartial
  clientFree := c.clientFree
  newOwned := c.newOwned
  serveStream _ s r f h hm _ hf :=
    c.serve (c.benign _ _ _ h hf.benign) _ r (live_updSess s.sid f (fun t => (hf t).1) ⟨s, hm, rfl⟩)
  serveFree _ sid r h hl := c.clientFree _ _ (c.serve h sid r hl)
  rstNoteFree _ sid n h := c.clientFree _ _ (c.rstNote h sid n)
  disconnect _ s h _ _ := c.disconnectSess h s
  callHome _ s h hm _ :=
    c.addHolder _ _ _ (c.benign _ _ _ h (fun _ => ⟨rfl, rfl, rfl⟩)) (live_updSess s.sid _ (fun _ => rfl) ⟨s, hm, rfl⟩)
  teardown _ h := c.freeRest (c.freeHolders h)

theorem Closed.step {P : St → Prop} (c : Closed P) {st : St} (h : P st) (e : Event) : P (st.step e).1 := c.ev.step h e

theorem Closed.run {P : St → Prop} (c : Closed P) {st : St} (h : P st) (es : List Event) : P (st.run es) := c.ev.run h es

/-! ## shape and event invariants -/

def St.sids (st : St) : List Nat := st.sessions.map (·.sid)

/-- the session tables: one session per peer and per id, each on an endpoint of the context; the event log: a live session has
    had its NEW and no end, a session that is gone one end (DEL or `handed`) for its one NEW.  `evFresh`: no event names a serial
    not yet handed out, so that the session created next starts with an empty record. -/
structure SInv (st : St) : Prop where
  pw : st.sessions.Pairwise (fun a b => a.peer ≠ b.peer ∧ a.sid ≠ b.sid)
  ep : ∀ s ∈ st.sessions, (s.peer.lport, s.peer.proto) ∈ st.eps
  evLive : ∀ x ∈ st.sids, st.events.count (.new x) = 1 ∧ st.events.count (.del x) = 0 ∧ st.events.count (.handed x) = 0
  evDead : ∀ x, x ∉ st.sids →
    st.events.count (.del x) + st.events.count (.handed x) = st.events.count (.new x) ∧ st.events.count (.new x) ≤ 1
  evFresh : ∀ x, 0 < st.events.count (.new x) → x < st.next

theorem sid_unique {st : St} (h : SInv st) {a b : Sess} (ha : a ∈ st.sessions) (hb : b ∈ st.sessions)
    (e : a.sid = b.sid) : a = b := by
  rcases pairwise_mem h.pw ha hb with r | r | r
  · exact r
  · exact absurd e r.2
  · exact absurd e.symm r.2

theorem getSess_of_mem {st : St} (h : SInv st) {t : Sess} (ht : t ∈ st.sessions) : st.getSess t.sid = some t := by
  cases hg : st.getSess t.sid with
  | none =>
    unfold St.getSess at hg
    rw [List.find?_eq_none] at hg
    exact absurd (by simp) (hg t ht)
  | some u =>
    obtain ⟨hu, e⟩ := getSess_some hg
    rw [sid_unique h hu ht e]

theorem sid_mem_epSessions {st : St} (h : SInv st) {t : Sess} (ht : t ∈ st.sessions) (ep : Nat × Nat) :
    t.sid ∈ (st.epSessions ep.1 ep.2).map (·.sid) ↔ t.onEp ep.1 ep.2 = true := by
  refine ⟨fun hm => ?_, fun hx => List.mem_map.mpr ⟨t, List.mem_filter.mpr ⟨ht, hx⟩, rfl⟩⟩
  obtain ⟨u, hu, e⟩ := List.mem_map.mp hm
  obtain ⟨hu1, hu2⟩ := List.mem_filter.mp hu
  rw [sid_unique h ht hu1 e.symm]
  exact hu2

def ShapeBenign (g : Sess → Sess) : Prop := ∀ s, (g s).sid = s.sid ∧ (g s).peer = s.peer

theorem SInv.of_shape {st st' : St} (h : SInv st) (g : Sess → Sess) (hg : ShapeBenign g)
    (hs : st'.sessions = st.sessions.map g) (he : st'.events = st.events) (hp : st'.eps = st.eps)
    (hn : st.next ≤ st'.next) : SInv st' := by
  have hsid : st'.sids = st.sids := by
    unfold St.sids; rw [hs, List.map_map]; apply List.map_congr_left; intro s _; exact (hg s).1
  constructor
  · rw [hs, List.pairwise_map]
    apply h.pw.imp
    intro a b hab
    rw [(hg a).1, (hg a).2, (hg b).1, (hg b).2]; exact hab
  · intro t ht
    rw [hs] at ht
    obtain ⟨s, hs', rfl⟩ := List.mem_map.mp ht
    rw [hp, (hg s).2]; exact h.ep s hs'
  · intro x hx; rw [hsid] at hx; rw [he]; exact h.evLive x hx
  · intro x hx; rw [hsid] at hx; rw [he]; exact h.evDead x hx
  · intro x hx; rw [he] at hx; have := h.evFresh x hx; omega

theorem shapeBenign_if (sid : Nat) (f : Sess → Sess) (hf : ShapeBenign f) :
    ShapeBenign (fun s => if s.sid = sid then f s else s) := by
  intro s; by_cases c : s.sid = sid <;> simp [c, hf s]

theorem SInv.updSess {st : St} (h : SInv st) (sid : Nat) (f : Sess → Sess) (hf : ShapeBenign f) :
    SInv (st.updSess sid f) :=
  h.of_shape _ (shapeBenign_if sid f hf) rfl rfl rfl (Nat.le_refl _)

theorem SInv.same {st st' : St} (h : SInv st) (hs : st'.sessions = st.sessions) (he : st'.events = st.events)
    (hp : st'.eps = st.eps) (hn : st.next ≤ st'.next) : SInv st' :=
  h.of_shape id (fun _ => ⟨rfl, rfl⟩) (by rw [hs, List.map_id]) he hp hn

theorem SInv.addHolder {st : St} (h : SInv st) (sid : Nat) (k : HKind) : SInv (st.addHolder sid k) := by
  unfold St.addHolder
  split
  · exact h.of_shape _ (shapeBenign_if sid Sess.reference (fun _ => ⟨rfl, rfl⟩)) rfl rfl rfl (Nat.le_succ _)
  · exact h.of_shape _ (shapeBenign_if sid Sess.reference (fun _ => ⟨rfl, rfl⟩)) rfl rfl rfl (Nat.le_refl _)

theorem SInv.dropHolder {st : St} (h : SInv st) (x : Holder) : SInv (st.dropHolder x) := by
  unfold St.dropHolder
  split
  · exact h.of_shape _ (shapeBenign_if x.sid Sess.release (fun _ => ⟨rfl, rfl⟩)) rfl rfl rfl (Nat.le_refl _)
  · exact h

theorem count_snoc_ne {a b : SEvent} (l : List SEvent) (hab : b ≠ a) : (l ++ [b]).count a = l.count a := by
  simp [List.count_append, hab]

theorem count_snoc_self (a : SEvent) (l : List SEvent) : (l ++ [a]).count a = l.count a + 1 := by
  simp [List.count_append]

theorem count_new_snoc_ends {ev : SEvent} {sid : Nat} (hev : ev.Ends sid) (l : List SEvent) (x : Nat) :
    (l ++ [ev]).count (.new x) = l.count (.new x) := by
  rcases hev with rfl | rfl <;> exact count_snoc_ne l nofun

theorem count_end_snoc_ends {ev : SEvent} {sid : Nat} (hev : ev.Ends sid) (l : List SEvent) (x : Nat) :
    (l ++ [ev]).count (.del x) + (l ++ [ev]).count (.handed x) =
      l.count (.del x) + l.count (.handed x) + (if x = sid then 1 else 0) := by
  by_cases c : x = sid
  · subst c
    rcases hev with rfl | rfl
    · rw [count_snoc_self, count_snoc_ne l (by simp), if_pos rfl]; omega
    · rw [count_snoc_self, count_snoc_ne l (by simp), if_pos rfl]; omega
  · have c' : ¬ sid = x := fun e => c e.symm
    rcases hev with rfl | rfl
    · rw [count_snoc_ne l (by simp [c']), count_snoc_ne l (by simp), if_neg c]; rfl
    · rw [count_snoc_ne l (by simp), count_snoc_ne l (by simp [c']), if_neg c]; rfl

theorem SInv.unlink {st : St} (h : SInv st) {s : Sess} (hs : s ∈ st.sessions) {ev : SEvent} (hev : ev.Ends s.sid) :
    SInv (st.unlink s.sid ev) := by
  have hsids : ∀ x, x ∈ (st.unlink s.sid ev).sids ↔ x ∈ st.sids ∧ x ≠ s.sid := by
    intro x
    simp only [St.sids, List.mem_map, mem_unlink]
    constructor
    · rintro ⟨t, ⟨ht, hne⟩, rfl⟩; exact ⟨⟨t, ht, rfl⟩, hne⟩
    · rintro ⟨⟨t, ht, rfl⟩, hne⟩; exact ⟨t, ⟨ht, hne⟩, rfl⟩
  have he : (st.unlink s.sid ev).events = st.events ++ [ev] := rfl
  have hnew := count_new_snoc_ends hev st.events
  have hend := count_end_snoc_ends hev st.events
  constructor
  · exact h.pw.filter _
  · intro t ht; exact h.ep t (mem_unlink.mp ht).1
  · intro x hx
    obtain ⟨hx1, hx2⟩ := (hsids x).mp hx
    have e := hend x
    rw [if_neg hx2] at e
    have := h.evLive x hx1
    rw [he, hnew]
    omega
  · intro x hx
    have e := hend x
    rw [he, hnew]
    by_cases c : x = s.sid
    · -- the session that goes: this event matches its one `new`
      have := h.evLive s.sid (List.mem_map.mpr ⟨s, hs, rfl⟩)
      rw [c] at e ⊢
      rw [if_pos rfl] at e
      omega
    · have := h.evDead x (fun hin => hx ((hsids x).mpr ⟨hin, c⟩))
      rw [if_neg c] at e
      omega
  · intro x hx
    rw [he, hnew] at hx
    exact h.evFresh x hx

theorem SInv.reclaim {st : St} (h : SInv st) (sid : Nat) : SInv (st.reclaim sid) :=
  (unlink_closed h (fun _ hs _ _ hev => h.unlink hs hev) sid).1

theorem SInv.clientFree {st : St} (h : SInv st) (sid : Nat) : SInv (st.clientFree sid) :=
  (unlink_closed h (fun _ hs _ _ hev => h.unlink hs hev) sid).2

theorem lookup_none {st : St} {p : Peer} (h : st.lookup p = none) : ∀ s ∈ st.sessions, s.peer ≠ p := by
  unfold St.lookup at h
  simp only [List.find?_eq_none] at h
  intro s hs; simpa using h s hs

theorem mem_sids_newSession {st : St} {p : Peer} {x : Nat} : x ∈ (st.newSession p).sids ↔ x ∈ st.sids ∨ x = st.next := by
  simp [St.sids, St.newSession, eq_comm]

theorem SInv.newSession {st : St} (h : SInv st) (hH : HInv st) (p : Peer) (hl : st.lookup p = none)
    (hp : (p.lport, p.proto) ∈ st.eps) : SInv (st.newSession p) := by
  have hfresh : st.next ∉ st.sids := by
    intro hin
    obtain ⟨s, hs, e⟩ := List.mem_map.mp hin
    have := hH.fresh s hs
    omega
  have hnew0 : st.events.count (.new st.next) = 0 := by
    cases hc : st.events.count (.new st.next) with
    | zero => rfl
    | succ n => have := h.evFresh st.next (by omega); omega
  have he : (st.newSession p).events = st.events ++ [.new st.next] := rfl
  constructor
  · show (st.sessions ++ [_]).Pairwise _
    rw [List.pairwise_append]
    refine ⟨h.pw, List.pairwise_singleton _ _, ?_⟩
    intro a ha b hb
    simp only [List.mem_singleton] at hb; subst hb
    refine ⟨lookup_none hl a ha, ?_⟩
    have := hH.fresh a ha
    show a.sid ≠ st.next
    omega
  · intro t ht
    rcases mem_newSession ht with h1 | rfl
    · exact h.ep t h1
    · exact hp
  · intro x hx
    rw [he]
    rcases mem_sids_newSession.mp hx with h1 | h1
    · have hne : x ≠ st.next := fun e => hfresh (e ▸ h1)
      rw [count_snoc_ne _ (by simp; exact fun e => hne e.symm), count_snoc_ne _ (by simp), count_snoc_ne _ (by simp)]
      exact h.evLive x h1
    · subst h1
      rw [count_snoc_self, count_snoc_ne _ (by simp), count_snoc_ne _ (by simp), hnew0]
      have := h.evDead st.next hfresh
      omega
  · intro x hx
    have hx1 : x ∉ st.sids ∧ x ≠ st.next :=
      ⟨fun hin => hx (mem_sids_newSession.mpr (Or.inl hin)), fun e => hx (mem_sids_newSession.mpr (Or.inr e))⟩
    rw [he, count_snoc_ne _ (by simp), count_snoc_ne _ (by simp), count_snoc_ne _ (by simp; exact fun e => hx1.2 e.symm)]
    exact h.evDead x hx1.1
  · intro x hx
    rw [he] at hx
    show x < st.next + 1
    by_cases e : x = st.next
    · omega
    · rw [count_snoc_ne _ (by simp; exact fun e' => e e'.symm)] at hx
      have := h.evFresh x hx; omega

/-! ## the ledger invariant: what the monitor holds live is exactly what the state contains -/

def St.allocHids (st : St) : List Nat := (st.holders.filter (·.kind.isAlloc)).map (·.hid)
/-- the objects that hang off a session without a reference: partly received PDUs (stream), delay-queue nodes (datagram) -/
def St.partialIds (st : St) : List Nat := st.partials.map (·.1)
def St.objects (st : St) : List Nat := st.sids ++ st.allocHids ++ st.ctxObjs ++ st.partialIds

def LInv (st : St) : Prop := ∃ live, runLedger st.ledger [] = some live ∧ ∀ i, live.count i = st.objects.count i

theorem objects_count (st : St) (i : Nat) :
    st.objects.count i = st.sids.count i + st.allocHids.count i + st.ctxObjs.count i + st.partialIds.count i := by
  simp [St.objects, List.count_append, Nat.add_assoc]

theorem LInv.same {st st' : St} (h : LInv st) (hl : st'.ledger = st.ledger) (h1 : st'.sids = st.sids)
    (h2 : st'.allocHids = st.allocHids) (h3 : st'.ctxObjs = st.ctxObjs) (h4 : st'.partialIds = st.partialIds) :
    LInv st' := by
  obtain ⟨live, hr, hc⟩ := h
  refine ⟨live, by rw [hl]; exact hr, ?_⟩
  intro i; rw [objects_count, h1, h2, h3, h4, ← objects_count]; exact hc i

theorem LInv.alloc {st st' : St} (h : LInv st) (j : Nat) (hl : st'.ledger = st.ledger ++ [.alloc j])
    (ho : ∀ i, st'.objects.count i = st.objects.count i + (if j = i then 1 else 0)) : LInv st' := by
  obtain ⟨live, hr, hc⟩ := h
  refine ⟨j :: live, ?_, ?_⟩
  · rw [hl, runLedger_append, hr]; rfl
  · intro i; rw [ho, List.count_cons, hc]; simp

theorem LInv.freeList {st st' : St} (h : LInv st) (C : List Nat) (hl : st'.ledger = st.ledger ++ C.map .free)
    (ho : ∀ i, st.objects.count i = st'.objects.count i + C.count i) : LInv st' := by
  obtain ⟨live, hr, hc⟩ := h
  obtain ⟨live', hr', hc'⟩ := runLedger_frees C st.ledger live st'.objects hr (by intro i; rw [hc, ho])
  exact ⟨live', by rw [hl]; exact hr', hc'⟩

theorem sids_updSess (st : St) (sid : Nat) (f : Sess → Sess) (hf : ∀ s, (f s).sid = s.sid) :
    (st.updSess sid f).sids = st.sids := by
  unfold St.sids St.updSess
  simp only [List.map_map]
  apply List.map_congr_left
  intro s _
  by_cases c : s.sid = sid <;> simp [c, hf]

theorem LInv.updSess {st : St} (h : LInv st) (sid : Nat) (f : Sess → Sess) (hf : ∀ s, (f s).sid = s.sid) :
    LInv (st.updSess sid f) :=
  h.same rfl (sids_updSess st sid f hf) rfl rfl rfl

theorem sids_addHolder (st : St) (sid : Nat) (k : HKind) : (st.addHolder sid k).sids = st.sids := by
  unfold St.addHolder; split <;> exact sids_updSess st sid _ (fun _ => rfl)

theorem LInv.addHolder {st : St} (h : LInv st) (sid : Nat) (k : HKind) : LInv (st.addHolder sid k) := by
  have e : (st.updSess sid Sess.reference).sids = st.sids := sids_updSess st sid _ (fun _ => rfl)
  unfold St.addHolder
  split
  · rename_i hk
    -- a holder that is an object: its id `st.next` joins `allocHids`
    refine h.alloc st.next rfl fun i => ?_
    rw [objects_count, objects_count, ← e]
    simp only [St.sids, St.allocHids, St.partialIds, St.updSess, List.filter_append, List.filter_cons, hk, if_true,
      List.filter_nil, List.map_append, List.map_cons, List.map_nil, List.count_append, List.count_cons, List.count_nil,
      beq_iff_eq]
    omega
  · rename_i hk
    refine h.same rfl e ?_ rfl rfl
    simp [St.allocHids, List.filter_append, hk]

theorem allocHids_erase (l : List Holder) (x : Holder) (hx : x ∈ l) (i : Nat) :
    ((l.filter (·.kind.isAlloc)).map (·.hid)).count i =
      (((l.erase x).filter (·.kind.isAlloc)).map (·.hid)).count i + (if x.kind.isAlloc ∧ x.hid = i then 1 else 0) := by
  have hp := ((List.perm_cons_erase hx).filter (·.kind.isAlloc)).map (·.hid)
  rw [hp.count_eq]
  by_cases ha : x.kind.isAlloc
  · simp [ha, List.count_cons]
  · simp [ha]

theorem sids_dropHolder (st : St) (x : Holder) : (st.dropHolder x).sids = st.sids := by
  unfold St.dropHolder; split
  · exact sids_updSess st x.sid _ (fun _ => rfl)
  · rfl

theorem LInv.dropHolder {st : St} (h : LInv st) (x : Holder) : LInv (st.dropHolder x) := by
  have e : (st.updSess x.sid Sess.release).sids = st.sids := sids_updSess st x.sid _ (fun _ => rfl)
  unfold St.dropHolder
  split
  · rename_i hx
    have hc := allocHids_erase st.holders x hx
    by_cases ha : x.kind.isAlloc
    · simp only [ha, true_and] at hc
      refine h.freeList [x.hid] (by simp [ha]) fun i => ?_
      have := hc i
      rw [objects_count, objects_count, ← e, List.count_singleton]
      simp only [St.sids, St.allocHids, St.partialIds, St.updSess, beq_iff_eq]
      omega
    · refine h.same (by simp [ha]) e ?_ rfl rfl
      unfold St.allocHids
      dsimp only
      rw [← List.erase_filter, List.erase_of_not_mem]
      intro hin; exact ha (by simpa using (List.mem_filter.mp hin).2)
  · exact h

theorem count_sids_filter (l : List Sess) (sid i : Nat) :
    ((l.filter (fun t => t.sid ≠ sid)).map (·.sid)).count i = if i = sid then 0 else (l.map (·.sid)).count i := by
  simp only [List.count_eq_countP, List.countP_map, List.countP_filter]
  by_cases e : i = sid
  · rw [if_pos e]
    exact List.countP_eq_zero.mpr (fun t _ => by simp [e])
  · rw [if_neg e]
    exact List.countP_congr (fun t _ => by simp; intro h; rw [h]; exact e)

theorem count_filter_split (l : List (Nat × Nat)) (sid i : Nat) :
    (l.map (·.1)).count i =
      ((l.filter (fun x => x.2 != sid)).map (·.1)).count i + ((l.filter (fun x => x.2 == sid)).map (·.1)).count i := by
  have := ((List.filter_append_perm (fun x => x.2 == sid) l).map (·.1)).count_eq i
  rw [List.map_append, List.count_append] at this
  rw [← this, Nat.add_comm]
  rfl

theorem LInv.dropPartial {st : St} (h : LInv st) (sid : Nat) : LInv (st.dropPartial sid) := by
  refine LInv.freeList (st := st) h ((st.partials.filter (fun x => x.2 == sid)).map (·.1)) ?_ ?_
  · show st.ledger ++ _ = st.ledger ++ _
    rw [List.map_map]; rfl
  · intro i
    rw [objects_count, objects_count]
    have e1 : (st.dropPartial sid).sids = st.sids := rfl
    have e2 : (st.dropPartial sid).allocHids = st.allocHids := rfl
    have e3 : (st.dropPartial sid).ctxObjs = st.ctxObjs := rfl
    have e4 : (st.dropPartial sid).partialIds = (st.partials.filter (fun x => x.2 != sid)).map (·.1) := rfl
    rw [e1, e2, e3, e4]
    have := count_filter_split st.partials sid i
    unfold St.partialIds
    omega

theorem LInv.addPartial {st : St} (h : LInv st) (sid : Nat) : LInv (st.addPartial sid) := by
  refine LInv.alloc (st := st) h st.next rfl fun i => ?_
  simp only [St.objects, St.sids, St.allocHids, St.partialIds, St.addPartial, List.map_append, List.count_append, List.map_cons,
    List.map_nil, List.count_cons, List.count_nil, beq_iff_eq]
  omega

theorem LInv.unlink {st : St} (h : LInv st) (hS : SInv st) {s : Sess} (hs : s ∈ st.sessions) (ev : SEvent) :
    LInv (st.unlink s.sid ev) := by
  have h1 : (st.sessions.map (·.sid)).count s.sid = 1 := by
    have hn : (st.sessions.map (·.sid)).Nodup := List.pairwise_map.mpr (hS.pw.imp fun h => h.2)
    rw [hn.count, if_pos (List.mem_map.mpr ⟨s, hs, rfl⟩)]
  have e1 : (st.dropPartial s.sid).sids = st.sids := rfl
  refine LInv.freeList (st := st.dropPartial s.sid) (LInv.dropPartial h s.sid) [s.sid] rfl fun i => ?_
  rw [objects_count, objects_count, List.count_singleton]
  show _ = ((st.sessions.filter (fun t => t.sid ≠ s.sid)).map (·.sid)).count i + (st.dropPartial s.sid).allocHids.count i +
    (st.dropPartial s.sid).ctxObjs.count i + (st.dropPartial s.sid).partialIds.count i + _
  rw [count_sids_filter, e1]
  by_cases e : i = s.sid
  · rw [e]; simp; unfold St.sids; omega
  · have : ¬ s.sid = i := fun e' => e e'.symm
    simp [e, this]; rfl

theorem LInv.reclaim {st : St} (h : LInv st) (hS : SInv st) (sid : Nat) : LInv (st.reclaim sid) :=
  (unlink_closed h (fun _ hs _ ev _ => h.unlink hS hs ev) sid).1

theorem LInv.clientFree {st : St} (h : LInv st) (hS : SInv st) (sid : Nat) : LInv (st.clientFree sid) :=
  (unlink_closed h (fun _ hs _ ev _ => h.unlink hS hs ev) sid).2

theorem LInv.newSession {st : St} (h : LInv st) (p : Peer) : LInv (st.newSession p) := by
  refine LInv.alloc (st := st) h st.next rfl fun i => ?_
  simp only [St.objects, St.sids, St.allocHids, St.partialIds, St.newSession, List.map_append, List.count_append, List.map_cons,
    List.map_nil, List.count_cons, List.count_nil, beq_iff_eq]
  omega

theorem LInv.newOwned {st : St} (h : LInv st) : LInv st.newOwned := by
  refine LInv.alloc (st := st) h st.next rfl fun i => ?_
  simp only [St.objects, St.sids, St.allocHids, St.partialIds, St.newOwned, List.count_append,
    List.count_cons, List.count_nil, beq_iff_eq]
  omega

theorem allocHids_map (l : List Holder) (g : Holder → Holder) (hg : HBenign g) :
    ((l.map g).filter (·.kind.isAlloc)).map (·.hid) = (l.filter (·.kind.isAlloc)).map (·.hid) := by
  induction l with
  | nil => rfl
  | cons a t ih =>
    simp only [List.map_cons, List.filter_cons, (hg a).2.2]
    by_cases c : a.kind.isAlloc
    · simp only [c, if_true, List.map_cons, (hg a).2.1, ih]
    · simpa [c] using ih

theorem LInv.mapHolders {st : St} (h : LInv st) (g : Holder → Holder) (hg : HBenign g) :
    LInv { st with holders := st.holders.map g } :=
  h.same rfl rfl (allocHids_map st.holders g hg) rfl rfl

theorem LInv.teardownEnd {st : St} (h : LInv st) :
    LInv { (st.freeObjs st.ctxObjs) with ctxObjs := [], resAlive := [], freed := true } := by
  refine h.freeList st.ctxObjs rfl fun i => ?_
  rw [objects_count, objects_count]
  show _ = st.sids.count i + st.allocHids.count i + 0 + st.partialIds.count i + _
  omega

/-! ## what hangs off a session -/

/-- every `session->partial_pdu` and every node of a `session->delayqueue` the ledger knows belongs to a session that is in its
    endpoint's table -/
def PInv (st : St) : Prop := ∀ x ∈ st.partials, ∃ s ∈ st.sessions, s.sid = x.2

theorem PInv.updSess {st : St} (h : PInv st) (sid : Nat) (f : Sess → Sess) (hf : ∀ s, (f s).sid = s.sid) :
    PInv (st.updSess sid f) := fun x hx => live_updSess sid f hf (h x hx)

theorem PInv.same {st st' : St} (h : PInv st) (h1 : st'.sessions = st.sessions) (h2 : st'.partials = st.partials) :
    PInv st' := by
  intro x hx; rw [h2] at hx; rw [h1]; exact h x hx

theorem PInv.addHolder {st : St} (h : PInv st) (sid : Nat) (k : HKind) : PInv (st.addHolder sid k) := by
  unfold St.addHolder
  split <;> exact fun x hx => live_updSess sid _ (fun _ => rfl) (h x hx)

theorem PInv.dropHolder {st : St} (h : PInv st) (y : Holder) : PInv (st.dropHolder y) := by
  intro x hx
  have hx' : x ∈ st.partials := by
    unfold St.dropHolder at hx; split at hx <;> exact hx
  exact live_dropHolder y (h x hx')

theorem PInv.dropPartial {st : St} (h : PInv st) (sid : Nat) : PInv (st.dropPartial sid) := by
  intro x hx
  have hx' : x ∈ st.partials.filter (fun x => x.2 != sid) := hx
  exact h x (List.mem_filter.mp hx').1

theorem PInv.addPartial {st : St} (h : PInv st) (sid : Nat) (hl : ∃ s ∈ st.sessions, s.sid = sid) :
    PInv (st.addPartial sid) := by
  intro x hx
  have hx' : x ∈ st.partials ++ [(st.next, sid)] := hx
  rcases List.mem_append.mp hx' with h1 | h1
  · exact h x h1
  · simp only [List.mem_singleton] at h1; subst h1; exact hl

theorem PInv.unlink {st : St} (h : PInv st) (sid : Nat) (ev : SEvent) : PInv (st.unlink sid ev) := by
  intro x hx
  have hx' : x ∈ st.partials.filter (fun x => x.2 != sid) := hx
  obtain ⟨hx1, hx2⟩ := List.mem_filter.mp hx'
  obtain ⟨s, hs, e⟩ := h x hx1
  exact ⟨s, mem_unlink.mpr ⟨hs, e ▸ by simpa using hx2⟩, e⟩

theorem PInv.reclaim {st : St} (h : PInv st) (sid : Nat) : PInv (st.reclaim sid) :=
  (unlink_closed h (fun s _ _ ev _ => h.unlink s.sid ev) sid).1

theorem PInv.clientFree {st : St} (h : PInv st) (sid : Nat) : PInv (st.clientFree sid) :=
  (unlink_closed h (fun s _ _ ev _ => h.unlink s.sid ev) sid).2

theorem PInv.newSession {st : St} (h : PInv st) (p : Peer) : PInv (st.newSession p) := by
  intro x hx
  obtain ⟨s, hs, e⟩ := h x hx
  exact ⟨s, List.mem_append.mpr (Or.inl hs), e⟩

/-! ## `promote`: a delayed node becomes a queued message (the same object, with a reference) -/

theorem HInv.promote {st : St} (h : HInv st) (x : Nat × Nat) (due : Nat) (hl : ∃ s ∈ st.sessions, s.sid = x.2) :
    HInv (st.promote x due) := by
  unfold St.promote
  split
  · exact h.referenced ⟨x.1, x.2, .node 0 due⟩ hl rfl rfl (Nat.le_refl _)
  · exact h

theorem SInv.promote {st : St} (h : SInv st) (x : Nat × Nat) (due : Nat) : SInv (st.promote x due) := by
  unfold St.promote
  split
  · exact h.of_shape _ (shapeBenign_if x.2 Sess.reference (fun _ => ⟨rfl, rfl⟩)) rfl rfl rfl (Nat.le_refl _)
  · exact h

theorem count_map_erase (l : List (Nat × Nat)) (x : Nat × Nat) (hx : x ∈ l) (i : Nat) :
    ((l.erase x).map (·.1)).count i + (if x.1 = i then 1 else 0) = (l.map (·.1)).count i := by
  rw [((List.perm_cons_erase hx).map (·.1)).count_eq i, List.map_cons, List.count_cons]
  simp only [beq_iff_eq]

theorem LInv.promote {st : St} (h : LInv st) (x : Nat × Nat) (due : Nat) : LInv (st.promote x due) := by
  have e : (st.updSess x.2 Sess.reference).sids = st.sids := sids_updSess st x.2 _ (fun _ => rfl)
  unfold St.promote
  split
  · rename_i hx
    obtain ⟨live, hr, hc⟩ := h
    refine ⟨live, hr, fun i => ?_⟩
    -- the node's id leaves `partialIds` and enters `allocHids`: the objects are the same multiset, `live` stays the witness
    have h4 := count_map_erase st.partials x hx i
    rw [hc i, objects_count, objects_count, ← e]
    simp only [St.sids, St.allocHids, St.partialIds, St.updSess, List.filter_append, List.filter_cons, HKind.isAlloc, if_true,
      List.filter_nil, List.map_append, List.map_cons, List.map_nil, List.count_append, List.count_cons, List.count_nil,
      beq_iff_eq]
    omega
  · exact h

theorem PInv.promote {st : St} (h : PInv st) (x : Nat × Nat) (due : Nat) : PInv (st.promote x due) := by
  unfold St.promote
  split
  · intro y hy
    have hy' : y ∈ st.partials.erase x := hy
    obtain ⟨s, hs, e⟩ := h y (List.mem_of_mem_erase hy')
    exact live_updSess x.2 _ (fun _ => rfl) ⟨s, hs, e⟩
  · exact h

structure Inv (st : St) : Prop where
  H : HInv st
  S : SInv st
  L : LInv st
  P : PInv st

theorem Inv.closed : Closed Inv where
  benign st sid f h hf :=
    ⟨h.H.updSess_benign sid f (fun s => ⟨(hf s).1, (hf s).2.1⟩), h.S.updSess sid f (fun s => ⟨(hf s).1, (hf s).2.2⟩),
     h.L.updSess sid f (fun s => (hf s).1), h.P.updSess sid f (fun s => (hf s).1)⟩
  refRelease st sid h := by rw [refRelease_id]; exact h
  addHolder st sid k h hl := ⟨h.H.addHolder sid k hl, h.S.addHolder sid k, h.L.addHolder sid k, h.P.addHolder sid k⟩
  dropHolder st x h := ⟨h.H.dropHolder x, h.S.dropHolder x, h.L.dropHolder x, h.P.dropHolder x⟩
  reclaim st sid h := ⟨h.H.reclaim sid, h.S.reclaim sid, h.L.reclaim h.S sid, h.P.reclaim sid⟩
  clientFree st sid h := ⟨h.H.clientFree sid, h.S.clientFree sid, h.L.clientFree h.S sid, h.P.clientFree sid⟩
  addPartial st sid h hl :=
    ⟨h.H.addPartial sid, h.S.same rfl rfl rfl (Nat.le_succ _), h.L.addPartial sid, h.P.addPartial sid hl⟩
  dropPartial st sid h :=
    ⟨h.H.same rfl rfl (Nat.le_refl _), h.S.same rfl rfl rfl (Nat.le_refl _), h.L.dropPartial sid, h.P.dropPartial sid⟩
  promote st x due h hl := ⟨h.H.promote x due hl, h.S.promote x due, h.L.promote x due, h.P.promote x due⟩
  newSession st p h hl hp := ⟨h.H.newSession p, h.S.newSession h.H p hl hp, h.L.newSession p, h.P.newSession p⟩
  mapHolders st g h hg :=
    ⟨h.H.mapHolders g (fun x => (hg x).1), h.S.same rfl rfl rfl (Nat.le_refl _), h.L.mapHolders g hg, h.P.same rfl rfl⟩
  misc st now timeout maxIdle res dirty h :=
    ⟨h.H.same rfl rfl (Nat.le_refl _), h.S.same rfl rfl rfl (Nat.le_refl _), h.L.same rfl rfl rfl rfl rfl, h.P.same rfl rfl⟩
  teardownEnd st h :=
    ⟨h.H.same rfl rfl (Nat.le_refl _), h.S.same rfl rfl rfl (Nat.le_refl _), h.L.teardownEnd, h.P.same rfl rfl⟩
  newOwned st h :=
    ⟨h.H.same rfl rfl (Nat.le_succ _), h.S.same rfl rfl rfl (Nat.le_succ _), h.L.newOwned, h.P.same rfl rfl⟩

theorem Inv.closedIO : ClosedIO Inv := Inv.closed.io

theorem Inv.init (eps : List (Nat × Nat)) (nres : Nat) : Inv (St.init eps nres) := by
  refine ⟨HInv.init eps nres, ?_, ?_, fun x hx => by simp [St.init] at hx⟩
  · constructor
    · simp [St.init]
    · intro s hs; simp [St.init] at hs
    · intro x hx; simp [St.init, St.sids] at hx
    · intro x _; simp [St.init]
    · intro x hx; simp [St.init] at hx
  · refine ⟨_, runLedger_allocs _ [], ?_⟩
    intro i
    simp [St.init, St.objects, St.sids, St.allocHids, St.partialIds]

theorem Inv.run (eps : List (Nat × Nat)) (nres : Nat) (es : List Event) : Inv ((St.init eps nres).run es) :=
  Inv.closed.run (Inv.init eps nres) es

/-! ## teardown: nothing survives coap_free_context -/

theorem dropHolders_all (sid : Nat) : ∀ (xs : List Holder) (acc : St),
    xs.Perm (acc.holders.filter (fun h => h.sid == sid)) →
    (acc.dropHolders xs).holders.filter (fun h => h.sid == sid) = [] := by
  intro xs
  induction xs with
  | nil => intro acc hp; exact (List.nil_perm.mp hp)
  | cons x t ih =>
    intro acc hp
    obtain ⟨hx, ht⟩ := List.cons_perm_iff_perm_erase.mp hp
    have hx' : x ∈ acc.holders := (List.mem_filter.mp hx).1
    rw [dropHolders_cons]
    apply ih
    rw [holders_dropHolder_mem acc x hx', ← List.erase_filter]
    exact ht

def Sub (r a : St) : Prop := ∀ s ∈ r.sessions, ∃ s0 ∈ a.sessions, s0.sid = s.sid ∧ s0.peer = s.peer

theorem Sub.refl (a : St) : Sub a a := fun s hs => ⟨s, hs, rfl, rfl⟩

theorem Sub.reclaim (a : St) (sid : Nat) : Sub (a.reclaim sid) a := by
  rcases reclaim_cases a sid with e | ⟨_, _, _, _, e⟩ <;> rw [e]
  · exact Sub.refl a
  · exact fun s hs => ⟨s, (mem_unlink.mp hs).1, rfl, rfl⟩

/-- the sessions' keys: reference counts change during the teardown, identity and peer of a session never do -/
def St.keys (st : St) : List (Nat × Peer) := st.sessions.map fun s => (s.sid, s.peer)

theorem keys_dropHolder (a : St) (x : Holder) : (a.dropHolder x).keys = a.keys := by
  unfold St.dropHolder
  split
  · show ((a.updSess x.sid Sess.release).sessions.map _) = _
    unfold St.updSess
    rw [List.map_map]
    apply List.map_congr_left
    intro s _
    by_cases c : s.sid = x.sid <;> simp [c, Sess.release]
  · rfl

theorem keys_dropHolders (xs : List Holder) (a : St) : (a.dropHolders xs).keys = a.keys :=
  foldl_inv (fun b => b.keys = a.keys) (fun b x hb => (keys_dropHolder b x).trans hb) xs a rfl

theorem mem_reclaim_free {b : St} (h : Inv b) {sid : Nat} (hz : b.holds sid = 0) (t : Sess) :
    t ∈ (b.reclaim sid).sessions ↔ t ∈ b.sessions ∧ t.sid ≠ sid := by
  cases hg : b.getSess sid with
  | none =>
    have : b.reclaim sid = b := by unfold St.reclaim; rw [hg]
    rw [this]
    refine ⟨fun ht => ⟨ht, fun e => ?_⟩, And.left⟩
    rw [← e, getSess_of_mem h.S ht] at hg
    cases hg
  | some s =>
    obtain ⟨hs, e⟩ := getSess_some hg
    rw [reclaim_eq_unlink hg (by rw [h.H.ref s hs, e]; exact hz), mem_unlink]

theorem mem_keys_freeOne {a : St} (h : Inv a) (sid : Nat) (k : Nat × Peer) :
    k ∈ ((a.dropHolders (a.holders.filter fun h => h.sid == sid)).reclaim sid).keys ↔ k ∈ a.keys ∧ ¬ k.1 = sid := by
  have hz : (a.dropHolders (a.holders.filter fun h => h.sid == sid)).holds sid = 0 := by
    unfold St.holds
    rw [List.countP_eq_length_filter, dropHolders_all sid _ a (List.Perm.refl _)]; rfl
  rw [← keys_dropHolders (a.holders.filter fun h => h.sid == sid) a]
  simp only [St.keys, List.mem_map, mem_reclaim_free (Inv.closed.dropHolders h _) hz]
  constructor
  · rintro ⟨t, ⟨ht, hne⟩, rfl⟩; exact ⟨⟨t, ht, rfl⟩, hne⟩
  · rintro ⟨⟨t, ht, rfl⟩, hne⟩; exact ⟨t, ⟨ht, hne⟩, rfl⟩

/-- `coap_free_endpoint_lkd`: exactly the sessions of that endpoint go -/
theorem mem_keys_freeEndpoint {a : St} (h : Inv a) (ep : Nat × Nat) (k : Nat × Peer) :
    k ∈ (a.freeEndpoint ep).keys ↔ k ∈ a.keys ∧ ¬ (k.2.lport == ep.1 && k.2.proto == ep.2) = true := by
  unfold St.freeEndpoint
  rw [foldl_mem_iff St.keys Inv (fun sid (k : Nat × Peer) => k.1 = sid) _
    (fun _ sid hb => Inv.closed.reclaim _ _ (Inv.closed.dropHolders hb _)) (fun b sid k hb => mem_keys_freeOne hb sid k) _ a h k]
  refine and_congr_right fun hk => ?_
  obtain ⟨t, ht, rfl⟩ := List.mem_map.mp hk
  exact ⟨fun hn hx => hn t.sid ((sid_mem_epSessions h.S ht ep).mpr hx) rfl,
    fun hn sid hm (e : t.sid = sid) => hn ((sid_mem_epSessions h.S ht ep).mp (e ▸ hm))⟩

/-- after all endpoints have been freed no session and no holder is left: every session is on an endpoint of the context
    (`SInv.ep` of the state the teardown starts from) -/
theorem freeEndpoints_empty {a : St} (h : Inv a) :
    (a.eps.foldl St.freeEndpoint a).sessions = [] ∧ (a.eps.foldl St.freeEndpoint a).holders = [] := by
  have hs : (a.eps.foldl St.freeEndpoint a).sessions = [] := by
    apply List.eq_nil_iff_forall_not_mem.mpr
    intro s hs
    have hk := (foldl_mem_iff St.keys Inv (fun (ep : Nat × Nat) (k : Nat × Peer) => (k.2.lport == ep.1 && k.2.proto == ep.2) = true)
      St.freeEndpoint (fun _ ep hb => Inv.closed.freeEndpoint hb ep) (fun b ep k hb => mem_keys_freeEndpoint hb ep k) a.eps a h
      (s.sid, s.peer)).mp (List.mem_map.mpr ⟨s, hs, rfl⟩)
    obtain ⟨t, ht, e⟩ := List.mem_map.mp hk.1
    refine hk.2 _ (h.S.ep t ht) ?_
    rw [← e]; simp
  refine ⟨hs, List.eq_nil_iff_forall_not_mem.mpr fun x hx => ?_⟩
  obtain ⟨s, hs', _⟩ := (foldl_inv Inv (fun _ ep hb => Inv.closed.freeEndpoint hb ep) a.eps a h).H.live x hx
  rw [hs] at hs'
  exact absurd hs' List.not_mem_nil

theorem freeRest_empty {a : St} (h : Inv a) :
    ledgerOk a.freeRest.ledger = true ∧ a.freeRest.sessions = [] ∧ a.freeRest.holders = [] ∧ a.freeRest.partials = [] := by
  have hb : Inv (a.eps.foldl St.freeEndpoint a) := foldl_inv Inv (fun _ ep hb => Inv.closed.freeEndpoint hb ep) _ a h
  obtain ⟨hs, hh⟩ := freeEndpoints_empty h
  unfold St.freeRest
  generalize a.eps.foldl St.freeEndpoint a = b at hb hs hh ⊢
  have hp : b.partials = [] := by
    apply List.eq_nil_iff_forall_not_mem.mpr
    intro x hx
    obtain ⟨t, ht, _⟩ := hb.P x hx
    rw [hs] at ht
    exact absurd ht List.not_mem_nil
  refine ⟨?_, hs, hh, hp⟩
  obtain ⟨live, hr, hc⟩ := hb.L.teardownEnd
  have hnil : live = [] := by
    apply List.eq_nil_iff_forall_not_mem.mpr
    intro i hi
    have h1 : 0 < live.count i := List.count_pos_iff.mpr hi
    rw [hc i, objects_count] at h1
    have h2 : 0 < (b.sessions.map (·.sid)).count i + ((b.holders.filter (·.kind.isAlloc)).map (·.hid)).count i +
        ([] : List Nat).count i + (b.partials.map (·.1)).count i := h1
    rw [hs, hh, hp] at h2
    exact Nat.lt_irrefl 0 h2
  rw [ledgerOk_eq_true_iff, hr, hnil]

/-! ## holder counts across the observer primitives (for `reregistration_keeps_refcount`, `rst_releases_exactly_one`) -/

theorem holders_addHolder_obs (st : St) (sid k q tok n : Nat) :
    (st.addHolder sid (.obs k q tok n)).holders = st.holders ++ [⟨st.next, sid, .obs k q tok n⟩] := rfl

theorem holds_addHolder (st : St) (sid : Nat) (k : HKind) (y : Nat) :
    (st.addHolder sid k).holds y = st.holds y + (if sid = y then 1 else 0) := by
  unfold St.addHolder
  split <;> exact holds_append st _ y

/-- stated with `+ d` on the side of the later state, so that no truncated subtraction is involved -/
theorem ref_of_holds {st st' : St} (hI : Inv st) (hI' : Inv st') (d : Nat → Nat)
    (hh : ∀ y, st.holds y = st'.holds y + d y) :
    ∀ s ∈ st.sessions, ∀ t ∈ st'.sessions, t.sid = s.sid → s.ref = t.ref + d s.sid := by
  intro s hs t ht e
  rw [hI.H.ref s hs, hI'.H.ref t ht, e]; exact hh s.sid

theorem last_release_eq_unlink {st : St} (hI : Inv st) {x : Holder} (hx : x ∈ st.holders) {s : Sess} (hs : s ∈ st.sessions)
    (hsx : s.sid = x.sid) (hr : s.ref = 1) (hc : s.client = true) :
    st.releaseHolder x = (st.dropHolder x).unlink s.sid (.handed s.sid) := by
  unfold St.releaseHolder
  rw [← hsx]
  exact clientFree_eq_unlink (s := Sess.release s)
    (getSess_of_mem (Inv.closed.dropHolder _ _ hI).S (released_session_mem x hx s hs hsx)) (by simp [Sess.release, hr]) hc

end Coap.Sessions
