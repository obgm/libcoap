import CoapVerif.Lemmas.Block
import CoapVerif.Model.BlockXmit
/- The senders (Model/BlockXmit.lean): the follow-up steps `xmitB2Step` / `xmitB1Step` with the lg_xmit invariant `XmitInv`, the release
   callback (`adlRel`, the lg_xmit list `xlStep`), the first block message of coap_add_data_large_internal (`adlBody_first`,
   `adlBody_single`) and the parameters of the response path (`rspCfg_ok`). -/
namespace Coap.Block
open Coap.Spec.Block

theorem xmitB2Step_spec (x : LgXmit) (room num szx : Nat) (st' : Option LgXmit) (n m s : Nat) (p : Bytes)
    (h : xmitB2Step (some x) room num szx = (st', B2Out.block n m s p)) :
    n = num ∧ s = szx ∧ s = x.blkSize ∧ n < nBlocks x.data.length s ∧ p = slice x.data s n ∧
    m = more x.data.length s n ∧ 1 + p.length ≤ room ∧
    ∃ x', st' = some x' ∧ x'.data = x.data ∧ x'.blkSize = x.blkSize := by
  unfold xmitB2Step at h
  by_cases h0 : num = 0
  · rw [if_pos h0] at h; cases h
  · rw [if_neg h0] at h
    simp only at h
    by_cases hs : x.blkSize ≠ szx
    · rw [if_pos hs] at h; cases h
    · rw [if_neg hs] at h
      have hs' : x.blkSize = szx := Decidable.not_not.mp hs
      rw [addBlock_eq_slice] at h
      by_cases hk : num < nBlocks x.data.length x.blkSize
      · rw [if_pos hk] at h
        simp only at h
        by_cases hr : 1 + (slice x.data x.blkSize num).length > room
        · rw [if_pos hr] at h; cases h
        · rw [if_neg hr] at h
          cases h
          refine ⟨rfl, hs', rfl, hk, rfl, moreIf_eq _ _ _, by omega, _, rfl, rfl, rfl⟩
      · rw [if_neg hk] at h
        cases h

theorem xmitB2Step_state (x : LgXmit) (room num szx : Nat) :
    ∃ x', (xmitB2Step (some x) room num szx).1 = some x' ∧ x'.data = x.data ∧ x'.blkSize = x.blkSize := by
  unfold xmitB2Step
  by_cases h0 : num = 0
  · rw [if_pos h0]; exact ⟨x, rfl, rfl, rfl⟩
  · rw [if_neg h0]
    simp only
    by_cases hs : x.blkSize ≠ szx
    · rw [if_pos hs]; exact ⟨x, rfl, rfl, rfl⟩
    · rw [if_neg hs]
      cases addBlock x.data num x.blkSize with
      | none => exact ⟨_, rfl, rfl, rfl⟩
      | some p =>
        simp only
        split <;> exact ⟨_, rfl, rfl, rfl⟩

/-- the client's lg_xmit between two steps: the offset is a multiple of the block size, and the block there ends at most 1024
bytes (the largest block, SZX ≤ 6) behind the end of the body — with a body below 2^32 bytes the `uint32_t` block number of
`xmitB1Reneg` does not wrap -/
def XmitInv (x : LgXmit) : Prop :=
  x.offset % 2 ^ (x.blkSize + 4) = 0 ∧ x.offset + 2 ^ (x.blkSize + 4) ≤ x.data.length + 1024 ∧ x.blkSize ≤ 6

instance (x : LgXmit) : Decidable (XmitInv x) := by unfold XmitInv; exact inferInstance

theorem xmitB1Szx_facts (x : LgXmit) (szx : Nat) :
    xmitB1Szx x szx ≤ x.blkSize ∧ xmitB1Szx x szx ≤ szx ∧ (szx ≤ x.blkSize → xmitB1Szx x szx = szx) ∧
    (x.blkSize < szx → xmitB1Szx x szx = x.blkSize) := by
  unfold xmitB1Szx
  by_cases h : szx > x.blkSize
  · rw [if_pos h]; exact ⟨Nat.le_refl _, by omega, fun hh => by omega, fun _ => rfl⟩
  · rw [if_neg h]; exact ⟨by omega, Nat.le_refl _, fun _ => rfl, fun hh => by omega⟩

theorem xmit_aligned (x : LgXmit) (szx : Nat) (hinv : XmitInv x) (hle : szx ≤ x.blkSize) :
    2 ^ (szx + 4) ∣ x.offset + 2 ^ (x.blkSize + 4) := by
  have h1 : 2 ^ (szx + 4) ∣ 2 ^ (x.blkSize + 4) :=
    ⟨2 ^ (x.blkSize - szx), (chunk_scale szx x.blkSize hle).trans (Nat.mul_comm _ _)⟩
  exact Nat.dvd_add (Nat.dvd_trans h1 (Nat.dvd_of_mod_eq_zero hinv.1)) h1

theorem xmitB1Reneg_keeps (x : LgXmit) (num szx : Nat) :
    (xmitB1Reneg x num szx).1.data = x.data ∧ (xmitB1Reneg x num szx).1.lastBlock = x.lastBlock := by
  unfold xmitB1Reneg
  simp only
  split
  · split
    · exact ⟨rfl, rfl⟩
    · split <;> exact ⟨rfl, rfl⟩
  · exact ⟨rfl, rfl⟩

theorem xmitB1Reneg_spec (x : LgXmit) (num szx : Nat) (hinv : XmitInv x) :
    (xmitB1Reneg x num szx).1.blkSize = xmitB1Szx x szx := by
  obtain ⟨_, _, f3, f4⟩ := xmitB1Szx_facts x szx
  unfold xmitB1Reneg
  simp only
  by_cases hne : szx ≠ x.blkSize
  · rw [if_pos hne]
    by_cases hgt : szx > x.blkSize
    · rw [if_pos hgt]
      exact (f4 hgt).symm
    · rw [if_neg hgt, if_pos (Nat.mod_eq_zero_of_dvd (xmit_aligned x szx hinv (Nat.le_of_not_lt hgt)))]
      exact (f3 (Nat.le_of_not_lt hgt)).symm
  · rw [if_neg hne, f3 (Nat.le_of_eq (Classical.not_not.mp hne))]
    exact (Classical.not_not.mp hne).symm

theorem xmitB1Next_spec (x1 : LgXmit) (room num szx : Nat) (st' : Option LgXmit) (n m s : Nat) (p : Bytes)
    (h : xmitB1Next x1 room num szx = (st', B1Out.sendNext n m s p)) :
    n = num + 1 ∧ s = szx ∧ n < nBlocks x1.data.length s ∧ p = slice x1.data s n ∧ 1 + p.length ≤ room ∧
    m = (if n * 2 ^ (x1.blkSize + 4) + 2 ^ (x1.blkSize + 4) < x1.data.length then 1 else 0) ∧
    st' = some { x1 with lastBlock := some num, offset := n * 2 ^ (x1.blkSize + 4) } := by
  unfold xmitB1Next at h
  simp only at h
  by_cases hd : isDupAck x1.lastBlock num = true
  · rw [if_pos hd] at h; cases h
  · rw [if_neg hd] at h
    by_cases hlt : (num + 1) * 2 ^ (x1.blkSize + 4) < x1.data.length
    · rw [if_pos hlt, addBlock_eq_slice] at h
      by_cases hk : num + 1 < nBlocks x1.data.length szx
      · rw [if_pos hk] at h
        simp only at h
        by_cases hroom : 1 + (slice x1.data szx (num + 1)).length > room
        · rw [if_pos hroom] at h; cases h
        · rw [if_neg hroom] at h
          cases h
          exact ⟨rfl, rfl, hk, rfl, by omega, rfl, rfl⟩
      · rw [if_neg hk] at h
        cases h
    · rw [if_neg hlt] at h
      cases h

theorem xmitB1Step_spec (x : LgXmit) (room : Nat) (ok : Bool) (blk : Option (Nat × Nat)) (st' : Option LgXmit)
    (n m s : Nat) (p : Bytes) (h : xmitB1Step x room ok blk = (st', B1Out.sendNext n m s p)) :
    n < nBlocks x.data.length s ∧ p = slice x.data s n ∧ 1 + p.length ≤ room ∧
    (∃ num0 szx, blk = some (num0, szx) ∧ s = xmitB1Szx x szx) ∧
    (XmitInv x → m = more x.data.length s n ∧
      ∃ x', st' = some x' ∧ x'.data = x.data ∧ x'.blkSize = s ∧ x'.lastBlock = some (n - 1) ∧ 1 ≤ n ∧
        x'.offset = n * 2 ^ (s + 4)) := by
  unfold xmitB1Step at h
  cases ok with
  | false => simp only at h; cases h
  | true =>
    cases blk with
    | none => simp only at h; cases h
    | some b =>
      obtain ⟨num0, szx⟩ := b
      simp only at h
      obtain ⟨e1, e2, e3, e4, e5, e6, e7⟩ := xmitB1Next_spec _ room _ _ st' n m s p h
      have hdata := (xmitB1Reneg_keeps x num0 szx).1
      rw [hdata] at e3 e4
      refine ⟨e3, e4, e5, ⟨num0, szx, rfl, e2⟩, ?_⟩
      intro hinv
      have r1 := xmitB1Reneg_spec x num0 szx hinv
      rw [← e2] at r1
      rw [r1, hdata] at e6
      refine ⟨by rw [e6]; exact moreIf_eq _ _ _, _, e7, hdata, r1, ?_, by omega, ?_⟩
      · show some (xmitB1Reneg x num0 szx).2 = some (n - 1)
        congr 1; omega
      · show n * 2 ^ ((xmitB1Reneg x num0 szx).1.blkSize + 4) = n * 2 ^ (s + 4)
        rw [r1]

theorem xmitB1Reneg_inv (x : LgXmit) (num szx : Nat) (hinv : XmitInv x) (hlen : x.data.length < 2 ^ 32) :
    XmitInv (xmitB1Reneg x num szx).1 := by
  obtain ⟨i1, i2, i3⟩ := hinv
  unfold xmitB1Reneg
  simp only
  by_cases hne : szx ≠ x.blkSize
  · rw [if_pos hne]
    by_cases hgt : szx > x.blkSize
    · rw [if_pos hgt]; exact ⟨i1, i2, i3⟩        -- "ignoring request to increase Block size"
    rw [if_neg hgt]
    have hle : szx ≤ x.blkSize := Nat.le_of_not_lt hgt
    have h3 := xmit_aligned x szx ⟨i1, i2, i3⟩ hle
    rw [if_pos (Nat.mod_eq_zero_of_dvd h3)]
    have hc' : 0 < 2 ^ (szx + 4) := Nat.two_pow_pos _
    have hle' : 2 ^ (szx + 4) ≤ 2 ^ (x.blkSize + 4) := Nat.pow_le_pow_right (by decide) (by omega)
    have hq : ((x.offset + 2 ^ (x.blkSize + 4)) / 2 ^ (szx + 4) - 1) * 2 ^ (szx + 4) =
        x.offset + 2 ^ (x.blkSize + 4) - 2 ^ (szx + 4) := by
      rw [Nat.sub_mul, Nat.div_mul_cancel h3, Nat.one_mul]
    have hsmall : (x.offset + 2 ^ (x.blkSize + 4)) / 2 ^ (szx + 4) - 1 < 2 ^ 32 := by
      have : (x.offset + 2 ^ (x.blkSize + 4)) / 2 ^ (szx + 4) ≤ (x.offset + 2 ^ (x.blkSize + 4)) / 16 := by
        apply Nat.div_le_div_left _ (by decide)
        have : 2 ^ 4 ≤ 2 ^ (szx + 4) := Nat.pow_le_pow_right (by decide) (by omega)
        omega
      omega
    rw [Nat.mod_eq_of_lt hsmall]
    refine ⟨?_, ?_, by show szx ≤ 6; omega⟩
    · show ((x.offset + 2 ^ (x.blkSize + 4)) / 2 ^ (szx + 4) - 1) * 2 ^ (szx + 4) % 2 ^ (szx + 4) = 0
      exact Nat.mul_mod_left _ _
    · show ((x.offset + 2 ^ (x.blkSize + 4)) / 2 ^ (szx + 4) - 1) * 2 ^ (szx + 4) + 2 ^ (szx + 4) ≤ x.data.length + 1024
      rw [hq]
      omega
  · rw [if_neg hne]
    exact ⟨i1, i2, i3⟩

theorem xmitB1Step_inv (x : LgXmit) (room : Nat) (ok : Bool) (blk : Option (Nat × Nat)) (x' : LgXmit)
    (hinv : XmitInv x) (hlen : x.data.length < 2 ^ 32)
    (h : (xmitB1Step x room ok blk).1 = some x') :
    XmitInv x' ∧ x'.data = x.data ∧ x'.blkSize ≤ x.blkSize ∧
      ∃ num szx, blk = some (num, szx) ∧ x'.blkSize = xmitB1Szx x szx := by
  unfold xmitB1Step at h
  cases ok with
  | false => simp only at h; cases h
  | true =>
    cases blk with
    | none => simp only at h; cases h
    | some b =>
      obtain ⟨num0, szx⟩ := b
      have hle := (xmitB1Szx_facts x szx).1
      simp only at h
      have hrs := And.intro (xmitB1Reneg_spec x num0 szx hinv) (xmitB1Reneg_keeps x num0 szx)
      have hri := xmitB1Reneg_inv x num0 szx hinv hlen
      generalize hr : xmitB1Reneg x num0 szx = r at h hrs hri
      obtain ⟨x1, num⟩ := r
      simp only at h hrs hri
      obtain ⟨r1, r2, r3⟩ := hrs
      obtain ⟨j1, j2, j3⟩ := hri
      unfold xmitB1Next at h
      simp only at h
      by_cases hd : isDupAck x1.lastBlock num = true
      · rw [if_pos hd] at h
        cases h
        exact ⟨⟨j1, j2, j3⟩, r2, by omega, num0, szx, rfl, r1⟩
      · rw [if_neg hd] at h
        by_cases hlt : (num + 1) * 2 ^ (x1.blkSize + 4) < x1.data.length
        · rw [if_pos hlt] at h
          cases ha : addBlock x1.data (num + 1) (xmitB1Szx x szx) with
          | none => rw [ha] at h; cases h
          | some p =>
            rw [ha] at h
            simp only at h
            by_cases hroom : 1 + p.length > room
            · rw [if_pos hroom] at h; cases h
            · rw [if_neg hroom] at h
              cases h
              have hc : 2 ^ (x1.blkSize + 4) ≤ 2 ^ 10 := Nat.pow_le_pow_right (by decide) (by omega)
              refine ⟨⟨?_, ?_, j3⟩, r2, by show x1.blkSize ≤ x.blkSize; omega, num0, szx, rfl, r1⟩
              · show (num + 1) * 2 ^ (x1.blkSize + 4) % 2 ^ (x1.blkSize + 4) = 0
                exact Nat.mul_mod_left _ _
              · show (num + 1) * 2 ^ (x1.blkSize + 4) + 2 ^ (x1.blkSize + 4) ≤ x1.data.length + 1024
                omega
        · rw [if_neg hlt] at h
          cases h

theorem xmitB1Step_sendNext (x : LgXmit) (room : Nat) (ok : Bool) (blk : Option (Nat × Nat)) (n m sx : Nat) (p : Bytes) :
    xmitB1Step x room ok blk ≠ (none, B1Out.sendNext n m sx p) := by
  unfold xmitB1Step
  split
  · unfold xmitB1Next
    dsimp only
    split
    · simp
    · split
      · split
        · simp
        · split <;> simp
      · simp
  · simp
  · simp

/-! ## the release callback -/

/-- `(calls, linked)` accounts for the callback exactly once -/
def RelOnce (r : Nat × Bool) : Prop := r.1 + (if r.2 then 1 else 0) = 1

/-- what the four `adlRel…_spec` below conclude at a failing exit (`adlRel… = (1, false)`, `adl… = none`) -/
theorem relOnce_fail : RelOnce (1, false) ∧
    (((1, false) : Nat × Bool).2 = true ↔ ∃ r : AdlRes, (none : Option AdlRes) = some r ∧ r.lgXmit = true) :=
  ⟨rfl, fun h => (nomatch h), fun ⟨_, hr, _⟩ => nomatch hr⟩

theorem adlRelFinish_spec (maxSize tokOpts rem : Nat) (lg : Bool) (b : Nat) (bv : Option Nat) :
    RelOnce (adlRelFinish maxSize tokOpts rem lg) ∧
    ((adlRelFinish maxSize tokOpts rem lg).2 = true ↔
      ∃ r, adlFinish maxSize tokOpts rem lg b bv = some r ∧ r.lgXmit = true) := by
  unfold adlRelFinish adlFinish RelOnce
  by_cases hc : rem ≠ 0 ∧ tokOpts + 1 + rem > maxSize
  · rw [if_pos hc, if_pos hc]
    exact relOnce_fail
  · rw [if_neg hc, if_neg hc]
    cases lg with
    | true =>
      refine ⟨rfl, ?_⟩
      constructor
      · intro _; exact ⟨_, rfl, rfl⟩
      · intro _; rfl
    | false =>
      refine ⟨rfl, ?_⟩
      constructor
      · intro h; cases h
      · intro h; obtain ⟨r, hr, hl⟩ := h; cases hr; cases hl

theorem adlRelLgTail_spec (maxSize tokLen base d b2 length extra : Nat) (sb : BlockB) :
    RelOnce (adlRelLgTail maxSize tokLen base d b2 length extra sb) ∧
    ((adlRelLgTail maxSize tokLen base d b2 length extra sb).2 = true ↔
      ∃ r, adlLgTail maxSize tokLen base d b2 length extra sb = some r ∧ r.lgXmit = true) := by
  unfold adlRelLgTail adlLgTail
  simp only
  split
  · split
    · exact relOnce_fail
    · exact adlRelFinish_spec _ _ _ _ _ _
  · exact adlRelFinish_spec _ _ _ _ _ _

theorem adlRelBody_spec (maxSize tokLen base d tokOpts0 b2 length extra : Nat) (blk : Option Nat) :
    RelOnce (adlRelBody maxSize tokLen base d tokOpts0 b2 length extra blk) ∧
    ((adlRelBody maxSize tokLen base d tokOpts0 b2 length extra blk).2 = true ↔
      ∃ r, adlBody maxSize tokLen base d tokOpts0 b2 length extra blk = some r ∧ r.lgXmit = true) := by
  unfold adlRelBody adlBody
  simp only
  split
  · exact relOnce_fail
  · split
    · cases setupBlockB maxSize (tokOpts0 + extra) 0 b2 length with
      | none => exact relOnce_fail
      | some sb => exact adlRelLgTail_spec _ _ _ _ _ _ _ _
    · unfold adlNoBlock
      exact adlRelFinish_spec _ _ _ _ _ _

/-- `coap_add_data_large_internal`: on EVERY exit path the application's release callback has either been called
exactly once (and no lg_xmit holds it), or not at all and exactly one lg_xmit linked into the session holds it;
the second case is exactly the multi-block result of `addDataLarge` -/
theorem adlRel_spec (maxSize tokLen optBytes lastOpt : Nat) (blk : Option Nat) (maxBlk length rtagLen : Nat) :
    RelOnce (adlRel maxSize tokLen optBytes lastOpt blk maxBlk length rtagLen) ∧
    ((adlRel maxSize tokLen optBytes lastOpt blk maxBlk length rtagLen).2 = true ↔
      ∃ r, addDataLarge maxSize tokLen optBytes lastOpt blk maxBlk length rtagLen = some r ∧ r.lgXmit = true) := by
  unfold adlRel addDataLarge
  exact adlRelBody_spec _ _ _ _ _ _ _ _ _

/-- every lg_xmit ever linked is either still linked or has had its callback run, never both, never twice -/
def XlInv (s : XlState) : Prop := (s.1 ++ s.2).Nodup

theorem xlStep_inv (s : XlState) (e : XlEvent) (h : XlInv s) : XlInv (xlStep s e) := by
  unfold XlInv at *
  cases e with
  | create id =>
    simp only [xlStep]
    by_cases hc : id ∈ s.1 ∨ id ∈ s.2
    · rw [if_pos hc]; exact h
    · rw [if_neg hc]
      show (id :: (s.1 ++ s.2)).Nodup
      refine List.nodup_cons.mpr ⟨?_, h⟩
      intro hm
      rcases List.mem_append.mp hm with hm | hm
      · exact hc (Or.inl hm)
      · exact hc (Or.inr hm)
  | delete id =>
    simp only [xlStep]
    by_cases hc : id ∈ s.1
    · rw [if_pos hc]
      show (s.1.erase id ++ id :: s.2).Nodup
      have p1 : (s.1.erase id ++ id :: s.2).Perm (id :: (s.1.erase id ++ s.2)) := List.perm_middle
      have p2 : (id :: s.1.erase id).Perm s.1 := (List.perm_cons_erase hc).symm
      have p3 : (id :: (s.1.erase id ++ s.2)).Perm (s.1 ++ s.2) := List.Perm.append_right s.2 p2
      exact (List.Perm.nodup_iff (p1.trans p3)).mpr h
    · rw [if_neg hc]; exact h
  | sessionFree =>
    simp only [xlStep]
    show ([] ++ (s.1 ++ s.2)).Nodup
    rw [List.nil_append]; exact h

theorem xlStep_mem (s : XlState) (e : XlEvent) (id : Nat) (h : id ∈ s.1 ∨ id ∈ s.2) :
    id ∈ (xlStep s e).1 ∨ id ∈ (xlStep s e).2 := by
  cases e with
  | create id' =>
    simp only [xlStep]
    split
    · exact h
    · rcases h with h | h
      · exact Or.inl (List.mem_cons_of_mem _ h)
      · exact Or.inr h
  | delete id' =>
    simp only [xlStep]
    split
    · rcases h with h | h
      · by_cases he : id = id'
        · exact Or.inr (by rw [he]; exact List.mem_cons_self)
        · exact Or.inl ((List.mem_erase_of_ne he).mpr h)
      · exact Or.inr (List.mem_cons_of_mem _ h)
    · exact h
  | sessionFree =>
    simp only [xlStep]
    right
    rcases h with h | h
    · exact List.mem_append_left _ h
    · exact List.mem_append_right _ h

theorem xlFold_inv (evs : List XlEvent) (s : XlState) : XlInv s → XlInv (evs.foldl xlStep s) :=
  foldl_inv XlInv xlStep_inv evs s

theorem xlFold_mem (evs : List XlEvent) (s : XlState) (id : Nat) : (id ∈ s.1 ∨ id ∈ s.2) →
    id ∈ (evs.foldl xlStep s).1 ∨ id ∈ (evs.foldl xlStep s).2 :=
  foldl_inv (fun s => id ∈ s.1 ∨ id ∈ s.2) (fun s e => xlStep_mem s e id) evs s

theorem xlFold_created : ∀ (evs : List XlEvent) (s : XlState) (id : Nat), XlEvent.create id ∈ evs →
    id ∈ (evs.foldl xlStep s).1 ∨ id ∈ (evs.foldl xlStep s).2
  | [], _, _, h => by cases h
  | e :: evs, s, id, h => by
    rw [List.mem_cons] at h
    rcases h with h | h
    · subst h
      have hm : id ∈ (xlStep s (XlEvent.create id)).1 ∨ id ∈ (xlStep s (XlEvent.create id)).2 := by
        simp only [xlStep]
        split
        · assumption
        · exact Or.inl List.mem_cons_self
      exact xlFold_mem evs _ id hm
    · exact xlFold_created evs _ id h

/-! ## the first block message (coap_add_data_large_internal, lg_xmit branch) -/

/-- the multi-block exit of `adlBody` on the request or the response path: `d`, `extra`, `tokOpts0` are parameters -/
theorem adlBody_first (maxSize tokLen base d tokOpts0 b2 length extra : Nat) (blk : Option Nat) (r : AdlRes)
    (hms : maxSize < 2 ^ 62) (hlen : length < 2 ^ 32) (htok : tokOpts0 ≤ base + 43)
    (hb2 : (16 : Int) ≤ adlAvail maxSize tokOpts0 tokLen → ((2 ^ (b2 + 4) : Nat) : Int) ≤ adlAvail maxSize tokOpts0 tokLen)
    (h : adlBody maxSize tokLen base d tokOpts0 b2 length extra blk = some r) (hlg : r.lgXmit = true) :
    r.blockVal = some (blockValue 0 1 r.blkSize) ∧ r.payload = 2 ^ (r.blkSize + 4) ∧ 2 ^ (r.blkSize + 4) < length ∧
    r.blkSize ≤ b2 := by
  obtain ⟨h1, ⟨h2, sb, hsb, h⟩ | h⟩ := adlBody_cases h
  · -- the body is longer than one block of the size chosen
    have hL : 2 ^ (b2 + 4) < length := by
      rcases h2 with h2 | h2
      · exact h2.2
      · by_cases h16 : adlAvail maxSize tokOpts0 tokLen < 16
        · exact (h1 ⟨h16, Or.inl h2⟩).elim
        · have := hb2 (by omega)
          omega
    obtain ⟨hnum, hmeq⟩ := setup_zero _ _ _ _ sb (Nat.lt_trans hlen (by decide)) hsb
    have hm : sb.m = 1 := by
      rw [hmeq, if_pos (Nat.lt_of_le_of_lt (setup_chunk_le _ _ _ _ _ _ hsb) hL)]
    unfold adlLgTail at h
    dsimp only at h
    rw [hnum, hm, Nat.zero_mul, Nat.zero_mod] at h
    have hv1 : 1 ≤ optEncodeSize d (varLen (blockValue 0 1 sb.aszx)) := by
      unfold optEncodeSize; omega
    generalize hA : adlAvail maxSize (base + optEncodeSize d (varLen (blockValue 0 1 sb.aszx)) + extra) tokLen = A at h
    rw [adlAvail_eq] at hA
    by_cases hred : A < ↑(2 ^ (b2 + 4) : Nat)
    · rw [if_pos hred] at h
      by_cases h16 : A < 16
      · rw [if_pos h16] at h; cases h
      · rw [if_neg h16] at h
        have hch := adlBlkSize_chunk A (by omega) (by omega)
        generalize adlBlkSize A = b3 at *
        obtain ⟨rfl, _⟩ := adlFinish_spec h
        have hlt : 2 ^ (b3 + 4) < 2 ^ (b2 + 4) := by omega
        exact ⟨rfl, Nat.min_eq_left (Nat.le_of_lt (Nat.lt_trans hlt hL)), Nat.lt_trans hlt hL,
          Nat.le_of_lt (Nat.lt_of_add_lt_add_right (pow_lt_imp _ _ hlt))⟩
    · rw [if_neg hred] at h
      -- `setup_block_b` has not reduced the size: a block fits behind `base`, the Block option and `extra` with the Echo reserve
      -- (43 bytes, `adlAvail`) to spare, and `tokOpts0` exceeds `base` by at most those 43 (`htok`: the Block option handed in)
      obtain ⟨n1, n2, n3⟩ := setup_noreduce maxSize (tokOpts0 + extra) 0 b2 length sb (by omega) (by omega) hsb
      obtain ⟨rfl, _⟩ := adlFinish_spec h
      dsimp only
      rw [n2, n3]
      exact ⟨rfl, Nat.min_eq_left (Nat.le_of_lt hL), hL, Nat.le_refl _⟩
  · unfold adlNoBlock at h
    obtain ⟨rfl, _⟩ := adlFinish_spec h
    cases hlg

theorem adl_b2_le (A : Int) (b2 : Nat) (hb : b2 ≤ adlBlkSize A) (h16 : 16 ≤ A) (hA : A < 2 ^ 63) :
    ((2 ^ (b2 + 4) : Nat) : Int) ≤ A := by
  have hch := adlBlkSize_chunk A h16 hA
  have : 2 ^ (b2 + 4) ≤ 2 ^ (adlBlkSize A + 4) := Nat.pow_le_pow_right (by decide) (by omega)
  omega

theorem blkOpt_le_43 (d x : Nat) : optEncodeSize d (varLen x) ≤ 43 := by
  have hv := varLen_le x
  unfold optEncodeSize
  rw [if_neg (by omega : ¬ varLen x ≥ 13)]
  split <;> (try split) <;> omega

theorem adlBlkSize_le6 (A : Int) : adlBlkSize A ≤ 6 := by
  unfold adlBlkSize
  dsimp only
  generalize ((((if A < 0 then (64 : Int) else ((flsll A.toNat : Nat) : Int)) - 5) % 256).toNat) = b
  split <;> omega

theorem addDataLarge_first (maxSize tokLen optBytes lastOpt : Nat) (blk : Option Nat) (maxBlk length rtagLen : Nat)
    (r : AdlRes) (hms : maxSize < 2 ^ 62) (hlen : length < 2 ^ 32)
    (h : addDataLarge maxSize tokLen optBytes lastOpt blk maxBlk length rtagLen = some r) (hlg : r.lgXmit = true) :
    r.blockVal = some (blockValue 0 1 r.blkSize) ∧ r.payload = 2 ^ (r.blkSize + 4) ∧
    2 ^ (r.blkSize + 4) < length ∧ r.blkSize ≤ 6 := by
  unfold addDataLarge at h
  dsimp only at h
  cases blk with
  | none =>
    simp only at h
    have hb : (if maxBlk ≠ 0 ∧ adlBlkSize (adlAvail maxSize (tokLen + optBytes + 0) tokLen) > maxBlk then maxBlk
        else adlBlkSize (adlAvail maxSize (tokLen + optBytes + 0) tokLen)) ≤
        adlBlkSize (adlAvail maxSize (tokLen + optBytes + 0) tokLen) := by split <;> omega
    obtain ⟨a, b, c, d⟩ := adlBody_first _ _ _ _ _ _ _ _ _ r hms hlen (by omega)
      (by intro h16
          exact adl_b2_le _ _ hb h16 (adlAvail_lt hms _ _)) h hlg
    have := adlBlkSize_le6 (adlAvail maxSize (tokLen + optBytes + 0) tokLen)
    exact ⟨a, b, c, by omega⟩
  | some s =>
    simp only at h
    have ho := blkOpt_le_43 (27 - lastOpt) (blockValue 0 0 s)
    generalize hA : adlAvail maxSize (tokLen + optBytes + optEncodeSize (27 - lastOpt) (varLen (blockValue 0 0 s))) tokLen = A at h
    have hb : (if s < (if maxBlk ≠ 0 ∧ adlBlkSize A > maxBlk then maxBlk else adlBlkSize A) then s
        else (if maxBlk ≠ 0 ∧ adlBlkSize A > maxBlk then maxBlk else adlBlkSize A)) ≤ adlBlkSize A := by
      split <;> split <;> omega
    obtain ⟨a, b, c, d⟩ := adlBody_first _ _ _ _ _ _ _ _ _ r hms hlen (by omega)
      (by intro h16
          rw [hA] at h16 ⊢
          exact adl_b2_le _ _ hb h16 (hA ▸ adlAvail_lt hms _ _)) h hlg
    have := adlBlkSize_le6 A
    exact ⟨a, b, c, by omega⟩

theorem adlBody_single (maxSize tokLen base d tokOpts0 b2 length extra : Nat) (blk : Option Nat) (r : AdlRes)
    (h : adlBody maxSize tokLen base d tokOpts0 b2 length extra blk = some r) (hlg : r.lgXmit = false) :
    r.payload = length := by
  rcases (adlBody_cases h).2 with ⟨_, sb, _, h⟩ | h
  · unfold adlLgTail at h
    dsimp only at h
    split at h
    · split at h
      · cases h
      · obtain ⟨rfl, _⟩ := adlFinish_spec h
        cases hlg
    · obtain ⟨rfl, _⟩ := adlFinish_spec h
      cases hlg
  · unfold adlNoBlock at h
    obtain ⟨rfl, _⟩ := adlFinish_spec h
    rfl

theorem addDataLarge_single (maxSize tokLen optBytes lastOpt : Nat) (blk : Option Nat) (maxBlk length rtagLen : Nat)
    (r : AdlRes) (h : addDataLarge maxSize tokLen optBytes lastOpt blk maxBlk length rtagLen = some r)
    (hlg : r.lgXmit = false) : r.payload = length := by
  unfold addDataLarge at h
  exact adlBody_single _ _ _ _ _ _ _ _ _ r h hlg

/-! ## the parameters of the response path (`rspCfg`) -/

theorem writeBlockBOpt_opt_le (maxSize tokOpts num szx dataLen : Nat) (b : BlockB) (val : Bytes)
    (h : writeBlockBOpt maxSize tokOpts num szx dataLen = WriteRes.ok b val) (d : Nat) :
    optEncodeSize d val.length ≤ 43 := by
  unfold writeBlockBOpt at h
  dsimp only at h
  split at h
  · cases h
  · cases hsb : setupBlockB maxSize tokOpts num szx dataLen with
    | none => rw [hsb] at h; cases h
    | some sb =>
      rw [hsb] at h
      simp only at h
      cases h
      unfold encodeBlock encodeVar
      rw [length_encodeVarAux]
      exact blkOpt_le_43 _ _

theorem writeOk_some (w : WriteRes) (b : BlockB) (val : Bytes) (h : writeOk w = some (b, val)) : w = WriteRes.ok b val := by
  cases w with
  | ok b' val' => simp only [writeOk] at h; cases h; rfl
  | illegal => simp only [writeOk] at h; cases h
  | nospace => simp only [writeOk] at h; cases h

/-- the response path's parameters (`rspCfg`, tied to coap_add_data_large_response through `addDataLargeRsp` and the T2
op `xmit2`) satisfy what `B2ParOK` asks of `cfg` -/
theorem rspCfg_ok (maxSize tokLen optBytes lastOpt maxBlk length etagLen : Nat) (hms : maxSize < 2 ^ 62)
    (szx : Nat) (c : AdlCfg) (h : rspCfg maxSize tokLen optBytes lastOpt maxBlk length etagLen szx = some c) :
    c.maxSize < 2 ^ 62 ∧ c.tokOpts0 ≤ c.base + 43 ∧
    ((16 : Int) ≤ adlAvail c.maxSize c.tokOpts0 c.tokLen →
      ((2 ^ (c.b2 + 4) : Nat) : Int) ≤ adlAvail c.maxSize c.tokOpts0 c.tokLen) ∧ c.b2 ≤ 6 := by
  unfold rspCfg at h
  obtain ⟨p, hp, hc⟩ := Option.map_eq_some_iff.mp h
  obtain ⟨b, val⟩ := p
  have hw := writeOk_some _ b val hp
  have hopt := writeBlockBOpt_opt_le _ _ _ _ _ b val hw (23 - lastOpt)
  rw [← hc]
  unfold rspCfgOf
  dsimp only
  generalize hA : adlAvail maxSize (tokLen + optBytes + optEncodeSize (23 - lastOpt) val.length) tokLen = A
  have hb6 := adlBlkSize_le6 A
  have hb2 : (if b.aszx < (if maxBlk ≠ 0 ∧ adlBlkSize A > maxBlk then maxBlk else adlBlkSize A) then b.aszx
      else (if maxBlk ≠ 0 ∧ adlBlkSize A > maxBlk then maxBlk else adlBlkSize A)) ≤ adlBlkSize A := by
    split <;> split <;> omega
  refine ⟨hms, by omega, ?_, by omega⟩
  intro h16
  exact adl_b2_le _ _ hb2 h16 (hA ▸ adlAvail_lt hms _ _)

end Coap.Block
