import CoapVerif.Model.Sessions
import CoapVerif.Util
/-
C12 helper lemmas, part 1 (namespace Coap.Sessions): the ledger monitor against its specification; the reference-count
invariant `HInv` under the primitives; `St.unlink`, the one way a session ends, behind `St.reclaim` and `St.clientFree`;
`foldl_mem_iff`: a loop that only removes is a filter.
-/
namespace Coap.Sessions

theorem pairwise_mem {α : Type} {R : α → α → Prop} {l : List α} (h : l.Pairwise R) {a b : α} (ha : a ∈ l) (hb : b ∈ l) :
    a = b ∨ R a b ∨ R b a := by
  induction l with
  | nil => simp at ha
  | cons x t ih =>
    rw [List.pairwise_cons] at h
    rcases List.mem_cons.mp ha with rfl | ha' <;> rcases List.mem_cons.mp hb with rfl | hb'
    · exact Or.inl rfl
    · exact Or.inr (Or.inl (h.1 b hb'))
    · exact Or.inr (Or.inr (h.1 a ha'))
    · exact ih h.2 ha' hb'

/-- a loop that only removes is a filter: if every step keeps exactly the members of `S` it does not select (`R`), the fold
    keeps exactly the members no step selects (`P`: what the steps may assume; the walked list may depend on the start) -/
theorem foldl_mem_iff {α β γ : Type} (S : α → List γ) (P : α → Prop) (R : β → γ → Prop) (f : α → β → α)
    (hP : ∀ a b, P a → P (f a b)) (hf : ∀ a b t, P a → (t ∈ S (f a b) ↔ t ∈ S a ∧ ¬ R b t)) :
    ∀ (l : List β) (a : α), P a → ∀ t, t ∈ S (l.foldl f a) ↔ t ∈ S a ∧ ∀ b ∈ l, ¬ R b t := by
  intro l
  induction l with
  | nil => intro a _ t; simp
  | cons b r ih =>
    intro a ha t
    rw [List.foldl_cons, ih (f a b) (hP a b ha) t, hf a b t ha]
    simp only [List.mem_cons, forall_eq_or_imp, and_assoc]

/-! ## the ledger monitor against its declarative specification -/

def allocs (i : Nat) (tr : List AllocEvent) : Nat := tr.count (.alloc i)
def frees (i : Nat) (tr : List AllocEvent) : Nat := tr.count (.free i)

/-- every `free i` in the trace comes after an `alloc i` -/
def NoFreeOfUnallocated (tr : List AllocEvent) : Prop :=
  ∀ p i q, tr = p ++ .free i :: q → 0 < allocs i p
/-- a `free i` of something that was allocated finds it still allocated: not every earlier allocation of `i`
    has already been freed -/
def NoDoubleFree (tr : List AllocEvent) : Prop :=
  ∀ p i q, tr = p ++ .free i :: q → 0 < allocs i p → frees i p < allocs i p
/-- at the end every allocation has been freed -/
def NothingLiveAtEnd (tr : List AllocEvent) : Prop := ∀ i, allocs i tr ≤ frees i tr

@[simp] theorem allocs_nil (i : Nat) : allocs i [] = 0 := rfl
@[simp] theorem frees_nil (i : Nat) : frees i [] = 0 := rfl
@[simp] theorem allocs_cons_alloc (i j : Nat) (t : List AllocEvent) :
    allocs i (.alloc j :: t) = allocs i t + (if j = i then 1 else 0) := by
  simp [allocs, List.count_cons]
@[simp] theorem allocs_cons_free (i j : Nat) (t : List AllocEvent) : allocs i (.free j :: t) = allocs i t := by
  simp [allocs]
@[simp] theorem frees_cons_free (i j : Nat) (t : List AllocEvent) :
    frees i (.free j :: t) = frees i t + (if j = i then 1 else 0) := by
  simp [frees, List.count_cons]
@[simp] theorem frees_cons_alloc (i j : Nat) (t : List AllocEvent) : frees i (.alloc j :: t) = frees i t := by
  simp [frees]
theorem allocs_append (i : Nat) (a b : List AllocEvent) : allocs i (a ++ b) = allocs i a + allocs i b := by
  simp [allocs, List.count_append]
theorem frees_append (i : Nat) (a b : List AllocEvent) : frees i (a ++ b) = frees i a + frees i b := by
  simp [frees, List.count_append]

theorem count_erase_nat (l : List Nat) (i j : Nat) : (l.erase j).count i = l.count i - (if j = i then 1 else 0) := by
  rw [List.count_erase]; simp

theorem runLedger_count (tr : List AllocEvent) :
    ∀ l l', runLedger tr l = some l' → ∀ i, l'.count i + frees i tr = l.count i + allocs i tr := by
  induction tr with
  | nil => intro l l' h i; simp [runLedger] at h; simp [h]
  | cons e t ih =>
    intro l l' h i
    cases e with
    | alloc j =>
      have := ih (j :: l) l' (by simpa [runLedger] using h) i
      simp [List.count_cons] at this ⊢
      omega
    | free j =>
      by_cases hj : j ∈ l
      · have := ih (l.erase j) l' (by simpa [runLedger, hj] using h) i
        rw [count_erase_nat] at this
        have hc : 0 < l.count j := List.count_pos_iff.mpr hj
        by_cases hji : j = i
        · subst hji; simp at this ⊢; omega
        · simp [hji] at this ⊢; omega
      · simp [runLedger, hj] at h

theorem runLedger_append (a b : List AllocEvent) : ∀ l, runLedger (a ++ b) l = (runLedger a l).bind (runLedger b) := by
  induction a with
  | nil => intro l; rfl
  | cons e t ih =>
    intro l
    cases e with
    | alloc j => simp [runLedger, ih]
    | free j => by_cases hj : j ∈ l <;> simp [runLedger, hj, ih]

theorem runLedger_allocs (l : List Nat) : ∀ live, runLedger (l.map .alloc) live = some (l.reverse ++ live) := by
  induction l with
  | nil => intro live; rfl
  | cons a t ih => intro live; simp [runLedger, ih]

theorem runLedger_frees : ∀ (C : List Nat) (L : List AllocEvent) (live A : List Nat),
    runLedger L [] = some live → (∀ i, live.count i = A.count i + C.count i) →
    ∃ live', runLedger (L ++ C.map .free) [] = some live' ∧ ∀ i, live'.count i = A.count i := by
  intro C
  induction C with
  | nil => intro L live A hr hc; exact ⟨live, by simpa using hr, by simpa using hc⟩
  | cons j t ih =>
    intro L live A hr hc
    have hm : j ∈ live := List.count_pos_iff.mp (by have := hc j; simp at this; omega)
    have := ih (L ++ [.free j]) (live.erase j) A (by rw [runLedger_append, hr]; simp [runLedger, hm])
      (by intro i; rw [count_erase_nat, hc, List.count_cons]; simp; split <;> omega)
    simpa using this

/-- the monitor accepts a trace iff every free has more earlier allocations than earlier frees of its id: after a prefix `p`
    the live multiset holds `i` exactly `allocs i p - frees i p` times (`runLedger_count`) -/
theorem runLedger_isSome_iff (tr : List AllocEvent) :
    (∃ l', runLedger tr [] = some l') ↔ NoFreeOfUnallocated tr ∧ NoDoubleFree tr := by
  constructor
  · intro ⟨l', h⟩
    have key : ∀ p i q, tr = p ++ .free i :: q → frees i p < allocs i p := by
      intro p i q hs
      rw [hs, runLedger_append] at h
      cases hp : runLedger p [] with
      | none => rw [hp] at h; cases h
      | some m =>
        have hc := runLedger_count p [] m hp i
        rw [hp] at h
        by_cases hi : i ∈ m
        · have := List.count_pos_iff.mpr hi
          simp at hc; omega
        · simp [runLedger, hi] at h
    exact ⟨fun p i q hs => by have := key p i q hs; omega, fun p i q hs _ => key p i q hs⟩
  · intro ⟨h1, h2⟩
    -- over the rest `r` of the trace, for every prefix `p` that has run through
    suffices ∀ r p m, tr = p ++ r → runLedger p [] = some m → ∃ l', runLedger r m = some l' from this tr [] [] rfl rfl
    intro r
    induction r with
    | nil => intro p m _ _; exact ⟨m, rfl⟩
    | cons e r ih =>
      intro p m hs hp
      have hs' : tr = (p ++ [e]) ++ r := by rw [hs]; simp
      cases e with
      | alloc j => exact ih (p ++ [.alloc j]) (j :: m) hs' (by rw [runLedger_append, hp]; rfl)
      | free j =>
        have hc := runLedger_count p [] m hp j
        have := h2 p j r hs (h1 p j r hs)
        have hj : j ∈ m := List.count_pos_iff.mp (by simp at hc; omega)
        have := ih (p ++ [.free j]) (m.erase j) hs' (by rw [runLedger_append, hp]; simp [runLedger, hj])
        simpa [runLedger, hj] using this

theorem ledgerOk_eq_true_iff (tr : List AllocEvent) : ledgerOk tr = true ↔ runLedger tr [] = some [] := by
  unfold ledgerOk
  cases h : runLedger tr [] with
  | none => simp
  | some l => cases l <;> simp

/-! ## reference counts against holders -/

/-- `session->ref` is the number of holder objects pointing at the session, and every holder points at a session that is in a
    table.  `fresh`: session ids are serials already handed out, so no holder points at the id the next session will get. -/
structure HInv (st : St) : Prop where
  ref : ∀ s ∈ st.sessions, s.ref = st.holds s.sid
  live : ∀ h ∈ st.holders, ∃ s ∈ st.sessions, s.sid = h.sid
  fresh : ∀ s ∈ st.sessions, s.sid < st.next

@[simp] theorem updSess_holders (st : St) (sid : Nat) (f : Sess → Sess) : (st.updSess sid f).holders = st.holders := rfl
@[simp] theorem updSess_next (st : St) (sid : Nat) (f : Sess → Sess) : (st.updSess sid f).next = st.next := rfl
@[simp] theorem updSess_holds (st : St) (sid : Nat) (f : Sess → Sess) (x : Nat) : (st.updSess sid f).holds x = st.holds x := rfl

theorem mem_updSess {st : St} {sid : Nat} {f : Sess → Sess} {t : Sess} :
    t ∈ (st.updSess sid f).sessions ↔ ∃ s ∈ st.sessions, (if s.sid = sid then f s else s) = t := by
  simp [St.updSess, List.mem_map]

theorem mem_updSess_cases {st : St} {sid : Nat} {f : Sess → Sess} {t : Sess} (ht : t ∈ (st.updSess sid f).sessions) :
    (∃ s ∈ st.sessions, s.sid = sid ∧ t = f s) ∨ (t ∈ st.sessions ∧ t.sid ≠ sid) := by
  obtain ⟨s, hs, rfl⟩ := mem_updSess.mp ht
  by_cases c : s.sid = sid
  · rw [if_pos c]; exact Or.inl ⟨s, hs, c, rfl⟩
  · rw [if_neg c]; exact Or.inr ⟨hs, c⟩

theorem updSess_sid_lt {st : St} {n : Nat} (sid : Nat) {f : Sess → Sess} (hf : ∀ s, (f s).sid = s.sid)
    (h : ∀ s ∈ st.sessions, s.sid < n) : ∀ t ∈ (st.updSess sid f).sessions, t.sid < n := by
  intro t ht
  rcases mem_updSess_cases ht with ⟨s, hs, _, rfl⟩ | ⟨ht, _⟩
  · rw [hf]; exact h s hs
  · exact h t ht

theorem live_updSess {st : St} {x : Nat} (sid : Nat) (f : Sess → Sess) (hf : ∀ s, (f s).sid = s.sid)
    (hl : ∃ s ∈ st.sessions, s.sid = x) : ∃ s ∈ (st.updSess sid f).sessions, s.sid = x := by
  obtain ⟨s, hs, e⟩ := hl
  refine ⟨if s.sid = sid then f s else s, mem_updSess.mpr ⟨s, hs, rfl⟩, ?_⟩
  by_cases c : s.sid = sid
  · simp only [c, if_true]; rw [hf]; exact e
  · simp only [c, if_false]; exact e

theorem HInv.updSess_benign {st : St} (h : HInv st) (sid : Nat) (f : Sess → Sess)
    (hf : ∀ s, (f s).sid = s.sid ∧ (f s).ref = s.ref) : HInv (st.updSess sid f) := by
  constructor
  · intro t ht
    rcases mem_updSess_cases ht with ⟨s, hs, _, rfl⟩ | ⟨ht, _⟩
    · rw [(hf s).2, (hf s).1]; exact h.ref s hs
    · exact h.ref t ht
  · exact fun x hx => live_updSess sid f (fun s => (hf s).1) (h.live x hx)
  · exact updSess_sid_lt sid (fun s => (hf s).1) h.fresh

theorem holds_append (st : St) (x : Holder) (sid : Nat) :
    (st.holders ++ [x]).countP (fun h => h.sid == sid) = st.holds sid + (if x.sid = sid then 1 else 0) := by
  simp [St.holds, List.countP_append, List.countP_cons]

/-- a new holder `y` of a live session together with the reference it takes keeps the books, whatever its ledger id and
    wherever it comes from (a new object: `St.addHolder`; a delayed node that is queued: `St.promote`) -/
theorem HInv.referenced {st st' : St} (h : HInv st) (y : Holder) (hl : ∃ s ∈ st.sessions, s.sid = y.sid)
    (hs : st'.sessions = (st.updSess y.sid Sess.reference).sessions) (hh : st'.holders = st.holders ++ [y])
    (hn : st.next ≤ st'.next) : HInv st' := by
  constructor
  · intro t ht
    rw [hs] at ht
    unfold St.holds
    rw [hh, holds_append]
    rcases mem_updSess_cases ht with ⟨s, hs, c, rfl⟩ | ⟨ht, c⟩
    · show s.ref + 1 = st.holds s.sid + (if y.sid = s.sid then 1 else 0)
      rw [if_pos c.symm, h.ref s hs]
    · rw [if_neg fun e => c e.symm]; exact h.ref t ht
  · intro x hx
    rw [hh] at hx
    rw [hs]
    rcases List.mem_append.mp hx with hx1 | hx1
    · exact live_updSess y.sid _ (fun _ => rfl) (h.live x hx1)
    · rw [List.mem_singleton.mp hx1]; exact live_updSess y.sid _ (fun _ => rfl) hl
  · rw [hs]
    exact updSess_sid_lt y.sid (fun _ => rfl) fun s hs => Nat.lt_of_lt_of_le (h.fresh s hs) hn

theorem HInv.addHolder {st : St} (h : HInv st) (sid : Nat) (k : HKind) (hl : ∃ s ∈ st.sessions, s.sid = sid) :
    HInv (st.addHolder sid k) := by
  unfold St.addHolder
  split
  · exact h.referenced ⟨st.next, sid, k⟩ hl rfl rfl (Nat.le_succ _)
  · exact h.referenced ⟨0, sid, k⟩ hl rfl rfl (Nat.le_refl _)

theorem countP_erase_mem (l : List Holder) (x : Holder) (p : Holder → Bool) (hx : x ∈ l) :
    l.countP p = (l.erase x).countP p + (if p x then 1 else 0) := by
  rw [(List.perm_cons_erase hx).countP_eq p, List.countP_cons]

theorem HInv.dropHolder {st : St} (h : HInv st) (x : Holder) : HInv (st.dropHolder x) := by
  unfold St.dropHolder
  split
  · rename_i hx
    constructor
    · intro t ht
      rcases mem_updSess_cases ht with ⟨s, hs, c, rfl⟩ | ⟨ht, c⟩
      · have e := countP_erase_mem st.holders x (fun y => y.sid == s.sid) hx
        rw [if_pos (beq_iff_eq.mpr c.symm), ← St.holds, ← h.ref s hs] at e
        show s.ref - 1 = List.countP (fun y => y.sid == s.sid) (st.holders.erase x)
        omega
      · have e := countP_erase_mem st.holders x (fun y => y.sid == t.sid) hx
        rw [if_neg fun e => c (beq_iff_eq.mp e).symm, ← St.holds, ← h.ref t ht] at e
        exact e
    · exact fun y hy => live_updSess x.sid _ (fun _ => rfl) (h.live y (List.mem_of_mem_erase hy))
    · exact updSess_sid_lt x.sid (fun _ => rfl) h.fresh
  · exact h

theorem HInv.dropHolders {st : St} (h : HInv st) (xs : List Holder) : HInv (st.dropHolders xs) :=
  foldl_inv HInv (fun _ x ha => ha.dropHolder x) xs st h

theorem dropHolders_cons (st : St) (x : Holder) (t : List Holder) :
    st.dropHolders (x :: t) = (st.dropHolder x).dropHolders t := rfl

theorem holders_dropHolder_mem (st : St) (x : Holder) (hx : x ∈ st.holders) :
    (st.dropHolder x).holders = st.holders.erase x := by
  unfold St.dropHolder; simp [hx]

theorem holds_dropHolder (st : St) (x : Holder) (hx : x ∈ st.holders) (y : Nat) :
    st.holds y = (st.dropHolder x).holds y + (if x.sid = y then 1 else 0) := by
  have e := countP_erase_mem st.holders x (fun h => h.sid == y) hx
  unfold St.holds
  rw [holders_dropHolder_mem st x hx, e]
  simp

theorem home_not_alloc {k : HKind} (h : isHome k = true) : k.isAlloc = false := by
  cases k <;> simp [isHome, HKind.isAlloc] at h ⊢

theorem dropHolder_home {st : St} {x : Holder} (hx : x ∈ st.holders) (hk : isHome x.kind = true) :
    st.dropHolder x = { (st.updSess x.sid Sess.release) with holders := st.holders.erase x, ledger := st.ledger } := by
  unfold St.dropHolder
  rw [if_pos hx, home_not_alloc hk]
  rfl

theorem released_session_mem {st : St} (x : Holder) (hx : x ∈ st.holders) (s : Sess) (hs : s ∈ st.sessions)
    (hsx : s.sid = x.sid) : Sess.release s ∈ (st.dropHolder x).sessions := by
  unfold St.dropHolder
  rw [if_pos hx]
  exact mem_updSess.mpr ⟨s, hs, by simp [hsx]⟩

theorem getSess_some {st : St} {sid : Nat} {s : Sess} (h : st.getSess sid = some s) : s ∈ st.sessions ∧ s.sid = sid := by
  unfold St.getSess at h
  exact ⟨List.mem_of_find?_eq_some h, by simpa using List.find?_some h⟩

theorem lookup_some {st : St} {p : Peer} {s : Sess} (h : st.lookup p = some s) : s ∈ st.sessions ∧ s.peer = p := by
  unfold St.lookup at h
  exact ⟨List.mem_of_find?_eq_some h, by simpa using List.find?_some h⟩

theorem Sess.idle_iff {s : Sess} : s.idle = true ↔ s.ref = 0 ∧ s.delayq = 0 ∧ s.client = false := by
  unfold Sess.idle; simp

theorem holds_zero_iff (st : St) (sid : Nat) : st.holds sid = 0 ↔ ∀ h ∈ st.holders, h.sid ≠ sid := by
  simp [St.holds, List.countP_eq_zero]

/-- `coap_session_free` when it goes through: what hangs off the session is released, the session is unlinked from its
    table and freed; `ev` is what the event log gets -/
def St.unlink (st : St) (sid : Nat) (ev : SEvent) : St :=
  { (st.dropPartial sid) with
    events := st.events ++ [ev], sessions := st.sessions.filter (fun t => t.sid ≠ sid),
    ledger := (st.dropPartial sid).ledger ++ [.free sid] }

/-- the two ends a session can take: SERVER_SESSION_DEL (`St.reclaim`) or the silent free of a client session
    (`St.clientFree`) -/
def SEvent.Ends (ev : SEvent) (sid : Nat) : Prop := ev = .del sid ∨ ev = .handed sid

theorem mem_unlink {st : St} {sid : Nat} {ev : SEvent} {t : Sess} :
    t ∈ (st.unlink sid ev).sessions ↔ t ∈ st.sessions ∧ t.sid ≠ sid := by
  show t ∈ st.sessions.filter (fun t => t.sid ≠ sid) ↔ _
  rw [List.mem_filter, decide_eq_true_iff]

theorem reclaim_eq_unlink {st : St} {sid : Nat} {s : Sess} (hg : st.getSess sid = some s) (hr : s.ref = 0) :
    st.reclaim sid = st.unlink sid (.del sid) := by
  unfold St.reclaim
  rw [hg]
  exact if_neg (fun c => c hr)

theorem clientFree_eq_unlink {st : St} {sid : Nat} {s : Sess} (hg : st.getSess sid = some s) (hr : s.ref = 0)
    (hc : s.client = true) : st.clientFree sid = st.unlink sid (.handed sid) := by
  unfold St.clientFree
  rw [hg]
  exact if_neg (by simp [hr, hc])

theorem reclaim_eq_self {st : St} {sid : Nat} {s : Sess} (hg : st.getSess sid = some s) (hr : s.ref ≠ 0) :
    st.reclaim sid = st := by
  unfold St.reclaim
  rw [hg]
  exact if_pos hr

theorem clientFree_eq_self {st : St} {sid : Nat} {s : Sess} (hg : st.getSess sid = some s)
    (hc : s.client = false ∨ s.ref ≠ 0) : st.clientFree sid = st := by
  unfold St.clientFree
  rw [hg]
  refine if_pos ?_
  rcases hc with hc | hc
  · rw [hc]; simp
  · simp [hc]

theorem reclaim_cases (st : St) (sid : Nat) :
    st.reclaim sid = st ∨ ∃ s ∈ st.sessions, s.sid = sid ∧ s.ref = 0 ∧ st.reclaim sid = st.unlink sid (.del sid) := by
  cases hg : st.getSess sid with
  | none => left; unfold St.reclaim; rw [hg]
  | some s =>
    by_cases hr : s.ref = 0
    · exact Or.inr ⟨s, (getSess_some hg).1, (getSess_some hg).2, hr, reclaim_eq_unlink hg hr⟩
    · exact Or.inl (reclaim_eq_self hg hr)

theorem clientFree_cases (st : St) (sid : Nat) :
    st.clientFree sid = st ∨
    ∃ s ∈ st.sessions, s.sid = sid ∧ s.ref = 0 ∧ s.client = true ∧ st.clientFree sid = st.unlink sid (.handed sid) := by
  cases hg : st.getSess sid with
  | none => left; unfold St.clientFree; rw [hg]
  | some s =>
    by_cases hc : s.ref = 0 ∧ s.client = true
    · exact Or.inr ⟨s, (getSess_some hg).1, (getSess_some hg).2, hc.1, hc.2, clientFree_eq_unlink hg hc.1 hc.2⟩
    · refine Or.inl (clientFree_eq_self hg ?_)
      cases hcl : s.client
      · exact Or.inl rfl
      · exact Or.inr (fun hr => hc ⟨hr, hcl⟩)

theorem clientFree_sub {st : St} {sid : Nat} {t : Sess} (ht : t ∈ (st.clientFree sid).sessions) : t ∈ st.sessions := by
  rcases clientFree_cases st sid with e | ⟨_, _, _, _, _, e⟩ <;> rw [e] at ht
  · exact ht
  · exact (mem_unlink.mp ht).1

theorem unlink_closed {P : St → Prop} {st : St} (h : P st)
    (hu : ∀ s ∈ st.sessions, s.ref = 0 → ∀ ev, ev.Ends s.sid → P (st.unlink s.sid ev)) (sid : Nat) :
    P (st.reclaim sid) ∧ P (st.clientFree sid) := by
  constructor
  · rcases reclaim_cases st sid with e | ⟨s, hs, rfl, hr, e⟩ <;> rw [e]
    · exact h
    · exact hu s hs hr _ (Or.inl rfl)
  · rcases clientFree_cases st sid with e | ⟨s, hs, rfl, hr, _, e⟩ <;> rw [e]
    · exact h
    · exact hu s hs hr _ (Or.inr rfl)

/-- freeing only happens at reference count 0, hence (by the invariant) when nothing points at the session -/
theorem HInv.unlink {st : St} (h : HInv st) {s : Sess} (hs : s ∈ st.sessions) (hr : s.ref = 0) (ev : SEvent) :
    HInv (st.unlink s.sid ev) := by
  have hz : st.holds s.sid = 0 := by rw [← h.ref s hs]; exact hr
  constructor
  · intro t ht
    exact h.ref t (mem_unlink.mp ht).1
  · intro y hy
    obtain ⟨t, ht, e⟩ := h.live y hy
    exact ⟨t, mem_unlink.mpr ⟨ht, e ▸ (holds_zero_iff st s.sid).mp hz y hy⟩, e⟩
  · intro t ht
    exact h.fresh t (mem_unlink.mp ht).1

theorem HInv.reclaim {st : St} (h : HInv st) (sid : Nat) : HInv (st.reclaim sid) :=
  (unlink_closed h (fun _ hs hr ev _ => h.unlink hs hr ev) sid).1

theorem HInv.clientFree {st : St} (h : HInv st) (sid : Nat) : HInv (st.clientFree sid) :=
  (unlink_closed h (fun _ hs hr ev _ => h.unlink hs hr ev) sid).2

theorem HInv.holder_sid_lt {st : St} (h : HInv st) {x : Holder} (hx : x ∈ st.holders) : x.sid < st.next := by
  obtain ⟨s, hs, e⟩ := h.live x hx
  rw [← e]; exact h.fresh s hs

theorem mem_newSession {st : St} {p : Peer} {t : Sess} (ht : t ∈ (st.newSession p).sessions) :
    t ∈ st.sessions ∨ t = ⟨st.next, st.nsess, p, 0, st.now, 0, 0, 0, false, 0, false⟩ := by
  rcases List.mem_append.mp ht with h1 | h1
  · exact Or.inl h1
  · exact Or.inr (List.mem_singleton.mp h1)

theorem HInv.newSession {st : St} (h : HInv st) (p : Peer) : HInv (st.newSession p) := by
  unfold St.newSession
  constructor
  · intro t ht
    show _ = List.countP _ st.holders
    rcases mem_newSession ht with h1 | rfl
    · exact h.ref t h1
    · symm
      apply List.countP_eq_zero.mpr
      intro y hy
      have := h.holder_sid_lt hy
      simp; omega
  · intro y hy
    obtain ⟨t, ht, e⟩ := h.live y hy
    exact ⟨t, List.mem_append.mpr (Or.inl ht), e⟩
  · intro t ht
    show _ < st.next + 1
    rcases mem_newSession ht with h1 | rfl
    · have := h.fresh t h1; omega
    · simp

theorem updSess_updSess (st : St) (sid : Nat) (f g : Sess → Sess) (hf : ∀ s, (f s).sid = s.sid) :
    (st.updSess sid f).updSess sid g = st.updSess sid (fun s => g (f s)) := by
  simp only [St.updSess, List.map_map]
  congr 1
  apply List.map_congr_left
  intro s _
  by_cases c : s.sid = sid <;> simp [c, hf]

/-- `coap_session_reference_lkd(s); … coap_session_release_lkd(s);` around the body of the loop changes nothing -/
theorem refRelease_id (st : St) (sid : Nat) : (st.updSess sid Sess.reference).updSess sid Sess.release = st := by
  rw [updSess_updSess st sid Sess.reference Sess.release (fun _ => rfl)]
  unfold St.updSess
  have : (st.sessions.map fun s => if s.sid = sid then Sess.release (Sess.reference s) else s) = st.sessions := by
    conv => rhs; rw [← List.map_id st.sessions]
    apply List.map_congr_left
    intro s _
    by_cases c : s.sid = sid
    · cases s; simp_all [Sess.reference, Sess.release]
    · simp [c]
  rw [this]

theorem HInv.refRelease {st : St} (h : HInv st) (sid : Nat) :
    HInv ((st.updSess sid Sess.reference).updSess sid Sess.release) := by
  rw [refRelease_id]; exact h

theorem HInv.mapHolders {st : St} (h : HInv st) (g : Holder → Holder) (hg : ∀ x, (g x).sid = x.sid) :
    HInv { st with holders := st.holders.map g } := by
  constructor
  · intro t ht
    show _ = List.countP _ (st.holders.map g)
    rw [List.countP_map]
    have : ((fun y : Holder => y.sid == t.sid) ∘ g) = (fun y : Holder => y.sid == t.sid) := by
      funext y; simp [hg]
    rw [this]; exact h.ref t ht
  · intro y hy
    have hy' : y ∈ st.holders.map g := hy
    obtain ⟨x, hx, rfl⟩ := List.mem_map.mp hy'
    obtain ⟨t, ht, e⟩ := h.live x hx
    exact ⟨t, ht, by rw [hg]; exact e⟩
  · exact h.fresh

theorem HInv.same {st st' : St} (h : HInv st) (h1 : st'.sessions = st.sessions) (h2 : st'.holders = st.holders)
    (hn : st.next ≤ st'.next) : HInv st' := by
  constructor
  · intro t ht; rw [h1] at ht; unfold St.holds; rw [h2]; exact h.ref t ht
  · intro y hy; rw [h2] at hy; rw [h1]; exact h.live y hy
  · intro t ht; rw [h1] at ht; exact Nat.lt_of_lt_of_le (h.fresh t ht) hn

theorem HInv.addPartial {st : St} (h : HInv st) (sid : Nat) : HInv (st.addPartial sid) :=
  h.same rfl rfl (Nat.le_succ _)

/-- the temporary reference of the RST branch (`reference … delete observer … release`) leaves exactly the effect of
    deleting the observer: the bracketing pair cancels (the reference comes first, so no truncation at 0) -/
theorem rstCancel_eq (st : St) (sid : Nat) (x : Holder) (hx : x ∈ st.holders) :
    ((st.updSess sid Sess.reference).dropHolder x).updSess sid Sess.release = st.dropHolder x := by
  unfold St.dropHolder
  simp only [updSess_holders, hx, if_true]
  simp only [St.updSess, List.map_map]
  congr 1
  apply List.map_congr_left
  intro s _
  by_cases c : s.sid = sid
  · subst c
    by_cases d : s.sid = x.sid
    · simp [← d, Sess.reference, Sess.release]
    · simp [d, Sess.reference, Sess.release]
  · by_cases d : s.sid = x.sid
    · simp [c, ← d, Sess.release]
    · simp [c, d]

theorem findHolder_some {st : St} {sid : Nat} {pred : HKind → Bool} {x : Holder} (h : st.findHolder sid pred = some x) :
    x ∈ st.holders ∧ x.sid = sid ∧ pred x.kind = true := by
  unfold St.findHolder at h
  refine ⟨List.mem_of_find?_eq_some h, ?_⟩
  simpa using List.find?_some h

theorem setNote_isAlloc (k : HKind) (n : Nat) : (k.setNote n).isAlloc = k.isAlloc := by cases k <;> rfl

theorem live_dropHolder {st : St} {x : Nat} (y : Holder) (hl : ∃ s ∈ st.sessions, s.sid = x) :
    ∃ s ∈ (st.dropHolder y).sessions, s.sid = x := by
  unfold St.dropHolder
  split
  · exact live_updSess y.sid _ (fun _ => rfl) hl
  · exact hl

theorem serve_cases (st : St) (sid : Nat) (r : Req) :
    st.serve sid r = st ∨ (∃ k, st.serve sid r = st.addHolder sid k) ∨
    (∃ x k, x.sid = sid ∧ st.serve sid r = (st.dropHolder x).addHolder x.sid k) ∨
    (∃ x, x.sid = sid ∧ st.serve sid r = st.dropHolder x) := by
  unfold St.serve
  cases r with
  | plain => exact Or.inl rfl
  | obsReg k q tok =>
    dsimp only
    split
    · unfold St.addObserver
      split
      · exact Or.inl rfl
      · split
        · rename_i old ho
          have e := (findHolder_some ho).2.1
          exact Or.inr (Or.inr (Or.inl ⟨old, _, e, by rw [e]⟩))
        · exact Or.inr (Or.inl ⟨_, rfl⟩)
    · exact Or.inl rfl
  | obsDereg k q tok =>
    dsimp only
    unfold St.delObserverReq
    split
    · rename_i x hx
      exact Or.inr (Or.inr (Or.inr ⟨x, (findHolder_some hx).2.1, rfl⟩))
    · split
      · rename_i x hx
        exact Or.inr (Or.inr (Or.inr ⟨x, (findHolder_some hx).2.1, rfl⟩))
      · exact Or.inl rfl
  | async =>
    dsimp only
    split
    · exact Or.inl rfl
    · exact Or.inr (Or.inl ⟨_, rfl⟩)
  | slow d dur =>
    dsimp only
    split
    · exact Or.inl rfl
    · exact Or.inr (Or.inl ⟨_, rfl⟩)

theorem HInv.init (eps : List (Nat × Nat)) (nres : Nat) : HInv (St.init eps nres) := by
  constructor <;> intro x hx <;> simp [St.init] at hx

/-! ## the scan for the oldest idle session; histories -/

theorem oldestOf_cons (s : Sess) (t : List Sess) (acc : Option Sess) :
    ∃ m, oldestOf (s :: t) acc = oldestOf t (some m) ∧ (m = s ∨ acc = some m) ∧ m.last ≤ s.last ∧
      ∀ a, acc = some a → m.last ≤ a.last := by
  cases acc with
  | none => exact ⟨s, rfl, Or.inl rfl, Nat.le_refl _, fun _ h => nomatch h⟩
  | some a =>
    by_cases c : s.last < a.last
    · exact ⟨s, by simp [oldestOf, c], Or.inl rfl, Nat.le_refl _, fun b hb => by cases hb; omega⟩
    · exact ⟨a, by simp [oldestOf, c], Or.inr rfl, by omega, fun b hb => by cases hb; exact Nat.le_refl _⟩

theorem oldestOf_spec : ∀ (l : List Sess) (acc : Option Sess), (acc.isSome ∨ l ≠ []) →
    ∃ o, oldestOf l acc = some o ∧ (o ∈ l ∨ acc = some o) ∧ (∀ s ∈ l, o.last ≤ s.last) ∧
      (∀ a, acc = some a → o.last ≤ a.last) := by
  intro l
  induction l with
  | nil =>
    intro acc h
    cases acc with
    | none => simp at h
    | some a => exact ⟨a, rfl, Or.inr rfl, by simp, by intro b hb; cases hb; exact Nat.le_refl _⟩
  | cons s t ih =>
    intro acc _
    obtain ⟨m, e, hm, hms, hma⟩ := oldestOf_cons s t acc
    obtain ⟨o, h1, h2, h3, h4⟩ := ih (some m) (Or.inl rfl)
    have hom := h4 m rfl
    refine ⟨o, e ▸ h1, ?_, ?_, fun a ha => Nat.le_trans hom (hma a ha)⟩
    · rcases h2 with h2 | h2
      · exact Or.inl (List.mem_cons_of_mem _ h2)
      · cases h2
        rcases hm with rfl | hm
        · exact Or.inl List.mem_cons_self
        · exact Or.inr hm
    · intro x hx
      rcases List.mem_cons.mp hx with rfl | hx
      · exact Nat.le_trans hom hms
      · exact h3 x hx

theorem run_freed (st : St) (hf : st.freed = true) (es : List Event) : st.run es = st :=
  foldl_inv (fun b => b = st) (fun b e hb => by rw [hb]; unfold St.step; rw [if_pos hf]) es st rfl

theorem run_append (st : St) (a b : List Event) : st.run (a ++ b) = (st.run a).run b := by
  unfold St.run; rw [List.foldl_append]

/-! ## the two halves of `coap_free_context_lkd` -/

/-- coap_free_context_lkd up to the endpoints: the observers, the send queue and the async entries let go -/
def St.freeHolders (st : St) : St :=
  let st1 := st.releaseHolders (st.holders.filter fun h => isAnyObs h.kind)
  let st2 := st1.releaseHolders (st1.holders.filter fun h => isNode h.kind)
  st2.releaseHolders (st2.holders.filter fun h => isAsync h.kind)

/-- … and from the endpoints on: every session of every endpoint, then the context's own objects -/
def St.freeRest (a : St) : St :=
  { ((a.eps.foldl St.freeEndpoint a).freeObjs (a.eps.foldl St.freeEndpoint a).ctxObjs) with
    ctxObjs := [], resAlive := [], freed := true }

theorem step_freeContext {st : St} (hf : st.freed = false) : (st.step .freeContext).1 = st.freeHolders.freeRest := by
  unfold St.step
  rw [if_neg (by rw [hf]; decide)]
  rfl

end Coap.Sessions
