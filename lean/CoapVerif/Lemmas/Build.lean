import CoapVerif.Lemmas.BuildDefs
/- The foot of the M-side chain of C01 and C04: libcoap's option / token / message headers are S's (`optEncode_eq`, `serialise_conc`),
the builders on the representing PDU are the abstract message operations, and the list and splice facts the editors rest on
(`le_lastNum`, `splice_mid`). -/
namespace Coap
open Coap.M

/-- `UInt8.ofNat_mod_size` with the modulus written as in the model, for `simp` -/
theorem ofNat_mod256 (n : Nat) : UInt8.ofNat (n % 256) = UInt8.ofNat n := UInt8.ofNat_mod_size

theorem ge13_ite (d : Nat) : (if d ≥ 13 then (if d < 269 then 1 else 2) else 0) = (Spec.extBytes d).length := by
  rw [extBytes_length]
  by_cases h1 : d < 13
  · have : ¬ d ≥ 13 := by omega
    simp [h1, this]
  · have : d ≥ 13 := by omega
    simp [h1, this]

theorem extBytes_len_le (n : Nat) : (Spec.extBytes n).length ≤ 2 := by
  unfold Spec.extBytes; split
  · simp
  · split <;> simp

theorem optEncodeSize_eq (d l : Nat) :
    optEncodeSize d l = 1 + (Spec.extBytes d).length + (Spec.extBytes l).length + l := by
  unfold optEncodeSize
  rw [ge13_ite, ge13_ite]

/-- the delta half of `coap_opt_setheader`: high nibble and extension bytes are the RFC's, for every delta (the bytes
are taken mod 256 either way) -/
theorem setHeader_delta (d : Nat) :
    ((if d < 13 then ((d * 16) % 256, []) else if d < 269 then (0xd0, [(d - 13) % 256])
      else (0xe0, [(d - 269) / 256 % 256, (d - 269) % 256]) : Nat × List Nat).1 = Spec.nib d * 16) ∧
    ((if d < 13 then ((d * 16) % 256, []) else if d < 269 then (0xd0, [(d - 13) % 256])
      else (0xe0, [(d - 269) / 256 % 256, (d - 269) % 256]) : Nat × List Nat).2.map UInt8.ofNat = Spec.extBytes d) := by
  by_cases h1 : d < 13
  · rw [if_pos h1, nib_of_lt13 h1, extBytes_of_lt13 h1]
    exact ⟨Nat.mod_eq_of_lt (by omega), rfl⟩
  · rw [if_neg h1]
    by_cases h2 : d < 269
    · rw [if_pos h2, nib_of_lt269 h1 h2, extBytes_of_lt269 h1 h2]
      exact ⟨rfl, by rw [List.map_cons, ofNat_mod256]; rfl⟩
    · rw [if_neg h2, nib_of_ge269 h2, extBytes_of_ge269 h2]
      exact ⟨rfl, by rw [List.map_cons, List.map_cons, ofNat_mod256]; rfl⟩

/-- the length half: low nibble and extension bytes -/
theorem setHeader_length (l : Nat) :
    ((if l < 13 then (l % 16, []) else if l < 269 then (0x0d, [(l - 13) % 256])
      else (0x0e, [(l - 269) / 256 % 256, (l - 269) % 256]) : Nat × List Nat).1 = Spec.nib l) ∧
    ((if l < 13 then (l % 16, []) else if l < 269 then (0x0d, [(l - 13) % 256])
      else (0x0e, [(l - 269) / 256 % 256, (l - 269) % 256]) : Nat × List Nat).2.map UInt8.ofNat = Spec.extBytes l) := by
  by_cases h1 : l < 13
  · rw [if_pos h1, nib_of_lt13 h1, extBytes_of_lt13 h1]
    exact ⟨Nat.mod_eq_of_lt (by omega), rfl⟩
  · rw [if_neg h1]
    by_cases h2 : l < 269
    · rw [if_pos h2, nib_of_lt269 h1 h2, extBytes_of_lt269 h1 h2]
      exact ⟨rfl, by rw [List.map_cons, ofNat_mod256]; rfl⟩
    · rw [if_neg h2, nib_of_ge269 h2, extBytes_of_ge269 h2]
      exact ⟨rfl, by rw [List.map_cons, List.map_cons, ofNat_mod256]; rfl⟩

theorem optSetHeader_eq (d l : Nat) :
    optSetHeader d l = UInt8.ofNat (Spec.nib d * 16 + Spec.nib l) :: (Spec.extBytes d ++ Spec.extBytes l) := by
  unfold optSetHeader
  simp only []
  rw [(setHeader_delta d).1, (setHeader_delta d).2, (setHeader_length l).1, (setHeader_length l).2]
  rfl

theorem optEncode_eq (d : Nat) (v : Bytes) : optEncode d v = Spec.encOpt d v := by
  unfold optEncode Spec.encOpt
  rw [optSetHeader_eq d v.length, List.cons_append, List.append_assoc]

theorem optEncode_length (d : Nat) (v : Bytes) : (optEncode d v).length = optEncodeSize d v.length := by
  rw [optEncodeSize_eq, optEncode_eq, encOpt_length]

theorem optEncodeSize_encOpt (d : Nat) (v : Bytes) : optEncodeSize d v.length = (Spec.encOpt d v).length := by
  rw [← optEncode_length, optEncode_eq]

theorem tokBias_eq (len : Nat) (h : len ≤ 65804) : tokBias len = some (Spec.extBytes len).length := by
  unfold tokBias
  rw [extBytes_length]
  by_cases h1 : len < 13
  · simp [h1]
  · by_cases h2 : len < 269
    · simp [h1, h2]
    · simp [h1, h2, h]

theorem tokBias_none (len : Nat) (h : len > 65804) : tokBias len = none := by
  unfold tokBias
  have h1 : ¬ len < 13 := by omega
  have h2 : ¬ len < 269 := by omega
  have h3 : ¬ len ≤ 65804 := by omega
  simp [h1, h2, h3]

theorem tokHdr_ext (len : Nat) : tokHdr len (Spec.extBytes len).length = Spec.extBytes len := by
  unfold tokHdr Spec.extBytes
  by_cases h1 : len < 13
  · simp [h1]
  · by_cases h2 : len < 269
    · simp [h1, h2]
    · simp [h1, h2]

theorem checkResize_iff (pdu : Pdu) (size : Nat) :
    checkResize pdu size = true ↔ pdu.maxSize = 0 ∨ size ≤ pdu.maxSize := by
  simp [checkResize]

theorem checkResize_true (pdu : Pdu) (size : Nat) (h : pdu.maxSize = 0 ∨ size ≤ pdu.maxSize) :
    checkResize pdu size = true :=
  (checkResize_iff pdu size).mpr h

theorem checkResize_false (pdu : Pdu) (size : Nat) (h : pdu.maxSize ≠ 0 ∧ size > pdu.maxSize) :
    checkResize pdu size = false := by
  rw [← Bool.not_eq_true, checkResize_iff]
  omega

theorem encToken_length (t : Bytes) : (Spec.encToken t).length = (Spec.extBytes t.length).length + t.length := by
  simp [Spec.encToken]

theorem conc_maxOpt (ms : Nat) (a : Msg) : (conc ms a).maxOpt = lastNum a.opts := rfl

theorem conc_maxSize (ms : Nat) (a : Msg) : (conc ms a).maxSize = ms := rfl

theorem conc_code (ms : Nat) (a : Msg) : (conc ms a).code = a.code := rfl

theorem conc_etl (ms : Nat) (a : Msg) : (conc ms a).etl = (Spec.encToken a.token).length := (encToken_length a.token).symm

theorem conc_buf_length (ms : Nat) (a : Msg) :
    (conc ms a).buf.length = (Spec.extBytes a.token.length).length + a.token.length +
      (Spec.encOpts 0 a.opts).length + (Spec.encPayload a.payload).length := by
  simp [conc, Spec.encToken]; omega

theorem conc_data_none (ms : Nat) {a : Msg} (hp : a.payload = []) : (conc ms a).data = none := if_pos hp

theorem conc_data_some (ms : Nat) {a : Msg} (hp : a.payload ≠ []) : (conc ms a).data =
    some ((Spec.extBytes a.token.length).length + a.token.length + (Spec.encOpts 0 a.opts).length + 1) := if_neg hp

theorem addToken_conc (ms ty code mid : Nat) (t : Bytes) (ht : t.length ≤ 65804)
    (hfit : ms = 0 ∨ (Spec.extBytes t.length).length + t.length ≤ ms) :
    addToken (conc ms ⟨ty, code, mid, [], [], []⟩) t = R.ok (1, conc ms ⟨ty, code, mid, t, [], []⟩) := by
  have hb : (conc ms ⟨ty, code, mid, [], [], []⟩).buf = [] := rfl
  have htb := tokBias_eq t.length ht
  have hth := tokHdr_ext t.length
  have hcr : checkResize (conc ms ⟨ty, code, mid, [], [], []⟩) (t.length + (Spec.extBytes t.length).length) = true :=
    checkResize_true _ _ (show ms = 0 ∨ _ ≤ ms by omega)
  have hmod : (t.length + (Spec.extBytes t.length).length) % 4294967296 =
      (Spec.extBytes t.length).length + t.length := by
    have := extBytes_len_le t.length
    omega
  unfold addToken
  simp only [hb, htb, hcr, hth, hmod]
  simp
  by_cases h0 : t = []
  · subst h0
    simp [conc, Spec.encToken, Spec.encOpts, Spec.encPayload, Spec.extBytes, lastNum]
  · simp [conc, h0, Spec.encToken, Spec.encOpts, Spec.encPayload, lastNum]

theorem addToken_refused (ms : Nat) (a : Msg) (t : Bytes)
    (h : (conc ms a).buf ≠ [] ∨ t.length > 65804 ∨ (ms ≠ 0 ∧ (Spec.extBytes t.length).length + t.length > ms)) :
    addToken (conc ms a) t = R.ok (0, conc ms a) := by
  unfold addToken
  by_cases hb : (conc ms a).buf.length ≠ 0
  · rw [if_pos hb]
  · rw [if_neg hb]
    by_cases hl : t.length ≤ 65804
    · have htb := tokBias_eq t.length hl
      rcases h with h | h | h
      · exact absurd (List.length_eq_zero_iff.mp (by omega)) h
      · omega
      · have hcr := checkResize_false (conc ms a) (t.length + (Spec.extBytes t.length).length)
          ⟨h.1, by show _ > ms; omega⟩
        simp only [htb, hcr]
        simp
    · have htb := tokBias_none t.length (by omega)
      simp only [htb]

theorem lastNum_nil : lastNum [] = 0 := rfl

theorem lastNum_concat (os : List (Nat × Bytes)) (n : Nat) (v : Bytes) : lastNum (os ++ [(n, v)]) = n := by
  simp [lastNum]

theorem le_lastNum (os : List (Nat × Bytes)) (hs : os.Pairwise (fun x y => x.1 ≤ y.1)) :
    ∀ o ∈ os, o.1 ≤ lastNum os := by
  rcases List.eq_nil_or_concat os with rfl | ⟨init, l, h⟩
  · intro o ho; cases ho
  · rw [List.concat_eq_append] at h
    subst h
    intro o ho
    have hl : lastNum (init ++ [l]) = l.1 := by simp [lastNum]
    rw [hl]
    rw [List.pairwise_append] at hs
    rcases List.mem_append.mp ho with h | h
    · exact hs.2.2 o h l (by simp)
    · simp at h; subst h; exact Nat.le_refl _

theorem insertStable_all_le (n : Nat) (v : Bytes) (os : List (Nat × Bytes)) (h : ∀ o ∈ os, o.1 ≤ n) :
    Spec.insertStable n v os = os ++ [(n, v)] := by
  induction os with
  | nil => rfl
  | cons o os ih =>
    have ho : o.1 ≤ n := h o (List.mem_cons_self ..)
    simp only [Spec.insertStable, ho, if_true, List.cons_append]
    rw [ih (fun a ha => h a (List.mem_cons_of_mem _ ha))]

/-- `memmove` + `coap_opt_encode` over the gap: `M` goes, `X` comes -/
theorem splice_mid {B A M Z : Bytes} (h : B = A ++ (M ++ Z)) (X : Bytes) :
    B.take A.length ++ X ++ B.drop (A.length + M.length) = A ++ (X ++ Z) := by
  rw [h, List.take_left, ← List.append_assoc A M Z, ← List.length_append, List.drop_left, List.append_assoc]

theorem appendOption_conc (ms : Nat) (a : Msg) (n : Nat) (v : Bytes)
    (hn : lastNum a.opts ≤ n) (hn2 : n ≤ 65535)
    (hfit : ms = 0 ∨ (conc ms a).buf.length + (Spec.encOpt (n - lastNum a.opts) v).length ≤ ms) :
    appendOption (conc ms a) n v =
      R.ok ((Spec.encOpt (n - lastNum a.opts) v).length, conc ms { a with opts := a.opts ++ [(n, v)] }) := by
  have hδ : (n - lastNum a.opts) % 65536 = n - lastNum a.opts := Nat.mod_eq_of_lt (by omega)
  have henc := optEncode_eq (n - lastNum a.opts) v
  have hsz := optEncodeSize_encOpt (n - lastNum a.opts) v
  have hcr : checkResize (conc ms a) ((conc ms a).buf.length + (Spec.encOpt (n - lastNum a.opts) v).length) = true :=
    checkResize_true _ _ hfit
  have hopts : Spec.encOpts 0 (a.opts ++ [(n, v)]) = Spec.encOpts 0 a.opts ++ Spec.encOpt (n - lastNum a.opts) v :=
    encOpts_append 0 a.opts n v
  unfold appendOption
  simp only [conc_maxOpt, hδ, hsz, hcr, henc]
  by_cases hp : a.payload = []
  · have hd := conc_data_none ms hp
    rw [hd]
    simp
    simp [conc, hp, hopts, lastNum_concat, Spec.encPayload]
  · have hd := conc_data_some ms hp
    rw [hd]
    have hbl := conc_buf_length ms a
    have hpl : (Spec.encPayload a.payload).length = a.payload.length + 1 := by simp [Spec.encPayload, hp]
    have hcut : (conc ms a).buf = (Spec.encToken a.token ++ Spec.encOpts 0 a.opts) ++ ([] ++ Spec.encPayload a.payload) := by
      simp [conc]
    -- the option goes in front of the marker: a splice with nothing taken out
    have hsp := splice_mid hcut (Spec.encOpt (n - lastNum a.opts) v)
    rw [List.length_nil, Nat.add_zero, List.length_append, encToken_length] at hsp
    have hlt : ¬ ((Spec.extBytes a.token.length).length + a.token.length + (Spec.encOpts 0 a.opts).length + 1 = 0 ∨
        (Spec.extBytes a.token.length).length + a.token.length + (Spec.encOpts 0 a.opts).length + 1 >
          (conc ms a).buf.length) := by omega
    simp only [if_neg hlt, Nat.add_sub_cancel, hsp]
    simp [conc, hp, hopts, lastNum_concat]
    omega

theorem appendOption_refused (ms : Nat) (a : Msg) (n : Nat) (v : Bytes)
    (hfull : ms ≠ 0 ∧ (conc ms a).buf.length + optEncodeSize ((n - lastNum a.opts) % 65536) v.length > ms) :
    appendOption (conc ms a) n v = R.ok (0, conc ms a) := by
  have hcr := checkResize_false (conc ms a)
    ((conc ms a).buf.length + optEncodeSize ((n - lastNum a.opts) % 65536) v.length) hfull
  unfold appendOption
  simp only [conc_maxOpt, hcr]
  simp

theorem insertStable_append (n : Nat) (v : Bytes) (os : List (Nat × Bytes)) (hs : os.Pairwise (fun x y => x.1 ≤ y.1))
    (hn : lastNum os ≤ n) : Spec.insertStable n v os = os ++ [(n, v)] :=
  insertStable_all_le n v os (fun o ho => Nat.le_trans (le_lastNum os hs o ho) hn)

theorem Shape_append (a : Msg) (n : Nat) (v : Bytes) (hs : Shape a) (hn : lastNum a.opts ≤ n) (hn2 : n ≤ 65535)
    (hv : v.length ≤ 65804) : Shape { a with opts := a.opts ++ [(n, v)] } := by
  obtain ⟨h1, h2, h3⟩ := hs
  refine ⟨h1, List.pairwise_append.mpr ⟨h2, List.pairwise_singleton _ _, fun x hx y hy => ?_⟩, fun o ho => ?_⟩
  · rw [List.mem_singleton.mp hy]
    exact Nat.le_trans (le_lastNum a.opts h2 x hx) hn
  · rcases List.mem_append.mp ho with h | h
    · exact h3 o h
    · rw [List.mem_singleton.mp h]
      exact ⟨hn2, hv⟩

theorem addData_conc (ms : Nat) (a : Msg) (d : Bytes) (hp : a.payload = []) (hd : d ≠ [])
    (hfit : ms = 0 ∨ (conc ms a).buf.length + d.length + 1 ≤ ms) :
    addData (conc ms a) d = R.ok (1, conc ms { a with payload := d }) := by
  have hcr := checkResize_true (conc ms a) ((conc ms a).buf.length + d.length + 1) hfit
  have hdat := conc_data_none ms hp
  have hlen : d.length ≠ 0 := by
    intro h; exact hd (List.length_eq_zero_iff.mp h)
  have hbl := conc_buf_length ms a
  unfold addData
  simp only [hcr, hdat, hlen]
  simp
  simp [conc, hp, hd, Spec.encPayload, Spec.encToken]
  omega

theorem addData_empty (ms : Nat) (a : Msg) : addData (conc ms a) [] = R.ok (1, conc ms a) := by
  simp [addData]

theorem addData_refused (ms : Nat) (a : Msg) (d : Bytes) (hd : d ≠ [])
    (h : a.payload ≠ [] ∨ (ms ≠ 0 ∧ (conc ms a).buf.length + d.length + 1 > ms)) :
    addData (conc ms a) d = R.ok (0, conc ms a) := by
  have hlen : d.length ≠ 0 := by
    intro h; exact hd (List.length_eq_zero_iff.mp h)
  unfold addData
  rcases h with h | h
  · have hdat : (conc ms a).data.isSome = true := by simp [conc, h]
    simp [hlen, hdat]
  · have hcr := checkResize_false (conc ms a) ((conc ms a).buf.length + d.length + 1) h
    simp only [hcr, hlen]
    simp

theorem view_conc (ms : Nat) (a : Msg) (hc : a.code ≠ 0) (ht : a.token.length ≤ 65804)
    (ho : Spec.optsOk a.code 0 a.opts = true) : view (conc ms a) = some a := by
  unfold view
  exact body_encode a.type a.code a.mid a.token a.opts a.payload hc ht ho

theorem tklOf_eq (n : Nat) (h : n ≤ 65804) :
    (if n < 13 then some (n % 256) else if n < 269 then some 13 else if n ≤ 65804 then some 14 else none) =
      some (Spec.nib n) := by
  by_cases h1 : n < 13
  · have e : n % 256 = n := by omega
    rw [nib_of_lt13 h1]; simp [h1, e]
  · by_cases h2 : n < 269
    · rw [nib_of_lt269 h1 h2]; simp [h1, h2]
    · rw [nib_of_ge269 h2]; simp [h1, h2, h]

theorem conc_rest_length (ms : Nat) (a : Msg) :
    (conc ms a).buf.length = (conc ms a).etl + (Spec.encRest a).length := by
  simp [conc, Spec.encToken, Spec.encRest]; omega

theorem encodeHeader_tcp (pdu : Pdu) (L : Nat) (ht : pdu.tokLen ≤ 65804) (hb : pdu.buf.length = pdu.etl + L) :
    encodeHeader .tcp pdu = some (Spec.tcpHdr (Spec.nib pdu.tokLen) L ++ [UInt8.ofNat pdu.code]) := by
  have hk := tklOf_eq pdu.tokLen ht
  have hnlt : ¬ pdu.buf.length < pdu.etl := by omega
  have hL : pdu.buf.length - pdu.etl = L := by omega
  unfold encodeHeader
  simp only [hk, hnlt, hL]
  by_cases h1 : L ≤ 12
  · have h1' : L < 13 := by omega
    have e : L % 256 = L := by omega
    simp [Spec.tcpHdr, h1, h1', e]
  · have h1' : ¬ L < 13 := by omega
    by_cases h2 : L ≤ 268
    · have h2' : L < 269 := by omega
      simp [Spec.tcpHdr, h1, h1', h2, h2']
    · have h2' : ¬ L < 269 := by omega
      by_cases h3 : L ≤ 65804
      · have h3' : L < 65805 := by omega
        simp [Spec.tcpHdr, h1, h1', h2, h2', h3, h3', ofNat_mod256]
      · have h3' : ¬ L < 65805 := by omega
        simp [Spec.tcpHdr, h1, h1', h2, h2', h3, h3', ofNat_mod256]

theorem serialise_conc (p : Proto) (ms : Nat) (a : Msg) (ht : a.token.length ≤ 65804) :
    serialise p (conc ms a) = some (Spec.encode p a) := by
  have htl : (conc ms a).tokLen = a.token.length := rfl
  have hk := tklOf_eq a.token.length ht
  have hbl := conc_rest_length ms a
  have hnlt : ¬ (conc ms a).buf.length < (conc ms a).etl := by omega
  have hL : (conc ms a).buf.length - (conc ms a).etl = (Spec.encRest a).length := by omega
  have hbuf : (conc ms a).buf = Spec.encToken a.token ++ Spec.encRest a := rfl
  have hf1 : (conc ms a).type = a.type := rfl
  have hf2 : (conc ms a).code = a.code := rfl
  have hf3 : (conc ms a).mid = a.mid := rfl
  cases p with
  | udp =>
    unfold serialise encodeHeader
    simp only [htl, hk]
    simp [Spec.encode, hbuf, hf1, hf2, hf3, ofNat_mod256]
  | ws =>
    unfold serialise encodeHeader
    simp only [htl, hk, hnlt]
    simp [Spec.encode, hbuf, hf2]
  | tcp =>
    unfold serialise
    rw [encodeHeader_tcp (conc ms a) (Spec.encRest a).length ht hbl]
    simp [Spec.encode, hbuf, hf2, htl]

end Coap
