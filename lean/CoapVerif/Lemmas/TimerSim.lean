import CoapVerif.Lemmas.Conserve
/-
The EXACT simulation of the code model M by the timer specification S (`Coap.Timer`, Spec/Timer.lean), for any number of messages
and sessions sharing the queue, inside the narrow scope (NSTART room, nothing due at the instant of a submission / RST): `Rel`
compares ONE interleaved observation list, `Inv` keeps every delay queue empty, `tr` is `tick`-grained.  The abstraction `absP`
and what else the invariant, the counters and the simulation for every run use is in Lemmas/TimerAbs.lean.  Last, the scope
lies inside the scope of `Sched.FInv` / `Sched.RunG` (`Inv.finv`, `runIn_runG`), so what is proved for the whole alphabet holds
on it: `quiet_sim`, an instance of `Sched.run_keeps` — the one thing for which this file imports Conserve and not SchedInv alone.
-/
namespace Coap.Sim
open Coap Coap.SQ Coap.Msg Coap.Timer

/-- M state ~ S state: S's clock is not ahead of M's (it stands at the last I/O step), S's pending list (ghost label erased)
is what the delta list stands for, both have shown the same transmissions and outcomes, in the same order -/
structure Rel (mx : Nat → Nat) (l : L) (ts : TS) : Prop where
  now : ts.now ≤ l.now
  pend : ts.pend.map er = absP mx l.q.base l.q.nodes
  outs : ts.outs.filterMap obsS = l.out.filterMap obsM

/-- every session is `par s` up to `con_active`, which respects NSTART -/
def SessInv (par : Nat → Sess) (l : L) : Prop :=
  ∀ s, ∃ ca, l.getS s = { par s with conActive := ca } ∧ ca ≤ (par s).nstart

/-- the sessions of the scope: established, nothing delayed, socket open, NSTART ≥ 1, MAX_RETRANSMIT < 256 -/
def ParOk (par : Nat → Sess) : Prop :=
  ∀ s, (par s).est = true ∧ (par s).delayq = [] ∧ (par s).sockOpen = true ∧ 1 ≤ (par s).nstart ∧ (par s).maxRtx < 256

/-- the invariant of M inside the narrow scope: `Sched.FInv False` with every delay queue empty (`Inv.finv`) -/
structure Inv (par : Nat → Sess) (P : Nat → Nat → Nat → Prop) (l : L) : Prop where
  base : l.q.base ≤ l.now
  sess : SessInv par l
  nodes : ∀ n ∈ l.q.nodes, NodeOk par P n

variable {par : Nat → Sess} {P : Nat → Nat → Nat → Prop}

/- The scope is spelled at three levels, each twice.  A configured session record is `SessOk`; `parOf` makes the parameters
`par` of a run from a list of them.  For the whole alphabet (Lemmas/SchedInv.lean) the parameters are `Sched.GPar`, the sessions
of a state `Sched.GSess`, the invariant `Sched.FInv False`; for the narrow scope here they are `ParOk`, `SessInv`, `Inv`: the
same with every delay queue empty. -/

theorem parOk_of (sess : List Sess) (h : ∀ se ∈ sess, SessOk se) : ParOk (parOf sess) := fun s =>
  have := parOf_ok sess h s
  ⟨this.1, this.2.1, this.2.2.1, this.2.2.2.1, this.2.2.2.2.1⟩

theorem gpar_of_parOk {par : Nat → Sess} (hp : ParOk par) : Sched.GPar par :=
  fun s => ⟨(hp s).1, (hp s).2.2.1, (hp s).2.2.2⟩

theorem Inv.finv {par : Nat → Sess} {P : Nat → Nat → Nat → Prop} {l : L} (hp : ParOk par) (hi : Inv par P l) :
    Sched.FInv False par P l ∧ ∀ s, (l.getS s).delayq = [] := by
  refine ⟨Sched.finv_mk hi.base (fun s => ?_) hi.nodes, fun s => ?_⟩
  · obtain ⟨ca, hg, hle⟩ := hi.sess s
    exact ⟨ca, (par s).delayq, hg, hle, by rw [(hp s).2.1]; intro n hn; cases hn⟩
  · obtain ⟨ca, hg, _⟩ := hi.sess s
    rw [hg]; exact (hp s).2.1

theorem sessInv_setS {l : L} (hs : SessInv par l) (s ca : Nat) (hca : ca ≤ (par s).nstart) :
    SessInv par (l.setS s { par s with conActive := ca }) := by
  intro s'
  rcases getS_setS l s s' { par s with conActive := ca } with ⟨h, rfl⟩ | h
  · exact ⟨ca, h, hca⟩
  · rw [h]; exact hs s'

theorem sessInv_open {l : L} (hp : ParOk par) (hs : SessInv par l) (s : Nat) : (l.getS s).sockOpen = true := by
  obtain ⟨ca, hca, _⟩ := hs s
  rw [hca]; exact (hp s).2.2.1

theorem drain_nil (fuel : Nat) (l : L) (s : Nat) (h : (l.getS s).delayq = []) : drain fuel l s = l := by
  cases fuel <;> simp [drain, h]

theorem connected_idle (hp : ParOk par) (l : L) (s : Nat) (hs : SessInv par l) :
    (connected l s).q = l.q ∧ (connected l s).out = l.out ∧ (connected l s).now = l.now ∧
    SessInv par (connected l s) := by
  obtain ⟨ca, hca, hle⟩ := hs s
  have e : ({ (l.getS s) with est := true } : Sess) = { par s with conActive := ca } := by
    rw [hca]; exact est_fix _ (hp s).1
  have h2 : SessInv par (l.setS s { (l.getS s) with est := true }) := by
    rw [e]; exact sessInv_setS hs s ca hle
  have h3 : ((l.setS s { (l.getS s) with est := true }).getS s).delayq = [] := by
    obtain ⟨c, hc, _⟩ := h2 s
    rw [hc]; exact (hp s).2.1
  unfold connected
  simp only []
  rw [drain_nil _ _ _ h3]
  exact ⟨rfl, rfl, rfl, h2⟩

theorem release_idle (hp : ParOk par) (l : L) (s : Nat) (hs : SessInv par l) :
    (release l s).q = l.q ∧ (release l s).out = l.out ∧ (release l s).now = l.now ∧ SessInv par (release l s) := by
  obtain ⟨ca, hca, hle⟩ := hs s
  unfold release
  simp only []
  split
  · exact ⟨rfl, rfl, rfl, hs⟩
  · have h1 : SessInv par (l.setS s { (l.getS s) with conActive := (l.getS s).conActive - 1 }) := by
      rw [hca]; exact sessInv_setS hs s (ca - 1) (by omega)
    split
    · exact connected_idle hp _ s h1
    · exact ⟨rfl, rfl, rfl, h1⟩

theorem rel_emit_none {mx : Nat → Nat} {l : L} {ts : TS} (o : Out) (ho : obsM o = none) (hr : Rel mx l ts) :
    Rel mx (l.emit o) ts :=
  ⟨hr.now, hr.pend, by rw [hr.outs]; simp [L.emit, ho]⟩

theorem inv_emit {l : L} (o : Out) (hi : Inv par P l) :
    Inv par P (l.emit o) := ⟨hi.base, hi.sess, hi.nodes⟩

theorem rel_out_none {mx : Nat → Nat} {l : L} {ts : TS} (o : TOut) (ho : obsS o = none) (hr : Rel mx l ts) :
    Rel mx l { ts with outs := o :: ts.outs } :=
  ⟨hr.now, hr.pend, by rw [← hr.outs]; simp [ho]⟩

/-- releasing the NSTART slot is not seen by S -/
theorem release_sim (hp : ParOk par) (l : L) (ts : TS) (s : Nat) (hi : Inv par P l) (hr : Rel (mxOf par) l ts) :
    Inv par P (release l s) ∧ Rel (mxOf par) (release l s) ts ∧ (release l s).now = l.now := by
  obtain ⟨hq, hout, hnow, hsess⟩ := release_idle hp l s hi.sess
  exact ⟨⟨by rw [hq, hnow]; exact hi.base, hsess, by rw [hq]; exact hi.nodes⟩,
    ⟨by rw [hnow]; exact hr.now, by rw [hq]; exact hr.pend, by rw [hout]; exact hr.outs⟩, hnow⟩

/-! ### one iteration of the due loop = one iteration of `fire` -/

theorem fire_idle (f : Nat) (ts : TS) (h : ∀ d m r, ts.pend = (d, m) :: r → ts.now < d) : fire f ts = ts := by
  cases f with
  | zero => rfl
  | succ f =>
    rcases ts with ⟨now, pend, outs⟩
    rcases pend with _ | ⟨⟨d, m⟩, r⟩
    · rfl
    · have := h d m r rfl
      simp only [] at this
      have hc : ¬ d ≤ now := by omega
      simp only [fire, hc, if_false]

theorem rel_nothingDue {mx : Nat → Nat} {l : L} {ts : TS} (hr : Rel mx l ts) :
    NothingDue l ↔ ∀ d m r, ts.pend = (d, m) :: r → l.now < d := by
  rw [nothingDue_iff]
  have hp := hr.pend
  cases hn : l.q.nodes with
  | nil =>
    rw [hn] at hp
    simp only [absP, List.map_eq_nil_iff] at hp
    rw [hp]
    exact ⟨fun _ d m r h => (nomatch h), fun _ h r hh => (nomatch hh)⟩
  | cons h rr =>
    rw [hn] at hp
    rcases hpd : ts.pend with _ | ⟨⟨d, m⟩, pr⟩
    · rw [hpd] at hp; simp [absP] at hp
    · rw [hpd] at hp
      simp only [List.map_cons, absP, List.cons.injEq] at hp
      have e := (er_eq_toP hp.1).1
      constructor
      · intro H d' m' r' heq
        cases heq
        have := H h rr rfl
        omega
      · intro H h' r' heq
        cases heq
        have := H d m pr rfl
        omega

theorem retransmit_sim (hp : ParOk par) (l : L) (hd : Node)
    (d d' : Nat) (m : PMsg) (pr : List (Nat × PMsg)) (outs : List TOut)
    (hi : Inv par P l) (hn : NodeOk par P hd) (hdm : er (d, m) = (d', toP (mxOf par) hd))
    (hr : Rel (mxOf par) l ⟨l.now, pr, outs⟩) :
    Inv par P (retransmit l hd) ∧
    Rel (mxOf par) (retransmit l hd) ⟨l.now,
      if m.cnt < m.maxRtx then pinsert pr (l.now + m.T * 2 ^ (m.cnt + 1), { m with cnt := m.cnt + 1 }) else pr,
      (if m.cnt < m.maxRtx then .tx l.now m.sess m.mid (m.cnt + 1) m.t0 m.T m.maxRtx
        else .nackRetries l.now m.sess m.mid) :: outs⟩ ∧
    dc l.now (if m.cnt < m.maxRtx then pinsert pr (l.now + m.T * 2 ^ (m.cnt + 1), { m with cnt := m.cnt + 1 })
      else pr) = dc l.now pr := by
  obtain ⟨_, e2, e3, e4, e5, e6⟩ := er_eq_toP hdm
  have hcon := hn.1
  have hT := hn.2.2.1
  obtain ⟨ca, hgs, hle⟩ := hi.sess hd.sess
  obtain ⟨hest, _, _, hns, h256⟩ := hp hd.sess
  have hnowR := retransmit_now l hd
  have ho : outs.filterMap obsS = l.out.filterMap obsM := hr.outs
  by_cases hc : hd.cnt < (par hd.sess).maxRtx
  · -- retransmit and re-arm
    have hcS : m.cnt < m.maxRtx := by rw [e5, e6]; exact hc
    obtain ⟨h8, h64', hn'⟩ := nodeOk_resend hn h256 hc
    obtain ⟨hroom, hca⟩ := slot_le hle hns
    have heq := retransmit_resend_con l hd (by rw [hgs]; exact hc) (by rw [hgs]; exact hest)
      (by rw [hgs]; exact hroom) h8 h64' hcon
    rw [hgs] at heq
    rw [if_pos hcS, if_pos hcS]
    have hnd : ¬ (l.now + m.T * 2 ^ (m.cnt + 1) ≤ l.now) := by
      have := Nat.mul_pos hT (Nat.two_pow_pos (hd.cnt + 1))
      rw [e4, e5]; omega
    refine ⟨⟨kept_retransmit kept_baseOk _ _ hi.base trivial, ?_, ?_⟩, ⟨Nat.le_of_eq hnowR.symm, ?_, ?_⟩, ?_⟩
    · rw [heq]
      exact sessInv_setS hi.sess hd.sess _ hca
    · rw [heq]
      exact all_enqueue (nodeOk_tfree par P) _ _ _ _ hi.nodes hn'
    · rw [heq]
      exact pend_enqueue hr.pend hi.base _ _ _ (by simp only [er, toP, mxOf, e2, e3, e4, e5, e6])
    · rw [heq]
      simp only [List.filterMap_cons, obsS, obsM, ho, e2, e3, e5]
    · simp only [dc_pinsert, hnd, if_false, Nat.zero_add]
  · -- give up: one NACK, nothing re-queued
    have hcS : ¬ m.cnt < m.maxRtx := by rw [e5, e6]; exact hc
    have heq := retransmit_giveup_eq l hd (by rw [hgs]; exact Nat.le_of_not_lt hc)
    rw [hcon, if_pos rfl] at heq
    obtain ⟨hi2, hr2, hnow⟩ := release_sim hp l _ hd.sess hi hr
    rw [if_neg hcS, if_neg hcS, heq]
    refine ⟨inv_emit _ hi2, ⟨hr2.now, hr2.pend, ?_⟩, rfl⟩
    show _ = List.filterMap obsM (_ :: (release l hd.sess).out)
    have ho2 : List.filterMap obsS outs = List.filterMap obsM (release l hd.sess).out := hr2.outs
    simp only [List.filterMap_cons, obsS, obsM, ho2, hnow, e2, e3]

/-- the due loop of `coap_io_prepare_io` (with `coap_retransmit`) and S's `fire` do the same, step by
step, as long as both have fuel for every due entry (each fires once: it is re-armed strictly later) -/
theorem loop_sim (hp : ParOk par) :
    ∀ (f1 f2 : Nat) (l : L) (ts : TS), Inv par P l → Rel (mxOf par) l ts → ts.now = l.now →
      dc l.now ts.pend ≤ f1 → dc l.now ts.pend ≤ f2 →
      Inv par P (dueLoop f1 l) ∧ Rel (mxOf par) (dueLoop f1 l) (fire f2 ts) ∧ NothingDue (dueLoop f1 l) := by
  intro f1
  induction f1 with
  | zero =>
    intro f2 l ts hi hr hnow h1 _
    have hidle : ∀ d m r, ts.pend = (d, m) :: r → l.now < d := fun d m r hpd =>
      dc_eq_zero (Nat.le_zero.1 h1) (d, m) (by rw [hpd]; simp)
    rw [fire_idle _ _ (fun d m r hpd => hnow ▸ hidle d m r hpd)]
    exact ⟨hi, hr, (rel_nothingDue hr).2 hidle⟩
  | succ f ih =>
    intro f2 l ts hi hr hnow h1 h2
    rcases ts with ⟨tnow, pend, outs⟩
    simp only [] at hnow h1 h2
    subst hnow
    rcases dueLoop_round f l hi.base with ⟨hnd, hstop⟩ | ⟨hd, r, rest, hn, hdue, hpop, hloop⟩
    · rw [hstop, fire_idle _ _ ((rel_nothingDue hr).1 hnd)]
      exact ⟨hi, hr, hnd⟩
    · have hpd := hr.pend
      simp only [hn, absP] at hpd
      rcases pend with _ | ⟨⟨d, m⟩, pr⟩
      · simp at hpd
      simp only [List.map_cons, List.cons.injEq] at hpd
      obtain ⟨hdm, hpr⟩ := hpd
      have e1 := (er_eq_toP hdm).1
      have hd_le : d ≤ l.now := by omega
      have hdc : dc l.now ((d, m) :: pr) = 1 + dc l.now pr := by simp [dc, hd_le]
      rw [hdc] at h1 h2
      obtain ⟨f2', rfl⟩ : ∃ f2', f2 = f2' + 1 := ⟨f2 - 1, by omega⟩
      have hab := absP_popNext (mxOf par) l.q.base l.q.nodes hd rest hpop
      rw [hn] at hab
      simp only [absP, List.cons.injEq, true_and] at hab
      have hall := all_popNext (nodeOk_tfree par P) l.q.nodes hd rest hpop hi.nodes
      obtain ⟨hi2, hr2, hdc2⟩ := retransmit_sim hp { l with q := { l.q with nodes := rest } } hd d _ m pr outs
        ⟨hi.base, hi.sess, hall.2⟩ hall.1 hdm ⟨Nat.le_refl _, by rw [hpr, hab], hr.outs⟩
      have hnowR := retransmit_now { l with q := { l.q with nodes := rest } } hd
      rw [hloop, fire_due _ _ _ _ _ _ hd_le]
      exact ih f2' _ _ hi2 hr2 hnowR.symm (by rw [hnowR]; simp only [] at hdc2 ⊢; omega)
        (by rw [hnowR]; simp only [] at hdc2 ⊢; omega)

theorem tick_idle {mx : Nat → Nat} {l : L} {ts : TS} (hr : Rel mx l ts) (hnd : NothingDue l) :
    Timer.step ts (.tick l.now) = { ts with now := l.now } := by
  simp only [Timer.step, hr.now, if_true]
  exact fire_idle _ _ ((rel_nothingDue hr).1 hnd)

theorem remove_sim (l : L) (ts : TS) (s mid : Nat) (hi : Inv par P l) (hr : Rel (mxOf par) l ts) :
    (∃ rest, removeNode l.q.nodes s mid = (none, rest) ∧ premove ts.pend s mid = (none, ts.pend) ∧
      Inv par P { l with q := { l.q with nodes := rest } } ∧ Rel (mxOf par) { l with q := { l.q with nodes := rest } } ts) ∨
    (∃ n rest m pr, removeNode l.q.nodes s mid = (some n, rest) ∧ premove ts.pend s mid = (some m, pr) ∧
      n.con = true ∧ n.mid = mid ∧ Inv par P { l with q := { l.q with nodes := rest } } ∧
      Rel (mxOf par) { l with q := { l.q with nodes := rest } } { ts with pend := pr }) := by
  have h3 := all_removeNode (nodeOk_tfree par P) l.q.nodes s mid hi.nodes
  have hk := removeNode_found l.q.nodes s mid
  have hi1 : Inv par P { l with q := { l.q with nodes := (removeNode l.q.nodes s mid).2 } } := ⟨hi.base, hi.sess, h3.1⟩
  rcases pend_remove hr.pend s mid with ⟨hn, hs, hp⟩ | ⟨n, rest, m, pr, hm, hs, hp⟩
  · exact Or.inl ⟨_, Prod.ext hn rfl, hs, hi1, hr.now, hp, hr.outs⟩
  · rw [hm] at h3 hk hi1
    exact Or.inr ⟨n, rest, m, pr, hm, hs, (h3.2 n rfl).1, (hk n rfl).2.2, hi1, hr.now, hp, hr.outs⟩

/-- the S events an M event stands for: an I/O step is a `tick` at the current time; `coap_send` is that `tick` and then a
`send` with the `T` that `coap_calc_timeout` draws; an arriving ACK is `ack`, an arriving RST `tick`, `rst`, each followed by
the `tick` of the I/O step that `coap_io_do_epoll` ends with; moving the clock alone is not seen by S. -/
def tr (l : L) : Ev → List TEv
  | .setNow _ => []
  | .prepare => [.tick l.now]
  | .submit s _ mid r =>
    [.tick l.now, .send s mid (calcTimeout (l.getS s).atI (l.getS s).atF (l.getS s).arfI (l.getS s).arfF r)
      (l.getS s).maxRtx]
  | .rxAck s mid => [.ack s mid, .tick l.now]
  | .rxRst s mid => [.tick l.now, .rst s mid, .tick l.now]
  | _ => []

def trRun (l : L) : List Ev → List TEv
  | [] => []
  | ev :: evs => tr l ev ++ trRun (Msg.step l ev) evs

/-- the scope of the simulation: the clock does not run backward; Confirmable messages are submitted while the
session has NSTART room, with a positive timeout inside the no-wrap range (D7), and — like an arriving RST — not at an
instant at which a retransmission is due but `coap_io_prepare_io` has not run yet (S fires what is due before anything
else happens at that instant).  Outside: a NON, a response, an invalid-code ACK, `hold` / `connect` / `disconnect`. -/
def EvIn (l : L) : Ev → Prop
  | .setNow t => l.now ≤ t
  | .prepare => True
  | .submit s con _ r =>
    con = true ∧ (l.getS s).conActive < (l.getS s).nstart ∧ NothingDue l ∧
    0 < calcTimeout (l.getS s).atI (l.getS s).atF (l.getS s).arfI (l.getS s).arfF r ∧
    calcTimeout (l.getS s).atI (l.getS s).atF (l.getS s).arfI (l.getS s).arfF r * 2 ^ (l.getS s).maxRtx < 2 ^ 64
  | .rxAck _ _ => True
  | .rxRst _ _ => NothingDue l
  | _ => False

def RunIn (l : L) : List Ev → Prop
  | [] => True
  | ev :: evs => EvIn l ev ∧ RunIn (Msg.step l ev) evs

theorem afterRx_sim (hp : ParOk par) (l : L) (ts : TS) {t : Nat}
    (hi : Inv par P l) (hr : Rel (mxOf par) l ts) (ht : l.now = t) :
    Inv par P (afterRx l) ∧ Rel (mxOf par) (afterRx l) (Timer.step ts (.tick t)) := by
  subst ht
  have hlen : ts.pend.length = l.q.nodes.length := by
    have := congrArg List.length hr.pend
    simpa [absP_length] using this
  have h1 : dc l.now ts.pend ≤ dueFuel l := by
    have := dc_le_length l.now ts.pend
    unfold dueFuel; omega
  have h2 : dc l.now ts.pend ≤ tickFuel ts := Nat.le_trans (dc_le_length _ _) (length_le_tickFuel ts)
  unfold afterRx
  rw [prepareCore_fst]
  simp only [Timer.step, hr.now, if_true]
  have := loop_sim hp _ _ l { ts with now := l.now } hi ⟨Nat.le_refl _, hr.pend, hr.outs⟩ rfl h1 h2
  exact ⟨this.1, this.2.1⟩

theorem rxAck_sim (hp : ParOk par) (l : L) (ts : TS) (s mid : Nat)
    (hi : Inv par P l) (hr : Rel (mxOf par) l ts) :
    Inv par P (rxAck l s mid) ∧ Rel (mxOf par) (rxAck l s mid) (Timer.step ts (.ack s mid)) ∧
    (rxAck l s mid).now = l.now := by
  unfold rxAck
  simp only [Timer.step]
  rcases remove_sim l ts s mid hi hr with ⟨rest, hm, hs, hi1, hr1⟩ | ⟨n, rest, m, pr, hm, hs, _, _, hi1, hr1⟩
  · rw [hm, hs]
    exact ⟨hi1, hr1, rfl⟩
  · rw [hm, hs]
    exact release_sim hp _ _ s hi1 (rel_out_none (.acked ts.now s mid) rfl hr1)

theorem rxRst_sim (hp : ParOk par) (l : L) (ts : TS) (s mid : Nat)
    (hi : Inv par P l) (hr : Rel (mxOf par) l ts) (hnow : ts.now = l.now) :
    Inv par P (rxRst l s mid) ∧ Rel (mxOf par) (rxRst l s mid) (Timer.step ts (.rst s mid)) ∧
    (rxRst l s mid).now = l.now := by
  unfold rxRst
  simp only [Timer.step]
  rcases remove_sim l ts s mid hi hr with ⟨rest, hm, hs, hi1, hr1⟩ | ⟨n, rest, m, pr, hm, hs, hcon, hmid, hi1, hr1⟩
  · rw [hm, hs]
    exact ⟨inv_emit _ hi1, rel_emit_none _ rfl hr1, rfl⟩
  · rw [hm, hs]
    obtain ⟨hi2, hr2, hn2⟩ := release_sim hp _ _ s hi1 hr1
    simp only [hcon, if_true]
    refine ⟨inv_emit _ hi2, ⟨hr2.now, hr2.pend, ?_⟩, hn2⟩
    show List.filterMap obsS (_ :: ts.outs) = List.filterMap obsM (_ :: (release _ s).out)
    have ho : List.filterMap obsS ts.outs = List.filterMap obsM (release _ s).out := hr2.outs
    simp only [List.filterMap_cons, obsS, obsM, ho, hn2, hnow, hmid]

theorem step_sim (hp : ParOk par) (l : L) (ts : TS) (ev : Ev)
    (hi : Inv par P l) (hr : Rel (mxOf par) l ts) (hok : EvIn l ev)
    (hP : ∀ s mid r, ev = .submit s true mid r →
      P s mid (calcTimeout (par s).atI (par s).atF (par s).arfI (par s).arfF r)) :
    Inv par P (Msg.step l ev) ∧ Rel (mxOf par) (Msg.step l ev) (Timer.run ts (tr l ev)) := by
  cases ev with
  | setNow t =>
    simp only [EvIn] at hok
    exact ⟨⟨Nat.le_trans hi.base hok, hi.sess, hi.nodes⟩, ⟨Nat.le_trans hr.now hok, hr.pend, hr.outs⟩⟩
  | prepare =>
    have := afterRx_sim hp l ts hi hr rfl
    simp only [Msg.step, prepare_eq, tr, Timer.run, List.foldl_cons, List.foldl_nil]
    exact ⟨inv_emit _ this.1, rel_emit_none _ rfl this.2⟩
  | submit s con mid r =>
    obtain ⟨hcon, hroom, hnd, hT, h64⟩ := hok
    subst hcon
    obtain ⟨ca, hca, hle⟩ := hi.sess s
    obtain ⟨hest, hdq, hopen, hns, h256⟩ := hp s
    have hso := sessInv_open hp hi.sess s
    have hgt : gate (l.getS s) true = false := gate_of_room _ (by rw [hca]; exact hest) hroom
    simp only [Msg.step, submit_sent l s mid r hso hgt, tr, Timer.run, List.foldl_cons, List.foldl_nil,
      tick_idle hr hnd]
    have hPs := hP s mid r rfl
    have hT32 := calcTimeout_mod (l.getS s).atI (l.getS s).atF (l.getS s).arfI (l.getS s).arfF r
    rw [hca] at hroom hT h64 hT32 ⊢
    simp only [] at hroom hT h64 hT32 ⊢
    generalize calcTimeout (par s).atI (par s).atF (par s).arfI (par s).arfF r = T at *
    have hnode : NodeOk par P { sess := s, mid := mid, t := 0, timeout := T, cnt := 0, tok := mid, con := true } :=
      ⟨rfl, rfl, hT, Nat.zero_le _, h64, hPs⟩
    have hs2 : SessInv par ((l.emit (.tx l.now s mid 0 true)).setS s { par s with conActive := (ca + 1) % 256 }) :=
      sessInv_setS hi.sess s _ (slot_take hroom)
    refine ⟨inv_emit _ ⟨kept_waitAck kept_baseOk _ _ hi.base trivial, hs2, ?_⟩,
      rel_emit_none _ rfl ⟨Nat.le_refl _, ?_, ?_⟩⟩
    · simp only [waitAck, hT32]
      exact all_enqueue (nodeOk_tfree par P) _ _ _ _ hi.nodes hnode
    · simp only [Timer.step, waitAck, hT32]
      exact pend_enqueue hr.pend hi.base T _ _ rfl
    · simp only [Timer.step, waitAck]
      have ho := hr.outs
      simp only [List.filterMap_cons, obsS, ho]
      rfl
  | rxAck s mid =>
    obtain ⟨hi1, hr1, hn1⟩ := rxAck_sim hp l ts s mid hi hr
    simp only [Msg.step, sessInv_open hp hi.sess s, if_true, tr, Timer.run, List.foldl_cons, List.foldl_nil]
    exact afterRx_sim hp _ _ hi1 hr1 hn1
  | rxRst s mid =>
    have hnd : NothingDue l := hok
    have hr0 : Rel (mxOf par) l { ts with now := l.now } := ⟨Nat.le_refl _, hr.pend, hr.outs⟩
    obtain ⟨hi1, hr1, hn1⟩ := rxRst_sim hp l _ s mid hi hr0 rfl
    simp only [Msg.step, sessInv_open hp hi.sess s, if_true, tr, Timer.run, List.foldl_cons, List.foldl_nil,
      tick_idle hr hnd]
    exact afterRx_sim hp _ _ hi1 hr1 hn1
  | _ => exact hok.elim

theorem inv_init (P : Nat → Nat → Nat → Prop) (now0 : Nat) (sess : List Sess) (h : ∀ se ∈ sess, SessOk se) :
    Inv (parOf sess) P (Msg.init now0 sess) :=
  ⟨Nat.zero_le _, fun s => ⟨(parOf sess s).conActive, rfl, (parOf_ok sess h s).2.2.2.2.2⟩, by simp [Msg.init]⟩

theorem rel_init (mx : Nat → Nat) (now0 : Nat) (sess : List Sess) : Rel mx (Msg.init now0 sess) (Timer.init now0) :=
  ⟨Nat.le_refl _, rfl, rfl⟩

theorem obs_tx_M_to_S {l : L} {ts : TS} (ho : ts.outs.filterMap obsS = l.out.filterMap obsM)
    {t s mid k : Nat} {c : Bool} (h : Out.tx t s mid k c ∈ l.out) :
    c = true ∧ ∃ t0 T mx, TOut.tx t s mid k t0 T mx ∈ ts.outs := by
  have h1 : Obs.tx t s mid k c ∈ l.out.filterMap obsM := List.mem_filterMap.2 ⟨_, h, rfl⟩
  rw [← ho] at h1
  obtain ⟨o, ho1, ho2⟩ := List.mem_filterMap.1 h1
  cases o with
  | tx t' s' mid' k' t0 T mx =>
    simp only [obsS, Option.some.injEq, Obs.tx.injEq] at ho2
    obtain ⟨rfl, rfl, rfl, rfl, rfl⟩ := ho2
    exact ⟨rfl, t0, T, mx, ho1⟩
  | nackRetries _ _ _ => simp [obsS] at ho2
  | nackRst _ _ _ => simp [obsS] at ho2
  | acked _ _ _ => simp [obsS] at ho2

/-! ### decidability of the scope (for the concrete witnesses) -/

instance (l : L) (ev : Ev) : Decidable (EvIn l ev) := by
  cases ev <;> simp only [EvIn] <;> infer_instance

instance decRunIn : (evs : List Ev) → (l : L) → Decidable (RunIn l evs)
  | [], _ => isTrue trivial
  | ev :: evs, l => by
    unfold RunIn
    exact @instDecidableAnd _ _ _ (decRunIn evs _)

theorem sc_append (s mid : Nat) (a b : List TEv) : sc s mid (a ++ b) = sc s mid a + sc s mid b := by
  induction a with
  | nil => simp [sc]
  | cons e a ih => simp only [List.cons_append, sc, ih]; omega

theorem sc_trRun (s mid : Nat) (evs : List Ev) : ∀ l : L, sc s mid (trRun l evs) = subC s mid evs := by
  induction evs with
  | nil => intro l; rfl
  | cons ev evs ih =>
    intro l
    simp only [trRun, sc_append, subC, ih]
    cases ev <;> simp [tr, sc, sendW]

theorem ackS_step {par : Nat → Sess} {P : Nat → Nat → Nat → Prop} (s mid : Nat) (l : L) (ts : TS) (ev : Ev)
    (hi : Inv par P l) (hr : Rel (mxOf par) l ts) :
    ackS s mid (Timer.run ts (tr l ev)).outs = ackS s mid ts.outs + ackW s mid l ev := by
  cases ev with
  | rxAck s' m' =>
    simp only [tr, Timer.run, List.foldl_cons, List.foldl_nil, ackS_tick, ackS_ack, ackW]
    rcases remove_sim l ts s' m' hi hr with ⟨rest, hm, hs, _⟩ | ⟨n, rest, m, pr, hm, hs, _⟩
    · simp [hm, hs]
    · simp [hm, hs]
  | _ => simp [tr, Timer.run, ackS_tick, ackS_send, ackS_rst, ackW]

/-- S's completions by ACK are the ACKs that found their message in M's send queue -/
theorem run_sim {par : Nat → Sess} {P : Nat → Nat → Nat → Prop} (hp : ParOk par) :
    ∀ (evs : List Ev) (l : L) (ts : TS), Inv par P l → Rel (mxOf par) l ts → RunIn l evs →
      (∀ s mid r, Ev.submit s true mid r ∈ evs → P s mid (calcTimeout (par s).atI (par s).atF (par s).arfI (par s).arfF r)) →
      Inv par P (Msg.run l evs) ∧ Rel (mxOf par) (Msg.run l evs) (Timer.run ts (trRun l evs)) ∧
      ∀ s mid, ackS s mid (Timer.run ts (trRun l evs)).outs = ackS s mid ts.outs + ackC s mid l evs := by
  intro evs
  induction evs with
  | nil => intro l ts hi hr _ _; exact ⟨hi, hr, fun _ _ => rfl⟩
  | cons ev evs ih =>
    intro l ts hi hr hin hP
    obtain ⟨hi1, hr1⟩ := step_sim hp l ts ev hi hr hin.1 (fun s mid r h => hP s mid r (by simp [h]))
    obtain ⟨hi2, hr2, hack⟩ := ih _ _ hi1 hr1 hin.2 (fun s mid r h => hP s mid r (by simp [h]))
    simp only [Msg.run, List.foldl_cons, trRun, timer_run_append, ackC]
    refine ⟨hi2, hr2, fun s mid => ?_⟩
    rw [hack s mid, ackS_step s mid l ts ev hi hr]
    omega

theorem runIn_append (l : L) (a b : List Ev) : RunIn l (a ++ b) ↔ RunIn l a ∧ RunIn (Msg.run l a) b := by
  induction a generalizing l with
  | nil => simp [RunIn, Msg.run]
  | cons e a ih =>
    simp only [List.cons_append, RunIn, Msg.run, List.foldl_cons]
    rw [ih]
    simp only [Msg.run, and_assoc]

end Coap.Sim

namespace Coap.Sim
open Coap Coap.SQ Coap.Msg Coap.Timer Coap.Sched

/-! ### the scope of the exact simulation lies inside the scope of the invariant -/

theorem runIn_runG : ∀ (evs : List Ev) (l : L), RunIn l evs → RunG l evs
  | [], _, _ => trivial
  | ev :: evs, l, h => by
    refine ⟨?_, runIn_runG evs _ h.2⟩
    have h1 := h.1
    cases ev with
    | submit s con mid r => exact fun _ => ⟨h1.2.2.2.1, h1.2.2.2.2⟩
    | setNow t => exact h1
    | hold _ | connect _ | disconnect _ | rxNon _ _ _ | rxBad _ _ => exact h1.elim
    | prepare | rxAck _ _ | rxRst _ _ => trivial

theorem accC_le_subC (s mid : Nat) : ∀ (evs : List Ev) (l : L), accC s mid l evs ≤ subC s mid evs
  | [], _ => Nat.le_refl _
  | ev :: evs, l => by
    refine Nat.add_le_add ?_ (accC_le_subC s mid evs (Msg.step l ev))
    cases ev with
    | submit s' con m' r =>
      cases con
      · exact Nat.zero_le _
      · exact ite_ind (P := fun x => x ≤ if s' = s ∧ m' = mid then 1 else 0)
          (fun h => by rw [if_pos h.1]; exact Nat.le_refl _) (fun _ => Nat.zero_le _)
    | _ => exact Nat.le_refl _

/-- M: from an in-scope state in which nothing of (s, mid) is queued, a run that does not submit (s, mid) again
never transmits it — `Sched.run_keeps` (whole alphabet, delayed messages counted) where the delay queues are empty -/
theorem quiet_sim {par : Nat → Sess} {P : Nat → Nat → Nat → Prop} (hp : ParOk par) (s mid : Nat) (evs : List Ev)
    (l : L) (ts : TS) (hi : Inv par P l) (hr : Rel (mxOf par) l ts) (hin : RunIn l evs)
    (hP : ∀ s mid r, Ev.submit s true mid r ∈ evs → P s mid (calcTimeout (par s).atI (par s).atF (par s).arfI (par s).arfF r))
    (h0 : pendC s mid l.q.nodes = 0) (hs : subC s mid evs = 0) :
    txC s mid (Msg.run l evs).out = txC s mid l.out ∧ pendC s mid (Msg.run l evs).q.nodes = 0 := by
  obtain ⟨hf, hdq⟩ := hi.finv hp
  have hacc : accC s mid l evs = 0 := Nat.le_zero.1 (hs ▸ accC_le_subC s mid evs l)
  obtain ⟨h1, h2⟩ := (run_keeps (gpar_of_parOk hp) s mid evs l hf (runIn_runG evs l hin) hP).2.2
    (by simp only [Psi, h0, hdq s, midC]) hacc
  exact ⟨h1, by simp only [Psi] at h2; omega⟩

end Coap.Sim
