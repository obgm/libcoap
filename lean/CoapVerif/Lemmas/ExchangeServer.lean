import CoapVerif.Lemmas.Exchange
/-
Helper lemmas for C07 about the scripted server personalities of Model/Exchange.lean (`Coap.Exch.Server`):
a server that starts quiet and (unless it piggybacks) de-duplicates requests at application level answers ALL the
copies of one Confirmable request, under every schedule of its side of the exchange (`SExEv`), with copies of ONE response
message `respFor s0 req` (and copies of the empty ACK).
-/
namespace Coap.Exch

inductive SEvent where
  | rx (now : Nat) (d : Dgram)      -- a datagram arrives (coap_dispatch)
  | tick (now : Nat)                -- coap_io_prepare_io: asyncs that are due, then the retransmission loop
  | app (now : Nat)                 -- one due application timer (trigger of an async / delayed separate response)
  deriving Repr

def Server.step (s : Server) : SEvent → Server × List Out
  | .rx now d => s.rx now d
  | .tick now => s.tick now
  | .app now => (s.appTimer now).getD (s, [])

def Server.run (s : Server) : List SEvent → Server × List Out
  | [] => (s, [])
  | e :: es =>
    let (s1, o1) := s.step e
    let (s2, o2) := Server.run s1 es
    (s2, o1 ++ o2)

/-- THE response message the server in state `s` produces for the request `req` (D2) -/
def respFor (s : Server) (req : Dgram) : Dgram :=
  match s.pers with
  | .pb => { type := .ack, code := 69, mid := req.mid, token := req.token }
  | .ac | .tr | .dc => { type := .con, code := 69, mid := (s.txMid + 1) % 65536, token := req.token }
  | .dn => { type := .non, code := 69, mid := (s.txMid + 1) % 65536, token := req.token }
  | .da => { type := .ack, code := 69, mid := (s.txMid + 1) % 65536, token := req.token }

/-- the server's side of one exchange: copies of the request `req` arrive (any number, any time), ACK / RST datagrams
    arrive (any message id), time passes, application timers run — in any order -/
inductive SExEv (req : Dgram) : SEvent → Prop where
  | request (now : Nat) : SExEv req (.rx now req)
  | reply (now : Nat) (d : Dgram) (h : d.type = .ack ∨ d.type = .rst) : SExEv req (.rx now d)
  | tick (now : Nat) : SExEv req (.tick now)
  | app (now : Nat) : SExEv req (.app now)

structure SReq (req : Dgram) : Prop where
  hcon : req.type = .con
  hcode : isRequest req.code = true

/-- the server is quiet and has not seen the request's token; it piggybacks or de-duplicates at application level -/
structure SQuiet (s : Server) (req : Dgram) : Prop where
  hL : s.L = Idle
  hasync : s.asyncs = []
  hpend : s.pend = []
  hnew : s.answered.contains req.token = false
  hdedup : s.pers = .pb ∨ s.dedup = true

/-! ### the server's reactions, one lemma per (situation, event) -/

theorem Server.rx_reply_Idle (s : Server) (now : Nat) (d : Dgram) (hL : s.L = Idle)
    (h : d.type = .ack ∨ d.type = .rst) :
    ∃ o, s.rx now d = (s, o) ∧ ∀ d', Out.tx d' ∉ o := by
  obtain ⟨pers, dedup, D, T, txMid, L, asyncs, pend, answered⟩ := s
  subst hL
  rcases h with h | h
  · exact ⟨[], by simp [Server.rx, h, Idle, Layer.removeByMid], fun _ => List.not_mem_nil⟩
  · exact ⟨[Out.callNack .rst d.mid], by simp [Server.rx, h, Idle, Layer.removeByMid], by simp⟩

theorem Server.rx_reply_Wt (s : Server) (now : Nat) (d : Dgram) (n : Node) (hL : s.L = Wt n)
    (h : d.type = .ack ∨ d.type = .rst) :
    ∃ L o, (L = Wt n ∨ L = Idle) ∧ s.rx now d = ({ s with L := L }, o) ∧ ∀ d', Out.tx d' ∉ o := by
  obtain ⟨pers, dedup, D, T, txMid, L, asyncs, pend, answered⟩ := s
  subst hL
  by_cases hm : n.d.mid = d.mid
  · rcases h with h | h
    · exact ⟨Idle, [], Or.inr rfl, by simp [Server.rx, h, Wt, Layer.removeByMid, hm, Layer.release_Wt_removed],
        fun _ => List.not_mem_nil⟩
    · by_cases hc : n.d.type = .con
      · exact ⟨Idle, [Out.callNack .rst n.d.mid], Or.inr rfl,
          by simp [Server.rx, h, Wt, Layer.removeByMid, hm, Layer.release_Wt_removed, Layer.cancelAll_Idle, hc],
          by simp⟩
      · exact ⟨Idle, [], Or.inr rfl,
          by simp [Server.rx, h, Wt, Layer.removeByMid, hm, Layer.release_Wt_removed, Layer.cancelAll_Idle, hc],
          fun _ => List.not_mem_nil⟩
  · rcases h with h | h
    · exact ⟨Wt n, [], Or.inl rfl, by simp [Server.rx, h, Wt, Layer.removeByMid, hm], fun _ => List.not_mem_nil⟩
    · exact ⟨Wt n, [Out.callNack .rst d.mid], Or.inl rfl, by simp [Server.rx, h, Wt, Layer.removeByMid, hm],
        by simp⟩

theorem Server.tick_noasync (s : Server) (now : Nat) (ha : s.asyncs = []) :
    s.tick now = ({ s with L := (s.L.tickAll now).1 }, (s.L.tickAll now).2) := by
  simp [Server.tick, ha, Server.checkAsync]

theorem Server.tick_quiet (s : Server) (now : Nat) (ha : s.asyncs = []) (hL : s.L = Idle) : s.tick now = (s, []) := by
  rw [s.tick_noasync now ha, hL, Layer.tickAll_Idle, ← hL]

theorem Server.tick_async_wait (s : Server) (now : Nat) (a : Async) (ha : s.asyncs = [a]) (hL : s.L = Idle)
    (hd : a.due = none ∨ ∃ t, a.due = some t ∧ now < t) : s.tick now = (s, []) := by
  have hc : Server.checkAsync now [a] s = (s, []) := by
    rcases hd with hd | ⟨t, hd, hlt⟩
    · simp [Server.checkAsync, hd]
    · simp [Server.checkAsync, hd, Nat.not_le.mpr hlt]
  rw [Server.tick, ha, hc]
  simp only [hL, Layer.tickAll_Idle, List.append_nil]
  rw [← hL]

theorem Server.app_nopend (s : Server) (now : Nat) (h : s.pend = []) : s.step (.app now) = (s, []) := by
  simp [Server.step, Server.appTimer, h]

theorem Server.app_wait (s : Server) (now : Nat) (p : Pend) (h : s.pend = [p]) (hd : ¬ p.due ≤ now) :
    s.step (.app now) = (s, []) := by
  simp [Server.step, Server.appTimer, h, hd]

theorem Server.app_fire (s : Server) (now : Nat) (p : Pend) (req : Dgram)
    (hp : s.pers = .dc ∨ s.pers = .dn ∨ s.pers = .da) (hpe : s.pend = [p]) (ht : p.token = req.token)
    (hd : p.due ≤ now) (hL : s.L = Idle) :
    s.step (.app now) =
      ({ s with pend := [], txMid := (s.txMid + 1) % 65536, answered := s.answered ++ [req.token],
                L := (Idle.send now (respFor s req) s.T).1 }, [Out.tx (respFor s req)]) := by
  obtain ⟨pers, dedup, D, T, txMid, L, asyncs, pend, answered⟩ := s
  subst hpe hL
  rcases hp with hp | hp | hp <;> subst hp <;> simp [Server.step, Server.appTimer, hd, ht, respFor, Layer.send_Idle]

theorem ackFor_con {req : Dgram} (h : req.type = .con) : ackFor req = [Out.tx (emptyAck req.mid)] := by
  simp [ackFor, h, emptyAck]

theorem Server.rx_req_pb (s : Server) (now : Nat) (req : Dgram) (hr : SReq req) (hp : s.pers = .pb)
    (ha : s.asyncs = []) :
    s.rx now req = (s, [Out.callRequest req.mid req.token, Out.tx (respFor s req)]) := by
  obtain ⟨hc, hk⟩ := hr
  obtain ⟨pers, dedup, D, T, txMid, L, asyncs, pend, answered⟩ := s
  subst hp ha
  simp [Server.rx, hc, hk, Server.handleRequest, Server.findAsync, Server.handler, Layer.send, respFor]

/-- a request for which no async is registered and to which the handler sets no response code: the handler is
    called, the empty ACK goes out -/
theorem Server.rx_req_code0 (s s1 : Server) (now : Nat) (req : Dgram) (hr : SReq req) (ha : s.asyncs = [])
    (hh : s.handler now req false = (s1, 0)) :
    s.rx now req = (s1, [Out.callRequest req.mid req.token, Out.tx (emptyAck req.mid)]) := by
  obtain ⟨hc, hk⟩ := hr
  simp [Server.rx, hc, hk, Server.handleRequest, Server.findAsync, ha, hh, ackFor, emptyAck]

theorem Server.rx_req_fresh_ac (s : Server) (now : Nat) (req : Dgram) (hr : SReq req) (hp : s.pers = .ac)
    (ha : s.asyncs = []) (hnew : s.answered.contains req.token = false) :
    s.rx now req =
      ({ s with txMid := (s.txMid + 1) % 65536,
                asyncs := [{ token := req.token, mid := (s.txMid + 1) % 65536, reqType := .con, due := some (now + s.D) }] },
       [Out.callRequest req.mid req.token, Out.tx (emptyAck req.mid)]) := by
  refine s.rx_req_code0 _ now req hr ha ?_
  obtain ⟨pers, dedup, D, T, txMid, L, asyncs, pend, answered⟩ := s
  subst hp ha
  simp only [Server.handler, hnew, hr.hcon, Bool.false_eq_true, and_false, if_false, if_true, reduceCtorEq]

theorem Server.rx_req_fresh_tr (s : Server) (now : Nat) (req : Dgram) (hr : SReq req) (hp : s.pers = .tr)
    (ha : s.asyncs = []) (hpe : s.pend = []) (hnew : s.answered.contains req.token = false) :
    s.rx now req =
      ({ s with txMid := (s.txMid + 1) % 65536,
                asyncs := [{ token := req.token, mid := (s.txMid + 1) % 65536, reqType := .con, due := none }],
                pend := [{ token := req.token, due := now + s.D }] },
       [Out.callRequest req.mid req.token, Out.tx (emptyAck req.mid)]) := by
  refine s.rx_req_code0 _ now req hr ha ?_
  obtain ⟨pers, dedup, D, T, txMid, L, asyncs, pend, answered⟩ := s
  subst hp ha hpe
  simp only [Server.handler, hnew, hr.hcon, Bool.false_eq_true, and_false, if_false, if_true, reduceCtorEq,
    List.nil_append]

theorem Server.rx_req_fresh_timer (s : Server) (now : Nat) (req : Dgram) (hr : SReq req)
    (hp : s.pers = .dc ∨ s.pers = .dn ∨ s.pers = .da) (ha : s.asyncs = []) (hpe : s.pend = [])
    (hnew : s.answered.contains req.token = false) :
    s.rx now req =
      ({ s with pend := [{ token := req.token, due := now + s.D }] },
       [Out.callRequest req.mid req.token, Out.tx (emptyAck req.mid)]) := by
  refine s.rx_req_code0 _ now req hr ha ?_
  obtain ⟨pers, dedup, D, T, txMid, L, asyncs, pend, answered⟩ := s
  subst hpe
  rcases hp with hp | hp | hp <;> subst hp <;>
    simp only [Server.handler, hnew, List.any_nil, Bool.false_eq_true, and_false, if_false, List.nil_append]

/-- a copy of the request after the response: application-level de-duplication -/
theorem Server.rx_req_answered (s : Server) (now : Nat) (req : Dgram) (hr : SReq req)
    (hp : s.pers ≠ .pb) (hd : s.dedup = true) (ha : s.asyncs = []) (hans : s.answered.contains req.token = true) :
    s.rx now req = (s, [Out.callRequest req.mid req.token, Out.tx (emptyAck req.mid)]) := by
  refine s.rx_req_code0 s now req hr ha ?_
  simp only [Server.handler, hd, hans, and_self, if_true, ite_self, Bool.false_eq_true, if_false]
  split
  · exact absurd ‹_› hp
  all_goals rfl

/-! reactions whose proofs compare tokens -/

section
/- the proofs of this section find these at once; the search for them is long -/
local instance lawfulBytes : LawfulBEq Bytes := inferInstance
local instance : ReflBEq Bytes := lawfulBytes.toReflBEq

/-- one async that is due: the stored request goes through the handler, the separate response is sent and the
    retransmission loop runs on it -/
theorem Server.tick_async_fire (s : Server) (now t : Nat) (a : Async) (hp : s.pers = .ac ∨ s.pers = .tr)
    (ha : s.asyncs = [a]) (hty : a.reqType = .con) (hdue : a.due = some t) (ht : t ≤ now) (hL : s.L = Idle) :
    s.tick now =
      ({ s with asyncs := [], answered := s.answered ++ [a.token],
                L := (Layer.tickAll now (Wt (Layer.sentNode ⟨.con, 69, a.mid, a.token⟩ s.T now))).1 },
       Out.callRequest a.mid a.token :: Out.tx ⟨.con, 69, a.mid, a.token⟩ ::
         (Layer.tickAll now (Wt (Layer.sentNode ⟨.con, 69, a.mid, a.token⟩ s.T now))).2) := by
  have hh : s.handler now ⟨.con, 1, a.mid, a.token⟩ true = ({ s with answered := s.answered ++ [a.token] }, 69) := by
    rcases hp with hp | hp <;> simp [Server.handler, hp]
  have hn : ¬ now < t := Nat.not_lt.mpr ht
  obtain ⟨pers, dedup, D, T, txMid, L, asyncs, pend, answered⟩ := s
  subst ha hL
  simp [Server.tick, Server.checkAsync, hdue, ht, hn, hty, Server.handleRequest, Server.findAsync, hh,
    Layer.send_Idle]

theorem Server.app_fire_tr (s : Server) (now : Nat) (p : Pend) (a : Async) (hp : s.pers = .tr) (hpe : s.pend = [p])
    (ha : s.asyncs = [a]) (hat : a.token = p.token) (hd : p.due ≤ now) :
    s.step (.app now) = ({ s with pend := [], asyncs := [{ a with due := some now }] } : Server).tick now := by
  obtain ⟨pers, dedup, D, T, txMid, L, asyncs, pend, answered⟩ := s
  subst hp hpe ha
  simp [Server.step, Server.appTimer, hd, hat]

theorem Server.rx_req_async (s : Server) (now : Nat) (req : Dgram) (a : Async) (hr : SReq req)
    (ha : s.asyncs = [a]) (hat : a.token = req.token) :
    s.rx now req = (s, [Out.tx (emptyAck req.mid)]) := by
  obtain ⟨hc, hk⟩ := hr
  simp [Server.rx, hc, hk, Server.handleRequest, Server.findAsync, ha, hat, ackFor, emptyAck]

theorem Server.rx_req_timer (s : Server) (now : Nat) (req : Dgram) (p : Pend) (hr : SReq req)
    (hp : s.pers = .dc ∨ s.pers = .dn ∨ s.pers = .da) (ha : s.asyncs = []) (hpe : s.pend = [p]) (hpt : p.token = req.token) :
    s.rx now req = (s, [Out.callRequest req.mid req.token, Out.tx (emptyAck req.mid)]) := by
  refine s.rx_req_code0 s now req hr ha ?_
  rcases hp with hp | hp | hp <;> simp [Server.handler, hp, hpe, hpt]

theorem contains_snoc (l : List Bytes) (b : Bytes) : (l ++ [b]).contains b = true :=
  List.contains_iff_mem.mpr (List.mem_append_right l (List.mem_singleton_self b))

end

/-- invariant of the server during the exchange: the state is one of five explicitly given phases; the static
    fields `pers`, `dedup`, `D`, `T` (and everything not mentioned) are those of `s0` -/
def SInv (s0 : Server) (req : Dgram) (s : Server) : Prop :=
  -- nothing seen yet (for the piggybacking server: always)
  s = s0 ∨
  -- `ac`: async registered, armed with a delay
  (s0.pers = .ac ∧ ∃ t, s =
    { s0 with
      txMid := (s0.txMid + 1) % 65536,
      asyncs := [{ token := req.token, mid := (s0.txMid + 1) % 65536, reqType := .con, due := some t }] }) ∨
  -- `tr`: async registered, delayed indefinitely, the application's trigger timer runs
  (s0.pers = .tr ∧ ∃ t, s =
    { s0 with
      txMid := (s0.txMid + 1) % 65536,
      asyncs := [{ token := req.token, mid := (s0.txMid + 1) % 65536, reqType := .con, due := none }],
      pend := [{ token := req.token, due := t }] }) ∨
  -- `dc` / `dn` / `da`: the application's delayed-response timer runs
  ((s0.pers = .dc ∨ s0.pers = .dn ∨ s0.pers = .da) ∧ ∃ t, s = { s0 with pend := [{ token := req.token, due := t }] }) ∨
  -- the response has been produced; a Confirmable one may still wait for its ACK
  (s0.pers ≠ .pb ∧ ∃ L, (L = Idle ∨ ∃ n, L = Wt n ∧ n.d = respFor s0 req ∧ (respFor s0 req).type = .con) ∧
    s = { s0 with txMid := (s0.txMid + 1) % 65536, answered := s0.answered ++ [req.token], L := L })

theorem SInv_init {s0 : Server} {req : Dgram} : SInv s0 req s0 := Or.inl rfl

/-- what a step (or run) of the server with result `r` keeps: the invariant, and everything transmitted is a copy of THE
    response or of the empty ACK of the request -/
def SStepOk (s0 : Server) (req : Dgram) (r : Server × List Out) : Prop :=
  SInv s0 req r.1 ∧ ∀ d, Out.tx d ∈ r.2 → d = respFor s0 req ∨ d = emptyAck req.mid

theorem SInv.static {s0 : Server} {req : Dgram} {s : Server} (h : SInv s0 req s) :
    s.pers = s0.pers ∧ s.dedup = s0.dedup ∧ s.D = s0.D ∧ s.T = s0.T := by
  rcases h with h | ⟨_, t, h⟩ | ⟨_, t, h⟩ | ⟨_, t, h⟩ | ⟨_, L, _, h⟩ <;> subst h <;> simp

theorem SInv.layer {s0 : Server} {req : Dgram} {s : Server} (hq : SQuiet s0 req) (h : SInv s0 req s) :
    s.L = Idle ∨ ∃ n, s.L = Wt n ∧ n.d = respFor s0 req ∧ (respFor s0 req).type = .con := by
  have hL := hq.hL
  rcases h with h | ⟨_, t, h⟩ | ⟨_, t, h⟩ | ⟨_, t, h⟩ | ⟨_, L, hL', h⟩ <;> subst h
  · exact Or.inl hL
  · exact Or.inl hL
  · exact Or.inl hL
  · exact Or.inl hL
  · exact hL'

theorem SInv.answered {s0 : Server} {req : Dgram} (hp : s0.pers ≠ .pb) {L : Layer}
    (hL : L = Idle ∨ ∃ n, L = Wt n ∧ n.d = respFor s0 req ∧ (respFor s0 req).type = .con) :
    SInv s0 req { s0 with txMid := (s0.txMid + 1) % 65536, answered := s0.answered ++ [req.token], L := L } :=
  Or.inr (Or.inr (Or.inr (Or.inr ⟨hp, L, hL, rfl⟩)))

theorem SInv_tickAll_Wt {s0 : Server} {req : Dgram} (hp : s0.pers ≠ .pb) (now : Nat) (n : Node)
    (hn : n.d = respFor s0 req) (hc : (respFor s0 req).type = .con) :
    SInv s0 req { s0 with txMid := (s0.txMid + 1) % 65536, answered := s0.answered ++ [req.token],
                          L := (Layer.tickAll now (Wt n)).1 } ∧
    ∀ d, Out.tx d ∈ (Layer.tickAll now (Wt n)).2 → d = respFor s0 req := by
  unfold Layer.tickAll
  obtain ⟨k, ⟨n', hn', h, _⟩ | h⟩ := Layer.tick_Wt_shape now _ n (hn ▸ hc)
  · rw [h]
    exact ⟨SInv.answered hp (Or.inr ⟨n', rfl, hn'.trans hn, hc⟩),
      fun d hd => (Out.tx.inj (List.eq_of_mem_replicate hd)).trans hn⟩
  · rw [h]
    refine ⟨SInv.answered hp (Or.inl rfl), fun d hd => ?_⟩
    rcases List.mem_append.mp hd with hd | hd
    · exact (Out.tx.inj (List.eq_of_mem_replicate hd)).trans hn
    · cases List.mem_singleton.mp hd

theorem SInv_async_fire {s0 : Server} {req : Dgram} (hq : SQuiet s0 req) (hp : s0.pers = .ac ∨ s0.pers = .tr)
    (s : Server) (now t : Nat) (ht : t ≤ now)
    (hs : s = { s0 with txMid := (s0.txMid + 1) % 65536,
                        asyncs := [{ token := req.token, mid := (s0.txMid + 1) % 65536, reqType := .con, due := some t }] }) :
    SStepOk s0 req (s.tick now) := by
  have hrsp : (⟨.con, 69, (s0.txMid + 1) % 65536, req.token⟩ : Dgram) = respFor s0 req := by
    rcases hp with hp | hp <;> simp [respFor, hp]
  have hne : s0.pers ≠ .pb := by rcases hp with hp | hp <;> simp [hp]
  obtain ⟨h1, h2⟩ := SInv_tickAll_Wt hne now (Layer.sentNode (respFor s0 req) s0.T now) rfl (hrsp ▸ rfl)
  rw [hq.hasync] at h1
  subst hs
  rw [Server.tick_async_fire _ now t _ ?_ rfl rfl rfl ht ?_, hrsp]
  · refine ⟨h1, fun d hd => Or.inl ?_⟩
    rcases List.mem_cons.mp hd with hd | hd
    · cases hd
    · rcases List.mem_cons.mp hd with hd | hd
      · exact Out.tx.inj hd
      · exact h2 d hd
  · exact hp
  · exact hq.hL

theorem tx_mem_nil {P : Dgram → Prop} : ∀ d, Out.tx d ∈ ([] : List Out) → P d :=
  fun _ h => absurd h List.not_mem_nil

theorem tx_mem_tx {a : Dgram} : ∀ d, Out.tx d ∈ [Out.tx a] → d = a :=
  fun _ h => Out.tx.inj (List.mem_singleton.mp h)

theorem tx_mem_call_tx {a : Dgram} {m : Nat} {tok : Bytes} : ∀ d, Out.tx d ∈ [Out.callRequest m tok, Out.tx a] → d = a := by
  intro d h
  rcases List.mem_cons.mp h with h | h
  · cases h
  · exact tx_mem_tx d h

theorem Pers.cases4 (p : Pers) : p = .pb ∨ p = .ac ∨ p = .tr ∨ (p = .dc ∨ p = .dn ∨ p = .da) := by
  cases p <;> simp

theorem SInv_step_of_eq {s0 : Server} {req : Dgram} {r r' : Server × List Out} (h : r = r') (g : SStepOk s0 req r') :
    SStepOk s0 req r :=
  h ▸ g

theorem SInv.step_same {s0 : Server} {req : Dgram} {s : Server} (hi : SInv s0 req s) {r : Server × List Out}
    {o : List Out} (h : r = (s, o)) (ho : ∀ d, Out.tx d ∈ o → d = emptyAck req.mid) : SStepOk s0 req r :=
  SInv_step_of_eq h ⟨hi, fun d hd => Or.inr (ho d hd)⟩

theorem SInv.step_reply_Idle {s0 : Server} {req : Dgram} {s : Server} (hi : SInv s0 req s) (hL : s.L = Idle)
    (now : Nat) (d : Dgram) (h : d.type = .ack ∨ d.type = .rst) : SStepOk s0 req (s.step (.rx now d)) := by
  obtain ⟨o, h1, h2⟩ := s.rx_reply_Idle now d hL h
  exact hi.step_same h1 (fun d' hd' => absurd hd' (h2 d'))

theorem SInv_step {s0 : Server} {req : Dgram} (hr : SReq req) (hq : SQuiet s0 req) (s : Server) (hi : SInv s0 req s)
    (e : SEvent) (he : SExEv req e) :
    SStepOk s0 req (s.step e) := by
  have hi' := hi
  rcases hi with hi | ⟨hp, t, hi⟩ | ⟨hp, t, hi⟩ | ⟨hp, t, hi⟩ | ⟨hp, L, hL, hi⟩
  · -- nothing seen yet
    subst hi
    cases he with
    | request now =>
      rcases s.pers.cases4 with hp | hp | hp | hp
      · exact SInv_step_of_eq (s.rx_req_pb now req hr hp hq.hasync) ⟨hi', fun d hd => Or.inl (tx_mem_call_tx d hd)⟩
      · exact SInv_step_of_eq (s.rx_req_fresh_ac now req hr hp hq.hasync hq.hnew)
          ⟨Or.inr (Or.inl ⟨hp, _, rfl⟩), fun d hd => Or.inr (tx_mem_call_tx d hd)⟩
      · exact SInv_step_of_eq (s.rx_req_fresh_tr now req hr hp hq.hasync hq.hpend hq.hnew)
          ⟨Or.inr (Or.inr (Or.inl ⟨hp, _, rfl⟩)), fun d hd => Or.inr (tx_mem_call_tx d hd)⟩
      · exact SInv_step_of_eq (s.rx_req_fresh_timer now req hr hp hq.hasync hq.hpend hq.hnew)
          ⟨Or.inr (Or.inr (Or.inr (Or.inl ⟨hp, _, rfl⟩))), fun d hd => Or.inr (tx_mem_call_tx d hd)⟩
    | reply now d h => exact hi'.step_reply_Idle hq.hL now d h
    | tick now => exact hi'.step_same (s.tick_quiet now hq.hasync hq.hL) tx_mem_nil
    | app now => exact hi'.step_same (s.app_nopend now hq.hpend) tx_mem_nil
  · -- ac: the async is armed
    have hsL : s.L = Idle := hi ▸ hq.hL
    have hsa := congrArg Server.asyncs hi
    cases he with
    | request now => exact hi'.step_same (s.rx_req_async now req _ hr hsa rfl) tx_mem_tx
    | reply now d h => exact hi'.step_reply_Idle hsL now d h
    | tick now =>
      by_cases ht : t ≤ now
      · exact SInv_async_fire hq (Or.inl hp) s now t ht hi
      · exact hi'.step_same (s.tick_async_wait now _ hsa hsL (Or.inr ⟨t, rfl, Nat.not_le.mp ht⟩)) tx_mem_nil
    | app now => exact hi'.step_same (s.app_nopend now (hi ▸ hq.hpend)) tx_mem_nil
  · -- tr: the async is delayed indefinitely, the trigger timer runs
    have hsL : s.L = Idle := hi ▸ hq.hL
    have hsa := congrArg Server.asyncs hi
    have hsp := congrArg Server.pend hi
    cases he with
    | request now => exact hi'.step_same (s.rx_req_async now req _ hr hsa rfl) tx_mem_tx
    | reply now d h => exact hi'.step_reply_Idle hsL now d h
    | tick now => exact hi'.step_same (s.tick_async_wait now _ hsa hsL (Or.inl rfl)) tx_mem_nil
    | app now =>
      by_cases ht : t ≤ now
      · exact SInv_step_of_eq (s.app_fire_tr now _ _ (hi ▸ hp) hsp hsa rfl ht)
          (SInv_async_fire hq (Or.inr hp) _ now now (Nat.le_refl now) (by rw [hi, hq.hpend]))
      · exact hi'.step_same (s.app_wait now _ hsp ht) tx_mem_nil
  · -- dc / dn / da: the delayed-response timer runs
    have hsL : s.L = Idle := hi ▸ hq.hL
    have hsa : s.asyncs = [] := hi ▸ hq.hasync
    have hsp := congrArg Server.pend hi
    cases he with
    | request now => exact hi'.step_same (s.rx_req_timer now req _ hr (hi ▸ hp) hsa hsp rfl) tx_mem_call_tx
    | reply now d h => exact hi'.step_reply_Idle hsL now d h
    | tick now => exact hi'.step_same (s.tick_quiet now hsa hsL) tx_mem_nil
    | app now =>
      by_cases ht : t ≤ now
      · have hne : s0.pers ≠ .pb := by rcases hp with hp | hp | hp <;> simp [hp]
        have h := s.app_fire now _ req (hi ▸ hp) hsp rfl ht hsL
        subst hi
        refine SInv_step_of_eq h ⟨?_, fun d hd => Or.inl (tx_mem_tx d hd)⟩
        rw [← hq.hpend]
        exact SInv.answered hne (Layer.send_Idle_layer now (respFor s0 req) s0.T)
      · exact hi'.step_same (s.app_wait now _ hsp ht) tx_mem_nil
  · -- the response has been produced
    have hsa : s.asyncs = [] := hi ▸ hq.hasync
    cases he with
    | request now =>
      exact hi'.step_same
        (s.rx_req_answered now req hr (hi ▸ hp) (hi ▸ hq.hdedup.resolve_left hp) hsa
          (hi ▸ contains_snoc s0.answered req.token))
        tx_mem_call_tx
    | reply now d h =>
      rcases hL with hL | ⟨n, hL, hn, hc⟩
      · exact hi'.step_reply_Idle (hi ▸ hL) now d h
      · obtain ⟨L', o, hL', h1, h2⟩ := s.rx_reply_Wt now d n (hi ▸ hL) h
        refine SInv_step_of_eq h1 ⟨hi ▸ SInv.answered hp ?_, fun d' hd' => absurd hd' (h2 d')⟩
        rcases hL' with hL' | hL'
        · exact Or.inr ⟨n, hL', hn, hc⟩
        · exact Or.inl hL'
    | tick now =>
      refine SInv_step_of_eq (s.tick_noasync now hsa) ?_
      subst hi
      rcases hL with hL | ⟨n, hL, hn, hc⟩
      · subst hL
        rw [Layer.tickAll_Idle]
        exact ⟨hi', tx_mem_nil⟩
      · subst hL
        obtain ⟨h1, h2⟩ := SInv_tickAll_Wt hp now n hn hc
        exact ⟨h1, fun d hd => Or.inl (h2 d hd)⟩
    | app now => exact hi'.step_same (s.app_nopend now (hi ▸ hq.hpend)) tx_mem_nil

theorem SInv_pb_const {s0 : Server} {req : Dgram} (hp : s0.pers = .pb) {s : Server} (hi : SInv s0 req s) : s = s0 := by
  rcases hi with hi | ⟨h, _⟩ | ⟨h, _⟩ | ⟨h, _⟩ | ⟨h, _⟩
  · exact hi
  · rw [hp] at h; cases h
  · rw [hp] at h; cases h
  · rw [hp] at h; rcases h with h | h | h <;> cases h
  · exact absurd hp h

theorem SInv_step_pb_state {s0 : Server} {req : Dgram} (hr : SReq req) (hq : SQuiet s0 req) (hp : s0.pers = .pb)
    (s : Server) (hi : SInv s0 req s) (e : SEvent) (he : SExEv req e) : (s.step e).1 = s0 :=
  SInv_pb_const hp (SInv_step hr hq s hi e he).1

theorem SInv_step_pb {s0 : Server} {req : Dgram} (hq : SQuiet s0 req) (hp : s0.pers = .pb) (s : Server)
    (hi : SInv s0 req s) (e : SEvent) (he : SExEv req e) :
    (∀ now, e ≠ .rx now req) → ∀ d, Out.tx d ∉ (s.step e).2 := by
  intro hne d
  have hs := SInv_pb_const hp hi
  subst hs
  cases he with
  | request now => exact absurd rfl (hne now)
  | reply now d' h =>
    obtain ⟨o, h1, h2⟩ := s.rx_reply_Idle now d' hq.hL h
    rw [Server.step, h1]
    exact h2 d
  | tick now =>
    rw [Server.step, s.tick_quiet now hq.hasync hq.hL]
    exact List.not_mem_nil
  | app now =>
    rw [s.app_nopend now hq.hpend]
    exact List.not_mem_nil

theorem SInv_step_pb_request {s0 : Server} {req : Dgram} (hr : SReq req) (hq : SQuiet s0 req) (hp : s0.pers = .pb)
    (s : Server) (hi : SInv s0 req s) (now : Nat) :
    s.step (.rx now req) = (s0, [Out.callRequest req.mid req.token, Out.tx (respFor s0 req)]) := by
  have hs := SInv_pb_const hp hi
  subst hs
  exact s.rx_req_pb now req hr hp hq.hasync

theorem server_run_one_response {s0 : Server} {req : Dgram} (hr : SReq req) (hq : SQuiet s0 req) (es : List SEvent)
    (hes : ∀ e ∈ es, SExEv req e) : SStepOk s0 req (Server.run s0 es) := by
  suffices h : ∀ (es : List SEvent) (s : Server), SInv s0 req s → (∀ e ∈ es, SExEv req e) → SStepOk s0 req (Server.run s es) from
    h es s0 SInv_init hes
  intro es
  induction es with
  | nil => intro s hi _; exact ⟨hi, by simp [Server.run]⟩
  | cons e es ih =>
    intro s hi hes
    obtain ⟨h1, h2⟩ := SInv_step hr hq s hi e (hes e (by simp))
    obtain ⟨h3, h4⟩ := ih (s.step e).1 h1 (fun e' he' => hes e' (by simp [he']))
    simp only [Server.run]
    refine ⟨h3, ?_⟩
    intro d hd
    simp only [List.mem_append] at hd
    rcases hd with hd | hd
    · exact h2 d hd
    · exact h4 d hd

/-! ### the hypotheses are satisfiable and the response really goes out; without de-duplication it goes out twice -/

def txOf (o : List Out) : List Dgram := o.filterMap (fun x => match x with | .tx d => some d | _ => none)

/-- a concrete exchange with the separate-response server `ac`: request, duplicate request, the async fires, a
    retransmitted request after the answer, the response is retransmitted.  The hypotheses of
    `server_run_one_response` hold, and the server transmits three empty ACKs and the ONE response twice. -/
example :
    let s0 : Server := { pers := .ac, dedup := true, D := 300, T := 2500, txMid := 5000 }
    let req : Dgram := { type := .con, code := 1, mid := 1001, token := [0xc0, 7] }
    let es : List SEvent := [.rx 1000 req, .rx 1200 req, .tick 1300, .rx 3100 req, .tick 3800]
    SReq req ∧ SQuiet s0 req ∧ (∀ e ∈ es, SExEv req e) ∧
    respFor s0 req = { type := .con, code := 69, mid := 5001, token := [0xc0, 7] } ∧
    txOf (Server.run s0 es).2 =
      [emptyAck 1001, emptyAck 1001, respFor s0 req, emptyAck 1001, respFor s0 req] := by
  intro s0 req es
  refine ⟨⟨rfl, rfl⟩, ⟨rfl, rfl, rfl, rfl, Or.inr rfl⟩, ?_, rfl, by decide⟩
  intro e he
  simp only [es, List.mem_cons, List.not_mem_nil, or_false] at he
  rcases he with he | he | he | he | he <;> subst he
  · exact .request _
  · exact .request _
  · exact .tick _
  · exact .request _
  · exact .tick _

/-- KNOWN OPEN FINDING (why `SQuiet.hdedup` is needed): WITHOUT application-level de-duplication a copy of the
    request that arrives after the async has fired (here: after the response has even been acknowledged) registers a
    second async, and the server answers the one request with a SECOND response message carrying a different
    message id.  (While the first response still waits for its ACK the second one is only held back by NSTART = 1
    and goes out as soon as the slot is released.) -/
theorem server_without_dedup_two_responses_witness :
    let s0 : Server := { pers := .ac, dedup := false, D := 300, T := 2500, txMid := 5000 }
    let req : Dgram := { type := .con, code := 1, mid := 1001, token := [0xc0, 7] }
    let es : List SEvent := [.rx 1000 req, .tick 1300, .rx 1500 (emptyAck 5001), .rx 3100 req, .tick 3400]
    SReq req ∧ s0.L = Idle ∧ s0.asyncs = [] ∧ s0.pend = [] ∧ s0.answered.contains req.token = false ∧
    (∀ e ∈ es, SExEv req e) ∧
    txOf (Server.run s0 es).2 =
      [emptyAck 1001, { type := .con, code := 69, mid := 5001, token := [0xc0, 7] },
       emptyAck 1001, { type := .con, code := 69, mid := 5002, token := [0xc0, 7] }] ∧
    ¬ (∀ d, Out.tx d ∈ (Server.run s0 es).2 → d = respFor s0 req ∨ d = emptyAck req.mid) := by
  intro s0 req es
  refine ⟨⟨rfl, rfl⟩, rfl, rfl, rfl, rfl, ?_, by decide, ?_⟩
  · intro e he
    simp only [es, List.mem_cons, List.not_mem_nil, or_false] at he
    rcases he with he | he | he | he | he <;> subst he
    · exact .request _
    · exact .tick _
    · exact .reply _ _ (Or.inl rfl)
    · exact .request _
    · exact .tick _
  · intro h
    have := h { type := .con, code := 69, mid := 5002, token := [0xc0, 7] } (by decide)
    revert this
    decide

end Coap.Exch
