import CoapVerif.Lemmas.Edit
/-
M-side lemmas for the editors (C04): the option iterator on the representing PDU.

`items (conc ms a)` — what `coap_option_iterator_init` + `coap_option_next` deliver on the canonical buffer — is the
abstract option list annotated with offsets and parse results (`absItems`), and the two search loops
(`findInsert`: coap_insert_option, `findEq`: coap_check_option / coap_remove_option) find exactly the split point of
the abstract operations `insertStable`, `removeFirst`, `replaceFirst`.
-/
namespace Coap
open Coap.M

/-- number of the last option of `os`, `prev` if there is none: what the deltas behind `os` count from (`encOpts_split`);
`lastNum` is `lastD 0` -/
def lastD (prev : Nat) (os : List (Nat × Bytes)) : Nat := (os.getLast?.map (·.1)).getD prev

theorem lastD_nil (prev : Nat) : lastD prev [] = prev := rfl
theorem lastD_cons (prev : Nat) (o : Nat × Bytes) (os : List (Nat × Bytes)) : lastD prev (o :: os) = lastD o.1 os :=
  lastNum_cons prev o os
theorem lastNum_eq_lastD (os : List (Nat × Bytes)) : lastNum os = lastD 0 os := rfl

theorem lastD_append (prev : Nat) (pre post : List (Nat × Bytes)) :
    lastD prev (pre ++ post) = lastD (lastD prev pre) post := by
  induction pre generalizing prev with
  | nil => rfl
  | cons p pre ih => rw [List.cons_append, lastD_cons, lastD_cons, ih]

theorem lastD_append_cons (prev : Nat) (pre : List (Nat × Bytes)) (o : Nat × Bytes) (post : List (Nat × Bytes)) :
    lastD prev (pre ++ o :: post) = lastD o.1 post := by
  rw [lastD_append, lastD_cons]

theorem lastD_le {n prev : Nat} {pre : List (Nat × Bytes)} (hp : prev ≤ n) (h : ∀ o ∈ pre, o.1 ≤ n) :
    lastD prev pre ≤ n := by
  induction pre generalizing prev with
  | nil => exact hp
  | cons o pre ih =>
    rw [lastD_cons]
    exact ih (h o (List.mem_cons_self ..)) (fun x hx => h x (List.mem_cons_of_mem _ hx))

theorem encOpts_split (prev : Nat) (pre post : List (Nat × Bytes)) :
    Spec.encOpts prev (pre ++ post) = Spec.encOpts prev pre ++ Spec.encOpts (lastD prev pre) post :=
  encOpts_app prev pre post

theorem encOpts_cons (prev : Nat) (o : Nat × Bytes) (os : List (Nat × Bytes)) :
    Spec.encOpts prev (o :: os) = Spec.encOpt (o.1 - prev) o.2 ++ Spec.encOpts o.1 os := rfl

/-- options ascending from `prev`, numbers fit 16 bits, values fit the length field (no RFC length table) -/
def optsB : Nat → List (Nat × Bytes) → Prop
  | _, [] => True
  | prev, o :: os => prev ≤ o.1 ∧ o.1 ≤ 65535 ∧ o.2.length ≤ 65804 ∧ optsB o.1 os

theorem optsB_of_sorted (prev : Nat) (os : List (Nat × Bytes)) (hs : os.Pairwise (fun a b => a.1 ≤ b.1))
    (ha : ∀ o ∈ os, prev ≤ o.1 ∧ o.1 ≤ 65535 ∧ o.2.length ≤ 65804) : optsB prev os := by
  induction os generalizing prev with
  | nil => trivial
  | cons o os ih =>
    rw [List.pairwise_cons] at hs
    obtain ⟨a1, a2, a3⟩ := ha o (List.mem_cons_self ..)
    refine ⟨a1, a2, a3, ih o.1 hs.2 ?_⟩
    intro x hx
    obtain ⟨_, b2, b3⟩ := ha x (List.mem_cons_of_mem _ hx)
    exact ⟨hs.1 x hx, b2, b3⟩

theorem optsB_of_shape {a : Msg} (hs : Shape a) : optsB 0 a.opts :=
  optsB_of_sorted 0 a.opts hs.2.1 (fun o ho => ⟨Nat.zero_le _, hs.2.2 o ho⟩)

theorem optsB_mem {prev : Nat} {os : List (Nat × Bytes)} (h : optsB prev os) :
    ∀ o ∈ os, prev ≤ o.1 ∧ o.1 ≤ 65535 ∧ o.2.length ≤ 65804 := by
  induction os generalizing prev with
  | nil => intro o ho; cases ho
  | cons x os ih =>
    obtain ⟨h1, h2, h3, h4⟩ := h
    intro o ho
    rcases List.mem_cons.mp ho with rfl | ho
    · exact ⟨h1, h2, h3⟩
    · obtain ⟨j1, j2⟩ := ih h4 o ho
      exact ⟨by omega, j2⟩

theorem optsB_split {prev : Nat} {pre : List (Nat × Bytes)} {o : Nat × Bytes} {post : List (Nat × Bytes)}
    (h : optsB prev (pre ++ o :: post)) :
    optsB prev pre ∧ lastD prev pre ≤ o.1 ∧ o.1 ≤ 65535 ∧ o.2.length ≤ 65804 ∧ optsB o.1 post ∧ prev ≤ lastD prev pre := by
  induction pre generalizing prev with
  | nil => exact ⟨trivial, h.1, h.2.1, h.2.2.1, h.2.2.2, Nat.le_refl _⟩
  | cons p pre ih =>
    obtain ⟨h1, h2, h3, h4⟩ := h
    obtain ⟨i1, i2, i3, i4, i5, i6⟩ := ih h4
    rw [lastD_cons]
    exact ⟨⟨h1, h2, h3, i1⟩, i2, i3, i4, i5, by omega⟩

theorem optParse_encOpt (d : Nat) (v tail : Bytes) (hd : d ≤ 65535) (hv : v.length ≤ 65804) :
    optParse (Spec.encOpt d v ++ tail) (Spec.encOpt d v ++ tail).length =
      R.ok ⟨d, v.length, 1 + (Spec.extBytes d).length + (Spec.extBytes v.length).length,
            (Spec.encOpt d v).length⟩ := by
  obtain ⟨_, hdn, hln⟩ := hdr_byte d v.length
  have hE1 := ext_roundtrip d (Spec.extBytes v.length ++ (v ++ tail)) (by omega)
  have hE2 := ext_roundtrip v.length (v ++ tail) hv
  have hlen : (Spec.encOpt d v ++ tail).length =
      (Spec.extBytes d ++ (Spec.extBytes v.length ++ (v ++ tail))).length + 1 := by
    simp [Spec.encOpt]
  have hcons : Spec.encOpt d v ++ tail = UInt8.ofNat (Spec.nib d * 16 + Spec.nib v.length) ::
      (Spec.extBytes d ++ (Spec.extBytes v.length ++ (v ++ tail))) := by simp [Spec.encOpt]
  rw [hlen, hcons, optParse_eq]
  have hnb : ¬ d > 65535 := by omega
  have hfit : v.length ≤ (v ++ tail).length := by simp
  simp only [optSpec, hdn, hln, hE1, hE2, hnb, if_false, hfit, if_true, encOpt_length]
  simp only [List.length_append]
  -- header size = what is left of the total once value and tail are taken off
  have hsub : ∀ a b t : Nat, a + (b + t) + 1 - t = 1 + a + b := by intro a b t; omega
  rw [hsub]

/-- the iterator item of option `o` stored at offset `ofs` behind an option numbered `prev` -/
def itemOf (ofs prev : Nat) (o : Nat × Bytes) : It :=
  ⟨ofs, o.1, ⟨o.1 - prev, o.2.length, 1 + (Spec.extBytes (o.1 - prev)).length + (Spec.extBytes o.2.length).length,
              (Spec.encOpt (o.1 - prev) o.2).length⟩⟩

/-- the abstract option list as the iterator sees it -/
def absItems : Nat → Nat → List (Nat × Bytes) → List It
  | _, _, [] => []
  | ofs, prev, o :: os => itemOf ofs prev o :: absItems (ofs + (Spec.encOpt (o.1 - prev) o.2).length) o.1 os

theorem optIter_cons (fuel : Nat) (b : UInt8) (r : Bytes) (ofs number : Nat) (p : OptP) (hff : b ≠ 0xFF)
    (hp : optParse (b :: r) (r.length + 1) = R.ok p) :
    optIter (fuel + 1) (b :: r) ofs number =
      ⟨ofs, (number + p.delta) % 65536, p⟩ ::
        optIter fuel ((b :: r).drop p.size) (ofs + p.size) ((number + p.delta) % 65536) := by
  simp only [optIter, hff, if_false, List.length_cons, hp]

theorem encOpt_cons (d : Nat) (v : Bytes) :
    Spec.encOpt d v = UInt8.ofNat (Spec.nib d * 16 + Spec.nib v.length) :: (Spec.extBytes d ++ (Spec.extBytes v.length ++ v)) := rfl

theorem optIter_encOpts : ∀ (os : List (Nat × Bytes)) (fuel prev ofs : Nat) (rest : Bytes),
    optsB prev os → (rest = [] ∨ ∃ t, rest = 0xFF :: t) → os.length < fuel →
    optIter fuel (Spec.encOpts prev os ++ rest) ofs prev = absItems ofs prev os := by
  intro os
  induction os with
  | nil =>
    intro fuel prev ofs rest _ hr hf
    obtain ⟨fuel, rfl⟩ : ∃ f, fuel = f + 1 := ⟨fuel - 1, by simp at hf; omega⟩
    rcases hr with rfl | ⟨t, rfl⟩
    · simp [Spec.encOpts, optIter, absItems]
    · simp [Spec.encOpts, optIter, absItems]
  | cons o os ih =>
    intro fuel prev ofs rest hb hr hf
    obtain ⟨fuel, rfl⟩ : ∃ f, fuel = f + 1 := ⟨fuel - 1, by simp at hf; omega⟩
    obtain ⟨h1, h2, h3, h4⟩ := hb
    obtain ⟨hff, _, _⟩ := hdr_byte (o.1 - prev) o.2.length
    have hp := optParse_encOpt (o.1 - prev) o.2 (Spec.encOpts o.1 os ++ rest) (by omega) h3
    have hbs : Spec.encOpts prev (o :: os) ++ rest =
        UInt8.ofNat (Spec.nib (o.1 - prev) * 16 + Spec.nib o.2.length) ::
          ((Spec.extBytes (o.1 - prev) ++ (Spec.extBytes o.2.length ++ o.2)) ++ (Spec.encOpts o.1 os ++ rest)) := by
      simp [Spec.encOpts, encOpt_cons]
    have hbs2 : Spec.encOpts prev (o :: os) ++ rest = Spec.encOpt (o.1 - prev) o.2 ++ (Spec.encOpts o.1 os ++ rest) := by
      simp [Spec.encOpts]
    have hp' := hp
    rw [← hbs2, hbs] at hp'
    rw [List.length_cons] at hp'
    rw [hbs, optIter_cons fuel _ _ ofs prev _ hff hp']
    have hnum : (prev + (o.1 - prev)) % 65536 = o.1 := by
      rw [Nat.mod_eq_of_lt (by omega)]; omega
    simp only [hnum]
    rw [← hbs, hbs2, List.drop_left]
    rw [ih fuel o.1 _ rest h4 hr (by simp at hf; omega)]
    rfl

theorem conc_drop_etl (ms : Nat) (a : Msg) :
    (conc ms a).buf.drop (conc ms a).etl = Spec.encOpts 0 a.opts ++ Spec.encPayload a.payload := by
  rw [conc_etl]
  exact List.drop_left

theorem items_conc (ms : Nat) (a : Msg) (hs : Shape a) :
    items (conc ms a) = absItems ((Spec.extBytes a.token.length).length + a.token.length) 0 a.opts := by
  unfold items
  rw [conc_drop_etl]
  have hfuel : a.opts.length < (conc ms a).buf.length + 1 := by
    have := encOpts_length_ge 0 a.opts
    have := conc_buf_length ms a
    omega
  exact optIter_encOpts a.opts _ 0 _ _ (optsB_of_shape hs) (encPayload_shape a.payload) hfuel

/-- number of the last option that is not above `n` (0 if none): `prev_number` of coap_insert_option, and
`max_opt` when nothing is above `n` -/
def prevNum (n : Nat) (os : List (Nat × Bytes)) : Nat := lastD 0 (os.takeWhile (fun o => decide (o.1 ≤ n)))

theorem takeWhile_all (n : Nat) (os : List (Nat × Bytes)) (h : ∀ o ∈ os, o.1 ≤ n) :
    os.takeWhile (fun o => decide (o.1 ≤ n)) = os := by
  induction os with
  | nil => rfl
  | cons x os ih =>
    have hx := h x (List.mem_cons_self ..)
    simp [List.takeWhile, hx, ih (fun o ho => h o (List.mem_cons_of_mem _ ho))]

theorem prevNum_all (n : Nat) (os : List (Nat × Bytes)) (h : ∀ o ∈ os, o.1 ≤ n) : prevNum n os = lastNum os := by
  unfold prevNum; rw [takeWhile_all n os h]; rfl

theorem absItems_app (pre post : List (Nat × Bytes)) : ∀ ofs prev : Nat,
    absItems ofs prev (pre ++ post) =
      absItems ofs prev pre ++ absItems (ofs + (Spec.encOpts prev pre).length) (lastD prev pre) post := by
  induction pre with
  | nil => intro ofs prev; rfl
  | cons x pre ih =>
    intro ofs prev
    simp only [List.cons_append, absItems, ih, lastD_cons, Spec.encOpts, List.length_append, Nat.add_assoc]

theorem findEq_skip {n : Nat} {pre : List (Nat × Bytes)} (h : ∀ o ∈ pre, o.1 ≠ n) (rest : List It) : ∀ ofs prev : Nat,
    findEq n (absItems ofs prev pre ++ rest) = findEq n rest := by
  induction pre with
  | nil => intro _ _; rfl
  | cons x pre ih =>
    intro ofs prev
    obtain ⟨hx, hp⟩ := List.forall_mem_cons.1 h
    exact (if_neg hx).trans (ih hp _ _)

theorem findInsert_skip {n : Nat} {pre : List (Nat × Bytes)} (h : ∀ o ∈ pre, o.1 ≤ n) (rest : List It) : ∀ ofs prev : Nat,
    findInsert n prev (absItems ofs prev pre ++ rest) = findInsert n (lastD prev pre) rest := by
  induction pre with
  | nil => intro _ _; rfl
  | cons x pre ih =>
    intro ofs prev
    obtain ⟨hx, hp⟩ := List.forall_mem_cons.1 h
    rw [lastD_cons]
    exact (if_neg (Nat.not_lt.2 hx)).trans (ih hp _ x.1)

theorem findInsert_abs (n : Nat) (v : Bytes) : ∀ (os : List (Nat × Bytes)) (ofs prev : Nat),
    (∃ o ∈ os, n < o.1) →
    ∃ pre nx post, os = pre ++ nx :: post ∧ (∀ o ∈ pre, o.1 ≤ n) ∧ n < nx.1 ∧
      findInsert n prev (absItems ofs prev os) =
        some (itemOf (ofs + (Spec.encOpts prev pre).length) (lastD prev pre) nx, lastD prev pre) ∧
      Spec.insertStable n v os = pre ++ (n, v) :: nx :: post ∧
      pre = os.takeWhile (fun o => decide (o.1 ≤ n)) := by
  intro os ofs prev hex
  have hsplit := (List.takeWhile_append_dropWhile (p := fun o => decide (o.1 ≤ n)) (l := os)).symm
  cases hd : os.dropWhile (fun o => decide (o.1 ≤ n)) with
  | nil =>
    obtain ⟨o, ho, hlt⟩ := hex
    rw [hd, List.append_nil] at hsplit
    exact absurd (takeWhile_le o (hsplit ▸ ho)) (Nat.not_le.2 hlt)
  | cons nx post =>
    have hnx : n < nx.1 := dropWhile_head_lt (os := os) (by rw [hd]; rfl)
    rw [hd] at hsplit
    refine ⟨_, nx, post, hsplit, takeWhile_le, hnx, ?_, by rw [insertStable_cut, hd], rfl⟩
    conv => lhs; rw [hsplit]
    rw [absItems_app, findInsert_skip takeWhile_le]
    exact if_pos hnx

theorem findInsert_none (n : Nat) : ∀ (os : List (Nat × Bytes)) (ofs prev : Nat),
    (∀ o ∈ os, o.1 ≤ n) → findInsert n prev (absItems ofs prev os) = none := by
  intro os ofs prev h
  rw [← List.append_nil (absItems ofs prev os), findInsert_skip h]
  rfl

theorem findEq_none (n : Nat) : ∀ (os : List (Nat × Bytes)) (ofs prev : Nat),
    Spec.hasOpt n os = false → findEq n (absItems ofs prev os) = none := by
  intro os ofs prev h
  rw [← List.append_nil (absItems ofs prev os), findEq_skip (hasOpt_none h)]
  rfl

theorem findEq_abs (n : Nat) : ∀ (os : List (Nat × Bytes)) (ofs prev : Nat),
    Spec.hasOpt n os = true →
    ∃ pre w post, os = pre ++ (n, w) :: post ∧ (∀ o ∈ pre, o.1 ≠ n) ∧
      findEq n (absItems ofs prev os) =
        some (itemOf (ofs + (Spec.encOpts prev pre).length) (lastD prev pre) (n, w),
              (absItems (ofs + (Spec.encOpts prev pre).length + (Spec.encOpt (n - lastD prev pre) w).length) n post).head?) ∧
      Spec.removeFirst n os = pre ++ post ∧ (∀ v, Spec.replaceFirst n v os = pre ++ (n, v) :: post) := by
  intro os ofs prev h
  obtain ⟨pre, w, post, rfl, hp⟩ := hasOpt_split n os h
  refine ⟨pre, w, post, rfl, hp, ?_, removeFirst_cut w post hp, fun v => replaceFirst_cut v w post hp⟩
  rw [absItems_app, findEq_skip hp]
  exact if_pos rfl

theorem hasOption_conc (ms : Nat) (a : Msg) (hs : Shape a) (n : Nat) :
    hasOption (conc ms a) n = Spec.hasOpt n a.opts := by
  unfold hasOption
  rw [items_conc ms a hs]
  cases h : Spec.hasOpt n a.opts with
  | false => rw [findEq_none n a.opts _ _ h]; rfl
  | true =>
    obtain ⟨pre, w, post, _, _, e3, _⟩ := findEq_abs n a.opts ((Spec.extBytes a.token.length).length + a.token.length) 0 h
    rw [e3]; rfl

end Coap
