import CoapVerif.Lemmas.Observe
/-
C11: what ends ONE observation leaves every OTHER one alone.  The server ends the observation (session c, token) through
coap_cancel_all_messages, coap_delete_observer and the fail counter of its entry; a view of the state that these three keep
(`Keeps`) is kept by everything built from them: coap_cancel over all resources (the Reset of a queued Confirmable),
coap_handle_failed_notify (retransmission give-up), the RST branch of coap_dispatch.  The ACK branch (`sameFor_handleAck`) and the
Observe = 1 request (`deleteObserverRequest_keeps`) are shown directly.  Two views:
 * `viewOf c'`, the session object, queued notifications and observer entries (per resource, in list order) of a client c' ≠ c
   (`SameFor c' st st'`) — whatever the token values are, equal ones included;
 * `subsWhere f`, the entries selected by `f`, when the token named selects none of them: the entries of the same client under
   ANOTHER token, in particular one that merely starts with the bytes named (or any entry when the empty token is named).
-/
namespace Coap.Observe

/-- everything M holds about client c' -/
def viewOf (c' : Nat) (st : State) : Option Sess × List QNode × List (Nat × Bool × List Sub) :=
  (st.sess c', st.sendq.filter (fun q => q.sess == c'), st.res.map fun y => (y.id, y.alive, y.subs.filter fun s => s.sess == c'))

def SameFor (c' : Nat) (st st' : State) : Prop := viewOf c' st' = viewOf c' st

theorem SameFor.refl (c' : Nat) (st : State) : SameFor c' st st := rfl
theorem SameFor.trans {c' : Nat} {a b c : State} (h1 : SameFor c' a b) (h2 : SameFor c' b c) : SameFor c' a c := by
  unfold SameFor at *; rw [h2, h1]

def subsWhere (f : Sub → Bool) (st : State) : List (Nat × Bool × List Sub) :=
  st.res.map fun y => (y.id, y.alive, y.subs.filter f)

theorem SameFor.mk' {c' : Nat} {st st' : State} (h1 : st'.sess c' = st.sess c')
    (h2 : st'.sendq.filter (fun q => q.sess == c') = st.sendq.filter (fun q => q.sess == c'))
    (h3 : subsWhere (fun s => s.sess == c') st' = subsWhere (fun s => s.sess == c') st) : SameFor c' st st' := by
  unfold subsWhere at h3; unfold SameFor viewOf; rw [h1, h2, h3]

theorem SameFor.of_subs {c' : Nat} {st st' : State} (h1 : st'.sess = st.sess) (h2 : st'.sendq = st.sendq)
    (h3 : subsWhere (fun s => s.sess == c') st' = subsWhere (fun s => s.sess == c') st) : SameFor c' st st' :=
  SameFor.mk' (by rw [h1]) (by rw [h2]) h3

theorem filter_eraseP_other {α : Type} (p f : α → Bool) (h : ∀ a, p a = true → f a = false) :
    ∀ l : List α, (l.eraseP p).filter f = l.filter f
  | [] => rfl
  | a :: t => by
    by_cases hp : p a = true
    · rw [List.eraseP_cons_of_pos hp, List.filter_cons_of_neg (by simp [h a hp])]
    · rw [List.eraseP_cons_of_neg hp]
      by_cases hf : f a = true
      · rw [List.filter_cons_of_pos hf, List.filter_cons_of_pos hf, filter_eraseP_other p f h t]
      · rw [List.filter_cons_of_neg hf, List.filter_cons_of_neg hf, filter_eraseP_other p f h t]

theorem filter_modFirst_other (p f : Sub → Bool) (g : Sub → Sub) (h : ∀ a, p a = true → f a = false ∧ f (g a) = false) :
    ∀ l : List Sub, (modFirst p g l).filter f = l.filter f
  | [] => rfl
  | a :: t => by
    unfold modFirst
    by_cases hp : p a = true
    · rw [if_pos hp, List.filter_cons_of_neg (by simp [(h a hp).2]), List.filter_cons_of_neg (by simp [(h a hp).1])]
    · rw [if_neg hp]
      by_cases hf : f a = true
      · rw [List.filter_cons_of_pos hf, List.filter_cons_of_pos hf, filter_modFirst_other p f g h t]
      · rw [List.filter_cons_of_neg hf, List.filter_cons_of_neg hf, filter_modFirst_other p f g h t]

theorem subsWhere_mapRes (f : Sub → Bool) (st : State) (g : Res → Res)
    (hg : ∀ y, (g y).id = y.id ∧ (g y).alive = y.alive ∧ (g y).subs.filter f = y.subs.filter f) :
    subsWhere f (mapRes st g) = subsWhere f st := by
  unfold subsWhere mapRes
  dsimp only
  rw [List.map_map]
  apply List.map_congr_left
  intro y _
  simp only [Function.comp]
  rw [(hg y).1, (hg y).2.1, (hg y).2.2]

theorem subsWhere_modRes (f : Sub → Bool) (st : State) (r : Nat) (g : Res → Res)
    (hg : ∀ y, (g y).id = y.id ∧ (g y).alive = y.alive ∧ (g y).subs.filter f = y.subs.filter f) :
    subsWhere f (modRes st r g) = subsWhere f st := by
  apply subsWhere_mapRes
  intro y
  split
  · exact hg y
  · exact ⟨rfl, rfl, rfl⟩

theorem deleteObserver_keeps (f : Sub → Bool) (st : State) (r c tok : Nat) (h : ∀ s, matchST c tok s = true → f s = false) :
    subsWhere f (deleteObserver st r c tok) = subsWhere f st := by
  unfold deleteObserver
  split
  · rfl
  · split
    · exact subsWhere_modRes f st r _ fun y => ⟨rfl, rfl, filter_eraseP_other _ f h y.subs⟩
    · rfl

theorem modFirst_failCnt_keeps (f : Sub → Bool) (c tok : Nat) (g : Nat → Nat) (h : ∀ s, matchST c tok s = true → f s = false)
    (l : List Sub) : (modFirst (matchST c tok) (fun s => { s with failCnt := g s.failCnt }) l).filter f = l.filter f :=
  filter_modFirst_other _ f (fun s => { s with failCnt := g s.failCnt }) (fun a ha => ⟨h a ha, h _ ha⟩) l

theorem touchObserver_keeps (f : Sub → Bool) (st : State) (c tok : Nat) (h : ∀ s, matchST c tok s = true → f s = false) :
    subsWhere f (touchObserver st c tok) = subsWhere f st := by
  apply subsWhere_mapRes
  intro y
  split
  · exact ⟨rfl, rfl, modFirst_failCnt_keeps f c tok (fun _ => 0) h y.subs⟩
  · exact ⟨rfl, rfl, rfl⟩

/-- coap_delete_observer_request (Observe = 1): by token, else the entry with the request's cache key -/
theorem deleteObserverRequest_keeps (f : Sub → Bool) (st : State) (r c tok key : Nat)
    (h1 : ∀ s, matchST c tok s = true → f s = false)
    (h2 : ∀ y ∈ st.res, ∀ old ∈ y.subs, matchSK c key old = true → ∀ s, matchST c old.token s = true → f s = false) :
    subsWhere f (deleteObserverRequest st r c tok key) = subsWhere f st := by
  unfold deleteObserverRequest
  split
  · rfl
  · rename_i x hx
    split
    · exact deleteObserver_keeps f st r c tok h1
    · split
      · rename_i old hold
        have hxm : x ∈ st.res := List.mem_of_find?_eq_some hx
        exact deleteObserver_keeps f st r c old.token (h2 x hxm old (List.mem_of_find?_eq_some hold) (List.find?_some hold))
      · rfl

theorem sameFor_modSess (st : State) (c c' : Nat) (f : Sess → Sess) (hc : c' ≠ c) : SameFor c' st (modSess st c f) := by
  refine SameFor.mk' ?_ rfl rfl
  unfold modSess setSess; dsimp only; rw [if_neg hc]

theorem matchST_other {c c' : Nat} (hc : c' ≠ c) (tok : Nat) (s : Sub) (h : matchST c tok s = true) : (s.sess == c') = false := by
  rw [beq_eq_false_iff_ne, (matchST_iff.mp h).1]
  exact fun e => hc e.symm

theorem sameFor_deleteObserver (st : State) (r c tok c' : Nat) (hc : c' ≠ c) : SameFor c' st (deleteObserver st r c tok) := by
  unfold deleteObserver
  split
  · exact SameFor.refl _ _
  · split
    · refine SameFor.trans (b := modRes st r _) (SameFor.of_subs rfl rfl ?_) (sameFor_modSess _ c c' _ hc)
      exact subsWhere_modRes _ st r _ fun y => ⟨rfl, rfl, filter_eraseP_other _ _ (matchST_other hc tok) y.subs⟩
    · exact SameFor.refl _ _

/-- coap_cancel_all_messages(context, session c, token): the nodes and the counter of every OTHER session are untouched,
    whatever their tokens are -/
theorem cancelAllMessages_other (st : State) (c tok c' : Nat) (hc : c' ≠ c) :
    (cancelAllMessages st c tok).sess c' = st.sess c' ∧
    (cancelAllMessages st c tok).sendq.filter (fun q => q.sess == c') = st.sendq.filter (fun q => q.sess == c') := by
  unfold cancelAllMessages
  constructor
  · unfold modSess setSess; dsimp only; rw [if_neg hc]
  · show (st.sendq.filter fun q => !matchQT c tok q).filter _ = _
    rw [List.filter_filter]
    apply List.filter_congr
    intro q _
    unfold matchQT
    by_cases h : q.sess = c'
    · simp [h, hc]
    · simp [h]

theorem sameFor_eraseQ (st : State) (c mid c' : Nat) (hc : c' ≠ c) :
    SameFor c' st { st with sendq := st.sendq.eraseP (matchQ c mid) } := by
  refine SameFor.mk' (st := st) (st' := { st with sendq := st.sendq.eraseP (matchQ c mid) }) rfl ?_ rfl
  dsimp only
  apply filter_eraseP_other
  intro q hq
  unfold matchQ at hq
  rw [Bool.and_eq_true, beq_iff_eq] at hq
  rw [beq_eq_false_iff_ne, hq.1]
  exact fun e => hc e.symm

/-- the view `V` of the state is kept by what the server does to end the observation (session c, token tok) -/
structure Keeps {α : Type} (V : State → α) (c tok : Nat) : Prop where
  cancel : ∀ s, V (cancelAllMessages s c tok) = V s
  delete : ∀ s r, V (deleteObserver s r c tok) = V s
  failed : ∀ s r, V (modRes s r fun y =>
    { y with subs := modFirst (matchST c tok) (fun o => { o with failCnt := (o.failCnt + 1) % 256 }) y.subs }) = V s

theorem keeps_viewOf {c c' : Nat} (hc : c' ≠ c) (tok : Nat) : Keeps (viewOf c') c tok where
  cancel s := SameFor.mk' (cancelAllMessages_other s c tok c' hc).1 (cancelAllMessages_other s c tok c' hc).2 rfl
  delete s r := sameFor_deleteObserver s r c tok c' hc
  failed s r := SameFor.of_subs rfl rfl
    (subsWhere_modRes _ s r _ fun y => ⟨rfl, rfl, modFirst_failCnt_keeps _ c tok (fun n => (n + 1) % 256) (matchST_other hc tok) y.subs⟩)

theorem keeps_subsWhere {f : Sub → Bool} {c tok : Nat} (h : ∀ s, matchST c tok s = true → f s = false) :
    Keeps (subsWhere f) c tok where
  cancel _ := rfl
  delete s r := deleteObserver_keeps f s r c tok h
  failed s r := subsWhere_modRes f s r _ fun y => ⟨rfl, rfl, modFirst_failCnt_keeps f c tok (fun n => (n + 1) % 256) h y.subs⟩

theorem Keeps.cancelSent {α : Type} {V : State → α} {c tok : Nat} (k : Keeps V c tok) (st : State) :
    V (cancelSent st c tok) = V st :=
  cancelSent_ind (P := fun s => V s = V st) st c tok rfl fun s rid h => ((k.delete _ rid).trans (k.cancel s)).trans h

theorem Keeps.removeFailedOne {α : Type} {V : State → α} {c tok : Nat} (k : Keeps V c tok) (st : State) (x : Res) :
    V (removeFailedOne st x c tok) = V st :=
  removeFailedOne_ind (P := fun s => V s = V st) st x c tok rfl ((k.delete _ x.id).trans (k.cancel st)) (k.failed st x.id)

theorem Keeps.handleFailedNotify {α : Type} {V : State → α} {c tok : Nat} (k : Keeps V c tok) (st : State) :
    V (handleFailedNotify st c tok) = V st :=
  handleFailedNotify_ind (P := fun s => V s = V st) st c tok rfl fun s x h => (k.removeFailedOne s x).trans h

/-- the token a Reset of message id `mid` from client c is attributed to: the queued Confirmable's, else the first entry's whose
    latest message id it is -/
def rstToken (st : State) (c mid : Nat) : Option Nat :=
  match (rxSession st c).sendq.find? (matchQ c mid) with
  | some q => some q.token
  | none => (findByMid (rxSession st c).res c mid).map (·.2)

/-- coap_dispatch, RST branch (before the I/O loop runs): besides the observation the Reset is attributed to, it touches the
    session object of c and takes the message out of the queue -/
theorem handleRst_view {α : Type} (V : State → α) (st : State) (c mid : Nat) (hs : ∀ s f, V (modSess s c f) = V s)
    (hq : ∀ s : State, V { s with sendq := s.sendq.eraseP (matchQ c mid) } = V s)
    (hk : ∀ tok, rstToken st c mid = some tok → Keeps V c tok) : V (handleRst st c mid) = V st := by
  unfold handleRst
  unfold rstToken at hk
  dsimp only at hk ⊢
  split
  · rename_i q hf
    rw [hf] at hk
    exact (hs _ _).trans (((hk q.token rfl).cancelSent _).trans ((hs _ _).trans ((hq _).trans (hs st _))))
  · rename_i hf
    rw [hf] at hk
    split
    · rename_i rid tok hm
      rw [hm] at hk
      exact ((hk tok rfl).delete _ rid).trans (hs st _)
    · exact hs st _

theorem sameFor_handleFailedNotify (st : State) (c tok c' : Nat) (hc : c' ≠ c) : SameFor c' st (handleFailedNotify st c tok) :=
  (keeps_viewOf hc tok).handleFailedNotify st

theorem sameFor_handleRst (st : State) (c mid c' : Nat) (hc : c' ≠ c) : SameFor c' st (handleRst st c mid) :=
  handleRst_view (viewOf c') st c mid (fun s f => sameFor_modSess s c c' f hc) (fun s => sameFor_eraseQ s c mid c' hc)
    (fun tok _ => keeps_viewOf hc tok)

theorem handleFailedNotify_keeps (f : Sub → Bool) (st : State) (c tok : Nat) (h : ∀ s, matchST c tok s = true → f s = false) :
    subsWhere f (handleFailedNotify st c tok) = subsWhere f st :=
  (keeps_subsWhere h).handleFailedNotify st

theorem handleRst_keeps (f : Sub → Bool) (st : State) (c mid : Nat)
    (h : ∀ tok, rstToken st c mid = some tok → ∀ s, matchST c tok s = true → f s = false) :
    subsWhere f (handleRst st c mid) = subsWhere f st :=
  handleRst_view (subsWhere f) st c mid (fun _ _ => rfl) (fun _ => rfl) (fun tok ht => keeps_subsWhere (h tok ht))

theorem sameFor_handleAck (st : State) (c mid c' : Nat) (hc : c' ≠ c) : SameFor c' st (handleAck st c mid) := by
  unfold handleAck
  dsimp only
  have h0 : SameFor c' st (rxSession st c) := sameFor_modSess st c c' _ hc
  split
  · exact h0
  · rename_i q hf
    have h1 : SameFor c' st (conDec _ c) := (h0.trans (sameFor_eraseQ _ c mid c' hc)).trans (sameFor_modSess _ c c' _ hc)
    refine SameFor.trans ?_ (sameFor_modSess _ c c' _ hc)
    split
    · exact h1.trans (SameFor.of_subs rfl rfl (touchObserver_keeps _ _ c q.token (matchST_other hc q.token)))
    · exact h1

end Coap.Observe
