import CoapVerif.Lemmas.ObserveRef
/-
C11, clause "the last state is always eventually notified", the part that concerns NSTART: the back-pressure test of the notify
loop reads `session->con_active`.  As a GLOBAL invariant of M (Model/Observe.lean), for every state reachable by ANY event
sequence,
    con_active(c) = #Confirmable notifications of c in the retransmission queue                               (ConInv)
(a missing session object counts as 0).  So the counter says "busy" exactly while a Confirmable is really outstanding: once
every Confirmable of a session has been acknowledged, reset or given up, the counter is 0 and nothing holds the session's next
notification back — whatever OTHER sessions did in between, in particular with EQUAL token values (coap_cancel_all_messages
looks at the session AND the token; `cancelAllMessages_other` in Lemmas/ObserveFrame.lean is the frame statement).

Proof architecture as in ObserveRef.lean: `CBal st c K` : con_active(c) = nodes(c) + K (K = nodes held by the code that is
running: the node popped by coap_retransmit), `CPres st st'` : every balance of st is one of st'; a primitive that touches neither
the queue nor the counter keeps every balance (`CPres.of_scon`; for handle_request and the observer-list primitives: `TableOnly.cpres`,
`scon` and `TableOnly` are in Lemmas/Observe.lean).  coap_session_disconnected (`con_active = 0`, all nodes dropped) and the idle reclaim
(needs RefInv: an unreferenced session has no node) are shown on ConInv itself.
-/
namespace Coap.Observe
open Coap.Generated

def ConInv (st : State) : Prop := ∀ c, (getSess st c).conActive = nodesOf st c

theorem scon_of_sess {st st' : State} (h : st'.sess = st.sess) (c : Nat) : scon st' c = scon st c := by
  unfold scon; rw [h]

def CBal (st : State) (c K : Nat) : Prop := scon st c = qcnt c st.sendq + K
def CPres (st st' : State) : Prop := ∀ c K, CBal st c K → CBal st' c K

theorem conInv_iff (st : State) : ConInv st ↔ ∀ c, CBal st c 0 := by
  unfold ConInv CBal
  simp only [getSess_con, nodesOf_eq, Nat.add_zero]

theorem CBal.cast {st : State} {c K K' : Nat} (h : CBal st c K) (hk : K = K') : CBal st c K' := hk ▸ h
theorem CPres.refl (st : State) : CPres st st := fun _ _ h => h
theorem CPres.trans {a b c : State} (h1 : CPres a b) (h2 : CPres b c) : CPres a c := fun x K h => h2 x K (h1 x K h)
theorem CPres.conInv {st st' : State} (h : CPres st st') (hi : ConInv st) : ConInv st' := by
  rw [conInv_iff] at hi ⊢; exact fun c => h c 0 (hi c)

theorem CPres.of_scon {st st' : State} (hq : st'.sendq = st.sendq) (hs : ∀ c, scon st' c = scon st c) : CPres st st' := by
  intro c K hb; unfold CBal at hb ⊢; rw [hq, hs]; exact hb

theorem CPres.of_eq {st st' : State} (hq : st'.sendq = st.sendq) (hs : st'.sess = st.sess) : CPres st st' :=
  CPres.of_scon hq (scon_of_sess hs)

theorem cpres_modSess_same (st : State) (c : Nat) (f : Sess → Sess) (hf : ∀ s, (f s).conActive = s.conActive) :
    CPres st (modSess st c f) := CPres.of_scon rfl (scon_modSess_same st c f hf)

theorem cpres_rxSession (st : State) (c : Nat) : CPres st (rxSession st c) := cpres_modSess_same _ _ _ (fun _ => rfl)
theorem cpres_txStamp (st : State) (c : Nat) : CPres st (txStamp st c) := cpres_modSess_same _ _ _ (fun _ => rfl)
theorem cpres_refDec (st : State) (c : Nat) : CPres st (refDec st c) := cpres_modSess_same _ _ _ (fun _ => rfl)
theorem cpres_newMid (st : State) (c : Nat) : CPres st (newMid st c).2 :=
  cpres_modSess_same st c (fun s => { s with txMid := ((getSess st c).txMid + 1) % 65536 }) (fun _ => rfl)

theorem cpres_addNote (st : State) (c : Nat) (n : Note) : CPres st (addNote st c n) := CPres.of_eq rfl rfl
theorem cpres_mapRes (st : State) (f : Res → Res) : CPres st (mapRes st f) := CPres.of_eq rfl rfl
theorem cpres_modRes (st : State) (r : Nat) (f : Res → Res) : CPres st (modRes st r f) := CPres.of_eq rfl rfl

theorem TableOnly.cpres {st st' : State} (h : TableOnly st st') : CPres st st' := CPres.of_scon h.sendq h.con

theorem cpres_deleteObserver (st : State) (r c tok : Nat) : CPres st (deleteObserver st r c tok) :=
  (deleteObserver_tableOnly st r c tok).cpres

theorem cpres_touchObserver (st : State) (c tok : Nat) : CPres st (touchObserver st c tok) := cpres_mapRes _ _

theorem cpres_change (st : State) (r : Nat) : CPres st (change st r) := by
  unfold change
  split
  · exact CPres.refl _
  · split
    · exact CPres.refl _
    · exact CPres.of_eq rfl rfl

/-! ### the queue and the counter move together
`cpres_cancelAllMessages`, `cbal_insert`, `cbal_conInc`, `cbal_erase` are `pres_cancelAllMessages`, `balQ_insert`, `balQ_refIncCon`,
`bal_erase` of Lemmas/ObserveRef.lean with `scon` in the place of `sref`. -/
/-- coap_cancel_all_messages(context, session, token): only nodes of THAT session leave the queue, its counter goes down by
    their number -/
theorem cpres_cancelAllMessages (st : State) (c tok : Nat) : CPres st (cancelAllMessages st c tok) := by
  intro c' K h
  unfold CBal at h ⊢
  unfold cancelAllMessages
  simp only [modSess_sendq, scon_modSess, getSess_con]
  have h1 := qcnt_filter_not c c' (matchQT c tok) (by intro q hq; unfold matchQT at hq; simp at hq; exact hq.1) st.sendq
  by_cases hc : c' = c
  · subst hc; simp only [if_true] at h1 ⊢
    show scon st c' - _ = _
    omega
  · simp only [hc, if_false] at h1 ⊢
    show scon st c' = _
    omega

theorem cbal_insert (st : State) (n : QNode) (c' K : Nat) (h : CBal st c' (K + if n.sess = c' then 1 else 0)) :
    CBal { st with sendq := insertNode n st.sendq } c' K := by
  unfold CBal at h ⊢
  dsimp only
  rw [qcnt_insertNode, show scon { st with sendq := insertNode n st.sendq } c' = scon st c' from rfl]
  omega

theorem cbal_conInc (st : State) (c c' K : Nat) (h : CBal st c' K) :
    CBal (modSess st c fun s => { s with conActive := s.conActive + 1, ref := s.ref + 1 }) c' (K + if c = c' then 1 else 0) := by
  unfold CBal at h ⊢
  simp only [modSess_sendq, scon_modSess, getSess_con]
  by_cases hc : c' = c
  · subst hc; simp only [if_true]; omega
  · have : ¬ c = c' := by omega
    simp only [hc, this, if_false]; omega

theorem cpres_sendNote (st : State) (c tok code : Nat) (obs : Option Nat) (isCon : Bool) (mid rid ver : Nat) :
    CPres st (sendNote st c tok code obs isCon mid rid ver).1 := by
  intro c' K h
  have h1 : CBal (addNote (txStamp st c) c { mid := mid, con := isCon }) c' K :=
    ((cpres_txStamp st c).trans (cpres_addNote _ c _)) c' K h
  unfold sendNote
  dsimp only
  split
  · exact cbal_insert _ _ c' K (cbal_conInc _ c c' K h1)
  · exact h1

theorem cpres_notifyOne (d : Bool) (r : Res) (o : Sub) (st : State) : CPres st (notifyOne d r o st).st := by
  have hp : CPres st { st with pending := true } := CPres.of_eq rfl rfl
  have hm : CPres st (newMid st o.sess).2 := cpres_newMid st o.sess
  refine notifyOne_cases (P := fun x => CPres st x.st) d r o st ?_ ?_ ?_ ?_ ?_
  · intro _ _; exact hp
  · intro _ _; exact hp
  · intro _ _ _ sn hsn; rw [hsn]; exact hm.trans (cpres_sendNote _ _ _ _ _ _ _ _ _)
  · intro _ _ _ _ sn hsn; rw [hsn]; exact (hm.trans (cpres_refDec _ o.sess)).trans (cpres_sendNote _ _ _ _ _ _ _ _ _)
  · intro _ _ _ _ sn hsn; rw [hsn]; exact hm.trans (cpres_sendNote _ _ _ _ _ _ _ _ _)

theorem cpres_notifyLoop (d : Bool) (r : Res) : ∀ (subs : List Sub) (st : State), CPres st (notifyLoop d r subs st).st
  | [], st => CPres.refl _
  | o :: rest, st => by
    unfold notifyLoop
    dsimp only
    exact (cpres_notifyOne d r o st).trans (cpres_notifyLoop d r rest _)

theorem cpres_notifyRes (d : Bool) (r : Res) (st : State) : CPres st (notifyRes d r st).2.1 := by
  unfold notifyRes
  split
  · exact cpres_notifyLoop d r r.subs st
  · exact CPres.refl _

theorem cpres_notifyAll : ∀ (rs : List Res) (st : State), CPres st (notifyAll rs st).2.1
  | [], st => CPres.refl _
  | r :: rest, st => by
    have e1 : (notifyAll (r :: rest) st).2.1 = (notifyAll rest (notifyRes false r st).2.1).2.1 := rfl
    rw [e1]
    exact (cpres_notifyRes false r st).trans (cpres_notifyAll rest _)

theorem cpres_checkNotify (st : State) : CPres st (checkNotify st).1 := by
  unfold checkNotify
  split
  · refine CPres.trans (b := { st with pending := false }) (CPres.of_eq rfl rfl) ?_
    exact (cpres_notifyAll st.res _).trans (CPres.of_eq rfl rfl)
  · exact CPres.refl _

theorem cpres_removeFailedOne (st : State) (x : Res) (c tok : Nat) : CPres st (removeFailedOne st x c tok) :=
  removeFailedOne_ind (P := CPres st) st x c tok (CPres.refl st)
    ((cpres_cancelAllMessages st c tok).trans (cpres_deleteObserver _ x.id c tok)) (cpres_modRes st x.id _)

theorem cpres_handleFailedNotify (st : State) (c tok : Nat) : CPres st (handleFailedNotify st c tok) :=
  handleFailedNotify_ind (P := CPres st) st c tok (CPres.refl st) fun s x h => h.trans (cpres_removeFailedOne s x c tok)

theorem cpres_cancelSent (st : State) (c tok : Nat) : CPres st (cancelSent st c tok) :=
  cancelSent_ind (P := CPres st) st c tok (CPres.refl st)
    fun s rid h => h.trans ((cpres_cancelAllMessages s c tok).trans (cpres_deleteObserver _ rid c tok))

/-- `if (con_active) con_active--` for a node that is accounted for in the offset -/
theorem conDec_cbal (st : State) (c c' K : Nat) (h : CBal st c' (K + if c' = c then 1 else 0)) : CBal (conDec st c) c' K := by
  unfold CBal at h ⊢
  unfold conDec
  simp only [modSess_sendq, scon_modSess, getSess_con]
  by_cases hc : c' = c
  · subst hc; simp only [if_true] at h ⊢; omega
  · simp only [hc, if_false] at h ⊢; omega

/-- coap_retransmit on the node popped from the queue (the node is in the offset) -/
theorem retransmit_cbal (st : State) (q : QNode) (c K : Nat)
    (h : CBal st c (K + if q.sess = c then 1 else 0)) : CBal (retransmit st q).1 c K := by
  unfold retransmit
  split
  · dsimp only
    refine (cpres_txStamp _ _) c K ?_
    -- insertNode: the node is back in the queue; con_active-- (it is ≥ 1), con_active++
    have h1 : CBal { st with sendq := insertNode { q with cnt := q.cnt + 1, due := st.now + obsAckTimeoutTicks * 2 ^ (q.cnt + 1) } st.sendq } c K :=
      cbal_insert st _ c K h
    unfold CBal at h1 ⊢
    unfold conDec
    simp only [modSess_sendq, scon_modSess, getSess_con] at h1 ⊢
    by_cases hc : c = q.sess
    · subst hc
      simp only [if_true]
      rw [qcnt_insertNode] at h1 ⊢
      simp only [if_true] at h1 ⊢
      omega
    · simp only [hc, if_false]
      exact h1
  · dsimp only
    refine (cpres_refDec _ _) c K ?_
    apply conDec_cbal
    refine cpres_handleFailedNotify st q.sess q.token c _ (h.cast ?_)
    by_cases hc : c = q.sess
    · simp [hc]
    · have : ¬ q.sess = c := by omega
      simp [hc, this]

theorem cpres_retransmitDue (fuel : Nat) (st : State) : CPres st (retransmitDue fuel st).1 := by
  refine retransmitDue_ind (P := CPres st) (fun s q qs hs hq c K h => ?_) fuel st (CPres.refl _)
  have h1 : CBal { s with sendq := qs } c (K + if q.sess = c then 1 else 0) := by
    have hb := hs c K h
    unfold CBal at hb ⊢
    rw [hq, qcnt_cons] at hb
    show scon s c = qcnt c qs + _
    omega
  exact retransmit_cbal { s with sendq := qs } q c K h1

theorem cbal_erase (st : State) (c mid : Nat) (q : QNode) (hf : st.sendq.find? (matchQ c mid) = some q) (c' K : Nat) (h : CBal st c' K) :
    CBal { st with sendq := st.sendq.eraseP (matchQ c mid) } c' (K + if c' = c then 1 else 0) := by
  unfold CBal at h ⊢
  have := qcnt_eraseP_Q c mid c' _ q hf
  show scon st c' = qcnt c' (st.sendq.eraseP (matchQ c mid)) + _
  omega

theorem cpres_handleAck (st : State) (c mid : Nat) : CPres st (handleAck st c mid) := by
  unfold handleAck
  dsimp only
  split
  · exact (cpres_rxSession st c)
  · rename_i q hf
    intro c' K h
    refine (cpres_refDec _ c) c' K ?_
    have h1 := cbal_erase _ c mid q hf c' K ((cpres_rxSession st c) c' K h)
    have h2 := conDec_cbal _ c c' K h1
    split
    · exact (cpres_touchObserver _ c q.token) c' K h2
    · exact h2

theorem cpres_handleRst (st : State) (c mid : Nat) : CPres st (handleRst st c mid) := by
  unfold handleRst
  dsimp only
  split
  · rename_i q hf
    intro c' K h
    refine (cpres_refDec _ c) c' K ?_
    have h1 := cbal_erase _ c mid q hf c' K ((cpres_rxSession st c) c' K h)
    have h2 := conDec_cbal _ c c' K h1
    exact cpres_cancelSent _ c q.token c' K h2
  · split
    · exact ((cpres_rxSession st c).trans (cpres_deleteObserver _ _ _ _))
    · exact (cpres_rxSession st c)

theorem cpres_deleteResource (st : State) (r : Nat) : CPres st (deleteResource st r).1 := by
  unfold deleteResource
  split
  · exact CPres.refl _
  · dsimp only
    split
    · exact (cpres_change st r)
    · rename_i x1 hx1
      refine (cpres_change st r).trans ?_
      refine (cpres_notifyRes true x1 (change st r)).trans ?_
      exact ((releaseAll_tableOnly _ _).cpres.trans (cpres_modRes _ r _))

theorem conInv_sessionLost (st : State) (c : Nat) (h : ConInv st) : ConInv (sessionLost st c) := by
  unfold sessionLost
  split
  · exact h
  · rw [conInv_iff] at h ⊢
    intro c'
    have hc' := h c'
    unfold CBal at hc' ⊢
    dsimp only
    simp only [modSess_sendq, mapRes_sendq, scon_modSess]
    rw [qcnt_filter_ne]
    by_cases hc : c' = c
    · simp only [hc, if_true]
    · simp only [hc, if_false]
      exact hc'

theorem scon_reclaim_cases (st : State) (c : Nat) : scon (reclaim st) c = scon st c ∨ (scon (reclaim st) c = 0 ∧ sref st c = 0) := by
  unfold scon sref reclaim; dsimp only
  cases h : st.sess c with
  | none => exact Or.inl rfl
  | some s =>
    dsimp only
    split
    · rename_i h1; split at h1
      · cases h1
      · cases h1; exact Or.inl rfl
    · rename_i h1; split at h1
      · rename_i h2; exact Or.inr ⟨rfl, h2.1⟩
      · cases h1

/-- the idle reclaim frees only unreferenced sessions, and those have no node in the queue (RefInv) -/
theorem conInv_reclaim (st : State) (hr : RefInv st) (h : ConInv st) : ConInv (reclaim st) := by
  rw [conInv_iff] at h ⊢
  intro c
  have hc := h c
  unfold CBal at hc ⊢
  rw [reclaim_sendq]
  rcases scon_reclaim_cases st c with h1 | ⟨h1, h2⟩
  · rw [h1]; exact hc
  · rw [h1]
    have := (refInv_iff st).mp hr c
    unfold Bal at this
    omega

theorem conInv_io (st : State) (hn : IdsNodup st) (hr : RefInv st) (h : ConInv st) : ConInv (io st).1 := by
  unfold io
  dsimp only
  have hn1 : IdsNodup (checkNotify st).1 := checkNotify_idsNodup st hn
  apply conInv_reclaim
  · exact ((pres_checkNotify st).trans (pres_retransmitDue _ _ hn1)).refInv hr
  · exact ((cpres_checkNotify st).trans (cpres_retransmitDue _ _)).conInv h

theorem conInv_rxThenIo (p : State × List Out) (hn : IdsNodup p.1) (hr : RefInv p.1) (h : ConInv p.1) : ConInv (rxThenIo p).1 := by
  unfold rxThenIo; exact conInv_io p.1 hn hr h

theorem step_conInv (st : State) (e : Event) (hn : IdsNodup st) (hr : RefInv st) (h : ConInv st) : ConInv (step st e).1 := by
  refine step_cases (P := fun p => ConInv p.1) st e ?_ ?_ ?_ h ?_ ?_ ?_ ?_ ?_
  · intro o c r tok key con mid _
    exact conInv_rxThenIo _ (request_idsNodup st o c r tok key con mid hn) ((pres_request st o c r tok key con mid hn).refInv hr)
      ((request_tableOnly st o c r tok key con mid).cpres.conInv h)
  · intro c mid
    exact conInv_rxThenIo (handleAck st c mid, []) (IdsNodup.of_leF (handleAck_leF ..) hn) ((pres_handleAck st c mid).refInv hr)
      ((cpres_handleAck st c mid).conInv h)
  · intro c mid
    exact conInv_rxThenIo (handleRst st c mid, []) (IdsNodup.of_leF (handleRst_leF ..) hn) ((pres_handleRst st c mid hn).refInv hr)
      ((cpres_handleRst st c mid).conInv h)
  · intro r; exact (cpres_change st r).conInv h
  · intro ms
    exact conInv_io { st with now := st.now + ms } hn
      ((Pres.of_eq rfl rfl (fun c => sref_of_sess rfl c) : Pres st { st with now := st.now + ms }).refInv hr)
      ((CPres.of_eq rfl rfl : CPres st { st with now := st.now + ms }).conInv h)
  · intro r b; exact (cpres_modRes st r _).conInv h
  · intro c; exact conInv_sessionLost st c h
  · intro r; exact (cpres_deleteResource st r).conInv h

theorem run_conInv (st : State) (evs : List Event) (hid : IdsNodup st) (hr : RefInv st) (h : ConInv st) : ConInv (run st evs).1 :=
  (run_inv_ids (P := fun s => RefInv s ∧ ConInv s)
    (fun s e h1 ⟨h2, h3⟩ => ⟨step_refInv s e h1 h2, step_conInv s e h1 h2 h3⟩) evs st hid ⟨hr, h⟩).2

theorem init_conInv (res : List Res) (stTicks : Nat) : ConInv (init res stTicks) := by
  intro c
  rfl

end Coap.Observe
