import CoapVerif.Lemmas.EditApi
/-
M-side lemmas for the editors (C04) and the builders (C01): the abstract outcomes of the API calls are steps of
the specification (`Step`: accepted = `Spec.applyEdit`, refused = nothing changes), whole scripts
(`Trace`, `run_refines`), and the same with the prescribed return codes of removals (`TraceRc`, `EditTraceRc`).
-/
namespace Coap
open Coap.M

/-- S: what an ACCEPTED call does to the abstract message (`Spec.applyEdit` for the option / token calls) -/
def callSem (hop : Bool) (a : Msg) : Call → Msg
  | .addToken t => { a with token := t }
  | .addOption n v => Spec.applyEdit hop a (.insert n v)
  | .insertOption n v => Spec.applyEdit hop a (.insert n v)
  | .updateOption n v => Spec.applyEdit hop a (.update n v)
  | .removeOption n => Spec.applyEdit hop a (.remove n)
  | .updateToken t => Spec.applyEdit hop a (.setToken t)
  | .addData d => if d = [] then a else { a with payload := d }

/-- D13: the calls that may be accompanied by the implicit Hop-Limit -/
def hopDomain (a : Msg) : Call → Bool
  | .addOption n _ => Spec.hopApplies a.code n a.opts
  | .insertOption n _ => Spec.hopApplies a.code n a.opts
  | .updateOption n _ => Spec.hopApplies a.code n a.opts && !Spec.hasOpt n a.opts
  | _ => false

/-- what one call does to the abstract message: accepted = the abstract operation of S (D13: with or without the
implicit Hop-Limit, the former only where D13 allows it), refused = nothing (D14) -/
inductive Step (a : Msg) (c : Call) : Nat → Msg → Prop
  | accepted (rc : Nat) (hop : Bool) : rc ≠ 0 → (hop = true → hopDomain a c = true) → Step a c rc (callSem hop a c)
  | refused : Step a c 0 a

inductive Trace : Msg → List Call → List Nat → Msg → Prop
  | nil (a : Msg) : Trace a [] [] a
  | cons {a a1 a' : Msg} {c : Call} {rc : Nat} {cs : List Call} {rcs : List Nat} :
      Step a c rc a1 → Trace a1 cs rcs a' → Trace a (c :: cs) (rc :: rcs) a'

theorem Step.plain (a : Msg) (c : Call) : Step a c 1 (callSem false a c) :=
  Step.accepted 1 false (by omega) (fun h => by cases h)

/-- the two possible outcomes of an option-adding call -/
def AddOutcome (ms : Nat) (a : Msg) (n : Nat) (v : Bytes) (r : Nat × Msg) : Prop :=
  (r.1 ≠ 0 ∧ ∃ hop : Bool, (hop = true → Spec.hopApplies a.code n a.opts = true) ∧
      r.2 = { a with opts := Spec.addSem hop n v a.opts }) ∨
  (r.1 = 0 ∧ r.2 = a ∧ (v.length > 65804 ∨ (n = lastNum a.opts ∧ ¬ repeatable n = true) ∨ ms ≠ 0))

theorem absAdd_cases (ms : Nat) (a : Msg) (n : Nat) (v : Bytes) : AddOutcome ms a n v (absAdd ms a n v) := by
  unfold absAdd AddOutcome
  by_cases hv : v.length > 65804
  · rw [if_pos hv]; exact Or.inr ⟨rfl, rfl, Or.inl hv⟩
  · rw [if_neg hv]
    by_cases hrep : n = lastNum a.opts ∧ ¬ repeatable n = true
    · rw [if_pos hrep]; exact Or.inr ⟨rfl, rfl, Or.inr (Or.inl hrep)⟩
    · rw [if_neg hrep]
      rcases absPlace_cases ms (absHop ms a n).1 n v with ⟨_, k1, k2⟩ | ⟨k1, _, k3⟩
      · rw [if_neg k1]
        rcases absHop_cases ms a n with ⟨_, h⟩ | ⟨_, hh, _, h⟩
        · exact Or.inl ⟨k1, false, (fun h => by cases h), by rw [k2, h]; rfl⟩
        · exact Or.inl ⟨k1, true, (fun _ => hh), by rw [k2, h]; rfl⟩
      · rw [if_pos k1]
        exact Or.inr ⟨rfl, rfl, Or.inr (Or.inr k3)⟩

theorem absInsert_cases (ms : Nat) (a : Msg) (n : Nat) (v : Bytes) : AddOutcome ms a n v (absInsert ms a n v) := by
  unfold absInsert
  by_cases hv : v.length > 65804
  · rw [if_pos hv]; exact Or.inr ⟨rfl, rfl, Or.inl hv⟩
  · rw [if_neg hv]
    split
    · exact absAdd_cases ms a n v
    · rcases absPlace_cases ms a n v with ⟨_, k1, k2⟩ | ⟨k1, k2, k3⟩
      · exact Or.inl ⟨k1, false, (fun h => by cases h), by rw [k2]; rfl⟩
      · exact Or.inr ⟨k1, k2, Or.inr (Or.inr k3)⟩

/-- an option-adding outcome is a step of every call whose accepted form is `Spec.addSem` -/
theorem AddOutcome.step {ms : Nat} {a : Msg} {n : Nat} {v : Bytes} {r : Nat × Msg} (h : AddOutcome ms a n v r) (c : Call)
    (hsem : ∀ hop, callSem hop a c = { a with opts := Spec.addSem hop n v a.opts })
    (hdom : hopDomain a c = Spec.hopApplies a.code n a.opts) : Step a c r.1 r.2 := by
  rcases h with ⟨k1, hop, k2, k3⟩ | ⟨k1, k2, _⟩
  · rw [k3, ← hsem hop]; exact Step.accepted _ hop k1 (by rw [hdom]; exact k2)
  · rw [k1, k2]; exact Step.refused

theorem absCall_step (ms : Nat) (a : Msg) (c : Call) : Step a c (absCall ms a c).1 (absCall ms a c).2 := by
  cases c with
  | addToken t =>
    show Step a (.addToken t) (absAddToken ms a t).1 (absAddToken ms a t).2
    unfold absAddToken
    split
    · exact Step.refused
    · exact Step.plain _ _
  | addOption n v =>
    show Step a (.addOption n v) (if a.payload ≠ [] then (0, a) else absAdd ms a n v).1
      (if a.payload ≠ [] then (0, a) else absAdd ms a n v).2
    split
    · exact Step.refused
    · exact (absAdd_cases ms a n v).step _ (fun _ => rfl) rfl
  | insertOption n v => exact (absInsert_cases ms a n v).step _ (fun _ => rfl) rfl
  | updateOption n v =>
    show Step a (.updateOption n v) (absUpdate ms a n v).1 (absUpdate ms a n v).2
    cases hh : Spec.hasOpt n a.opts with
    | true =>
      unfold absUpdate
      rw [hh, ← applyEdit_update_present false a n v hh]
      by_cases hv : v.length > 65804
      · rw [if_pos hv]; exact Step.refused
      · rw [if_neg hv, if_pos rfl]
        split
        · exact Step.plain a (.updateOption n v)
        · exact Step.refused
    | false =>
      rw [absUpdate_absent ms a n v hh]
      exact (absInsert_cases ms a n v).step _ (fun hop => applyEdit_update_absent hop a n v hh) (by simp [hopDomain, hh])
  | removeOption n =>
    show Step a (.removeOption n) (absRemove a n).1 (absRemove a n).2
    unfold absRemove
    split
    · exact Step.plain _ _
    · exact Step.refused
  | updateToken t =>
    show Step a (.updateToken t) (absSetToken ms a t).1 (absSetToken ms a t).2
    unfold absSetToken
    split
    · exact Step.refused
    · split
      · exact Step.plain _ _
      · exact Step.refused
  | addData d =>
    show Step a (.addData d) (absAddData ms a d).1 (absAddData ms a d).2
    unfold absAddData
    by_cases hd : d = []
    · rw [if_pos hd]
      have : callSem false a (.addData d) = a := by simp [callSem, hd]
      have h := Step.plain a (.addData d)
      rw [this] at h
      exact h
    · rw [if_neg hd]
      split
      · exact Step.refused
      · have : callSem false a (.addData d) = { a with payload := d } := by simp [callSem, hd]
        rw [← this]
        exact Step.plain _ _

theorem absRun_trace (ms : Nat) (cs : List Call) : ∀ a, Trace a cs (absRun ms a cs).1 (absRun ms a cs).2 := by
  induction cs with
  | nil => intro a; exact Trace.nil a
  | cons c cs ih => intro a; exact Trace.cons (absCall_step ms a c) (ih _)

theorem run_refines (ms : Nat) (a : Msg) (cs : List Call) (hs : Shape a) (hc : ∀ c ∈ cs, callNumOk c) :
    ∃ rcs a', run (conc ms a) cs = R.ok (rcs, conc ms a') ∧ Trace a cs rcs a' ∧ Shape a' :=
  ⟨_, _, (run_conc ms cs a hs hc).1, absRun_trace ms cs a, (run_conc ms cs a hs hc).2⟩

def callOf : Spec.Edit → Call
  | .insert n v => .insertOption n v
  | .update n v => .updateOption n v
  | .remove n => .removeOption n
  | .setToken t => .updateToken t

/-- `coap_option_num_t` is 16 bits wide: `callNumOk (callOf e)` spelled out -/
def editNumOk : Spec.Edit → Prop
  | .insert n _ => n ≤ 65535
  | .update n _ => n ≤ 65535
  | .remove n => n ≤ 65535
  | .setToken _ => True

/-- the same edits applied to the abstract model, with M's return codes: an accepted edit is `Spec.applyEdit` (D13:
Hop-Limit only where allowed), a refused one changes nothing (D14) -/
inductive EditTrace : Msg → List Spec.Edit → List Nat → Msg → Prop
  | nil (a : Msg) : EditTrace a [] [] a
  | accepted {a a' : Msg} {e : Spec.Edit} {es : List Spec.Edit} {rc : Nat} {rcs : List Nat} (hop : Bool) :
      rc ≠ 0 → (hop = true → hopDomain a (callOf e) = true) →
      EditTrace (Spec.applyEdit hop a e) es rcs a' → EditTrace a (e :: es) (rc :: rcs) a'
  | refused {a a' : Msg} {e : Spec.Edit} {es : List Spec.Edit} {rcs : List Nat} :
      EditTrace a es rcs a' → EditTrace a (e :: es) (0 :: rcs) a'

theorem callSem_callOf (hop : Bool) (a : Msg) (e : Spec.Edit) : callSem hop a (callOf e) = Spec.applyEdit hop a e := by
  cases e <;> rfl

/-- D17: what S prescribes for the return code of a call on the abstract message `a` — a removal returns 1 exactly when
`a` holds an option with that number, else 0; nothing for the other calls (D14: they may be refused) -/
def RcPrescribed (a : Msg) : Call → Nat → Prop
  | .removeOption n, rc => rc = (if Spec.hasOpt n a.opts = true then 1 else 0)
  | _, _ => True

inductive TraceRc : Msg → List Call → List Nat → Msg → Prop
  | nil (a : Msg) : TraceRc a [] [] a
  | cons {a a1 a' : Msg} {c : Call} {rc : Nat} {cs : List Call} {rcs : List Nat} :
      Step a c rc a1 → RcPrescribed a c rc → TraceRc a1 cs rcs a' → TraceRc a (c :: cs) (rc :: rcs) a'

theorem absCall_rc (ms : Nat) (a : Msg) (c : Call) : RcPrescribed a c (absCall ms a c).1 := by
  cases c with
  | removeOption n =>
    show (absRemove a n).1 = _
    unfold absRemove
    cases Spec.hasOpt n a.opts <;> rfl
  | _ => trivial

theorem absRun_traceRc (ms : Nat) (cs : List Call) : ∀ a, TraceRc a cs (absRun ms a cs).1 (absRun ms a cs).2 := by
  induction cs with
  | nil => intro a; exact TraceRc.nil a
  | cons c cs ih => intro a; exact TraceRc.cons (absCall_step ms a c) (absCall_rc ms a c) (ih _)

theorem run_refines_rc (ms : Nat) (a : Msg) (cs : List Call) (hs : Shape a) (hc : ∀ c ∈ cs, callNumOk c) :
    ∃ rcs a', run (conc ms a) cs = R.ok (rcs, conc ms a') ∧ TraceRc a cs rcs a' ∧ Shape a' :=
  ⟨_, _, (run_conc ms cs a hs hc).1, absRun_traceRc ms cs a, (run_conc ms cs a hs hc).2⟩

/-- D17 on `Spec.Edit`s: `RcPrescribed a (callOf e)` spelled out -/
def EditRc (a : Msg) : Spec.Edit → Nat → Prop
  | .remove n, rc => rc = (if Spec.hasOpt n a.opts = true then 1 else 0)
  | _, _ => True

/-- `EditTrace` where, in addition, every return code is one S prescribes (D17): a removal is `accepted` (rc = 1) exactly
on a message holding the option, `refused` (rc = 0) exactly on a message without it — where it is the identity anyway -/
inductive EditTraceRc : Msg → List Spec.Edit → List Nat → Msg → Prop
  | nil (a : Msg) : EditTraceRc a [] [] a
  | accepted {a a' : Msg} {e : Spec.Edit} {es : List Spec.Edit} {rc : Nat} {rcs : List Nat} (hop : Bool) :
      rc ≠ 0 → (hop = true → hopDomain a (callOf e) = true) → EditRc a e rc →
      EditTraceRc (Spec.applyEdit hop a e) es rcs a' → EditTraceRc a (e :: es) (rc :: rcs) a'
  | refused {a a' : Msg} {e : Spec.Edit} {es : List Spec.Edit} {rcs : List Nat} :
      EditRc a e 0 → EditTraceRc a es rcs a' → EditTraceRc a (e :: es) (0 :: rcs) a'

theorem editRc_of_rcPrescribed (a : Msg) (e : Spec.Edit) (rc : Nat) (h : RcPrescribed a (callOf e) rc) : EditRc a e rc := by
  cases e <;> first | exact h | trivial

theorem editTraceRc_of_traceRc (es : List Spec.Edit) : ∀ (a a' : Msg) (rcs : List Nat),
    TraceRc a (es.map callOf) rcs a' → EditTraceRc a es rcs a' := by
  induction es with
  | nil =>
    intro a a' rcs h
    cases h
    exact EditTraceRc.nil a
  | cons e es ih =>
    intro a a' rcs h
    rw [List.map_cons] at h
    cases h with
    | cons hstep hrc htail =>
      have ht := ih _ _ _ htail
      have hrc' := editRc_of_rcPrescribed _ e _ hrc
      cases hstep with
      | accepted rc hop h1 h2 =>
        rw [callSem_callOf] at ht
        exact EditTraceRc.accepted hop h1 h2 hrc' ht
      | refused => exact EditTraceRc.refused hrc' ht

theorem editTrace_of_editTraceRc {a a' : Msg} {es : List Spec.Edit} {rcs : List Nat} (h : EditTraceRc a es rcs a') :
    EditTrace a es rcs a' := by
  induction h with
  | nil a => exact EditTrace.nil a
  | accepted hop h1 h2 _ _ ih => exact EditTrace.accepted hop h1 h2 ih
  | refused _ _ ih => exact EditTrace.refused ih

end Coap
