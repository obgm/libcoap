import CoapVerif.Model.ObserveToken
import CoapVerif.Lemmas.ObserveKey
/-
C11: the TOKEN of an observation is the whole byte string, its length included.  coap_binary_equal (Model/ObserveToken.lean
`binaryEqual`: length first, then memcmp) holds exactly for equal byte strings; M's `token : Nat` is the injective encoding
`tokNat` of the bytes, so M's comparison `matchST` (coap_find_observer, coap_remove_failed_observers) IS coap_binary_equal on
the bytes; for `matchQT` (coap_cancel_all_messages) see `token_compare_queue_is_binary_equal` in Props/C11.lean.  That what removes
the observer named by ONE token leaves the entries under every OTHER token where they were is in Lemmas/ObserveFrame.lean.
-/
namespace Coap.Observe

theorem memcmpEq_iff : ∀ (n : Nat) (a b : List Nat), a.length = n → b.length = n → (memcmpEq n a b = true ↔ a = b)
  | 0, a, b, ha, hb => by
    rw [List.eq_nil_of_length_eq_zero ha, List.eq_nil_of_length_eq_zero hb]
    simp [memcmpEq]
  | n + 1, [], _, ha, _ => by simp at ha
  | n + 1, _ :: _, [], _, hb => by simp at hb
  | n + 1, x :: a, y :: b, ha, hb => by
    have ih := memcmpEq_iff n a b (by simpa using ha) (by simpa using hb)
    simp only [memcmpEq, Bool.and_eq_true, beq_iff_eq, ih, List.cons.injEq]

theorem binaryEqual_iff (a b : List Nat) : binaryEqual a b = true ↔ a = b := by
  unfold binaryEqual
  constructor
  · intro h
    simp only [Bool.and_eq_true, beq_iff_eq, Bool.or_eq_true] at h
    obtain ⟨hl, h2⟩ := h
    rcases h2 with h0 | hm
    · have ha : a = [] := List.eq_nil_of_length_eq_zero h0
      have hb : b = [] := List.eq_nil_of_length_eq_zero (by omega)
      rw [ha, hb]
    · exact (memcmpEq_iff a.length a b rfl hl.symm).mp hm
  · intro h
    subst h
    simp only [beq_self_eq_true, Bool.true_and, Bool.or_eq_true, beq_iff_eq]
    exact Or.inr ((memcmpEq_iff a.length a a rfl rfl).mpr rfl)

theorem binaryEqual_proper_prefix (t : List Nat) (x : Nat) (xs : List Nat) : binaryEqual t (t ++ x :: xs) = false := by
  rw [Bool.eq_false_iff]
  intro h
  have := congrArg List.length ((binaryEqual_iff _ _).mp h)
  simp at this

theorem natTok_zero : natTok 0 = [] := by rw [natTok]
theorem natTok_succ (n : Nat) : natTok (n + 1) = (n % 257) :: natTok (n / 257) := by rw [natTok]

theorem natTok_tokNat : ∀ t : List Nat, (∀ x ∈ t, x < 256) → natTok (tokNat t) = t
  | [], _ => natTok_zero
  | b :: r, h => by
    have hb : b < 257 := Nat.lt_succ_of_lt (h b (List.mem_cons_self ..))
    show natTok (encBytes r * 257 + (b + 1)) = b :: r
    rw [← Nat.add_assoc, natTok_succ, Nat.mul_add_mod_self_right, Nat.mod_eq_of_lt hb,
      Nat.add_comm (encBytes r * 257) b, Nat.add_mul_div_right _ _ (by decide), Nat.div_eq_of_lt hb, Nat.zero_add]
    exact congrArg (b :: ·) (natTok_tokNat r fun x hx => h x (List.mem_cons_of_mem _ hx))

theorem tokNat_injective (t u : List Nat) (ht : ∀ x ∈ t, x < 256) (hu : ∀ x ∈ u, x < 256) (h : tokNat t = tokNat u) : t = u :=
  encBytes_injective t u ht hu h

theorem matchST_is_binary_equal (c : Nat) (t u : List Nat) (s : Sub) (ht : ∀ x ∈ t, x < 256) (hu : ∀ x ∈ u, x < 256)
    (hs : s.token = tokNat u) : matchST c (tokNat t) s = findObserverMatch c t s := by
  unfold matchST findObserverMatch
  rw [hs, natTok_tokNat u hu]
  congr 1
  rw [Bool.eq_iff_iff, beq_iff_eq, binaryEqual_iff]
  exact ⟨fun h => (tokNat_injective u t hu ht h).symm, fun h => by rw [h]⟩

end Coap.Observe
