import CoapVerif.Lemmas.Observe
/- Run-level lemmas for C11: what one walk of the notify loop does to each entry (`Visit`) and to the state (`notifyOne_st`); what
   every step does to one resource on ANY state (`ResEvo`, `step_evo`, `run_evo`, `step_note_listed`: resource ids, `NoDupSt`, the
   version bound and, in Lemmas/ObserveAbsent, `Dead` and `Absent` are readings); how every primitive acts on ONE resource and on what is
   written about it when the ids are distinct (`Micro`, `Trans`), and the lifting to `step` (`step_rel`; to `run`: `run_resInv` in
   ObserveInv). -/
namespace Coap.Observe
open Coap.Generated

/-- `request_ind` for a property of the resource table alone -/
theorem request_inv {P : State → Prop} (hres : ∀ {s s' : State}, s'.res = s.res → P s → P s')
    (st : State) (o : Option Nat) (c r tok key : Nat) (con : Bool) (mid : Nat)
    (h0 : (findRes st r = none ∨ (o ≠ some 0 ∧ o ≠ some 1)) → P st)
    (hreg : o = some 0 → P (touchObserver (addObserver (rxSession st c) r c tok key) c tok))
    (hcan : o = some 1 → P (deleteObserverRequest (rxSession st c) r c tok key))
    (hdel : ∀ s, P s → P (deleteObserver s r c tok)) : P (request st o c r tok key con mid).1 :=
  request_ind st o c r tok key con mid (fun s h => hres (txStamp_res s c) h) (fun h => hres (s := st) rfl (h0 h)) hreg hcan hdel

theorem request_out (st : State) (o : Option Nat) (c r tok key : Nat) (con : Bool) (mid : Nat) :
    ∃ out, (request st o c r tok key con mid).2 = [out] ∧ out.tag = .resp ∧ (o ≠ some 0 → out.obs = none) := by
  unfold request
  dsimp only
  split
  · exact ⟨_, rfl, rfl, fun _ => rfl⟩
  · split
    · exact ⟨_, rfl, rfl, fun _ => rfl⟩
    · exact ⟨_, rfl, rfl, fun ho => if_neg ho⟩

theorem request_outs (st : State) (o : Option Nat) (c r tok key : Nat) (con : Bool) (mid : Nat) :
    ∀ out ∈ (request st o c r tok key con mid).2, out.tag = .resp := by
  obtain ⟨out, h, ht, _⟩ := request_out st o c r tok key con mid
  rw [h]
  intro a ha
  rw [List.mem_singleton.mp ha]; exact ht

def noteOut (c n tok code : Nat) (obs : Option Nat) (isCon : Bool) (mid rid ver : Nat) : Out :=
  { tag := .note, c := c, n := n, token := tok, code := code, obs := obs,
    kind := if isCon then .con else .non, mid := mid, res := rid, ver := ver }

theorem sendNote_out (st : State) (c tok code : Nat) (obs : Option Nat) (isCon : Bool) (mid rid ver : Nat) :
    (sendNote st c tok code obs isCon mid rid ver).2 = noteOut c (st.notes c).length tok code obs isCon mid rid ver := by
  unfold sendNote noteOut; split <;> rfl

/-- the NON counter after a 2.05 notification -/
def nextNonCnt (r : Res) (o : Sub) : Nat := if wantCon r o || r.fNonAlways then 0 else (o.nonCnt + 1) % 256

/-- one visit of the notify loop, seen from the entry: what becomes of it, whether `partiallydirty` is raised, what is written.
    (The session state only decides between `defer` and the sending cases.) -/
inductive Visit (d : Bool) (r : Res) (o : Sub) : Option Sub → Bool → List Out → Prop where
  | skip : r.dirty = false → o.dirty = false → Visit d r o (some o) false []
  | defer : (r.dirty = true ∨ o.dirty = true) → Visit d r o (some { o with dirty := true }) true []
  | bye (m n : Nat) : (r.dirty = true ∨ o.dirty = true) → d = true →
      Visit d r o (some { o with dirty := false, mid := m }) false [noteOut o.sess n o.token 132 none false m r.id r.ver]
  | error (m n : Nat) : (r.dirty = true ∨ o.dirty = true) → d = false → r.err = true →
      Visit d r o none false [noteOut o.sess n o.token 132 none (wantCon r o) m r.id r.ver]
  | sent (m n : Nat) : (r.dirty = true ∨ o.dirty = true) → d = false → r.err = false →
      Visit d r o (some { o with dirty := false, mid := m, nonCnt := nextNonCnt r o, lastVer := some r.ver }) false
        [noteOut o.sess n o.token 69 (some r.observe) (wantCon r o) m r.id r.ver]

theorem notifyOne_visit (d : Bool) (r : Res) (o : Sub) (st : State) :
    Visit d r o (notifyOne d r o st).sub (notifyOne d r o st).pd (notifyOne d r o st).outs := by
  refine notifyOne_cases (P := fun x => Visit d r o x.sub x.pd x.outs) d r o st (fun hr ho => Visit.skip hr ho)
    (fun hst _ => Visit.defer hst) ?_ ?_ ?_
  · intro hst _ hd sn hsn
    subst hsn
    rw [sendNote_out]
    exact Visit.bye _ _ hst hd
  · intro hst _ hd he sn hsn
    subst hsn
    rw [sendNote_out]
    exact Visit.error _ _ hst hd he
  · intro hst _ hd he sn hsn
    subst hsn
    rw [sendNote_out]
    exact Visit.sent _ _ hst hd he

/-- one visit, seen from the state: either nothing is written, the entry stays and `observe_pending` is raised; or a message id
    is drawn and one datagram is sent — after releasing the entry's session reference when the entry is dropped. -/
inductive VisitSt (r : Res) (o : Sub) (st : State) : OneRes → Prop where
  | quiet {x : OneRes} : x.outs = [] → x.sub ≠ none → x.st = { st with pending := true } → VisitSt r o st x
  | sent {x : OneRes} (st1 : State) (code : Nat) (obs : Option Nat) (isCon : Bool) : x.outs ≠ [] →
      x.st = (sendNote st1 o.sess o.token code obs isCon (newMid st o.sess).1 r.id r.ver).1 →
      ((x.sub ≠ none ∧ st1 = (newMid st o.sess).2) ∨ (x.sub = none ∧ st1 = refDec (newMid st o.sess).2 o.sess)) → VisitSt r o st x

theorem notifyOne_st (d : Bool) (r : Res) (o : Sub) (st : State) : VisitSt r o st (notifyOne d r o st) := by
  refine notifyOne_cases (P := VisitSt r o st) d r o st
    (fun _ _ => .quiet rfl (Option.some_ne_none _) rfl) (fun _ _ => .quiet rfl (Option.some_ne_none _) rfl) ?_ ?_ ?_
  · intro _ _ _ sn hsn
    exact .sent _ _ _ _ (List.cons_ne_nil _ _) (congrArg Prod.fst hsn) (Or.inl ⟨Option.some_ne_none _, rfl⟩)
  · intro _ _ _ _ sn hsn
    exact .sent _ _ _ _ (List.cons_ne_nil _ _) (congrArg Prod.fst hsn) (Or.inr ⟨rfl, rfl⟩)
  · intro _ _ _ _ sn hsn
    exact .sent _ _ _ _ (List.cons_ne_nil _ _) (congrArg Prod.fst hsn) (Or.inl ⟨Option.some_ne_none _, rfl⟩)

inductive Visits (d : Bool) (r : Res) : List Sub → List Sub → Bool → List Out → Prop where
  | nil : Visits d r [] [] false []
  | cons {o : Sub} {s : Option Sub} {pd : Bool} {outs : List Out} {rest subs' : List Sub} {pd' : Bool} {outs' : List Out} :
      Visit d r o s pd outs → Visits d r rest subs' pd' outs' →
      Visits d r (o :: rest) (s.toList ++ subs') (pd || pd') (outs ++ outs')

theorem notifyLoop_visits (d : Bool) (r : Res) : ∀ (subs : List Sub) (st : State),
    Visits d r subs (notifyLoop d r subs st).subs (notifyLoop d r subs st).pd (notifyLoop d r subs st).outs
  | [], _ => Visits.nil
  | o :: rest, st => by
    unfold notifyLoop
    exact Visits.cons (notifyOne_visit d r o st) (notifyLoop_visits d r rest _)

theorem Visit.ident_eq {d : Bool} {r : Res} {o o' : Sub} {pd : Bool} {outs : List Out}
    (h : Visit d r o (some o') pd outs) : ident o' = ident o := by
  cases h <;> rfl

theorem Visit.sess_eq {d : Bool} {r : Res} {o o' : Sub} {pd : Bool} {outs : List Out}
    (h : Visit d r o (some o') pd outs) : o'.sess = o.sess := by
  cases h <;> rfl

theorem Visit.of_outs_ne_nil {d : Bool} {r : Res} {o : Sub} {s : Option Sub} {pd : Bool} {outs : List Out}
    (h : Visit d r o s pd outs) (hne : outs ≠ []) :
    (r.dirty = true ∨ o.dirty = true) ∧ ∀ o', s = some o' → o'.dirty = false := by
  cases h with
  | skip | defer => exact absurd rfl hne
  | bye _ _ hs => exact ⟨hs, fun _ h => by cases h; rfl⟩
  | error _ _ hs => exact ⟨hs, nofun⟩
  | sent _ _ hs => exact ⟨hs, fun _ h => by cases h; rfl⟩

theorem Visit.out_fields {d : Bool} {r : Res} {o : Sub} {s : Option Sub} {pd : Bool} {outs : List Out}
    (h : Visit d r o s pd outs) :
    ∀ out ∈ outs, out.tag = .note ∧ out.c = o.sess ∧ out.token = o.token ∧ out.res = r.id ∧ out.ver = r.ver := by
  cases h <;> simp [noteOut]

def toST (c tok : Nat) (o : Out) : Bool := o.c == c && o.token == tok

theorem Visit.filter_match {d : Bool} {r : Res} {o : Sub} {s : Option Sub} {pd : Bool} {outs : List Out} {c tok : Nat}
    (h : Visit d r o s pd outs) (hm : matchST c tok o = true) : outs.filter (toST c tok) = outs := by
  rw [List.filter_eq_self]
  intro out ho
  obtain ⟨_, h1, h2, _⟩ := h.out_fields out ho
  unfold matchST at hm
  unfold toST
  rw [h1, h2]; exact hm

theorem Visit.nomatch {d : Bool} {r : Res} {o : Sub} {s : Option Sub} {pd : Bool} {outs : List Out} {c tok : Nat}
    (h : Visit d r o s pd outs) (hm : matchST c tok o = false) :
    (∀ x ∈ s.toList, matchST c tok x = false) ∧ outs.filter (toST c tok) = [] := by
  constructor
  · intro x hx
    cases s with
    | none => cases hx
    | some o' =>
      rw [Option.toList_some, List.mem_singleton] at hx
      rw [hx, matchST_ident h.ident_eq]
      exact hm
  · rw [List.filter_eq_nil_iff]
    intro out ho
    obtain ⟨_, h1, h2, _⟩ := h.out_fields out ho
    unfold matchST at hm
    unfold toST
    rw [h1, h2, hm]; simp

theorem Visits.visit_of_out {d : Bool} {r : Res} {subs subs' : List Sub} {pd : Bool} {outs : List Out}
    (h : Visits d r subs subs' pd outs) : ∀ out ∈ outs, ∃ o ∈ subs, ∃ s pd1 po, Visit d r o s pd1 po ∧ out ∈ po := by
  induction h with
  | nil => intro out ho; cases ho
  | @cons o s pd outs _ _ _ _ hv _ ih =>
    intro out ho
    rcases List.mem_append.mp ho with ho | ho
    · exact ⟨o, List.mem_cons_self .., s, pd, outs, hv, ho⟩
    · obtain ⟨o', ho', hh⟩ := ih out ho
      exact ⟨o', List.mem_cons_of_mem _ ho', hh⟩

theorem Visits.visit_of_sub {d : Bool} {r : Res} {subs subs' : List Sub} {pd : Bool} {outs : List Out}
    (h : Visits d r subs subs' pd outs) :
    ∀ o' ∈ subs', ∃ o ∈ subs, ∃ pd1 po, Visit d r o (some o') pd1 po ∧ (∀ x ∈ po, x ∈ outs) ∧ (pd1 = true → pd = true) := by
  induction h with
  | nil => intro o' ho'; cases ho'
  | @cons o s pd outs rest subs' pd' outs' hv _ ih =>
    intro o' ho'
    rcases List.mem_append.mp ho' with ho' | ho'
    · cases s with
      | none => simp at ho'
      | some o'' =>
        simp at ho'; subst ho'
        exact ⟨o, List.mem_cons_self .., pd, outs, hv, fun x hx => List.mem_append_left _ hx, fun h => by simp [h]⟩
    · obtain ⟨o1, ho1, pd1, po, h1, h2, h3⟩ := ih o' ho'
      exact ⟨o1, List.mem_cons_of_mem _ ho1, pd1, po, h1, fun x hx => List.mem_append_right _ (h2 x hx), fun h => by simp [h3 h]⟩

theorem Visits.out_fields {d : Bool} {r : Res} {subs subs' : List Sub} {pd : Bool} {outs : List Out}
    (h : Visits d r subs subs' pd outs) : ∀ out ∈ outs, out.tag = .note ∧ out.res = r.id ∧ out.ver = r.ver := by
  intro out ho
  obtain ⟨_, _, _, _, _, hv, hout⟩ := h.visit_of_out out ho
  obtain ⟨h1, _, _, h2, h3⟩ := hv.out_fields out hout
  exact ⟨h1, h2, h3⟩

theorem Visits.idLe {d : Bool} {r : Res} {subs subs' : List Sub} {pd : Bool} {outs : List Out}
    (h : Visits d r subs subs' pd outs) : IdLe subs' subs := by
  induction h with
  | nil => exact List.Sublist.refl _
  | @cons o s pd outs rest subs' pd' outs' hv _ ih =>
    unfold IdLe at ih ⊢
    rw [List.map_append, List.map_cons]
    refine List.Sublist.append (l₂ := [ident o]) ?_ ih
    cases s with
    | none => simp
    | some o' => simp [hv.ident_eq]

theorem Visits.nomatch {d : Bool} {r : Res} {subs subs' : List Sub} {pd : Bool} {outs : List Out} {c tok : Nat}
    (h : Visits d r subs subs' pd outs) (hn : ∀ s ∈ subs, matchST c tok s = false) :
    (∀ s ∈ subs', matchST c tok s = false) ∧ outs.filter (toST c tok) = [] := by
  induction h with
  | nil => exact ⟨(fun s hs => by cases hs), rfl⟩
  | @cons o s pd outs rest subs' pd' outs' hv _ ih =>
    have hi := ih (fun s hs => hn s (List.mem_cons_of_mem _ hs))
    have ho := hv.nomatch (hn o (List.mem_cons_self ..))
    refine ⟨fun x hx => (List.mem_append.mp hx).elim (ho.1 x) (hi.1 x), ?_⟩
    rw [List.filter_append, ho.2, hi.2]; rfl

/-- With distinct entries, the walk treats (session c, token tok) through exactly ONE visit: either nobody matches (before and
    after, nothing written to it), or the unique matching entry `o` is visited with result `s`, which is then the only
    matching entry afterwards, and what is written to (c, tok) is exactly that visit's output. -/
theorem Visits.target {d : Bool} {r : Res} {subs subs' : List Sub} {pd : Bool} {outs : List Out} (c tok : Nat)
    (h : Visits d r subs subs' pd outs) (hnd : (subs.map ident).Pairwise Distinct) :
    ((∀ s ∈ subs, matchST c tok s = false) ∧ (∀ s ∈ subs', matchST c tok s = false) ∧ outs.filter (toST c tok) = []) ∨
    (∃ o ∈ subs, matchST c tok o = true ∧ ∃ s pd1 po, Visit d r o s pd1 po ∧ (∀ o' ∈ subs', matchST c tok o' = true → s = some o') ∧
        (∀ o', s = some o' → o' ∈ subs') ∧ outs.filter (toST c tok) = po) := by
  induction h with
  | nil => exact Or.inl ⟨(fun s hs => by cases hs), (fun s hs => by cases hs), rfl⟩
  | @cons o s pd outs rest subs' pd' outs' hv hvs ih =>
    rw [List.map_cons, List.pairwise_cons] at hnd
    by_cases hm : matchST c tok o = true
    · -- the head is the entry; nobody in the rest matches
      have hrest : ∀ x ∈ rest, matchST c tok x = false :=
        fun x hx => distinct_no_match (hnd.1 (ident x) (List.mem_map_of_mem hx)) hm
      have hn := hvs.nomatch hrest
      refine Or.inr ⟨o, List.mem_cons_self .., hm, s, pd, outs, hv, ?_, ?_, ?_⟩
      · intro o' ho' hmo'
        rcases List.mem_append.mp ho' with ho' | ho'
        · cases s with
          | none => simp at ho'
          | some o'' => simp at ho'; rw [ho']
        · rw [hn.1 o' ho'] at hmo'; cases hmo'
      · intro o' hs; subst hs; simp
      · rw [List.filter_append, hv.filter_match hm, hn.2, List.append_nil]
    · have hm' : matchST c tok o = false := by simpa using hm
      have ho := hv.nomatch hm'
      rcases ih hnd.2 with ⟨h1, h2, h3⟩ | ⟨o1, ho1, hm1, s1, pd1, po, hv1, h4, h5, h6⟩
      · refine Or.inl ⟨?_, fun x hx => (List.mem_append.mp hx).elim (ho.1 x) (h2 x), ?_⟩
        · intro x hx
          cases hx with
          | head => exact hm'
          | tail _ hx' => exact h1 x hx'
        · rw [List.filter_append, ho.2, h3]; rfl
      · refine Or.inr ⟨o1, List.mem_cons_of_mem _ ho1, hm1, s1, pd1, po, hv1, ?_, fun o' hs => List.mem_append_right _ (h5 o' hs), ?_⟩
        · intro o' ho' hmo'
          rcases List.mem_append.mp ho' with ho' | ho'
          · rw [ho.1 o' ho'] at hmo'
            cases hmo'
          · exact h4 o' ho' hmo'
        · rw [List.filter_append, ho.2, h6]; rfl

theorem notifyRes_outs (d : Bool) (r : Res) (st : State) :
    ∀ out ∈ (notifyRes d r st).2.2, out.tag = .note ∧ out.res = r.id ∧ out.ver = r.ver := by
  unfold notifyRes
  split
  · exact (notifyLoop_visits d r r.subs st).out_fields
  · intro out ho; cases ho

theorem notifyAll_outs : ∀ (rs : List Res) (st : State), ∀ out ∈ (notifyAll rs st).2.2, out.tag = .note ∧ out.res ∈ rs.map (·.id)
  | [], _, out, h => by simp [notifyAll] at h
  | r :: rest, st, out, h => by
    unfold notifyAll at h
    dsimp only at h
    rcases List.mem_append.mp h with h | h
    · have := notifyRes_outs false r st out h
      exact ⟨this.1, by simp [this.2.1]⟩
    · have := notifyAll_outs rest _ out h
      exact ⟨this.1, List.mem_cons_of_mem _ this.2⟩

theorem notifyAll_res : ∀ (rs : List Res) (st : State), (notifyAll rs st).2.1.res = st.res
  | [], _ => rfl
  | r :: rest, st => by
    unfold notifyAll
    dsimp only
    rw [notifyAll_res rest, notifyRes_res]

theorem retransmit_outs (st : State) (q : QNode) : ∀ o ∈ (retransmit st q).2, o.tag = .rtx := by
  unfold retransmit
  split
  · intro o ho; simp at ho; rw [ho]
  · intro o ho; cases ho

theorem retransmitDue_outs : ∀ (fuel : Nat) (st : State), ∀ o ∈ (retransmitDue fuel st).2, o.tag = .rtx
  | 0, _, o, h => by simp [retransmitDue] at h
  | fuel + 1, st, o, h => by
    unfold retransmitDue at h
    split at h
    · cases h
    · split at h
      · dsimp only at h
        rcases List.mem_append.mp h with h | h
        · exact retransmit_outs _ _ o h
        · exact retransmitDue_outs fuel _ o h
      · cases h

theorem io_outs (st : State) : ∀ out ∈ (io st).2,
    (st.pending = true ∧ out ∈ (notifyAll st.res { st with pending := false }).2.2) ∨ out.tag = .rtx := by
  intro out h
  unfold io at h
  dsimp only at h
  rcases List.mem_append.mp h with h | h
  · unfold checkNotify at h
    split at h
    · rename_i hp
      exact Or.inl ⟨hp, h⟩
    · cases h
  · exact Or.inr (retransmitDue_outs _ _ out h)

structure SameButSubs (y' y : Res) : Prop where
  id : y'.id = y.id
  alive : y'.alive = y.alive
  fCon : y'.fCon = y.fCon
  fNonAlways : y'.fNonAlways = y.fNonAlways
  dirty : y'.dirty = y.dirty
  pdirty : y'.pdirty = y.pdirty
  ver : y'.ver = y.ver
  observe : y'.observe = y.observe
  err : y'.err = y.err

theorem addToRes_fields (y : Res) (c tok key m : Nat) : SameButSubs (addToRes y c tok key m) y := by
  unfold addToRes; split <;> exact ⟨rfl, rfl, rfl, rfl, rfl, rfl, rfl, rfl, rfl⟩

/-- 1 for the events that signal a change (coap_resource_notify_observers; coap_delete_resource signals one more), else 0 -/
def chgCount : Event → Nat
  | .chg _ => 1
  | .del _ => 1
  | _ => 0

def chgTotal (evs : List Event) : Nat := (evs.map chgCount).sum

/-- `A` for one event: only `reg c r tok …` registers (c, tok) on r -/
def RegEv (e : Event) (rid c tok : Nat) : Prop := ∃ key con mid, e = .reg c rid tok key con mid

/-- What any primitive may do to one resource, whatever the table looks like: the id stays, a dead resource stays dead, the ghost
    version grows by at most `k`, entries stay pairwise distinct, and an entry is an old one (same identity) or was registered
    under `A`. -/
structure ResEvo (A : Nat → Nat → Nat → Prop) (k : Nat) (y' y : Res) : Prop where
  id : y'.id = y.id
  alive : y'.alive = true → y.alive = true
  ver : y'.ver ≤ y.ver + k
  noDup : NoDup y → NoDup y'
  subs : ∀ o' ∈ y'.subs, (∃ o ∈ y.subs, ident o = ident o') ∨ A y.id o'.sess o'.token

section
variable {A : Nat → Nat → Nat → Prop}

theorem ResEvo.of_idLe {k : Nat} {y' y : Res} (hid : y'.id = y.id) (hal : y'.alive = true → y.alive = true)
    (hv : y'.ver ≤ y.ver + k) (hs : IdLe y'.subs y.subs) : ResEvo A k y' y :=
  ⟨hid, hal, hv, List.Pairwise.sublist hs, fun _ ho' => Or.inl (List.mem_map.mp (hs.subset (List.mem_map_of_mem ho')))⟩

theorem ResEvo.refl (k : Nat) (y : Res) : ResEvo A k y y := .of_idLe rfl (fun h => h) (Nat.le_add_right ..) (IdLe.refl _)

theorem ResEvo.of_leF {y' y : Res} (h : ResLeF y' y) : ResEvo A 0 y' y :=
  .of_idLe h.id (fun ha => h.alive ▸ ha) (Nat.le_of_eq h.ver) h.subs.idLe

theorem ResEvo.trans {k1 k2 : Nat} {a b c : Res} (h1 : ResEvo A k1 a b) (h2 : ResEvo A k2 b c) : ResEvo A (k1 + k2) a c where
  id := h1.id.trans h2.id
  alive h := h2.alive (h1.alive h)
  ver := by have := h1.ver; have := h2.ver; omega
  noDup h := h1.noDup (h2.noDup h)
  subs o' ho' := by
    rcases h1.subs o' ho' with ⟨o, ho, he⟩ | hA
    · rcases h2.subs o ho with ⟨o0, ho0, he0⟩ | hA
      · exact Or.inl ⟨o0, ho0, he0.trans he⟩
      · have h3 : o.sess = o'.sess := congrArg (·.1) he
        have h4 : o.token = o'.token := congrArg (·.2.1) he
        exact Or.inr (h3 ▸ h4 ▸ hA)
    · exact Or.inr (h2.id ▸ hA)

theorem ResEvo.imp {B : Nat → Nat → Nat → Prop} {k k' : Nat} {y' y : Res} (h : ResEvo A k y' y)
    (hAB : ∀ r c tok, A r c tok → B r c tok) (hk : k ≤ k') : ResEvo B k' y' y :=
  ⟨h.id, h.alive, Nat.le_trans h.ver (Nat.add_le_add_left hk _), h.noDup, fun o' ho' => (h.subs o' ho').imp_right (hAB _ _ _)⟩

abbrev Evo (A : Nat → Nat → Nat → Prop) (k : Nat) (st' st : State) : Prop := All2 (ResEvo A k) st'.res st.res

theorem Evo.refl (k : Nat) (st : State) : Evo A k st st := All2.refl (ResEvo.refl k) _
theorem Evo.of_eq {st' st : State} (h : st'.res = st.res) : Evo A 0 st' st := by unfold Evo; rw [h]; exact All2.refl (ResEvo.refl 0) _
theorem Evo.of_leF {st' st : State} (h : AllLeF st'.res st.res) : Evo A 0 st' st := All2.mono ResEvo.of_leF h
theorem Evo.trans {k1 k2 : Nat} {a b c : State} (h1 : Evo A k1 a b) (h2 : Evo A k2 b c) : Evo A (k1 + k2) a c :=
  All2.trans' (R := ResEvo A k1) (S := ResEvo A k2) (T := ResEvo A (k1 + k2)) (fun _ _ _ h h' => h.trans h') h1 h2

theorem Evo.imp {B : Nat → Nat → Nat → Prop} {k k' : Nat} {st' st : State} (h : Evo A k st' st)
    (hAB : ∀ r c tok, A r c tok → B r c tok) (hk : k ≤ k') : Evo B k' st' st := All2.mono (fun h' => h'.imp hAB hk) h

theorem ResEvo.ids {k : Nat} {a b : List Res} (h : All2 (ResEvo A k) a b) : a.map (·.id) = b.map (·.id) := by
  induction h with
  | nil => rfl
  | cons h _ ih => rw [List.map_cons, List.map_cons, h.id, ih]

theorem Evo.ids {k : Nat} {st' st : State} (h : Evo A k st' st) : resIds st' = resIds st := ResEvo.ids h

theorem Evo.idsNodup {k : Nat} {st' st : State} (h : Evo A k st' st) (hn : IdsNodup st) : IdsNodup st' := by
  unfold IdsNodup; rw [h.ids]; exact hn

theorem Evo.noDupSt {k : Nat} {st' st : State} (h : Evo A k st' st) (hs : NoDupSt st) : NoDupSt st' :=
  All2.forall (fun h' hy => h'.noDup hy) h hs

abbrev NoReg : Nat → Nat → Nat → Prop := fun _ _ _ => False

theorem IdsNodup.of_leF {st st' : State} (h : AllLeF st'.res st.res) (hn : IdsNodup st) : IdsNodup st' :=
  (Evo.of_leF (A := NoReg) h).idsNodup hn

theorem NoDupSt.of_leF {st st' : State} (h : AllLeF st'.res st.res) (hs : NoDupSt st) : NoDupSt st' :=
  (Evo.of_leF (A := NoReg) h).noDupSt hs

theorem notifyRes_evo (d : Bool) (r : Res) (st : State) : ResEvo A 0 (notifyRes d r st).1 r := by
  unfold notifyRes
  split
  · exact .of_idLe rfl (fun h => h) (Nat.le_refl _) (notifyLoop_visits d r r.subs st).idLe
  · exact .of_idLe rfl (fun h => h) (Nat.le_refl _) (IdLe.refl _)

theorem notifyAll_evo : ∀ (rs : List Res) (st : State), All2 (ResEvo A 0) (notifyAll rs st).1 rs
  | [], _ => All2.nil
  | r :: rest, st => by
    unfold notifyAll
    exact All2.cons (notifyRes_evo false r st) (notifyAll_evo rest _)

theorem checkNotify_evo (st : State) : Evo A 0 (checkNotify st).1 st := by
  unfold checkNotify
  split
  · exact notifyAll_evo ..
  · exact Evo.refl 0 _

theorem io_evo (st : State) : Evo A 0 (io st).1 st :=
  (Evo.of_leF (io_leF st)).trans (checkNotify_evo st)

theorem change_evo (st : State) (r : Nat) : Evo A 1 (change st r) st := by
  unfold change
  split
  · exact Evo.refl 1 st
  · split
    · exact Evo.refl 1 st
    · exact All2.modRes (ResEvo.refl 1) st r fun x => .of_idLe rfl (fun h => h) (Nat.le_refl _) (IdLe.refl _)

theorem errFlag_evo (st : State) (r : Nat) (b : Bool) : Evo A 0 (modRes st r fun y => { y with err := b }) st :=
  All2.modRes (ResEvo.refl 0) st r fun _ => .of_idLe rfl (fun h => h) (Nat.le_refl _) (IdLe.refl _)

theorem deleteResource_evo (st : State) (r : Nat) : Evo A 1 (deleteResource st r).1 st := by
  unfold deleteResource
  split
  · exact Evo.refl 1 st
  · dsimp only
    split
    · exact change_evo st r
    · rename_i x1 _
      refine Evo.trans (k1 := 0) ?_ (change_evo st r)
      have h := All2.modRes (ResEvo.refl (A := A) 0)
        (releaseAll (notifyRes true x1 (change st r)).2.1 (notifyRes true x1 (change st r)).1.subs) r
        (f := fun y => { y with alive := false, subs := [], dirty := false, pdirty := (notifyRes true x1 (change st r)).1.pdirty })
        (fun x => .of_idLe rfl (fun h => by cases h) (Nat.le_refl _) (List.nil_sublist _))
      rw [releaseAll_res, notifyRes_res] at h
      exact h

def addR (r c tok key m : Nat) (y : Res) : Res := if y.id = r ∧ y.alive = true then addToRes y c tok key m else y

theorem addToRes_found {y : Res} {c tok key m : Nat} (h : y.subs.any (matchST c tok) = true) : addToRes y c tok key m = y := by
  unfold addToRes; rw [if_pos h]

theorem addObserver_table (st : State) (r c tok key : Nat) :
    ∃ m, (addObserver st r c tok key).res = st.res ∨ (addObserver st r c tok key).res = st.res.map (addR r c tok key m) := by
  unfold addObserver
  split
  · exact ⟨0, Or.inl rfl⟩
  · split
    · exact ⟨0, Or.inl rfl⟩
    · dsimp only
      split
      · exact ⟨_, Or.inr rfl⟩
      · exact ⟨_, Or.inr rfl⟩

theorem addToRes_evo (y : Res) (c tok key m : Nat) (hA : A y.id c tok) : ResEvo A 0 (addToRes y c tok key m) y where
  id := (addToRes_fields y c tok key m).id
  alive h := (addToRes_fields y c tok key m).alive ▸ h
  ver := Nat.le_of_eq (addToRes_fields y c tok key m).ver
  noDup := addToRes_noDup y c tok key m
  subs o' ho' := by
    rcases mem_addToRes ho' with rfl | h
    · exact Or.inr hA
    · exact Or.inl ⟨o', h, rfl⟩

/-- coap_add_observer, then coap_touch_observer: the one place where an entry is added -/
theorem register_evo (st : State) (r c tok key : Nat) (hA : A r c tok) :
    Evo A 0 (touchObserver (addObserver st r c tok key) c tok) st := by
  refine Evo.trans (k1 := 0) (k2 := 0) (Evo.of_leF (touchObserver_leF ..)) ?_
  obtain ⟨m, h | h⟩ := addObserver_table st r c tok key
  · exact Evo.of_eq h
  · unfold Evo
    rw [h]
    refine All2.map (fun y => ?_) st.res
    unfold addR
    split
    · rename_i hy
      exact addToRes_evo y c tok key m (hy.1 ▸ hA)
    · exact ResEvo.refl 0 y

theorem request_evo (st : State) (o : Option Nat) (c r tok key : Nat) (con : Bool) (mid : Nat) (hA : o = some 0 → A r c tok) :
    Evo A 0 (request st o c r tok key con mid).1 st :=
  request_inv (P := fun s => Evo A 0 s st) (fun he h => by unfold Evo; rw [he]; exact h) st o c r tok key con mid
    (fun _ => Evo.refl 0 st)
    (fun ho => register_evo (rxSession st c) r c tok key (hA ho))
    (fun _ => Evo.of_leF (deleteObserverRequest_leF (rxSession st c) ..))
    (fun _ h => (Evo.of_leF (deleteObserver_leF ..)).trans h)

theorem rxThenIo_evo {k : Nat} {st : State} (p : State × List Out) (h : Evo A k p.1 st) : Evo A k (rxThenIo p).1 st :=
  Nat.zero_add k ▸ (io_evo p.1).trans h

theorem step_evo (st : State) (e : Event) : Evo (RegEv e) (chgCount e) (step st e).1 st := by
  cases e with
  | reg c r tok key con mid => exact rxThenIo_evo _ (request_evo st _ c r tok key con mid fun _ => ⟨key, con, mid, rfl⟩)
  | can c r tok key con mid => exact rxThenIo_evo _ (request_evo st _ c r tok key con mid fun h => by cases h)
  | get c r tok key con mid => exact rxThenIo_evo _ (request_evo st _ c r tok key con mid fun h => by cases h)
  | chg r => exact change_evo st r
  | adv ms => exact io_evo _
  | ack c n =>
    show Evo _ 0 _ _
    unfold step; dsimp only
    split
    · split
      · exact rxThenIo_evo _ (Evo.of_leF (handleAck_leF ..))
      · exact Evo.refl 0 _
    · exact Evo.refl 0 _
  | rst c n =>
    show Evo _ 0 _ _
    unfold step; dsimp only
    split
    · exact rxThenIo_evo _ (Evo.of_leF (handleRst_leF ..))
    · exact Evo.refl 0 _
  | err r b => exact errFlag_evo st r b
  | lost c => exact Evo.of_leF (sessionLost_leF ..)
  | del r => exact deleteResource_evo st r

theorem run_evo : ∀ (evs : List Event) (st : State),
    Evo (fun r c tok => ∃ e ∈ evs, RegEv e r c tok) (chgTotal evs) (run st evs).1 st
  | [], st => Evo.refl _ st
  | e :: es, st => by
    rw [run_cons]
    have h1 := (step_evo st e).imp (B := fun r c tok => ∃ e' ∈ e :: es, RegEv e' r c tok)
      (fun _ _ _ h => ⟨e, List.mem_cons_self .., h⟩) (Nat.le_refl _)
    have h2 := (run_evo es (step st e).1).imp (B := fun r c tok => ∃ e' ∈ e :: es, RegEv e' r c tok)
      (fun _ _ _ ⟨e', he', h⟩ => ⟨e', List.mem_cons_of_mem _ he', h⟩) (Nat.le_refl _)
    have := h2.trans h1
    unfold chgTotal at this ⊢
    rw [List.map_cons, List.sum_cons, Nat.add_comm]
    exact this

end

/-- the datagram is addressed to an entry of resource y -/
structure ToEntryOf (y : Res) (out : Out) : Prop where
  alive : y.alive = true
  res : out.res = y.id
  entry : ∃ o ∈ y.subs, out.c = o.sess ∧ out.token = o.token

theorem notifyRes_toEntryOf (d : Bool) (r : Res) (st : State) : ∀ out ∈ (notifyRes d r st).2.2, ToEntryOf r out := by
  intro out h
  unfold notifyRes at h
  split at h
  · rename_i hc
    simp only [Bool.and_eq_true] at hc
    obtain ⟨o, ho, _, _, _, hv, hout⟩ := (notifyLoop_visits d r r.subs st).visit_of_out out h
    obtain ⟨_, h1, h2, h3, _⟩ := hv.out_fields out hout
    exact ⟨hc.1, h3, o, ho, h1, h2⟩
  · cases h

def Listed (l : List Res) (out : Out) : Prop := ∃ y ∈ l, ToEntryOf y out

theorem notifyAll_listed : ∀ (rs : List Res) (st : State), ∀ out ∈ (notifyAll rs st).2.2, Listed rs out
  | [], _, out, h => by simp [notifyAll] at h
  | r :: rest, st, out, h => by
    unfold notifyAll at h
    dsimp only at h
    rcases List.mem_append.mp h with h | h
    · exact ⟨r, List.mem_cons_self .., notifyRes_toEntryOf false r st out h⟩
    · obtain ⟨y, hy, hh⟩ := notifyAll_listed rest _ out h
      exact ⟨y, List.mem_cons_of_mem _ hy, hh⟩

theorem mem_deleteResource_outs {st : State} {r : Nat} {out : Out} (h : out ∈ (deleteResource st r).2) :
    ∃ x, findRes (change st r) r = some x ∧ out ∈ (notifyRes true x (change st r)).2.2 := by
  unfold deleteResource at h
  split at h
  · cases h
  · dsimp only at h
    split at h
    · cases h
    · rename_i x1 hx1
      exact ⟨x1, hx1, h⟩

theorem io_note_listed (st : State) : ∀ out ∈ (io st).2, out.tag = .note → Listed st.res out := by
  intro out ho ht
  rcases io_outs st out ho with ⟨_, h⟩ | h
  · exact notifyAll_listed _ _ out h
  · rw [h] at ht; cases ht

theorem mem_rxThenIo_outs {p : State × List Out} {out : Out} (h : out ∈ (rxThenIo p).2) : out ∈ p.2 ∨ out ∈ (io p.1).2 := by
  unfold rxThenIo at h
  exact List.mem_append.mp h

theorem rxThenIo_note_listed (p : State × List Out) (hp : ∀ out ∈ p.2, out.tag ≠ .note) :
    ∀ out ∈ (rxThenIo p).2, out.tag = .note → Listed p.1.res out := by
  intro out ho ht
  rcases mem_rxThenIo_outs ho with ho | ho
  · exact absurd ht (hp out ho)
  · exact io_note_listed p.1 out ho ht

/-- every notification goes to an entry listed in a table `s` the step passes through -/
theorem step_note_listed (st : State) (e : Event) :
    ∀ out ∈ (step st e).2, out.tag = .note → ∃ s k, Evo (RegEv e) k s st ∧ Listed s.res out := by
  have hnil : ∀ out ∈ ([] : List Out), out.tag ≠ .note := fun _ h => by cases h
  refine step_cases (P := fun p => ∀ out ∈ p.2, out.tag = .note → ∃ s k, Evo (RegEv e) k s st ∧ Listed s.res out) st e
    ?_ ?_ ?_ (fun _ h => by cases h) (fun _ _ h => by cases h) ?_ (fun _ _ _ h => by cases h) (fun _ _ h => by cases h) ?_
  · intro o c r tok key con mid hreg out ho ht
    exact ⟨_, 0, request_evo st o c r tok key con mid (fun h => ⟨key, con, mid, hreg h⟩),
      rxThenIo_note_listed _ (fun a ha => by rw [request_outs st o c r tok key con mid a ha]; decide) out ho ht⟩
  · intro c mid out ho ht
    exact ⟨_, 0, Evo.of_leF (handleAck_leF st c mid), rxThenIo_note_listed (handleAck st c mid, []) hnil out ho ht⟩
  · intro c mid out ho ht
    exact ⟨_, 0, Evo.of_leF (handleRst_leF st c mid), rxThenIo_note_listed (handleRst st c mid, []) hnil out ho ht⟩
  · intro ms out ho ht
    exact ⟨{ st with now := st.now + ms }, 0, Evo.refl 0 st, io_note_listed _ out ho ht⟩
  · intro r out ho _
    obtain ⟨x, hx, ho'⟩ := mem_deleteResource_outs ho
    exact ⟨change st r, 1, change_evo st r, x, (findRes_mem hx).mem, notifyRes_toEntryOf true x _ out ho'⟩

theorem step_ids (st : State) (e : Event) : resIds (step st e).1 = resIds st := (step_evo st e).ids

theorem step_idsNodup (st : State) (e : Event) (h : IdsNodup st) : IdsNodup (step st e).1 := (step_evo st e).idsNodup h

theorem run_ids (st : State) (evs : List Event) : resIds (run st evs).1 = resIds st := (run_evo evs st).ids

theorem run_idsNodup (st : State) (evs : List Event) (h : IdsNodup st) : IdsNodup (run st evs).1 := (run_evo evs st).idsNodup h

theorem run_noDup (evs : List Event) (st : State) (hs : NoDupSt st) : NoDupSt (run st evs).1 := (run_evo evs st).noDupSt hs

/-- `run_inv_state` for an invariant whose step needs the resource ids distinct -/
theorem run_inv_ids {P : State → Prop} (hstep : ∀ st e, IdsNodup st → P st → P (step st e).1) (evs : List Event) (st : State)
    (hid : IdsNodup st) (h : P st) : P (run st evs).1 :=
  (run_inv_state (P := fun s => IdsNodup s ∧ P s) (fun s e h => ⟨step_idsNodup s e h.1, hstep s e h.1 h.2⟩) evs st ⟨hid, h⟩).2

theorem step_notes (st : State) (e : Event) : ∀ out ∈ (step st e).2, out.tag = .note → out.res ∈ resIds st := by
  intro out ho ht
  obtain ⟨s, k, hs, y, hy, hf⟩ := step_note_listed st e out ho ht
  rw [← hs.ids, hf.res]
  exact List.mem_map_of_mem hy

theorem run_note_res : ∀ (evs : List Event) (st : State),
    ∀ out ∈ (run st evs).2, out.tag = .note → ∃ y ∈ (run st evs).1.res, y.id = out.res
  | [], _, out, ho, _ => by cases ho
  | e :: es, st, out, ho, ht => by
    rw [run_cons] at ho
    rcases List.mem_append.mp ho with ho | ho
    · have := step_notes st e out ho ht
      rw [← run_ids st (e :: es)] at this
      exact List.mem_map.mp this
    · exact run_note_res es _ out ho ht

theorem checkNotify_idsNodup (st : State) (hid : IdsNodup st) : IdsNodup (checkNotify st).1 :=
  (checkNotify_evo (A := NoReg) st).idsNodup hid

/-- `Micro A y o y'`: one thing a primitive does to ONE resource — `y` becomes `y'` while `o` is written about it.
    `A rid c tok`: a registration request of (session c, token tok) on resource rid is being handled. -/
inductive Micro (A : Nat → Nat → Nat → Prop) : Res → List Out → Res → Prop where
  /-- entries removed, fail counters touched -/
  | le {y y' : Res} : ResLeF y' y → Micro A y [] y'
  | errFlag {y : Res} (b : Bool) : Micro A y [] { y with err := b }
  /-- coap_resource_notify_observers_lkd -/
  | change {y : Res} : Micro A y [] { y with dirty := true, observe := nextObserve y.observe, ver := y.ver + 1 }
  /-- successful (re-)registration: coap_add_observer + the 2.05 response carrying the counter's current value -/
  | register {y : Res} (c tok key m : Nat) (out : Out) : A y.id c tok → y.alive = true → y.err = false →
      out.tag = .resp → out.c = c → out.token = tok → out.code = 69 → out.obs = some y.observe → out.ver = y.ver →
      out.res = y.id → Micro A y [out] (addToRes y c tok key m)
  /-- any other response -/
  | resp {y : Res} (out : Out) : out.tag = .resp → (out.obs = none ∨ out.code ≠ 69) → Micro A y [out] y
  /-- coap_notify_observers(COAP_NOT_DELETING_RESOURCE) on an alive resource -/
  | notify {y : Res} {subs' : List Sub} {pd : Bool} {outs : List Out} : y.alive = true →
      Visits false y y.subs subs' pd outs → Micro A y outs { y with subs := subs', pdirty := pd, dirty := false }
  /-- coap_free_resource of a resource with something to tell: coap_notify_observers(COAP_DELETING_RESOURCE), entries freed -/
  | bye {y : Res} {subs' : List Sub} {pd : Bool} {outs : List Out} (pd' : Bool) : y.alive = true →
      Visits true y y.subs subs' pd outs → Micro A y outs { y with alive := false, subs := [], dirty := false, pdirty := pd' }
  | clean {y : Res} : (y.alive = false ∨ y.dirty = false) → Micro A y [] { y with dirty := false }
  /-- coap_free_resource -/
  | delete {y : Res} (pd : Bool) : Micro A y [] { y with alive := false, subs := [], dirty := false, pdirty := pd }

inductive Trans (A : Nat → Nat → Nat → Prop) : Res → List Out → Res → Prop where
  | refl {y : Res} : Trans A y [] y
  | step {y y1 y2 : Res} {o1 o2 : List Out} : Micro A y o1 y1 → Trans A y1 o2 y2 → Trans A y (o1 ++ o2) y2

theorem Trans.single {A : Nat → Nat → Nat → Prop} {y y' : Res} {o : List Out} (h : Micro A y o y') : Trans A y o y' := by
  have := Trans.step h (Trans.refl (A := A) (y := y'))
  simpa using this

theorem Trans.trans {A : Nat → Nat → Nat → Prop} {y y1 y2 : Res} {o1 o2 : List Out} (h1 : Trans A y o1 y1) (h2 : Trans A y1 o2 y2) :
    Trans A y (o1 ++ o2) y2 := by
  induction h1 with
  | refl => simpa using h2
  | step hm _ ih => rw [List.append_assoc]; exact Trans.step hm (ih h2)

theorem Micro.fixed {A : Nat → Nat → Nat → Prop} {y y' : Res} {o : List Out} (h : Micro A y o y') :
    y'.id = y.id ∧ y'.fCon = y.fCon ∧ y'.fNonAlways = y.fNonAlways := by
  cases h with
  | le h => exact ⟨h.id, h.fCon, h.fNonAlways⟩
  | register c tok key m out => have := addToRes_fields y c tok key m; exact ⟨this.id, this.fCon, this.fNonAlways⟩
  | _ => exact ⟨rfl, rfl, rfl⟩

theorem Trans.fixed {A : Nat → Nat → Nat → Prop} {y y' : Res} {o : List Out} (h : Trans A y o y') :
    y'.id = y.id ∧ y'.fCon = y.fCon ∧ y'.fNonAlways = y.fNonAlways := by
  induction h with
  | refl => exact ⟨rfl, rfl, rfl⟩
  | step hm _ ih =>
    have := hm.fixed
    exact ⟨ih.1.trans this.1, ih.2.1.trans this.2.1, ih.2.2.trans this.2.2⟩

/-- which of a step's datagrams are about resource `rid` (retransmissions carry no resource) -/
def fromRes (rid : Nat) (o : Out) : Bool := o.tag != .rtx && o.res == rid

theorem fromRes_of_note {rid : Nat} {a : Out} (ht : a.tag = .note) (hr : rid = a.res) : fromRes rid a = true := by
  unfold fromRes
  rw [ht, hr]
  simp

/-- the resource table of `st'` arises from that of `st`, resource by resource, while `outs` is written -/
def StepRel (A : Nat → Nat → Nat → Prop) (st' st : State) (outs : List Out) : Prop :=
  All2 (fun y' y => Trans A y (outs.filter (fromRes y.id)) y') st'.res st.res

theorem StepRel.trans {A : Nat → Nat → Nat → Prop} {st2 st1 st : State} {o1 o2 : List Out}
    (h1 : StepRel A st1 st o1) (h2 : StepRel A st2 st1 o2) : StepRel A st2 st (o1 ++ o2) := by
  unfold StepRel at *
  refine All2.trans' ?_ h2 h1
  intro x y z hxy hyz
  rw [List.filter_append]
  have : y.id = z.id := hyz.fixed.1
  rw [this] at hxy
  exact hyz.trans hxy

theorem StepRel.of_le {A : Nat → Nat → Nat → Prop} {st' st : State} {outs : List Out} (h : AllLeF st'.res st.res)
    (ho : ∀ o ∈ outs, o.tag = .rtx) : StepRel A st' st outs := by
  unfold StepRel
  refine All2.mono ?_ h
  intro x y hxy
  have : outs.filter (fromRes y.id) = [] := by
    rw [List.filter_eq_nil_iff]
    intro o hmem
    simp [fromRes, ho o hmem]
  rw [this]
  exact Trans.single (.le hxy)

theorem StepRel.of_le_nil {A : Nat → Nat → Nat → Prop} {st' st : State} (h : AllLeF st'.res st.res) : StepRel A st' st [] :=
  StepRel.of_le h (fun o ho => by cases ho)

theorem StepRel.of_eq {A : Nat → Nat → Nat → Prop} {st' st : State} (h : st'.res = st.res) : StepRel A st' st [] :=
  StepRel.of_le_nil (h ▸ AllLeF.refl _)

theorem notifyRes_micro (A : Nat → Nat → Nat → Prop) (r : Res) (st : State) :
    Micro A r (notifyRes false r st).2.2 (notifyRes false r st).1 := by
  unfold notifyRes
  by_cases h : (r.alive && (r.dirty || r.pdirty)) = true
  · rw [if_pos h]
    simp only [Bool.and_eq_true] at h
    exact Micro.notify h.1 (notifyLoop_visits false r r.subs st)
  · rw [if_neg h]
    apply Micro.clean
    cases ha : r.alive <;> cases hd : r.dirty <;> simp [ha, hd] at h ⊢

/-- coap_free_resource: last words (deleting mode), then the resource is dead and lists nobody -/
theorem notifyRes_bye (A : Nat → Nat → Nat → Prop) (r : Res) (st : State) (pd' : Bool) :
    Trans A r (notifyRes true r st).2.2 { r with alive := false, subs := [], dirty := false, pdirty := pd' } := by
  unfold notifyRes
  by_cases h : (r.alive && (r.dirty || r.pdirty)) = true
  · rw [if_pos h]
    simp only [Bool.and_eq_true] at h
    exact Trans.single (Micro.bye pd' h.1 (notifyLoop_visits true r r.subs st))
  · rw [if_neg h]
    have h1 : Micro A r [] { r with dirty := false } := by
      apply Micro.clean
      cases ha : r.alive <;> cases hd : r.dirty <;> simp [ha, hd] at h ⊢
    have h2 : Micro A { r with dirty := false } [] { r with alive := false, subs := [], dirty := false, pdirty := pd' } :=
      Micro.delete pd'
    exact Trans.step h1 (Trans.single h2)

theorem filter_fromRes_self {rid : Nat} {outs : List Out} (h : ∀ out ∈ outs, out.tag = .note ∧ out.res = rid) :
    outs.filter (fromRes rid) = outs := by
  rw [List.filter_eq_self]
  intro o ho
  simp [fromRes, (h o ho).1, (h o ho).2]

theorem filter_fromRes_other {rid : Nat} {outs : List Out} (h : ∀ out ∈ outs, out.res ≠ rid) :
    outs.filter (fromRes rid) = [] := by
  rw [List.filter_eq_nil_iff]
  intro o ho
  simp [fromRes, h o ho]

/-- every datagram of the pass is attributed to its resource by `Out.res`: that is where distinct ids are needed -/
theorem notifyAll_rel (A : Nat → Nat → Nat → Prop) : ∀ (rs : List Res) (st : State), (rs.map (·.id)).Nodup →
    All2 (fun y' y => Trans A y ((notifyAll rs st).2.2.filter (fromRes y.id)) y') (notifyAll rs st).1 rs
  | [], _, _ => All2.nil
  | r :: rest, st, hn => by
    rw [List.map_cons, List.nodup_cons] at hn
    unfold notifyAll
    dsimp only
    refine All2.cons ?_ ?_
    · rw [List.filter_append, filter_fromRes_self (fun o ho => ⟨(notifyRes_outs false r st o ho).1, (notifyRes_outs false r st o ho).2.1⟩),
        filter_fromRes_other (rid := r.id) (fun o ho heq => hn.1 (heq ▸ (notifyAll_outs rest _ o ho).2)), List.append_nil]
      exact Trans.single (notifyRes_micro A r st)
    · refine All2.mono_mem (notifyAll_rel A rest _ hn.2) ?_
      intro x y hy hxy
      rw [List.filter_append, filter_fromRes_other (rid := y.id) (fun o ho heq => hn.1 (by
        rw [(notifyRes_outs false r st o ho).2.1] at heq
        rw [heq]; exact List.mem_map_of_mem hy)), List.nil_append]
      exact hxy

theorem io_rel (A : Nat → Nat → Nat → Prop) (st : State) (hid : IdsNodup st) : StepRel A (io st).1 st (io st).2 := by
  unfold io
  dsimp only
  have h1 : StepRel A (checkNotify st).1 st (checkNotify st).2 := by
    unfold checkNotify
    split
    · exact notifyAll_rel A st.res _ hid
    · exact StepRel.of_eq rfl
  have h2 : StepRel A (reclaim (retransmitDue ((checkNotify st).1.sendq.length + 1) (checkNotify st).1).1) (checkNotify st).1
      (retransmitDue ((checkNotify st).1.sendq.length + 1) (checkNotify st).1).2 :=
    StepRel.of_le (by simp only [reclaim_res]; exact retransmitDue_leF _ _) (retransmitDue_outs _ _)
  exact h1.trans h2

theorem map_id_of {l : List Res} {f : Res → Res} (h : ∀ y ∈ l, f y = y) : l.map f = l := by
  induction l with
  | nil => rfl
  | cons x xs ih =>
    rw [List.map_cons, h x (List.mem_cons_self ..), ih (fun y hy => h y (List.mem_cons_of_mem _ hy))]

theorem findRes_none {st : State} {r : Nat} (h : findRes st r = none) : ∀ y ∈ st.res, ¬(y.id = r ∧ y.alive = true) := by
  unfold findRes at h
  intro y hy
  have := List.find?_eq_none.mp h y hy
  simpa using this

theorem unique_alive {st : State} (hid : IdsNodup st) {r : Nat} {x : Res} (hx : findRes st r = some x) :
    ∀ y ∈ st.res, y.id = r → y = x := by
  intro y hy hyr
  have := findRes_mem hx
  exact eq_of_id_eq hid hy this.mem (hyr.trans this.id.symm)

/-- `addObserver_table` with distinct ids: one equation (the cases in which nothing happens are `addR` finding nothing to do) -/
theorem addObserver_res (st : State) (r c tok key : Nat) (hid : IdsNodup st) :
    ∃ m, (addObserver st r c tok key).res = st.res.map (addR r c tok key m) := by
  unfold addObserver
  cases hx : findRes st r with
  | none =>
    refine ⟨0, ?_⟩
    dsimp only
    rw [map_id_of]
    intro y hy
    unfold addR
    rw [if_neg (findRes_none hx y hy)]
  | some x =>
    dsimp only
    by_cases ha : x.subs.any (matchST c tok) = true
    · rw [if_pos ha]
      refine ⟨0, ?_⟩
      rw [map_id_of]
      intro y hy
      unfold addR
      split
      · rename_i h
        rw [unique_alive hid hx y hy h.1]
        exact addToRes_found ha
      · rfl
    · rw [if_neg ha]
      split
      · exact ⟨_, rfl⟩
      · exact ⟨_, rfl⟩

def touchR (c tok : Nat) (y : Res) : Res :=
  if y.alive = true then { y with subs := modFirst (matchST c tok) (fun s => { s with failCnt := 0 }) y.subs } else y

def delR (r c tok : Nat) (y : Res) : Res := if y.id = r ∧ y.alive = true then { y with subs := y.subs.eraseP (matchST c tok) } else y

theorem touchObserver_res (st : State) (c tok : Nat) : (touchObserver st c tok).res = st.res.map (touchR c tok) := rfl

theorem deleteObserver_res (st : State) (r c tok : Nat) (hid : IdsNodup st) :
    (deleteObserver st r c tok).res = st.res.map (delR r c tok) := by
  unfold deleteObserver
  cases hx : findRes st r with
  | none =>
    dsimp only
    rw [map_id_of]
    intro y hy
    unfold delR
    rw [if_neg (findRes_none hx y hy)]
  | some x =>
    dsimp only
    have hxm := findRes_mem hx
    by_cases ha : x.subs.any (matchST c tok) = true
    · rw [if_pos ha]
      simp only [refDec_res, modRes, mapRes]
      apply List.map_congr_left
      intro y hy
      unfold delR
      by_cases h : y.id = r
      · have := unique_alive hid hx y hy h
        rw [if_pos h, if_pos ⟨h, by rw [this]; exact hxm.alive⟩]
      · rw [if_neg h, if_neg (fun hh => h hh.1)]
    · rw [if_neg ha]
      rw [map_id_of]
      intro y hy
      unfold delR
      split
      · rename_i h
        have := unique_alive hid hx y hy h.1
        subst this
        have : y.subs.eraseP (matchST c tok) = y.subs := by
          apply List.eraseP_of_forall_not
          intro s hs hm
          exact ha (List.any_eq_true.mpr ⟨s, hs, hm⟩)
        rw [this]
      · rfl

theorem touchR_le (c tok : Nat) (y : Res) : ResLeF (touchR c tok y) y := by
  unfold touchR
  split
  · exact resLeF_modFirst y _ _ fun _ => rfl
  · exact ResLeF.refl y

theorem delR_le (r c tok : Nat) (y : Res) : ResLeF (delR r c tok y) y := by
  unfold delR
  split
  · exact resLeF_subs y (SubsLeF.of_sublist List.eraseP_sublist)
  · exact ResLeF.refl y

theorem touchR_fields (c tok : Nat) (y : Res) : (touchR c tok y).id = y.id ∧ (touchR c tok y).alive = y.alive := by
  unfold touchR; split <;> exact ⟨rfl, rfl⟩

theorem addR_fields (r c tok key m : Nat) (y : Res) : (addR r c tok key m y).id = y.id ∧ (addR r c tok key m y).alive = y.alive := by
  unfold addR; split
  · have := addToRes_fields y c tok key m; exact ⟨this.id, this.alive⟩
  · exact ⟨rfl, rfl⟩

/-- registration answered with an error: the entry just added (or found) is deleted again — all that is left is a sub-list -/
theorem add_touch_del_le (r c tok key m : Nat) (y : Res) : ResLeF (delR r c tok (touchR c tok (addR r c tok key m y))) y := by
  by_cases h : y.id = r ∧ y.alive = true
  · by_cases ha : y.subs.any (matchST c tok) = true
    · have : addR r c tok key m y = y := by unfold addR; rw [if_pos h]; exact addToRes_found ha
      rw [this]
      exact (delR_le ..).trans (touchR_le ..)
    · -- new head entry, touched, erased
      have h1 : addR r c tok key m y = addToRes y c tok key m := by unfold addR; rw [if_pos h]
      rw [h1]
      have hf := addToRes_fields y c tok key m
      unfold touchR
      rw [if_pos (by rw [hf.alive]; exact h.2)]
      unfold delR
      dsimp only
      rw [if_pos (by rw [hf.id, hf.alive]; exact h)]
      unfold addToRes
      rw [if_neg ha]
      dsimp only
      have hm : matchST c tok { sess := c, token := tok, key := key, nonCnt := 0, failCnt := 0, dirty := false, mid := m, lastVer := none } = true := by
        simp [matchST]
      unfold modFirst
      rw [if_pos hm]
      rw [List.eraseP_cons_of_pos (by simp [matchST])]
      refine ⟨rfl, rfl, rfl, rfl, rfl, rfl, rfl, rfl, rfl, ?_⟩
      apply SubsLeF.of_sublist
      split
      · exact List.eraseP_sublist
      · exact List.Sublist.refl _
  · have h1 : addR r c tok key m y = y := by unfold addR; rw [if_neg h]
    rw [h1]
    exact (delR_le ..).trans (touchR_le ..)

theorem filter_single_fromRes (rid : Nat) (out : Out) (h1 : out.tag ≠ .rtx) :
    [out].filter (fromRes rid) = if out.res = rid then [out] else [] := by
  unfold fromRes
  by_cases h : out.res = rid <;> simp [h, h1]

theorem StepRel.resp_le {A : Nat → Nat → Nat → Prop} {st' st : State} {out : Out} (h : AllLeF st'.res st.res)
    (ht : out.tag = .resp) (ho : out.obs = none ∨ out.code ≠ 69) : StepRel A st' st [out] := by
  unfold StepRel
  refine All2.mono ?_ h
  intro x y hxy
  rw [filter_single_fromRes _ _ (by rw [ht]; decide)]
  split
  · exact Trans.step (.resp out ht ho) (Trans.single (.le hxy))
  · exact Trans.single (.le hxy)

theorem change_rel (A : Nat → Nat → Nat → Prop) (st : State) (r : Nat) : StepRel A (change st r) st [] := by
  unfold change
  split
  · exact StepRel.of_eq rfl
  · split
    · exact StepRel.of_eq rfl
    · unfold StepRel
      show All2 _ (modRes st r _).res st.res
      unfold modRes mapRes
      apply All2.of_map
      intro y _
      rw [List.filter_nil]
      split
      · exact Trans.single .change
      · exact Trans.refl

theorem errFlag_rel (A : Nat → Nat → Nat → Prop) (st : State) (r : Nat) (b : Bool) :
    StepRel A (modRes st r fun y => { y with err := b }) st [] := by
  unfold StepRel modRes mapRes
  apply All2.of_map
  intro y _
  rw [List.filter_nil]
  split
  · exact Trans.single (.errFlag b)
  · exact Trans.refl

theorem del_eq (d : Bool) (x1 : Res) (st : State) (pd : Bool) :
    { (notifyRes d x1 st).1 with alive := false, subs := [], dirty := false, pdirty := pd } =
    { x1 with alive := false, subs := [], dirty := false, pdirty := pd } := by
  unfold notifyRes; split <;> rfl

theorem deleteResource_rel (A : Nat → Nat → Nat → Prop) (st : State) (r : Nat) (hid : IdsNodup st) :
    StepRel A (deleteResource st r).1 st (deleteResource st r).2 := by
  unfold deleteResource
  split
  · exact StepRel.of_eq rfl
  · dsimp only
    cases hx1 : findRes (change st r) r with
    | none => exact change_rel A st r
    | some x1 =>
      dsimp only
      have hc := change_rel A st r
      refine (hc.trans (st2 := _) (o2 := (notifyRes true x1 (change st r)).2.2) ?_)
      have hid1 : IdsNodup (change st r) := (change_evo (A := NoReg) st r).idsNodup hid
      have hxm := findRes_mem hx1
      unfold StepRel
      show All2 _ (modRes _ r _).res _
      unfold modRes mapRes
      dsimp only
      rw [releaseAll_res, notifyRes_res]
      apply All2.of_map
      intro y hy
      by_cases h : y.id = r
      · have hyx := unique_alive hid1 hx1 y hy h
        subst hyx
        rw [if_pos h, filter_fromRes_self (fun o ho => ⟨(notifyRes_outs true y _ o ho).1, (notifyRes_outs true y _ o ho).2.1⟩)]
        exact notifyRes_bye A y (change st r) _
      · rw [if_neg h, filter_fromRes_other (fun o ho heq => h (by rw [← heq, (notifyRes_outs true x1 _ o ho).2.1]; exact hxm.id))]
        exact Trans.refl

theorem request_rel_other (A : Nat → Nat → Nat → Prop) (st : State) (o : Option Nat) (c r tok key : Nat) (con : Bool) (mid : Nat)
    (ho : o ≠ some 0) : StepRel A (request st o c r tok key con mid).1 st (request st o c r tok key con mid).2 := by
  obtain ⟨out, he, ht, hobs⟩ := request_out st o c r tok key con mid
  rw [he]
  refine StepRel.resp_le ?_ ht (Or.inl (hobs ho))
  exact request_inv (P := fun s => AllLeF s.res st.res) (fun he h => by rw [he]; exact h) st o c r tok key con mid
    (fun _ => AllLeF.refl _) (fun h => absurd h ho) (fun _ => deleteObserverRequest_leF ..)
    (fun _ hs => (deleteObserver_leF ..).trans hs)

theorem request_rel_reg (A : Nat → Nat → Nat → Prop) (st : State) (c r tok key : Nat) (con : Bool) (mid : Nat) (hid : IdsNodup st)
    (hA : A r c tok) : StepRel A (request st (some 0) c r tok key con mid).1 st (request st (some 0) c r tok key con mid).2 := by
  unfold request
  dsimp only
  cases hx : findRes (rxSession st c) r with
  | none => exact StepRel.resp_le (AllLeF.refl _) rfl (Or.inl rfl)
  | some x =>
    dsimp only
    have hx' : findRes st r = some x := hx
    have hxm := findRes_mem hx'
    obtain ⟨m, hadd⟩ := addObserver_res (rxSession st c) r c tok key hid
    have hres1 : (touchObserver (addObserver (rxSession st c) r c tok key) c tok).res =
        st.res.map (fun y => touchR c tok (addR r c tok key m y)) := by
      rw [touchObserver_res, hadd, List.map_map]; rfl
    by_cases he : x.err = true
    · rw [if_pos he]
      refine StepRel.resp_le ?_ rfl (Or.inl rfl)
      simp only [Option.isSome_some, if_true, txStamp_res]
      have hid1 : IdsNodup (touchObserver (addObserver (rxSession st c) r c tok key) c tok) :=
        (register_evo (rxSession st c) r c tok key hA).idsNodup hid
      rw [deleteObserver_res _ r c tok hid1, hres1, List.map_map]
      exact AllLeF.map (f := (delR r c tok) ∘ fun y => touchR c tok (addR r c tok key m y)) (fun y => add_touch_del_le r c tok key m y) st.res
    · rw [if_neg he]
      unfold StepRel
      simp only [txStamp_res, hres1]
      apply All2.of_map
      intro y hy
      rw [filter_single_fromRes _ _ (by simp)]
      dsimp only
      by_cases h : y.id = r
      · have hyx := unique_alive hid hx' y hy h
        subst hyx
        rw [if_pos h.symm]
        have h1 : addR r c tok key m y = addToRes y c tok key m := by unfold addR; rw [if_pos ⟨h, hxm.alive⟩]
        rw [h1]
        refine Trans.step (.register c tok key m _ (h ▸ hA) hxm.alive (by simpa using he) rfl rfl rfl rfl ?_ rfl h.symm)
          (Trans.single (.le (touchR_le ..)))
        simp
      · rw [if_neg (fun hh => h hh.symm)]
        have h1 : addR r c tok key m y = y := by unfold addR; rw [if_neg (fun hh => h hh.1)]
        rw [h1]
        exact Trans.single (.le (touchR_le ..))

theorem request_idsNodup (st : State) (o : Option Nat) (c r tok key : Nat) (con : Bool) (mid : Nat) (hid : IdsNodup st) :
    IdsNodup (request st o c r tok key con mid).1 :=
  (request_evo (A := fun _ _ _ => True) st o c r tok key con mid fun _ => trivial).idsNodup hid

theorem rxThenIo_rel (A : Nat → Nat → Nat → Prop) (st : State) (p : State × List Out) (hid : IdsNodup p.1)
    (h : StepRel A p.1 st p.2) : StepRel A (rxThenIo p).1 st (rxThenIo p).2 := by
  unfold rxThenIo
  exact h.trans (io_rel A p.1 hid)

theorem step_rel (st : State) (e : Event) (hid : IdsNodup st) : StepRel (RegEv e) (step st e).1 st (step st e).2 := by
  refine step_cases (P := fun p => StepRel (RegEv e) p.1 st p.2) st e ?_ ?_ ?_ (StepRel.of_eq rfl) (change_rel _ st)
    (fun _ => io_rel _ _ hid) (errFlag_rel _ st) (fun c => StepRel.of_le_nil (sessionLost_leF ..))
    (fun r => deleteResource_rel _ st r hid)
  · intro o c r tok key con mid hreg
    refine rxThenIo_rel _ st _ (request_idsNodup st _ c r tok key con mid hid) ?_
    by_cases ho : o = some 0
    · subst ho
      exact request_rel_reg _ st c r tok key con mid hid ⟨key, con, mid, hreg rfl⟩
    · exact request_rel_other _ st _ c r tok key con mid ho
  · intro c mid
    exact rxThenIo_rel _ st _ (IdsNodup.of_leF (handleAck_leF ..) hid) (StepRel.of_le_nil (handleAck_leF ..))
  · intro c mid
    exact rxThenIo_rel _ st _ (IdsNodup.of_leF (handleRst_leF ..) hid) (StepRel.of_le_nil (handleRst_leF ..))

end Coap.Observe
