import CoapVerif.Lemmas.MsgLayer
/-
NO function of the message-layer model ever modifies the fields of a queue node that stand
for its PDU (message id, token, type) or its stored timeout — for EVERY event of the model (the whole alphabet of
`Coap.Msg.Ev`, any state, no scope condition).  `AllQ Q` (a node predicate that does not look at `t`, `retransmit_cnt`
and the session index holds for every node in the send queue and in every delay queue) is an instance of `Coap.Msg.Kept`,
so `kept_step` gives it after a step if it held before and holds for the node a `coap_send` creates.  `pduOf`, `InL`, `Created`
are what the end results `pdu_and_timeout_never_modified*` are stated with.
-/
namespace Coap.Pdu
open Coap Coap.SQ Coap.Msg

section
variable {Q : Node → Prop}

def AllQ (Q : Node → Prop) (l : L) : Prop :=
  (∀ n ∈ l.q.nodes, Q n) ∧ (∀ se ∈ l.sess, ∀ n ∈ se.delayq, Q n)

theorem allQ_getS {l : L} (h : AllQ Q l) (s : Nat) : ∀ n ∈ (l.getS s).delayq, Q n := by
  intro n hn
  by_cases hs : s < l.sess.length
  · have : l.getS s = l.sess[s] := by simp [L.getS, List.getD_eq_getElem?_getD, hs]
    rw [this] at hn
    exact h.2 _ (List.getElem_mem hs) n hn
  · have : l.getS s = {} := by simp [L.getS, List.getD_eq_getElem?_getD, Nat.le_of_not_lt hs]
    rw [this] at hn
    cases hn

theorem allQ_setS {l : L} (h : AllQ Q l) (s : Nat) (se : Sess) (hse : ∀ n ∈ se.delayq, Q n) :
    AllQ Q (l.setS s se) := by
  refine ⟨h.1, ?_⟩
  intro se' hm n hn
  simp only [L.setS] at hm
  rcases List.mem_or_eq_of_mem_set hm with hm | rfl
  · exact h.2 se' hm n hn
  · exact hse n hn

theorem kept_allQ (hQ : Stable Q) : Kept Q (AllQ Q) where
  stable := hQ
  queue _ h := h.1
  delayq _ s h := allQ_getS h s
  setS _ s se h hse := allQ_setS h s se hse
  emit _ _ h := h
  enq _ _ _ h hn := ⟨all_enqueue hQ.tfree _ _ _ _ h.1 hn, h.2⟩
  nodes _ _ h hr _ := ⟨hr, h.2⟩

theorem step_allQ (hQ : Stable Q) (l : L) (ev : Ev) (h : AllQ Q l)
    (hn : ∀ s con mid r, ev = .submit s con mid r → Q (fresh l s con mid r)) : AllQ Q (Msg.step l ev) :=
  kept_step (kept_allQ hQ) l ev h (fun _ _ => h) hn

end

/-! ### the PDU fields and the stored timeout of every node come from its `coap_send` -/

/-- the fields of a queue node that stand for its PDU (message id, token, type) and its stored timeout -/
def pduOf (n : Node) : Nat × Nat × Bool × Nat := (n.mid, n.tok, n.con, n.timeout)

def InL (l : L) (n : Node) : Prop := n ∈ l.q.nodes ∨ ∃ se ∈ l.sess, n ∈ se.delayq

theorem allQ_iff (Q : Node → Prop) (l : L) : AllQ Q l ↔ ∀ n, InL l n → Q n := by
  constructor
  · intro h n hn
    rcases hn with hn | ⟨se, hse, hn⟩
    · exact h.1 n hn
    · exact h.2 se hse n hn
  · intro h
    exact ⟨fun n hn => h n (Or.inl hn), fun se hse n hn => h n (Or.inr ⟨se, hse, hn⟩)⟩

/-- the PDU fields and timeout of `n` are those a `coap_send` of the run built (with the session parameters at that
moment) -/
def Created : L → List Ev → Node → Prop
  | _, [], _ => False
  | l, ev :: evs, n =>
    (∃ s con mid r, ev = .submit s con mid r ∧ pduOf n = pduOf (fresh l s con mid r)) ∨ Created (Msg.step l ev) evs n

theorem created_congr {l : L} {evs : List Ev} {n n' : Node} (h : pduOf n = pduOf n') (hc : Created l evs n') :
    Created l evs n := by
  induction evs generalizing l with
  | nil => exact hc
  | cons ev evs ih =>
    rcases hc with ⟨s, con, mid, r, he, hp⟩ | hc
    · exact Or.inl ⟨s, con, mid, r, he, h.trans hp⟩
    · exact Or.inr (ih hc)

end Coap.Pdu
