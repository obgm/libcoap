import CoapVerif.Model.TlsGate
import CoapVerif.Util
/- C19 helper lemmas: a trace monitor and the gate invariant `Inv`.  The functions of M that work inside the TLS layer are described
ONCE, by the relation `Tame` between the context before and after, coap_session_disconnected_lkd by `disconnected_cases`; what
`Inv` says about each kind of step (`inv_tame`, `inv_upd`, `inv_emit_known`, `disconnected_inv`, …).  Whole histories: `Sess.run` is a
recursion of its own, with `Sess.run_ind` (the one induction behind every run-level invariant), `run_append`, `run_snoc`.  At the end,
in namespace `Coap.C19`: what the close and the reliable tail emit exactly.  How M is composed of such steps: Lemmas/TlsMoves.lean. -/
namespace Coap.TlsGate

/-- outputs that must not happen before the TLS library reported a completed handshake: handler calls, PDUs written -/
def Out.needsHs : Out → Bool
  | .req .. => true
  | .rsp .. => true
  | .tx .. => true
  | _ => false

/-- a PDU written around the TLS layer -/
def Out.isClear : Out → Bool
  | .tx false _ _ _ => true
  | _ => false

def Out.isMark : Out → Bool
  | .hsOkMark => true
  | _ => false

/-- monitor state: trace so far acceptable / the oracle has reported a completed handshake -/
structure Mon where
  ok : Bool
  seen : Bool
  deriving DecidableEq, Repr

def Mon.step (m : Mon) (o : Out) : Mon :=
  { ok := m.ok && (!o.needsHs || m.seen) && !o.isClear, seen := m.seen || o.isMark }

def Mon.run (m : Mon) : List Out → Mon
  | [] => m
  | o :: t => (m.step o).run t

@[simp] theorem Mon.run_nil (m : Mon) : m.run [] = m := rfl
@[simp] theorem Mon.run_cons (m : Mon) (o : Out) (t : List Out) : m.run (o :: t) = (m.step o).run t := rfl

theorem Mon.run_append (m : Mon) (a b : List Out) : m.run (a ++ b) = (m.run a).run b := by
  induction a generalizing m with
  | nil => rfl
  | cons o t ih => simp [ih]

/-- an output the gate does not look at: it neither needs the handshake nor goes around the TLS layer -/
def Out.inert (o : Out) : Bool := !o.needsHs && !o.isClear

theorem Mon.run_ok (m : Mon) (l : List Out) (hl : ∀ o ∈ l, o.inert = true) : (m.run l).ok = m.ok := by
  induction l generalizing m with
  | nil => rfl
  | cons o t ih =>
    have ho := hl o (List.mem_cons_self ..)
    simp only [Out.inert, Bool.and_eq_true, Bool.not_eq_true'] at ho
    rw [Mon.run_cons, ih _ fun o' ho' => hl o' (List.mem_cons_of_mem _ ho')]
    simp [Mon.step, ho.1, ho.2]

theorem Mon.run_seen (m : Mon) (l : List Out) : (m.run l).seen = (m.seen || l.any Out.isMark) := by
  induction l generalizing m with
  | nil => simp
  | cons o t ih => simp [ih, Mon.step, Bool.or_assoc]

theorem Mon.seen_mono (m : Mon) (l : List Out) (h : m.seen = true) : (m.run l).seen = true := by
  rw [Mon.run_seen, h, Bool.true_or]

theorem Mon.seen_of_mark (m : Mon) (l : List Out) (h : Out.hsOkMark ∈ l) : (m.run l).seen = true := by
  rw [Mon.run_seen, List.any_eq_true.mpr ⟨_, h, rfl⟩, Bool.or_true]

theorem Mon.ok_anti (m : Mon) (l : List Out) (h : (m.run l).ok = true) : m.ok = true := by
  induction l generalizing m with
  | nil => exact h
  | cons o t ih =>
    have := ih _ h
    simp [Mon.step] at this
    exact this.1.1

theorem isMark_eq {x : Out} (h : x.isMark = true) : x = .hsOkMark := by
  cases x <;> first | rfl | cases h

theorem seen_or_mark (m : Mon) (l : List Out) (h : (m.run l).seen = true) : m.seen = true ∨ Out.hsOkMark ∈ l := by
  rw [Mon.run_seen, Bool.or_eq_true, List.any_eq_true] at h
  exact h.imp id fun ⟨_, ho, hm⟩ => isMark_eq hm ▸ ho

theorem mark_of_seen (l : List Out) (h : ((⟨true, false⟩ : Mon).run l).seen = true) : Out.hsOkMark ∈ l :=
  (seen_or_mark _ l h).resolve_left (by simp)

theorem accepted_split (pre post : List Out) (o : Out) (h : ((⟨true, false⟩ : Mon).run (pre ++ o :: post)).ok = true) :
    (o.needsHs = true → Out.hsOkMark ∈ pre) ∧ o.isClear = false := by
  rw [Mon.run_append, Mon.run_cons] at h
  have h2 := Mon.ok_anti _ _ h
  simp only [Mon.step, Bool.and_eq_true, Bool.or_eq_true, Bool.not_eq_true'] at h2
  exact ⟨fun ho => mark_of_seen pre (h2.1.2.resolve_left (by simp [ho])), h2.2⟩

/-- the invariant: the trace is acceptable so far, `established` (GnuTLS' flag and libcoap's session state) implies
the oracle reported success, the session is a DTLS or a TLS session; `b` = the caller already knows success was reported -/
structure Inv (m0 : Mon) (b : Bool) (c : Ctx) : Prop where
  ok : (m0.run c.out).ok = true
  est : c.s.est = true → (m0.run c.out).seen = true
  st : c.s.state = .established → (m0.run c.out).seen = true
  known : b = true → (m0.run c.out).seen = true
  proto : c.s.proto ≠ .udp

theorem Inv.weaken {m0 b c} (h : Inv m0 b c) : Inv m0 false c :=
  { h with known := by simp }

theorem Inv.strengthen {m0 b c} (h : Inv m0 b c) (hs : (m0.run c.out).seen = true) : Inv m0 true c :=
  { h with known := fun _ => hs }

theorem Inv.relax {m0 b c} (h : Inv m0 true c) : Inv m0 b c :=
  { h with known := fun _ => h.known rfl }

theorem Inv.closed {m0 b c} (h : Inv m0 b c) (hs : (m0.run c.out).seen ≠ true) : b = false :=
  Bool.eq_false_iff.mpr fun hb => hs (h.known hb)

/-- `Inv` looks at the trace, the two `established` flags and the protocol only: the general step.  `l` = the outputs added -/
theorem Inv.transfer {m0 b c c'} (h : Inv m0 b c) (l : List Out) (ho : c'.out = c.out ++ l)
    (hok : ((m0.run c.out).run l).ok = true)
    (he : c'.s.est = true → c.s.est = true ∨ ((m0.run c.out).run l).seen = true)
    (hst : c'.s.state = .established → c.s.state = .established ∨ ((m0.run c.out).run l).seen = true)
    (hp : c'.s.proto = c.s.proto) : Inv m0 b c' := by
  have hrun : m0.run c'.out = (m0.run c.out).run l := by rw [ho, Mon.run_append]
  have mono : (m0.run c.out).seen = true → ((m0.run c.out).run l).seen = true := Mon.seen_mono _ l
  refine ⟨by rw [hrun]; exact hok, fun e => ?_, fun e => ?_, fun e => ?_, by rw [hp]; exact h.proto⟩
  · rw [hrun]; exact (he e).elim (fun e' => mono (h.est e')) id
  · rw [hrun]; exact (hst e).elim (fun e' => mono (h.st e')) id
  · rw [hrun]; exact mono (h.known e)

/-! ## steps inside the TLS layer -/

/-- the part of a session the ledgers of C19 look at (besides `state` and GnuTLS' `est`, which `Tame` treats by themselves) -/
structure Tracked where
  delayq : List QMsg
  inflight : List QMsg
  lgCrcv : List QMsg
  next : Nat
  freed : Bool
  proto : Proto
  blockMode : Bool

def Sess.tracked (s : Sess) : Tracked := ⟨s.delayq, s.inflight, s.lgCrcv, s.next, s.freed, s.proto, s.blockMode⟩

/-- an output that neither transmits, delivers nor reports anything -/
def Out.silent : Out → Bool
  | .tx .. | .req .. | .rsp .. | .nack .. => false
  | _ => true

theorem Out.silent_gate {o : Out} (h : o.silent = true) : o.inert = true := by
  cases o <;> first | rfl | cases h

/-- `c'` comes from `c` by a step inside the TLS layer (an oracle answer consumed, do_gnutls_handshake, the TLS object freed,
the transport closed …): queues, lg_crcv list, serial counter, `freed`, protocol and block mode stay; the session state does
not become ESTABLISHED or NONE; only silent outputs are added; GnuTLS' `established` flag is raised only with the mark -/
structure Tame (c c' : Ctx) : Prop where
  trk : c'.s.tracked = c.s.tracked
  stE : c'.s.state = .established → c.s.state = .established
  stN : c'.s.state = .none → c.s.state = .none
  out : ∃ l, c'.out = c.out ++ l ∧ (∀ o ∈ l, o.silent = true) ∧ (c'.s.est = true → c.s.est = true ∨ Out.hsOkMark ∈ l)

section
variable {c c' : Ctx}

namespace Tame

theorem dq (t : Tame c c') : c'.s.delayq = c.s.delayq := congrArg Tracked.delayq t.trk
theorem infl (t : Tame c c') : c'.s.inflight = c.s.inflight := congrArg Tracked.inflight t.trk
theorem lg (t : Tame c c') : c'.s.lgCrcv = c.s.lgCrcv := congrArg Tracked.lgCrcv t.trk
theorem nx (t : Tame c c') : c'.s.next = c.s.next := congrArg Tracked.next t.trk
theorem fr (t : Tame c c') : c'.s.freed = c.s.freed := congrArg Tracked.freed t.trk
theorem proto (t : Tame c c') : c'.s.proto = c.s.proto := congrArg Tracked.proto t.trk
theorem bm (t : Tame c c') : c'.s.blockMode = c.s.blockMode := congrArg Tracked.blockMode t.trk

theorem refl (c : Ctx) : Tame c c := ⟨rfl, id, id, [], (List.append_nil _).symm, by simp, Or.inl⟩

theorem trans {a b c : Ctx} (t1 : Tame a b) (t2 : Tame b c) : Tame a c := by
  obtain ⟨l1, o1, s1, e1⟩ := t1.out
  obtain ⟨l2, o2, s2, e2⟩ := t2.out
  refine ⟨t2.trk.trans t1.trk, fun h => t1.stE (t2.stE h), fun h => t1.stN (t2.stN h), l1 ++ l2,
    by rw [o2, o1, List.append_assoc], fun o ho => (List.mem_append.mp ho).elim (s1 o) (s2 o), fun h => ?_⟩
  rcases e2 h with h | h
  · exact (e1 h).imp id (List.mem_append_left _)
  · exact Or.inr (List.mem_append_right _ h)

end Tame

theorem tame_fields (ht : c'.s.tracked = c.s.tracked := by rfl) (hst : c'.s.state = c.s.state := by rfl)
    (he : c'.s.est = c.s.est := by rfl) (ho : c'.out = c.out := by rfl) : Tame c c' :=
  ⟨ht, fun h => hst ▸ h, fun h => hst ▸ h, [], by rw [ho, List.append_nil], by simp, fun h => Or.inl (he ▸ h)⟩

theorem tame_emit (o : Out) (ho : o.silent = true := by rfl) : Tame c (c.emit o) :=
  ⟨rfl, id, id, [o], rfl, by simpa using ho, Or.inl⟩

theorem tame_upd (f : Sess → Sess) (ht : (f c.s).tracked = c.s.tracked := by rfl)
    (hE : (f c.s).state = .established → c.s.state = .established := by exact id)
    (hN : (f c.s).state = .none → c.s.state = .none := by exact id) (he : (f c.s).est = true → c.s.est = true := by exact id) :
    Tame c (c.upd f) :=
  ⟨ht, hE, hN, [], (List.append_nil _).symm, by simp, fun h => Or.inl (he h)⟩

theorem upd_if (p : Prop) [Decidable p] (f : Sess → Sess) (c : Ctx) :
    (c.upd fun s => if p then f s else s) = if p then c.upd f else c := by
  split <;> rfl

theorem tame_ite_emit (p : Prop) [Decidable p] (o : Out) (ho : o.silent = true := by rfl) : Tame c (if p then c.emit o else c) :=
  ite_ind (fun _ => tame_emit o ho) fun _ => Tame.refl c

theorem tame_popHs (c : Ctx) : Tame c c.popHs := by
  unfold Ctx.popHs; split
  · exact tame_fields
  · exact (tame_emit .orcMissing).trans tame_fields
theorem tame_popRec (c : Ctx) : Tame c c.popRec := by
  unfold Ctx.popRec; split
  · exact tame_fields
  · exact (tame_emit .orcMissing).trans tame_fields
theorem tame_popSnd (c : Ctx) : Tame c c.popSnd := by
  unfold Ctx.popSnd; split
  · exact tame_fields
  · exact (tame_emit .orcMissing).trans tame_fields
theorem tame_popEnv (c : Ctx) : Tame c c.popEnv := by
  unfold Ctx.popEnv; split
  · exact tame_fields
  · exact (tame_emit .orcMissing).trans tame_fields
theorem tame_popCk (c : Ctx) : Tame c c.popCk := by
  unfold Ctx.popCk; split
  · exact tame_fields
  · exact (tame_emit .orcMissing).trans tame_fields

theorem tame_mark (c : Ctx) : Tame c ((c.upd fun s => { s with est := true }).emit .hsOkMark) :=
  ⟨rfl, id, id, [.hsOkMark], rfl, by simp [Out.silent], fun _ => Or.inr (List.mem_singleton_self _)⟩

theorem tame_doHandshake (c : Ctx) : Tame c c.doHandshake := by
  refine (tame_popHs c).trans ?_
  unfold Ctx.doHandshake
  generalize c.popHs = x
  have closed : ∀ y, Tame x y → Tame x ((y.upd fun s => { s with dtlsEvent := some .closed }).setRet (-1)) :=
    fun y t => t.trans tame_fields
  have alert : ∀ y, Tame x y → Tame x ((y.emit .alert).upd fun s => { s with sentAlert := true }) :=
    fun y t => t.trans ((tame_emit .alert).trans tame_fields)
  simp only
  split
  · exact (tame_mark x).trans tame_fields
  · exact tame_fields
  · exact tame_fields
  · exact closed _ tame_fields
  · exact closed _ (Tame.refl _)
  · exact tame_fields
  · exact closed _ (alert _ (Tame.refl _))
  · exact closed _ (alert _ (Tame.refl _))
  · split
    · exact closed _ (Tame.refl _)
    · exact closed _ (alert _ (Tame.refl _))
  · split
    · exact closed _ (Tame.refl _)
    · exact closed _ (alert _ (Tame.refl _))
  · exact closed _ (Tame.refl _)
  · exact tame_fields

theorem doHandshake_est (c : Ctx) (hr : c.doHandshake.ret = 1) : c.doHandshake.s.est = true := by
  revert hr
  unfold Ctx.doHandshake
  simp only
  split <;> (try split) <;> simp [Ctx.emit, Ctx.upd, Ctx.setRet]

theorem tame_freeEnv (sb : Bool) (c : Ctx) : Tame c (c.freeEnv sb) := by
  unfold Ctx.freeEnv
  simp only
  have clr : ∀ y : Ctx, Tame y (y.upd fun s => { s with est := false, sentAlert := false }) :=
    fun y => tame_upd _ (he := fun h => by cases h)
  split
  · exact (tame_emit .bye).trans (clr _)
  · exact clr c

theorem tame_dtlsFreeSession (c : Ctx) : Tame c c.dtlsFreeSession := by
  unfold Ctx.dtlsFreeSession
  refine ite_ind (fun _ => (tame_freeEnv true c).trans ?_) fun _ => Tame.refl c
  exact (tame_upd (fun s => { s with tls := false })).trans (tame_emit _)

theorem tame_sessionClose (c : Ctx) : Tame c c.sessionClose := by
  unfold Ctx.sessionClose
  split
  · exact Tame.refl c
  · exact tame_dtlsFreeSession c
  · exact (tame_dtlsFreeSession c).trans tame_fields

theorem tame_relTail (st0 : SState) (c : Ctx) : Tame c (c.relTail st0) := by
  unfold Ctx.relTail
  refine ite_ind (fun _ => ?_) fun _ => Tame.refl c
  simp only
  refine (tame_ite_emit (c.s.sockOpen = true) (.evTcp (if st0 = .connecting then .failed else .closed))).trans ?_
  exact (tame_ite_emit (st0 ≠ .none) (.evTcp (if st0 = .established then .sessClosed else .sessFailed))).trans
    tame_fields

theorem tame_sndResult (c : Ctx) : Tame c c.sndResult := by
  refine (tame_popSnd c).trans ?_
  unfold Ctx.sndResult
  simp only
  split <;> exact tame_fields

/-- coap_dtls_send after the PDU has been logged (the harness logs it at entry) -/
theorem tame_dtlsSendCore (m : QMsg) (ack : Bool) (c : Ctx) :
    Tame (c.emit (.tx true (m.view ack) (m.snOf ack) m.cnt)) (c.dtlsSendCore m ack) := by
  unfold Ctx.dtlsSendCore
  simp only
  refine (tame_upd (fun s => { s with dtlsEvent := none })).trans ?_
  split
  · exact tame_sndResult _
  · refine (tame_doHandshake _).trans ?_
    split
    · exact (tame_upd (fun s => { s with dtlsEvent := none })).trans (tame_sndResult _)
    · exact tame_fields

theorem tame_dtlsHello (c : Ctx) : Tame c c.dtlsHello := by
  unfold Ctx.dtlsHello
  simp only
  have t1 : Tame c (if (!c.s.tls) = true then
      (if c.popEnv.flag = true then c.popEnv.upd fun s => { s with tls := true } else c.popEnv) else c) :=
    ite_ind (fun _ => (tame_popEnv c).trans (ite_ind (fun _ => tame_fields) fun _ => Tame.refl _)) fun _ =>
      Tame.refl c
  refine t1.trans ?_
  generalize (if (!c.s.tls) = true then
      (if c.popEnv.flag = true then c.popEnv.upd fun s => { s with tls := true } else c.popEnv) else c) = c1
  refine ite_ind (fun _ => tame_fields) fun _ => (tame_popCk c1).trans ?_
  refine ite_ind (fun _ => (tame_emit .cookie).trans tame_fields) fun _ => (tame_doHandshake _).trans ?_
  exact ite_ind (fun _ => (tame_freeEnv false _).trans tame_fields) fun _ => tame_fields

theorem tame_strmWrite (c : Ctx) : Tame c c.strmWrite := by
  unfold Ctx.strmWrite
  exact ite_ind (fun _ => Tame.refl c) fun _ => tame_emit _

/-- everything coap_session_disconnected_lkd does (not an ICMP error) before the reliable-transport events and the close: the NACKs
(`discOuts`, then coap_cancel_session_messages), both queues emptied, the lg_crcv list deleted, state NONE (ESTABLISHED for UDP),
con_active 0 -/
def discCore (c : Ctx) (r : Nack) : Ctx :=
  let c := { c with out := c.out ++ c.discOuts r }
  let c := c.upd fun s => { s with delayq := [], state := if s.proto = .udp then .established else .none, conActive := 0 }
  let c := { c with out := c.out ++ (c.s.inflight.filter fun q : QMsg => q.con).map (Ctx.nackOf r) }
  c.upd fun s => { s with inflight := [], lgCrcv := [] }

theorem disconnected_icmp (c : Ctx) : c.disconnected .icmp = { c with out := c.out ++ c.discOuts .icmp } := by
  unfold Ctx.disconnected
  rw [if_pos rfl]

theorem disconnected_eq (c : Ctx) (r : Nack) (hr : r ≠ .icmp) :
    c.disconnected r = ((discCore c r).relTail c.s.state).sessionClose := by
  unfold Ctx.disconnected
  rw [if_neg hr]
  rfl

theorem disconnected_cases (r : Nack) (c : Ctx) :
    (r = .icmp ∧ c.disconnected r = { c with out := c.out ++ c.discOuts r }) ∨ (r ≠ .icmp ∧ Tame (discCore c r) (c.disconnected r)) := by
  by_cases hr : r = .icmp
  · exact Or.inl ⟨hr, hr ▸ disconnected_icmp c⟩
  · exact Or.inr ⟨hr, disconnected_eq c r hr ▸ (tame_relTail _ _).trans (tame_sessionClose _)⟩

end

namespace Sess

theorem run_ind {P : Sess → List Out → Prop}
    (step : ∀ (s : Sess) (tr : List Out) (e : Ev) (o : List Orc), P s tr → P (s.step e o).1 (tr ++ (s.step e o).2))
    (evs : List (Ev × List Orc)) : ∀ (s : Sess) (tr : List Out), P s tr → P (s.run evs).1 (tr ++ (s.run evs).2) := by
  induction evs with
  | nil => intro s tr h; simpa [Sess.run] using h
  | cons eo t ih =>
    obtain ⟨e, o⟩ := eo
    intro s tr h
    have h2 := ih _ _ (step s tr e o h)
    simp only [Sess.run, ← List.append_assoc]
    exact h2

theorem run_append (s : Sess) (a b : List (Ev × List Orc)) :
    s.run (a ++ b) = (((s.run a).1.run b).1, (s.run a).2 ++ ((s.run a).1.run b).2) := by
  induction a generalizing s with
  | nil => simp [Sess.run]
  | cons eo t ih =>
    obtain ⟨e, o⟩ := eo
    simp only [List.cons_append, Sess.run, ih, List.append_assoc]

theorem run_snoc (s : Sess) (a : List (Ev × List Orc)) (e : Ev) (o : List Orc) :
    s.run (a ++ [(e, o)]) = (((s.run a).1.step e o).1, (s.run a).2 ++ ((s.run a).1.step e o).2) := by
  rw [run_append]; simp [Sess.run]

end Sess

theorem step_appDisconnect (s : Sess) (r : Nack) (o : List Orc) (hfr : s.freed = false) :
    s.step (.appDisconnect r) o =
      ((({ s := s, orc := o } : Ctx).disconnected r).s, (({ s := s, orc := o } : Ctx).disconnected r).out) := by
  simp [Sess.step, Sess.stepCtx, hfr]

/-! ## the gate invariant through M -/

open Ctx
section
variable {m0 : Mon} {b : Bool} {c : Ctx}

theorem inv_tame {c' : Ctx} (h : Inv m0 b c) (t : Tame c c') : Inv m0 b c' := by
  obtain ⟨l, ho, hs, he⟩ := t.out
  refine h.transfer l ho ?_ (fun e => (he e).imp id (Mon.seen_of_mark _ l)) (fun e => Or.inl (t.stE e)) t.proto
  rw [Mon.run_ok _ l fun o ho => Out.silent_gate (hs o ho)]; exact h.ok

theorem inv_outs_inert (l : List Out) (hl : ∀ o ∈ l, o.inert = true) (h : Inv m0 b c) :
    Inv m0 b { c with out := c.out ++ l } :=
  h.transfer l rfl (by rw [Mon.run_ok _ l hl]; exact h.ok) Or.inl Or.inl rfl

theorem inv_emit_inert (o : Out) (h : Inv m0 b c) (ho : o.inert = true := by rfl) : Inv m0 b (c.emit o) :=
  inv_outs_inert [o] (by simpa using ho) h

theorem inv_upd (f : Sess → Sess) (h : Inv m0 b c) (he : (f c.s).est = true → c.s.est = true := by exact id)
    (hst : (f c.s).state = .established → c.s.state = .established := by exact id) (hp : (f c.s).proto = c.s.proto := by rfl) :
    Inv m0 b (c.upd f) :=
  ⟨h.ok, fun e => h.est (he e), fun e => h.st (hst e), h.known, fun e => h.proto (hp ▸ e)⟩

theorem inv_upd_true (f : Sess → Sess) (h : Inv m0 true c) (hp : (f c.s).proto = c.s.proto := by rfl) : Inv m0 true (c.upd f) :=
  ⟨h.ok, fun _ => h.known rfl, fun _ => h.known rfl, h.known, fun e => h.proto (hp ▸ e)⟩

theorem inv_emit_known (o : Out) (h : Inv m0 true c) (ho : o.isClear = false := by rfl) : Inv m0 true (c.emit o) :=
  h.transfer [o] rfl (by simp [Mon.step, ho, h.ok, h.known rfl]) Or.inl Or.inl rfl

theorem nackOf_inert (r : Nack) (l : List QMsg) : ∀ o ∈ l.map (nackOf r), o.inert = true := by
  intro o ho
  obtain ⟨q, _, rfl⟩ := List.mem_map.mp ho
  rfl

theorem discFirst_nack (r : Nack) (c : Ctx) : ∀ o ∈ c.discFirst r, ∃ q : QMsg, o = nackOf r q := by
  intro o ho
  unfold Ctx.discFirst at ho
  split at ho
  · simp at ho; exact ⟨_, ho⟩
  · simp at ho

theorem discDq_nack (r : Nack) (c : Ctx) : ∀ o ∈ c.discDq r, ∃ q : QMsg, o = nackOf r q := by
  intro o ho
  unfold Ctx.discDq at ho
  split at ho
  · simp at ho
  · obtain ⟨q, _, rfl⟩ := List.mem_map.mp ho
    exact ⟨q, rfl⟩

theorem mem_discLg {r : Nack} {c : Ctx} {o : Out} (ho : o ∈ c.discLg r) :
    c.discFirst r ++ c.discDq r = [] ∧ ∃ g tl, c.s.lgCrcv = g :: tl ∧ o = nackOf r g := by
  unfold Ctx.discLg at ho
  split at ho
  · rename_i he
    cases hl : c.s.lgCrcv with
    | nil => simp [hl] at ho
    | cons g tl => simp [hl] at ho; exact ⟨List.isEmpty_iff.mp he, g, tl, rfl, ho⟩
  · cases ho

theorem discOuts_nack (r : Nack) (c : Ctx) : ∀ o ∈ c.discOuts r, (∃ q : QMsg, o = nackOf r q) ∨ o = .nack r none none := by
  intro o ho
  unfold Ctx.discOuts at ho
  simp only [List.mem_append] at ho
  rcases ho with ((ho | ho) | ho) | ho
  · exact Or.inl (discFirst_nack r c o ho)
  · exact Or.inl (discDq_nack r c o ho)
  · exact Or.inl ((mem_discLg ho).2.elim fun g h => ⟨g, h.elim fun _ e => e.2⟩)
  · split at ho
    · exact Or.inr (List.mem_singleton.mp ho)
    · cases ho

theorem discOuts_inert (r : Nack) (c : Ctx) : ∀ o ∈ c.discOuts r, o.inert = true := by
  intro o ho
  rcases discOuts_nack r c o ho with ⟨q, rfl⟩ | rfl <;> rfl

theorem disconnected_inv (r : Nack) (h : Inv m0 b c) : Inv m0 b (c.disconnected r) := by
  have h1 := inv_outs_inert _ (discOuts_inert r c) h
  rcases disconnected_cases r c with ⟨_, e⟩ | ⟨_, tm⟩
  · rw [e]; exact h1
  · refine inv_tame ?_ tm
    unfold discCore
    refine inv_upd _ (inv_outs_inert _ (nackOf_inert _ _) (inv_upd _ h1 (hst := fun e => ?_)))
    have hp : c.s.proto ≠ .udp := h.proto
    simp only [hp, if_false] at e
    cases e

theorem sessionFree_inv (h : Inv m0 b c) : Inv m0 b c.sessionFree := by
  unfold Ctx.sessionFree
  simp only
  refine inv_upd _ (inv_outs_inert _ (nackOf_inert _ _) ?_)
  exact inv_tame (inv_upd _ h) (tame_sessionClose _)

end
end Coap.TlsGate

/-! ## what the close and the reliable part of coap_session_disconnected_lkd do exactly (beyond `tame_sessionClose`, `tame_relTail`) -/

namespace Coap.C19
open Coap.TlsGate Coap.TlsGate.Ctx

/-- `x` adds to the trace of `c` only outputs that satisfy `p` -/
def Adds (p : Out → Prop) (c x : Ctx) : Prop := ∃ l, x.out = c.out ++ l ∧ ∀ o ∈ l, p o

namespace Adds

theorem refl (p : Out → Prop) (c : Ctx) : Adds p c c := ⟨[], (List.append_nil _).symm, fun _ h => nomatch h⟩

theorem emit {p : Out → Prop} {c x : Ctx} (h : Adds p c x) (o : Out) (ho : p o) : Adds p c (x.emit o) := by
  obtain ⟨l, h1, h2⟩ := h
  refine ⟨l ++ [o], ?_, fun o' ho' => (List.mem_append.mp ho').elim (h2 o') fun e => List.mem_singleton.mp e ▸ ho⟩
  show x.out ++ [o] = _
  rw [h1, List.append_assoc]

end Adds

theorem sessionClose_outs (c : Ctx) :
    ∃ l, c.sessionClose.out = c.out ++ l ∧ ∀ o ∈ l, o = Out.bye ∨ o = Out.ev .closed := by
  have free : Adds (fun o => o = Out.bye ∨ o = Out.ev .closed) c c.dtlsFreeSession := by
    unfold Ctx.dtlsFreeSession Ctx.freeEnv
    refine ite_ind (fun _ => Adds.emit ?_ _ (Or.inr rfl)) fun _ => Adds.refl _ c
    exact ite_ind (P := Adds _ c) (fun _ => (Adds.refl _ c).emit _ (Or.inl rfl)) fun _ => Adds.refl _ c
  unfold Ctx.sessionClose
  split
  · exact Adds.refl _ c
  · exact free
  · exact free

theorem sessionClose_state (c : Ctx) :
    c.sessionClose.s.state = c.s.state ∧ c.sessionClose.s.doingFirst = c.s.doingFirst := by
  unfold Ctx.sessionClose Ctx.dtlsFreeSession Ctx.freeEnv
  split <;> (try split) <;> (try split) <;> exact ⟨rfl, rfl⟩

theorem relTail_shape (st0 : SState) (c : Ctx) : ∃ l, (c.relTail st0).out = c.out ++ l ∧ ∀ o ∈ l, ∃ e, o = Out.evTcp e := by
  show Adds (fun o => ∃ e, o = Out.evTcp e) c (c.relTail st0)
  unfold Ctx.relTail
  refine ite_ind (fun _ => ?_) fun _ => Adds.refl _ c
  have h1 : Adds (fun o => ∃ e, o = Out.evTcp e) c
      (if c.s.sockOpen = true then c.emit (.evTcp (if st0 = .connecting then .failed else .closed)) else c) :=
    ite_ind (fun _ => (Adds.refl _ c).emit _ ⟨_, rfl⟩) fun _ => Adds.refl _ c
  exact ite_ind (P := Adds _ c) (fun _ => h1.emit _ ⟨_, rfl⟩) fun _ => h1

theorem relTail_state_tls (st0 : SState) (c : Ctx) (hp : c.s.proto = .tls) :
    (c.relTail st0).s.state = c.s.state ∧ (c.relTail st0).s.doingFirst = false := by
  unfold Ctx.relTail
  simp only [hp, if_true]
  by_cases h1 : c.s.sockOpen = true <;> by_cases h2 : st0 = .none <;> simp [h1, h2, Ctx.emit, Ctx.upd]

end Coap.C19
