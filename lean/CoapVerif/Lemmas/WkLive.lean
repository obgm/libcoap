import CoapVerif.Model.WkLive
import CoapVerif.Lemmas.WkBlock
/- Helper lemmas for C20's live server: a complete fetch that starts with block 0 reassembles to the body the handler
   computes from the table AS IT IS NOW, whatever older transfers left in the session's Block2 cache. -/
namespace Coap.M.LF
open Coap Coap.LF

theorem specBlocks_eq (len sz : Nat) : specBlocks len sz = nblocks len sz := rfl

theorem fetch_done (t : Table) (opts : List Bytes) (szx fuel : Nat) (c : Cache) (x : XState) (h : x.done = true) :
    fetch t opts szx fuel c x = (c, x) := by
  cases fuel with
  | zero => rfl
  | succ f => simp [fetch, h]

/-- a fetch that has `n` blocks of `L` ends with `L`, whatever else the session's cache holds, provided that in mid-transfer
the cache finds `L` under the key: block 0 sees to that by putting its entry at the head, so blocks 1, 2, … come from it -/
theorem fetch_cached (t : Table) (opts : List Bytes) (szx : Nat) (key : Option Bytes) (L : Bytes)
    (hq : MU.getQuery opts = R.ok key) (hb : getBody t opts = R.ok L) :
    ∀ (fuel n : Nat) (c : Cache), n ≤ nblocks L.length (2 ^ (szx + 4)) → nblocks L.length (2 ^ (szx + 4)) - n ≤ fuel →
      (n ≠ 0 → n < nblocks L.length (2 ^ (szx + 4)) → ∀ e, findXmit c key = some e → e.data = L ∧ e.szx = szx) →
      ∃ c', fetch t opts szx fuel c (xAfter L (2 ^ (szx + 4)) n) =
        (c', xAfter L (2 ^ (szx + 4)) (nblocks L.length (2 ^ (szx + 4)))) := by
  have hcpos : 0 < 2 ^ (szx + 4) := Nat.pow_pos (by omega)
  intro fuel
  induction fuel with
  | zero =>
    intro n c h2 h3 _
    rw [show n = nblocks L.length (2 ^ (szx + 4)) by omega]
    exact ⟨c, rfl⟩
  | succ f ih =>
    intro n c h2 h3 hc
    by_cases hn : n = nblocks L.length (2 ^ (szx + 4))
    · subst hn
      rw [xAfter_ge L _ _ hcpos (Nat.le_refl _)]
      exact ⟨c, fetch_done _ _ _ _ _ _ rfl⟩
    · have hlt : n < nblocks L.length (2 ^ (szx + 4)) := by omega
      rw [xAfter_lt L _ n hlt]
      unfold fetch
      simp only [Bool.false_eq_true, if_false,
        serve_block t c opts n szx key L hq hb (valid_of_lt_nblocks _ _ _ hcpos hlt) fun h0 => hc h0 hlt]
      rw [xAfter_step L _ n hcpos hlt]
      refine ih (n + 1) _ (by omega) (by omega) fun _ hlt' e hf => ?_
      unfold afterServe at hf
      by_cases h0 : n = 0
      · -- block 0 of a body of several blocks (another block is due) has put its entry at the head
        have hbig : 2 ^ (szx + 4) < L.length := by
          have := valid_of_lt_nblocks _ _ _ hcpos hlt'
          rw [h0] at this
          omega
        rw [if_pos h0, afterFresh, if_neg (by omega), if_pos ⟨rfl, hbig⟩, findXmit,
          List.find?_cons_of_pos (by simp [keyEq])] at hf
        cases hf
        exact ⟨rfl, rfl⟩
      · rw [if_neg h0] at hf
        exact hc h0 hlt e hf

theorem fetch_all (t : Table) (opts : List Bytes) (szx : Nat) (key : Option Bytes) (L : Bytes) (c : Cache) (fuel : Nat)
    (hq : MU.getQuery opts = R.ok key) (hb : getBody t opts = R.ok L)
    (hf : nblocks L.length (2 ^ (szx + 4)) ≤ fuel) :
    ∃ c', fetch t opts szx fuel c ⟨[], 0, false, false⟩ = (c', ⟨L, nblocks L.length (2 ^ (szx + 4)), true, false⟩) := by
  have hcpos : 0 < 2 ^ (szx + 4) := Nat.pow_pos (by omega)
  have := fetch_cached t opts szx key L hq hb fuel 0 c (Nat.zero_le _) (by omega) (fun h => absurd rfl h)
  rwa [xAfter_zero L _ hcpos, xAfter_ge L _ _ hcpos (Nat.le_refl _)] at this

/-- what the live theorem needs of every request at the moment it arrives -/
def LiveKeyed (fuel : Nat) : Table → List LiveEv → Prop
  | _, [] => True
  | t, .op o :: r => LiveKeyed fuel (applyOp t o) r
  | t, .get _ szx opts :: r =>
    (ReqOk t opts ∧ nblocks (getListing t opts).length (2 ^ (szx + 4)) ≤ fuel) ∧ LiveKeyed fuel t r
  | t, .print qf :: r => hndBody t qf = R.ok (listing t (qf.getD [])) ∧ LiveKeyed fuel t r

theorem liveRun_eq_spec (fuel : Nat) (evs : List LiveEv) :
    ∀ (st : LState), LiveKeyed fuel st.table evs → liveRun fuel st evs = liveSpec st.table evs := by
  induction evs with
  | nil => intro st _; rfl
  | cons e r ih =>
    intro st h
    cases e with
    | op o =>
      simp only [liveRun, liveSpec]
      exact ih ⟨applyOp st.table o, st.cache⟩ h
    | get sid szx opts =>
      obtain ⟨⟨⟨⟨k, hk⟩, hb⟩, hf⟩, hr⟩ := h
      obtain ⟨c', hc'⟩ := fetch_all st.table opts szx k _ (st.cache sid) fuel hk hb hf
      simp only [liveRun, liveSpec, hc', specBlocks_eq]
      rw [ih ⟨st.table, upd st.cache sid c'⟩ hr]
    | print qf =>
      obtain ⟨hb, hr⟩ := h
      simp only [liveRun, liveSpec, hb]
      rw [ih st hr]

end Coap.M.LF
