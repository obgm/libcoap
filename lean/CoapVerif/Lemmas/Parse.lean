import CoapVerif.Model.Parse
import CoapVerif.Spec.Stream
/- The transcribed decoder (Model/Parse.lean, reads by index) against the RFC decoder on lists (Spec/Codec.lean): the 13/14
fields, `coap_opt_parse`, the option walk, the body, `coap_pdu_parse_size` of the reliable framing (`parseSize_eq_declared`,
stated in the vocabulary of `Spec/Stream`, C05's S: `fixedLen`, `hdrLen`, `declared`, `extLenBytes`, `tokExtBytes`, `tokFieldLen`;
also used by the stream reader of C05) and the three framings.  From the body upwards the result is ONE equation in `R`
(`parseBody_spec`, `parse_spec`: accepted with the content the grammar gives, or refused, and no read outside the buffer);
the option loop reports a bad option inside `R.ok (false, …)`, so it has the two statements `walk_eq_spec` and `walk_iter` (no read
outside the buffer; the accessor walk `iter` agrees with an accepting loop). -/
namespace Coap
open Coap.M

theorem rd_cons_zero (b : UInt8) (r : Bytes) : rd (b :: r) 0 = R.ok b.toNat := by
  simp [rd]

theorem rd_cons_succ (b : UInt8) (r : Bytes) (i : Nat) : rd (b :: r) (i + 1) = rd r i := by
  simp [rd]

theorem rd_nil (i : Nat) : rd [] i = R.oob := by simp [rd]

theorem rd_lt (bs : Bytes) (i : Nat) (h : i < bs.length) : ∃ v, rd bs i = R.ok v := by
  simp [rd, List.getElem?_eq_getElem h]

theorem byte_lt (b : UInt8) : b.toNat < 256 := b.toNat_lt

theorem nib_cases (n : Nat) (h : n < 16) : n < 13 ∨ n = 13 ∨ n = 14 ∨ n = 15 := by omega

theorem ext_forms {P : Nat → Bytes → Option (Nat × Bytes) → Prop} (nib : Nat) (bs : Bytes)
    (small : ∀ n r, n < 13 → P n r (some (n, r)))
    (one : ∀ a r, P 13 (a :: r) (some (a.toNat + 13, r)))
    (two : ∀ a b r, P 14 (a :: b :: r) (some (a.toNat * 256 + b.toNat + 269, r)))
    (short : ∀ n r, (n = 13 ∧ r.length < 1) ∨ (n = 14 ∧ r.length < 2) ∨ 14 < n → P n r none) :
    P nib bs (Spec.ext nib bs) := by
  unfold Spec.ext
  by_cases h : nib < 13
  · rw [if_pos h]; exact small nib bs h
  · rw [if_neg h]
    by_cases h13 : nib = 13
    · subst h13
      cases bs with
      | nil => exact short _ _ (Or.inl ⟨rfl, Nat.zero_lt_one⟩)
      | cons a r => exact one a r
    · rw [if_neg h13]
      by_cases h14 : nib = 14
      · subst h14
        match bs with
        | [] => exact short _ _ (Or.inr (Or.inl ⟨rfl, by decide⟩))
        | [_] => exact short _ _ (Or.inr (Or.inl ⟨rfl, Nat.lt_succ_self 1⟩))
        | a :: b :: r => exact two a b r
      · rw [if_neg h14]; exact short _ _ (Or.inr (Or.inr (by omega)))

theorem ext_suffix {nib : Nat} {bs r : Bytes} {v : Nat} (h : Spec.ext nib bs = some (v, r)) : ∃ pre, bs = pre ++ r := by
  revert h
  refine ext_forms (P := fun _ bs o => o = some (v, r) → ∃ pre, bs = pre ++ r) nib bs
    ?_ ?_ ?_ (fun _ _ _ h => nomatch h)
  · intro n r' hn h
    cases h
    exact ⟨[], rfl⟩
  · intro a r' h
    cases h
    exact ⟨[a], rfl⟩
  · intro a b r' h
    cases h
    exact ⟨[a, b], rfl⟩

theorem rd_app0 (pre r : Bytes) : rd (pre ++ r) pre.length = rd r 0 := by
  simp [rd, List.getElem?_append_right]

theorem rd_app1 (pre r : Bytes) : rd (pre ++ r) (pre.length + 1) = rd r 1 := by
  simp [rd, List.getElem?_append_right]

/-- `pre` is not empty: its last byte is the option's first byte or the last delta-extension byte. -/
theorem lengthExt_eq (pre r : Bytes) (nib i : Nat) (hn : nib < 16) (hi : i + 1 = pre.length) :
    lengthExt (pre ++ r) nib i (r.length + 1) =
      match Spec.ext nib r with
      | none => R.rej
      | some (l, r') => R.ok (l, i + (r.length - r'.length), r'.length + 1) := by
  have e2 : i + 2 = pre.length + 1 := by omega
  rcases nib_cases nib hn with h | h | h | h
  · have h1 : ¬ nib = 15 := by omega
    have h2 : ¬ nib = 14 := by omega
    have h3 : ¬ nib = 13 := by omega
    simp [lengthExt, Spec.ext, h, h1, h2, h3]
  · subst h
    rcases r with _ | ⟨a, r'⟩
    · simp [lengthExt, Spec.ext]
    · simp [lengthExt, Spec.ext, hi, rd_app0, rd_cons_zero]
      omega
  · subst h
    rcases r with _ | ⟨a, _ | ⟨b, r'⟩⟩
    · simp [lengthExt, Spec.ext]
    · simp [lengthExt, Spec.ext, hi, rd_app0, rd_cons_zero]
    · simp [lengthExt, Spec.ext, hi, e2, rd_app0, rd_app1, rd_cons_zero, rd_cons_succ]
      omega
  · subst h
    simp [lengthExt, Spec.ext]

/-- libcoap with its fix: a delta above 65535 is refused. -/
theorem deltaExt_eq (b0 : UInt8) (r : Bytes) (nib : Nat) (hn : nib < 16) :
    deltaExt (b0 :: r) nib 0 (r.length + 1) =
      match Spec.ext nib r with
      | none => R.rej
      | some (d, r') => if d > 65535 then R.rej else R.ok (d, r.length - r'.length, r'.length + 1) := by
  rcases nib_cases nib hn with h | h | h | h
  · have h1 : ¬ nib = 15 := by omega
    have h2 : ¬ nib = 14 := by omega
    have h3 : ¬ nib = 13 := by omega
    have h4 : ¬ nib > 65535 := by omega
    simp [deltaExt, Spec.ext, h, h1, h2, h3, h4]
  · subst h
    rcases r with _ | ⟨a, r'⟩
    · simp [deltaExt, Spec.ext]
    · have := byte_lt a
      have h4 : ¬ (a.toNat + 13 > 65535) := by omega
      have h5 : ¬ (13 + a.toNat > 65535) := by omega
      have h6 : (13 + a.toNat) % 65536 = a.toNat + 13 := by omega
      simp [deltaExt, Spec.ext, rd_cons_zero, rd_cons_succ, h4, h5, h6]
  · subst h
    rcases r with _ | ⟨a, _ | ⟨b, r'⟩⟩
    · simp [deltaExt, Spec.ext]
    · simp [deltaExt, Spec.ext, rd_cons_zero, rd_cons_succ]
    · have ha := byte_lt a
      have hb := byte_lt b
      simp only [deltaExt, Spec.ext, rd_cons_zero, rd_cons_succ]
      -- C's test for the wrap-around of the uint16_t `delta` after the first extension byte
      by_cases hw : (a.toNat * 256 + 269) % 65536 < 269
      · have h9 : a.toNat * 256 + b.toNat + 269 > 65535 := by omega
        simp [hw, h9]
      · have e : (a.toNat * 256 + 269) % 65536 = a.toNat * 256 + 269 := by omega
        by_cases hx : a.toNat * 256 + 269 + b.toNat > 65535
        · have h9 : a.toNat * 256 + b.toNat + 269 > 65535 := by omega
          simp [e, hx, h9]
        · have h7 : ¬ (a.toNat * 256 + b.toNat + 269 > 65535) := by omega
          have h8 : (a.toNat * 256 + 269 + b.toNat) % 65536 = a.toNat * 256 + b.toNat + 269 := by
            rw [Nat.mod_eq_of_lt (by omega)]; omega
          have h10 : ¬ (a.toNat * 256 + 269 < 269) := by omega
          have h11 : r'.length + 1 + 1 - r'.length = 2 := by omega
          simp [e, hx, h7, h8, h10, h11]
  · subst h
    simp [deltaExt, Spec.ext]

/-- List-level description of what `coap_opt_parse(opt, length)` computes when `length` is the
number of bytes from `opt` to the end of the message. -/
def optSpec (b0 : UInt8) (r0 : Bytes) : R OptP :=
  match Spec.ext (b0.toNat / 16) r0 with
  | none => R.rej
  | some (d, r1) =>
    if d > 65535 then R.rej else
    match Spec.ext (b0.toNat % 16) r1 with
    | none => R.rej
    | some (l, r2) =>
      if l ≤ r2.length then
        R.ok ⟨d, l, r0.length + 1 - r2.length, r0.length + 1 - r2.length + l⟩
      else R.rej

theorem optParse_eq (b0 : UInt8) (r0 : Bytes) :
    optParse (b0 :: r0) (r0.length + 1) = optSpec b0 r0 := by
  have hb := byte_lt b0
  have hd : b0.toNat / 16 < 16 := by omega
  have hl : b0.toNat % 16 < 16 := by omega
  have h0 : ¬ (r0.length + 1 < 1) := by omega
  simp only [optParse, optSpec, h0, if_false, rd_cons_zero, R.bind_ok, deltaExt_eq b0 r0 _ hd]
  cases hE : Spec.ext (b0.toNat / 16) r0 with
  | none => simp
  | some p =>
    obtain ⟨d, r1⟩ := p
    obtain ⟨pre1, rfl⟩ := ext_suffix hE
    by_cases hbig : d > 65535
    · simp [hbig]
    · simp only [hbig, if_false, R.bind_ok]
      have hi : (pre1 ++ r1).length - r1.length + 1 = (b0 :: pre1).length := by simp
      rw [← List.cons_append, lengthExt_eq (b0 :: pre1) r1 _ _ hl hi]
      cases hL : Spec.ext (b0.toNat % 16) r1 with
      | none => simp
      | some q =>
        obtain ⟨l, r2⟩ := q
        obtain ⟨pre2, rfl⟩ := ext_suffix hL
        simp only [R.bind_ok, show ¬ (r2.length + 1 < 1) by omega, if_false]
        by_cases hfit : l ≤ r2.length
        · have h2 : ¬ (r2.length + 1 - 1 < l) := by omega
          simp only [h2, hfit, if_false, if_true]
          have e1 : (pre1 ++ (pre2 ++ r2)).length - (pre2 ++ r2).length + ((pre2 ++ r2).length - r2.length) + 1 =
              (pre1 ++ (pre2 ++ r2)).length + 1 - r2.length := by
            simp only [List.length_append]; omega
          simp only [e1]
        · simp [hfit]
/-- The length table regenerated from libcoap's code (T1) is the RFCs' table. -/
theorem lenGroups_eq : Generated.lenGroups = Spec.lenGroups := by decide

def acceptW (w : R (Bool × List (Nat × Bytes) × Bytes)) : Option (List (Nat × Bytes) × Bytes) :=
  match w with
  | R.ok (true, os, rest) => some (os, rest)
  | _ => none

theorem walk_eq_spec (code : Nat) : ∀ (fuel : Nat) (bs : Bytes) (maxOpt : Nat), maxOpt ≤ 65535 →
    acceptW (walk code fuel bs maxOpt) = Spec.opts code fuel maxOpt bs := by
  intro fuel
  induction fuel with
  | zero => intro bs maxOpt _; simp [walk, Spec.opts, acceptW]
  | succ fuel ih =>
    intro bs maxOpt hmax
    rcases bs with _ | ⟨b, r0⟩
    · simp [walk, Spec.opts, acceptW]
    · by_cases hff : b = 0xFF
      · simp [walk, Spec.opts, acceptW, hff]
      · simp only [walk, Spec.opts, hff, if_false, nextOptionSafe, List.length_cons, optParse_eq, optSpec]
        cases hE : Spec.ext (b.toNat / 16) r0 with
        | none => simp [acceptW]
        | some p =>
          obtain ⟨d, r1⟩ := p
          obtain ⟨pre1, hpre1⟩ := ext_suffix hE
          by_cases hbig : d > 65535
          · have : ¬ (maxOpt + d ≤ 65535) := by omega
            simp only [hbig, if_true, R.bind_rej, acceptW]
            cases hL : Spec.ext (b.toNat % 16) r1 with
            | none => rfl
            | some q => obtain ⟨l, r2⟩ := q; simp [this]
          · simp only [hbig, if_false]
            cases hL : Spec.ext (b.toNat % 16) r1 with
            | none => simp [acceptW]
            | some q =>
              obtain ⟨l, r2⟩ := q
              obtain ⟨pre2, hpre2⟩ := ext_suffix hL
              by_cases hfit : l ≤ r2.length
              · simp only [hfit, if_true, R.bind_ok]
                by_cases hnum : maxOpt + d > 65535
                · have : ¬ (maxOpt + d ≤ 65535) := by omega
                  simp [hnum, this, acceptW]
                · have hle : maxOpt + d ≤ 65535 := by omega
                  have hmod : (maxOpt + d) % 65536 = maxOpt + d := Nat.mod_eq_of_lt (by omega)
                  have hsplit : b :: r0 = (b :: pre1 ++ pre2) ++ r2 := by rw [hpre1, hpre2]; simp
                  have hlen : r0.length + 1 - r2.length = (b :: pre1 ++ pre2).length := by
                    rw [hpre1, hpre2]; simp; omega
                  have hdropv : (b :: r0).drop (r0.length + 1 - r2.length) = r2 := by
                    rw [hlen, hsplit]; exact List.drop_left' rfl
                  have hdrops : (b :: r0).drop (r0.length + 1 - r2.length + l) = r2.drop l := by
                    rw [← List.drop_drop, hdropv]
                  simp only [hnum, if_false, hmod, hdropv, hdrops, hle, true_and]
                  have ihr := ih (r2.drop l) (maxOpt + d) hle
                  rw [lenGroups_eq, ← ihr]
                  unfold Spec.optLenOk
                  cases walk code fuel (r2.drop l) (maxOpt + d) with
                  | ok v =>
                    obtain ⟨g', os, rest⟩ := v
                    cases g' <;> cases Spec.lenOkIn Spec.lenGroups code (maxOpt + d) l <;> simp [acceptW]
                  | rej => cases Spec.lenOkIn Spec.lenGroups code (maxOpt + d) l <;> simp [acceptW]
                  | oob => cases Spec.lenOkIn Spec.lenGroups code (maxOpt + d) l <;> simp [acceptW]
              · simp [hfit, acceptW]

theorem tokenHdr_eq (tkl : Nat) (tk : Bytes) (h : tkl < 16) :
    tokenHdr tkl tk =
      match Spec.ext tkl tk with
      | none => R.rej
      | some (n, r) => R.ok (n + (tk.length - r.length), tk.length - r.length) := by
  rcases nib_cases tkl h with h | h | h | h
  · have h3 : ¬ tkl = 13 := by omega
    have h2 : ¬ tkl = 14 := by omega
    simp [Spec.ext, tokenHdr, h, h2, h3]
  · subst h
    rcases tk with _ | ⟨a, r⟩
    · simp [Spec.ext, tokenHdr]
    · simp [Spec.ext, tokenHdr, rd_cons_zero]
  · subst h
    rcases tk with _ | ⟨a, _ | ⟨b, r⟩⟩
    · simp [Spec.ext, tokenHdr]
    · simp [Spec.ext, tokenHdr]
    · have := byte_lt a
      have e : a.toNat * 256 % 65536 = a.toNat * 256 := Nat.mod_eq_of_lt (by omega)
      have h1 : ¬ (r.length + 1 + 1 < 2) := by omega
      have h2 : r.length + 1 + 1 - r.length = 2 := by omega
      simp [Spec.ext, tokenHdr, rd_cons_zero, rd_cons_succ, e, h1, h2]
  · subst h
    simp [Spec.ext, tokenHdr]

theorem optSpec_ne_oob (b : UInt8) (r0 : Bytes) : optSpec b r0 ≠ R.oob := by
  unfold optSpec
  repeat' split
  all_goals simp

/-- Both hold for every `maxOpt` (`walk_eq_spec` needs `maxOpt ≤ 65535`).  No converse: after a refused option or a number above
65535 `walk` stops, the accessor walk `iter` goes on modulo 2^16. -/
theorem walk_iter (code : Nat) : ∀ (fuel : Nat) (bs : Bytes) (maxOpt : Nat),
    walk code fuel bs maxOpt ≠ R.oob ∧
      ∀ os rest, walk code fuel bs maxOpt = R.ok (true, os, rest) → iter fuel bs maxOpt = R.ok os := by
  intro fuel
  induction fuel with
  | zero => intro bs maxOpt; simp [walk]
  | succ fuel ih =>
    intro bs maxOpt
    rcases bs with _ | ⟨b, r0⟩
    · simp [walk, iter]
    · by_cases hff : b = 0xFF
      · simp [walk, iter, hff]
      · simp only [walk, iter, nextOptionSafe, if_neg hff, List.length_cons, optParse_eq]
        cases hO : optSpec b r0 with
        | oob => exact absurd hO (optSpec_ne_oob b r0)
        | rej => simp
        | ok p =>
          simp only [R.bind_ok]
          by_cases hnum : maxOpt + p.delta > 65535
          · simp [hnum]
          · simp only [hnum, if_false]
            obtain ⟨ih1, ih2⟩ := ih (List.drop p.size (b :: r0)) ((maxOpt + p.delta) % 65536)
            cases hw : walk code fuel (List.drop p.size (b :: r0)) ((maxOpt + p.delta) % 65536) with
            | oob => exact absurd hw ih1
            | rej => simp
            | ok v =>
              obtain ⟨g', os', rest'⟩ := v
              refine ⟨fun h => (nomatch h), fun os rest h => ?_⟩
              simp only [R.ok.injEq, Prod.mk.injEq, Bool.and_eq_true] at h
              obtain ⟨⟨_, rfl⟩, rfl, rfl⟩ := h
              rw [ih2 os' rest' hw]

theorem walk_ne_oob (code fuel : Nat) (bs : Bytes) (maxOpt : Nat) : walk code fuel bs maxOpt ≠ R.oob :=
  (walk_iter code fuel bs maxOpt).1

def R.ofOption {α} : Option α → R α
  | some a => R.ok a
  | none => R.rej

theorem R.toOption_ofOption {α} (o : Option α) : (R.ofOption o).toOption = o := by cases o <;> rfl

theorem R.ofOption_ne_oob {α} (o : Option α) : R.ofOption o ≠ R.oob := by cases o <;> exact fun h => nomatch h

theorem R.ofOption_eq_ok {α} {o : Option α} {a : α} : R.ofOption o = R.ok a ↔ o = some a := by
  cases o with
  | none => exact ⟨fun h => (nomatch h), fun h => (nomatch h)⟩
  | some b => exact ⟨fun h => congrArg some (R.ok.inj h), fun h => congrArg R.ok (Option.some.inj h)⟩

@[simp] theorem R.toOption_rej {α} : (R.rej : R α).toOption = none := rfl
@[simp] theorem R.toOption_oob {α} : (R.oob : R α).toOption = none := rfl

/-- what `coap_pdu_parse_opt` makes of the option loop's result, the loop having stayed inside the buffer -/
theorem finish_spec (w : R (Bool × List (Nat × Bytes) × Bytes)) (hw : w ≠ R.oob) (mk : List (Nat × Bytes) → Bytes → Msg) :
    (w >>= fun (x : Bool × List (Nat × Bytes) × Bytes) =>
        match x.2.2 with
        | [] => if x.1 then R.ok (mk x.2.1 []) else R.rej
        | _ :: pl => if pl.length = 0 then R.rej else if x.1 then R.ok (mk x.2.1 pl) else R.rej)
      = R.ofOption (match acceptW w with
        | none => none
        | some (os, rest') =>
          match Spec.finish rest' with
          | none => none
          | some pl => some (mk os pl)) := by
  rcases w with ⟨good, os, rest⟩ | _ | _
  · rcases rest with _ | ⟨m, _ | ⟨c, pl⟩⟩ <;> cases good <;> simp [acceptW, Spec.finish, R.ofOption]
  · rfl
  · exact absurd rfl hw

theorem parseBody_spec (type code mid tkl : Nat) (tk : Bytes) (h : tkl < 16) :
    parseBody type code mid tkl tk = R.ofOption (Spec.body type code mid tkl tk) := by
  unfold parseBody Spec.body
  rw [tokenHdr_eq tkl tk h]
  cases hE : Spec.ext tkl tk with
  | none => rfl
  | some p =>
    obtain ⟨n, r⟩ := p
    obtain ⟨pre, hpre⟩ := ext_suffix hE
    have hlen : tk.length = pre.length + r.length := by rw [hpre]; simp
    have hdropv : tk.drop (tk.length - r.length) = r := by
      rw [hpre]; exact List.drop_left' (by simp)
    simp only [R.bind_ok]
    by_cases hc : code = 0
    · subst hc
      simp only [if_true]
      by_cases hz : tkl = 0 ∧ tk = []
      · obtain ⟨rfl, rfl⟩ := hz
        simp [Spec.ext] at hE
        obtain ⟨rfl, rfl⟩ := hE
        simp [R.ofOption]
      · have : tk.length ≠ 0 ∨ n + (tk.length - r.length) ≠ 0 := by
          by_cases htk : tk = []
          · subst htk
            have : tkl ≠ 0 := fun h0 => hz ⟨h0, rfl⟩
            right
            have h13 : tkl < 13 := by
              rcases nib_cases tkl h with h | h | h | h
              · exact h
              all_goals (subst h; simp [Spec.ext] at hE)
            simp [Spec.ext, h13] at hE
            omega
          · left; simp [htk]
        simp only [this, if_true, hz, if_false]
        split <;> rfl
    · simp only [hc, if_false]
      by_cases hfit : n ≤ r.length
      · have h1 : ¬ (n + (tk.length - r.length) > tk.length) := by omega
        simp only [h1, hfit, if_false, if_true]
        have hdrop : tk.drop (n + (tk.length - r.length)) = r.drop n := by
          rw [Nat.add_comm, ← List.drop_drop, hdropv]
        have e : n + (tk.length - r.length) - (tk.length - r.length) = n := by omega
        rw [hdrop, hdropv, e]
        have key := finish_spec (walk code (tk.length + 1) (r.drop n) 0) (walk_ne_oob _ _ _ _)
          (fun os pl => ⟨type, code, mid, r.take n, os, pl⟩)
        rw [walk_eq_spec code _ _ 0 (by omega)] at key
        exact key
      · have h1 : n + (tk.length - r.length) > tk.length := by omega
        simp only [h1, hfit, if_true, if_false]
        rfl

/-! ### the reliable framing: `coap_pdu_parse_size` (length field, token field) against `Spec.tcpLen` / `Spec.tokenField` -/

section
open Coap.Spec.Stream

theorem fixedLen_eq (b0 : UInt8) : fixedLen b0 = headerSize .tcp b0.toNat := by
  have := byte_lt b0
  rcases nib_cases (b0.toNat / 16) (by omega) with h | h | h | h
  all_goals simp [fixedLen, extLenBytes, headerSize, h]

theorem rd_of_drop {bs t : Bytes} {i : Nat} {a : UInt8} (h : bs.drop i = a :: t) : rd bs i = R.ok a.toNat := by
  have : bs[i]? = some a := by rw [← Nat.add_zero i, ← List.getElem?_drop, h]; rfl
  simp only [rd, this]

/-- S reads from ANY prefix that holds the extension bytes: `declared` is defined on the header alone. -/
theorem tcpLenField_take (b0 : UInt8) (r : Bytes) (L k : Nat) (hL : L < 16) (hr : extLenBytes L ≤ r.length) :
    ∃ len, tcpLenField (b0 :: r) L = R.ok (len, extLenBytes L + 2) ∧
      Spec.tcpLen L (r.take (k + extLenBytes L)) = some (len, (r.drop (extLenBytes L)).take k) := by
  rcases nib_cases L hL with h | h | h | h
  · have e : extLenBytes L = 0 := by simp [extLenBytes, h]
    exact ⟨L, by simp [tcpLenField, h, e], by simp [Spec.tcpLen, h, e]⟩
  · subst h
    match r, hr with
    | a1 :: r, _ => exact ⟨_, rfl, rfl⟩
  · subst h
    match r, hr with
    | a1 :: a2 :: r, _ => exact ⟨_, rfl, rfl⟩
  · subst h
    match r, hr with
    | a1 :: a2 :: a3 :: a4 :: r, _ => exact ⟨_, rfl, rfl⟩

theorem tcpTokField_take (bs : Bytes) (T i : Nat) (hT : T < 16) (hr : tokExtBytes T ≤ (bs.drop i).length) :
    tcpTokField bs T i = R.ok (tokFieldLen T ((bs.drop i).take (tokExtBytes T))) := by
  rcases nib_cases T hT with h | h | h | h
  · have h1 : ¬ T = 13 := by omega
    have h2 : ¬ T = 14 := by omega
    simp [tcpTokField, tokFieldLen, Spec.tokenField, Spec.ext, tokExtBytes, h, h1, h2]
  · subst h
    match hd : bs.drop i, hr with
    | a1 :: t, _ => simp only [tcpTokField, rd_of_drop hd]; rfl
  · subst h
    match hd : bs.drop i, hr with
    | a1 :: a2 :: t, _ =>
      have hd' : bs.drop (i + 1) = a2 :: t := by rw [← List.drop_drop, hd]; rfl
      have := byte_lt a1
      have e : a1.toNat * 256 % 65536 = a1.toNat * 256 := Nat.mod_eq_of_lt (by omega)
      simp only [tcpTokField, rd_of_drop hd, rd_of_drop hd']
      simp [tokFieldLen, Spec.tokenField, Spec.ext, tokExtBytes, e]
  · subst h; rfl

theorem declared_eq (b0 : UInt8) (r : Bytes) (hl : hdrLen b0 ≤ (b0 :: r).length) :
    ∃ len, tcpLenField (b0 :: r) (b0.toNat / 16) = R.ok (len, extLenBytes (b0.toNat / 16) + 2) ∧
      declared ((b0 :: r).take (hdrLen b0)) = len + tokFieldLen (b0.toNat % 16)
        (((b0 :: r).drop (extLenBytes (b0.toNat / 16) + 2)).take (tokExtBytes (b0.toNat % 16))) := by
  have hb := byte_lt b0
  simp only [hdrLen, fixedLen, List.length_cons] at hl
  obtain ⟨len, hf, hs⟩ := tcpLenField_take b0 r (b0.toNat / 16) (1 + tokExtBytes (b0.toNat % 16)) (by omega) (by omega)
  refine ⟨len, hf, ?_⟩
  have e : hdrLen b0 = (1 + tokExtBytes (b0.toNat % 16) + extLenBytes (b0.toNat / 16)) + 1 := by
    simp only [hdrLen, fixedLen]; omega
  rw [e, List.take_succ_cons]
  simp only [declared, hs, List.drop_take, Nat.add_sub_cancel_left, List.drop_drop, List.drop_succ_cons]

theorem parseSize_eq_declared (b0 : UInt8) (r : Bytes) (hl : hdrLen b0 ≤ (b0 :: r).length) :
    parseSizeTcp (b0 :: r) = R.ok (declared ((b0 :: r).take (hdrLen b0))) := by
  obtain ⟨len, hf, hd⟩ := declared_eq b0 r hl
  have ht := tcpTokField_take (b0 :: r) (b0.toNat % 16) (extLenBytes (b0.toNat / 16) + 2) (by omega)
    (by simp only [hdrLen, fixedLen] at hl; simp only [List.length_drop]; omega)
  simp only [parseSizeTcp, rd_cons_zero, R.bind_ok, hf, ht, hd]

theorem tcpLen_short (L : Nat) (r : Bytes) (hL : L < 16) (h : r.length < extLenBytes L) : Spec.tcpLen L r = none := by
  rcases nib_cases L hL with h1 | rfl | rfl | rfl
  · simp [extLenBytes, h1] at h
  · match r, h with
    | [], _ => rfl
  · match r, h with
    | [], _ | [_], _ => rfl
  · match r, h with
    | [], _ | [_], _ | [_, _], _ | [_, _, _], _ => rfl

theorem tokenField_spec (T : Nat) (r : Bytes) (hT : T < 16) :
    Spec.tokenField T r =
      if T = 15 ∨ r.length < tokExtBytes T then none else some (tokFieldLen T (r.take (tokExtBytes T))) := by
  rcases nib_cases T hT with h | rfl | rfl | rfl
  · have h1 : ¬ T = 13 := by omega
    have h2 : ¬ T = 14 := by omega
    have h3 : ¬ T = 15 := by omega
    simp [Spec.tokenField, Spec.ext, tokFieldLen, tokExtBytes, h, h1, h2, h3]
  · rcases r with _ | ⟨a, t⟩
    · rfl
    · simp [Spec.tokenField, Spec.ext, tokFieldLen, tokExtBytes]
  · rcases r with _ | ⟨a, _ | ⟨b, t⟩⟩
    · rfl
    · rfl
    · simp [Spec.tokenField, Spec.ext, tokFieldLen, tokExtBytes]
      omega
  · rfl

theorem tcpLen_full (b0 : UInt8) (r : Bytes) (hr : extLenBytes (b0.toNat / 16) ≤ r.length) :
    ∃ len, tcpLenField (b0 :: r) (b0.toNat / 16) = R.ok (len, extLenBytes (b0.toNat / 16) + 2) ∧
      Spec.tcpLen (b0.toNat / 16) r = some (len, r.drop (extLenBytes (b0.toNat / 16))) := by
  obtain ⟨len, hf, hs⟩ := tcpLenField_take b0 r _ r.length (by have := byte_lt b0; omega) hr
  rw [List.take_of_length_le (Nat.le_add_right _ _), List.take_of_length_le (by simp)] at hs
  exact ⟨len, hf, hs⟩

/-- the stream framing of `coap_read_session` and `coap_pdu_parse_size` in the shape of `Spec.decode .tcp`: the length
field, one code byte, the token field, and a body of exactly the announced size -/
theorem parse_tcp_cons (b0 : UInt8) (r0 : Bytes) :
    M.parse .tcp (b0 :: r0) =
      match Spec.tcpLen (b0.toNat / 16) r0 with
      | none => R.rej
      | some (len, r1) =>
        match r1 with
        | c :: r2 =>
          match Spec.tokenField (b0.toNat % 16) r2 with
          | none => R.rej
          | some tf => if r2.length = tf + len then parseBody 0 c.toNat 0 (b0.toNat % 16) r2 else R.rej
        | [] => R.rej := by
  have hb := byte_lt b0
  have hT : b0.toNat % 16 < 16 := by omega
  have hfl : headerSize .tcp b0.toNat = extLenBytes (b0.toNat / 16) + 2 := by rw [← fixedLen_eq, fixedLen]; omega
  simp only [M.parse, rd_cons_zero, R.bind_ok, hfl, List.length_cons]
  change (if _ < _ + tokExtBytes (b0.toNat % 16) then _ else _) = _
  by_cases he : r0.length < extLenBytes (b0.toNat / 16)
  · rw [tcpLen_short _ _ (by omega) he, if_pos (by omega)]
  -- the length field is there: S goes on behind it
  obtain ⟨len, hf, hs⟩ := tcpLen_full b0 r0 (by omega)
  rw [hs]
  cases hdr : r0.drop (extLenBytes (b0.toNat / 16)) with
  | nil =>
    have hlen := congrArg List.length hdr
    simp only [List.length_drop, List.length_nil] at hlen
    rw [if_pos (by omega)]
  | cons c r2 =>
    have hlen := congrArg List.length hdr
    simp only [List.length_drop, List.length_cons] at hlen
    simp only [tokenField_spec _ _ hT]
    by_cases hl : r0.length + 1 < extLenBytes (b0.toNat / 16) + 2 + tokExtBytes (b0.toNat % 16)
    · rw [if_pos hl, if_pos (Or.inr (by omega))]
    · -- the header is complete: `coap_pdu_parse_size` returns S's declared length (`parseSize_eq_declared`)
      have hl' : hdrLen b0 ≤ (b0 :: r0).length := by simp only [hdrLen, fixedLen, List.length_cons]; omega
      obtain ⟨len', hf', hd⟩ := declared_eq b0 r0 hl'
      obtain rfl : len = len' := by rw [hf] at hf'; injection hf' with h; injection h
      have hdrop : (b0 :: r0).drop (extLenBytes (b0.toNat / 16) + 2) = r2 := by
        rw [List.drop_succ_cons, ← List.drop_drop, hdr]; rfl
      have hrd : rd (b0 :: r0) (extLenBytes (b0.toNat / 16) + 2 - 1) = R.ok c.toNat :=
        rd_of_drop (t := r2) (by
          show (b0 :: r0).drop (extLenBytes (b0.toNat / 16) + 1) = c :: r2
          rw [List.drop_succ_cons, hdr])
      rw [if_neg hl, parseSize_eq_declared b0 r0 hl', hd]
      simp only [hdrop, hrd, R.bind_ok]
      by_cases h15 : b0.toNat % 16 = 15
      · -- TKL 15: whatever the sizes say, the token header is refused by parseBody
        have hb15 : ∀ c tk, parseBody 0 c 0 15 tk = R.rej := fun _ _ => rfl
        simp only [h15, hb15, ite_self, true_or, if_true]
      · rw [if_neg (show ¬ (b0.toNat % 16 = 15 ∨ r2.length < tokExtBytes (b0.toNat % 16)) by omega)]
        by_cases hc : r2.length = tokFieldLen (b0.toNat % 16) (r2.take (tokExtBytes (b0.toNat % 16))) + len
        · rw [if_neg (by omega)]
          exact (if_pos hc).symm
        · rw [if_pos (by omega)]
          exact (if_neg hc).symm

end

theorem or_byte (a b : Nat) (hb : b < 256) : a * 256 ||| b = a * 256 + b := by
  have := Nat.shiftLeft_add_eq_or_of_lt (a := a) (i := 8) (b := b) (by omega)
  rw [Nat.shiftLeft_eq] at this
  simpa using this.symm

/-- libcoap's decoder IS the RFC grammar, every framing, every byte string: accepted with the reference content, or
refused; no third outcome -/
theorem parse_spec (p : Proto) (bs : Bytes) : M.parse p bs = R.ofOption (Spec.decode p bs) := by
  cases p
  · match bs with
    | [] | [_] | [_, _] | [_, _, _] => simp [M.parse, Spec.decode, R.ofOption]
    | b0 :: c :: m1 :: m2 :: rest =>
      have h1 := byte_lt m1
      have h2 := byte_lt m2
      have e : (m1.toNat * 256) % 65536 = m1.toNat * 256 := Nat.mod_eq_of_lt (by omega)
      have hl : ¬ (4 > rest.length + 1 + 1 + 1 + 1) := by omega
      simp only [M.parse, Spec.decode, List.length_cons, rd_cons_zero, rd_cons_succ, R.bind_ok, e,
        or_byte _ _ h2, List.drop_succ_cons, List.drop_zero, hl, if_false]
      by_cases hv : b0.toNat / 64 = 1
      · simp [hv, parseBody_spec _ _ _ _ _ (show b0.toNat % 16 < 16 by omega)]
      · simp [hv, R.ofOption]
  · rcases bs with _ | ⟨b0, r0⟩
    · simp [M.parse, Spec.decode, R.ofOption]
    rw [parse_tcp_cons]
    simp only [Spec.decode]
    cases Spec.tcpLen (b0.toNat / 16) r0 with
    | none => rfl
    | some q =>
      obtain ⟨len, _ | ⟨c, r2⟩⟩ := q
      · rfl
      · dsimp only
        cases Spec.tokenField (b0.toNat % 16) r2 with
        | none => rfl
        | some tf =>
          dsimp only
          rw [apply_ite R.ofOption, parseBody_spec 0 c.toNat 0 (b0.toNat % 16) r2 (Nat.mod_lt _ (by decide))]
          rfl
  · match bs with
    | [] | [_] => simp [M.parse, Spec.decode, R.ofOption]
    | b0 :: c :: rest =>
      have hl : ¬ (rest.length + 1 + 1 < 2) := by omega
      simp [M.parse, Spec.decode, rd_cons_zero, rd_cons_succ, hl,
        parseBody_spec _ _ _ _ _ (show b0.toNat % 16 < 16 by omega)]

theorem parse_eq (p : Proto) (bs : Bytes) : (M.parse p bs).toOption = Spec.decode p bs := by
  rw [parse_spec, R.toOption_ofOption]

theorem parse_ne_oob (p : Proto) (bs : Bytes) : M.parse p bs ≠ R.oob := by
  rw [parse_spec]; exact R.ofOption_ne_oob _

end Coap
