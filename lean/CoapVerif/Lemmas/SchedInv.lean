import CoapVerif.Lemmas.TimerAbs
import CoapVerif.Lemmas.MsgLayer
/-
The invariant of the code model M for the whole C06 alphabet INCLUDING the NSTART gate: a Confirmable submitted while the session
has no NSTART room waits in the delay queue and is first transmitted when an outcome of another message releases the slot
(`coap_session_connected` → drain), possibly in the middle of the due loop — the case the exact simulation by S
(`Coap.Sim.step_sim`) has to exclude.  Carried through the functions of M is the structure (`FInv False`: who is where); `Fut`
needs no scope and is an instance of `Msg.Kept`; the schedule clauses of `FInv` are S's invariants read through the simulation
(`Coap.SimF.finv_of_sim`).  What each function does on a state of the invariant is stated once (`*_cases`, `rxRst_eq`, `rxBad_eq`);
the invariant lemmas here, the counters in Conserve and the simulation in TimerSimFull start from these (the drain loop and the
cancel by token the simulation walks itself, beside its own translation of them: it needs the reason for stopping).
-/
namespace Coap.Sched
open Coap Coap.SQ Coap.Msg Coap.Timer Coap.Sim
open Coap.Spec.SQ (sched)

variable {pu : Prop} {par : Nat → Sess} {P : Nat → Nat → Nat → Prop}

/-- a node waiting in the delay queue of session `s`: a Confirmable as `coap_send` built it — never transmitted yet -/
def DNodeOk (par : Nat → Sess) (P : Nat → Nat → Nat → Prop) (s : Nat) (n : Node) : Prop :=
  n.con = true ∧ n.tok = n.mid ∧ 0 < n.timeout ∧ n.timeout < 4294967296 ∧ n.cnt = 0 ∧
  n.timeout * 2 ^ (par s).maxRtx < 2 ^ 64 ∧ P s n.mid n.timeout

/-- every session is `par s` up to `con_active` (which respects NSTART) and its delay queue (Confirmables not yet sent) -/
def GSess (par : Nat → Sess) (P : Nat → Nat → Nat → Prop) (l : L) : Prop :=
  ∀ s, ∃ ca dq, l.getS s = { par s with conActive := ca, delayq := dq } ∧ ca ≤ (par s).nstart ∧
    ∀ n ∈ dq, DNodeOk par P s n

/-- the sessions of the scope: established, socket open, NSTART ≥ 1, MAX_RETRANSMIT < 256 -/
def GPar (par : Nat → Sess) : Prop :=
  ∀ s, (par s).est = true ∧ (par s).sockOpen = true ∧ 1 ≤ (par s).nstart ∧ (par s).maxRtx < 256

theorem gpar_of (sess : List Sess) (h : ∀ se ∈ sess, SessOk se) : GPar (parOf sess) := fun s =>
  have := parOf_ok sess h s
  ⟨this.1, this.2.2.1, this.2.2.2.1, this.2.2.2.2.1⟩

/-- a pending entry is armed for the next slot of the schedule that started with its first transmission, and all its
transmissions so far (numbers 0 … cnt) have been made, each at its slot -/
def PendOk (pu : Prop) (out : List Out) (p : Nat × PMsg) : Prop :=
  pu → ∃ t0, (∀ j, j ≤ p.2.cnt → Out.tx (sched t0 p.2.T j) p.2.sess p.2.mid j true ∈ out) ∧
    p.1 = sched t0 p.2.T (p.2.cnt + 1)

/-- every transmission so far is on the schedule of its message; every TOO_MANY_RETRIES NACK so far came exactly one
slot after the last of ALL `MAX_RETRANSMIT + 1` transmissions of its message, each made at its slot -/
def OutOk (pu : Prop) (par : Nat → Sess) (P : Nat → Nat → Nat → Prop) (out : List Out) : Prop :=
  pu → (∀ t s mid k, Out.tx t s mid k true ∈ out →
    ∃ t0 T, Out.tx t0 s mid 0 true ∈ out ∧ t = sched t0 T k ∧ k ≤ (par s).maxRtx ∧ P s mid T) ∧
  (∀ t s mid, Out.nack t s .retries mid true ∈ out →
    ∃ t0 T, (∀ j, j ≤ (par s).maxRtx → Out.tx (sched t0 T j) s mid j true ∈ out) ∧
      t = sched t0 T ((par s).maxRtx + 1) ∧ P s mid T)

/-- The invariant.  `par s` is session `s` as configured: only its `con_active` and its delay queue ever differ from it.
`P s mid T` is what is known of the timeout `T` drawn by a `coap_send` of (s, mid); it travels with the node.  The two
clauses about the schedule (`PendOk`, `OutOk`) are claimed under `pu` only.  `FInv False` is the structural part: that is
what this file, Conserve and the simulation carry through the model.  `FInv True` holds at the end of punctual runs; it is
not carried but obtained from S (`Coap.SimF.finv_of_sim`). -/
structure FInv (pu : Prop) (par : Nat → Sess) (P : Nat → Nat → Nat → Prop) (l : L) : Prop where
  base : l.q.base ≤ l.now
  sess : GSess par P l
  nodes : ∀ n ∈ l.q.nodes, NodeOk par P n
  pend : ∀ p ∈ absP (mxOf par) l.q.base l.q.nodes, PendOk pu l.out p
  outs : OutOk pu par P l.out

/-- the clock has not passed a pending deadline (`Fut True l` is `Sim.EvPunct l ev` for every event but `setNow`) -/
def Fut (pu : Prop) (l : L) : Prop := pu → ∀ e ∈ abs l.q, l.now ≤ e.deadline

theorem getS_default {l : L} {s : Nat} (h : ¬ s < l.sess.length) : l.getS s = {} := by
  simp [L.getS, List.getD_eq_getElem?_getD, Nat.le_of_not_lt h]

theorem delayq_setS_keep (l : L) (s s' : Nat) (se : Sess) (h : se.delayq = (l.getS s).delayq) :
    ((l.setS s se).getS s').delayq = (l.getS s').delayq := by
  rcases getS_setS l s s' se with ⟨h1, rfl⟩ | h1
  · rw [h1, h]
  · rw [h1]

theorem delayq_in_range {l : L} {s : Nat} {n : Node} {rest : List Node} (h : (l.getS s).delayq = n :: rest) :
    s < l.sess.length := by
  apply Classical.byContradiction
  intro hn
  rw [getS_default hn] at h
  cases h

/-- what `FInv` claims whatever `pu` is -/
theorem finv_mk {l : L} (hb : l.q.base ≤ l.now) (hs : GSess par P l) (hn : ∀ n ∈ l.q.nodes, NodeOk par P n) :
    FInv False par P l := ⟨hb, hs, hn, fun _ _ h => h.elim, fun h => h.elim⟩

theorem finv_emit {l : L} (o : Out) (hi : FInv False par P l) : FInv False par P (l.emit o) :=
  finv_mk hi.base hi.sess hi.nodes

theorem gsess_setS {l : L} (hs : GSess par P l) (s ca : Nat)
    (dq : List Node) (hca : ca ≤ (par s).nstart) (hdq : ∀ n ∈ dq, DNodeOk par P s n) :
    GSess par P (l.setS s { par s with conActive := ca, delayq := dq }) := by
  intro s'
  rcases getS_setS l s s' { par s with conActive := ca, delayq := dq } with ⟨h, rfl⟩ | h
  · exact ⟨ca, dq, h, hca, hdq⟩
  · rw [h]; exact hs s'

/-- moving the clock aside, nothing the model does lets the clock pass a pending deadline: it arms at `now + d` and unlinks -/
theorem kept_fut (pu : Prop) : Kept (fun _ => True) (fun l => l.q.base ≤ l.now ∧ Fut pu l) :=
  Kept.plain (fun _ _ _ h => h) (fun _ _ h => h)
    (fun l d n h => ⟨enqueue_base_le d n h.1, fun hpu e he => by
      rcases mem_specInsert.1 (abs_enqueue l.q l.now d n (Or.inr h.1) ▸ he) with rfl | he
      · exact Nat.le_add_right _ _
      · exact h.2 hpu e he⟩)
    (fun l _ h hsub => ⟨h.1, fun hpu e he => h.2 hpu e (hsub l.q.base e he)⟩)

theorem finv_enqueue (l : L) (d : Nat) (n : Node) (hi : FInv False par P l) (hn : NodeOk par P n) :
    FInv False par P { l with q := enqueue l.q l.now d n } :=
  finv_mk (enqueue_base_le _ _ hi.base) hi.sess (all_enqueue (nodeOk_tfree par P) _ _ _ _ hi.nodes hn)

theorem finv_setS {l : L} (hi : FInv False par P l) (s ca : Nat) (dq : List Node) (hca : ca ≤ (par s).nstart)
    (hdq : ∀ n ∈ dq, DNodeOk par P s n) : FInv False par P (l.setS s { par s with conActive := ca, delayq := dq }) :=
  finv_mk hi.base (gsess_setS hi.sess s ca dq hca hdq) hi.nodes

/-- the state after one round of the drain loop: the delayed Confirmable `n` of session `s` has been transmitted for the
first time and queued -/
def started (par : Nat → Sess) (l : L) (s ca : Nat) (n : Node) (rest : List Node) : L :=
  { ((l.setS s { par s with conActive := (ca + 1) % 256, delayq := rest }).emit (.tx l.now s n.mid 0 true)) with
    q := enqueue l.q l.now n.timeout { n with sess := s } }

theorem drain_start (hp : GPar par) (f : Nat) (l : L)
    (s ca : Nat) (n : Node) (rest : List Node) (hi : FInv False par P l)
    (hg : l.getS s = { par s with conActive := ca, delayq := n :: rest })
    (hdq : ∀ x ∈ n :: rest, DNodeOk par P s x) (hgate : ¬ ca ≥ (par s).nstart) :
    drain (f + 1) l s = drain f (started par l s ca n rest) s ∧ FInv False par P (started par l s ca n rest) := by
  obtain ⟨hest, hopen, hns, h256⟩ := hp s
  obtain ⟨hcon, htok, hT, hT32, hcnt, h64, hP⟩ := hdq n (by simp)
  have hi2 : FInv False par P ((l.setS s { par s with conActive := (ca + 1) % 256, delayq := rest }).emit
      (.tx l.now s n.mid 0 true)) :=
    finv_emit _ (finv_setS hi s _ rest (by have := Nat.mod_le (ca + 1) 256; omega) (fun x hx => hdq x (by simp [hx])))
  refine ⟨?_, finv_enqueue _ n.timeout { n with sess := s } hi2 ⟨hcon, htok, hT, by simp [hcnt], h64, hP⟩⟩
  simp [drain, started, hg, hest, hcon, hgate, waitAck, hcnt, Nat.mod_eq_of_lt hT32, L.emit, L.setS]

theorem drain_cases (hp : GPar par) (f : Nat) (l : L)
    (s : Nat) (hi : FInv False par P l) :
    drain (f + 1) l s = l ∨
    ∃ ca n rest, l.getS s = { par s with conActive := ca, delayq := n :: rest } ∧ DNodeOk par P s n ∧
      drain (f + 1) l s = drain f (started par l s ca n rest) s ∧ FInv False par P (started par l s ca n rest) := by
  obtain ⟨ca, dq, hg, hle, hdq⟩ := hi.sess s
  cases dq with
  | nil => exact Or.inl (by simp [drain, hg])
  | cons n rest =>
    by_cases hgate : ca ≥ (par s).nstart
    · exact Or.inl (by simp [drain, hg, (hp s).1, (hdq n (by simp)).1, hgate])
    · exact Or.inr ⟨ca, n, rest, hg, hdq n (by simp), drain_start hp f l s ca n rest hi hg hdq hgate⟩

theorem drain_finv (hp : GPar par) :
    ∀ (fuel : Nat) (l : L) (s : Nat), FInv False par P l → FInv False par P (drain fuel l s)
  | 0, _, _, hi => hi
  | f + 1, l, s, hi => by
    rcases drain_cases hp f l s hi with he | ⟨ca, n, rest, _, _, he, hi2⟩
    · rw [he]; exact hi
    · rw [he]; exact drain_finv hp f _ s hi2

theorem finv_setS_est (hp : GPar par) {l : L} (hi : FInv False par P l) (s : Nat) :
    FInv False par P (l.setS s { (l.getS s) with est := true }) := by
  obtain ⟨ca, dq, hg, hle, hdq⟩ := hi.sess s
  rw [hg, est_fix { par s with conActive := ca, delayq := dq } (hp s).1]
  exact finv_setS hi s ca dq hle hdq

theorem finv_setS_dec {l : L} (hi : FInv False par P l) (s : Nat) :
    FInv False par P (l.setS s { (l.getS s) with conActive := (l.getS s).conActive - 1 }) := by
  obtain ⟨ca, dq, hg, hle, hdq⟩ := hi.sess s
  rw [hg]
  exact finv_setS hi s (ca - 1) dq (Nat.le_trans (Nat.sub_le _ _) hle) hdq

theorem connected_finv (hp : GPar par) (l : L) (s : Nat) (hi : FInv False par P l) : FInv False par P (connected l s) :=
  drain_finv hp _ _ s (finv_setS_est hp hi s)

theorem release_finv (hp : GPar par) (l : L) (s : Nat) (hi : FInv False par P l) : FInv False par P (release l s) :=
  ite_ind (fun _ => hi) fun _ =>
    ite_ind (fun _ => connected_finv hp _ s (finv_setS_dec hi s)) fun _ => finv_setS_dec hi s

/-- The third branch of `coap_retransmit`, which moves the node to the delay queue, is dead on these states: the node gives its
own slot back first, so `con_active − 1 < NSTART` and the gate is open (`slot_le`) -/
theorem retransmit_cases (hp : GPar par) (l : L) (n : Node) (hi : FInv False par P l) (hn : NodeOk par P n) :
    FInv False par P (retransmit l n) ∧
    ((n.cnt < (par n.sess).maxRtx ∧
      (retransmit l n).out = Out.tx l.now n.sess n.mid (n.cnt + 1) true :: l.out ∧
      (retransmit l n).q = enqueue l.q l.now (n.timeout * 2 ^ (n.cnt + 1)) { n with cnt := n.cnt + 1 } ∧
      ∀ s, ((retransmit l n).getS s).delayq = (l.getS s).delayq) ∨
    ((par n.sess).maxRtx ≤ n.cnt ∧
      retransmit l n = (release l n.sess).emit (.nack (release l n.sess).now n.sess .retries n.mid true))) := by
  have hcon := hn.1
  obtain ⟨ca, dq, hg, hle, hdq⟩ := hi.sess n.sess
  obtain ⟨hest, hopen, hns, h256⟩ := hp n.sess
  by_cases hc : n.cnt < (par n.sess).maxRtx
  · obtain ⟨h8, h64, hn'⟩ := nodeOk_resend hn h256 hc
    obtain ⟨hroom, hca⟩ := slot_le hle hns
    have hres := retransmit_resend_con l n (by rw [hg]; exact hc) (by rw [hg]; exact hest) (by rw [hg]; exact hroom)
      h8 h64 hcon
    refine ⟨?_, Or.inl ⟨hc, by rw [hres], by rw [hres], fun s => ?_⟩⟩
    · rw [hres, hg]
      exact finv_enqueue _ (n.timeout * 2 ^ (n.cnt + 1)) _
        (finv_setS (finv_emit (.tx l.now n.sess n.mid (n.cnt + 1) true) hi) n.sess ((ca - 1 + 1) % 256) dq hca hdq) hn'
    · have : (retransmit l n).getS s = (l.setS n.sess { (l.getS n.sess) with
          conActive := ((l.getS n.sess).conActive - 1 + 1) % 256 }).getS s := by rw [hres]; rfl
      rw [this]
      exact delayq_setS_keep l n.sess s _ rfl
  · have heq := retransmit_giveup_eq l n (by rw [hg]; exact Nat.le_of_not_lt hc)
    rw [hcon, if_pos rfl] at heq
    exact ⟨by rw [heq]; exact finv_emit _ (release_finv hp l n.sess hi), Or.inr ⟨Nat.le_of_not_lt hc, heq⟩⟩

theorem retransmit_finv (hp : GPar par) (l : L) (n : Node) (hi : FInv False par P l) (hn : NodeOk par P n) :
    FInv False par P (retransmit l n) := (retransmit_cases hp l n hi hn).1

theorem dueLoop_cases (hp : GPar par) (f : Nat) (l : L)
    (hi : FInv False par P l) :
    (NothingDue l ∧ dueLoop (f + 1) l = l) ∨
    ∃ hd rest, popNext l.q.nodes = some (hd, rest) ∧ l.q.base + hd.t ≤ l.now ∧
      dueLoop (f + 1) l = dueLoop f (retransmit { l with q := { l.q with nodes := rest } } hd) ∧
      FInv False par P { l with q := { l.q with nodes := rest } } ∧ NodeOk par P hd ∧
      FInv False par P (retransmit { l with q := { l.q with nodes := rest } } hd) := by
  rcases dueLoop_round f l hi.base with h | ⟨hd, r, rest, _, hdue, hpop, hloop⟩
  · exact Or.inl h
  · have hall := all_popNext (nodeOk_tfree par P) l.q.nodes hd rest hpop hi.nodes
    have hi1 : FInv False par P { l with q := { l.q with nodes := rest } } := finv_mk hi.base hi.sess hall.2
    exact Or.inr ⟨hd, rest, hpop, hdue, hloop, hi1, hall.1, retransmit_finv hp _ hd hi1 hall.1⟩

theorem dueLoop_finv (hp : GPar par) : ∀ (f : Nat) (l : L), FInv False par P l → FInv False par P (dueLoop f l)
  | 0, _, hi => hi
  | f + 1, l, hi => by
    rcases dueLoop_cases hp f l hi with ⟨_, he⟩ | ⟨hd, rest, _, _, hloop, _, _, hi2⟩
    · rw [he]; exact hi
    · rw [hloop]; exact dueLoop_finv hp f _ hi2

/-- the scope of `FInv`: every event of the model on sessions that stay established — the clock does
not run backward; I/O steps; ACKs, RSTs, responses (cancel by token) and invalid-code ACKs at any time; `coap_send` of a
NON, or of a Confirmable with a positive timeout inside the no-wrap range (D7), WITH or WITHOUT NSTART room;
`coap_session_connected`.  Not in the scope: the session state changes `hold` (not established) and `disconnect`. -/
def EvG (l : L) : Ev → Prop
  | .setNow t => l.now ≤ t
  | .prepare => True
  | .submit s con _ r =>
    con = true →
    (0 < calcTimeout (l.getS s).atI (l.getS s).atF (l.getS s).arfI (l.getS s).arfF r ∧
     calcTimeout (l.getS s).atI (l.getS s).atF (l.getS s).arfI (l.getS s).arfF r * 2 ^ (l.getS s).maxRtx < 2 ^ 64)
  | .rxAck _ _ => True
  | .rxRst _ _ => True
  | .rxNon _ _ _ => True
  | .rxBad _ _ => True
  | .connect _ => True
  | .hold _ => False
  | .disconnect _ => False

def RunG (l : L) : List Ev → Prop
  | [] => True
  | ev :: evs => EvG l ev ∧ RunG (Msg.step l ev) evs

instance (l : L) (ev : Ev) : Decidable (EvG l ev) := by
  cases ev <;> simp only [EvG] <;> infer_instance

instance decRunG : (evs : List Ev) → (l : L) → Decidable (RunG l evs)
  | [], _ => isTrue trivial
  | ev :: evs, l => by
    unfold RunG
    exact @instDecidableAnd _ _ _ (decRunG evs _)

theorem removed_finv (l : L) (s mid : Nat) (hi : FInv False par P l) :
    FInv False par P { l with q := { l.q with nodes := (removeNode l.q.nodes s mid).2 } } ∧
    (∀ n, (removeNode l.q.nodes s mid).1 = some n → n.con = true ∧ n.mid = mid) :=
  have h3 := all_removeNode (nodeOk_tfree par P) l.q.nodes s mid hi.nodes
  ⟨finv_mk hi.base hi.sess h3.1, fun n hn => ⟨(h3.2 n hn).1, (removeNode_found _ _ _ _ hn).2.2⟩⟩

/-- on every queued node of the scope the token is the message id: `coap_cancel_all_messages` finds what the ACK branch finds -/
theorem removeTok_eq_removeNode : ∀ (l : List Node) (s tok : Nat), (∀ x ∈ l, x.tok = x.mid) →
    removeTok l s tok = removeNode l s tok
  | [], _, _, _ => rfl
  | n :: r, s, tok, h => by
    have hn : n.tok = n.mid := h n (by simp)
    have ih := removeTok_eq_removeNode r s tok (fun x hx => h x (by simp [hx]))
    unfold removeTok removeNode
    rw [hn, ih]

theorem afterRx_finv (hp : GPar par) (l : L) (hi : FInv False par P l) : FInv False par P (afterRx l) := by
  unfold afterRx
  rw [prepareCore_fst]
  exact dueLoop_finv hp _ l hi

theorem gsess_open (hp : GPar par) {l : L} (hs : GSess par P l) (s : Nat) : (l.getS s).sockOpen = true := by
  obtain ⟨ca, dq, hg, _, _⟩ := hs s
  rw [hg]; exact (hp s).2.1

theorem rxAck_finv (hp : GPar par) (l : L) (s mid : Nat) (hi : FInv False par P l) : FInv False par P (rxAck l s mid) := by
  have hi1 := (removed_finv l s mid hi).1
  unfold rxAck
  generalize removeNode l.q.nodes s mid = rm at *
  rcases rm with ⟨_ | n, rest⟩
  · exact hi1
  · exact release_finv hp _ s hi1

/-- number of nodes of (s, mid) that `coap_cancel_all_messages(session s', token)` removes (mirrors `cancelToken`) -/
def cancelCount (s mid : Nat) : Nat → L → Nat → Nat → Nat
  | 0, _, _, _ => 0
  | fuel + 1, l, s', tok =>
    match removeTok l.q.nodes s' tok with
    | (none, _) => 0
    | (some n, rest) =>
      (if n.sess = s ∧ n.mid = mid then 1 else 0) +
        cancelCount s mid fuel
          (if n.con then release { l with q := { l.q with nodes := rest } } s'
           else { l with q := { l.q with nodes := rest } }) s' tok

theorem cancelToken_cases (f : Nat) (l : L) (s tok : Nat)
    (hi : FInv False par P l) :
    ((removeNode l.q.nodes s tok).1 = none ∧ cancelToken (f + 1) l s tok = l ∧
      ∀ s0 m0, cancelCount s0 m0 (f + 1) l s tok = 0) ∨
    ((removeNode l.q.nodes s tok).1 ≠ none ∧ cancelToken (f + 1) l s tok = cancelToken f (rxAck l s tok) s tok ∧
      ∀ s0 m0, cancelCount s0 m0 (f + 1) l s tok =
        (if s = s0 ∧ tok = m0 then 1 else 0) + cancelCount s0 m0 f (rxAck l s tok) s tok) := by
  have heq := removeTok_eq_removeNode l.q.nodes s tok (fun x hx => (hi.nodes x hx).2.1)
  have h3 := all_removeNode (nodeOk_tfree par P) l.q.nodes s tok hi.nodes
  have hkey := removeNode_found l.q.nodes s tok
  rcases hrem : removeNode l.q.nodes s tok with ⟨sent, rest⟩
  rw [hrem] at heq h3 hkey
  cases sent with
  | none => exact Or.inl ⟨rfl, by simp [cancelToken, heq], fun _ _ => by simp [cancelCount, heq]⟩
  | some n =>
    have hcon := (h3.2 n rfl).1
    have el : rxAck l s tok = release { l with q := { l.q with nodes := rest } } s := by simp [rxAck, hrem]
    refine Or.inr ⟨by simp, ?_, fun s0 m0 => ?_⟩
    · rw [el]; simp [cancelToken, heq, hcon]
    · rw [el]; simp [cancelCount, heq, hcon, (hkey n rfl).2.1, (hkey n rfl).2.2]

theorem cancelToken_finv (hp : GPar par) :
    ∀ (fuel : Nat) (l : L) (s tok : Nat), FInv False par P l → FInv False par P (cancelToken fuel l s tok)
  | 0, _, _, _, hi => hi
  | f + 1, l, s, tok, hi => by
    rcases cancelToken_cases f l s tok hi with ⟨_, h, _⟩ | ⟨_, h, _⟩
    · rw [h]; exact hi
    · rw [h]; exact cancelToken_finv hp f _ s tok (rxAck_finv hp l s tok hi)

theorem rxRst_eq (l : L) (s m : Nat) (hcon : ∀ n, (removeNode l.q.nodes s m).1 = some n → n.con = true) :
    rxRst l s m = (rxAck l s m).emit (.nack l.now s .rst m (removeNode l.q.nodes s m).1.isSome) := by
  have hkey := removeNode_found l.q.nodes s m
  unfold rxRst rxAck
  rcases hrm : removeNode l.q.nodes s m with ⟨sent, rest⟩
  rw [hrm] at hcon hkey
  cases sent with
  | none => rfl
  | some n => simp only [hcon n rfl, (hkey n rfl).2.2, if_true, release_now, Option.isSome_some]

theorem rxBad_eq (l : L) (s mid : Nat) :
    rxBad l s mid = rxAck l s mid ∨ ∃ o, obsM o = none ∧ rxBad l s mid = (rxAck l s mid).emit o := by
  unfold rxBad rxAck
  rcases removeNode l.q.nodes s mid with ⟨sent, rest⟩
  cases sent with
  | none => exact Or.inl rfl
  | some n => exact Or.inr ⟨_, rfl, rfl⟩

theorem rxRst_finv (hp : GPar par) (l : L) (s mid : Nat) (hi : FInv False par P l) : FInv False par P (rxRst l s mid) := by
  rw [rxRst_eq l s mid (fun n hn => ((removed_finv l s mid hi).2 n hn).1)]
  exact finv_emit _ (rxAck_finv hp l s mid hi)

theorem rxBad_finv (hp : GPar par) (l : L) (s mid : Nat) (hi : FInv False par P l) : FInv False par P (rxBad l s mid) := by
  rcases rxBad_eq l s mid with h | ⟨o, _, h⟩
  · rw [h]; exact rxAck_finv hp l s mid hi
  · rw [h]; exact finv_emit _ (rxAck_finv hp l s mid hi)

theorem rxNon_finv (hp : GPar par) (l : L) (s mid tok : Nat) (hi : FInv False par P l) :
    FInv False par P (rxNon l s mid tok) :=
  finv_emit _ (cancelToken_finv hp (l.q.nodes.length + 1) l s tok hi)

theorem submit_non (hp : GPar par) (l : L) (s m r : Nat)
    (hi : FInv False par P l) :
    Msg.step l (.submit s false m r) = (l.emit (.tx l.now s m 0 false)).emit (.sub (some m)) := by
  obtain ⟨ca, dq, hg, _, _⟩ := hi.sess s
  have he : (l.getS s).est = true := by rw [hg]; exact (hp s).1
  simp [Msg.step, submit, gsess_open hp hi.sess s, gate, he]

/-- without NSTART room `con_active ≥ 1`, so the session whose delay queue the message joins exists (`getS_default`) -/
theorem submit_con_cases (hp : GPar par) (l : L)
    (s m r T : Nat) (hT : T = calcTimeout (l.getS s).atI (l.getS s).atF (l.getS s).arfI (l.getS s).arfF r)
    (hi : FInv False par P l) :
    (gate (l.getS s) true = false ∧ Msg.step l (.submit s true m r) =
      (waitAck ((l.emit (.tx l.now s m 0 true)).setS s
          { (l.getS s) with conActive := ((l.getS s).conActive + 1) % 256 })
        { sess := s, mid := m, t := 0, timeout := T, cnt := 0, tok := m, con := true }).emit (.sub (some m))) ∨
    (gate (l.getS s) true = true ∧ s < l.sess.length ∧
      (((l.getS s).delayq.any (fun x => x.mid = m) = true ∧ Msg.step l (.submit s true m r) = l.emit (.sub none)) ∨
       ((l.getS s).delayq.any (fun x => x.mid = m) = false ∧ Msg.step l (.submit s true m r) =
          (l.setS s { (l.getS s) with delayq := (l.getS s).delayq ++
            [{ sess := s, mid := m, t := 0, timeout := T, cnt := 0, tok := m, con := true }] }).emit
              (.sub (some m))))) := by
  subst hT
  obtain ⟨ca, dq, hg, hle, hdq⟩ := hi.sess s
  obtain ⟨hest, hopen, hns, h256⟩ := hp s
  have hso := gsess_open hp hi.sess s
  by_cases hroom : ca < (par s).nstart
  · have hgt : gate (l.getS s) true = false := gate_of_room _ (by rw [hg]; exact hest) (by rw [hg]; exact hroom)
    exact Or.inl ⟨hgt, submit_sent l s m r hso hgt⟩
  · have hgt : gate (l.getS s) true = true := by
      have : (l.getS s).conActive ≥ (l.getS s).nstart := by rw [hg]; simp only []; omega
      simp [gate, this]
    have hin : s < l.sess.length := by
      apply Classical.byContradiction
      intro hn
      rw [getS_default hn] at hgt
      simp [gate] at hgt
    refine Or.inr ⟨hgt, hin, ?_⟩
    by_cases hany : (l.getS s).delayq.any (fun x => x.mid = m) = true
    · refine Or.inl ⟨hany, ?_⟩
      show submit l s true m r = _
      unfold submit
      simp only []
      rw [if_neg (by rw [hso]; decide), if_pos hgt, if_pos hany]
    · refine Or.inr ⟨Bool.eq_false_iff.2 hany, ?_⟩
      show submit l s true m r = _
      unfold submit
      simp only []
      rw [if_neg (by rw [hso]; decide), if_pos hgt, if_neg hany, if_pos True.intro]

theorem submit_finv (hp : GPar par) (l : L) (s : Nat) (con : Bool) (mid r : Nat)
    (hi : FInv False par P l) (hok : EvG l (.submit s con mid r))
    (hP : con = true → P s mid (calcTimeout (par s).atI (par s).atF (par s).arfI (par s).arfF r)) :
    FInv False par P (Msg.step l (.submit s con mid r)) := by
  obtain ⟨ca, dq, hg, hle, hdq⟩ := hi.sess s
  cases con with
  | false =>
    rw [submit_non hp l s mid r hi]
    exact finv_emit _ (finv_emit _ hi)
  | true =>
    obtain ⟨hT, h64⟩ := hok rfl
    have hPs := hP rfl
    have hT32 := calcTimeout_lt (l.getS s).atI (l.getS s).atF (l.getS s).arfI (l.getS s).arfF r
    have hmod := calcTimeout_mod (l.getS s).atI (l.getS s).atF (l.getS s).arfI (l.getS s).arfF r
    rcases submit_con_cases hp l s mid r _ rfl hi with ⟨hgt, hM⟩ | ⟨_, _, ⟨_, hM⟩ | ⟨_, hM⟩⟩
    · rw [hM, hg]
      rw [hg] at hT h64 hgt hmod
      simp only [] at hT h64 hmod
      simp only [waitAck, hmod]
      have hroom : ca < (par s).nstart := by
        simp only [gate, (hp s).1, Bool.not_true, Bool.false_or, Bool.true_and, decide_eq_false_iff_not] at hgt
        omega
      generalize calcTimeout (par s).atI (par s).atF (par s).arfI (par s).arfF r = T at *
      exact finv_emit _ (finv_enqueue _ T { sess := s, mid := mid, t := 0, timeout := T, cnt := 0, tok := mid, con := true }
        (finv_setS (finv_emit (.tx l.now s mid 0 true) hi) s ((ca + 1) % 256) dq (slot_take hroom) hdq)
        ⟨rfl, rfl, hT, Nat.zero_le _, h64, hPs⟩)
    · rw [hM]; exact finv_emit _ hi
    · rw [hM, hg]
      rw [hg] at hT h64 hT32
      refine finv_emit _ (finv_setS hi s ca _ hle fun x hx => ?_)
      rcases List.mem_append.1 hx with hx | hx
      · exact hdq x hx
      · rw [List.mem_singleton.1 hx]
        exact ⟨rfl, rfl, hT, hT32, rfl, h64, hPs⟩

theorem step_finv (hp : GPar par) (l : L) (ev : Ev) (hi : FInv False par P l) (hok : EvG l ev)
    (hP : ∀ s mid r, ev = .submit s true mid r →
      P s mid (calcTimeout (par s).atI (par s).atF (par s).arfI (par s).arfF r)) :
    FInv False par P (Msg.step l ev) := by
  cases ev with
  | setNow t => exact finv_mk (Nat.le_trans hi.base hok) hi.sess hi.nodes
  | prepare => exact finv_emit _ (afterRx_finv hp l hi)
  | submit s con mid r => exact submit_finv hp l s con mid r hi hok (fun hc => hP s mid r (by rw [hc]))
  | rxAck s mid =>
    simp only [Msg.step, gsess_open hp hi.sess s, if_true]
    exact afterRx_finv hp _ (rxAck_finv hp l s mid hi)
  | rxRst s mid =>
    simp only [Msg.step, gsess_open hp hi.sess s, if_true]
    exact afterRx_finv hp _ (rxRst_finv hp l s mid hi)
  | rxNon s mid tok =>
    simp only [Msg.step, gsess_open hp hi.sess s, if_true]
    exact afterRx_finv hp _ (rxNon_finv hp l s mid tok hi)
  | rxBad s mid =>
    simp only [Msg.step, gsess_open hp hi.sess s, if_true]
    exact afterRx_finv hp _ (rxBad_finv hp l s mid hi)
  | connect s => exact connected_finv hp l s hi
  | hold s => exact hok.elim
  | disconnect s => exact hok.elim

theorem run_finv (hp : GPar par) :
    ∀ (evs : List Ev) (l : L), FInv False par P l → RunG l evs →
      (∀ s mid r, Ev.submit s true mid r ∈ evs → P s mid (calcTimeout (par s).atI (par s).atF (par s).arfI (par s).arfF r)) →
      FInv False par P (Msg.run l evs) := by
  intro evs
  induction evs with
  | nil => intro l hi _ _; exact hi
  | cons ev evs ih =>
    intro l hi hin hP
    exact ih _ (step_finv hp l ev hi hin.1 (fun s mid r h => hP s mid r (by simp [h]))) hin.2
      (fun s mid r h => hP s mid r (by simp [h]))

theorem finv_init (P : Nat → Nat → Nat → Prop) (now0 : Nat) (sess : List Sess) (h : ∀ se ∈ sess, SessOk se) :
    FInv False (parOf sess) P (Msg.init now0 sess) := by
  refine finv_mk (Nat.zero_le _) (fun s => ?_) (fun _ hn => nomatch hn)
  have hok := parOf_ok sess h s
  refine ⟨(parOf sess s).conActive, [], ?_, hok.2.2.2.2.2, fun _ hn => nomatch hn⟩
  show parOf sess s = _
  have := hok.2.1
  cases hps : parOf sess s
  rw [hps] at this
  simp_all

/-- the clock is never moved past a pending deadline — what sleeping no longer than the wait `coap_io_prepare_io`
returned guarantees (`Coap.C06.wait_le_every_deadline`, `sleep_returned_wait_ok`) -/
def EvClock (l : L) : Ev → Prop
  | .setNow t => ∀ e ∈ abs l.q, t ≤ e.deadline
  | _ => True

def ClockOk (l : L) : List Ev → Prop
  | [] => True
  | ev :: evs => EvClock l ev ∧ ClockOk (Msg.step l ev) evs

instance (l : L) (ev : Ev) : Decidable (EvClock l ev) := by
  cases ev <;> simp only [EvClock] <;> infer_instance

instance decClockOk : (evs : List Ev) → (l : L) → Decidable (ClockOk l evs)
  | [], _ => isTrue trivial
  | ev :: evs, l => by
    unfold ClockOk
    exact @instDecidableAnd _ _ _ (decClockOk evs _)

/-- whatever the sessions do — no scope: every event but a clock move keeps `Fut` (`kept_fut`), and the clock moves stay short
of every deadline -/
theorem punctual_of_clockOk : ∀ (evs : List Ev) (l : L), l.q.base ≤ l.now → Fut True l → Mono l evs → ClockOk l evs →
    Punctual l evs
  | [], _, _, _, _, _ => trivial
  | ev :: evs, l, hb, hf, hm, hck => by
    have hpe : EvPunct l ev := by
      cases ev <;> first | trivial | exact hf trivial
    have h : (Msg.step l ev).q.base ≤ (Msg.step l ev).now ∧ Fut True (Msg.step l ev) := by
      cases ev with
      | setNow t => exact ⟨Nat.le_trans hb hm.1, fun _ => hck.1⟩
      | _ => exact kept_step (kept_fut True) l _ ⟨hb, hf⟩ (fun _ e => nomatch e) (fun _ _ _ _ _ => trivial)
    exact ⟨hpe, punctual_of_clockOk evs _ h.1 h.2 hm.2 hck.2⟩

theorem runG_mono : ∀ (evs : List Ev) (l : L), RunG l evs → Mono l evs
  | [], _, _ => trivial
  | ev :: evs, l, h => ⟨by cases ev <;> first | exact h.1 | trivial, runG_mono evs _ h.2⟩

theorem runG_append (l : L) (a b : List Ev) : RunG l (a ++ b) ↔ RunG l a ∧ RunG (Msg.run l a) b := by
  induction a generalizing l with
  | nil => simp [RunG, Msg.run]
  | cons e a ih =>
    simp only [List.cons_append, RunG, Msg.run, List.foldl_cons]
    rw [ih]
    simp only [Msg.run, and_assoc]

end Coap.Sched
