import CoapVerif.Model.AllocRecv
import CoapVerif.Lemmas.AllocOracle
/-
C18 — helper lemmas for the receive path of a reliable session (Model/AllocRecv.lean): coap_read_session reaches the heap only
through coap_pdu_init / coap_pdu_resize / coap_delete_pdu, on the session's partial PDU, so what these three keep every step
of a script keeps (`PduInv`) — for every oracle, every dispatch oracle, every byte stream.  With the ownership invariant
`Own o L h` of Lemmas/AllocOracle.lean (`pduInit_own`, `resize_own`): the live objects are exactly the session's partial PDU (buffer + header object, or
nothing) plus what was live before.
-/
namespace Coap.AllocRecv
open Coap Coap.AllocOracle Coap.AllocBlock

theorem owned_none {s : RSess} (h : s.ppdu = none) : owned s = [] := by simp [owned, h]

theorem owned_length_le (s : RSess) : (owned s).length ≤ 2 := by
  unfold owned; cases s.ppdu <;> simp

/-- `K o h`: a property of the objects `o` of a receive PDU (buffer and header object, or none) and the heap that the three
calls of the receive path keep.  Used with "the live objects are `o` and what was live before" (`Own`) and, `o` ignored, with
the ledger invariant. -/
structure PduInv (K : List Nat → Heap → Prop) : Prop where
  init : ∀ size h, K [] h → K (match (pduInit size h).1 with | none => [] | some p => [p.bufId, p.id]) (pduInit size h).2
  resize : ∀ p n h, K [p.bufId, p.id] h → K [(resize p n h).2.1.bufId, (resize p n h).2.1.id] (resize p n h).2.2
  delete : ∀ p h, K [p.bufId, p.id] h → K [] (pduDelete p h)

theorem own_pduInv (L : List Nat) : PduInv fun o h => Own o L h where
  init size h hO := by
    have := pduInit_own size hO
    generalize (pduInit size h).1 = r at this ⊢
    cases r <;> exact this
  resize p n h hO := by
    have := resize_own (o := [p.id]) n hO
    rw [this.2]; exact this.1
  delete p h hO := Own.free_head (Own.free_head hO)

theorem PduInv.of_closed {P : Heap → Prop} (c : C18.Closed P) : PduInv fun _ h => P h :=
  ⟨c.pduInit, c.resize, c.pduDelete⟩

def RInv (L : List Nat) (s : RSess) (w : RW) : Prop := Own (owned s) L w.h

def StInv (K : List Nat → Heap → Prop) (st : RState) : Prop :=
  match st.sess with
  | some s => K (owned s) st.w.h
  | none => K [] st.w.h

/-- `StInv` for ownership: by unfolding `StInv (fun o h => Own o L h) st` -/
def SInv (L : List Nat) (st : RState) : Prop :=
  match st.sess with
  | some s => RInv L s st.w
  | none => Own [] L st.w.h

namespace PduInv
variable {K : List Nat → Heap → Prop} (c : PduInv K)
include c

theorem sessionFree {s : RSess} {w : RW} (hI : K (owned s) w.h) : K [] (sessionFree s w).h := by
  unfold owned at hI
  unfold AllocRecv.sessionFree
  cases hp : s.ppdu with
  | none => rw [hp] at hI; exact hI
  | some p => rw [hp] at hI; exact c.delete p.pdu _ hI

theorem disconnected {s : RSess} {w : RW} (hI : K (owned s) w.h) :
    K (owned (disconnected s w).1) (disconnected s w).2.h :=
  c.sessionFree hI

theorem dispatchDelete {parsed : Option Msg} {p : OPdu} {s : RSess} {w : RW} (hs : s.ppdu = none)
    (hO : K [p.bufId, p.id] w.h) :
    K (owned (dispatchDelete parsed p s w).1) (dispatchDelete parsed p s w).2.h := by
  unfold AllocRecv.dispatchDelete
  cases parsed with
  | none => rw [owned_none hs]; exact c.delete p _ hO
  | some m =>
    simp only
    by_cases hd : dcHead w.dcs = true
    · simp only [hd, if_true, AllocRecv.disconnected, hs]
      exact c.delete p _ hO
    · simp only [hd, Bool.false_eq_true, if_false]
      rw [owned_none hs]; exact c.delete p _ hO

theorem headerDone (maxRcv : Nat) {s : RSess} {w : RW} (rh : Bytes) (hdrSize hl : Nat)
    (hp : s.ppdu = none) (hO : K [] w.h) :
    K (owned (headerDone maxRcv s w rh hdrSize hl).2.1) (headerDone maxRcv s w rh hdrSize hl).2.2.h := by
  have hI : K (owned s) w.h := by rw [owned_none hp]; exact hO
  unfold AllocRecv.headerDone
  cases M.parseSizeTcp rh with
  | rej => exact hI
  | oob => exact hI
  | ok size =>
    simp only
    by_cases hm : size > M.Stream.maxRx
    · rw [if_pos hm]; exact hI
    · rw [if_neg hm]
      have hPI := c.init maxRcv w.h hO
      rcases hq : AllocOracle.pduInit maxRcv w.h with ⟨_ | p0, h1⟩
      · rw [hq] at hPI
        rw [owned_none hp]; exact hPI
      · rw [hq] at hPI
        simp only at hPI ⊢
        have hR : K [(growTo p0 size h1).2.1.bufId, (growTo p0 size h1).2.1.id] (growTo p0 size h1).2.2 := by
          unfold growTo
          split
          · exact c.resize p0 size h1 hPI
          · exact hPI
        split
        · exact hR
        · split
          · exact c.dispatchDelete rfl hR
          · exact hR

theorem loop (maxRcv : Nat) : ∀ (fuel : Nat) (s : RSess) (w : RW) (bs : Bytes), K (owned s) w.h →
    K (owned (AllocRecv.loop maxRcv fuel s w bs).2.1) (AllocRecv.loop maxRcv fuel s w bs).2.2.h := by
  intro fuel
  induction fuel with
  | zero => intro s w bs hI; exact hI
  | succ fuel ih =>
    intro s w bs hI
    unfold AllocRecv.loop
    by_cases h0 : bs.length = 0
    · rw [if_pos h0]; exact hI
    · rw [if_neg h0]
      cases hp : s.ppdu with
      | some p =>
        have hO : K [p.pdu.bufId, p.pdu.id] w.h := by
          unfold owned at hI; rw [hp] at hI; exact hI
        simp only
        split
        · exact ih _ _ _ (c.dispatchDelete rfl hO)
        · exact ih _ _ _ hO
      | none =>
        have hO : K [] w.h := by rw [owned_none hp] at hI; exact hI
        simp only
        by_cases hpr : s.partialRead > 0
        · rw [if_pos hpr]
          cases M.rd s.rh 0 with
          | rej => exact hI
          | oob => exact hI
          | ok b0 =>
            simp only
            split
            · exact hI
            · split
              · have hH := c.headerDone maxRcv (s := s) (w := w)
                  (List.take s.partialRead s.rh ++ List.take (min (M.headerSize Proto.tcp b0 + tokExtOf b0 - s.partialRead) bs.length) bs)
                  (M.headerSize Proto.tcp b0) (M.headerSize Proto.tcp b0 + tokExtOf b0) hp hO
                split
                · exact ih _ _ _ hH
                · exact hH
              · exact ih _ _ _ hO
        · rw [if_neg hpr]
          cases bs with
          | nil => exact hI
          | cons b r =>
            simp only
            split
            · exact hI
            · exact ih _ _ _ hO

theorem call (maxRcv : Nat) : ∀ (fuel : Nat) (s : RSess) (w : RW) (avail : Bytes), K (owned s) w.h →
    K (owned (call maxRcv fuel s w avail).2.1) (call maxRcv fuel s w avail).2.2.h := by
  intro fuel
  induction fuel with
  | zero => intro s w avail hI; exact hI
  | succ fuel ih =>
    intro s w avail hI
    unfold AllocRecv.call
    have hL := c.loop maxRcv ((List.take M.Stream.rxBuf avail).length + 1) s w (List.take M.Stream.rxBuf avail) hI
    simp only
    generalize AllocRecv.loop maxRcv ((List.take M.Stream.rxBuf avail).length + 1) s w (List.take M.Stream.rxBuf avail) = r at hL ⊢
    cases r.1 with
    | ok =>
      simp only
      split
      · exact ih _ _ _ hL
      · exact hL
    | fail => exact c.disconnected hL
    | oob => exact hL

theorem recvStep (maxRcv : Nat) {st : RState} (e : REv) (hI : StInv K st) : StInv K (recvStep maxRcv st e).2 := by
  obtain ⟨sess, w⟩ := st
  cases sess with
  | none => cases e <;> exact hI
  | some s =>
    have hI : K (owned s) w.h := hI
    cases e with
    | chunk bs =>
      simp only [AllocRecv.recvStep]
      split
      · exact c.call maxRcv _ s w bs hI
      · exact hI
    | eof =>
      simp only [AllocRecv.recvStep]
      split
      · exact c.disconnected hI
      · exact hI
    | newSess => exact c.sessionFree hI

theorem recvRun (maxRcv : Nat) : ∀ (evs : List REv) (st : RState), StInv K st → StInv K (recvRun maxRcv st evs).2
  | [], _, hI => hI
  | e :: es, _, hI => recvRun maxRcv es _ (c.recvStep maxRcv e hI)

theorem recvCleanup {st : RState} (hI : StInv K st) : K [] (recvCleanup st).h := by
  obtain ⟨sess, w⟩ := st
  cases sess with
  | none => exact hI
  | some s => exact c.sessionFree hI

end PduInv

theorem call_fail (maxRcv : Nat) : ∀ (fuel : Nat) (s : RSess) (w : RW) (avail : Bytes), (call maxRcv fuel s w avail).1 = .fail →
    (call maxRcv fuel s w avail).2.1.up = false ∧ (call maxRcv fuel s w avail).2.1.ppdu = none := by
  intro fuel
  induction fuel with
  | zero => intro s w avail hf; exact nomatch hf
  | succ fuel ih =>
    intro s w avail
    unfold call
    simp only
    generalize loop maxRcv ((List.take M.Stream.rxBuf avail).length + 1) s w (List.take M.Stream.rxBuf avail) = r
    cases he : r.1 with
    | ok =>
      simp only
      split
      · exact ih _ _ _
      · intro hf; rw [he] at hf; cases hf
    | fail => exact fun _ => ⟨rfl, rfl⟩
    | oob => intro hf; rw [he] at hf; cases hf

end Coap.AllocRecv
