import CoapVerif.Lemmas.EditTrace
/-
M-side lemmas for the editors (C04): where the edited message comes from and where it goes —
 * the PDU a successful parse leaves behind is the representing PDU of the decoded message (`ofParsed_eq_conc`,
   and `tcpLen_drop` for the variable-length header of the reliable framing);
 * along any `EditTrace` whose values respect the RFC per-option length limits the header fields stay and the limits
   are kept (`editTrace_keeps`), so the round-trip half of C04 needs no hypothesis about the RESULT of the edits.
-/
namespace Coap
open Coap.M

theorem Shape_of_optsOk (a : Msg) (ht : a.token.length ≤ 65804) (ho : Spec.optsOk a.code 0 a.opts = true) : Shape a := by
  obtain ⟨h1, h2⟩ := optsOk_sorted a.code 0 a.opts ho
  exact ⟨ht, h1, fun o hm => ⟨(h2 o hm).2.1, (h2 o hm).2.2.1⟩⟩

/-- the decoder accepts only canonical encodings (`body_canonical`), so the received bytes behind the fixed header ARE the
representing buffer of the decoded message -/
theorem ofParsed_eq_conc (ms ty code mid tkl : Nat) (bs : Bytes) (m : Msg)
    (h : Spec.body ty code mid tkl bs = some m) : ofParsed ms m bs = conc ms m ∧ Shape m := by
  by_cases hc : code = 0
  · subst hc
    obtain ⟨_, rfl, rfl⟩ := body_canonical0 h
    exact ⟨rfl, by simp [Shape]⟩
  · obtain ⟨_, hcd, _, _, ht, hrest, hok⟩ := body_canonical hc h
    refine ⟨?_, Shape_of_optsOk m ht (by rw [hcd]; exact hok)⟩
    subst hrest
    unfold ofParsed conc
    by_cases hp : m.payload = []
    · simp [hp, lastNum]
    · simp [hp, lastNum, Spec.encPayload, Spec.encToken]
      omega

open Coap.Spec.Stream in
/-- the fixed header of the reliable framing: first byte, extended length (0, 1, 2 or 4 bytes), code -/
theorem tcpLen_drop (b0 c : UInt8) (r0 r2 : Bytes) (len : Nat) (h : Spec.tcpLen (b0.toNat / 16) r0 = some (len, c :: r2)) :
    (b0 :: r0).drop (headerSize .tcp b0.toNat) = r2 := by
  have hL : b0.toNat / 16 < 16 := by have := byte_lt b0; omega
  by_cases he : r0.length < extLenBytes (b0.toNat / 16)
  · rw [tcpLen_short _ _ hL he] at h; cases h
  · obtain ⟨_, _, hs⟩ := tcpLen_full b0 r0 (Nat.le_of_not_lt he)
    rw [h] at hs
    rw [← fixedLen_eq, fixedLen, Nat.add_comm 1, List.drop_succ_cons, ← List.drop_drop, ← (Prod.mk.inj (Option.some.inj hs)).2]
    rfl

/-- the caller keeps the RFC's per-option length limits (the API does not enforce them) -/
def editLenOk (code : Nat) : Spec.Edit → Prop
  | .insert n v => Spec.optLenOk code n v.length = true
  | .update n v => Spec.optLenOk code n v.length = true
  | _ => True

def AllLenOk (code : Nat) (os : List (Nat × Bytes)) : Prop := ∀ o ∈ os, Spec.optLenOk code o.1 o.2.length = true

/-- Hop-Limit = 16 (one byte) is within RFC 8768's limit in every request -/
theorem hop_len_ok : ∀ code, code < 32 → Spec.optLenOk code 16 1 = true := by decide

theorem allLen_insert {code : Nat} {os : List (Nat × Bytes)} (n : Nat) (v : Bytes) (h : AllLenOk code os)
    (hv : Spec.optLenOk code n v.length = true) : AllLenOk code (Spec.insertStable n v os) :=
  forall_insertStable n v os h hv

theorem allLen_replace {code : Nat} {os : List (Nat × Bytes)} (n : Nat) (v : Bytes) (h : AllLenOk code os)
    (hv : Spec.optLenOk code n v.length = true) : AllLenOk code (Spec.replaceFirst n v os) :=
  forall_replaceFirst n v os h hv

theorem allLen_remove {code : Nat} {os : List (Nat × Bytes)} (n : Nat) (h : AllLenOk code os) :
    AllLenOk code (Spec.removeFirst n os) :=
  fun o ho => h o ((removeFirst_sublist n os).subset ho)

theorem hopApplies_code {code n : Nat} {os : List (Nat × Bytes)} (h : Spec.hopApplies code n os = true) : code < 32 :=
  (hopApplies_iff.1 h).1.1.2

theorem hopDomain_code {a : Msg} {e : Spec.Edit} (h : hopDomain a (callOf e) = true) : a.code < 32 := by
  cases e with
  | insert n v => exact hopApplies_code (show Spec.hopApplies a.code n a.opts = true from h)
  | update n v =>
    have h' : (Spec.hopApplies a.code n a.opts && !Spec.hasOpt n a.opts) = true := h
    simp at h'
    exact hopApplies_code h'.1
  | remove n => cases h
  | setToken t => cases h

theorem applyEdit_keeps (hop : Bool) (a : Msg) (e : Spec.Edit) (hh : hop = true → hopDomain a (callOf e) = true)
    (h : AllLenOk a.code a.opts) (he : editLenOk a.code e) :
    (Spec.applyEdit hop a e).code = a.code ∧ (Spec.applyEdit hop a e).type = a.type ∧ (Spec.applyEdit hop a e).mid = a.mid ∧
      AllLenOk a.code (Spec.applyEdit hop a e).opts := by
  have hbase : AllLenOk a.code (if hop = true then Spec.insertStable 16 [16] a.opts else a.opts) :=
    ite_ind (fun ht => allLen_insert 16 [16] h (hop_len_ok a.code (hopDomain_code (hh ht)))) fun _ => h
  cases e with
  | insert n v => exact ⟨rfl, rfl, rfl, allLen_insert n v hbase he⟩
  | update n v =>
    refine ⟨rfl, rfl, rfl, ?_⟩
    show AllLenOk a.code (if Spec.hasOpt n a.opts = true then Spec.replaceFirst n v a.opts else Spec.addSem hop n v a.opts)
    exact ite_ind (fun _ => allLen_replace n v h he) fun _ => allLen_insert n v hbase he
  | remove n => exact ⟨rfl, rfl, rfl, allLen_remove n h⟩
  | setToken t => exact ⟨rfl, rfl, rfl, h⟩

theorem editTrace_keeps {a a' : Msg} {es : List Spec.Edit} {rcs : List Nat} (h : EditTrace a es rcs a') :
    AllLenOk a.code a.opts → (∀ e ∈ es, editLenOk a.code e) →
    a'.code = a.code ∧ a'.type = a.type ∧ a'.mid = a.mid ∧ AllLenOk a.code a'.opts := by
  induction h with
  | nil a => intro h _; exact ⟨rfl, rfl, rfl, h⟩
  | @accepted a0 a1 e es rc rcs hop _ hh _ ih =>
    intro h he
    obtain ⟨k1, k2, k3, k4⟩ := applyEdit_keeps hop a0 e hh h (he e (List.mem_cons_self ..))
    rw [k1] at ih
    obtain ⟨i1, i2, i3, i4⟩ := ih k4 (fun x hx => he x (List.mem_cons_of_mem _ hx))
    exact ⟨i1, by rw [i2, k2], by rw [i3, k3], i4⟩
  | refused _ ih =>
    intro h he
    exact ih h (fun x hx => he x (List.mem_cons_of_mem _ hx))

theorem allLen_of_optsOk {code prev : Nat} {os : List (Nat × Bytes)} (h : Spec.optsOk code prev os = true) : AllLenOk code os :=
  fun o ho => ((optsOk_sorted code prev os h).2 o ho).2.2.2

end Coap
