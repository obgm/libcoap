import CoapVerif.Model.SendQueue
import CoapVerif.Generated.Consts2
/-
`coap_calc_timeout` with the default transmission parameters against the table extract/consts2_net.c prints from the
compiled function, one entry per PRNG byte.  The table is compared as a list, so that each entry is reached once.
-/
namespace Coap
open Coap.Generated

theorem getD_of_map_range {f : Nat → Nat} {l : List Nat} {n : Nat} (h : (List.range n).map f = l) {r : Nat}
    (hr : r < n) : f r = l.getD r 0 := by
  rw [← h, List.getD_eq_getElem?_getD, List.getElem?_map, List.getElem?_range hr]
  rfl

namespace SQ

theorem calcTimeout_default_table : (List.range 256).map (calcTimeout 2 0 1 500) = C2.calcTimeoutDefault := by
  decide +kernel

end SQ

end Coap
