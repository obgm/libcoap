import CoapVerif.Lemmas.StreamWsFrames
/- C05, WebSocket part: from one `coap_ws_read` to the whole connection.  A `coap_read_session` call (`readSession`: the
   do … while (more) loop around `coap_ws_read`) in the frame phase and from any state of the invariant, the event loop
   on one chunk, and the whole sequence of chunks = S on the concatenation (`feed_spec`).
   All three loops are stated with one judgement: as far as S is concerned a reader function went on, closed the
   session, or left its buffers / stalled (`Outc`), and `Rem I R0 o` says that S's answer `R0` is what `o` delivered
   followed by S's answer from the position of the state reached on the bytes left.  `Rem.pre` is the one step by
   which every loop composes its first call with the rest. -/
namespace Coap
open Coap.M Coap.M.Ws Coap.Spec.Stream Coap.Spec.Stream.Ws

theorem deliver_nil_append (x : Option Msg) (l : List Msg) : deliver x l = deliver x [] ++ l := by
  cases x <;> rfl

theorem HdrPend_length {mode : Mode} {p : Bytes} (h : HdrPend mode p) : p.length < fsCap := by
  match p, h with
  | [], _ => simp [fsCap]
  | [_], _ => simp [fsCap]
  | _ :: b1 :: r, h =>
    have := hExtra_le b1.toNat
    have := h.2
    simp only [List.length_cons, fsCap]; omega

theorem frOf_pend (mode : Mode) (st : St) (p : Bytes) (h : WsInv mode st (.fr p)) : frOf mode p = ([], false) := by
  rcases h with ⟨_, h⟩ | ⟨_, _, b0, b1, r, D, hp, hr, hm, hop, hsize, _, hmax, _, _, hlt, _, _⟩
  · match p, h with
    | [], _ => rfl
    | [_], _ => rfl
    | b0 :: b1 :: r, h => rw [frOf_cons2, if_neg h.1, if_pos h.2]
  · rw [hp, frOf_frame mode b0 b1 r D hr hm hop (by rw [← hsize]; exact hmax), ← hsize, if_pos hlt]

theorem wsRead_up (mode : Mode) (accept : Bytes) (st : St) (av : Bytes) (hup : st.up = true) :
    wsRead mode accept rxBuf st av = readFrame mode rxBuf (av.length + fsCap + 2) st av := by
  simp [wsRead, hup]

theorem wsRead_fr_spec (mode : Mode) (accept : Bytes) (X : Bytes) (st : St) (av p : Bytes) (h : WsInv mode st (.fr p)) :
    FrPost mode X True p av (wsRead mode accept rxBuf st av) := by
  rcases h with h | ⟨hup, hall, b0, b1, r, D, hp, hr, hm, hop, hsize, hpos, hmax, hkey, hofs, hlt, hrx, hpre⟩
  · rw [wsRead_up mode accept st av h.1.1]
    have hl := HdrPend_length h.2
    have := readFrame_spec mode X (av.length + fsCap + 2) st av p h.1 (by omega) (by omega)
    exact this.weaken fun _ => hl
  · rw [wsRead_up mode accept st av hup, readFrame_dataD mode rxBuf _ st av hall, hp]
    refine readData_post mode X st av [] D b0 b1 r hup hall ⟨hr, hm, hop, hsize, hpos, hmax, hkey⟩ ?_ hofs.symm
      (by omega) ?_ hpre
    · rw [hrx]
      by_cases hd : D = []
      · simp [hd]
      · simp only [if_neg hd, hofs, List.take_length]
    · by_cases hd : D = []
      · left; rw [hrx, if_pos hd]
      · right; exact hd

theorem Res.pre_nil (r : Res) : Res.pre [] r = r := rfl

theorem Res.pre_pre (a b : List Msg) (r : Res) : Res.pre a (Res.pre b r) = Res.pre (a ++ b) r := by
  simp [Res.pre, List.append_assoc]

inductive Outc where
  | go (ms : List Msg) (st : St) (av : Bytes)
  | stop (ms : List Msg)
  | bad

def Outc.pre (ms : List Msg) : Outc → Outc
  | .go ms' st av => .go (ms ++ ms') st av
  | .stop ms' => .stop (ms ++ ms')
  | .bad => .bad

def ofSess : List Msg × Sess × Bytes → Outc
  | (ms, .open st, av) => .go ms st av
  | (ms, .closed, _) => .stop ms
  | (_, .oob, _) => .bad

def ofChunk : List Msg × Sess × Bool → Outc
  | (ms, .open st, false) => .go ms st []
  | (_, .open _, true) => .bad
  | (ms, .closed, _) => .stop ms
  | (_, .oob, _) => .bad

theorem ofSess_pre (ms : List Msg) (r : List Msg × Sess × Bytes) : ofSess (ms ++ r.1, r.2.1, r.2.2) = (ofSess r).pre ms := by
  obtain ⟨ms', s, b⟩ := r
  cases s <;> rfl

theorem ofChunk_pre (ms : List Msg) (r : List Msg × Sess × Bool) : ofChunk (ms ++ r.1, r.2.1, r.2.2) = (ofChunk r).pre ms := by
  obtain ⟨ms', s, b⟩ := r
  cases s <;> cases b <;> rfl

/-- `R0` = what S makes of everything from here on, `X` = the bytes not yet available: `o` delivered what S delivers
first, and S goes on from a position `a` of the state reached (`I`: what ties them, given the bytes left) -/
def Rem (mode : Mode) (accept X : Bytes) (I : Bytes → St → Abs → Prop) (R0 : Res) : Outc → Prop
  | .go ms st av => ∃ a, I av st a ∧ R0 = Res.pre ms (specFrom mode accept a (av ++ X))
  | .stop ms => R0.msgs = ms ∧ R0.closed = true
  | .bad => False

section
variable {mode : Mode} {accept X : Bytes} {I J : Bytes → St → Abs → Prop} {R0 R1 : Res} {o : Outc}

theorem Rem.here {st : St} {av : Bytes} {a : Abs} (h : I av st a) :
    Rem mode accept X I (specFrom mode accept a (av ++ X)) (.go [] st av) := ⟨a, h, rfl⟩

theorem Rem.pre {ms : List Msg} (hR : R0 = Res.pre ms R1) (k : Rem mode accept X J R1 o) :
    Rem mode accept X J R0 (o.pre ms) := by
  subst hR
  cases o with
  | bad => exact k
  | stop ms' => exact ⟨by simp only [Res.pre, k.1], k.2⟩
  | go ms' st' av' =>
    obtain ⟨a', hj, hR'⟩ := k
    exact ⟨a', hj, by rw [hR', Res.pre_pre]⟩

theorem Rem.mono (h : Rem mode accept X I R0 o) (hij : ∀ av st a, I av st a → J av st a) : Rem mode accept X J R0 o := by
  cases o with
  | bad => exact h
  | stop ms => exact h
  | go ms st av => exact ⟨h.choose, hij _ _ _ h.choose_spec.1, h.choose_spec.2⟩

end

/-- S's frame-phase answer as a pair (`frOf`, the form of `FrPost`) and as a `Res` -/
theorem frRes_pre (mode : Mode) (A B : Bytes) (ms : List Msg) (h : frOf mode A = (ms ++ (frOf mode B).1, (frOf mode B).2)) :
    frRes mode A = Res.pre ms (frRes mode B) := by
  simp only [frRes_eq, h, Res.pre]

/-- from the first `coap_ws_read` of a call to the whole call; `ihrec` = the statement for the remaining rounds.  `p`, `av0` =
the parser position and the bytes S's remaining answer is stated from: they differ from `st.rdHeader`, `av` when the call
first finished the handshake (the frame part then starts with what `coap_ws_rd_http_header` left) -/
theorem readSession_of_post (mode : Mode) (accept : Bytes) (X : Bytes) (fuel : Nat)
    (ihrec : ∀ (st : St) (av p : Bytes), FrPre st p → p.length ≤ fsCap → p.length + av.length < fuel →
      Rem mode accept X (fun av' st' a' => WsInv mode st' a' ∧ Prog (p.length < fsCap) av av') (frRes mode (p ++ (av ++ X)))
        (ofSess (readSession mode accept fuel st av)))
    (st : St) (av p av0 : Bytes) (c : Prop)
    (hpost : FrPost mode X c p av0 (wsRead mode accept rxBuf st av)) (hfuel : min p.length fsCap + av0.length ≤ fuel + 2) :
    Rem mode accept X (fun av' st' a' => WsInv mode st' a' ∧ Prog c av0 av') (frRes mode (p ++ (av0 ++ X)))
      (ofSess (readSession mode accept (fuel + 1) st av)) := by
  rw [readSession]
  generalize wsRead mode accept rxBuf st av = res at hpost
  obtain ⟨ret, st', av'⟩ := res
  cases ret with
  | err => exact hpost.elim
  | oob => exact hpost.elim
  | closed => exact ⟨congrArg Prod.fst hpost, congrArg Prod.snd hpost⟩
  | zero =>
    obtain ⟨⟨p', hi, hf⟩, hp⟩ := hpost
    exact ⟨.fr p', ⟨hi, hp⟩, by simp only [Res.pre_nil, specFrom, frRes_eq, hf]⟩
  | pkt pl =>
    obtain ⟨hpre, hle, hmeas, hf, hp1, hp2⟩ := hpost
    simp only [parse_eq .ws]
    have hR := frRes_pre mode _ _ _ (hf.trans (by rw [deliver_nil_append]))
    by_cases hrd : st'.rdHeader.length > 0
    · rw [if_pos hrd, ofSess_pre]
      refine Rem.pre hR ((ihrec st' av' st'.rdHeader hpre hle (by omega)).mono fun _ _ _ h => ⟨h.1, ?_⟩)
      exact ⟨Nat.le_trans h.2.1 hp1, fun hc hne => Nat.lt_of_le_of_lt h.2.1 (hp2 hc hne)⟩
    · rw [if_neg hrd]
      have hnil : st'.rdHeader = [] := List.length_eq_zero_iff.mp (by omega)
      rw [hnil] at hR hpre
      exact ⟨.fr [], ⟨Or.inl ⟨hpre, trivial⟩, hp1, hp2⟩, hR⟩

theorem readSession_fr (mode : Mode) (accept : Bytes) (X : Bytes) : ∀ (fuel : Nat) (st : St) (av p : Bytes),
    FrPre st p → p.length ≤ fsCap → p.length + av.length < fuel →
    Rem mode accept X (fun av' st' a' => WsInv mode st' a' ∧ Prog (p.length < fsCap) av av') (frRes mode (p ++ (av ++ X)))
      (ofSess (readSession mode accept fuel st av)) := by
  intro fuel
  induction fuel with
  | zero => intro st av p _ _ h; omega
  | succ fuel ih =>
    intro st av p hpre hle hfuel
    refine readSession_of_post mode accept X fuel ih st av p av _ ?_ (by omega)
    rw [wsRead_up mode accept st av hpre.1]
    exact readFrame_spec mode X _ st av p hpre hle (by omega)

theorem wsRead_hs (mode : Mode) (accept : Bytes) (st : St) (av : Bytes) (hup : st.up = false) :
    wsRead mode accept rxBuf st av =
      match rdHttpHeader mode accept (av.length + 2) st av with
      | R.rej => (.err, st, av)
      | R.oob => (.oob, st, av)
      | R.ok (st', av') =>
        if !st'.up then (.zero, st', av') else if st'.rdHeader.length = 0 then (.zero, st', av')
        else readFrame mode rxBuf (av'.length + fsCap + 2) st' av' := by
  unfold wsRead
  rw [if_pos (by rw [hup]; rfl)]
  rfl

theorem readSession_spec (mode : Mode) (accept : Bytes) (X : Bytes) (st : St) (av : Bytes) (a : Abs)
    (hinv : WsInv mode st a) :
    Rem mode accept X (fun av' st' a' => WsInv mode st' a' ∧ (av ≠ [] → av'.length < av.length))
      (specFrom mode accept a (av ++ X)) (ofSess (readSession mode accept (av.length + fsCap + 2) st av)) := by
  have hfr := readSession_of_post mode accept X _ (readSession_fr mode accept X (av.length + fsCap + 1)) st av
  cases a with
  | fr p =>
    exact (hfr p av True (wsRead_fr_spec mode accept X st av p hinv) (by omega)).mono
      fun _ _ _ h => ⟨h.1, h.2.2 trivial⟩
  | hs s l =>
    obtain ⟨hhs, rfl, rfl⟩ := hinv
    have hspec := rdHttpHeader_spec mode accept X (av.length + 2) st av hhs (by omega)
    have hw := wsRead_hs mode accept st av hhs.1
    simp only [specFrom]
    generalize rdHttpHeader mode accept (av.length + 2) st av = rr at hspec hw
    cases rr with
    | oob => exact hspec.elim
    | rej =>
      rw [show av.length + fsCap + 2 = (av.length + fsCap + 1) + 1 from rfl, readSession, hw]
      exact ⟨congrArg Res.msgs hspec, congrArg Res.closed hspec⟩
    | ok pr =>
      obtain ⟨st', av'⟩ := pr
      obtain ⟨hdown, hup⟩ := hspec
      cases hu : st'.up with
      | false =>
        obtain ⟨rfl, hinv', hR⟩ := hdown hu
        rw [show av.length + fsCap + 2 = (av.length + fsCap + 1) + 1 from rfl, readSession, hw]
        simp only [hu, Bool.not_false, if_true]
        exact ⟨.hs st'.seen st'.httpHdr, ⟨⟨hinv', rfl, rfl⟩, List.length_pos_iff.mpr⟩, hR⟩
      | true =>
        obtain ⟨hpre, hlen, hav, hR⟩ := hup hu
        dsimp only at hpre hlen hav hR
        rw [hR]
        simp only [hu, Bool.not_true, Bool.false_eq_true, if_false] at hw
        by_cases h0 : st'.rdHeader.length = 0
        · rw [show av.length + fsCap + 2 = (av.length + fsCap + 1) + 1 from rfl, readSession, hw, if_pos h0]
          have hnil : st'.rdHeader = [] := List.length_eq_zero_iff.mp h0
          rw [hnil] at hpre ⊢
          exact ⟨.fr [], ⟨Or.inl ⟨hpre, trivial⟩, fun _ => hav⟩, rfl⟩
        · rw [if_neg h0] at hw
          have hpost := readFrame_spec mode X (av'.length + fsCap + 2) st' av' st'.rdHeader hpre (by omega) (by omega)
          rw [← hw] at hpost
          exact (hfr st'.rdHeader av' _ hpost (by omega)).mono fun _ _ _ h => ⟨h.1, fun _ => Nat.lt_of_le_of_lt h.2.1 hav⟩

/-- the loop never stalls: every call with bytes available consumes at least one (`readSession_spec`), so the `idle`
branch is not taken and the fuel suffices -/
theorem feedChunk_spec (mode : Mode) (accept : Bytes) (X : Bytes) : ∀ (fuel idle : Nat) (st : St) (av : Bytes) (a : Abs),
    WsInv mode st a → av.length < fuel →
    Rem mode accept X (fun _ => WsInv mode) (specFrom mode accept a (av ++ X))
      (ofChunk (feedChunk mode accept fuel idle st av)) := by
  intro fuel
  induction fuel with
  | zero => intro _ _ av _ _ h; omega
  | succ fuel ih =>
    intro idle st av a hinv hfuel
    rw [feedChunk]
    by_cases h0 : av.length = 0
    · rw [if_pos h0, List.eq_nil_of_length_eq_zero h0]
      exact Rem.here hinv
    · rw [if_neg h0]
      have hs := readSession_spec mode accept X st av a hinv
      generalize readSession mode accept (av.length + fsCap + 2) st av = res at hs
      obtain ⟨ms, sess, av'⟩ := res
      cases sess with
      | oob => exact hs
      | closed => exact hs
      | «open» st' =>
        obtain ⟨a', ⟨hi, hlt⟩, hR⟩ := hs
        have hlt := hlt fun h => h0 (by rw [h]; rfl)
        simp only [if_neg (Nat.ne_of_lt hlt)]
        rw [ofChunk_pre]
        exact Rem.pre hR (ih 0 st' av' a' hi (by omega))

inductive WsEnd where
  | open (up : Bool) | closed | oob | stuck
  deriving DecidableEq, Repr

/-- M_ws: the messages handed to coap_dispatch, and how the session ends -/
def wsObs (r : List Msg × Sess × Bool) : List Msg × WsEnd :=
  (r.1, match r.2.1 with
        | .open st => if r.2.2 then .stuck else .open st.up
        | .closed => .closed
        | .oob => .oob)

/-- S_ws: the same observation -/
def specObs (r : Res) : List Msg × WsEnd := (r.msgs, if r.closed then .closed else .open r.up)

/-- S finds no further message in what a reader state of the invariant holds -/
theorem specFrom_pend (mode : Mode) (accept : Bytes) (st : St) (a : Abs) (h : WsInv mode st a) :
    specFrom mode accept a [] = ⟨[], st.up, false⟩ := by
  cases a with
  | hs s l =>
    obtain ⟨⟨hup, hno, hlen, _⟩, _, hl⟩ := h
    subst hl
    simp only [specFrom, List.append_nil]
    rw [hsRes_pend _ mode s st.httpHdr hno hlen, hup]
  | fr p =>
    have hp := frOf_pend mode st p h
    have hup : st.up = true := by
      rcases h with h | h
      · exact h.1.1
      · exact h.1
    simp only [specFrom, List.append_nil, frRes_eq, hp, hup]

theorem feed_rem (mode : Mode) (accept X : Bytes) : ∀ (chunks : List Bytes) (st : St) (a : Abs), WsInv mode st a →
    Rem mode accept X (fun _ => WsInv mode) (specFrom mode accept a (chunks.flatten ++ X))
      (ofChunk (feed mode accept st chunks)) := by
  intro chunks
  induction chunks with
  | nil => intro st a hinv; exact Rem.here hinv
  | cons c cs ih =>
    intro st a hinv
    have hc := feedChunk_spec mode accept (cs.flatten ++ X) (6 * (c.length + 1)) 0 st c a hinv (by omega)
    rw [List.flatten_cons, List.append_assoc, feed]
    generalize feedChunk mode accept (6 * (c.length + 1)) 0 st c = r at hc
    obtain ⟨ms, sess, stuck⟩ := r
    cases sess with
    | oob => exact hc
    | closed => exact hc
    | «open» st' =>
      cases stuck with
      | true => exact hc.elim
      | false =>
        obtain ⟨a', hi, hR⟩ := hc
        simp only
        rw [ofChunk_pre]
        exact Rem.pre hR (ih st' a' hi)

theorem feed_spec (mode : Mode) (accept : Bytes) (chunks : List Bytes) (st : St) (a : Abs) (hinv : WsInv mode st a) :
    Rem mode accept [] (fun _ => WsInv mode) (specFrom mode accept a chunks.flatten) (ofChunk (feed mode accept st chunks)) := by
  have := feed_rem mode accept [] chunks st a hinv
  rwa [List.append_nil] at this

theorem Rem.open_end {mode : Mode} {accept : Bytes} {R0 : Res} {ms : List Msg} {st' : St} {stuck : Bool}
    (h : Rem mode accept [] (fun _ => WsInv mode) R0 (ofChunk (ms, .open st', stuck))) :
    stuck = false ∧ ∃ a', WsInv mode st' a' ∧ R0 = ⟨ms, st'.up, false⟩ := by
  cases stuck with
  | true => exact h.elim
  | false =>
    obtain ⟨a', hi, hR⟩ := h
    refine ⟨rfl, a', hi, ?_⟩
    rw [hR, List.append_nil, specFrom_pend mode accept st' a' hi]
    simp [Res.pre]

theorem feed_open {mode : Mode} {accept : Bytes} {chunks : List Bytes} {st st' : St} {a : Abs} (hinv : WsInv mode st a)
    (h : (feed mode accept st chunks).2.1 = .open st') :
    (feed mode accept st chunks).2.2 = false ∧
    ∃ a', WsInv mode st' a' ∧ specFrom mode accept a chunks.flatten = ⟨(feed mode accept st chunks).1, st'.up, false⟩ := by
  have hp := feed_spec mode accept chunks st a hinv
  generalize feed mode accept st chunks = r at hp h
  obtain ⟨ms, sess, stuck⟩ := r
  subst h
  exact hp.open_end

theorem wsObs_of_rem (mode : Mode) (accept : Bytes) (R0 : Res) (r : List Msg × Sess × Bool)
    (h : Rem mode accept [] (fun _ => WsInv mode) R0 (ofChunk r)) : wsObs r = specObs R0 := by
  obtain ⟨ms, sess, stuck⟩ := r
  cases sess with
  | oob => exact h.elim
  | closed => simp only [wsObs, specObs, ← h.1, h.2, if_true]
  | «open» st' =>
    obtain ⟨rfl, _, _, rfl⟩ := h.open_end
    simp [wsObs, specObs]

/-- phase and bytes consumed but not yet delivered, read off the reader state: before `up` the validator state and
the line buffer; inside a frame header `rd_header[0 .. hdr_ofs)`; inside a payload the complete header (its length
is determined by its second byte) ++ `rx_data[0 .. data_ofs)` -/
def wsAbs (st : St) : Abs :=
  if !st.up then .hs st.seen st.httpHdr
  else if st.allHdrIn then
    .fr (st.rdHeader.take (2 + hExtra (st.rdHeader.getD 1 0).toNat) ++ st.rxData.getD [])
  else .fr st.rdHeader

theorem wsAbs_of_inv (mode : Mode) (st : St) (a : Abs) (h : WsInv mode st a) : wsAbs st = a := by
  cases a with
  | hs s l =>
    obtain ⟨⟨hup, _⟩, hs, hl⟩ := h
    simp [wsAbs, hup, hs, hl]
  | fr p =>
    rcases h with ⟨⟨hup, hall, hrd, _⟩, _⟩ | ⟨hup, hall, b0, b1, r, D, hp, hr, _, _, _, _, _, _, _, _, hrx, ⟨junk, hpre⟩⟩
    · simp [wsAbs, hup, hall, hrd]
    · have htake : st.rdHeader.take (2 + hExtra (st.rdHeader.getD 1 0).toNat) = b0 :: b1 :: r := by
        rw [← hpre]
        simp only [List.cons_append, List.getD_cons_succ, List.getD_cons_zero]
        rw [show 2 + hExtra b1.toNat = (b0 :: b1 :: r).length by simp only [List.length_cons]; omega]
        exact List.take_left' rfl
      have hget : st.rxData.getD [] = D := by
        rw [hrx]
        by_cases hd : D = []
        · simp [hd]
        · simp [hd]
      simp only [wsAbs, hup, hall, Bool.not_true, Bool.false_eq_true, if_false, if_true, htake, hget, hp]
      simp

end Coap
