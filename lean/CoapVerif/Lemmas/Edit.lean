import CoapVerif.Lemmas.Build
/- M-side lemmas for the editors (C04): coap_update_token. -/
namespace Coap
open Coap.M

theorem tokfield_zero (t : Bytes) (h : (Spec.extBytes t.length).length + t.length = 0) : t = [] := by
  have : t.length = 0 := by omega
  exact List.eq_nil_of_length_eq_zero this

theorem wr_zero (junk tail new : Bytes) (h : new.length = junk.length) : wr (junk ++ tail) 0 new = R.ok (new ++ tail) := by
  unfold wr
  have hle : 0 + new.length ≤ (junk ++ tail).length := by simp; omega
  rw [if_pos hle]
  simp only [List.take_zero, List.nil_append, Nat.zero_add]
  rw [h, List.drop_left]

/-- what `coap_update_token` stores after its memmove, in all three directions: `junk` is whatever occupies the first
bytes after the move (old token bytes, or stale bytes when the field grew); in the shape `simp` leaves the model in
(the `if` outside the bind), for any continuation -/
theorem ut_close {β : Type} (t junk rest : Bytes) (hj : junk.length = (Spec.encToken t).length) (f : Bytes → β) :
    (if t.length ≠ 0 then (wr (junk ++ rest) 0 (Spec.extBytes t.length ++ t) >>= fun b => R.ok (f b))
     else ((R.ok (junk ++ rest) : R Bytes) >>= fun b => R.ok (f b))) = R.ok (f (Spec.encToken t ++ rest)) := by
  by_cases htl : t.length = 0
  · obtain rfl : t = [] := List.eq_nil_of_length_eq_zero htl
    obtain rfl : junk = [] := List.eq_nil_of_length_eq_zero hj
    rfl
  · rw [if_pos htl, wr_zero junk rest _ (by rw [hj]; rfl)]
    rfl

/-- an offset behind a field of size `o` that becomes `n`: up by `n - o` or down by `o - n` -/
theorem move_off (o n x : Nat) : o + x + (n - o) - (o - n) = n + x := by
  rcases Nat.le_total o n with h | h
  · rw [Nat.sub_eq_zero_of_le h, Nat.sub_zero]; omega
  · rw [Nat.sub_eq_zero_of_le h, Nat.add_zero]; omega

/-- `coap_update_token` on a non-empty PDU whose buffer starts with the old token field `old`: the field is replaced,
what follows is moved up by `n - |old|` or down by `|old| - n` (`n` the new field's size); capacity is asked for only when
the field grows -/
theorem updateToken_splice (pdu : Pdu) (t old rest : Bytes) (ht : t.length ≤ 65804)
    (hbuf : pdu.buf = old ++ rest) (hetl : pdu.etl = old.length) (hne : ¬ pdu.buf.length = 0) :
    updateToken pdu t =
      if (Spec.encToken t).length ≤ old.length ∨
          checkResize pdu (pdu.buf.length + (Spec.encToken t).length - old.length) = true then
        R.ok (1, { pdu with tokLen := t.length, etl := (Spec.encToken t).length % 4294967296,
                            buf := Spec.encToken t ++ rest,
                            data := pdu.data.map
                              (· + ((Spec.encToken t).length - old.length) - (old.length - (Spec.encToken t).length)) })
      else R.ok (0, pdu) := by
  have hn : t.length + (Spec.extBytes t.length).length = (Spec.encToken t).length := by
    rw [encToken_length]; omega
  unfold updateToken
  simp only [hne, if_false, tokBias_eq t.length ht, tokHdr_ext, hn, hetl]
  simp only [hbuf]
  rcases Nat.lt_trichotomy (Spec.encToken t).length old.length with hlt | heq | hgt
  · have e1 : (Spec.encToken t).length - old.length = 0 := by omega
    rw [if_neg (by omega), if_neg (by omega), if_pos (Or.inl (by omega)), e1,
      List.drop_append_of_le_length (by omega)]
    refine (ut_close t _ rest (by rw [List.length_drop]; omega) _).trans ?_
    simp only [Nat.add_zero]
  · have e1 : (Spec.encToken t).length - old.length = 0 := by omega
    have e2 : old.length - (Spec.encToken t).length = 0 := by omega
    rw [if_pos heq, if_pos (Or.inl (by omega)), e1, e2]
    refine (ut_close t _ rest heq.symm _).trans ?_
    simp only [Nat.add_zero, Nat.sub_zero, Option.map_id']
  · have e2 : old.length - (Spec.encToken t).length = 0 := by omega
    rw [if_neg (by omega), if_pos hgt, e2]
    by_cases hcr : checkResize pdu ((old ++ rest).length + (Spec.encToken t).length - old.length) = true
    · rw [if_neg (by rw [hcr]; exact fun h => h rfl), if_pos (Or.inr hcr), ← List.append_assoc]
      refine (ut_close t _ rest (by rw [List.length_append, List.length_replicate]; omega) _).trans ?_
      simp only [Nat.sub_zero]
    · rw [if_pos hcr, if_neg (fun h => h.elim (by omega) hcr)]

/-- refused for a token the wire format cannot carry and for a growing token field that does not fit; else the token is replaced
and nothing else: option and payload bytes, `max_opt` and the payload offset follow -/
theorem updateToken_nonempty (ms : Nat) (a : Msg) (t : Bytes) (hne : (conc ms a).buf ≠ []) :
    updateToken (conc ms a) t =
      if t.length > 65804 then R.ok (0, conc ms a)
      else if (Spec.encToken t).length ≤ (Spec.encToken a.token).length ∨ ms = 0 ∨
          (conc ms { a with token := t }).buf.length ≤ ms
        then R.ok (1, conc ms { a with token := t }) else R.ok (0, conc ms a) := by
  have hlenne : ¬ ((conc ms a).buf.length = 0) := fun h => hne (List.eq_nil_of_length_eq_zero h)
  by_cases hv : t.length > 65804
  · rw [if_pos hv]
    unfold updateToken
    simp only [hlenne, if_false, tokBias_none t.length hv]
  · rw [if_neg hv, updateToken_splice (conc ms a) t (Spec.encToken a.token)
      (Spec.encOpts 0 a.opts ++ Spec.encPayload a.payload) (by omega) rfl (conc_etl ms a) hlenne]
    have he1 := extBytes_len_le t.length
    have hEt := encToken_length t
    refine ite_congr (propext ?_) (fun _ => congrArg R.ok (Prod.ext rfl ?_)) (fun _ => rfl)
    · have hl : (conc ms a).buf.length = (Spec.encToken a.token).length +
          (Spec.encOpts 0 a.opts ++ Spec.encPayload a.payload).length := List.length_append
      have hl' : (conc ms { a with token := t }).buf.length = (Spec.encToken t).length +
          (Spec.encOpts 0 a.opts ++ Spec.encPayload a.payload).length := List.length_append
      rw [checkResize_iff, conc_maxSize, hl, hl']
      omega
    · rename_i hfit
      clear hfit
      rw [Nat.mod_eq_of_lt (by omega), hEt]
      have hEa := encToken_length a.token
      by_cases hp : a.payload = []
      · simp [conc, hp]
      · simp [conc, hp]
        rw [← hEa, Nat.add_assoc (Spec.encToken a.token).length _ 1, move_off]
        exact (Nat.add_assoc _ _ _).symm

end Coap
