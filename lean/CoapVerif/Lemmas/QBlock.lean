import CoapVerif.Model.QBlock
import CoapVerif.Lemmas.Block
/- Lemmas about the Q-Block model (Model/QBlock.lean): the 4.08 missing-blocks parser never reads behind the payload, always
   ends, only ever names blocks of the body; the server's encoder and the client's parser agree; the gap walk of the
   missing-blocks loops lists exactly the unrecorded numbers below the highest recorded one. -/
namespace Coap.QBlock
open Coap Coap.Block Coap.Spec.Block

/-- `derive_cbor_value` called as the 4.08 loop calls it (`rem_len = data + length - bp`, `bp < data + length`): it stays
inside the payload and consumes between 1 and 5 bytes -/
theorem deriveCbor_spec (bp : Bytes) (hne : bp ≠ []) :
    ∃ v pre rest, deriveCbor bp bp.length = .ok (v, rest) ∧ bp = pre ++ rest ∧ 1 ≤ pre.length ∧ pre.length ≤ 5 := by
  rcases bp with _ | ⟨b0, r1⟩
  · exact absurd rfl hne
  · unfold deriveCbor
    simp only []
    by_cases h1 : b0.toNat % 32 < 24
    · rw [if_pos h1]; exact ⟨_, [b0], r1, rfl, rfl, by simp, by simp⟩
    · rw [if_neg h1]
      by_cases h2 : b0.toNat % 32 = 24
      · rw [if_pos h2]
        rcases r1 with _ | ⟨b1, r2⟩
        · exact ⟨cborFail, [b0], [], by simp, rfl, by simp, by simp⟩
        · exact ⟨b1.toNat, [b0, b1], r2, by simp [show ¬ (r2.length + 1 + 1 < 2) by omega], rfl, by simp, by simp⟩
      · rw [if_neg h2]
        by_cases h3 : b0.toNat % 32 = 25
        · rw [if_pos h3]
          rcases r1 with _ | ⟨b1, _ | ⟨b2, r3⟩⟩
          · exact ⟨cborFail, [b0], [], by simp, rfl, by simp, by simp⟩
          · exact ⟨cborFail, [b0], [b1], by simp, rfl, by simp, by simp⟩
          · exact ⟨b1.toNat * 256 + b2.toNat, [b0, b1, b2], r3, by simp [show ¬ (r3.length + 1 + 1 + 1 < 3) by omega], rfl, by simp, by simp⟩
        · rw [if_neg h3]
          rcases r1 with _ | ⟨b1, _ | ⟨b2, _ | ⟨b3, _ | ⟨b4, r5⟩⟩⟩⟩
          · exact ⟨cborFail, [b0], [], by simp, rfl, by simp, by simp⟩
          · exact ⟨cborFail, [b0], [b1], by simp, rfl, by simp, by simp⟩
          · exact ⟨cborFail, [b0], [b1, b2], by simp, rfl, by simp, by simp⟩
          · exact ⟨cborFail, [b0], [b1, b2, b3], by simp, rfl, by simp, by simp⟩
          · exact ⟨b1.toNat * 16777216 + b2.toNat * 65536 + b3.toNat * 256 + b4.toNat, [b0, b1, b2, b3, b4], r5,
              by simp [show ¬ (r5.length + 1 + 1 + 1 + 1 + 1 < 5) by omega], rfl, by simp, by simp⟩

/-- what the 4.08 loop guarantees about the messages it sends, as an invariant over `acc`: `t` is `txOf body szx t.num`, a
20-bit number, inside the body, not empty (in the spelling of `C02.q408_only_blocks_of_body`) -/
def TxOk (body : Bytes) (szx : Nat) (t : QTx) : Prop :=
  t.num < 2 ^ 20 ∧ blockOffset t.num szx < body.length ∧
  t.payload = (body.drop (blockOffset t.num szx)).take (2 ^ (szx + 4)) ∧ t.payload ≠ [] ∧
  t.m = moreBit body.length t.num szx

theorem addBlock_txok (body : Bytes) (szx num : Nat) (p : Bytes) (hn : ¬ num > 2 ^ 20 - 1) (h : addBlock body num szx = some p) :
    TxOk body szx ⟨num, moreBit body.length num szx, p⟩ := by
  unfold addBlock at h
  simp only [] at h
  split at h
  · simp at h
  · rename_i hlt
    have hp : p = (body.drop (blockOffset num szx)).take (2 ^ (szx + 4)) := by simpa using h.symm
    refine ⟨by show num < 2 ^ 20; omega, by show blockOffset num szx < body.length; omega, hp, ?_, rfl⟩
    rw [hp]
    intro hnil
    have hl := congrArg List.length hnil
    simp only [List.length_take, List.length_drop, List.length_nil] at hl
    have : 0 < 2 ^ (szx + 4) := Nat.two_pow_pos _
    omega

theorem q408Loop_spec (body : Bytes) (szx : Nat) : ∀ (n : Nat) (bp : Bytes) (acc : List QTx),
    (∀ t, t ∈ acc → TxOk body szx t) →
    ∃ o, q408Loop body szx n bp acc = .ok o ∧ (∀ t, t ∈ o.sent → TxOk body szx t) ∧
      o.sent.length ≤ acc.length + n ∧ o.sent.length ≤ acc.length + bp.length
  | 0, bp, acc, hacc => by
    refine ⟨⟨acc.reverse, .done⟩, rfl, ?_, by simp, by simp⟩
    intro t ht; exact hacc t (by simpa using ht)
  | n + 1, [], acc, hacc => by
    refine ⟨⟨acc.reverse, .done⟩, rfl, ?_, by simp, by simp⟩
    intro t ht; exact hacc t (by simpa using ht)
  | n + 1, b0 :: r, acc, hacc => by
    have hdone : ∀ e, (∀ t, t ∈ (⟨acc.reverse, e⟩ : Q408Out).sent → TxOk body szx t) := by
      intro e t ht; exact hacc t (by simpa using ht)
    unfold q408Loop
    simp only []
    by_cases hmt : b0.toNat / 64 ≠ 0
    · rw [if_pos hmt]
      exact ⟨_, rfl, hdone _, by simp, by simp⟩
    · rw [if_neg hmt]
      obtain ⟨v, pre, rest, hd, hsplit, hp1, hp5⟩ := deriveCbor_spec (b0 :: r) (by simp)
      rw [hd]
      simp only []
      by_cases hbig : v > 2 ^ 20 - 1
      · rw [if_pos hbig]
        exact ⟨_, rfl, hdone _, by simp, by simp⟩
      · rw [if_neg hbig]
        cases hab : addBlock body v szx with
        | none => exact ⟨_, rfl, hdone _, by simp, by simp⟩
        | some p =>
          simp only []
          have hacc' : ∀ t, t ∈ (⟨v, moreBit body.length v szx, p⟩ :: acc) → TxOk body szx t := by
            intro t ht
            rcases List.mem_cons.mp ht with h | h
            · rw [h]; exact addBlock_txok body szx v p hbig hab
            · exact hacc t h
          obtain ⟨o, ho, h1, h2, h3⟩ := q408Loop_spec body szx n rest _ hacc'
          refine ⟨o, ho, h1, ?_, ?_⟩
          · simp only [List.length_cons] at h2; omega
          · have hl := congrArg List.length hsplit
            simp only [List.length_cons, List.length_append] at hl h3 ⊢
            omega

theorem deriveCbor_imm (b0 : UInt8) (r : Bytes) (k : Nat) (h : b0.toNat % 32 < 24) :
    deriveCbor (b0 :: r) k = .ok (b0.toNat % 32, r) := by
  simp only [deriveCbor, h, if_true]

theorem deriveCbor_1 (b0 b1 : UInt8) (r : Bytes) (k : Nat) (h : b0.toNat % 32 = 24) (hk : ¬ k < 2) :
    deriveCbor (b0 :: b1 :: r) k = .ok (b1.toNat, r) := by
  simp only [deriveCbor, h, hk, if_true, if_false, show ¬ (24 < 24) by omega]

theorem deriveCbor_2 (b0 b1 b2 : UInt8) (r : Bytes) (k : Nat) (h : b0.toNat % 32 = 25) (hk : ¬ k < 3) :
    deriveCbor (b0 :: b1 :: b2 :: r) k = .ok (b1.toNat * 256 + b2.toNat, r) := by
  simp only [deriveCbor, h, hk, if_true, if_false, show ¬ (25 < 24) by omega, show ¬ (25 = 24) by omega]

theorem deriveCbor_4 (b0 b1 b2 b3 b4 : UInt8) (r : Bytes) (k : Nat) (h : b0.toNat % 32 = 26) (hk : ¬ k < 5) :
    deriveCbor (b0 :: b1 :: b2 :: b3 :: b4 :: r) k =
      .ok (b1.toNat * 16777216 + b2.toNat * 65536 + b3.toNat * 256 + b4.toNat, r) := by
  simp only [deriveCbor, h, hk, if_false, show ¬ (26 < 24) by omega, show ¬ (26 = 24) by omega,
    show ¬ (26 = 25) by omega]

/-- `add_408_block` refuses exactly the numbers a Block option cannot carry: the first test decides, every arm behind it writes bytes -/
theorem add408Block_none_iff (n : Nat) : add408Block n = none ↔ 2 ^ 20 ≤ n := by
  unfold add408Block
  by_cases h0 : n ≥ 2 ^ 20
  · rw [if_pos h0]; exact ⟨fun _ => h0, fun _ => rfl⟩
  · rw [if_neg h0]
    let P : Option Bytes → Prop := fun o => o = none ↔ 2 ^ 20 ≤ n
    have arm : ∀ x, P (some x) := fun _ => ⟨fun h => (nomatch h), fun h => absurd h h0⟩
    show P _
    exact ite_ind (fun _ => arm _) fun _ => ite_ind (fun _ => arm _) fun _ => ite_ind (fun _ => arm _) fun _ => arm _

theorem derive_add408 (n : Nat) (x rest : Bytes) (h : add408Block n = some x) :
    deriveCbor (x ++ rest) (x ++ rest).length = .ok (n, rest) ∧ n < 2 ^ 20 ∧
    ∃ b0 t, x = b0 :: t ∧ b0.toNat / 64 = 0 := by
  unfold add408Block at h
  by_cases h0 : n ≥ 2 ^ 20
  · rw [if_pos h0] at h; cases h
  · rw [if_neg h0] at h
    by_cases h1 : n < 24
    · rw [if_pos h1] at h
      cases h
      have hb : (UInt8.ofNat n).toNat = n := UInt8.toNat_ofNat_of_lt' (show n < 256 by omega)
      refine ⟨?_, by omega, _, _, rfl, by rw [hb]; omega⟩
      rw [List.cons_append, deriveCbor_imm _ _ _ (by rw [hb]; omega), hb, Nat.mod_eq_of_lt (by omega)]
      rfl
    · rw [if_neg h1] at h
      by_cases h2 : n < 256
      · rw [if_pos h2] at h
        cases h
        refine ⟨?_, by omega, _, _, rfl, by decide⟩
        rw [List.cons_append, List.cons_append, deriveCbor_1 _ _ _ _ (by decide) (by rw [List.length_cons, List.length_cons]; omega),
          UInt8.toNat_ofNat_of_lt' h2]
        rfl
      · rw [if_neg h2] at h
        by_cases h3 : n < 65536
        · rw [if_pos h3] at h
          cases h
          refine ⟨?_, by omega, _, _, rfl, by decide⟩
          rw [List.cons_append, List.cons_append, List.cons_append,
            deriveCbor_2 _ _ _ _ _ (by decide) (by simp only [List.length_cons]; omega),
            UInt8.toNat_ofNat_of_lt' (show n / 256 < 256 by omega), UInt8.toNat_ofNat_of_lt' (show n % 256 < 256 by omega),
            show n / 256 * 256 + n % 256 = n by omega]
          rfl
        · rw [if_neg h3] at h
          cases h
          refine ⟨?_, by omega, _, _, rfl, by decide⟩
          rw [List.cons_append, List.cons_append, List.cons_append, List.cons_append, List.cons_append,
            deriveCbor_4 _ _ _ _ _ _ _ (by decide) (by simp only [List.length_cons]; omega),
            UInt8.toNat_ofNat_of_lt' (show n / 65536 < 256 by omega), UInt8.toNat_ofNat_of_lt' (show n / 256 % 256 < 256 by omega),
            UInt8.toNat_ofNat_of_lt' (show n % 256 < 256 by omega), show (0 : UInt8).toNat = 0 from rfl,
            show 0 * 16777216 + n / 65536 * 65536 + n / 256 % 256 * 256 + n % 256 = n by omega]
          rfl

/-- the message the client sends for block `n` of its body -/
def txOf (body : Bytes) (szx n : Nat) : QTx :=
  ⟨n, moreBit body.length n szx, (body.drop (blockOffset n szx)).take (2 ^ (szx + 4))⟩

theorem encode408_cons {n : Nat} {ns : List Nat} {bs : Bytes} (h : encode408 (n :: ns) = some bs) :
    ∃ x y, add408Block n = some x ∧ encode408 ns = some y ∧ bs = x ++ y := by
  unfold encode408 at h
  cases hx : add408Block n with
  | none => rw [hx] at h; simp at h
  | some x =>
    cases hy : encode408 ns with
    | none => rw [hx, hy] at h; simp at h
    | some y => rw [hx, hy] at h; exact ⟨x, y, rfl, rfl, by simpa using h.symm⟩

theorem q408Loop_encode (body : Bytes) (szx : Nat) : ∀ (ns : List Nat) (k : Nat) (bs : Bytes) (acc : List QTx),
    encode408 ns = some bs → ns.length ≤ k → (∀ n, n ∈ ns → blockOffset n szx < body.length) →
    q408Loop body szx k bs acc = .ok ⟨acc.reverse ++ ns.map (txOf body szx), .done⟩
  | [], k, bs, acc, he, _, _ => by
    have : bs = [] := by simpa [encode408] using he.symm
    subst this
    cases k <;> simp [q408Loop]
  | n :: ns, 0, bs, acc, _, hk, _ => by simp at hk
  | n :: ns, k + 1, bs, acc, he, hk, hin => by
    obtain ⟨x, y, hx, hy, rfl⟩ := encode408_cons he
    obtain ⟨hd, hn, b0, t, hxe, hb0⟩ := derive_add408 n x y hx
    have hcons : x ++ y = b0 :: (t ++ y) := by rw [hxe]; rfl
    unfold q408Loop
    rw [hcons]
    simp only []
    rw [if_neg (by omega), ← hcons, hd]
    simp only []
    rw [if_neg (by omega)]
    have hoff := hin n (by simp)
    have hab : addBlock body n szx = some ((body.drop (blockOffset n szx)).take (2 ^ (szx + 4))) := by
      unfold addBlock; simp only []; rw [if_neg (by omega)]
    rw [hab]
    simp only []
    rw [q408Loop_encode body szx ns k y _ hy (by simp at hk; omega) (fun m hm => hin m (by simp [hm]))]
    simp [txOf]

/-- one round of the walk on a range that is in order and starts at or behind `nxt block`: the numbers in front of the range are
listed and `block` becomes the range's end, in either arm of the test (`begin = 0` is the case with nothing in front) -/
theorem gapLoop_cons (b e : Nat) (rest : Ranges) (block : Option Nat) (acc : List Nat) (hbe : b ≤ e) (hn : nxt block ≤ b) :
    gapLoop ((b, e) :: rest) block acc =
      gapLoop rest (some e) (acc ++ (List.range (b - nxt block)).map (· + nxt block)) := by
  conv => lhs; unfold gapLoop
  simp only []
  by_cases hc : nxt block ≤ b ∧ b ≠ 0
  · rw [if_pos hc, show (if b < e then e else b) = e by split <;> omega]
  · rw [if_neg hc]
    obtain rfl : b = 0 := Classical.byContradiction fun h0 => hc ⟨hn, h0⟩
    cases block with
    | none => rw [Nat.zero_sub, List.range_zero, List.map_nil, List.append_nil]
    | some k => exact absurd hn (Nat.not_succ_le_zero k)

/-- On well-formed ranges (`WfFrom`: what `insertAll_inv` of Lemmas/Block.lean keeps along any insertion sequence) the walk lists exactly the numbers from `block + 1`
on that are not recorded and lie below a recorded block, and ends with `block` = the highest recorded number. -/
theorem gapLoop_spec : ∀ (rs : Ranges) (lo : Nat) (block : Option Nat) (acc : List Nat),
    WfFrom lo rs → nxt block ≤ lo →
    (∀ g, g ∈ (gapLoop rs block acc).2 ↔ g ∈ acc ∨ (nxt block ≤ g ∧ ¬ Covers rs g ∧ ∃ k, Covers rs k ∧ g < k)) ∧
    (rs ≠ [] → ∃ r, rs.getLast? = some r ∧ (gapLoop rs block acc).1 = some r.2)
  | [], lo, block, acc, _, _ => by
    simp [gapLoop, covers_nil]
  | (b, e) :: rest, lo, block, acc, hw, hn => by
    obtain ⟨hlo, hbe, hw'⟩ := hw
    have hmem : ∀ g, (g ∈ (List.range (b - nxt block)).map (· + nxt block)) ↔ (nxt block ≤ g ∧ g < b) := by
      intro g
      simp only [List.mem_map, List.mem_range]
      constructor
      · rintro ⟨a, ha, rfl⟩; omega
      · intro hg; exact ⟨g - nxt block, by omega, by omega⟩
    rw [gapLoop_cons b e rest block acc hbe (Nat.le_trans hn hlo)]
    obtain ⟨ih1, ih2⟩ := gapLoop_spec rest (e + 2) (some e) _ hw' (Nat.le_succ (e + 1))
    refine ⟨fun g => ?_, fun _ => ?_⟩
    · have hlb : ∀ k, Covers rest k → e + 2 ≤ k := fun k => WfFrom_lb rest (e + 2) k hw'
      rw [ih1 g, List.mem_append, hmem g, show nxt (some e) = e + 1 from rfl]
      simp only [covers_cons]
      constructor
      · rintro ((h | ⟨h1, h2⟩) | ⟨h1, h2, k, hk, hlt⟩)
        · exact Or.inl h
        · exact Or.inr ⟨h1, fun hc => hc.elim (fun hc => by omega) (fun hc => by have := hlb g hc; omega),
            e, Or.inl ⟨hbe, Nat.le_refl _⟩, by omega⟩
        · exact Or.inr ⟨by omega, fun hc => hc.elim (fun hc => by omega) h2, k, Or.inr hk, hlt⟩
      · rintro (h | ⟨h1, h2, k, hk, hlt⟩)
        · exact Or.inl (Or.inl h)
        · by_cases hgb : g < b
          · exact Or.inl (Or.inr ⟨h1, hgb⟩)
          · have : ¬ (b ≤ g ∧ g ≤ e) := fun hc => h2 (Or.inl hc)
            refine Or.inr ⟨by omega, fun hc => h2 (Or.inr hc), ?_⟩
            rcases hk with hk | hk
            · omega
            · exact ⟨k, hk, hlt⟩
    · cases rest with
      | nil => exact ⟨(b, e), rfl, by simp [gapLoop]⟩
      | cons x xs =>
        obtain ⟨r, hr1, hr2⟩ := ih2 (by simp)
        exact ⟨r, by simpa [List.getLast?_cons_cons] using hr1, hr2⟩

end Coap.QBlock
