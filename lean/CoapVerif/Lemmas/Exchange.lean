import CoapVerif.Model.Exchange
/-
Helper lemmas for C07 about Model/Exchange.lean: counting handler calls in an output list, the message layer with
nothing held back, `handle_response` and `coap_dispatch` as equations per message type, and the two layer shapes of a
single exchange (`Idle`, `Wt n`) with what each client operation does on them.
-/
namespace Coap.Exch

/-- number of response-handler calls / NACK-handler calls in an output list -/
def nRsp (o : List Out) : Nat := o.countP (fun x => match x with | .callResponse _ _ => true | _ => false)
def nNack (o : List Out) : Nat := o.countP (fun x => match x with | .callNack _ _ => true | _ => false)
def nTx (d : Dgram) (o : List Out) : Nat := o.countP (fun x => match x with | .tx e => e == d | _ => false)

@[simp] theorem nRsp_nil : nRsp [] = 0 := rfl
@[simp] theorem nNack_nil : nNack [] = 0 := rfl
@[simp] theorem nRsp_append (a b : List Out) : nRsp (a ++ b) = nRsp a + nRsp b := by simp [nRsp, List.countP_append]
@[simp] theorem nNack_append (a b : List Out) : nNack (a ++ b) = nNack a + nNack b := by simp [nNack, List.countP_append]
@[simp] theorem nRsp_cons_tx (d : Dgram) (o : List Out) : nRsp (Out.tx d :: o) = nRsp o := by simp [nRsp]
@[simp] theorem nNack_cons_tx (d : Dgram) (o : List Out) : nNack (Out.tx d :: o) = nNack o := by simp [nNack]
@[simp] theorem nRsp_cons_rsp (d : Dgram) (b : Bool) (o : List Out) : nRsp (Out.callResponse d b :: o) = nRsp o + 1 := by simp [nRsp]
@[simp] theorem nNack_cons_rsp (d : Dgram) (b : Bool) (o : List Out) : nNack (Out.callResponse d b :: o) = nNack o := by simp [nNack]
@[simp] theorem nRsp_cons_nack (r : Nack) (m : Nat) (o : List Out) : nRsp (Out.callNack r m :: o) = nRsp o := by simp [nRsp]
@[simp] theorem nNack_cons_nack (r : Nack) (m : Nat) (o : List Out) : nNack (Out.callNack r m :: o) = nNack o + 1 := by simp [nNack]

theorem nRsp_replicate_tx (k : Nat) (d : Dgram) : nRsp (List.replicate k (Out.tx d)) = 0 := by
  induction k with
  | zero => rfl
  | succ k ih => rw [List.replicate_succ, nRsp_cons_tx, ih]

theorem nNack_replicate_tx (k : Nat) (d : Dgram) : nNack (List.replicate k (Out.tx d)) = 0 := by
  induction k with
  | zero => rfl
  | succ k ih => rw [List.replicate_succ, nNack_cons_tx, ih]

theorem isResponse_codeClassOk {c : Nat} (h : isResponse c = true) : codeClassOk c = true := by
  simp only [isResponse, Bool.and_eq_true, decide_eq_true_eq] at h
  have hk : c / 32 = 2 ∨ c / 32 = 3 ∨ c / 32 = 4 ∨ c / 32 = 5 := by omega
  unfold codeClassOk
  rcases hk with h1 | h1 | h1 | h1 <;> (rw [h1]; rfl)

theorem isResponse_not_empty {c : Nat} (h : isResponse c = true) : isEmpty c = false := by
  simp only [isResponse, Bool.and_eq_true, decide_eq_true_eq] at h
  simp [isEmpty]; omega

theorem isResponse_not_request {c : Nat} (h : isResponse c = true) : isRequest c = false := by
  simp only [isResponse, Bool.and_eq_true, decide_eq_true_eq] at h
  simp [isRequest]; omega

namespace Layer

theorem flush_nil (now fuel : Nat) (L : Layer) (h : L.delayq = []) : flush now fuel L = (L, []) := by
  cases fuel with
  | zero => rfl
  | succ f => simp [flush, h]

theorem flushAll_nil (now : Nat) (L : Layer) (h : L.delayq = []) : flushAll now L = (L, []) := by
  simp [flushAll, flush_nil now _ L h]

theorem release_nil (now : Nat) (L : Layer) (h : L.delayq = []) :
    release now L = ({ L with conActive := L.conActive - 1 }, []) := by
  unfold release
  by_cases hc : L.conActive > 0
  · simp [hc, flushAll_nil now { L with conActive := L.conActive - 1 } h]
  · have h0 : L.conActive = 0 := by omega
    cases L with
    | mk sq dq ca =>
      simp at h0
      simp [h0]

theorem cancelByToken_nil (now : Nat) (tok : Bytes) :
    ∀ (fuel : Nat) (L : Layer), L.delayq = [] →
      (cancelByToken now tok fuel L).2 = [] ∧ (cancelByToken now tok fuel L).1.delayq = [] ∧
      (∀ n ∈ (cancelByToken now tok fuel L).1.sendq, n ∈ L.sendq) ∧
      (L.sendq.length < fuel → ∀ n ∈ (cancelByToken now tok fuel L).1.sendq, n.d.token ≠ tok) := by
  intro fuel
  induction fuel with
  | zero => intro L h; exact ⟨rfl, h, fun _ hn => hn, fun hlt => absurd hlt (Nat.not_lt_zero _)⟩
  | succ f ih =>
    intro L h
    unfold cancelByToken
    cases hf : L.sendq.find? (fun n => n.d.token == tok) with
    | none =>
      refine ⟨rfl, h, fun _ hn => hn, fun _ n hn => ?_⟩
      simpa using List.find?_eq_none.mp hf n hn
    | some q =>
      have hlen : (L.sendq.filter (fun n => n != q)).length < L.sendq.length :=
        List.length_filter_lt_length_iff_exists.mpr ⟨q, List.mem_of_find?_eq_some hf, by simp⟩
      -- removing `q` (and releasing its NSTART slot if it is a CON) transmits nothing: nothing is held back
      obtain ⟨L2, hL2, hs2, hd2⟩ : ∃ L2,
          (if q.d.type = .con then release now { L with sendq := L.sendq.filter (fun n => n != q) }
           else ({ L with sendq := L.sendq.filter (fun n => n != q) }, [])) = (L2, []) ∧
          L2.sendq = L.sendq.filter (fun n => n != q) ∧ L2.delayq = [] := by
        by_cases hcon : q.d.type = .con
        · exact ⟨{ sendq := L.sendq.filter (fun n => n != q), delayq := L.delayq, conActive := L.conActive - 1 },
            by rw [if_pos hcon]; exact release_nil now _ h, rfl, h⟩
        · exact ⟨{ L with sendq := L.sendq.filter (fun n => n != q) }, by rw [if_neg hcon], rfl, h⟩
      obtain ⟨i1, i2, i3, i4⟩ := ih L2 hd2
      simp only [hL2]
      rw [hs2] at i3 i4
      exact ⟨by rw [i1]; rfl, i2, fun n hn => (List.mem_filter.mp (i3 n hn)).1, fun hfu n hn => i4 (by omega) n hn⟩

theorem cancelAll_nil (now : Nat) (tok : Bytes) (L : Layer) (h : L.delayq = []) :
    ∃ L1, cancelAll now tok L = (L1, []) ∧ L1.delayq = [] ∧ ∀ n ∈ L1.sendq, n ∈ L.sendq ∧ n.d.token ≠ tok := by
  obtain ⟨i1, i2, i3, i4⟩ := cancelByToken_nil now tok (L.sendq.length + L.delayq.length + 1) L h
  exact ⟨_, Prod.ext rfl i1, i2, fun n hn => ⟨i3 n hn, i4 (by omega) n hn⟩⟩

end Layer

theorem handleResponse_ack (c : Client) (now : Nat) (d : Dgram) (ok : Bool) (hd : d.type = .ack) :
    c.handleResponse now d ok =
      if c.lastAck = some d.mid then (c, [])
      else ({ c with lastAck := some d.mid, lastResOk := true }, [Out.callResponse d ok]) := by
  unfold Client.handleResponse
  by_cases hdup : c.lastAck = some d.mid
  · cases c; simp_all
  · cases ok <;> simp [hd, hdup, ackFor]

theorem handleResponse_con (c : Client) (now : Nat) (d : Dgram) (ok : Bool) (L1 : Layer)
    (h : Layer.cancelAll now d.token c.L = (L1, [])) (hd : d.type = .con) :
    c.handleResponse now d ok =
      if c.lastCon = some d.mid then ({ c with L := L1 }, if c.lastResOk then ackFor d else rstFor d)
      else ({ c with L := L1, lastCon := some d.mid, lastResOk := ok },
            Out.callResponse d ok :: (if ok then ackFor d else rstFor d)) := by
  unfold Client.handleResponse
  rw [h]
  by_cases hdup : c.lastCon = some d.mid
  · simp [hd, hdup]
  · cases ok <;> simp [hd, hdup]

theorem handleResponse_non (c : Client) (now : Nat) (d : Dgram) (ok : Bool) (L1 : Layer)
    (h : Layer.cancelAll now d.token c.L = (L1, [])) (hd : d.type = .non) :
    c.handleResponse now d ok =
      ({ c with L := L1, lastResOk := ok }, Out.callResponse d ok :: (if ok then [] else rstFor d)) := by
  unfold Client.handleResponse
  rw [h]
  cases ok <;> simp [hd, ackFor]

theorem rx_eq_handleResponse (c : Client) (now : Nat) (d : Dgram) (ok : Bool)
    (hty : d.type = .con ∨ d.type = .non) (hr : isResponse d.code = true) :
    c.rx now d ok = c.handleResponse now d ok := by
  have hcc := isResponse_codeClassOk hr
  unfold Client.rx
  rcases hty with h | h <;> simp [hcc, h, hr]

theorem rx_con_eq (c : Client) (now : Nat) (d : Dgram) (ok : Bool) (L1 : Layer)
    (h : Layer.cancelAll now d.token c.L = (L1, [])) (hd : d.type = .con) (hr : isResponse d.code = true) :
    c.rx now d ok =
      if c.lastCon = some d.mid then ({ c with L := L1 }, if c.lastResOk then ackFor d else rstFor d)
      else ({ c with L := L1, lastCon := some d.mid, lastResOk := ok },
            Out.callResponse d ok :: (if ok then ackFor d else rstFor d)) :=
  (rx_eq_handleResponse c now d ok (Or.inl hd) hr).trans (handleResponse_con c now d ok L1 h hd)

theorem rx_non_eq (c : Client) (now : Nat) (d : Dgram) (ok : Bool) (L1 : Layer)
    (h : Layer.cancelAll now d.token c.L = (L1, [])) (hd : d.type = .non) (hr : isResponse d.code = true) :
    c.rx now d ok =
      ({ c with L := L1, lastResOk := ok }, Out.callResponse d ok :: (if ok then [] else rstFor d)) :=
  (rx_eq_handleResponse c now d ok (Or.inr hd) hr).trans (handleResponse_non c now d ok L1 h hd)

/-- the layer while the request waits for its ACK, and the idle layer -/
def Wt (n : Node) : Layer := { sendq := [n], delayq := [], conActive := 1 }
def Idle : Layer := { sendq := [], delayq := [], conActive := 0 }

theorem Wt_ne_Idle {L : Layer} {n : Node} (h : L = Wt n) : L ≠ Idle := by simp [h, Wt, Idle]

namespace Layer

theorem Wt_inj {a b : Node} (h : Wt a = Wt b) : a = b := by
  simp [Wt] at h; exact h

theorem release_Wt_removed (now : Nat) : release now { sendq := [], delayq := [], conActive := 1 } = (Idle, []) := by
  simp [release, flushAll, flush, Idle]

theorem cancelAll_Idle (now : Nat) (tok : Bytes) : cancelAll now tok Idle = (Idle, []) := by
  simp [cancelAll, cancelByToken, Idle]

theorem cancelAll_Wt (now : Nat) (tok : Bytes) (n : Node) (ht : n.d.token = tok) (hc : n.d.type = .con) :
    cancelAll now tok (Wt n) = (Idle, []) := by
  simp [cancelAll, cancelByToken, Wt, ht, hc, release_Wt_removed, Idle]

theorem tick_Idle (now fuel : Nat) : tick now fuel Idle = (Idle, []) := by
  cases fuel <;> simp [tick, Idle]

theorem tick_Wt_succ (now f : Nat) (n : Node) (hc : n.d.type = .con) :
    tick now (f + 1) (Wt n) =
      if n.due ≤ now then
        if n.cnt < maxRetransmit then
          ((tick now f (Wt { n with cnt := n.cnt + 1, due := now + n.timeout * 2 ^ (n.cnt + 1) })).1,
           Out.tx n.d :: (tick now f (Wt { n with cnt := n.cnt + 1, due := now + n.timeout * 2 ^ (n.cnt + 1) })).2)
        else (Idle, [Out.callNack .retries n.d.mid])
      else (Wt n, []) := by
  by_cases hdue : n.due ≤ now
  · by_cases hcnt : n.cnt < maxRetransmit
    · have hret : retransmit { sendq := [], delayq := [], conActive := 1 } now n =
          (Wt { n with cnt := n.cnt + 1, due := now + n.timeout * 2 ^ (n.cnt + 1) }, [Out.tx n.d]) := by
        simp [retransmit, hcnt, insertNode, hc, nstart, Wt]
      conv => lhs; unfold tick
      simp only [Wt, hdue, hcnt, if_true]
      simp [hret, Wt]
    · have hret : retransmit { sendq := [], delayq := [], conActive := 1 } now n =
          (Idle, [Out.callNack .retries n.d.mid]) := by
        simp [retransmit, hcnt, release_Wt_removed, hc]
      conv => lhs; unfold tick
      simp [Wt, hdue, hcnt, hret, tick_Idle]
  · simp [tick, Wt, hdue]

/-- what the due-node loop does to the single waiting request: `k` retransmissions of it, after which it still
    waits (same PDU, `retransmit_cnt` up by `k`) or has been given up with one NACK; a retransmission happens only
    below MAX_RETRANSMIT, and at least one does when the deadline has passed and the request still waits -/
theorem tick_Wt_shape (now : Nat) :
    ∀ (fuel : Nat) (n : Node), n.d.type = .con →
      ∃ k, (∃ n', n'.d = n.d ∧ tick now fuel (Wt n) = (Wt n', List.replicate k (Out.tx n.d)) ∧ n'.cnt = n.cnt + k ∧
              (0 < k → n.cnt < maxRetransmit) ∧ (n.due ≤ now → 0 < fuel → 0 < k)) ∨
        tick now fuel (Wt n) = (Idle, List.replicate k (Out.tx n.d) ++ [Out.callNack .retries n.d.mid]) := by
  intro fuel
  induction fuel with
  | zero => intro n _; exact ⟨0, Or.inl ⟨n, rfl, rfl, rfl, fun h => absurd h (Nat.lt_irrefl 0), fun _ h => h⟩⟩
  | succ f ih =>
    intro n hc
    rw [tick_Wt_succ now f n hc]
    by_cases hdue : n.due ≤ now
    · by_cases hcnt : n.cnt < maxRetransmit
      · rw [if_pos hdue, if_pos hcnt]
        obtain ⟨k, ⟨n', hd, h, hk, _⟩ | h⟩ := ih { n with cnt := n.cnt + 1, due := now + n.timeout * 2 ^ (n.cnt + 1) } hc
        · exact ⟨k + 1, Or.inl ⟨n', hd, by rw [h]; rfl, by rw [hk, Nat.add_assoc, Nat.add_comm 1 k], fun _ => hcnt,
            fun _ _ => Nat.succ_pos k⟩⟩
        · exact ⟨k + 1, Or.inr (by rw [h]; rfl)⟩
      · rw [if_pos hdue, if_neg hcnt]
        exact ⟨0, Or.inr rfl⟩
    · rw [if_neg hdue]
      exact ⟨0, Or.inl ⟨n, rfl, rfl, rfl, fun h => absurd h (Nat.lt_irrefl 0), fun h => absurd h hdue⟩⟩

theorem tickAll_Idle (now : Nat) : tickAll now Idle = (Idle, []) := tick_Idle now _

/-- the send-queue node of a Confirmable datagram handed to `send` at time `now` -/
def sentNode (d : Dgram) (T now : Nat) : Node := { d := d, timeout := T, cnt := 0, due := now + T * 2 ^ 0 }

theorem send_Idle (now : Nat) (d : Dgram) (T : Nat) :
    Idle.send now d T = (if d.type = .con then Wt (sentNode d T now) else Idle, [Out.tx d]) := by
  by_cases hc : d.type = .con <;> simp [send, hc, Idle, nstart, waitAck, insertNode, Wt, sentNode]

theorem send_Idle_layer (now : Nat) (d : Dgram) (T : Nat) :
    (Idle.send now d T).1 = Idle ∨ ∃ n, (Idle.send now d T).1 = Wt n ∧ n.d = d ∧ d.type = .con := by
  rw [send_Idle]
  by_cases hc : d.type = .con
  · exact Or.inr ⟨_, if_pos hc, rfl, hc⟩
  · exact Or.inl (if_neg hc)

end Layer

def emptyAck (mid : Nat) : Dgram := { type := .ack, code := 0, mid := mid, token := [] }

theorem rx_emptyAck_Wt (c : Client) (now : Nat) (ok : Bool) (n : Node) (hL : c.L = Wt n) :
    c.rx now (emptyAck n.d.mid) ok = ({ c with L := Idle }, []) := by
  cases c with
  | mk L lc la lr =>
    simp only at hL; subst hL
    simp [Client.rx, emptyAck, codeClassOk, Wt, Layer.removeByMid, Layer.release_Wt_removed, isEmpty]

theorem rx_emptyAck_Idle (c : Client) (now : Nat) (ok : Bool) (m : Nat) (hL : c.L = Idle) :
    c.rx now (emptyAck m) ok = (c, []) := by
  cases c with
  | mk L lc la lr =>
    simp only at hL; subst hL
    simp [Client.rx, emptyAck, codeClassOk, Idle, Layer.removeByMid, isEmpty]

theorem appSend_Idle (c : Client) (now : Nat) (req : Dgram) (T : Nat) (hL : c.L = Idle) (hc : req.type = .con) :
    c.appSend now req T = ({ c with L := Wt (Layer.sentNode req T now) }, [Out.tx req]) := by
  simp [Client.appSend, hL, Layer.send_Idle, hc]

theorem tick_Idle_client (c : Client) (now : Nat) (hL : c.L = Idle) : c.tick now = (c, []) := by
  cases c with
  | mk L lc la lr =>
    simp only at hL; subst hL
    simp [Client.tick, Layer.tickAll, Layer.tick_Idle]

/-- coap_dispatch for an ACK, given the outcome of the send-queue lookup -/
theorem rx_ack_eq (c : Client) (now : Nat) (d : Dgram) (ok : Bool) (hcc : codeClassOk d.code = true) (hty : d.type = .ack)
    (sent : Option Node) (q : List Node) (L1 : Layer) (h1 : Layer.removeByMid d.mid c.L.sendq = (sent, q))
    (h2 : (if sent.isSome = true then Layer.release now { c.L with sendq := q } else ({ c.L with sendq := q }, [])) = (L1, [])) :
    c.rx now d ok =
      if isEmpty d.code then ({ c with L := L1 }, [])
      else if isRequest d.code then
        ({ c with L := L1 }, match sent with | some n => [Out.callNack .bad n.d.mid] | none => [])
      else if isResponse d.code then Client.handleResponse { c with L := L1 } now d ok
      else (c, [Out.unmodelled]) := by
  unfold Client.rx
  simp only [hcc, hty, h1, h2, Bool.not_true, Bool.false_eq_true, if_false, List.nil_append]
  rfl

theorem rx_ack_rsp_eq (c : Client) (now : Nat) (d : Dgram) (ok : Bool) (hty : d.type = .ack) (hr : isResponse d.code = true)
    (sent : Option Node) (q : List Node) (L1 : Layer) (h1 : Layer.removeByMid d.mid c.L.sendq = (sent, q))
    (h2 : (if sent.isSome = true then Layer.release now { c.L with sendq := q } else ({ c.L with sendq := q }, [])) = (L1, [])) :
    c.rx now d ok =
      if c.lastAck = some d.mid then ({ c with L := L1 }, [])
      else ({ c with L := L1, lastAck := some d.mid, lastResOk := true }, [Out.callResponse d ok]) := by
  rw [rx_ack_eq c now d ok (isResponse_codeClassOk hr) hty sent q L1 h1 h2,
    if_neg (by rw [isResponse_not_empty hr]; exact Bool.false_ne_true),
    if_neg (by rw [isResponse_not_request hr]; exact Bool.false_ne_true), if_pos hr, handleResponse_ack _ now d ok hty]

theorem rx_ack_rsp (c : Client) (now : Nat) (r : Dgram) (ok : Bool) (ht : r.type = .ack) (hr : isResponse r.code = true)
    (L1 : Layer) (hL : c.L = Idle ∧ L1 = Idle ∨ ∃ n, c.L = Wt n ∧ L1 = if n.d.mid = r.mid then Idle else Wt n) :
    c.rx now r ok =
      if c.lastAck = some r.mid then ({ c with L := L1 }, [])
      else ({ c with L := L1, lastAck := some r.mid, lastResOk := true }, [Out.callResponse r ok]) := by
  rcases hL with ⟨hL, rfl⟩ | ⟨n, hL, rfl⟩
  · exact rx_ack_rsp_eq c now r ok ht hr none [] Idle (by rw [hL]; rfl) (by rw [hL]; rfl)
  · by_cases hm : n.d.mid = r.mid
    · rw [if_pos hm]
      exact rx_ack_rsp_eq c now r ok ht hr (some n) [] Idle (by rw [hL]; simp [Wt, Layer.removeByMid, hm])
        (by rw [hL]; exact Layer.release_Wt_removed now)
    · rw [if_neg hm]
      exact rx_ack_rsp_eq c now r ok ht hr none [n] (Wt n) (by rw [hL]; simp [Wt, Layer.removeByMid, hm]) (by rw [hL]; rfl)

theorem rx_ack_out (c : Client) (now : Nat) (d : Dgram) (ok : Bool)
    (h : c.L.delayq = []) (hd : d.type = .ack) (hr : isResponse d.code = true) :
    (c.rx now d ok).2 = (if c.lastAck = some d.mid then [] else [Out.callResponse d ok]) ∧
    (c.rx now d ok).1.L.sendq = (Layer.removeByMid d.mid c.L.sendq).2 := by
  cases hrm : Layer.removeByMid d.mid c.L.sendq with
  | mk sent q =>
    obtain ⟨L1, h2, hq1⟩ : ∃ L1, (if sent.isSome = true then Layer.release now { c.L with sendq := q }
        else ({ c.L with sendq := q }, [])) = (L1, []) ∧ L1.sendq = q := by
      cases sent with
      | none => exact ⟨_, rfl, rfl⟩
      | some n => exact ⟨_, Layer.release_nil now { c.L with sendq := q } h, rfl⟩
    rw [rx_ack_rsp_eq c now d ok hd hr sent q L1 hrm h2]
    by_cases hdup : c.lastAck = some d.mid
    · rw [if_pos hdup, if_pos hdup]; exact ⟨rfl, hq1⟩
    · rw [if_neg hdup, if_neg hdup]; exact ⟨rfl, hq1⟩

theorem tick_fst_L (c : Client) (now : Nat) : (c.tick now).1.L = (c.L.tickAll now).1 := rfl
theorem tick_snd (c : Client) (now : Nat) : (c.tick now).2 = (c.L.tickAll now).2 := rfl

theorem tick_Wt_client (c : Client) (now : Nat) (n : Node) (hL : c.L = Wt n) (hc : n.d.type = .con) :
    (∃ n', (c.tick now).1.L = Wt n' ∧ n'.d = n.d ∧ nRsp (c.tick now).2 = 0 ∧ nNack (c.tick now).2 = 0) ∨
    ((c.tick now).1.L = Idle ∧ nRsp (c.tick now).2 = 0 ∧ nNack (c.tick now).2 = 1) := by
  rw [tick_fst_L, tick_snd, hL]
  obtain ⟨k, ⟨n', hd, h, _⟩ | h⟩ := Layer.tick_Wt_shape now _ n hc
  · exact Or.inl ⟨n', congrArg Prod.fst h, hd, by rw [Layer.tickAll, h]; exact nRsp_replicate_tx ..,
      by rw [Layer.tickAll, h]; exact nNack_replicate_tx ..⟩
  · refine Or.inr ⟨congrArg Prod.fst h, ?_, ?_⟩
    · rw [Layer.tickAll, h, nRsp_append, nRsp_replicate_tx]; rfl
    · rw [Layer.tickAll, h, nNack_append, nNack_replicate_tx]; rfl

theorem emptyAck_ne_response {r : Dgram} (hr : isResponse r.code = true) (mid : Nat) : emptyAck mid ≠ r := by
  intro h
  rw [← h] at hr
  simp [emptyAck, isResponse] at hr

theorem reply_facts {r : Dgram} (ht : r.type = .con) (b : Bool) :
    nRsp (if b then ackFor r else rstFor r) = 0 ∧ nNack (if b then ackFor r else rstFor r) = 0 ∧
    ∀ d, Out.tx d ∈ (if b then ackFor r else rstFor r) → (d.type = .ack ∨ d.type = .rst) ∧ d.mid = r.mid := by
  cases b
  · refine ⟨rfl, rfl, fun d hd => ?_⟩
    simp only [rstFor, Bool.false_eq_true, if_false, List.mem_singleton, Out.tx.injEq] at hd
    subst hd
    exact ⟨Or.inr rfl, rfl⟩
  · simp only [ackFor, ht, if_true]
    refine ⟨rfl, rfl, fun d hd => ?_⟩
    simp only [List.mem_singleton, Out.tx.injEq] at hd
    subst hd
    exact ⟨Or.inl rfl, rfl⟩

end Coap.Exch
