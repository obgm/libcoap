import CoapVerif.Lemmas.BlockXmit
import CoapVerif.Lemmas.BlockTok
import CoapVerif.Model.BlockNet
/- The composed Block2 and Block1 systems (Model/BlockNet.lean): the invariants `B2Inv` / `B1Inv` over every schedule. -/
namespace Coap.Block
open Coap.Spec.Block

theorem forall_mem_snoc {α : Type} {p : α → Prop} {l : List α} {a : α} (hl : ∀ x, x ∈ l → p x) (ha : p a) :
    ∀ x, x ∈ l ++ [a] → p x := by
  intro x hx
  rcases List.mem_append.mp hx with hx | hx
  · exact hl x hx
  · rw [List.mem_singleton] at hx; rw [hx]; exact ha

theorem forall_mem_snoc_if {α : Type} {p : α → Prop} {l : List α} {c : Prop} [Decidable c] {a : α}
    (hl : ∀ x, x ∈ l → p x) (ha : c → p a) : ∀ x, x ∈ l ++ (if c then [a] else []) → p x :=
  ite_ind (P := fun t => ∀ x, x ∈ l ++ t → p x) (fun hc => forall_mem_snoc hl (ha hc))
    fun _ => by rw [List.append_nil]; exact hl

theorem func_snoc {α β γ : Type} {f : α → β} {g : α → γ} {l : List α} {a : α}
    (hl : ∀ x y, x ∈ l → y ∈ l → f x = f y → g x = g y) (ha : ∀ x, x ∈ l → f x = f a → g x = g a) :
    ∀ x y, x ∈ l ++ [a] → y ∈ l ++ [a] → f x = f y → g x = g y := by
  intro x y hx hy heq
  rcases List.mem_append.mp hx with hx | hx <;> rcases List.mem_append.mp hy with hy | hy
  · exact hl x y hx hy heq
  · rw [List.mem_singleton] at hy; rw [hy] at heq ⊢; exact ha x hx heq
  · rw [List.mem_singleton] at hx; rw [hx] at heq ⊢; exact (ha y hy heq.symm).symm
  · rw [List.mem_singleton] at hx hy; rw [hx, hy]

/-- a response datagram is what a libcoap server sends for this body: the slice for its NUM/SZX, right More bit,
Size2 = the length, the ETag of one of the lg_xmits created so far -/
def RespOK (P : B2Par) (s : B2Sys) (r : Resp) : Prop :=
  ∃ num szx k, r.blk = some (num, more P.body.length szx num, szx) ∧ num < nBlocks P.body.length szx ∧
    r.payload = slice P.body szx num ∧ r.size2 = some P.body.length ∧ r.etag = some (P.etagOf k) ∧ 1 ≤ k ∧ k ≤ s.srvEtag

/-- datagrams, server and outputs of the composed Block2 system; no clause reads the client's lg_crcv -/
structure B2Net (P : B2Par) (s : B2Sys) : Prop where
  rsp : ∀ r, r ∈ s.rsps → RespOK P s r
  /-- one ETag, one block size -/
  func : ∀ r1 r2, r1 ∈ s.rsps → r2 ∈ s.rsps → r1.etag = r2.etag → szxOfR r1 = szxOfR r2
  srv : ∀ x, s.srv = some x → x.data = P.body ∧ (1 ≤ s.curEtag ∧ s.curEtag ≤ s.srvEtag) ∧
    ∀ r, r ∈ s.rsps → r.etag = some (P.etagOf s.curEtag) → szxOfR r = x.blkSize
  outs : ∀ o, o ∈ s.outs → GoodOut P.single P.body o

/-- an lg_crcv against the responses sent so far, wherever the client keeps it (its one slot in `B2Sys`, an element of the
session's list in `B2TSys`): once initialised it is consistent with the body and filed under the ETag and SZX of one of them -/
def CliOK (P : B2Par) (rsps : List Resp) (c : Crcv) : Prop :=
  c.initial = false → CrcvInv P.single P.cap P.body (some P.body.length) c ∧ c.etagSet = true ∧
    ∃ r, r ∈ rsps ∧ r.etag = some c.etag ∧ szxOfR r = c.szx

theorem CliOK.mono {P : B2Par} {l l' : List Resp} {c : Crcv} (h : CliOK P l c) (hsub : ∀ r, r ∈ l → r ∈ l') :
    CliOK P l' c := fun hi =>
  let ⟨a, b, r, hr, e⟩ := h hi
  ⟨a, b, r, hsub r hr, e⟩

theorem CliOK.fresh (P : B2Par) (l : List Resp) {c : Crcv} (hi : c.initial = true) : CliOK P l c :=
  fun hf => by rw [hi] at hf; cases hf

structure B2Inv (P : B2Par) (s : B2Sys) : Prop where
  net : B2Net P s
  cli : ∀ c, s.cli = some c → CliOK P s.rsps c

/-- the response path calls `adlBody` with sane parameters (what `coap_add_data_large_internal` computes in front of
it: `b2` is at most the size fitting `avail` and at most 6; the Block2 option, if already in the PDU, is part of
`tokOpts0`) and a body below 2^32 bytes; ETags of different lg_xmits differ -/
structure B2ParOK (P : B2Par) : Prop where
  len : P.body.length < 2 ^ 32
  ms : ∀ szx c, P.cfg szx = some c → c.maxSize < 2 ^ 62
  tok : ∀ szx c, P.cfg szx = some c → c.tokOpts0 ≤ c.base + 43
  b2 : ∀ szx c, P.cfg szx = some c → (16 : Int) ≤ adlAvail c.maxSize c.tokOpts0 c.tokLen →
    ((2 ^ (c.b2 + 4) : Nat) : Int) ≤ adlAvail c.maxSize c.tokOpts0 c.tokLen
  b26 : ∀ szx c, P.cfg szx = some c → c.b2 ≤ 6
  inj : ∀ k1 k2, P.etagOf k1 = P.etagOf k2 → k1 = k2

theorem b2_init_inv (P : B2Par) : B2Inv P {} :=
  ⟨⟨fun _ h => (nomatch h), fun _ _ h => (nomatch h), fun _ h => (nomatch h), fun _ h => (nomatch h)⟩, fun _ h => nomatch h⟩

/-- the Block option value (NUM 0, M 1, SZX `b`) read back the way the composed systems put it on the wire -/
theorem blockValue_first (b : Nat) (hb : b ≤ 6) :
    blockValue 0 1 b / 16 = 0 ∧ (blockValue 0 1 b / 8) % 2 = 1 ∧ blockValue 0 1 b % 8 = b := by
  unfold blockValue
  omega

theorem first_slice (body : Bytes) (b : Nat) (h : 2 ^ (b + 4) < body.length) :
    1 < nBlocks body.length b ∧ more body.length b 0 = 1 ∧ body.take (2 ^ (b + 4)) = slice body b 0 := by
  have hnb : 1 < nBlocks body.length b := (lt_nBlocks_iff _ _ 1).mpr (by rw [Nat.one_mul]; exact h)
  refine ⟨hnb, ?_, ?_⟩
  · unfold more; rw [if_pos hnb]
  · unfold slice chunkSize; rw [Nat.zero_mul, List.drop_zero]

theorem srvOnReq_inv (P : B2Par) (hP : B2ParOK P) (s : B2Sys) (num szx : Nat) (hinv : B2Net P s) :
    B2Net P (srvOnReq P s num szx) ∧ ∀ r, r ∈ s.rsps → r ∈ (srvOnReq P s num szx).rsps := by
  have hdrop : B2Net P { s with srv := none } ∧ ∀ r, r ∈ s.rsps → r ∈ s.rsps :=
    ⟨⟨hinv.rsp, hinv.func, fun _ h => (nomatch h), hinv.outs⟩, fun _ h => h⟩
  unfold srvOnReq
  by_cases h0 : num = 0
  · rw [if_pos h0]
    cases hcfg : P.cfg szx with
    | none => exact hdrop
    | some c =>
    simp only
    cases ha : adlBody c.maxSize c.tokLen c.base c.d c.tokOpts0 c.b2 P.body.length c.extra c.blk with
    | none => exact hdrop
    | some r =>
      simp only
      by_cases hlg : r.lgXmit = true
      · rw [if_pos hlg]
        obtain ⟨f1, f2, f3, f4⟩ := adlBody_first _ _ _ _ _ _ _ _ _ r (hP.ms szx c hcfg) hP.len (hP.tok szx c hcfg)
          (hP.b2 szx c hcfg) ha hlg
        rw [f1]
        simp only
        obtain ⟨hv16, hv8, hvs⟩ := blockValue_first r.blkSize (Nat.le_trans f4 (hP.b26 szx c hcfg))
        rw [hv16, hv8, hvs, f2]
        obtain ⟨hnb, hmore, hsl⟩ := first_slice P.body r.blkSize f3
        have hnew : RespOK P { s with srvEtag := s.srvEtag + 1 }
            (mkResp P (s.srvEtag + 1) 0 1 r.blkSize (P.body.take (2 ^ (r.blkSize + 4)))) :=
          ⟨0, r.blkSize, s.srvEtag + 1, by rw [hmore]; rfl, by omega, hsl, rfl, rfl, by omega, Nat.le_refl _⟩
        have hfresh : ∀ r', r' ∈ s.rsps → r'.etag ≠ some (P.etagOf (s.srvEtag + 1)) := by
          intro r' hr' heq
          obtain ⟨_, _, k, _, _, _, _, e, _, g⟩ := hinv.rsp r' hr'
          rw [e] at heq
          have := hP.inj _ _ (Option.some.inj heq)
          omega
        refine ⟨{ rsp := ?_, func := ?_, srv := ?_, outs := hinv.outs }, fun _ h => List.mem_append_left _ h⟩
        · refine forall_mem_snoc (fun r' hr' => ?_) hnew
          obtain ⟨num, szx, k, a, b, c, d, e, f, g⟩ := hinv.rsp r' hr'
          exact ⟨num, szx, k, a, b, c, d, e, f, Nat.le_succ_of_le g⟩
        · exact func_snoc hinv.func fun r' hr' heq => (hfresh r' hr' heq).elim
        · intro x hx
          cases hx
          exact ⟨rfl, ⟨Nat.le_add_left 1 _, Nat.le_refl _⟩,
            forall_mem_snoc (fun r' hr' he' => (hfresh r' hr' he').elim) fun _ => rfl⟩
      · rw [if_neg hlg]; exact hdrop
  · rw [if_neg h0]
    cases hsrv : s.srv with
    | none =>
      have : xmitB2Step none P.room num szx = (none, B2Out.passUp) := by
        unfold xmitB2Step; rw [if_neg h0]
      rw [this]
      simp only
      rw [← hsrv]
      exact ⟨hinv, fun _ h => h⟩
    | some x =>
      obtain ⟨d1, d2, d3⟩ := hinv.srv x hsrv
      obtain ⟨x', hx', hd, hb⟩ := xmitB2Step_state x P.room num szx
      cases hstep : xmitB2Step (some x) P.room num szx with
      | mk srv' out =>
        rw [hstep] at hx'
        simp only at hx'
        subst hx'
        have hsrv' : ∀ (rs : List Resp), (∀ r', r' ∈ rs → r'.etag = some (P.etagOf s.curEtag) → szxOfR r' = x.blkSize) →
            ∀ y, some x' = some y → y.data = P.body ∧ (1 ≤ s.curEtag ∧ s.curEtag ≤ s.srvEtag) ∧
              ∀ r', r' ∈ rs → r'.etag = some (P.etagOf s.curEtag) → szxOfR r' = y.blkSize := by
          intro rs hrs y hy
          cases hy
          exact ⟨by rw [hd]; exact d1, d2, fun r' hr' he' => by rw [hb]; exact hrs r' hr' he'⟩
        cases out with
        | block n m sx p =>
          simp only
          obtain ⟨e1, e2, e3, e4, e5, e6, _, _⟩ := xmitB2Step_spec x P.room num szx _ n m sx p hstep
          rw [d1] at e4 e5 e6
          have hnew : RespOK P s (mkResp P s.curEtag n m sx p) :=
            ⟨n, sx, s.curEtag, by rw [e6]; rfl, e4, e5, rfl, rfl, d2.1, d2.2⟩
          have hsz : szxOfR (mkResp P s.curEtag n m sx p) = x.blkSize := by
            show sx = x.blkSize
            exact e3
          exact ⟨{ rsp := forall_mem_snoc hinv.rsp hnew,
                   func := func_snoc hinv.func fun r' hr' heq => by rw [hsz]; exact d3 r' hr' heq,
                   srv := hsrv' _ (forall_mem_snoc d3 fun _ => hsz), outs := hinv.outs },
            fun _ h => List.mem_append_left _ h⟩
        | passUp | err400 | err500 =>
          simp only
          exact ⟨{ rsp := hinv.rsp, func := hinv.func, srv := hsrv' _ d3, outs := hinv.outs }, fun _ h => h⟩

theorem goodOut_skip (single : Bool) (body : Bytes) : GoodOut single body CrcvOut.skip :=
  ⟨fun d l h => (by cases h), fun off p total nx h => (by cases h), fun off p total h => (by cases h),
    fun off p total h => (by cases h), fun p h => (by cases h)⟩

theorem b2_genuine {P : B2Par} {s : B2Sys} (hnet : B2Net P s) {r : Resp} (hr : r ∈ s.rsps) (st : Option Crcv)
    (hst : ∀ c, st = some c → CliOK P s.rsps c) :
    ∃ num szx, Genuine2 P.body (some P.body.length) st r num szx := by
  obtain ⟨num, szx, k, g1, g2, g3, g4, g5, _⟩ := hnet.rsp r hr
  refine ⟨num, szx, g1, g2, g3, g4, fun c hc hi hp => ?_⟩
  obtain ⟨_, _, r', hr', e1, e2⟩ := hst c hc hi
  have := hnet.func r r' hr hr' (by rw [g5, e1, hp.1 _ g5])
  rw [e2] at this
  rw [← this]
  unfold szxOfR
  rw [g1]

theorem cliOnRsp_inv {P : B2Par} {s : B2Sys} (hnet : B2Net P s) {r : Resp} (hr : r ∈ s.rsps) (st : Option Crcv)
    (hst : ∀ c, st = some c → CliOK P s.rsps c) :
    (∀ c', (crcvStep P.single P.cap P.junk st r).1 = some c' → CliOK P s.rsps c') ∧
    GoodOut P.single P.body (crcvStep P.single P.cap P.junk st r).2 := by
  obtain ⟨num, szx, hg⟩ := b2_genuine hnet hr st hst
  obtain ⟨_, _, k, _, _, _, _, g5, _⟩ := hnet.rsp r hr
  have hszr : szxOfR r = szx := by unfold szxOfR; rw [hg.1]
  have hspec := crcvStep_spec P.single P.cap P.junk P.body (some P.body.length) st r num szx _ _
    (by intro t ht; cases ht; exact Nat.le_refl _) (fun c hc hi => (hst c hc hi).1) hg rfl
  refine ⟨fun c' hc' hi' => ⟨hspec.inv c' hc' hi', ?_⟩, goodOut_of_storeSpec _ _ _ _ _ _ _ _ _ _ hspec hg.2.1 hg.2.2.1⟩
  rcases crcvStep_key P.single P.cap P.junk st r num _ szx _ hg.1 g5 c' hc' hi' with ⟨a, b, c⟩ | ⟨c0, h0, h1, h2, h3, h4⟩
  · exact ⟨a, r, hr, by rw [g5, b], by rw [hszr, c]⟩
  · obtain ⟨_, x, r', hr', e1, e2⟩ := hst c0 h0 h1
    exact ⟨by rw [h3]; exact x, r', hr', by rw [e1, h2], by rw [e2, h4]⟩

theorem cliOnRspS_inv {P : B2Par} {s : B2Sys} (hnet : B2Net P s) {r : Resp} (hr : r ∈ s.rsps) (sent : Bool)
    (st : Option Crcv) (hst : ∀ c, st = some c → CliOK P s.rsps c) :
    (∀ c', (crcvStepS sent P.single P.cap P.junk st r).1 = some c' → CliOK P s.rsps c') ∧
    GoodOut P.single P.body (crcvStepS sent P.single P.cap P.junk st r).2 := by
  rcases crcvStepS_cases sent P.single P.cap P.junk st r with he | ⟨_, _, he⟩
  · rw [he]; exact cliOnRsp_inv hnet hr st hst
  · obtain ⟨num, szx, k, g1, _⟩ := hnet.rsp r hr
    rw [he, g1]
    exact ⟨fun c' hc' => (by cases hc'), goodOut_skip _ _⟩

theorem srvOnReq_cli (P : B2Par) (s : B2Sys) (num szx : Nat) :
    (srvOnReq P s num szx).cli = s.cli ∧ (srvOnReq P s num szx).outs = s.outs := by
  unfold srvOnReq
  split
  · split
    · split
      · split <;> exact ⟨rfl, rfl⟩
      · exact ⟨rfl, rfl⟩
    · exact ⟨rfl, rfl⟩
  · split <;> exact ⟨rfl, rfl⟩

theorem b2Step_inv (P : B2Par) (hP : B2ParOK P) (s : B2Sys) (e : B2Event) (hinv : B2Inv P s) : B2Inv P (b2Step P s e) := by
  obtain ⟨hnet, hcli⟩ := hinv
  cases e with
  | appGet szx => exact ⟨⟨hnet.rsp, hnet.func, hnet.srv, hnet.outs⟩, hcli⟩
  | reqArrives i =>
    simp only [b2Step]
    cases hq : s.reqs[i]? with
    | none => exact ⟨hnet, hcli⟩
    | some q =>
      obtain ⟨a, b⟩ := srvOnReq_inv P hP s q.1 q.2 hnet
      exact ⟨a, fun c hc => (hcli c ((srvOnReq_cli P s q.1 q.2).1 ▸ hc)).mono b⟩
  | rspArrives j sent =>
    simp only [b2Step]
    cases hq : s.rsps[j]? with
    | none => exact ⟨hnet, hcli⟩
    | some r =>
      obtain ⟨a, b⟩ := cliOnRspS_inv hnet (List.mem_of_getElem? hq) sent s.cli hcli
      exact ⟨⟨hnet.rsp, hnet.func, hnet.srv, forall_mem_snoc hnet.outs b⟩, a⟩
  | srvExpire => exact ⟨⟨hnet.rsp, hnet.func, fun _ h => (nomatch h), hnet.outs⟩, hcli⟩
  | cliExpire => exact ⟨⟨hnet.rsp, hnet.func, hnet.srv, hnet.outs⟩, fun _ h => nomatch h⟩
  | cliNew => exact ⟨⟨hnet.rsp, hnet.func, hnet.srv, hnet.outs⟩, fun c hc => by cases hc; exact CliOK.fresh P _ rfl⟩

theorem b2Run_inv (P : B2Par) (hP : B2ParOK P) (evs : List B2Event) : B2Inv P (evs.foldl (b2Step P) {}) :=
  foldl_inv (B2Inv P) (b2Step_inv P hP) evs {} (b2_init_inv P)

/-- the block size the client starts with -/
def b1B0 (P : B1Par) : Nat :=
  match addDataLarge P.maxSize P.tokLen P.optBytes P.lastOpt P.blk P.maxBlkC P.body.length P.rtagLen with
  | some r => r.blkSize
  | none => 0

/-- the block size the transfer settles on -/
def b1S (P : B1Par) : Nat := if P.maxBlk ≠ 0 ∧ P.maxBlk < b1B0 P then P.maxBlk else b1B0 P

theorem b1S_le (P : B1Par) : b1S P ≤ b1B0 P := by
  unfold b1S; split <;> omega

/-- the SZX the server tracks / answers with for a request in one of the two sizes -/
theorem szxR_eq (P : B1Par) (num szx : Nat) (h : szx = b1S P ∨ (szx = b1B0 P ∧ num = 0)) :
    (if num = 0 ∧ P.maxBlk ≠ 0 ∧ P.maxBlk < szx then P.maxBlk else szx) = b1S P := by
  unfold b1S at *
  generalize b1B0 P = B at *
  by_cases hc : P.maxBlk ≠ 0 ∧ P.maxBlk < B
  · rw [if_pos hc] at h
    rw [if_pos hc]
    rcases h with h | ⟨h, h0⟩
    · rw [if_neg (by omega)]; exact h
    · rw [if_pos ⟨h0, hc.1, by omega⟩]
  · rw [if_neg hc] at h
    rw [if_neg hc]
    have hsz : szx = B := by rcases h with h | ⟨h, _⟩ <;> exact h
    rw [if_neg (by intro hh; exact hc ⟨hh.2.1, by omega⟩)]
    exact hsz

/-- a request datagram of a block-wise transfer is what a libcoap client sends for this body -/
def ReqBlk (P : B1Par) (d : Req1) : Prop :=
  d.szx ≤ 6 ∧ d.num < nBlocks P.body.length d.szx ∧ d.payload = slice P.body d.szx d.num ∧
  d.m = more P.body.length d.szx d.num ∧ d.size1 = some P.body.length ∧
  (d.szx = b1S P ∨ (d.szx = b1B0 P ∧ d.num = 0))

/-- the one message of a body that needs no blocks: the whole body, Block1 absent or (0, 0, SZX) -/
def ReqSingle (P : B1Par) (d : Req1) : Prop := d.num = 0 ∧ d.m = 0 ∧ d.payload = P.body

def ReqOK (P : B1Par) (d : Req1) : Prop := ReqBlk P d ∨ ReqSingle P d

/-- every request in flight is the slice for its NUM/SZX with the right More bit and Size1, in one of two sizes (the client's
initial one — only for block 0 — or the one the transfer settles on); every 2.31 names the settled size; the lg_xmit is well formed
in one of the two sizes; the lg_srcv is consistent with the body and tracks it in the settled size -/
structure B1Inv (P : B1Par) (s : B1Sys) : Prop where
  req : ∀ d, d ∈ s.reqs → ReqOK P d
  rsp : ∀ ok blk, (ok, blk) ∈ s.rsps → ∀ num szx, blk = some (num, szx) → szx = b1S P
  cli : ∀ x, s.cli = some x → x.data = P.body ∧ XmitInv x ∧ (x.blkSize = b1B0 P ∨ x.blkSize = b1S P)
  srv : ∀ v, s.srv = some v → SrcvInv P.cap P.body v ∧ v.szx = b1S P
  outs : ∀ o, o ∈ s.outs → ∀ b l, o = SrcvOut.deliver b l → b = P.body ∧ l = P.body.length

structure B1ParOK (P : B1Par) : Prop where
  len : P.body.length < 2 ^ 31
  ms : P.maxSize < 2 ^ 62

theorem b1_init_inv (P : B1Par) : B1Inv P {} :=
  { req := (by intro d hd; cases hd)
    rsp := (by intro ok blk h; cases h)
    cli := (by intro x hx; cases hx)
    srv := (by intro v hv; cases hv)
    outs := (by intro o ho; cases ho) }

theorem b1Put_inv (P : B1Par) (hP : B1ParOK P) (s : B1Sys) (hinv : B1Inv P s) : B1Inv P (b1Step P s B1Event.appPut) := by
  simp only [b1Step]
  cases ha : addDataLarge P.maxSize P.tokLen P.optBytes P.lastOpt P.blk P.maxBlkC P.body.length P.rtagLen with
  | none => exact hinv
  | some r =>
    simp only
    by_cases hlg : r.lgXmit = true
    · rw [if_pos hlg]
      have hlen := hP.len
      obtain ⟨f1, f2, f3, f4⟩ := addDataLarge_first _ _ _ _ _ _ _ _ r hP.ms (by omega) ha hlg
      have hB0 : b1B0 P = r.blkSize := by unfold b1B0; rw [ha]
      rw [f1]
      simp only
      obtain ⟨hv16, hv8, hvs⟩ := blockValue_first r.blkSize f4
      rw [hv16, hv8, hvs, f2]
      obtain ⟨hnb, hmore, hsl⟩ := first_slice P.body r.blkSize f3
      refine { req := ?_, rsp := hinv.rsp, cli := ?_, srv := hinv.srv, outs := hinv.outs }
      · exact forall_mem_snoc hinv.req
          (Or.inl ⟨f4, (by show 0 < nBlocks P.body.length r.blkSize; omega), hsl, hmore.symm, rfl, Or.inr ⟨hB0.symm, rfl⟩⟩)
      · intro x hx
        cases hx
        refine ⟨rfl, ⟨Nat.zero_mod _, ?_, f4⟩, Or.inl hB0.symm⟩
        show 0 + 2 ^ (r.blkSize + 4) ≤ P.body.length + 1024
        omega
    · rw [if_neg hlg]
      have hlg' : r.lgXmit = false := by cases hx : r.lgXmit with | true => exact (hlg hx).elim | false => rfl
      have hpay := addDataLarge_single _ _ _ _ _ _ _ _ r ha hlg'
      exact { rsp := hinv.rsp, cli := hinv.cli, srv := hinv.srv, outs := hinv.outs,
              req := forall_mem_snoc hinv.req
                (Or.inr ⟨rfl, rfl, by show P.body.take r.payload = P.body; rw [hpay]; exact List.take_length⟩) }

def Req1.dgram (d : Req1) : Dgram := ⟨d.num, d.m, d.szx, d.payload, d.size1⟩

theorem b1Req_spec (P : B1Par) (hP : B1ParOK P) (s : B1Sys) (d : Req1) (hinv : B1Inv P s) (hblk : ReqBlk P d) :
    Genuine P.body s.srv d.dgram ∧
    (∀ s', (srcvStep P.cap P.junk P.maxBlk s.srv d.num d.m d.szx d.payload d.size1).1 = some s' → SrcvInv P.cap P.body s') ∧
    ∀ b l, (srcvStep P.cap P.junk P.maxBlk s.srv d.num d.m d.szx d.payload d.size1).2 = SrcvOut.deliver b l →
      b = P.body ∧ l = P.body.length ∧
      (¬ (d.num = 0 ∧ d.m = 0) → (srcvStep P.cap P.junk P.maxBlk s.srv d.num d.m d.szx d.payload d.size1).1 = none) := by
  obtain ⟨g1, g2, g3, g4, g5, g6⟩ := hblk
  have hsle := b1S_le P
  have hg : Genuine P.body s.srv d.dgram := by
    refine ⟨g1, g2, g3, g4, ?_, ?_⟩
    · intro v hv
      have := (hinv.srv v hv).2
      show v.szx ≤ d.szx
      rcases g6 with g6 | ⟨g6, _⟩ <;> omega
    · intro t ht
      have ht' : d.size1 = some t := ht
      rw [g5] at ht'
      cases ht'
      exact Nat.le_refl _
  exact ⟨hg, srcvStep_spec P.cap P.junk P.maxBlk P.body s.srv d.dgram _ _
    (fun v hv => (hinv.srv v hv).1) hg hP.len rfl⟩

theorem b1Responses_blk (P : B1Par) (d : Req1) (out : SrcvOut) (ok : Bool) (num szx : Nat)
    (h : (ok, some (num, szx)) ∈ b1Responses P d out) :
    out = SrcvOut.cont ∧ szx = (if d.num = 0 ∧ P.maxBlk ≠ 0 ∧ P.maxBlk < d.szx then P.maxBlk else d.szx) := by
  unfold b1Responses at h
  cases out with
  | cont =>
    simp only at h
    by_cases hm1 : d.m = 1
    · rw [if_pos hm1, List.mem_singleton] at h
      cases h
      exact ⟨rfl, rfl⟩
    · rw [if_neg hm1] at h; cases h
  | deliver b l =>
    simp only [List.mem_cons, List.mem_nil_iff, or_false] at h
    rcases h with h | h <;> cases h
  | fail | undersized =>
    simp only [List.mem_singleton] at h
    cases h

theorem b1Req_inv (P : B1Par) (hP : B1ParOK P) (s : B1Sys) (d : Req1) (hd : d ∈ s.reqs) (hinv : B1Inv P s) :
    B1Inv P { s with srv := (srcvStep P.cap P.junk P.maxBlk s.srv d.num d.m d.szx d.payload d.size1).1,
                     outs := s.outs ++ [(srcvStep P.cap P.junk P.maxBlk s.srv d.num d.m d.szx d.payload d.size1).2],
                     rsps := s.rsps ++ b1Responses P d (srcvStep P.cap P.junk P.maxBlk s.srv d.num d.m d.szx d.payload d.size1).2 } := by
  have hrsp : ∀ out, (out = SrcvOut.cont → d.szx = b1S P ∨ (d.szx = b1B0 P ∧ d.num = 0)) →
      ∀ ok blk, (ok, blk) ∈ s.rsps ++ b1Responses P d out → ∀ num szx, blk = some (num, szx) → szx = b1S P := by
    intro out hout ok blk hmem num szx hb
    rcases List.mem_append.mp hmem with hm | hm
    · exact hinv.rsp ok blk hm num szx hb
    · rw [hb] at hm
      obtain ⟨e1, e2⟩ := b1Responses_blk P d out ok num szx hm
      rw [e2]
      exact szxR_eq P d.num d.szx (hout e1)
  rcases hinv.req d hd with hblk | ⟨q1, q2, q3⟩
  case inr =>
    -- a single-message body: "Not blocked, or a single block" — the payload as it is, the lg_srcv is not touched
    have hstep : srcvStep P.cap P.junk P.maxBlk s.srv d.num d.m d.szx d.payload d.size1 =
        (s.srv, SrcvOut.deliver P.body P.body.length) := by
      unfold srcvStep
      dsimp only
      rw [if_pos ⟨q1, q2⟩, q3]
    rw [hstep]
    exact { req := hinv.req, rsp := hrsp _ (fun h => by cases h), cli := hinv.cli, srv := hinv.srv,
            outs := forall_mem_snoc hinv.outs fun b l hb => by cases hb; exact ⟨rfl, rfl⟩ }
  obtain ⟨hg, hspec⟩ := b1Req_spec P hP s d hinv hblk
  have g6 := hblk.2.2.2.2.2
  refine { req := hinv.req, rsp := hrsp _ (fun _ => g6), cli := hinv.cli, srv := ?_, outs := ?_ }
  · intro v hv
    have hv' : (srcvStep P.cap P.junk P.maxBlk s.srv d.num d.m d.szx d.payload d.size1).1 = some v := hv
    refine ⟨hspec.1 v hv', ?_⟩
    rcases srcvStep_szx _ _ _ _ _ _ _ _ _ v hg.2.2.2.2.1 hv' with ⟨v0, e1, e2⟩ | ⟨_, e2⟩
    · rw [e2]; exact (hinv.srv v0 e1).2
    · rw [e2]; exact szxR_eq P d.num d.szx g6
  · exact forall_mem_snoc hinv.outs fun b l hb => ⟨(hspec.2 b l hb).1, (hspec.2 b l hb).2.1⟩

theorem b1Rsp_inv (P : B1Par) (hP : B1ParOK P) (s : B1Sys) (ok : Bool) (blk : Option (Nat × Nat)) (x : LgXmit)
    (hr : (ok, blk) ∈ s.rsps) (hx : s.cli = some x) (hinv : B1Inv P s) :
    B1Inv P { s with cli := (xmitB1Step x P.room ok blk).1,
                     reqs := s.reqs ++ (match (xmitB1Step x P.room ok blk).2 with
                                        | .sendNext n m sx p => [⟨n, m, sx, p, some P.body.length⟩]
                                        | _ => []) } := by
  obtain ⟨c1, c2, c3⟩ := hinv.cli x hx
  have hsle := b1S_le P
  have hlen := hP.len
  have hblk : ∀ num szx, blk = some (num, szx) → szx ≤ x.blkSize := by
    intro num szx hb
    have := hinv.rsp ok blk hr num szx hb
    rcases c3 with c3 | c3 <;> omega
  refine { req := ?_, rsp := hinv.rsp, cli := ?_, srv := hinv.srv, outs := hinv.outs }
  · intro d hd
    have hd' : d ∈ s.reqs ++ (match (xmitB1Step x P.room ok blk).2 with
        | .sendNext n m sx p => [⟨n, m, sx, p, some P.body.length⟩]
        | _ => []) := hd
    rcases List.mem_append.mp hd' with hd' | hd'
    · exact hinv.req d hd'
    · cases hres : xmitB1Step x P.room ok blk with
      | mk st' o =>
        rw [hres] at hd'
        cases o with
        | sendNext n m sx p =>
          simp only [List.mem_singleton] at hd'
          rw [hd']
          obtain ⟨a, b, _, ⟨num0, sx0, hb, hs0⟩, e⟩ := xmitB1Step_spec x P.room ok blk st' n m sx p hres
          have hs1 : sx = sx0 := by rw [hs0]; exact (xmitB1Szx_facts x sx0).2.2.1 (hblk num0 sx0 hb)
          subst hs1
          have hsx := hinv.rsp ok blk hr num0 sx hb
          obtain ⟨e1, _⟩ := e c2
          rw [c1] at a b e1
          have h6 : sx ≤ 6 := by have := hblk num0 sx hb; have := c2.2.2; omega
          exact Or.inl ⟨h6, a, b, e1, rfl, Or.inl hsx⟩
        | dupIgnored | finished | fail500 => simp only at hd'; cases hd'
  · intro x' hx'
    have hx'' : (xmitB1Step x P.room ok blk).1 = some x' := hx'
    obtain ⟨a, b, _, num, szx, hb, e⟩ := xmitB1Step_inv x P.room ok blk x' c2 (by rw [c1]; omega) hx''
    rw [(xmitB1Szx_facts x szx).2.2.1 (hblk num szx hb)] at e
    exact ⟨by rw [b, c1], a, Or.inr (by rw [e]; exact hinv.rsp ok blk hr num szx hb)⟩

theorem b1Step_inv (P : B1Par) (hP : B1ParOK P) (s : B1Sys) (e : B1Event) (hinv : B1Inv P s) : B1Inv P (b1Step P s e) := by
  cases e with
  | appPut => exact b1Put_inv P hP s hinv
  | reqArrives i =>
    simp only [b1Step]
    cases hq : s.reqs[i]? with
    | none => exact hinv
    | some d => exact b1Req_inv P hP s d (List.mem_of_getElem? hq) hinv
  | rspArrives j =>
    simp only [b1Step]
    cases hq : s.rsps[j]? with
    | none => exact hinv
    | some r =>
      obtain ⟨ok, blk⟩ := r
      cases hc : s.cli with
      | none => exact hinv
      | some x => exact b1Rsp_inv P hP s ok blk x (List.mem_of_getElem? hq) hc hinv
  | srvExpire =>
    exact { req := hinv.req, rsp := hinv.rsp, cli := hinv.cli, srv := (by intro v hv; cases hv), outs := hinv.outs }
  | cliExpire =>
    exact { req := hinv.req, rsp := hinv.rsp, cli := (by intro x hx; cases hx), srv := hinv.srv, outs := hinv.outs }

theorem b1Run_inv (P : B1Par) (hP : B1ParOK P) (evs : List B1Event) : B1Inv P (evs.foldl (b1Step P) {}) :=
  foldl_inv (B1Inv P) (b1Step_inv P hP) evs {} (b1_init_inv P)

end Coap.Block
