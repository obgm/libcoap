import CoapVerif.Lemmas.StreamWsDefs
/- C05, WebSocket part: the handshake phase of the correspondence proof M_ws = S_ws.

   `rdHttpHeader_spec`: one call of `coap_ws_rd_http_header` (model `rdHttpHeader`) computes what the
   specification `handshake` computes on (the buffered line ++ the bytes the call consumed), for all bytes.
   Technique: "remaining work" — S on (buffer ++ available ++ X) before = S on (buffer' ++ left ++ X)
   after. -/
namespace Coap
open Coap.M Coap.M.Ws Coap.Spec.Stream Coap.Spec.Stream.Ws

theorem lfIndex_some_lt : ∀ (bs : Bytes) (i : Nat), lfIndex bs = some i → i < bs.length := by
  intro bs
  induction bs with
  | nil => intro i h; simp [lfIndex] at h
  | cons b r ih =>
    intro i h
    by_cases hb : b = 10
    · simp only [lfIndex, if_pos hb] at h
      simp only [List.length_cons]
      have : 0 = i := by simpa using h
      omega
    · simp only [lfIndex, if_neg hb] at h
      by_cases h0 : b = 0
      · simp [h0] at h
      · simp only [if_neg h0] at h
        cases hr : lfIndex r with
        | none => rw [hr] at h; simp at h
        | some j =>
          rw [hr] at h
          have hj := ih j hr
          have : j + 1 = i := by simpa using h
          simp only [List.length_cons]; omega

theorem lfIndex_append_some : ∀ (a b : Bytes) (i : Nat), lfIndex a = some i → lfIndex (a ++ b) = some i := by
  intro a
  induction a with
  | nil => intro b i h; simp [lfIndex] at h
  | cons c r ih =>
    intro b i h
    by_cases hc : c = 10
    · simp only [lfIndex, if_pos hc] at h
      simp only [List.cons_append, lfIndex, if_pos hc]; exact h
    · simp only [lfIndex, if_neg hc] at h
      by_cases h0 : c = 0
      · simp [h0] at h
      · simp only [if_neg h0] at h
        simp only [List.cons_append, lfIndex, if_neg hc, if_neg h0]
        cases hr : lfIndex r with
        | none => rw [hr] at h; simp at h
        | some j => rw [hr] at h; rw [ih b j hr]; exact h

theorem lfIndex_append_ge : ∀ (a g : Bytes) (i : Nat), lfIndex a = none → lfIndex (a ++ g) = some i → a.length ≤ i := by
  intro a
  induction a with
  | nil => intro g i _ _; simp
  | cons b r ih =>
    intro g i hn hs
    simp only [lfIndex, List.cons_append] at hn hs
    by_cases hb : b = 10
    · simp [hb] at hn
    · simp only [hb, if_false] at hn hs
      by_cases h0 : b = 0
      · simp [h0] at hs
      · simp only [h0, if_false, Option.map_eq_none_iff] at hn
        simp only [h0, if_false, Option.map_eq_some_iff] at hs
        obtain ⟨j, hj, rfl⟩ := hs
        have := ih g j hn hj
        simp only [List.length_cons]; omega

theorem handshake_fuel {σ} (V : Validator σ) : ∀ (f1 f2 : Nat) (s : σ) (bs : Bytes),
    bs.length < f1 → bs.length < f2 → handshake V f1 s bs = handshake V f2 s bs := by
  intro f1
  induction f1 with
  | zero => intro f2 s bs h; omega
  | succ f1 ih =>
    intro f2 s bs h1 h2
    cases f2 with
    | zero => omega
    | succ f2 =>
      simp only [handshake]
      cases hi : lfIndex bs with
      | none => rfl
      | some i =>
        have hlt := lfIndex_some_lt bs i hi
        have hd : (bs.drop (i + 1)).length < bs.length := by rw [List.length_drop]; omega
        simp only
        cases V.line s (stripCr (bs.take i)) with
        | none => rfl
        | some s' => simp only [ih f2 s' (bs.drop (i + 1)) (by omega) (by omega)]

theorem hsRes_noLF {σ} (V : Validator σ) (mode : Mode) (s : σ) (bs : Bytes) (h : lfIndex bs = none) :
    hsRes V mode s bs = if bs.length > maxLine then ⟨[], false, true⟩ else ⟨[], false, false⟩ := by
  simp only [hsRes, handshake, h]
  by_cases hl : bs.length > maxLine
  · simp only [if_pos hl]
  · simp only [if_neg hl]

theorem hsRes_late {σ} (V : Validator σ) (mode : Mode) (s : σ) (bs : Bytes) (i : Nat) (h : lfIndex bs = some i)
    (hi : maxLine < i) : hsRes V mode s bs = ⟨[], false, true⟩ := by
  have hi' : i > maxLine := hi
  simp only [hsRes, handshake, h, if_pos hi']

theorem hsRes_line {σ} (V : Validator σ) (mode : Mode) (s : σ) (H Y : Bytes) (i : Nat) (h : lfIndex H = some i)
    (hi : i ≤ maxLine) :
    hsRes V mode s (H ++ Y) =
      if stripCr (H.take i) = [] then (if V.final s then frRes mode (H.drop (i + 1) ++ Y) else ⟨[], false, true⟩)
      else match V.line s (stripCr (H.take i)) with
        | none => ⟨[], false, true⟩
        | some s' => hsRes V mode s' (H.drop (i + 1) ++ Y) := by
  have hlt := lfIndex_some_lt H i h
  have hi' : ¬ i > maxLine := by omega
  rw [← List.take_append_of_le_length (l₂ := Y) (Nat.le_of_lt hlt), ← List.drop_append_of_le_length (l₂ := Y) hlt]
  have hiY := lfIndex_append_some H Y i h
  have hd : ((H ++ Y).drop (i + 1)).length < (H ++ Y).length := by rw [List.length_drop, List.length_append]; omega
  generalize H ++ Y = bs at hiY hd ⊢
  by_cases hl : stripCr (bs.take i) = []
  · simp only [hsRes, handshake, hiY, if_neg hi', hl, if_true]
    cases V.final s <;> simp
  · rw [if_neg hl]
    cases hv : V.line s (stripCr (bs.take i)) with
    | none => simp only [hsRes, handshake, hiY, if_neg hi', if_neg hl, hv]
    | some s' =>
      have e : handshake V (bs.length + 1) s bs = handshake V bs.length s' (bs.drop (i + 1)) := by
        simp only [handshake, hiY, if_neg hi', if_neg hl, hv]
      unfold hsRes
      rw [e, handshake_fuel V bs.length ((bs.drop (i + 1)).length + 1) s' (bs.drop (i + 1)) hd (by omega)]

theorem hsRes_pend {σ} (V : Validator σ) (mode : Mode) (s : σ) (l : Bytes) (hno : lfIndex l = none)
    (hlen : l.length < httpCap - 1) : hsRes V mode s l = ⟨[], false, false⟩ := by
  rw [hsRes_noLF V mode s l hno]
  have : ¬ l.length > maxLine := by simp only [httpCap, maxLine] at *; omega
  rw [if_neg this]

theorem lineLoop_round (mode : Mode) (accept : Bytes) (fuel : Nat) (st : St) (i : Nat) (h : lfIndex st.httpHdr = some i) :
    lineLoop mode accept (fuel + 1) st =
      if stripCr (st.httpHdr.take i) = [] then
        (if allSeen mode st.seen then
          (if (st.httpHdr.drop (i + 1)).length > fsCap then .oob
           else .up { st with up := true, seen := st.seen, rdHeader := st.httpHdr.drop (i + 1), httpHdr := [] })
         else .fail)
      else match lineOk mode accept st.seen (stripCr (st.httpHdr.take i)) with
        | none => .fail
        | some s' => lineLoop mode accept fuel { st with seen := s', httpHdr := st.httpHdr.drop (i + 1) } := by
  rw [← lfIdx_eq] at h
  unfold stripCr
  by_cases hl : (if (st.httpHdr.take i).getLast? = some 13 then (st.httpHdr.take i).dropLast else st.httpHdr.take i) = []
  · simp only [lineLoop, h, hl, if_true]
  · rw [if_neg hl]
    cases hv : lineOk mode accept st.seen
        (if (st.httpHdr.take i).getLast? = some 13 then (st.httpHdr.take i).dropLast else st.httpHdr.take i) with
    | none => simp only [lineLoop, h, if_neg hl, hv]
    | some s' => simp only [lineLoop, h, if_neg hl, hv]; simp

/-- what `lineLoop` started on `st` (buffer `st.httpHdr`, followed in the stream by `Y`) has to deliver -/
def LinesPost (mode : Mode) (accept : Bytes) (Y : Bytes) (st : St) : Lines → Prop
  | .fail => hsRes (validator mode accept) mode st.seen (st.httpHdr ++ Y) = ⟨[], false, true⟩
  | .oob => False
  | .cont st' => lfIndex st'.httpHdr = none ∧ st'.httpHdr.length ≤ st.httpHdr.length ∧
      hsRes (validator mode accept) mode st.seen (st.httpHdr ++ Y) =
        hsRes (validator mode accept) mode st'.seen (st'.httpHdr ++ Y) ∧
      st'.up = st.up ∧ st'.rdHeader = st.rdHeader ∧ st'.allHdrIn = st.allHdrIn ∧ st'.rxData = st.rxData
  | .up st' => st'.up = true ∧ st'.rdHeader.length < fsCap ∧
      hsRes (validator mode accept) mode st.seen (st.httpHdr ++ Y) = frRes mode (st'.rdHeader ++ Y) ∧
      st'.allHdrIn = st.allHdrIn ∧ st'.rxData = st.rxData

theorem LinesPost.transfer (mode : Mode) (accept : Bytes) (Y : Bytes) (st st2 : St) (res : Lines)
    (hres : hsRes (validator mode accept) mode st.seen (st.httpHdr ++ Y) =
      hsRes (validator mode accept) mode st2.seen (st2.httpHdr ++ Y))
    (hlen : st2.httpHdr.length ≤ st.httpHdr.length) (hup : st2.up = st.up) (hrd : st2.rdHeader = st.rdHeader)
    (hall : st2.allHdrIn = st.allHdrIn) (hrx : st2.rxData = st.rxData)
    (h : LinesPost mode accept Y st2 res) : LinesPost mode accept Y st res := by
  cases res with
  | fail => simp only [LinesPost] at h ⊢; rw [hres]; exact h
  | oob => exact h
  | cont st' =>
    simp only [LinesPost] at h ⊢
    obtain ⟨h1, h2, h4, h5, h6, h7, h8⟩ := h
    exact ⟨h1, by omega, by rw [hres]; exact h4, by rw [h5, hup], by rw [h6, hrd], by rw [h7, hall], by rw [h8, hrx]⟩
  | up st' =>
    simp only [LinesPost] at h ⊢
    obtain ⟨h1, h2, h3, h4, h5⟩ := h
    exact ⟨h1, h2, by rw [hres]; exact h3, by rw [h4, hall], by rw [h5, hrx]⟩

/-- last hypothesis: at most `fsCap - 1` bytes lie behind the first line end — the buffer had no
line end before the read and a read appends at most `fsCap` bytes — so what is carried over into `rd_header` after the
empty line fits it, which is what excludes `oob` -/
theorem lineLoop_spec (mode : Mode) (accept : Bytes) (Y : Bytes) : ∀ (fuel : Nat) (st : St),
    st.httpHdr.length < fuel → st.httpHdr.length ≤ httpCap - 1 →
    (∀ i, lfIndex st.httpHdr = some i → st.httpHdr.length ≤ i + fsCap) →
    LinesPost mode accept Y st (lineLoop mode accept fuel st) := by
  intro fuel
  induction fuel with
  | zero => intro st h; omega
  | succ f ih =>
    intro st hf hcap hcar
    cases hi : lfIndex st.httpHdr with
    | none =>
      rw [lineLoop_noLF mode accept _ st (by rw [lfIdx_eq]; exact hi)]
      exact ⟨hi, Nat.le_refl _, rfl, rfl, rfl, rfl, rfl⟩
    | some i =>
      have hlt := lfIndex_some_lt _ i hi
      have himax : i ≤ maxLine := by simp only [httpCap, maxLine] at *; omega
      have hcar' : st.httpHdr.length ≤ i + 14 := hcar i hi
      have hdl : (st.httpHdr.drop (i + 1)).length + i + 1 = st.httpHdr.length := by
        rw [List.length_drop]; omega
      have hS := hsRes_line (validator mode accept) mode st.seen st.httpHdr Y i hi himax
      rw [show (validator mode accept).final st.seen = allSeen mode st.seen from rfl,
        show (validator mode accept).line st.seen = lineOk mode accept st.seen from rfl] at hS
      rw [lineLoop_round mode accept f st i hi]
      by_cases hl : stripCr (st.httpHdr.take i) = []
      · rw [if_pos hl] at hS ⊢
        by_cases ha : allSeen mode st.seen = true
        · have hnb : ¬ (st.httpHdr.drop (i + 1)).length > fsCap := by simp only [fsCap]; omega
          rw [if_pos ha, if_neg hnb]
          rw [if_pos ha] at hS
          exact ⟨rfl, by simp only [fsCap]; omega, hS, rfl, rfl⟩
        · rw [if_neg ha]
          rw [if_neg ha] at hS
          exact hS
      · rw [if_neg hl] at hS ⊢
        cases hv : lineOk mode accept st.seen (stripCr (st.httpHdr.take i)) with
        | none => rw [hv] at hS; exact hS
        | some s' =>
          rw [hv] at hS
          apply LinesPost.transfer mode accept Y st { st with seen := s', httpHdr := st.httpHdr.drop (i + 1) } _
            hS (by simp only; omega) rfl rfl rfl rfl
          apply ih
          · simp only; omega
          · simp only; omega
          · intro j _; simp only [fsCap]; omega

theorem hsRes_full {σ} (V : Validator σ) (mode : Mode) (s : σ) (H Z : Bytes) (hno : lfIndex H = none)
    (hlen : httpCap - 1 ≤ H.length) : hsRes V mode s (H ++ Z) = ⟨[], false, true⟩ := by
  cases hz : lfIndex (H ++ Z) with
  | none =>
    rw [hsRes_noLF V mode s _ hz]
    have : (H ++ Z).length > maxLine := by
      rw [List.length_append]; simp only [httpCap, maxLine] at *; omega
    rw [if_pos this]
  | some j =>
    have := lfIndex_append_ge H Z j hno hz
    exact hsRes_late V mode s _ j hz (by simp only [httpCap, maxLine] at *; omega)

/-- what one call of `rdHttpHeader` on `st`, `av` (followed in the stream by `X`) has to deliver -/
def RdPost (mode : Mode) (accept : Bytes) (X : Bytes) (st : St) (av : Bytes) : R (St × Bytes) → Prop
  | R.rej => hsRes (validator mode accept) mode st.seen (st.httpHdr ++ (av ++ X)) = ⟨[], false, true⟩
  | R.oob => False
  | R.ok p =>
      (p.1.up = false → p.2 = [] ∧ HsInv p.1 ∧
          hsRes (validator mode accept) mode st.seen (st.httpHdr ++ (av ++ X)) =
            hsRes (validator mode accept) mode p.1.seen (p.1.httpHdr ++ X)) ∧
      (p.1.up = true → FrPre p.1 p.1.rdHeader ∧ p.1.rdHeader.length < fsCap ∧ p.2.length < av.length ∧
          hsRes (validator mode accept) mode st.seen (st.httpHdr ++ (av ++ X)) =
            frRes mode (p.1.rdHeader ++ (p.2 ++ X)))

theorem RdPost.transfer (mode : Mode) (accept : Bytes) (X : Bytes) (st st2 : St) (av av2 : Bytes)
    (res : R (St × Bytes))
    (hres : hsRes (validator mode accept) mode st.seen (st.httpHdr ++ (av ++ X)) =
      hsRes (validator mode accept) mode st2.seen (st2.httpHdr ++ (av2 ++ X)))
    (hlen : av2.length ≤ av.length)
    (h : RdPost mode accept X st2 av2 res) : RdPost mode accept X st av res := by
  cases res with
  | rej => simp only [RdPost] at h ⊢; rw [hres]; exact h
  | oob => exact h
  | ok p =>
    simp only [RdPost] at h ⊢
    refine ⟨fun hu => ?_, fun hu => ?_⟩
    · obtain ⟨h1, h2, h4⟩ := h.1 hu
      exact ⟨h1, h2, by rw [hres]; exact h4⟩
    · obtain ⟨h1, h2, h3, h4⟩ := h.2 hu
      exact ⟨h1, h2, by omega, by rw [hres]; exact h4⟩

/-- `rdHttpHeader_spec` with `≤ httpCap - 1` for `HsInv`'s `<`: the recursion passes through the full line buffer, which the
next round refuses (`hsRes_full`) -/
theorem rdHttpHeader_spec_gen (mode : Mode) (accept : Bytes) (X : Bytes) :
    ∀ (fuel : Nat) (st : St) (av : Bytes),
    st.up = false → lfIndex st.httpHdr = none → st.httpHdr.length ≤ httpCap - 1 →
    st.rdHeader = [] → st.allHdrIn = false → st.rxData = none →
    av.length + 1 < fuel →
    RdPost mode accept X st av (rdHttpHeader mode accept fuel st av) := by
  intro fuel
  induction fuel with
  | zero => intro st av _ _ _ _ _ _ h; omega
  | succ f ih =>
    intro st av hup hno hcap hrd hall hrx hf
    rw [rdHttpHeader_round mode accept f st av _ hup rfl]
    by_cases hlong : httpCap - 1 ≤ st.httpHdr.length
    · rw [if_pos hlong]
      exact hsRes_full _ mode st.seen st.httpHdr (av ++ X) hno hlong
    rw [if_neg hlong]
    by_cases h0 : av = []
    · subst h0
      rw [if_pos rfl]
      exact ⟨fun _ => ⟨rfl, ⟨hup, hno, Nat.lt_of_not_le hlong, hrd, hall, hrx⟩, rfl⟩, fun hu => by rw [hup] at hu; cases hu⟩
    rw [if_neg h0]
    generalize hn : min fsCap (httpCap - 1 - st.httpHdr.length) = n
    have hpos : 0 < n ∧ n ≤ httpCap - 1 - st.httpHdr.length ∧ n ≤ 14 := by simp only [fsCap] at hn; omega
    have hlen := List.length_pos_iff.mpr h0
    have hbl : (st.httpHdr ++ av.take n).length ≤ httpCap - 1 := by
      rw [List.length_append, List.length_take]; omega
    have hsplit : st.httpHdr ++ (av ++ X) = (st.httpHdr ++ av.take n) ++ (av.drop n ++ X) := by
      rw [List.append_assoc, ← List.append_assoc (av.take n), List.take_append_drop]
    have hcar : ∀ i, lfIndex (st.httpHdr ++ av.take n) = some i → (st.httpHdr ++ av.take n).length ≤ i + fsCap := by
      intro i hi
      have := lfIndex_append_ge st.httpHdr _ i hno hi
      rw [List.length_append, List.length_take]; omega
    have hdl : (av.drop n).length < av.length := by rw [List.length_drop]; omega
    have hLL := lineLoop_spec mode accept (av.drop n ++ X) _ { st with httpHdr := st.httpHdr ++ av.take n }
      (Nat.lt_succ_self _) hbl hcar
    generalize lineLoop mode accept _ { st with httpHdr := st.httpHdr ++ av.take n } = res at hLL ⊢
    cases res with
    | fail => simp only [RdPost]; rw [hsplit]; exact hLL
    | oob => exact hLL
    | up st' =>
      obtain ⟨h1, h2, h3, h4, h5⟩ := hLL
      simp only [RdPost]
      exact ⟨fun hu => (by rw [h1] at hu; cases hu),
        fun _ => ⟨⟨h1, h4.trans hall, rfl, h5.trans hrx⟩, h2, hdl, by rw [hsplit]; exact h3⟩⟩
    | cont st' =>
      obtain ⟨h1, h2, h4, h5, h6, h7, h8⟩ := hLL
      exact RdPost.transfer mode accept X st st' av (av.drop n) _ (by rw [hsplit]; exact h4) (Nat.le_of_lt hdl)
        (ih st' _ (h5.trans hup) h1 (Nat.le_trans h2 hbl) (h6.trans hrd) (h7.trans hall) (h8.trans hrx) (by omega))

theorem rdHttpHeader_spec (mode : Mode) (accept : Bytes) (X : Bytes) (fuel : Nat) (st : St) (av : Bytes)
    (hinv : HsInv st) (hf : av.length + 1 < fuel) : RdPost mode accept X st av (rdHttpHeader mode accept fuel st av) :=
  rdHttpHeader_spec_gen mode accept X fuel st av hinv.1 hinv.2.1 (Nat.le_of_lt hinv.2.2.1)
    hinv.2.2.2.1 hinv.2.2.2.2.1 hinv.2.2.2.2.2 hf

/-- the hypotheses are satisfiable: the empty line "\r\n" cut between the line buffer and the read, a frame behind
it; and a line buffer that holds a NUL byte and, behind it, an LF that is not a line end -/
example : HsInv { httpHdr := [13] } ∧ ([10, 130, 0] : Bytes).length + 1 < ([10, 130, 0] : Bytes).length + 2 :=
  ⟨⟨rfl, by decide, by decide, rfl, rfl, rfl⟩, by decide⟩
example : HsInv { httpHdr := [88, 0, 13, 10, 13, 10] } := ⟨rfl, by decide, by decide, rfl, rfl, rfl⟩

end Coap
