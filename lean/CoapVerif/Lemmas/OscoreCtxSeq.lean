import CoapVerif.Spec.OscoreCtxSeq
import CoapVerif.Model.OscoreSrv
import CoapVerif.Lemmas.OscoreSeq
import CoapVerif.Lemmas.OscoreCtx
/- Helper lemmas for the "several contexts on one server session" theorems of C14 (Props/C14.lean): S's token ↦ (binding,
context) store (Spec/OscoreCtxSeq.lean) and libcoap's server-side association list (Model/OscoreSrv.lean). -/
namespace Coap
open Coap.Spec.Oscore

/-! ### S -/

theorem cFind_cDel (st : CStore) (t t' : Bytes) :
    cFind (cDel st t') t = if t = t' then none else cFind st t :=
  find_filter_key (fun e : CEntry => e.token) st t t'

theorem cFind_cSet (st : CStore) (e : CEntry) (t : Bytes) :
    cFind (cSet st e) t = if e.token = t then some e else cFind st t :=
  find_cons_filter_key (fun e : CEntry => e.token) st e t

theorem serverSendAny_some {cipher : Bytes → Bytes → Bytes} {st st' : CStore} {m r : Msg} {ask : Bool} {seq : Nat}
    {sepMid : Option Nat} (h : serverSendAny cipher st m ask seq sepMid = some (r, st')) :
    ∃ e, cFind st m.token = some e ∧ protectResponseFor cipher e.ctx e.b e.observe m ask seq sepMid = some r ∧
      st' = if e.keep then st else cDel st m.token := by
  unfold serverSendAny at h
  cases hf : cFind st m.token with
  | none => simp [hf] at h
  | some e =>
    cases hp : protectResponseFor cipher e.ctx e.b e.observe m ask seq sepMid with
    | none => simp [hf, hp] at h
    | some r0 =>
      simp only [hf, hp, Option.some.injEq, Prod.mk.injEq] at h
      exact ⟨e, rfl, h.1 ▸ hp, h.2.symm⟩

theorem serverRecvAny_rej (cipher : Bytes → Bytes → Bytes) (cs : List Ctx) (st : CStore) (pm : Msg)
    (h : ∀ x b, unprotectRequestAny cipher cs pm ≠ .ok x b) : (serverRecvAny cipher cs st pm).2 = st := by
  unfold serverRecvAny
  split
  · rename_i x b c hx _
    exact absurd hx (h x b)
  · rfl

/-- an event that leaves the entry of token `t` alone: it concerns another token, or it is a request (with whatever
token) that does not verify -/
def XStepLeaves (cipher : Bytes → Bytes → Bytes) (cs : List Ctx) (t : Bytes) (s : XStep) : Prop :=
  s.token ≠ t ∨ ∃ pm, s = .recv pm ∧ ∀ x b, unprotectRequestAny cipher cs pm ≠ .ok x b

theorem cFind_step_leaves (cipher : Bytes → Bytes → Bytes) (cs : List Ctx) (st : CStore) (s : XStep) (t : Bytes)
    (h : XStepLeaves cipher cs t s) : cFind (serverStepAny cipher cs st s) t = cFind st t := by
  rcases h with h | ⟨pm, rfl, hrej⟩
  · cases s with
    | recv pm =>
      show cFind (serverRecvAny cipher cs st pm).2 t = cFind st t
      unfold serverRecvAny
      split
      · exact (cFind_cSet _ _ t).trans (if_neg h)
      · rfl
    | send m ask seq sepMid =>
      simp only [serverStepAny]
      cases hs : serverSendAny cipher st m ask seq sepMid with
      | none => rfl
      | some x =>
        -- the response consumes the binding of ITS token, or nothing
        obtain ⟨r, st'⟩ := x
        obtain ⟨e, _, _, rfl⟩ := serverSendAny_some hs
        show cFind (if e.keep = true then st else cDel st m.token) t = cFind st t
        by_cases hk : e.keep = true
        · rw [if_pos hk]
        · rw [if_neg hk, cFind_cDel, if_neg fun x => h x.symm]
  · exact congrArg (cFind · t) (serverRecvAny_rej cipher cs st pm hrej)

theorem cFind_run_leaves (cipher : Bytes → Bytes → Bytes) (cs : List Ctx) (steps : List XStep) (t : Bytes)
    (h : ∀ s ∈ steps, XStepLeaves cipher cs t s) (st : CStore) : cFind (serverRunAny cipher cs st steps) t = cFind st t :=
  foldl_inv_mem (fun s => cFind s t = cFind st t) steps
    (fun x hx s e => (cFind_step_leaves cipher cs s x t (h x hx)).trans e) st rfl

theorem cFind_run_ne (cipher : Bytes → Bytes → Bytes) (cs : List Ctx) (steps : List XStep) (t : Bytes)
    (h : ∀ s ∈ steps, s.token ≠ t) : ∀ st, cFind (serverRunAny cipher cs st steps) t = cFind st t :=
  cFind_run_leaves cipher cs steps t fun s hs => Or.inl (h s hs)

theorem selectFor_of_ok (cipher : Bytes → Bytes → Bytes) (cs : List Ctx) (hu : Unambiguous cs) (c : Ctx) (hc : c ∈ cs)
    (m x : Msg) (b : Binding) (h : unprotectRequest cipher c m = .ok x b) : selectFor cs m = some c := by
  obtain ⟨ov, v, h1, _, h3, h4⟩ := unprotectRequest_ok_names cipher c m x b h
  unfold selectFor
  simp only [h1, h3]
  exact selectCtx_of_unambiguous cs v c hu hc h4

/-! ### M: the server session -/
open Coap.M.Oscore

theorem findSAssoc_map (as : List SAssoc) (t t' : Bytes) (f : SAssoc → SAssoc) (hf : ∀ a, (f a).token = a.token) :
    findSAssoc (as.map fun a => if a.token = t then f a else a) t' =
      if t' = t then (findSAssoc as t').map f else findSAssoc as t' :=
  find_map_key (fun a : SAssoc => a.token) as t t' f hf

theorem findSAssoc_filter (as : List SAssoc) (t t' : Bytes) :
    findSAssoc (as.filter fun a => a.token ≠ t') t = if t = t' then none else findSAssoc as t :=
  find_filter_key (fun a : SAssoc => a.token) as t t'

theorem findSAssoc_token {as : List SAssoc} {t : Bytes} {a : SAssoc} (h : findSAssoc as t = some a) : a.token = t := by
  have := List.find?_some h
  simpa using this

theorem findSAssoc_cons (a : SAssoc) (as : List SAssoc) (t : Bytes) :
    findSAssoc (a :: as) t = if t = a.token then some a else findSAssoc as t :=
  find_cons_key (fun a : SAssoc => a.token) a as t

theorem findSAssoc_decrypt (s : Srv) (t : Bytes) (pos : RPos) (aad nonce piv : Bytes) (o : Bool) (t' : Bytes) :
    findSAssoc (srvDecrypt s t pos aad nonce piv true o).as t' =
      if t' = t then some ⟨t, pos, aad, nonce, piv, o || (findSAssoc s.as t).any (·.isObserve), false⟩
      else findSAssoc s.as t' := by
  -- the Observe mark, on whatever list the update has produced
  have mark : ∀ as1 : List SAssoc,
      findSAssoc (if o = true then as1.map fun a => if a.token = t then { a with isObserve := true } else a else as1) t' =
        if t' = t then (findSAssoc as1 t').map (fun a => { a with isObserve := o || a.isObserve }) else findSAssoc as1 t' := by
    intro as1
    cases o with
    | true => exact findSAssoc_map as1 t t' (fun a => { a with isObserve := true }) fun _ => rfl
    | false =>
      rw [if_neg Bool.false_ne_true]
      by_cases ht : t' = t
      · rw [if_pos ht]
        exact Option.map_id'.symm
      · rw [if_neg ht]
  unfold srvDecrypt
  simp only [Bool.not_true, Bool.false_eq_true, if_false]
  rw [mark]
  cases hf : findSAssoc s.as t with
  | none =>
    dsimp only
    rw [findSAssoc_cons]
    by_cases ht : t' = t
    · rw [if_pos ht, if_pos ht, if_pos ht]
      rfl
    · rw [if_neg ht, if_neg ht, if_neg ht]
  | some a0 =>
    dsimp only
    rw [findSAssoc_map s.as t t' (fun a => { a with nonce := nonce, piv := piv, aad := aad, rcp := pos, isClient := false })
      fun _ => rfl]
    by_cases ht : t' = t
    · rw [if_pos ht, if_pos ht, if_pos ht, ht, hf, ← findSAssoc_token hf]
      rfl
    · rw [if_neg ht, if_neg ht, if_neg ht]

theorem findSAssoc_removed {as as' : List SAssoc} {t : Bytes} (h : as' = as ∨ as' = as.filter fun a => a.token ≠ t) (t' : Bytes) :
    (¬ t' = t → findSAssoc as' t' = findSAssoc as t') ∧ (∀ a, findSAssoc as' t' = some a → findSAssoc as t' = some a) := by
  rcases h with rfl | rfl
  · exact ⟨fun _ => rfl, fun _ h => h⟩
  · rw [findSAssoc_filter]
    exact ⟨fun ht => if_neg ht, fun _ h => (ite_eq_some h).elim (fun h => nomatch h.2) (·.2)⟩

theorem findSAssoc_protect (s : Srv) (t t' : Bytes) :
    (¬ t' = t → findSAssoc (srvProtect s t).as t' = findSAssoc s.as t') ∧
    (∀ a, findSAssoc (srvProtect s t).as t' = some a → findSAssoc s.as t' = some a) := by
  refine findSAssoc_removed ?_ t'
  unfold srvProtect
  cases findSAssoc s.as t with
  | none => exact Or.inl rfl
  | some a0 =>
    dsimp only
    by_cases hcl : a0.isClient = true
    · rw [if_pos hcl]
      exact Or.inl rfl
    by_cases ho : a0.isObserve = true
    · rw [if_neg hcl, if_pos ho]
      exact Or.inl rfl
    · rw [if_neg hcl, if_neg ho]
      exact Or.inr rfl

theorem findSAssoc_respIn (s : Srv) (t : Bytes) (v : Bool) (t' : Bytes) :
    (¬ t' = t → findSAssoc (srvRespIn s t v).as t' = findSAssoc s.as t') ∧
    (∀ a, findSAssoc (srvRespIn s t v).as t' = some a → findSAssoc s.as t' = some a) := by
  refine findSAssoc_removed ?_ t'
  unfold srvRespIn
  cases findSAssoc s.as t with
  | none => exact Or.inl rfl
  | some a0 =>
    exact ite_ind (P := fun x : Srv => x.as = s.as ∨ x.as = s.as.filter fun a => a.token ≠ t) (fun _ => Or.inr rfl)
      (fun _ => Or.inl rfl)

theorem findSAssoc_request (s : Srv) (t : Bytes) (pos : RPos) (aad nonce piv : Bytes) (o : Bool) (v : Nat) (t' : Bytes) :
    findSAssoc (srvRequest s t pos aad nonce piv o v).as t' =
      if t' = t then some ⟨t, pos, aad, nonce, piv, if (findSAssoc s.as t).isSome then o && v != 1 else o, true⟩
      else findSAssoc s.as t' := by
  unfold srvRequest
  cases hf : findSAssoc s.as t with
  | none => exact findSAssoc_cons _ s.as t'
  | some a0 =>
    refine (findSAssoc_map s.as t t' _ ?_).trans ?_
    · exact fun _ => rfl
    by_cases ht : t' = t
    · rw [if_pos ht, if_pos ht, ht, hf, ← findSAssoc_token hf]
      rfl
    · rw [if_neg ht, if_neg ht]

/-- every association that may protect a response (`is_client` = 0) holds recipient context, AAD, nonce and Partial IV of the
latest VERIFIED `decrypt` step with its token, and no request sent from this end has used the token since -/
def SrvInvReq (s : Srv) (acc : Bytes → Option (RPos × Bytes × Bytes × Bytes)) : Prop :=
  ∀ t a, findSAssoc s.as t = some a → a.isClient = false → acc t = some (a.rcp, a.aad, a.nonce, a.piv)

theorem SrvInvReq_step (s : Srv) (acc : Bytes → Option (RPos × Bytes × Bytes × Bytes)) (x : SrvStep) (h : SrvInvReq s acc) :
    SrvInvReq (srvStep s x) (srvTrackReq acc x) := by
  intro t' a ha hcl
  cases x with
  | decrypt t pos aad nonce piv v o =>
    cases v with
    | false => exact h t' a ha hcl
    | true =>
      simp only [srvStep] at ha
      rw [findSAssoc_decrypt] at ha
      rcases ite_eq_some ha with ⟨ht, ⟨⟩⟩ | ⟨ht, ha⟩
      · exact if_pos ht
      · exact (if_neg ht).trans (h t' a ha hcl)
  | protect t => exact h t' a ((findSAssoc_protect s t t').2 a ha) hcl
  | request t pos aad nonce piv o v =>
    simp only [srvStep] at ha
    rw [findSAssoc_request] at ha
    rcases ite_eq_some ha with ⟨_, ⟨⟩⟩ | ⟨ht, ha⟩
    · cases hcl
    · exact (if_neg ht).trans (h t' a ha hcl)
  | respIn t v => exact h t' a ((findSAssoc_respIn s t v t').2 a ha) hcl

theorem srvResponseAssoc_latest (steps : List SrvStep) (t : Bytes) (a : SAssoc)
    (h : srvResponseAssoc (srvRun ⟨none, []⟩ steps) t = some a) :
    a.isClient = false ∧ srvLatestReq steps t = some (a.rcp, a.aad, a.nonce, a.piv) := by
  unfold srvResponseAssoc at h
  cases hf : findSAssoc (srvRun ⟨none, []⟩ steps).as t with
  | none => simp [hf] at h
  | some a0 =>
    cases hcl : a0.isClient with
    | true => simp [hf, hcl] at h
    | false =>
      simp only [hf, hcl, Bool.false_eq_true, if_false, Option.some.injEq] at h
      subst h
      exact ⟨hcl, foldl_rel SrvInvReq steps (fun x _ s acc => SrvInvReq_step s acc x) ⟨none, []⟩ (fun _ => none)
        (fun t a ha => by simp [findSAssoc] at ha) t a0 hf hcl⟩

theorem srvResponseCtx_eq (s : Srv) (t : Bytes) : srvResponseCtx s t = (srvResponseAssoc s t).map (·.rcp) := by
  unfold srvResponseCtx srvResponseAssoc
  cases findSAssoc s.as t with
  | none => rfl
  | some a => cases hc : a.isClient <;> simp [hc]

theorem srvRun_snoc_append (s : Srv) (steps : List SrvStep) (x : SrvStep) (later : List SrvStep) :
    srvRun s (steps ++ [x] ++ later) = srvRun (srvStep (srvRun s steps) x) later := by
  unfold srvRun
  rw [List.foldl_append, List.foldl_append, List.foldl_cons, List.foldl_nil]

theorem srvTrack_fst (acc : Bytes → Option RPos) (accR : Bytes → Option (RPos × Bytes × Bytes × Bytes))
    (h : ∀ t, acc t = (accR t).map (·.1)) (x : SrvStep) : ∀ t, srvTrack acc x t = (srvTrackReq accR x t).map (·.1) := by
  intro t'
  cases x with
  | decrypt t pos aad nonce piv v o =>
    cases v with
    | false => exact h t'
    | true =>
      show (if t' = t then some pos else acc t') = Option.map (·.1) (if t' = t then some (pos, aad, nonce, piv) else accR t')
      rw [apply_ite (Option.map Prod.fst), ← h t']
      rfl
  | protect t => exact h t'
  | request t pos aad nonce piv o v =>
    show (if t' = t then none else acc t') = Option.map (·.1) (if t' = t then none else accR t')
    rw [apply_ite (Option.map Prod.fst), ← h t']
    rfl
  | respIn t v => exact h t'

theorem srvLatest_fst (steps : List SrvStep) (t : Bytes) : srvLatest steps t = (srvLatestReq steps t).map (·.1) :=
  foldl_rel (fun acc accR => ∀ t, acc t = (accR t).map (·.1)) steps (fun x _ acc accR h => srvTrack_fst acc accR h x)
    (fun _ => none) (fun _ => none) (fun _ => rfl) t

def SrvStepToken : SrvStep → Bytes
  | .decrypt t _ _ _ _ _ _ => t
  | .protect t => t
  | .request t _ _ _ _ _ _ => t
  | .respIn t _ => t

/-- a step that leaves the association of token `t` alone: it concerns another token (a received request, a response
protected or received, a request SENT from this end), or it is a received request (with whatever token, also `t`) that does
not verify (fix b3c6528) -/
def SrvStepLeaves (t : Bytes) : SrvStep → Prop
  | .decrypt t' _ _ _ _ v _ => t' ≠ t ∨ v = false
  | .protect t' => t' ≠ t
  | .request t' _ _ _ _ _ _ => t' ≠ t
  | .respIn t' _ => t' ≠ t

theorem findSAssoc_step_leaves (s : Srv) (x : SrvStep) (t : Bytes) (h : SrvStepLeaves t x) :
    findSAssoc (srvStep s x).as t = findSAssoc s.as t := by
  cases x with
  | decrypt t0 pos aad nonce piv v o =>
    cases v with
    | false => rfl
    | true => exact (findSAssoc_decrypt s t0 pos aad nonce piv o t).trans (if_neg fun e => h.elim (· e.symm) nofun)
  | protect t0 => exact (findSAssoc_protect s t0 t).1 fun e => h e.symm
  | request t0 pos aad nonce piv o v => exact (findSAssoc_request s t0 pos aad nonce piv o v t).trans (if_neg fun e => h e.symm)
  | respIn t0 v => exact (findSAssoc_respIn s t0 v t).1 fun e => h e.symm

theorem findSAssoc_run_leaves (steps : List SrvStep) (t : Bytes) (h : ∀ x ∈ steps, SrvStepLeaves t x) (s : Srv) :
    findSAssoc (srvRun s steps).as t = findSAssoc s.as t :=
  foldl_inv_mem (fun s' => findSAssoc s'.as t = findSAssoc s.as t) steps
    (fun x hx s' e => (findSAssoc_step_leaves s' x t (h x hx)).trans e) s rfl

theorem findSAssoc_run_ne (steps : List SrvStep) (t : Bytes) (h : ∀ x ∈ steps, SrvStepToken x ≠ t) :
    ∀ s, findSAssoc (srvRun s steps).as t = findSAssoc s.as t :=
  findSAssoc_run_leaves steps t fun x hx => by
    cases x with
    | decrypt => exact Or.inl (h _ hx)
    | protect => exact h _ hx
    | request => exact h _ hx
    | respIn => exact h _ hx

/-- a step after which an association of token `t` that belongs to a request sent from this end still does (or is gone):
everything but a VERIFIED received request with `t` -/
def SrvStepKeepsClient (t : Bytes) : SrvStep → Prop
  | .decrypt t' _ _ _ _ v _ => t' ≠ t ∨ v = false
  | _ => True

theorem client_step_keeps (s : Srv) (x : SrvStep) (t : Bytes) (hx : SrvStepKeepsClient t x)
    (h : ∀ a, findSAssoc s.as t = some a → a.isClient = true) :
    ∀ a, findSAssoc (srvStep s x).as t = some a → a.isClient = true := by
  intro a ha
  cases x with
  | decrypt t0 pos aad nonce piv v o =>
    exact h a ((findSAssoc_step_leaves s (.decrypt t0 pos aad nonce piv v o) t hx).symm.trans ha)
  | protect t0 => exact h a ((findSAssoc_protect s t0 t).2 a ha)
  | respIn t0 v => exact h a ((findSAssoc_respIn s t0 v t).2 a ha)
  | request t0 pos aad nonce piv o v =>
    simp only [srvStep] at ha
    rw [findSAssoc_request] at ha
    rcases ite_eq_some ha with ⟨_, ⟨⟩⟩ | ⟨_, ha⟩
    · rfl
    · exact h a ha

theorem client_run_keeps (steps : List SrvStep) (t : Bytes) (hx : ∀ x ∈ steps, SrvStepKeepsClient t x) :
    ∀ s, (∀ a, findSAssoc s.as t = some a → a.isClient = true) →
      ∀ a, findSAssoc (srvRun s steps).as t = some a → a.isClient = true :=
  foldl_inv_mem (fun s => ∀ a, findSAssoc s.as t = some a → a.isClient = true) steps
    fun x h s => client_step_keeps s x t (hx x h)

end Coap
