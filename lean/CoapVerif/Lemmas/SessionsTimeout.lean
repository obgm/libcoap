import CoapVerif.Lemmas.SessionsInv
/-
C12 helper lemmas, part 3: the idle reclamation of `coap_io_prepare_io_lkd(ctx, …, now)` as a whole pass
(`St.reclaimPass`): what it may delete and what it must keep, for ANY `now` argument — also one that is older than the
clock (`St.now`) or than a session's `last_rx_tx` (a handler that ran earlier in the same pass took time).
-/
namespace Coap.Sessions

theorem expired_iff (s : Sess) (T now : Nat) : s.expired T now = true ↔ (s.last + T ≤ now ∨ s.closed = true) := by
  unfold Sess.expired; simp

theorem reclaimStep_cases (st : St) (now sid : Nat) :
    st.reclaimStep now sid = st ∨
    ∃ s, st.getSess sid = some s ∧ s.idle = true ∧ s.expired st.timeoutTicks now = true ∧
      st.reclaimStep now sid = st.reclaim sid := by
  unfold St.reclaimStep
  cases hg : st.getSess sid with
  | none => exact Or.inl rfl
  | some s =>
    dsimp only
    by_cases c : (s.idle && s.expired st.timeoutTicks now) = true
    · rw [if_pos c]
      simp only [Bool.and_eq_true] at c
      exact Or.inr ⟨s, rfl, c.1, c.2, rfl⟩
    · rw [if_neg c]
      exact Or.inl (refRelease_id st sid)

theorem reclaim_timeout (st : St) (sid : Nat) : (st.reclaim sid).timeout = st.timeout := by
  rcases reclaim_cases st sid with e | ⟨_, _, _, _, e⟩ <;> rw [e] <;> rfl

theorem reclaimStep_timeoutTicks (st : St) (now sid : Nat) : (st.reclaimStep now sid).timeoutTicks = st.timeoutTicks := by
  rcases reclaimStep_cases st now sid with e | ⟨_, _, _, _, e⟩
  · rw [e]
  · rw [e]; unfold St.timeoutTicks; rw [reclaim_timeout]

theorem reclaimStep_fires {st : St} (hS : SInv st) (now : Nat) {t : Sess} (ht : t ∈ st.sessions)
    (hi : t.idle = true) (hl : t.expired st.timeoutTicks now = true) :
    st.reclaimStep now t.sid = st.unlink t.sid (.del t.sid) := by
  have hg := getSess_of_mem hS ht
  unfold St.reclaimStep
  rw [hg]
  dsimp only
  rw [if_pos (by rw [hi, hl]; rfl), reclaim_eq_unlink hg (Sess.idle_iff.mp hi).1]

theorem mem_reclaimStep {st : St} (hS : SInv st) (now sid : Nat) (t : Sess) :
    t ∈ (st.reclaimStep now sid).sessions ↔
      t ∈ st.sessions ∧ ¬ (t.sid = sid ∧ t.idle = true ∧ t.expired st.timeoutTicks now = true) := by
  unfold St.reclaimStep
  cases hg : st.getSess sid with
  | none =>
    refine ⟨fun ht => ⟨ht, fun hx => ?_⟩, And.left⟩
    rw [← hx.1, getSess_of_mem hS ht] at hg
    cases hg
  | some s =>
    have hts : t ∈ st.sessions → t.sid = sid → t = s := fun ht e =>
      sid_unique hS ht (getSess_some hg).1 (e.trans (getSess_some hg).2.symm)
    dsimp only
    by_cases c : (s.idle && s.expired st.timeoutTicks now) = true
    · have c' := (Bool.and_eq_true _ _).mp c
      rw [if_pos c, reclaim_eq_unlink hg (Sess.idle_iff.mp c'.1).1, mem_unlink]
      refine and_congr_right fun ht => ⟨fun hne hx => hne hx.1, fun hn e => hn ⟨e, ?_⟩⟩
      rw [hts ht e]
      exact c'
    · rw [if_neg c, refRelease_id]
      refine ⟨fun ht => ⟨ht, fun hx => c ?_⟩, And.left⟩
      rw [← hts ht hx.1]
      exact (Bool.and_eq_true _ _).mpr hx.2

/-! ### the whole pass -/

/-- what both loops of the pass keep: the invariant and the session timeout in ticks -/
structure PassInv (T : Nat) (a : St) : Prop where
  inv : Inv a
  tt : a.timeoutTicks = T

theorem PassInv.step {T : Nat} {a : St} (h : PassInv T a) (now sid : Nat) : PassInv T (a.reclaimStep now sid) :=
  ⟨Inv.closedIO.reclaimStep h.inv now sid, by rw [reclaimStep_timeoutTicks]; exact h.tt⟩

theorem PassInv.inner {T : Nat} (now : Nat) (l : List Nat) {a : St} (h : PassInv T a) :
    PassInv T (l.foldl (fun a sid => a.reclaimStep now sid) a) :=
  foldl_inv (PassInv T) (fun _ sid hb => hb.step now sid) l a h

theorem mem_inner {T : Nat} (now : Nat) (ep : Nat × Nat) {a : St} (h : PassInv T a) (t : Sess) :
    t ∈ (((a.epSessions ep.1 ep.2).map (·.sid)).foldl (fun a sid => a.reclaimStep now sid) a).sessions ↔
      t ∈ a.sessions ∧ ¬ (t.onEp ep.1 ep.2 = true ∧ t.idle = true ∧ t.expired T now = true) := by
  rw [foldl_mem_iff St.sessions (PassInv T) (fun sid t => t.sid = sid ∧ t.idle = true ∧ t.expired T now = true) _
    (fun _ sid hb => hb.step now sid) (fun b sid t hb => by rw [mem_reclaimStep hb.inv.S, hb.tt]) _ a h t]
  exact and_congr_right fun ht =>
    ⟨fun hn hx => hn t.sid ((sid_mem_epSessions h.inv.S ht ep).mpr hx.1) ⟨rfl, hx.2⟩,
     fun hn sid hm hx => hn ⟨(sid_mem_epSessions h.inv.S ht ep).mp (hx.1 ▸ hm), hx.2⟩⟩

/-- THE PASS IS A FILTER: after the reclamation loop of `coap_io_prepare_io_lkd(ctx, …, now)` the tables hold exactly the
    sessions they held before that the test does not select (`SInv.ep` of the state the loop starts from: every session's
    endpoint is in the list it walks) -/
theorem mem_reclaimPass {st : St} (hI : Inv st) (now : Nat) (t : Sess) :
    t ∈ (st.reclaimPass now).sessions ↔
      t ∈ st.sessions ∧ ¬ (t.idle = true ∧ t.expired st.timeoutTicks now = true) := by
  unfold St.reclaimPass
  rw [foldl_mem_iff St.sessions (PassInv st.timeoutTicks)
    (fun (ep : Nat × Nat) t => t.onEp ep.1 ep.2 = true ∧ t.idle = true ∧ t.expired st.timeoutTicks now = true) _
    (fun _ ep hb => hb.inner now _) (fun b ep t hb => mem_inner now ep hb t) _ st ⟨hI, rfl⟩ t]
  refine and_congr_right fun ht => ⟨fun hn hx => ?_, fun hn _ _ hx => hn hx.2⟩
  exact hn _ (hI.S.ep t ht) ⟨by simp [Sess.onEp], hx⟩

/-! ### the first part of the pass does not touch the configured timeout -/

theorem dropHolder_timeout (st : St) (x : Holder) : (st.dropHolder x).timeout = st.timeout := by
  unfold St.dropHolder; split <;> rfl

theorem clientFree_timeout (st : St) (sid : Nat) : (st.clientFree sid).timeout = st.timeout := by
  rcases clientFree_cases st sid with e | ⟨_, _, _, _, _, e⟩ <;> rw [e] <;> rfl

theorem releaseHolder_timeout (st : St) (x : Holder) : (st.releaseHolder x).timeout = st.timeout := by
  unfold St.releaseHolder; rw [clientFree_timeout, dropHolder_timeout]

theorem promote_timeout (st : St) (x : Nat × Nat) (due : Nat) : (st.promote x due).timeout = st.timeout := by
  unfold St.promote; split <;> rfl

theorem flushDelayed_timeout (st : St) (sid : Nat) : (st.flushDelayed sid).timeout = st.timeout := by
  unfold St.flushDelayed
  split
  · rfl
  · split
    · rfl
    · split
      · rfl
      · rw [promote_timeout]; rfl

theorem retransmit_timeout (st : St) (x : Holder) : (st.retransmit x).timeout = st.timeout := by
  unfold St.retransmit
  split
  · split
    · split
      · rfl
      · rw [releaseHolder_timeout, flushDelayed_timeout]; rfl
    · rfl
  · rfl

theorem notifyOne_timeout (st : St) (x : Holder) : (st.notifyOne x).timeout = st.timeout := by
  unfold St.notifyOne
  split <;> rfl

theorem fireAsync_timeout (st : St) (now : Nat) (x : Holder) : (st.fireAsync now x).timeout = st.timeout := by
  unfold St.fireAsync
  split
  · split
    · rw [releaseHolder_timeout]; rfl
    · rfl
  · rfl

theorem preReclaim_timeout (st : St) (now : Nat) : (st.preReclaim now).timeout = st.timeout := by
  have h1 : st.checkNotify.timeout = st.timeout :=
    foldl_inv (fun a => a.timeout = st.timeout)
      (fun a k ha => foldl_inv (fun b => b.timeout = st.timeout) (fun b x hb => (notifyOne_timeout b x).trans hb) _ a ha)
      (st.resAlive.filter (· ∈ st.dirty)) st rfl
  have h2 : (st.checkNotify.checkAsync now).timeout = st.timeout :=
    foldl_inv (fun b => b.timeout = st.timeout) (fun b x hb => (fireAsync_timeout b now x).trans hb) _ _ h1
  exact foldl_inv (fun b => b.timeout = st.timeout) (fun b x hb => (retransmit_timeout b x).trans hb) _ _ h2

theorem preReclaim_timeoutTicks (st : St) (now : Nat) : (st.preReclaim now).timeoutTicks = st.timeoutTicks := by
  unfold St.timeoutTicks; rw [preReclaim_timeout]

theorem timeoutTicks_pos (st : St) : 0 < st.timeoutTicks := by
  unfold St.timeoutTicks COAP_DEFAULT_SESSION_TIMEOUT TICKS_PER_SECOND
  split <;> omega

/-- the WHOLE pass `coap_io_prepare_io_lkd(ctx, …, now)`: what its first part (notifications, delayed responses,
    retransmissions) leaves in the tables, filtered by the reclamation test — with the session timeout configured before the pass -/
theorem mem_prepareIoAt {st : St} (hI : Inv st) (now : Nat) (t : Sess) :
    t ∈ (st.prepareIoAt now).sessions ↔
      t ∈ (st.preReclaim now).sessions ∧ ¬ (t.idle = true ∧ (t.last + st.timeoutTicks ≤ now ∨ t.closed = true)) := by
  unfold St.prepareIoAt
  rw [mem_reclaimPass (Inv.closedIO.preReclaim hI now), preReclaim_timeoutTicks, expired_iff]

end Coap.Sessions
