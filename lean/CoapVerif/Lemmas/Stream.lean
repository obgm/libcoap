import CoapVerif.Lemmas.Parse
import CoapVerif.Model.StreamReader
namespace Coap
/- C05, TCP: bounds on the header lengths of the specification (`fixedLen`, `hdrLen`), and `coap_pdu_parse` on one complete
   frame is `Spec.decode .tcp` (`parsePdu_eq_decode`).  The length field, the token field and `coap_pdu_parse_size` against S
   (`tcpLenField_take`, `tcpTokField_take`, `parseSize_eq_declared`) are in Lemmas/Parse. -/
open Coap.M Coap.M.Stream Coap.Spec.Stream

theorem fixedLen_ge (b0 : UInt8) : 2 ≤ fixedLen b0 := by simp only [fixedLen]; omega

theorem fixedLen_le (b0 : UInt8) : fixedLen b0 ≤ 6 := by
  simp only [fixedLen, extLenBytes]; split <;> (try split) <;> (try split) <;> omega

theorem tokExtBytes_le (t : Nat) : tokExtBytes t ≤ 2 := by
  simp only [tokExtBytes]; split <;> (try split) <;> omega

theorem hdrLen_le (b0 : UInt8) : hdrLen b0 ≤ 8 := by
  have := fixedLen_le b0; have := tokExtBytes_le (b0.toNat % 16); simp only [hdrLen]; omega

theorem hdrLen_ge (b0 : UInt8) : 2 ≤ hdrLen b0 := by simp only [hdrLen, fixedLen]; omega

/-- the bytes `coap_read_session` collects in `read_header` before it calls `coap_pdu_parse_size` -/
theorem hdrLen_eq (b0 : UInt8) : hdrLen b0 =
    headerSize .tcp b0.toNat + (if b0.toNat % 16 = 13 then 1 else if b0.toNat % 16 = 14 then 2 else 0) := by
  rw [← fixedLen_eq]; rfl

theorem tokExtBytes_lt_tokFieldLen (T : Nat) (t : Bytes) (h : tokExtBytes T ≤ t.length) :
    tokExtBytes T = 0 ∨ tokExtBytes T < tokFieldLen T (t.take (tokExtBytes T)) := by
  by_cases h13 : T = 13
  · subst h13
    match t, h with
    | a1 :: t, _ => exact .inr (by simp [tokExtBytes, tokFieldLen, Spec.tokenField, Spec.ext])
  · by_cases h14 : T = 14
    · subst h14
      match t, h with
      | a1 :: a2 :: t, _ => exact .inr (by simp [tokExtBytes, tokFieldLen, Spec.tokenField, Spec.ext])
    · exact .inl (by simp [tokExtBytes, h13, h14])

/-- the token-length extension bytes are part of what the header declares -/
theorem tokExt_lt_declared (bs : Bytes) (b0 : UInt8) (r : Bytes) (hbs : bs = b0 :: r) (hl : hdrLen b0 ≤ bs.length) :
    tokExtBytes (b0.toNat % 16) = 0 ∨ tokExtBytes (b0.toNat % 16) < declared (bs.take (hdrLen b0)) := by
  subst hbs
  obtain ⟨len, _, hd⟩ := declared_eq b0 r hl
  have := tokExtBytes_lt_tokFieldLen (b0.toNat % 16) ((b0 :: r).drop (extLenBytes (b0.toNat / 16) + 2))
    (by simp only [hdrLen, fixedLen] at hl; simp only [List.length_drop]; omega)
  omega

theorem parsePdu_eq_decode (bs : Bytes) (b0 : UInt8) (r : Bytes) (hbs : bs = b0 :: r) (hl : hdrLen b0 ≤ bs.length)
    (ht : bs.length = fixedLen b0 + declared (bs.take (hdrLen b0))) :
    (parsePdu (headerSize .tcp b0.toNat) bs).toOption = Spec.decode .tcp bs := by
  subst hbs
  rw [← parse_eq .tcp]
  congr 1
  have h1 := parseSize_eq_declared b0 r hl
  rw [fixedLen_eq] at ht
  have h3 : ¬ ((b0 :: r).length < headerSize .tcp b0.toNat +
      (if b0.toNat % 16 = 13 then 1 else if b0.toNat % 16 = 14 then 2 else 0)) := by
    rw [← hdrLen_eq]; omega
  have h4 : ¬ ((b0 :: r).length ≠ headerSize .tcp b0.toNat + declared ((b0 :: r).take (hdrLen b0))) := by omega
  have h5 : ¬ ((b0 :: r).length = 0) := by simp
  simp only [M.parse, parsePdu, rd_cons_zero, R.bind_ok, h1, if_neg h5, if_neg h3, if_neg h4]
end Coap
