import CoapVerif.Model.Observe
import CoapVerif.Util
/- C11, the resource table of the Observe model: relations between tables position by position (`All2`), the order `AllLeF` in which
   every primitive outside registration, change and the notify loop only shrinks the table, and one case principle for each composite
   function of M (a visit of the notify loop, `request`, `step`, the loops), so that M is taken apart once.
   Argument order: a relation that compares like an order (`ResLeF r' r`, `AllLeF`, `ResEvo A k y' y`, `Evo`, `StepRel A st' st outs`)
   takes the NEW table first; one that describes a transition (`TableOnly st st'`, `Micro A y o y'`, `Trans`, `SameFor c st st'`) the OLD. -/
namespace Coap.Observe
open Coap.Generated

@[simp] theorem setSess_res (st : State) (c : Nat) (s : Sess) : (setSess st c s).res = st.res := rfl
@[simp] theorem modSess_res (st : State) (c : Nat) (f : Sess → Sess) : (modSess st c f).res = st.res := rfl
@[simp] theorem rxSession_res (st : State) (c : Nat) : (rxSession st c).res = st.res := rfl
@[simp] theorem refInc_res (st : State) (c : Nat) : (refInc st c).res = st.res := rfl
@[simp] theorem refDec_res (st : State) (c : Nat) : (refDec st c).res = st.res := rfl
@[simp] theorem conDec_res (st : State) (c : Nat) : (conDec st c).res = st.res := rfl
@[simp] theorem txStamp_res (st : State) (c : Nat) : (txStamp st c).res = st.res := rfl
@[simp] theorem newMid_res (st : State) (c : Nat) : (newMid st c).2.res = st.res := rfl
@[simp] theorem addNote_res (st : State) (c : Nat) (n : Note) : (addNote st c n).res = st.res := rfl
@[simp] theorem cancelAllMessages_res (st : State) (c tok : Nat) : (cancelAllMessages st c tok).res = st.res := rfl
@[simp] theorem reclaim_res (st : State) : (reclaim st).res = st.res := rfl
@[simp] theorem sendNote_res (st : State) (c tok code : Nat) (obs : Option Nat) (isCon : Bool) (mid rid ver : Nat) :
    (sendNote st c tok code obs isCon mid rid ver).1.res = st.res := by
  unfold sendNote; split <;> rfl

@[simp] theorem mapRes_res (st : State) (f : Res → Res) : (mapRes st f).res = st.res.map f := rfl
theorem modRes_res (st : State) (r : Nat) (f : Res → Res) : (modRes st r f).res = st.res.map fun x => if x.id = r then f x else x := rfl

/-! ### the order on resources: entries only disappear and only their fail counters move (`coreF`, `SubsLeF`, `ResLeF`).
`core`, `SubsLe`, `ResLe` are the coarser variant that also forgets `nonCnt`, `mid` and the handler verdict; the proofs all work in
the finer one. -/
def core (s : Sub) : Sub := { s with failCnt := 0, nonCnt := 0, mid := 0 }

def SubsLe (a b : List Sub) : Prop := (a.map core).Sublist (b.map core)

structure ResLe (r' r : Res) : Prop where
  id : r'.id = r.id
  alive : r'.alive = r.alive
  fCon : r'.fCon = r.fCon
  fNonAlways : r'.fNonAlways = r.fNonAlways
  dirty : r'.dirty = r.dirty
  pdirty : r'.pdirty = r.pdirty
  ver : r'.ver = r.ver
  observe : r'.observe = r.observe
  subs : SubsLe r'.subs r.subs

/-- what the primitives outside the notify loop (deletions, touch, failed-notify accounting, ACK/RST handling, session loss,
    retransmission) leave alone of an entry -/
def coreF (s : Sub) : Sub := { s with failCnt := 0 }

def SubsLeF (a b : List Sub) : Prop := (a.map coreF).Sublist (b.map coreF)

theorem SubsLeF.refl (a : List Sub) : SubsLeF a a := List.Sublist.refl _
theorem SubsLeF.trans {a b c : List Sub} (h1 : SubsLeF a b) (h2 : SubsLeF b c) : SubsLeF a c := List.Sublist.trans h1 h2
theorem SubsLeF.of_sublist {a b : List Sub} (h : a.Sublist b) : SubsLeF a b := h.map coreF

structure ResLeF (r' r : Res) : Prop where
  id : r'.id = r.id
  alive : r'.alive = r.alive
  fCon : r'.fCon = r.fCon
  fNonAlways : r'.fNonAlways = r.fNonAlways
  dirty : r'.dirty = r.dirty
  pdirty : r'.pdirty = r.pdirty
  ver : r'.ver = r.ver
  observe : r'.observe = r.observe
  err : r'.err = r.err
  subs : SubsLeF r'.subs r.subs

theorem ResLeF.refl (r : Res) : ResLeF r r := ⟨rfl, rfl, rfl, rfl, rfl, rfl, rfl, rfl, rfl, SubsLeF.refl _⟩
theorem ResLeF.trans {a b c : Res} (h1 : ResLeF a b) (h2 : ResLeF b c) : ResLeF a c :=
  ⟨h1.id.trans h2.id, h1.alive.trans h2.alive, h1.fCon.trans h2.fCon, h1.fNonAlways.trans h2.fNonAlways,
   h1.dirty.trans h2.dirty, h1.pdirty.trans h2.pdirty, h1.ver.trans h2.ver, h1.observe.trans h2.observe, h1.err.trans h2.err, h1.subs.trans h2.subs⟩

theorem core_coreF (s : Sub) : core (coreF s) = core s := rfl

theorem coreF_sess {a b : Sub} (h : coreF a = coreF b) : a.sess = b.sess := (congrArg Sub.sess h :)
theorem coreF_token {a b : Sub} (h : coreF a = coreF b) : a.token = b.token := (congrArg Sub.token h :)
theorem coreF_dirty {a b : Sub} (h : coreF a = coreF b) : a.dirty = b.dirty := (congrArg Sub.dirty h :)
theorem coreF_nonCnt {a b : Sub} (h : coreF a = coreF b) : a.nonCnt = b.nonCnt := (congrArg Sub.nonCnt h :)

theorem matchST_coreF {c tok : Nat} {a b : Sub} (h : coreF a = coreF b) : matchST c tok a = matchST c tok b := by
  unfold matchST; rw [coreF_sess h, coreF_token h]

theorem ResLeF.mem_sub {y' y : Res} (h : ResLeF y' y) {o' : Sub} (ho : o' ∈ y'.subs) : ∃ o ∈ y.subs, coreF o = coreF o' :=
  List.mem_map.mp (h.subs.subset (List.mem_map_of_mem ho))

inductive All2 (R : Res → Res → Prop) : List Res → List Res → Prop where
  | nil : All2 R [] []
  | cons {x y : Res} {xs ys : List Res} : R x y → All2 R xs ys → All2 R (x :: xs) (y :: ys)

theorem All2.refl {R : Res → Res → Prop} (hR : ∀ x, R x x) : ∀ (a : List Res), All2 R a a
  | [] => All2.nil
  | x :: xs => All2.cons (hR x) (All2.refl hR xs)

theorem All2.trans' {R S T : Res → Res → Prop} (hRST : ∀ x y z, R x y → S y z → T x z) {a b c : List Res}
    (h1 : All2 R a b) (h2 : All2 S b c) : All2 T a c := by
  induction h1 generalizing c with
  | nil => cases h2; exact All2.nil
  | cons h t ih => cases h2 with
    | cons h' t' => exact All2.cons (hRST _ _ _ h h') (ih t')

theorem All2.trans {R : Res → Res → Prop} (hR : ∀ x y z, R x y → R y z → R x z) {a b c : List Res}
    (h1 : All2 R a b) (h2 : All2 R b c) : All2 R a c := All2.trans' hR h1 h2

theorem All2.mono_mem {R S : Res → Res → Prop} {a b : List Res} (h : All2 R a b) (hRS : ∀ x y, y ∈ b → R x y → S x y) : All2 S a b := by
  induction h with
  | nil => exact All2.nil
  | cons h _ ih => exact All2.cons (hRS _ _ (List.mem_cons_self ..) h) (ih fun x y hy => hRS x y (List.mem_cons_of_mem _ hy))

theorem All2.mono {R S : Res → Res → Prop} (hRS : ∀ {x y}, R x y → S x y) {a b : List Res} (h : All2 R a b) : All2 S a b :=
  h.mono_mem fun _ _ _ h' => hRS h'

theorem All2.forall {R : Res → Res → Prop} {P : Res → Prop} (hRP : ∀ {x y}, R x y → P y → P x) {a b : List Res}
    (h : All2 R a b) (hb : ∀ y ∈ b, P y) : ∀ x ∈ a, P x := by
  induction h with
  | nil => intro x hx; cases hx
  | cons h _ ih =>
    intro x hx
    cases hx with
    | head => exact hRP h (hb _ (List.mem_cons_self ..))
    | tail _ hx' => exact ih (fun y hy => hb y (List.mem_cons_of_mem _ hy)) x hx'

theorem All2.exists_right {R : Res → Res → Prop} {a b : List Res} (h : All2 R a b) : ∀ x ∈ a, ∃ y ∈ b, R x y := by
  induction h with
  | nil => intro x hx; cases hx
  | cons h _ ih =>
    intro x hx
    cases hx with
    | head => exact ⟨_, List.mem_cons_self .., h⟩
    | tail _ hx' =>
      obtain ⟨y, hy, hr⟩ := ih x hx'
      exact ⟨y, List.mem_cons_of_mem _ hy, hr⟩

theorem All2.of_map {R : Res → Res → Prop} (f : Res → Res) : ∀ (l : List Res), (∀ y ∈ l, R (f y) y) → All2 R (l.map f) l
  | [], _ => All2.nil
  | x :: xs, h => All2.cons (h x (List.mem_cons_self ..)) (All2.of_map f xs fun y hy => h y (List.mem_cons_of_mem _ hy))

theorem All2.map {R : Res → Res → Prop} {f : Res → Res} (hf : ∀ x, R (f x) x) (a : List Res) : All2 R (a.map f) a :=
  All2.of_map f a fun y _ => hf y

theorem All2.modRes {R : Res → Res → Prop} (hR : ∀ x, R x x) (st : State) (r : Nat) {f : Res → Res} (hf : ∀ x, R (f x) x) :
    All2 R (modRes st r f).res st.res :=
  All2.map (f := fun x => if x.id = r then f x else x) (fun x => by split; exact hf x; exact hR x) st.res

abbrev AllLeF := All2 ResLeF

theorem AllLeF.refl (a : List Res) : AllLeF a a := All2.refl ResLeF.refl a
theorem AllLeF.trans {a b c : List Res} (h1 : AllLeF a b) (h2 : AllLeF b c) : AllLeF a c := All2.trans (R := ResLeF) (fun _ _ _ h h' => ResLeF.trans h h') h1 h2
theorem AllLeF.map {f : Res → Res} (hf : ∀ x, ResLeF (f x) x) (a : List Res) : AllLeF (a.map f) a := All2.map hf a

theorem resLeF_subs (x : Res) {l : List Sub} (h : SubsLeF l x.subs) : ResLeF { x with subs := l } x :=
  ⟨rfl, rfl, rfl, rfl, rfl, rfl, rfl, rfl, rfl, h⟩

theorem modFirst_coreF (p : Sub → Bool) (f : Sub → Sub) (hf : ∀ s, coreF (f s) = coreF s) :
    ∀ l : List Sub, (modFirst p f l).map coreF = l.map coreF
  | [] => rfl
  | s :: r => by
    unfold modFirst; split
    · rw [List.map_cons, List.map_cons, hf]
    · rw [List.map_cons, List.map_cons, modFirst_coreF p f hf r]

theorem resLeF_modFirst (x : Res) (p : Sub → Bool) (f : Sub → Sub) (hf : ∀ s, coreF (f s) = coreF s) :
    ResLeF { x with subs := modFirst p f x.subs } x := by
  apply resLeF_subs; unfold SubsLeF
  rw [modFirst_coreF p f hf]; exact List.Sublist.refl _

theorem deleteObserver_leF (st : State) (r c tok : Nat) : AllLeF (deleteObserver st r c tok).res st.res := by
  unfold deleteObserver
  split
  · exact AllLeF.refl _
  · split
    · exact All2.modRes ResLeF.refl st r fun x => resLeF_subs x (SubsLeF.of_sublist (List.eraseP_sublist))
    · exact AllLeF.refl _

theorem touchObserver_leF (st : State) (c tok : Nat) : AllLeF (touchObserver st c tok).res st.res := by
  refine AllLeF.map (fun x => ?_) st.res
  split
  · exact resLeF_modFirst x _ _ (fun _ => rfl)
  · exact ResLeF.refl x

theorem deleteObserverRequest_leF (st : State) (r c tok key : Nat) : AllLeF (deleteObserverRequest st r c tok key).res st.res := by
  unfold deleteObserverRequest
  split
  · exact AllLeF.refl _
  · split
    · exact deleteObserver_leF ..
    · split
      · exact deleteObserver_leF ..
      · exact AllLeF.refl _

theorem removeFailedOne_ind {P : State → Prop} (st : State) (x : Res) (c tok : Nat) (h0 : P st)
    (hdel : P (deleteObserver (cancelAllMessages st c tok) x.id c tok))
    (hcnt : P (modRes st x.id fun y =>
      { y with subs := modFirst (matchST c tok) (fun s => { s with failCnt := (s.failCnt + 1) % 256 }) y.subs })) :
    P (removeFailedOne st x c tok) := by
  unfold removeFailedOne
  split
  · exact h0
  · split
    · exact hdel
    · exact hcnt

theorem handleFailedNotify_ind {P : State → Prop} (st : State) (c tok : Nat) (h0 : P st)
    (h : ∀ s x, P s → P (removeFailedOne s x c tok)) : P (handleFailedNotify st c tok) := by
  unfold handleFailedNotify
  refine foldl_inv P (fun s rid hs => ?_) _ st h0
  split
  · exact h s _ hs
  · exact hs

theorem cancelSent_ind {P : State → Prop} (st : State) (c tok : Nat) (h0 : P st)
    (h : ∀ s rid, P s → P (deleteObserver (cancelAllMessages s c tok) rid c tok)) : P (cancelSent st c tok) := by
  unfold cancelSent
  refine foldl_inv P (fun s rid hs => ?_) _ st h0
  split
  · exact h s rid hs
  · exact hs

theorem retransmitDue_ind {P : State → Prop}
    (h : ∀ s q qs, P s → s.sendq = q :: qs → P (retransmit { s with sendq := qs } q).1) :
    ∀ (fuel : Nat) (st : State), P st → P (retransmitDue fuel st).1
  | 0, _, h0 => h0
  | fuel + 1, st, h0 => by
    unfold retransmitDue
    split
    · exact h0
    · rename_i q qs hq
      split
      · exact retransmitDue_ind h fuel _ (h st q qs h0 hq)
      · exact h0

theorem removeFailedOne_leF (st : State) (x : Res) (c tok : Nat) : AllLeF (removeFailedOne st x c tok).res st.res :=
  removeFailedOne_ind (P := fun s => AllLeF s.res st.res) st x c tok (AllLeF.refl _)
    (deleteObserver_leF (cancelAllMessages st c tok) ..)
    (All2.modRes ResLeF.refl st x.id fun y => resLeF_modFirst y _ _ (fun _ => rfl))

theorem handleFailedNotify_leF (st : State) (c tok : Nat) : AllLeF (handleFailedNotify st c tok).res st.res :=
  handleFailedNotify_ind (P := fun s => AllLeF s.res st.res) st c tok (AllLeF.refl _)
    (fun s x h => (removeFailedOne_leF s x c tok).trans h)

theorem cancelSent_leF (st : State) (c tok : Nat) : AllLeF (cancelSent st c tok).res st.res :=
  cancelSent_ind (P := fun s => AllLeF s.res st.res) st c tok (AllLeF.refl _)
    (fun s _ h => (deleteObserver_leF (cancelAllMessages s c tok) ..).trans h)

theorem handleAck_leF (st : State) (c mid : Nat) : AllLeF (handleAck st c mid).res st.res := by
  unfold handleAck
  dsimp only
  split
  · exact AllLeF.refl _
  · simp only [refDec_res]; split
    · exact touchObserver_leF (conDec _ c) ..
    · exact AllLeF.refl _

theorem handleRst_leF (st : State) (c mid : Nat) : AllLeF (handleRst st c mid).res st.res := by
  unfold handleRst
  dsimp only
  split
  · simp only [refDec_res]; exact cancelSent_leF (conDec _ c) ..
  · split
    · exact deleteObserver_leF (rxSession st c) ..
    · exact AllLeF.refl _

theorem sessionLost_leF (st : State) (c : Nat) : AllLeF (sessionLost st c).res st.res := by
  unfold sessionLost
  split
  · exact AllLeF.refl _
  · exact AllLeF.map (fun x => resLeF_subs x (SubsLeF.of_sublist List.filter_sublist)) st.res

theorem retransmit_leF (st : State) (q : QNode) : AllLeF (retransmit st q).1.res st.res := by
  unfold retransmit
  split
  · simp only [txStamp_res, modSess_res, conDec_res]; exact AllLeF.refl _
  · simp only [refDec_res, conDec_res]; exact handleFailedNotify_leF ..

theorem retransmitDue_leF (fuel : Nat) (st : State) : AllLeF (retransmitDue fuel st).1.res st.res :=
  retransmitDue_ind (P := fun s => AllLeF s.res st.res) (fun s q qs h _ => (retransmit_leF { s with sendq := qs } q).trans h)
    fuel st (AllLeF.refl _)

/-- after its notify pass coap_io_prepare_io only takes entries away (retransmission give-ups) -/
theorem io_leF (st : State) : AllLeF (io st).1.res (checkNotify st).1.res := by
  unfold io
  simp only [reclaim_res]
  exact retransmitDue_leF _ _

/-- The sending cases draw a message id first; `∀ sn, sn = sendNote … →` only gives the result of `sendNote` a name. -/
theorem notifyOne_cases {P : OneRes → Prop} (d : Bool) (r : Res) (o : Sub) (st : State)
    (skip : r.dirty = false → o.dirty = false →
      P { sub := some o, pd := false, st := { st with pending := true }, outs := [] })
    (defer : r.dirty = true ∨ o.dirty = true → backPressured st r o = true →
      P { sub := some { o with dirty := true }, pd := true, st := { st with pending := true }, outs := [] })
    (bye : r.dirty = true ∨ o.dirty = true → backPressured st r o = false → d = true →
      ∀ sn, sn = sendNote (newMid st o.sess).2 o.sess o.token 132 none false (newMid st o.sess).1 r.id r.ver →
      P { sub := some { o with dirty := false, mid := (newMid st o.sess).1 }, pd := false, st := sn.1, outs := [sn.2] })
    (error : r.dirty = true ∨ o.dirty = true → backPressured st r o = false → d = false → r.err = true →
      ∀ sn, sn = sendNote (refDec (newMid st o.sess).2 o.sess) o.sess o.token 132 none (wantCon r o) (newMid st o.sess).1 r.id r.ver →
      P { sub := none, pd := false, st := sn.1, outs := [sn.2] })
    (sent : r.dirty = true ∨ o.dirty = true → backPressured st r o = false → d = false → r.err = false →
      ∀ sn, sn = sendNote (newMid st o.sess).2 o.sess o.token 69 (some r.observe) (wantCon r o) (newMid st o.sess).1 r.id r.ver →
      P { sub := some { o with dirty := false, mid := (newMid st o.sess).1,
                               nonCnt := if wantCon r o || r.fNonAlways then 0 else (o.nonCnt + 1) % 256, lastVer := some r.ver },
          pd := false, st := sn.1, outs := [sn.2] }) :
    P (notifyOne d r o st) := by
  unfold notifyOne
  refine ite_ind (fun h1 => ?_) (fun h1 => ?_)
  · rw [Bool.and_eq_true, Bool.not_eq_true', Bool.not_eq_true'] at h1
    exact skip h1.1 h1.2
  · have hst : r.dirty = true ∨ o.dirty = true := by
      cases hr : r.dirty <;> cases ho : o.dirty <;> simp [hr, ho] at h1 ⊢
    refine ite_ind (fun h2 => defer hst h2) (fun h2 => ?_)
    rw [Bool.not_eq_true] at h2
    dsimp only
    refine ite_ind (fun hd => bye hst h2 hd _ rfl) (fun hd => ?_)
    rw [Bool.not_eq_true] at hd
    refine ite_ind (fun he => error hst h2 hd he _ rfl) (fun he => ?_)
    rw [Bool.not_eq_true] at he
    exact sent hst h2 hd he _ rfl

theorem request_ind {P : State → Prop} (st : State) (o : Option Nat) (c r tok key : Nat) (con : Bool) (mid : Nat)
    (hstamp : ∀ s, P s → P (txStamp s c))
    (h0 : (findRes st r = none ∨ (o ≠ some 0 ∧ o ≠ some 1)) → P (rxSession st c))
    (hreg : o = some 0 → P (touchObserver (addObserver (rxSession st c) r c tok key) c tok))
    (hcan : o = some 1 → P (deleteObserverRequest (rxSession st c) r c tok key))
    (hdel : ∀ s, P s → P (deleteObserver s r c tok)) : P (request st o c r tok key con mid).1 := by
  unfold request
  dsimp only
  split
  · rename_i h
    exact hstamp _ (h0 (Or.inl h))
  · have h1 : P (match (generalizing := false) o with
               | some 0 => touchObserver (addObserver (rxSession st c) r c tok key) c tok
               | some 1 => deleteObserverRequest (rxSession st c) r c tok key
               | _ => rxSession st c) := by
      split
      · exact hreg rfl
      · exact hcan rfl
      · rename_i h2 h3
        exact h0 (Or.inr ⟨h2, h3⟩)
    split
    · split
      · exact hstamp _ (hdel _ h1)
      · exact hstamp _ h1
    · exact hstamp _ h1

/-- The three kinds of request are one case; a lookup of `ack` / `rst` that finds nothing (or a Non-confirmable) is `hnil`.
    `hreq` is told the one thing the other cases forget about the event: a registration request (`o = some 0`) can only come from
    the event `reg` with these arguments (that is what `RegEv e` is fed from). -/
theorem step_cases {P : State × List Out → Prop} (st : State) (e : Event)
    (hreq : ∀ o c r tok key con mid, (o = some 0 → e = .reg c r tok key con mid) →
      P (rxThenIo (request st o c r tok key con mid)))
    (hack : ∀ c mid, P (rxThenIo (handleAck st c mid, [])))
    (hrst : ∀ c mid, P (rxThenIo (handleRst st c mid, [])))
    (hnil : P (st, []))
    (hchg : ∀ r, P (change st r, []))
    (hadv : ∀ ms, P (io { st with now := st.now + ms }))
    (herr : ∀ r b, P (modRes st r fun y => { y with err := b }, []))
    (hlost : ∀ c, P (sessionLost st c, []))
    (hdel : ∀ r, P (deleteResource st r)) : P (step st e) := by
  cases e with
  | reg c r tok key con mid => exact hreq _ c r tok key con mid (fun _ => rfl)
  | can c r tok key con mid => exact hreq (some 1) c r tok key con mid (fun h => by cases h)
  | get c r tok key con mid => exact hreq none c r tok key con mid (fun h => by cases h)
  | chg r => exact hchg r
  | adv ms => exact hadv ms
  | ack c n =>
    unfold step; dsimp only
    split
    · split
      · exact hack c _
      · exact hnil
    · exact hnil
  | rst c n =>
    unfold step; dsimp only
    split
    · exact hrst c _
    · exact hnil
  | err r b => exact herr r b
  | lost c => exact hlost c
  | del r => exact hdel r

theorem notifyOne_res (d : Bool) (r : Res) (o : Sub) (st : State) : (notifyOne d r o st).st.res = st.res := by
  refine notifyOne_cases (P := fun x => x.st.res = st.res) d r o st ?_ ?_ ?_ ?_ ?_
  · intro _ _; rfl
  · intro _ _; rfl
  · intro _ _ _ sn hsn; rw [hsn]; exact sendNote_res ..
  · intro _ _ _ _ sn hsn; rw [hsn]; exact sendNote_res ..
  · intro _ _ _ _ sn hsn; rw [hsn]; exact sendNote_res ..

theorem notifyLoop_res (d : Bool) (r : Res) : ∀ (subs : List Sub) (st : State), (notifyLoop d r subs st).st.res = st.res
  | [], st => rfl
  | o :: rest, st => by
    unfold notifyLoop
    dsimp only
    rw [notifyLoop_res d r rest, notifyOne_res]

theorem notifyRes_res (d : Bool) (r : Res) (st : State) : (notifyRes d r st).2.1.res = st.res := by
  unfold notifyRes
  split
  · exact notifyLoop_res ..
  · rfl

theorem releaseAll_res : ∀ (l : List Sub) (st : State), (releaseAll st l).res = st.res
  | [], st => rfl
  | s :: rest, st => by unfold releaseAll; rw [releaseAll_res rest]; rfl

def ident (s : Sub) : Nat × Nat × Nat := (s.sess, s.token, s.key)

def IdLe (a b : List Sub) : Prop := (a.map ident).Sublist (b.map ident)
theorem IdLe.refl (a : List Sub) : IdLe a a := List.Sublist.refl _
theorem ident_core (s : Sub) : ident (core s) = ident s := rfl

theorem SubsLeF.idLe {a b : List Sub} (h : SubsLeF a b) : IdLe a b := by
  have h1 := List.Sublist.map ident h
  rw [List.map_map, List.map_map] at h1
  exact h1

/-- two entries of one session differ in token AND in cache key -/
def Distinct (a b : Nat × Nat × Nat) : Prop := a.1 = b.1 → a.2.1 ≠ b.2.1 ∧ a.2.2 ≠ b.2.2

def NoDup (r : Res) : Prop := (r.subs.map ident).Pairwise Distinct

theorem NoDup.of_nil {r : Res} (h : r.subs = []) : NoDup r := by
  unfold NoDup; rw [h]; exact List.Pairwise.nil

theorem matchST_iff {c tok : Nat} {s : Sub} : matchST c tok s = true ↔ s.sess = c ∧ s.token = tok := by
  unfold matchST; rw [Bool.and_eq_true, beq_iff_eq, beq_iff_eq]

theorem matchSK_iff {c key : Nat} {s : Sub} : matchSK c key s = true ↔ s.sess = c ∧ s.key = key := by
  unfold matchSK; rw [Bool.and_eq_true, beq_iff_eq, beq_iff_eq]

theorem matchST_ident {c tok : Nat} {a b : Sub} (h : ident a = ident b) : matchST c tok a = matchST c tok b := by
  unfold ident at h
  unfold matchST
  simp only [Prod.mk.injEq] at h
  rw [h.1, h.2.1]

theorem distinct_no_match {a b : Sub} (h : Distinct (ident a) (ident b)) {c tok : Nat} (ha : matchST c tok a = true) :
    matchST c tok b = false := by
  unfold matchST at ha ⊢
  simp at ha ⊢
  intro hc ht
  have := h (by simp [ident, ha.1, hc])
  simp [ident] at this
  exact this.1 (by rw [ha.2, ht])

/-- deleting, by ITS token, the entry found by cache key leaves no entry with that key -/
theorem erase_key_unique (c key : Nat) : ∀ (l : List Sub) (old : Sub), (l.map ident).Pairwise Distinct →
    l.find? (matchSK c key) = some old → ∀ s ∈ l.eraseP (matchST c old.token), matchSK c key s = false
  | [], _, _, h => by cases h
  | a :: t, old, hp, hf => by
    rw [List.map_cons, List.pairwise_cons] at hp
    obtain ⟨ha, ht⟩ := hp
    -- the head and an entry of the tail, both of session c, share neither key nor token
    have hnd : ∀ x ∈ t, x.sess = c → a.sess = c → (x.key = a.key ∨ x.token = a.token) → False := by
      intro x hx h1 h2 h3
      have := ha (ident x) (List.mem_map_of_mem hx) (h2.trans h1.symm)
      rcases h3 with h3 | h3
      · exact this.2 h3.symm
      · exact this.1 h3.symm
    by_cases hm : matchSK c key a = true
    · rw [List.find?_cons_of_pos hm] at hf
      cases hf
      have hm' := matchSK_iff.mp hm
      rw [List.eraseP_cons_of_pos (matchST_iff.mpr ⟨hm'.1, rfl⟩)]
      intro s hs
      cases hsk : matchSK c key s with
      | false => rfl
      | true =>
        have h := matchSK_iff.mp hsk
        exact (hnd s hs h.1 hm'.1 (Or.inl (h.2.trans hm'.2.symm))).elim
    · rw [List.find?_cons_of_neg hm] at hf
      have hold := matchSK_iff.mp (List.find?_some hf)
      have hna : ¬ matchST c old.token a = true := fun hx =>
        hnd old (List.mem_of_find?_eq_some hf) hold.1 (matchST_iff.mp hx).1 (Or.inr (matchST_iff.mp hx).2.symm)
      rw [List.eraseP_cons_of_neg hna]
      intro s hs
      cases hs with
      | head => exact Bool.eq_false_iff.mpr hm
      | tail _ hs' => exact erase_key_unique c key t old ht hf s hs'

theorem addToRes_noDup (y : Res) (c tok key m : Nat) (hy : NoDup y) : NoDup (addToRes y c tok key m) := by
  unfold addToRes
  split
  · exact hy
  · rename_i hany
    -- the new entry goes in front of a sub-list of the old entries that holds no entry of (c, key), and none of (c, tok)
    have hrest : ∀ l : List Sub, l.Sublist y.subs → (∀ s ∈ l, matchSK c key s = false) →
        ((({ sess := c, token := tok, key := key, nonCnt := 0, failCnt := 0, dirty := false, mid := m, lastVer := none } : Sub)
          :: l).map ident).Pairwise Distinct := by
      intro l hl hk
      rw [List.map_cons, List.pairwise_cons]
      refine ⟨?_, List.Pairwise.sublist (hl.map ident) hy⟩
      intro b hb hsess
      obtain ⟨s, hs, rfl⟩ := List.mem_map.mp hb
      have ht : matchST c tok s = false := by
        cases hx : matchST c tok s with
        | false => rfl
        | true => exact absurd (List.any_eq_true.mpr ⟨s, hl.subset hs, hx⟩) hany
      have hk' := hk s hs
      unfold matchSK at hk'; unfold matchST at ht
      simp [ident] at hsess hk' ht ⊢
      exact ⟨fun h => ht hsess.symm h.symm, fun h => hk' hsess.symm h.symm⟩
    unfold NoDup
    dsimp only
    split
    · rename_i old hf
      exact hrest _ List.eraseP_sublist (erase_key_unique c key y.subs old hy hf)
    · rename_i hf
      exact hrest _ (List.Sublist.refl _) (fun s hs => by simpa using List.find?_eq_none.mp hf s hs)

theorem mem_addToRes {y : Res} {c tok key m : Nat} {o : Sub} (h : o ∈ (addToRes y c tok key m).subs) :
    o = { sess := c, token := tok, key := key, nonCnt := 0, failCnt := 0, dirty := false, mid := m, lastVer := none } ∨ o ∈ y.subs := by
  unfold addToRes at h
  split at h
  · exact Or.inr h
  · dsimp only at h
    cases h with
    | head => exact Or.inl rfl
    | tail _ h' =>
      right
      split at h'
      · exact List.mem_of_mem_eraseP h'
      · exact h'

def NoDupSt (st : State) : Prop := ∀ y ∈ st.res, NoDup y

theorem run_nil (st : State) : run st [] = (st, []) := rfl
theorem run_cons (st : State) (e : Event) (es : List Event) :
    run st (e :: es) = ((run (step st e).1 es).1, (step st e).2 ++ (run (step st e).1 es).2) := rfl

theorem run_append (st : State) (a b : List Event) :
    run st (a ++ b) = ((run (run st a).1 b).1, (run st a).2 ++ (run (run st a).1 b).2) := by
  induction a generalizing st with
  | nil => simp [run_nil]
  | cons e es ih => simp only [List.cons_append, run_cons, ih, List.append_assoc]

/-- the invariant principle: `P st acc` relates a state to everything written before it was reached -/
theorem run_inv {P : State → List Out → Prop}
    (hstep : ∀ st acc e, P st acc → P (step st e).1 (acc ++ (step st e).2)) :
    ∀ (evs : List Event) (st : State) (acc : List Out), P st acc → P (run st evs).1 (acc ++ (run st evs).2)
  | [], st, acc, h => by simpa [run_nil] using h
  | e :: es, st, acc, h => by
    rw [run_cons]
    dsimp only
    rw [← List.append_assoc]
    exact run_inv hstep es _ _ (hstep st acc e h)

theorem run_inv_state {P : State → Prop} (hstep : ∀ st e, P st → P (step st e).1) (evs : List Event) (st : State) (h : P st) :
    P (run st evs).1 :=
  run_inv (P := fun s _ => P s) (fun s _ e => hstep s e) evs st [] h

theorem run_inv_outs {I : State → Prop} {Q : Out → Prop} {ok : Event → Prop}
    (hstep : ∀ st e, ok e → I st → I (step st e).1 ∧ ∀ out ∈ (step st e).2, Q out) :
    ∀ (evs : List Event) (st : State), (∀ e ∈ evs, ok e) → I st → I (run st evs).1 ∧ ∀ out ∈ (run st evs).2, Q out
  | [], _, _, h => ⟨h, fun _ ho => by cases ho⟩
  | e :: es, st, hok, h => by
    rw [run_cons]
    obtain ⟨h1, h2⟩ := hstep st e (hok e (List.mem_cons_self ..)) h
    obtain ⟨h3, h4⟩ := run_inv_outs hstep es _ (fun e' he' => hok e' (List.mem_cons_of_mem _ he')) h1
    exact ⟨h3, List.forall_mem_append.mpr ⟨h2, h4⟩⟩

def resIds (st : State) : List Nat := st.res.map (·.id)

/-- the resources of a state carry pairwise different ids (they are the keys of the context's resource table) -/
def IdsNodup (st : State) : Prop := (resIds st).Nodup

theorem eq_of_id_eq {l : List Res} (hn : (l.map (·.id)).Nodup) {x y : Res} (hx : x ∈ l) (hy : y ∈ l) (h : x.id = y.id) : x = y := by
  induction l with
  | nil => cases hx
  | cons a t ih =>
    rw [List.map_cons, List.nodup_cons] at hn
    cases hx with
    | head =>
      cases hy with
      | head => rfl
      | tail _ hy' => exact absurd (List.mem_map_of_mem (f := (·.id)) hy') (h ▸ hn.1)
    | tail _ hx' =>
      cases hy with
      | head => exact absurd (List.mem_map_of_mem (f := (·.id)) hx') (h ▸ hn.1)
      | tail _ hy' => exact ih hn.2 hx' hy'

structure Found (st : State) (r : Nat) (x : Res) : Prop where
  mem : x ∈ st.res
  id : x.id = r
  alive : x.alive = true

theorem findRes_mem {st : State} {r : Nat} {x : Res} (h : findRes st r = some x) : Found st r x := by
  unfold findRes at h
  have h1 := List.mem_of_find?_eq_some h
  have h2 := List.find?_some h
  simp at h2
  exact ⟨h1, h2.1, h2.2⟩

theorem findRes_of_mem {st : State} (hn : IdsNodup st) {x : Res} (hx : x ∈ st.res) (ha : x.alive = true) :
    findRes st x.id = some x := by
  unfold findRes
  cases hf : st.res.find? (fun y => y.id == x.id && y.alive) with
  | none =>
    have := List.find?_eq_none.mp hf x hx
    simp [ha] at this
  | some y =>
    have h1 := List.mem_of_find?_eq_some hf
    have h2 := List.find?_some hf
    simp at h2
    rw [eq_of_id_eq hn h1 hx h2.1]

/-- `session->con_active`; 0 when the server holds no session object -/
def scon (st : State) (c : Nat) : Nat := match st.sess c with | some s => s.conActive | none => 0

theorem getSess_con (st : State) (c : Nat) : (getSess st c).conActive = scon st c := by
  unfold getSess scon; cases st.sess c <;> rfl

theorem scon_setSess (st : State) (c : Nat) (s : Sess) (c' : Nat) :
    scon (setSess st c s) c' = if c' = c then s.conActive else scon st c' := by
  unfold scon setSess; dsimp only
  by_cases h : c' = c <;> simp [h]

theorem scon_modSess (st : State) (c : Nat) (f : Sess → Sess) (c' : Nat) :
    scon (modSess st c f) c' = if c' = c then (f (getSess st c)).conActive else scon st c' := by
  unfold modSess; exact scon_setSess ..

theorem scon_modSess_same (st : State) (c : Nat) (f : Sess → Sess) (hf : ∀ s, (f s).conActive = s.conActive) (c' : Nat) :
    scon (modSess st c f) c' = scon st c' := by
  rw [scon_modSess]; split
  · rename_i h; rw [hf, getSess_con, h]
  · rfl

/-- what the primitives that keep the observer lists, and all of handle_request, leave alone: they touch the table, `ref` and the
    time stamps only -/
structure TableOnly (st st' : State) : Prop where
  sendq : st'.sendq = st.sendq
  pending : st'.pending = st.pending
  now : st'.now = st.now
  con : ∀ c, scon st' c = scon st c

theorem TableOnly.refl (st : State) : TableOnly st st := ⟨rfl, rfl, rfl, fun _ => rfl⟩
theorem TableOnly.trans {a b c : State} (h1 : TableOnly a b) (h2 : TableOnly b c) : TableOnly a c :=
  ⟨h2.sendq.trans h1.sendq, h2.pending.trans h1.pending, h2.now.trans h1.now, fun x => (h2.con x).trans (h1.con x)⟩

theorem TableOnly.modSess (st : State) (c : Nat) (f : Sess → Sess) (hf : ∀ s, (f s).conActive = s.conActive) :
    TableOnly st (modSess st c f) := ⟨rfl, rfl, rfl, scon_modSess_same st c f hf⟩

theorem TableOnly.mapRes (st : State) (f : Res → Res) : TableOnly st (mapRes st f) := ⟨rfl, rfl, rfl, fun _ => rfl⟩

theorem deleteObserver_tableOnly (st : State) (r c tok : Nat) : TableOnly st (deleteObserver st r c tok) := by
  unfold deleteObserver
  split
  · exact .refl _
  · split
    · exact (TableOnly.mapRes st _).trans (.modSess _ c _ fun _ => rfl)
    · exact .refl _

theorem addObserver_tableOnly (st : State) (r c tok key : Nat) : TableOnly st (addObserver st r c tok key) := by
  unfold addObserver
  split
  · exact .refl _
  · split
    · exact .refl _
    · dsimp only
      have h1 : TableOnly st (match (‹Res›).subs.find? (matchSK c key) with
                              | some _ => refDec st c
                              | none => st) := by
        split
        · exact .modSess st c _ fun _ => rfl
        · exact .refl _
      refine ((h1.trans ?_).trans (TableOnly.mapRes _ _)).trans (.modSess _ c _ fun _ => rfl)
      exact .modSess _ c (fun s => { s with txMid := ((getSess _ c).txMid + 1) % 65536 }) fun _ => rfl

theorem deleteObserverRequest_tableOnly (st : State) (r c tok key : Nat) : TableOnly st (deleteObserverRequest st r c tok key) := by
  unfold deleteObserverRequest
  split
  · exact .refl _
  · split
    · exact deleteObserver_tableOnly ..
    · split
      · exact deleteObserver_tableOnly ..
      · exact .refl _

theorem releaseAll_tableOnly : ∀ (l : List Sub) (st : State), TableOnly st (releaseAll st l)
  | [], st => .refl st
  | s :: rest, st => by
    unfold releaseAll
    exact TableOnly.trans (b := refDec st s.sess) (.modSess st s.sess _ fun _ => rfl) (releaseAll_tableOnly rest _)

theorem request_tableOnly (st : State) (o : Option Nat) (c r tok key : Nat) (con : Bool) (mid : Nat) :
    TableOnly st (request st o c r tok key con mid).1 :=
  have hrx : TableOnly st (rxSession st c) := .modSess st c _ fun _ => rfl
  request_ind (P := TableOnly st) st o c r tok key con mid (fun _ h => h.trans (.modSess _ c _ fun _ => rfl)) (fun _ => hrx)
    (fun _ => (hrx.trans (addObserver_tableOnly _ r c tok key)).trans (TableOnly.mapRes _ _))
    (fun _ => hrx.trans (deleteObserverRequest_tableOnly _ r c tok key))
    (fun _ h => h.trans (deleteObserver_tableOnly _ r c tok))

end Coap.Observe
