import CoapVerif.Model.MsgLayer
import CoapVerif.Spec.SendQueue
import CoapVerif.Spec.Timer
/-
Lemmas for C06 on the three things its statements speak of.
  `Coap.SQ`     the delta-time list of the code read as the list of absolute deadlines of the property (`abs`), one commutation
                lemma per queue operation; what does not look at the relative time — a weight (`wsum`), hence a predicate
                (`TFree`) — is untouched by insert / enqueue / pop / remove / removeTok (`cancelSession` is walked apart)
  `Coap.Msg`    `Kept Q I`: a property closed under the four primitives of the message layer (session update, output, arming
                at the clock, unlinking nodes) is kept by its functions; the branches of `coap_dispatch`, the due loop and the
                events are walked in Lemmas/MsgLayer.lean
  `Coap.Timer`  the timer specification (Spec/Timer.lean) alone, using nothing of the rest of the file: `fire_rule` /
                `step_rule` say what a step can do, every invariant of S is an instance
  `Coap.Msg` (end of file)  one Confirmable message on an idle endpoint in closed form
-/
namespace Coap.SQ
open Coap.Spec.SQ (Entry)

/-- the absolute deadlines a delta list stands for, when its head is relative to `b` -/
def absFrom (b : Nat) : List Node → List Entry
  | [] => []
  | n :: r => ⟨b + n.t, n.sess, n.mid, n.tok⟩ :: absFrom (b + n.t) r

/-- the abstraction function M → S -/
def abs (q : Queue) : List Entry := absFrom q.base q.nodes

def Sorted (l : List Entry) : Prop := l.Pairwise (fun a b => a.deadline ≤ b.deadline)

/-- who a node / an entry is: (session, message id, token) -/
def nodeId (n : Node) : Nat × Nat × Nat := (n.sess, n.mid, n.tok)
def entryId (e : Entry) : Nat × Nat × Nat := (e.sess, e.mid, e.tok)

theorem absFrom_base_eq {b b' : Nat} (h : b = b') (l : List Node) : absFrom b l = absFrom b' l := by
  subst h; rfl

theorem absFrom_ge (b : Nat) (l : List Node) : ∀ e ∈ absFrom b l, b ≤ e.deadline := by
  induction l generalizing b with
  | nil => simp [absFrom]
  | cons n r ih =>
    intro e he
    simp only [absFrom, List.mem_cons] at he
    rcases he with rfl | he
    · simp
    · have := ih _ e he; omega

theorem absFrom_sorted (b : Nat) (l : List Node) : Sorted (absFrom b l) := by
  induction l generalizing b with
  | nil => simp [absFrom, Sorted]
  | cons n r ih =>
    simp only [absFrom, Sorted, List.pairwise_cons]
    exact ⟨fun e he => absFrom_ge _ _ e he, ih _⟩

theorem abs_sorted (q : Queue) : Sorted (abs q) := absFrom_sorted _ _

theorem earliest_le {l : List Entry} {d : Nat} (hs : Sorted l) (h : Spec.SQ.earliest l = some d) :
    ∀ e ∈ l, d ≤ e.deadline := by
  rcases l with _ | ⟨x, r⟩
  · cases h
  · simp only [Spec.SQ.earliest, Option.some.injEq] at h
    subst h
    intro e he
    rcases List.mem_cons.1 he with rfl | he
    · exact Nat.le_refl _
    · exact (List.pairwise_cons.1 hs).1 e he

theorem absFrom_eq_nil {b : Nat} {l : List Node} : absFrom b l = [] ↔ l = [] := by
  cases l <;> simp [absFrom]

theorem absFrom_length (b : Nat) (l : List Node) : (absFrom b l).length = l.length := by
  induction l generalizing b with
  | nil => rfl
  | cons n r ih => simp [absFrom, ih]

theorem absFrom_insertAfter (b : Nat) (l : List Node) (n : Node) :
    absFrom b (insertAfter l n) = Spec.SQ.insert (absFrom b l) ⟨b + n.t, n.sess, n.mid, n.tok⟩ := by
  induction l generalizing b n with
  | nil => simp [insertAfter, absFrom, Spec.SQ.insert]
  | cons q r ih =>
    by_cases h : q.t ≤ n.t
    · have e1 : b + q.t + (n.t - q.t) = b + n.t := by omega
      simp [insertAfter, h, absFrom, Spec.SQ.insert, ih, e1]
    · have e1 : b + n.t + (q.t - n.t) = b + q.t := by omega
      simp [insertAfter, h, absFrom, Spec.SQ.insert, e1]

theorem insertNode_eq_insertAfter (l : List Node) (n : Node) : insertNode l n = insertAfter l n := by
  cases l with
  | nil => rfl
  | cons q r =>
    by_cases h : q.t ≤ n.t
    · have h' : ¬ n.t < q.t := by omega
      simp [insertNode, insertAfter, h, h']
    · have h' : n.t < q.t := by omega
      simp [insertNode, insertAfter, h, h']

theorem absFrom_insertNode (b : Nat) (l : List Node) (n : Node) :
    absFrom b (insertNode l n) = Spec.SQ.insert (absFrom b l) ⟨b + n.t, n.sess, n.mid, n.tok⟩ := by
  rw [insertNode_eq_insertAfter]; exact absFrom_insertAfter b l n

def absPop (b : Nat) : Option (Node × List Node) → Option (Entry × List Entry)
  | none => none
  | some (n, r) => some (⟨b + n.t, n.sess, n.mid, n.tok⟩, absFrom b r)

theorem absPop_popNext (b : Nat) (l : List Node) : absPop b (popNext l) = Spec.SQ.pop (absFrom b l) := by
  rcases l with _ | ⟨n, _ | ⟨q, r⟩⟩
  · rfl
  · rfl
  · have e1 : b + (q.t + n.t) = b + n.t + q.t := by omega
    simp [popNext, absPop, absFrom, Spec.SQ.pop, e1]

/-- the successor inherits the removed node's relative time: nobody else's deadline moves -/
theorem absFrom_inherit (b : Nat) (n : Node) (r : List Node) :
    absFrom b (match r with
      | [] => []
      | q :: r' => { q with t := q.t + n.t } :: r') = absFrom (b + n.t) r := by
  rcases r with _ | ⟨q, r'⟩
  · rfl
  · have e1 : b + (q.t + n.t) = b + n.t + q.t := by omega
    simp [absFrom, e1]

theorem removeNode_abs (b : Nat) (l : List Node) (s id : Nat) :
    absFrom b (removeNode l s id).2 = (Spec.SQ.remove (absFrom b l) s id).2 ∧
    (removeNode l s id).1.map nodeId = (Spec.SQ.remove (absFrom b l) s id).1.map entryId := by
  induction l generalizing b with
  | nil => exact ⟨rfl, rfl⟩
  | cons n r ih =>
    by_cases h : n.sess = s ∧ n.mid = id
    · rcases r with _ | ⟨q, r'⟩
      · simp [removeNode, h, absFrom, Spec.SQ.remove, nodeId, entryId]
      · have e1 : b + (q.t + n.t) = b + n.t + q.t := by omega
        simp [removeNode, h, absFrom, Spec.SQ.remove, nodeId, entryId, e1]
    · rcases hr : removeNode r s id with ⟨res, r'⟩
      have := ih (b + n.t)
      rw [hr] at this
      simp only [removeNode, h, if_false, hr, absFrom, Spec.SQ.remove]
      simpa using this

theorem removeNode_rest (b : Nat) (l : List Node) (s id : Nat) :
    absFrom b (removeNode l s id).2 = (Spec.SQ.remove (absFrom b l) s id).2 := (removeNode_abs b l s id).1

theorem removeTok_abs (b : Nat) (l : List Node) (s tok : Nat) :
    absFrom b (removeTok l s tok).2 = (Spec.SQ.removeTok (absFrom b l) s tok).2 ∧
    (removeTok l s tok).1.map nodeId = (Spec.SQ.removeTok (absFrom b l) s tok).1.map entryId := by
  induction l generalizing b with
  | nil => exact ⟨rfl, rfl⟩
  | cons n r ih =>
    by_cases h : n.sess = s ∧ n.tok = tok
    · rcases r with _ | ⟨q, r'⟩
      · simp [removeTok, h, absFrom, Spec.SQ.removeTok, nodeId, entryId]
      · have e1 : b + (q.t + n.t) = b + n.t + q.t := by omega
        simp [removeTok, h, absFrom, Spec.SQ.removeTok, nodeId, entryId, e1]
    · rcases hr : removeTok r s tok with ⟨res, r'⟩
      have := ih (b + n.t)
      rw [hr] at this
      simp only [removeTok, h, if_false, hr, absFrom, Spec.SQ.removeTok]
      simpa using this

theorem removeTok_rest (b : Nat) (l : List Node) (s tok : Nat) :
    absFrom b (removeTok l s tok).2 = (Spec.SQ.removeTok (absFrom b l) s tok).2 := (removeTok_abs b l s tok).1

theorem cancelAux_rest (b : Nat) (l : List Node) (s carry : Nat) :
    absFrom b (cancelSessionAux l s carry).2 = (absFrom (b + carry) l).filter (fun e => ¬ e.sess = s) := by
  induction l generalizing b carry with
  | nil => rfl
  | cons n r ih =>
    by_cases h : n.sess = s
    · rcases hr : cancelSessionAux r s (n.t + carry) with ⟨gone, rest⟩
      have := ih b (n.t + carry)
      rw [hr] at this
      have e1 : b + (n.t + carry) = b + carry + n.t := by omega
      simp only [cancelSessionAux, h, if_true, hr, absFrom]
      simp [this, e1]
    · rcases hr : cancelSessionAux r s 0 with ⟨gone, rest⟩
      have := ih (b + (n.t + carry)) 0
      rw [hr] at this
      have e1 : b + (n.t + carry) = b + carry + n.t := by omega
      simp only [cancelSessionAux, h, if_false, hr, absFrom]
      simp [e1] at this
      simp [this, e1, h]

theorem cancelAux_gone (b : Nat) (l : List Node) (s carry : Nat) :
    (cancelSessionAux l s carry).1.map nodeId = ((absFrom b l).filter (fun e => e.sess = s)).map entryId := by
  induction l generalizing b carry with
  | nil => rfl
  | cons n r ih =>
    by_cases h : n.sess = s
    · rcases hr : cancelSessionAux r s (n.t + carry) with ⟨gone, rest⟩
      have := ih (b + n.t) (n.t + carry)
      rw [hr] at this
      simp only [cancelSessionAux, h, if_true, hr, absFrom]
      simp at this
      simp [this, nodeId, entryId]
    · rcases hr : cancelSessionAux r s 0 with ⟨gone, rest⟩
      have := ih (b + n.t) 0
      rw [hr] at this
      simp only [cancelSessionAux, h, if_false, hr, absFrom]
      simp at this
      simp [this, h]

theorem cancelSession_rest (b : Nat) (l : List Node) (s : Nat) :
    absFrom b (cancelSession l s).2 = (Spec.SQ.cancelSession (absFrom b l) s).2 := by
  have := cancelAux_rest b l s 0
  simpa [cancelSession, Spec.SQ.cancelSession] using this

theorem cancelSession_gone (b : Nat) (l : List Node) (s : Nat) :
    (cancelSession l s).1.map nodeId = (Spec.SQ.cancelSession (absFrom b l) s).1.map entryId := by
  have := cancelAux_gone b l s 0
  simpa [cancelSession, Spec.SQ.cancelSession] using this

/-! ### unlinking nodes moves nobody else's deadline: what is left stands for some of the old deadlines -/

def SubQ (r l : List Node) : Prop := ∀ b, ∀ e ∈ absFrom b r, e ∈ absFrom b l

theorem subQ_popNext {l : List Node} {n : Node} {rest : List Node} (h : popNext l = some (n, rest)) : SubQ rest l := by
  intro b e he
  have := absPop_popNext b l
  rw [h] at this
  rcases hl : absFrom b l with _ | ⟨x, r⟩ <;> rw [hl] at this <;> simp only [absPop, Spec.SQ.pop] at this
  · cases this
  · cases this; exact List.mem_cons_of_mem _ he

theorem mem_specInsert {l : List Entry} {e x : Entry} : x ∈ Spec.SQ.insert l e ↔ x = e ∨ x ∈ l := by
  induction l with
  | nil => simp [Spec.SQ.insert]
  | cons y r ih =>
    by_cases h : y.deadline ≤ e.deadline
    · simp only [Spec.SQ.insert, h, if_true, List.mem_cons, ih]; exact or_left_comm
    · simp only [Spec.SQ.insert, h, if_false, List.mem_cons]

theorem mem_specRemove {l : List Entry} {s id : Nat} {e : Entry} : e ∈ (Spec.SQ.remove l s id).2 → e ∈ l := by
  induction l with
  | nil => exact fun h => h
  | cons x r ih =>
    by_cases hk : x.sess = s ∧ x.mid = id
    · simp only [Spec.SQ.remove, hk, and_self, if_true]; exact List.mem_cons_of_mem _
    · simp only [Spec.SQ.remove, hk, if_false, List.mem_cons]
      exact Or.imp_right ih

theorem mem_specRemoveTok {l : List Entry} {s tok : Nat} {e : Entry} : e ∈ (Spec.SQ.removeTok l s tok).2 → e ∈ l := by
  induction l with
  | nil => exact fun h => h
  | cons x r ih =>
    by_cases hk : x.sess = s ∧ x.tok = tok
    · simp only [Spec.SQ.removeTok, hk, and_self, if_true]; exact List.mem_cons_of_mem _
    · simp only [Spec.SQ.removeTok, hk, if_false, List.mem_cons]
      exact Or.imp_right ih

theorem subQ_removeNode (l : List Node) (s id : Nat) : SubQ (removeNode l s id).2 l :=
  fun b _ he => mem_specRemove (removeNode_rest b l s id ▸ he)

theorem subQ_removeTok (l : List Node) (s tok : Nat) : SubQ (removeTok l s tok).2 l :=
  fun b _ he => mem_specRemoveTok (removeTok_rest b l s tok ▸ he)

theorem subQ_cancelSession (l : List Node) (s : Nat) : SubQ (cancelSession l s).2 l :=
  fun b e he => (List.mem_filter.1 (cancelSession_rest b l s ▸ he : e ∈ (Spec.SQ.cancelSession (absFrom b l) s).2)).1

theorem adjust_id_of_ge (l : List Entry) (now : Nat) (h : ∀ e ∈ l, now ≤ e.deadline) :
    Spec.SQ.adjust l now = l := by
  induction l with
  | nil => rfl
  | cons x r ih =>
    have hx := h x (by simp)
    have hr := ih (fun e he => h e (by simp [he]))
    simp only [Spec.SQ.adjust, List.map_cons] at hr ⊢
    rw [hr, Nat.max_eq_left hx]

theorem adjustBasetime_base (q : Queue) (now : Nat) : (adjustBasetime q now).2.base = now := by
  unfold adjustBasetime
  split
  · rfl
  · split <;> rfl

theorem abs_adjust_backward_same (q : Queue) (now : Nat) (h : now ≤ q.base ∨ q.nodes = []) :
    abs (adjustBasetime q now).2 = abs q := by
  rcases q with ⟨base, nodes⟩
  rcases nodes with _ | ⟨hd, r⟩
  · simp [adjustBasetime, abs, absFrom]
  · have hb : now ≤ base := by simpa using h
    have e1 : now + (hd.t + (base - now)) = base + hd.t := by omega
    simp [adjustBasetime, hb, abs, absFrom, e1]

/-- moving the base time backwards changes no deadline, and S's `adjust` clamps none: all lie at or after the old base -/
theorem abs_adjust_backward (q : Queue) (now : Nat) (h : now ≤ q.base ∨ q.nodes = []) :
    abs (adjustBasetime q now).2 = Spec.SQ.adjust (abs q) now ∧ (adjustBasetime q now).2.base = now := by
  refine ⟨?_, adjustBasetime_base q now⟩
  rw [abs_adjust_backward_same q now h, adjust_id_of_ge]
  intro e he
  rcases h with h | h
  · exact Nat.le_trans h (absFrom_ge _ _ e he)
  · rw [abs, h] at he; cases he

theorem abs_enqueue (q : Queue) (now delay : Nat) (n : Node) (h : q.nodes = [] ∨ q.base ≤ now) :
    abs (enqueue q now delay n) = Spec.SQ.insert (abs q) ⟨now + delay, n.sess, n.mid, n.tok⟩ := by
  rcases q with ⟨base, nodes⟩
  rcases nodes with _ | ⟨hd, r⟩
  · simp [enqueue, abs, absFrom, Spec.SQ.insert]
  · have hb : base ≤ now := by simpa using h
    have e1 : base + (now - base + delay) = now + delay := by omega
    simp only [enqueue, abs]
    rw [absFrom_insertNode]
    simp [e1]

theorem enqueue_base (q : Queue) (now delay : Nat) (n : Node) :
    (enqueue q now delay n).base = if q.nodes = [] then now else q.base := by
  rcases q with ⟨base, nodes⟩
  rcases nodes with _ | ⟨hd, r⟩ <;> simp [enqueue]

/-! ### `Q()` and `coap_calc_timeout` inside the range where no cast wraps -/

theorem qfix_eq (ip fp : Nat) (h : 64 * ip + (64 * fp + 500) / 1000 < 65536) :
    qfix ip fp = 64 * ip + (64 * fp + 500) / 1000 := by
  unfold qfix; exact Nat.mod_eq_of_lt h

theorem inner_eq (F r : Nat) (h : 64 ≤ F) : ((F : Int) - 64) * (r : Int) = (((F - 64) * r : Nat) : Int) := by
  rw [Int.natCast_mul, Int.natCast_sub h]; rfl

theorem calcTimeout_eq (atI atF arfI arfF r : Nat) (hr : r < 256)
    (hA : 64 * atI + (64 * atF + 500) / 1000 < 65536) (hF : 64 * arfI + (64 * arfF + 500) / 1000 < 65536)
    (h1 : 1 ≤ arfI) :
    calcTimeout atI atF arfI arfF r =
      (1000 * (((((qfix arfI arfF - 64) * r + 128) / 256 + 64) * qfix atI atF + 32) / 64) + 32) / 64 := by
  have hA' : qfix atI atF < 65536 := by rw [qfix_eq _ _ hA]; exact hA
  have hF' : qfix arfI arfF < 65536 := by rw [qfix_eq _ _ hF]; exact hF
  have hF64 : 64 ≤ qfix arfI arfF := by rw [qfix_eq _ _ hF]; omega
  unfold calcTimeout
  generalize qfix atI atF = A at hA' ⊢
  generalize qfix arfI arfF = F at hF' hF64 ⊢
  clear hA hF h1
  simp only []
  rw [inner_eq F r hF64]
  have hX : (F - 64) * r ≤ (F - 64) * 255 := Nat.mul_le_mul_left _ (by omega)
  generalize (F - 64) * r = X at hX ⊢
  have h1 : (((X : Int) + 128) / 256 % 4294967296).toNat = (X + 128) / 256 := by omega
  rw [h1]
  have hR : (X + 128) / 256 + 64 ≤ F := by omega
  generalize (X + 128) / 256 = R at hR ⊢
  clear hX h1
  have hP : (R + 64) * A ≤ 65535 * 65535 := Nat.mul_le_mul (by omega) (by omega)
  rw [Nat.mod_eq_of_lt (show R + 64 < 4294967296 by omega)]
  generalize (R + 64) * A = P at hP ⊢
  clear hR hF' hF64 hA'
  rw [Nat.mod_eq_of_lt (show P < 4294967296 by omega), Nat.mod_eq_of_lt (show P + 32 < 4294967296 by omega)]
  have hQ : (P + 32) / 64 ≤ 67108864 := by omega
  generalize (P + 32) / 64 = Q at hQ ⊢
  rw [Nat.mod_eq_of_lt (show 1000 * Q + 32 < 18446744073709551616 by omega)]
  exact Nat.mod_eq_of_lt (by omega)

theorem calcTimeout_lt (a b c d r : Nat) : calcTimeout a b c d r < 4294967296 := by
  unfold calcTimeout; exact Nat.mod_lt _ (by decide)

theorem calcTimeout_mod (a b c d r : Nat) : calcTimeout a b c d r * 2 ^ 0 % 4294967296 = calcTimeout a b c d r := by
  rw [Nat.pow_zero, Nat.mul_one]; exact Nat.mod_eq_of_lt (calcTimeout_lt a b c d r)

theorem removeNode_found (l : List Node) (s id : Nat) (n : Node) (h : (removeNode l s id).1 = some n) :
    n ∈ l ∧ n.sess = s ∧ n.mid = id := by
  induction l with
  | nil => simp [removeNode] at h
  | cons a r ih =>
    by_cases hk : a.sess = s ∧ a.mid = id
    · rcases r with _ | ⟨q, r'⟩ <;> simp [removeNode, hk] at h <;> subst h <;> exact ⟨List.mem_cons_self, hk⟩
    · rcases hr : removeNode r s id with ⟨res, r'⟩
      rw [hr] at ih
      simp only [removeNode, hk, if_false, hr] at h
      exact ⟨List.mem_cons_of_mem _ (ih h).1, (ih h).2⟩

theorem removeTok_found (l : List Node) (s tok : Nat) (n : Node) (h : (removeTok l s tok).1 = some n) :
    n ∈ l ∧ n.sess = s ∧ n.tok = tok := by
  induction l with
  | nil => simp [removeTok] at h
  | cons a r ih =>
    by_cases hk : a.sess = s ∧ a.tok = tok
    · rcases r with _ | ⟨q, r'⟩ <;> simp [removeTok, hk] at h <;> subst h <;> exact ⟨List.mem_cons_self, hk⟩
    · rcases hr : removeTok r s tok with ⟨res, r'⟩
      rw [hr] at ih
      simp only [removeTok, hk, if_false, hr] at h
      exact ⟨List.mem_cons_of_mem _ (ih h).1, (ih h).2⟩

/-! ### a weight that does not look at the relative time is summed the same whatever the queue operations do to `t` -/

def wsum (w : Node → Nat) : List Node → Nat
  | [] => 0
  | n :: r => w n + wsum w r

section wsum
variable {w : Node → Nat} (hw : ∀ n t, w { n with t := t } = w n)
include hw

theorem wsum_insertAfter : ∀ (l : List Node) (n : Node), wsum w (insertAfter l n) = w n + wsum w l
  | [], n => rfl
  | q :: r, n => by
    by_cases h : q.t ≤ n.t
    · simp only [insertAfter, h, if_true, wsum, wsum_insertAfter r, hw]; omega
    · simp only [insertAfter, h, if_false, wsum, hw]

theorem wsum_insertNode (l : List Node) (n : Node) : wsum w (insertNode l n) = w n + wsum w l := by
  cases l with
  | nil => rfl
  | cons q r =>
    by_cases h : n.t < q.t
    · simp only [insertNode, h, if_true, wsum, hw]
    · simp only [insertNode, h, if_false, wsum, wsum_insertAfter hw r, hw]; omega

theorem wsum_enqueue (q : Queue) (now d : Nat) (n : Node) : wsum w (enqueue q now d n).nodes = w n + wsum w q.nodes := by
  unfold enqueue
  split
  · next h => simp only [wsum, hw, h]
  · simp only [wsum_insertNode hw, hw]

theorem wsum_popNext (l : List Node) (n : Node) (rest : List Node) (h : popNext l = some (n, rest)) :
    wsum w l = w n + wsum w rest := by
  rcases l with _ | ⟨a, _ | ⟨b, r⟩⟩
  · cases h
  · cases h; rfl
  · cases h; simp only [wsum, hw]

theorem wsum_removeNode : ∀ (l : List Node) (s m : Nat),
    wsum w l = wsum w (removeNode l s m).2 + (match (removeNode l s m).1 with | some n => w n | none => 0)
  | [], _, _ => rfl
  | a :: r, s, m => by
    by_cases hk : a.sess = s ∧ a.mid = m
    · rcases r with _ | ⟨b, r'⟩
      · simp [removeNode, hk, wsum]
      · simp only [removeNode, hk, and_self, if_true, wsum, hw]; omega
    · have := wsum_removeNode r s m
      rcases hr : removeNode r s m with ⟨res, r'⟩
      rw [hr] at this
      simp only [removeNode, hk, if_false, hr, wsum] at this ⊢
      omega

theorem wsum_removeTok : ∀ (l : List Node) (s tok : Nat),
    wsum w l = wsum w (removeTok l s tok).2 + (match (removeTok l s tok).1 with | some n => w n | none => 0)
  | [], _, _ => rfl
  | a :: r, s, tok => by
    by_cases hk : a.sess = s ∧ a.tok = tok
    · rcases r with _ | ⟨b, r'⟩
      · simp [removeTok, hk, wsum]
      · simp only [removeTok, hk, and_self, if_true, wsum, hw]; omega
    · have := wsum_removeTok r s tok
      rcases hr : removeTok r s tok with ⟨res, r'⟩
      rw [hr] at this
      simp only [removeTok, hk, if_false, hr, wsum] at this ⊢
      omega

omit hw in
theorem wsum_ge_mem {l : List Node} {n : Node} (h : n ∈ l) : w n ≤ wsum w l := by
  induction l with
  | nil => cases h
  | cons a r ih =>
    rcases List.mem_cons.1 h with rfl | h
    · exact Nat.le_add_right _ _
    · exact Nat.le_trans (ih h) (Nat.le_add_left _ _)

end wsum

/-! ### predicates on nodes that do not look at the relative time survive the queue operations: the nodes outside such a
predicate are a weight that does not look at it -/

def TFree (Q : Node → Prop) : Prop := ∀ (n : Node) (x : Nat), Q n → Q { n with t := x }

theorem all_iff_wsum (Q : Node → Prop) [DecidablePred Q] (l : List Node) :
    (∀ x ∈ l, Q x) ↔ wsum (fun n => if Q n then 0 else 1) l = 0 := by
  induction l with
  | nil => simp [wsum]
  | cons a r ih =>
    simp only [List.forall_mem_cons, wsum, ih, Nat.add_eq_zero_iff]
    by_cases h : Q a <;> simp [h]

theorem TFree.blind {Q : Node → Prop} [DecidablePred Q] (hQ : TFree Q) (n : Node) (t : Nat) :
    (if Q { n with t := t } then 0 else 1) = if Q n then 0 else 1 := by
  have : Q { n with t := t } ↔ Q n := ⟨fun h => hQ { n with t := t } n.t h, hQ n t⟩
  simp only [this]

open Classical in
theorem all_enqueue {Q : Node → Prop} (hQ : TFree Q) (q : Queue) (now d : Nat) (n : Node)
    (hl : ∀ x ∈ q.nodes, Q x) (hn : Q n) : ∀ x ∈ (enqueue q now d n).nodes, Q x := by
  rw [all_iff_wsum] at hl ⊢
  rw [wsum_enqueue hQ.blind, hl, if_pos hn]

open Classical in
theorem all_popNext {Q : Node → Prop} (hQ : TFree Q) (l : List Node) (n : Node) (rest : List Node)
    (h : popNext l = some (n, rest)) (hl : ∀ x ∈ l, Q x) : Q n ∧ ∀ x ∈ rest, Q x := by
  rw [all_iff_wsum] at hl ⊢
  rw [wsum_popNext hQ.blind l n rest h] at hl
  exact ⟨Decidable.by_contra fun hn => by rw [if_neg hn] at hl; omega, by omega⟩

open Classical in
theorem all_removeNode {Q : Node → Prop} (hQ : TFree Q) (l : List Node) (s id : Nat) (hl : ∀ x ∈ l, Q x) :
    (∀ x ∈ (removeNode l s id).2, Q x) ∧ (∀ n, (removeNode l s id).1 = some n → Q n) := by
  rw [all_iff_wsum] at hl ⊢
  rw [wsum_removeNode hQ.blind l s id] at hl
  refine ⟨by omega, fun n hn => Decidable.by_contra fun hq => ?_⟩
  rw [hn] at hl
  simp only [if_neg hq] at hl
  omega

theorem all_cancelAux {Q : Node → Prop} (hQ : TFree Q) : ∀ (l : List Node) (s c : Nat), (∀ x ∈ l, Q x) →
    ∀ x ∈ (cancelSessionAux l s c).2, Q x
  | [], s, c, _ => by simp [cancelSessionAux]
  | a :: r, s, c, hl => by
    have ha : Q a := hl _ (by simp)
    have hr : ∀ x ∈ r, Q x := fun x hx => hl x (by simp [hx])
    unfold cancelSessionAux
    split
    · rcases hrm : cancelSessionAux r s (a.t + c) with ⟨g, r'⟩
      have := all_cancelAux hQ r s (a.t + c) hr
      rw [hrm] at this
      exact this
    · rcases hrm : cancelSessionAux r s 0 with ⟨g, r'⟩
      have := all_cancelAux hQ r s 0 hr
      rw [hrm] at this
      intro x hx
      simp only [List.mem_cons] at hx
      rcases hx with rfl | hx
      · exact hQ _ _ ha
      · exact this x hx

/-- a node predicate that only looks at the PDU fields and the stored timeout -/
def Stable (Q : Node → Prop) : Prop := ∀ (n : Node) (t c s : Nat), Q n → Q { n with t := t, cnt := c, sess := s }

theorem Stable.tfree {Q : Node → Prop} (h : Stable Q) : TFree Q := fun n x hn => h n x n.cnt n.sess hn

theorem Stable.cnt {Q : Node → Prop} (h : Stable Q) (n : Node) (c : Nat) (hn : Q n) : Q { n with cnt := c } :=
  h n n.t c n.sess hn

theorem Stable.sess {Q : Node → Prop} (h : Stable Q) (n : Node) (s : Nat) (hn : Q n) : Q { n with sess := s } :=
  h n n.t n.cnt s hn

end Coap.SQ

namespace Coap.Pdu
open Coap.SQ Coap.Msg

/-- the node `coap_send` builds -/
def fresh (l : L) (s : Nat) (con : Bool) (mid r : Nat) : Node :=
  { sess := s, mid := mid, t := 0,
    timeout := if con then calcTimeout (l.getS s).atI (l.getS s).atF (l.getS s).arfI (l.getS s).arfF r else 0,
    cnt := 0, tok := mid, con := con }

end Coap.Pdu

namespace Coap.Msg
open Coap.SQ

@[simp] theorem setS_now (l : L) (s : Nat) (se : Sess) : (l.setS s se).now = l.now := rfl
@[simp] theorem emit_now (l : L) (o : Out) : (l.emit o).now = l.now := rfl
@[simp] theorem waitAck_now (l : L) (n : Node) : (waitAck l n).now = l.now := rfl

theorem getS_setS_same {l : L} {s : Nat} {se : Sess} (h : s < l.sess.length) :
    (l.setS s se).getS s = se := by
  simp [L.getS, L.setS, List.getD_eq_getElem?_getD, h]

theorem getS_setS_other {l : L} {s s' : Nat} {se : Sess} (h : s ≠ s') :
    (l.setS s se).getS s' = l.getS s' := by
  simp [L.getS, L.setS, List.getD_eq_getElem?_getD, h]

theorem prepareCore_fst (l : L) : (prepareCore l).1 = dueLoop (dueFuel l) l := by
  unfold prepareCore
  simp only []
  split <;> rfl

theorem prepare_eq (l : L) :
    prepare l = (prepareCore l).1.emit (.wait (prepareCore l).1.now (prepareCore l).2) := rfl

/-- a property `I` of the endpoint state that puts every queued and every delayed node under `Q` and survives every
session update, output, (re)arming at the current clock and change of the node list to nodes under `Q` that stand for some of the
old deadlines (`SubQ`: the model only ever unlinks nodes): every function of the model but `setNow` keeps it.  `Q` must not look at what the model rewrites in a node (`Stable`). -/
structure Kept (Q : Node → Prop) (I : L → Prop) : Prop where
  stable : Stable Q
  queue : ∀ l, I l → ∀ n ∈ l.q.nodes, Q n
  delayq : ∀ l s, I l → ∀ n ∈ (l.getS s).delayq, Q n
  setS : ∀ l s se, I l → (∀ n ∈ se.delayq, Q n) → I (l.setS s se)
  emit : ∀ l o, I l → I (l.emit o)
  enq : ∀ l d n, I l → Q n → I { l with q := enqueue l.q l.now d n }
  nodes : ∀ l r, I l → (∀ n ∈ r, Q n) → SubQ r l.q.nodes → I { l with q := { l.q with nodes := r } }

theorem Kept.plain {I : L → Prop} (setS : ∀ l s se, I l → I (l.setS s se)) (emit : ∀ l o, I l → I (l.emit o))
    (enq : ∀ l d n, I l → I { l with q := enqueue l.q l.now d n })
    (nodes : ∀ l r, I l → SubQ r l.q.nodes → I { l with q := { l.q with nodes := r } }) : Kept (fun _ => True) I :=
  ⟨fun _ _ _ _ _ => trivial, fun _ _ _ _ => trivial, fun _ _ _ _ _ => trivial, fun l s se h _ => setS l s se h, emit,
    fun l d n h _ => enq l d n h, fun l r h _ => nodes l r h⟩

section kept
variable {Q : Node → Prop} {I : L → Prop} (K : Kept Q I)
include K

theorem kept_waitAck (l : L) (n : Node) (h : I l) (hn : Q n) : I (waitAck l n) := K.enq l _ n h hn

theorem kept_drain (fuel : Nat) (l : L) (s : Nat) (h : I l) : I (drain fuel l s) := by
  induction fuel generalizing l with
  | zero => exact h
  | succ f ih =>
    have hg := K.delayq l s h
    rw [drain]
    simp only []
    cases hq : (l.getS s).delayq with
    | nil => exact h
    | cons n rest =>
      rw [hq] at hg
      simp only []
      refine ite_ind (fun _ => h) (fun _ => ite_ind (fun _ => h) (fun _ => ih _ ?_))
      have key : ∀ (X : Sess) (o : Out), X.delayq = rest → I ((l.setS s X).emit o) :=
        fun X o hX => K.emit _ o (K.setS l s X h (fun x hx => hg x (List.mem_cons_of_mem _ (hX ▸ hx))))
      by_cases hcon : n.con = true
      · rw [if_pos hcon, if_pos hcon]
        exact kept_waitAck K _ _ (key _ _ rfl) (K.stable.sess n s (hg n (List.mem_cons_self ..)))
      · rw [if_neg hcon, if_neg hcon]
        exact key _ _ rfl

theorem kept_connected (l : L) (s : Nat) (h : I l) : I (connected l s) :=
  kept_drain K _ _ _ (K.setS l s _ h (K.delayq l s h))

theorem kept_release (l : L) (s : Nat) (h : I l) : I (release l s) := by
  have h1 : I (l.setS s { (l.getS s) with conActive := (l.getS s).conActive - 1 }) :=
    K.setS l s _ h (K.delayq l s h)
  exact ite_ind (fun _ => h) (fun _ => ite_ind (fun _ => kept_connected K _ s h1) (fun _ => h1))

theorem kept_submit (l : L) (s : Nat) (con : Bool) (mid r : Nat) (h : I l) (hn : Q (Pdu.fresh l s con mid r)) :
    I (submit l s con mid r) := by
  have hg := K.delayq l s h
  unfold submit
  simp only []
  by_cases h1 : (!(l.getS s).sockOpen) = true
  · rw [if_pos h1]; exact K.emit _ _ h
  · rw [if_neg h1]
    by_cases h2 : gate (l.getS s) con = true
    · rw [if_pos h2]
      by_cases h3 : ((l.getS s).delayq.any fun x => decide (x.mid = mid)) = true
      · rw [if_pos h3]; exact K.emit _ _ h
      · rw [if_neg h3]
        apply K.emit
        apply K.setS l s _ h
        intro x hx
        rcases List.mem_append.1 hx with hx | hx
        · exact hg x hx
        · rw [List.mem_singleton.1 hx]; exact hn
    · rw [if_neg h2]
      by_cases hc : con = true
      · rw [if_pos hc]
        exact K.emit _ _ (kept_waitAck K _ _ (K.setS _ s _ (K.emit _ _ h) hg) hn)
      · rw [if_neg hc]
        exact K.emit _ _ (K.emit _ _ h)

theorem kept_removed (l : L) (s mid : Nat) (h : I l) :
    I { l with q := { l.q with nodes := (removeNode l.q.nodes s mid).2 } } :=
  K.nodes l _ h (all_removeNode K.stable.tfree l.q.nodes s mid (K.queue l h)).1 (subQ_removeNode _ s mid)

theorem kept_retransmit (l : L) (n : Node) (h : I l) (hn : Q n) : I (retransmit l n) := by
  have hg := K.delayq l n.sess h
  unfold retransmit
  simp only []
  by_cases hc : n.cnt < (l.getS n.sess).maxRtx
  · rw [if_pos hc]
    have h1 := K.enq l ((n.timeout * 2 ^ ((n.cnt + 1) % 256)) % 18446744073709551616) _ h
      (K.stable.cnt n ((n.cnt + 1) % 256) hn)
    have h2 := kept_removed K _ n.sess n.mid h1
    simp only [] at h2
    rcases hrm : removeNode _ n.sess n.mid with ⟨a, rest⟩
    rw [hrm] at h2
    simp only []
    by_cases hgt : gate { (l.getS n.sess) with conActive := (l.getS n.sess).conActive - 1 } n.con = true
    · rw [if_pos hgt]
      apply K.setS _ _ _ h2
      intro x hx
      rcases List.mem_append.1 hx with hx | hx
      · exact hg x hx
      · rw [List.mem_singleton.1 hx]; exact K.stable n 0 ((n.cnt + 1) % 256) n.sess hn
    · rw [if_neg hgt]
      exact K.setS _ n.sess _ (K.emit _ _ h1) hg
  · rw [if_neg hc]
    cases n.con
    · exact kept_release K l n.sess h
    · exact K.emit _ _ (kept_release K l n.sess h)

theorem kept_nackAll (l : L) (s : Nat) (r : Reason) (ns : List Node) (h : I l) : I (nackAll l s r ns) := by
  induction ns generalizing l with
  | nil => exact h
  | cons n ns ih =>
    exact ih _ (ite_ind (fun _ => K.emit _ _ h) (fun _ => h))

theorem kept_disconnect (l : L) (s : Nat) (h : I l) : I (disconnect l s) := by
  unfold disconnect
  simp only []
  have h1 : I (match l.q.nodes.find? (fun n => n.sess = s) with
      | some n => l.emit (.nack l.now s .undeliv n.mid true)
      | none => l) := by
    split
    · exact K.emit _ _ h
    · exact h
  have h2 := kept_nackAll K _ s .undeliv (l.getS s).delayq h1
  generalize nackAll _ s .undeliv (l.getS s).delayq = l2 at h2
  have h3 : I (if (l.q.nodes.find? (fun n => n.sess = s)).isSome || (l.getS s).delayq.any (·.con) then l2
      else l2.emit (.nack l2.now s .undeliv 0 false)) := ite_ind (fun _ => h2) (fun _ => K.emit _ _ h2)
  generalize (if (l.q.nodes.find? (fun n => n.sess = s)).isSome || (l.getS s).delayq.any (·.con) then l2
      else l2.emit (.nack l2.now s .undeliv 0 false)) = l3 at h3
  have h4 : I (l3.setS s { (l.getS s) with est := true, conActive := 0, delayq := [] }) :=
    K.setS l3 s _ h3 (fun x hx => nomatch hx)
  generalize l3.setS s { (l.getS s) with est := true, conActive := 0, delayq := [] } = l4 at h4
  have h5 := all_cancelAux K.stable.tfree l4.q.nodes s 0 (K.queue l4 h4)
  rcases hcs : cancelSession l4.q.nodes s with ⟨gone, rest⟩
  unfold cancelSession at hcs
  rw [hcs] at h5
  simp only []
  have h6 := kept_nackAll K _ s .undeliv gone (K.nodes l4 rest h4 h5 (by have := subQ_cancelSession l4.q.nodes s; rwa [cancelSession, hcs] at this))
  exact K.setS _ s _ h6 (K.delayq _ s h6)

end kept

theorem kept_now (t : Nat) : Kept (fun _ => True) (fun l => l.now = t) :=
  Kept.plain (fun _ _ _ h => h) (fun _ _ h => h) (fun _ _ _ h => h) (fun _ _ h _ => h)

theorem release_now (l : L) (s : Nat) : (release l s).now = l.now := kept_release (kept_now l.now) l s rfl

theorem retransmit_now (l : L) (n : Node) : (retransmit l n).now = l.now := kept_retransmit (kept_now l.now) l n rfl trivial

theorem kept_outs (out0 : List Out) : Kept (fun _ => True) (fun l => ∃ new, l.out = new ++ out0) :=
  Kept.plain (fun _ _ _ h => h) (fun _ o ⟨new, h⟩ => ⟨o :: new, by rw [L.emit, h]; rfl⟩) (fun _ _ _ h => h)
    (fun _ _ h _ => h)

/-- `sendqueue_basetime ≤ now`: the precondition under which the time arithmetic of `coap_wait_ack` /
`coap_retransmit` is exact (`abs_enqueue`) -/
def BaseOk (l : L) : Prop := l.q.base ≤ l.now

theorem enqueue_base_le {q : Queue} {now : Nat} (delay : Nat) (n : Node) (h : q.base ≤ now) :
    (enqueue q now delay n).base ≤ now := by
  rw [enqueue_base]; split <;> omega

theorem kept_baseOk : Kept (fun _ => True) BaseOk :=
  Kept.plain (fun _ _ _ h => h) (fun _ _ h => h) (fun _ d n h => enqueue_base_le d n h) (fun _ _ h _ => h)

def Mono (l : L) : List Ev → Prop
  | [] => True
  | ev :: evs => (match ev with | .setNow t => l.now ≤ t | _ => True) ∧ Mono (step l ev) evs

theorem prepareCore_snd (l : L) :
    (prepareCore l).2 = match Spec.SQ.earliest (abs (prepareCore l).1.q) with
      | none => 0
      | some d => (d - (prepareCore l).1.now) % 4294967296 := by
  unfold prepareCore
  generalize dueLoop (dueFuel l) l = l'
  rcases l' with ⟨now, ⟨base, nodes⟩, sess, out⟩
  rcases nodes with _ | ⟨h, rest⟩
  · rfl
  · have hw : ∀ x : Nat, (x * 1000 + 999) / 1000 = x := by intro x; omega
    simp only [abs, absFrom, Spec.SQ.earliest, hw]
    congr 1
    split <;> omega

theorem gate_of_room {se : Sess} (con : Bool) (hest : se.est = true) (h : se.conActive < se.nstart) :
    gate se con = false := by
  have : ¬ (se.conActive ≥ se.nstart) := by omega
  simp [gate, hest, this]

theorem retransmit_resend_eq (l : L) (n : Node)
    (hc : n.cnt < (l.getS n.sess).maxRtx) (hest : (l.getS n.sess).est = true)
    (hroom : (l.getS n.sess).conActive - 1 < (l.getS n.sess).nstart)
    (h8 : n.cnt + 1 < 256) (h64 : n.timeout * 2 ^ (n.cnt + 1) < 2 ^ 64) :
    retransmit l n =
      { now := l.now
        q := enqueue l.q l.now (n.timeout * 2 ^ (n.cnt + 1)) { n with cnt := n.cnt + 1 }
        sess := (l.setS n.sess { (l.getS n.sess) with conActive :=
          if n.con then ((l.getS n.sess).conActive - 1 + 1) % 256 else (l.getS n.sess).conActive - 1 }).sess
        out := .tx l.now n.sess n.mid (n.cnt + 1) n.con :: l.out } := by
  have hg : gate { (l.getS n.sess) with conActive := (l.getS n.sess).conActive - 1 } n.con = false :=
    gate_of_room _ hest hroom
  have hm : (n.cnt + 1) % 256 = n.cnt + 1 := Nat.mod_eq_of_lt h8
  have hd : n.timeout * 2 ^ (n.cnt + 1) % 18446744073709551616 = n.timeout * 2 ^ (n.cnt + 1) :=
    Nat.mod_eq_of_lt h64
  unfold retransmit
  simp only [hc, if_true, hm, hd, hg, Bool.false_eq_true, if_false, L.setS, L.emit]

theorem retransmit_resend_con (l : L) (n : Node)
    (hc : n.cnt < (l.getS n.sess).maxRtx) (hest : (l.getS n.sess).est = true)
    (hroom : (l.getS n.sess).conActive - 1 < (l.getS n.sess).nstart)
    (h8 : n.cnt + 1 < 256) (h64 : n.timeout * 2 ^ (n.cnt + 1) < 2 ^ 64) (hcon : n.con = true) :
    retransmit l n =
      { now := l.now
        q := enqueue l.q l.now (n.timeout * 2 ^ (n.cnt + 1)) { n with cnt := n.cnt + 1 }
        sess := (l.setS n.sess { (l.getS n.sess) with conActive := ((l.getS n.sess).conActive - 1 + 1) % 256 }).sess
        out := .tx l.now n.sess n.mid (n.cnt + 1) true :: l.out } := by
  rw [retransmit_resend_eq l n hc hest hroom h8 h64]
  simp only [hcon, if_true]

theorem submit_sent (l : L) (s mid r : Nat) (hso : (l.getS s).sockOpen = true) (hg : gate (l.getS s) true = false) :
    submit l s true mid r =
      (waitAck ((l.emit (.tx l.now s mid 0 true)).setS s
          { (l.getS s) with conActive := ((l.getS s).conActive + 1) % 256 })
        { sess := s, mid := mid, t := 0,
          timeout := calcTimeout (l.getS s).atI (l.getS s).atF (l.getS s).arfI (l.getS s).arfF r,
          cnt := 0, tok := mid, con := true }).emit (.sub (some mid)) := by
  simp only [submit, hso, hg, Bool.not_true, Bool.false_eq_true, if_false, if_true]

theorem retransmit_giveup_eq (l : L) (n : Node) (hc : (l.getS n.sess).maxRtx ≤ n.cnt) :
    retransmit l n = if n.con then (release l n.sess).emit (.nack (release l n.sess).now n.sess .retries n.mid true)
      else release l n.sess := by
  unfold retransmit
  simp only [Nat.not_lt.2 hc, if_false]

theorem dueLoop_not_due (fuel : Nat) (l : L)
    (h : ∀ d, Spec.SQ.earliest (abs l.q) = some d → l.now < d) : dueLoop fuel l = l := by
  cases fuel with
  | zero => rfl
  | succ f =>
    rcases l with ⟨now, ⟨base, nodes⟩, sess, out⟩
    rcases nodes with _ | ⟨hd, r⟩
    · rfl
    · have := h (base + hd.t) (by simp [abs, absFrom, Spec.SQ.earliest])
      simp only [] at this
      have hc : ¬ (now ≥ base ∧ hd.t ≤ now - base) := by omega
      simp only [dueLoop, hc, if_false]

theorem afterRx_empty (l : L) (h : l.q.nodes = []) : afterRx l = l := by
  unfold afterRx
  rw [prepareCore_fst]
  apply dueLoop_not_due
  intro d hd
  simp [abs, h, absFrom, Spec.SQ.earliest] at hd

theorem dueLoop_due (f : Nat) (l : L) (hd : Node) (r : List Node) (hn : l.q.nodes = hd :: r)
    (hb : l.q.base ≤ l.now) (hdue : l.q.base + hd.t ≤ l.now) :
    ∃ rest, popNext l.q.nodes = some (hd, rest) ∧ absFrom l.q.base rest = absFrom (l.q.base + hd.t) r ∧
      dueLoop (f + 1) l = dueLoop f (retransmit { l with q := { l.q with nodes := rest } } hd) := by
  rcases l with ⟨now, ⟨base, nodes⟩, sess, out⟩
  simp only [] at hn hb hdue
  subst hn
  have hc : now ≥ base ∧ hd.t ≤ now - base := by omega
  rcases r with _ | ⟨q, r'⟩
  · exact ⟨[], rfl, rfl, by simp [dueLoop, hc, popNext]⟩
  · refine ⟨{ q with t := q.t + hd.t } :: r', rfl, ?_, by simp [dueLoop, hc, popNext]⟩
    have e1 : base + (q.t + hd.t) = base + hd.t + q.t := by omega
    simp [absFrom, e1]

end Coap.Msg

/-! ## S-level timer system (definitions in CoapVerif/Spec/Timer.lean) -/
namespace Coap.Timer
open Coap.Spec.SQ (sched)

theorem sched_succ (t0 T k : Nat) : sched t0 T (k + 1) = sched t0 T k + T * 2 ^ k := by
  unfold sched
  have hp : 1 ≤ 2 ^ k := Nat.one_le_two_pow
  obtain ⟨q, hq⟩ : ∃ q, 2 ^ k = q + 1 := ⟨2 ^ k - 1, by omega⟩
  rw [Nat.pow_succ, hq]
  have e1 : (q + 1) * 2 - 1 = q + (q + 1) := by omega
  rw [e1, Nat.add_sub_cancel, Nat.add_mul, Nat.mul_comm T (q + 1)]
  omega

theorem mem_pinsert {l : List (Nat × PMsg)} {e p : Nat × PMsg} : p ∈ pinsert l e ↔ p = e ∨ p ∈ l := by
  induction l with
  | nil => simp [pinsert]
  | cons x r ih =>
    by_cases h : x.1 ≤ e.1
    · simp only [pinsert, h, if_true, List.mem_cons, ih]
      constructor
      · rintro (h | h | h) <;> simp [h]
      · rintro (h | h | h) <;> simp [h]
    · simp [pinsert, h]

theorem premove_sublist (l : List (Nat × PMsg)) (s mid : Nat) : (premove l s mid).2.Sublist l := by
  induction l with
  | nil => exact List.Sublist.slnil
  | cons x r ih =>
    by_cases h : x.2.sess = s ∧ x.2.mid = mid
    · simp only [premove, h, and_self, if_true]
      exact List.sublist_cons_self x r
    · rcases hr : premove r s mid with ⟨res, r'⟩
      rw [hr] at ih
      simp only [premove, h, if_false, hr]
      exact ih.cons_cons x

theorem mem_premove {l : List (Nat × PMsg)} {s mid : Nat} {p : Nat × PMsg} :
    p ∈ (premove l s mid).2 → p ∈ l := fun h => (premove_sublist l s mid).subset h

/-- number of pending entries of (s, mid) -/
def pc (s mid : Nat) : List (Nat × PMsg) → Nat
  | [] => 0
  | p :: r => (if p.2.sess = s ∧ p.2.mid = mid then 1 else 0) + pc s mid r

/-- 1 if the output is an outcome (acked, NACK rst, NACK retries) of (s, mid) -/
def outW (s mid : Nat) : TOut → Nat
  | .tx .. => 0
  | .nackRetries _ s' m' => if s' = s ∧ m' = mid then 1 else 0
  | .nackRst _ s' m' => if s' = s ∧ m' = mid then 1 else 0
  | .acked _ s' m' => if s' = s ∧ m' = mid then 1 else 0

/-- number of outcomes of (s, mid) -/
def oc (s mid : Nat) : List TOut → Nat
  | [] => 0
  | o :: r => outW s mid o + oc s mid r

def sendW (s mid : Nat) : TEv → Nat
  | .send s' m' _ _ => if s' = s ∧ m' = mid then 1 else 0
  | _ => 0

/-- number of sends of (s, mid) -/
def sc (s mid : Nat) : List TEv → Nat
  | [] => 0
  | e :: r => sendW s mid e + sc s mid r

/-- `fire` only ever retransmits and re-arms a due head or gives it up: what survives both survives `fire` -/
theorem fire_rule {I : TS → Prop} (fuel : Nat) (ts : TS) (h0 : I ts)
    (htx : ∀ now d m r outs, d ≤ now → m.cnt < m.maxRtx → I ⟨now, (d, m) :: r, outs⟩ →
      I ⟨now, pinsert r (now + m.T * 2 ^ (m.cnt + 1), { m with cnt := m.cnt + 1 }),
        .tx now m.sess m.mid (m.cnt + 1) m.t0 m.T m.maxRtx :: outs⟩)
    (hnack : ∀ now d m r outs, d ≤ now → m.maxRtx ≤ m.cnt → I ⟨now, (d, m) :: r, outs⟩ →
      I ⟨now, r, .nackRetries now m.sess m.mid :: outs⟩) : I (fire fuel ts) := by
  induction fuel generalizing ts with
  | zero => exact h0
  | succ f ih =>
    rcases ts with ⟨now, pend, outs⟩
    rcases pend with _ | ⟨⟨d, m⟩, r⟩
    · exact h0
    · simp only [fire]
      by_cases hd : d ≤ now
      · by_cases hc : m.cnt < m.maxRtx
        · simp only [hd, hc, if_true]
          exact ih _ (htx _ _ _ _ _ hd hc h0)
        · simp only [hd, hc, if_true, if_false]
          exact ih _ (hnack _ _ _ _ _ hd (Nat.le_of_not_lt hc) h0)
      · simp only [hd, if_false]
        exact h0

theorem fire_due (f now d : Nat) (m : PMsg) (r : List (Nat × PMsg)) (outs : List TOut) (hd : d ≤ now) :
    fire (f + 1) ⟨now, (d, m) :: r, outs⟩ =
      fire f ⟨now,
        if m.cnt < m.maxRtx then pinsert r (now + m.T * 2 ^ (m.cnt + 1), { m with cnt := m.cnt + 1 }) else r,
        (if m.cnt < m.maxRtx then .tx now m.sess m.mid (m.cnt + 1) m.t0 m.T m.maxRtx
          else .nackRetries now m.sess m.mid) :: outs⟩ := by
  by_cases hc : m.cnt < m.maxRtx
  · simp only [fire, hd, hc, if_true]
  · simp only [fire, hd, hc, if_true, if_false]

def Concl (now s mid : Nat) (o : TOut) : Prop := o = .acked now s mid ∨ o = .nackRst now s mid

theorem Concl.mem_tx {now s mid : Nat} {o : TOut} (ho : Concl now s mid o) {t s' m' k t0 T mx : Nat} {outs : List TOut}
    (h : TOut.tx t s' m' k t0 T mx ∈ o :: outs) : TOut.tx t s' m' k t0 T mx ∈ outs := by
  rcases List.mem_cons.1 h with h | h
  · rcases ho with rfl | rfl <;> cases h
  · exact h

/-- a step leaves the state alone (then it was not a `send`), arms a new message, fires (with some fuel) at a later
clock, or concludes a pending message with an outcome output -/
theorem step_rule {I : TS → Prop} (ts : TS) (ev : TEv) (h0 : (∀ s mid, sendW s mid ev = 0) → I ts)
    (hsend : ∀ s mid T mx, ev = .send s mid T mx →
      I { ts with
        pend := pinsert ts.pend (ts.now + T, { sess := s, mid := mid, T := T, cnt := 0, maxRtx := mx, t0 := ts.now })
        outs := .tx ts.now s mid 0 ts.now T mx :: ts.outs })
    (hfire : ∀ now' f, ev = .tick now' ∨ ev = .tickN now' f → ts.now ≤ now' → I (fire f { ts with now := now' }))
    (hconc : ∀ s mid m r o, ev = .ack s mid ∨ ev = .rst s mid → Concl ts.now s mid o →
      premove ts.pend s mid = (some m, r) → I { ts with pend := r, outs := o :: ts.outs }) :
    I (step ts ev) := by
  cases ev with
  | send s mid T mx => exact hsend s mid T mx rfl
  | tick now' =>
    simp only [step]
    split
    · exact hfire now' _ (Or.inl rfl) (by assumption)
    · exact h0 (fun _ _ => rfl)
  | tickN now' k =>
    simp only [step]
    split
    · exact hfire now' k (Or.inr rfl) (by assumption)
    · exact h0 (fun _ _ => rfl)
  | ack s mid =>
    simp only [step]
    rcases hr : premove ts.pend s mid with ⟨_ | m, r⟩
    · exact h0 (fun _ _ => rfl)
    · exact hconc s mid m r _ (Or.inl rfl) (Or.inl rfl) hr
  | rst s mid =>
    simp only [step]
    rcases hr : premove ts.pend s mid with ⟨_ | m, r⟩
    · exact h0 (fun _ _ => rfl)
    · exact hconc s mid m r _ (Or.inr rfl) (Or.inr rfl) hr

theorem fire_now (fuel : Nat) (ts : TS) : (fire fuel ts).now = ts.now :=
  fire_rule (I := fun t => t.now = ts.now) fuel ts rfl (fun _ _ _ _ _ _ _ h => h) (fun _ _ _ _ _ _ _ h => h)

/-- S is on its schedule: every pending entry is armed for slot `cnt + 1` of `sched t0 T`, with `cnt ≤ maxRtx` and `0 < T`;
every transmission shown was made at its slot -/
def TInv (ts : TS) : Prop :=
  (∀ p ∈ ts.pend, p.1 = sched p.2.t0 p.2.T (p.2.cnt + 1) ∧ p.2.cnt ≤ p.2.maxRtx ∧ 0 < p.2.T) ∧
  (∀ t s mid k t0 T mx, TOut.tx t s mid k t0 T mx ∈ ts.outs → t = sched t0 T k ∧ k ≤ mx)

/-- the clock has not passed a pending deadline: what fires, fires at its deadline -/
def Future (ts : TS) : Prop := ∀ p ∈ ts.pend, ts.now ≤ p.1

theorem fire_inv (fuel : Nat) (ts : TS) (hi : TInv ts) (hf : Future ts) :
    TInv (fire fuel ts) ∧ Future (fire fuel ts) := by
  refine fire_rule (I := fun t => TInv t ∧ Future t) fuel ts ⟨hi, hf⟩ ?_ ?_
  · intro now d m r outs hd hc ⟨hi, hf⟩
    have hhd := hi.1 (d, m) (by simp)
    have hdn : d = now := Nat.le_antisymm hd (hf (d, m) (by simp))
    simp only [] at hhd
    refine ⟨⟨?_, ?_⟩, ?_⟩
    · intro p hp
      rcases mem_pinsert.1 hp with rfl | hp
      · simp only []
        refine ⟨?_, by omega, hhd.2.2⟩
        rw [sched_succ, ← hhd.1, hdn]
      · exact hi.1 p (List.mem_cons_of_mem _ hp)
    · intro t s mid k t0 T mx ho
      rcases List.mem_cons.1 ho with ho | ho
      · cases ho
        exact ⟨by rw [← hhd.1, hdn], by omega⟩
      · exact hi.2 _ _ _ _ _ _ _ ho
    · intro p hp
      rcases mem_pinsert.1 hp with rfl | hp
      · simp only []; omega
      · exact hf p (List.mem_cons_of_mem _ hp)
  · intro now d m r outs _ _ ⟨hi, hf⟩
    refine ⟨⟨fun p hp => hi.1 p (List.mem_cons_of_mem _ hp), ?_⟩, fun p hp => hf p (List.mem_cons_of_mem _ hp)⟩
    intro t s mid k t0 T mx ho
    rcases List.mem_cons.1 ho with ho | ho
    · cases ho
    · exact hi.2 _ _ _ _ _ _ _ ho

theorem step_inv (ts : TS) (ev : TEv) (hi : TInv ts) (hok : EvOk ts ev) : TInv (step ts ev) := by
  refine step_rule ts ev (fun _ => hi) ?_ ?_ ?_
  · rintro s mid T mx rfl
    constructor
    · intro p hp
      rcases mem_pinsert.1 hp with rfl | hp
      · exact ⟨by simp [sched], Nat.zero_le _, hok⟩
      · exact hi.1 p hp
    · intro t s' mid' k t0 T' mx' ho
      rcases List.mem_cons.1 ho with ho | ho
      · injection ho with h1 h2 h3 h4 h5 h6 h7
        subst h1 h2 h3 h4 h5 h6 h7
        simp [sched]
      · exact hi.2 _ _ _ _ _ _ _ ho
  · intro now' f he _
    have hf : Future { ts with now := now' } := by
      rcases he with rfl | rfl <;> exact hok
    exact (fire_inv f { ts with now := now' } hi hf).1
  · intro s mid m r o _ ho hr
    constructor
    · intro p hp
      exact hi.1 p (mem_premove (s := s) (mid := mid) (by rw [hr]; exact hp))
    · intro t s' mid' k t0 T' mx' h
      exact hi.2 _ _ _ _ _ _ _ (ho.mem_tx h)

theorem run_inv (evs : List TEv) (ts : TS) (hi : TInv ts) (hok : RunOk ts evs) : TInv (run ts evs) := by
  induction evs generalizing ts with
  | nil => exact hi
  | cons ev evs ih => exact ih _ (step_inv ts ev hi hok.1) hok.2

/-- every pending entry has made all its transmissions so far, each at its slot; a TOO_MANY_RETRIES NACK came one slot
after the last of all `maxRtx + 1` transmissions of its message -/
def Made (ts : TS) : Prop :=
  (∀ p ∈ ts.pend, ∀ j, j ≤ p.2.cnt →
    TOut.tx (sched p.2.t0 p.2.T j) p.2.sess p.2.mid j p.2.t0 p.2.T p.2.maxRtx ∈ ts.outs) ∧
  (∀ t s mid, TOut.nackRetries t s mid ∈ ts.outs → ∃ t0 T mx,
    (∀ j, j ≤ mx → TOut.tx (sched t0 T j) s mid j t0 T mx ∈ ts.outs) ∧ t = sched t0 T (mx + 1))

theorem Made.cons {now now' : Nat} {pend pend' : List (Nat × PMsg)} {outs : List TOut} (o : TOut)
    (h : Made ⟨now, pend, outs⟩)
    (hp : ∀ p ∈ pend', p ∈ pend ∨ ∀ j, j ≤ p.2.cnt →
      TOut.tx (sched p.2.t0 p.2.T j) p.2.sess p.2.mid j p.2.t0 p.2.T p.2.maxRtx ∈ o :: outs)
    (ho : ∀ t s mid, o = .nackRetries t s mid → ∃ t0 T mx,
      (∀ j, j ≤ mx → TOut.tx (sched t0 T j) s mid j t0 T mx ∈ outs) ∧ t = sched t0 T (mx + 1)) :
    Made ⟨now', pend', o :: outs⟩ := by
  refine ⟨fun p hp' j hj => ?_, fun t s mid hn => ?_⟩
  · rcases hp p hp' with hp' | hp'
    · exact List.mem_cons_of_mem _ (h.1 p hp' j hj)
    · exact hp' j hj
  · obtain ⟨t0, T, mx, h1, h2⟩ : ∃ t0 T mx,
        (∀ j, j ≤ mx → TOut.tx (sched t0 T j) s mid j t0 T mx ∈ outs) ∧ t = sched t0 T (mx + 1) := by
      rcases List.mem_cons.1 hn with hn | hn
      · exact ho t s mid hn.symm
      · exact h.2 t s mid hn
    exact ⟨t0, T, mx, fun j hj => List.mem_cons_of_mem _ (h1 j hj), h2⟩

theorem fire_made (fuel : Nat) (ts : TS) (hi : TInv ts) (hf : Future ts) (hm : Made ts) : Made (fire fuel ts) := by
  refine (fire_rule (I := fun t => (TInv t ∧ Future t) ∧ Made t) fuel ts ⟨⟨hi, hf⟩, hm⟩ ?_ ?_).2
  · intro now d m r outs hd hc ⟨⟨hi, hf⟩, hm⟩
    have hhd : d = sched m.t0 m.T (m.cnt + 1) := (hi.1 (d, m) (by simp)).1
    have hdn : d = now := Nat.le_antisymm hd (hf (d, m) (by simp))
    -- one iteration is `fire 1`
    have h1 := fire_inv 1 _ hi hf
    simp only [fire, hd, hc, if_true] at h1
    refine ⟨h1, Made.cons _ hm (fun p hp => ?_) (fun _ _ _ e => nomatch e)⟩
    rcases mem_pinsert.1 hp with rfl | hp
    · refine Or.inr fun j (hj : j ≤ m.cnt + 1) => ?_
      by_cases hjn : j = m.cnt + 1
      · subst hjn; rw [← hhd, hdn]; exact List.mem_cons_self
      · exact List.mem_cons_of_mem _ (hm.1 (d, m) (by simp) j (show j ≤ m.cnt by omega))
    · exact Or.inl (List.mem_cons_of_mem _ hp)
  · intro now d m r outs hd hc ⟨⟨hi, hf⟩, hm⟩
    have hhd := hi.1 (d, m) (by simp)
    have hdn : d = now := Nat.le_antisymm hd (hf (d, m) (by simp))
    simp only [] at hhd
    have hcm : m.cnt = m.maxRtx := Nat.le_antisymm hhd.2.1 hc
    have h1 := fire_inv 1 _ hi hf
    simp only [fire, hd, Nat.not_lt.2 hc, if_true, if_false] at h1
    refine ⟨h1, Made.cons _ hm (fun p hp => Or.inl (List.mem_cons_of_mem _ hp)) (fun t s mid e => ?_)⟩
    cases e
    exact ⟨m.t0, m.T, m.maxRtx, fun j hj => hm.1 (d, m) (by simp) j (hcm ▸ hj), by rw [← hcm, ← hhd.1, hdn]⟩

theorem step_made (ts : TS) (ev : TEv) (hi : TInv ts) (hm : Made ts) (hok : EvOk ts ev) : Made (step ts ev) := by
  refine step_rule ts ev (fun _ => hm) ?_ ?_ ?_
  · rintro s mid T mx rfl
    refine Made.cons (now := ts.now) _ hm (fun p hp => ?_) (fun _ _ _ e => nomatch e)
    rcases mem_pinsert.1 hp with rfl | hp
    · refine Or.inr fun j (hj : j ≤ 0) => ?_
      obtain rfl : j = 0 := Nat.le_zero.1 hj
      simp [sched]
    · exact Or.inl hp
  · intro now' f he _
    have hf : Future { ts with now := now' } := by
      rcases he with rfl | rfl <;> exact hok
    exact fire_made f { ts with now := now' } hi hf hm
  · intro s mid m r o _ ho hr
    refine Made.cons (now := ts.now) o hm (fun p hp => Or.inl (mem_premove (s := s) (mid := mid) (by rw [hr]; exact hp)))
      (fun t s' mid' e => ?_)
    rcases ho with rfl | rfl <;> cases e

theorem run_made (evs : List TEv) (ts : TS) (hi : TInv ts) (hm : Made ts) (hok : RunOk ts evs) :
    Made (run ts evs) := by
  induction evs generalizing ts with
  | nil => exact hm
  | cons ev evs ih => exact ih _ (step_inv ts ev hi hok.1) (step_made ts ev hi hm hok.1) hok.2

theorem tinv_init (now0 : Nat) : TInv (init now0) :=
  ⟨fun _ hp => (nomatch hp), fun _ _ _ _ _ _ _ ho => (nomatch ho)⟩

theorem made_init (now0 : Nat) : Made (init now0) :=
  ⟨fun _ hp => (nomatch hp), fun _ _ _ hn => (nomatch hn)⟩

/-! ### conservation: every send ends in exactly one outcome or is still pending -/

theorem pc_pinsert (s mid : Nat) (l : List (Nat × PMsg)) (e : Nat × PMsg) :
    pc s mid (pinsert l e) = (if e.2.sess = s ∧ e.2.mid = mid then 1 else 0) + pc s mid l := by
  induction l with
  | nil => simp [pinsert, pc]
  | cons x r ih =>
    by_cases h : x.1 ≤ e.1
    · simp only [pinsert, h, if_true, pc, ih]; omega
    · simp only [pinsert, h, if_false, pc]

theorem pc_premove (s mid s' m' : Nat) (l : List (Nat × PMsg)) :
    pc s mid l = pc s mid (premove l s' m').2 +
      (match (premove l s' m').1 with
        | some _ => if s' = s ∧ m' = mid then 1 else 0
        | none => 0) := by
  induction l with
  | nil => simp [premove, pc]
  | cons x r ih =>
    by_cases h : x.2.sess = s' ∧ x.2.mid = m'
    · simp only [premove, h, and_self, if_true, pc]
      omega
    · rcases hr : premove r s' m' with ⟨res, r'⟩
      rw [hr] at ih
      simp only [premove, h, if_false, hr, pc]
      simp only [] at ih
      omega

theorem Concl.outW {now s' m' : Nat} {o : TOut} (ho : Concl now s' m' o) (s mid : Nat) :
    outW s mid o = if s' = s ∧ m' = mid then 1 else 0 := by
  rcases ho with rfl | rfl <;> rfl

theorem fire_conserve (s mid fuel : Nat) (ts : TS) :
    oc s mid (fire fuel ts).outs + pc s mid (fire fuel ts).pend = oc s mid ts.outs + pc s mid ts.pend := by
  refine fire_rule (I := fun t => oc s mid t.outs + pc s mid t.pend = oc s mid ts.outs + pc s mid ts.pend)
    fuel ts rfl ?_ ?_
  · intro now d m r outs _ _ h
    simp only [oc, outW, pc, pc_pinsert] at h ⊢
    omega
  · intro now d m r outs _ _ h
    simp only [oc, outW, pc] at h ⊢
    omega

theorem step_conserve (s mid : Nat) (ts : TS) (ev : TEv) :
    oc s mid (step ts ev).outs + pc s mid (step ts ev).pend =
      sendW s mid ev + (oc s mid ts.outs + pc s mid ts.pend) := by
  refine step_rule (I := fun t => oc s mid t.outs + pc s mid t.pend =
    sendW s mid ev + (oc s mid ts.outs + pc s mid ts.pend)) ts ev ?_ ?_ ?_ ?_
  · intro h0
    rw [h0, Nat.zero_add]
  · rintro s' m' T mx rfl
    simp only [oc, outW, pc_pinsert, sendW]
    omega
  · intro now' f he _
    have h0 : sendW s mid ev = 0 := by rcases he with rfl | rfl <;> rfl
    rw [fire_conserve, h0, Nat.zero_add]
  · intro s' m' m r o he ho hr
    have h0 : sendW s mid ev = 0 := by rcases he with rfl | rfl <;> rfl
    have := pc_premove s mid s' m' ts.pend
    rw [hr] at this
    simp only [oc, ho.outW, h0] at this ⊢
    omega

theorem run_conserve (s mid : Nat) (evs : List TEv) (ts : TS) :
    oc s mid (run ts evs).outs + pc s mid (run ts evs).pend =
      sc s mid evs + (oc s mid ts.outs + pc s mid ts.pend) := by
  induction evs generalizing ts with
  | nil => simp [run, sc]
  | cons ev evs ih =>
    have h1 := ih (step ts ev)
    have h2 := step_conserve s mid ts ev
    simp only [run, List.foldl_cons, sc] at h1 ⊢
    omega

/-! ### a retransmission is only ever emitted for a message that is pending -/

theorem fire_tx_pending (fuel : Nat) (ts : TS) :
    ∃ new, (fire fuel ts).outs = new ++ ts.outs ∧
      ∀ t s mid k t0 T mx, TOut.tx t s mid k t0 T mx ∈ new →
        1 ≤ k ∧ ∃ p ∈ ts.pend, p.2.sess = s ∧ p.2.mid = mid := by
  -- along the way every pending entry is still one of the messages pending at the start
  have h := fire_rule (I := fun t => ∃ new, t.outs = new ++ ts.outs ∧
      (∀ t' s mid k t0 T mx, TOut.tx t' s mid k t0 T mx ∈ new → 1 ≤ k ∧ ∃ p ∈ ts.pend, p.2.sess = s ∧ p.2.mid = mid) ∧
      ∀ q ∈ t.pend, ∃ p ∈ ts.pend, p.2.sess = q.2.sess ∧ p.2.mid = q.2.mid) fuel ts
    ⟨[], rfl, fun _ _ _ _ _ _ _ h => (List.not_mem_nil h).elim, fun q hq => ⟨q, hq, rfl, rfl⟩⟩ ?_ ?_
  · obtain ⟨new, h1, h2, _⟩ := h
    exact ⟨new, h1, h2⟩
  · rintro now d m r outs _ _ ⟨new, h1, h2, h3⟩
    simp only [] at h1
    refine ⟨_ :: new, by rw [h1]; rfl, ?_, ?_⟩
    · intro t s mid k t0 T mx ho
      rcases List.mem_cons.1 ho with ho | ho
      · cases ho
        exact ⟨Nat.le_add_left _ _, h3 (d, m) (by simp)⟩
      · exact h2 _ _ _ _ _ _ _ ho
    · intro q hq
      rcases mem_pinsert.1 hq with rfl | hq
      · exact h3 (d, m) (by simp)
      · exact h3 q (List.mem_cons_of_mem _ hq)
  · rintro now d m r outs _ _ ⟨new, h1, h2, h3⟩
    simp only [] at h1
    refine ⟨_ :: new, by rw [h1]; rfl, ?_, fun q hq => h3 q (List.mem_cons_of_mem _ hq)⟩
    intro t s mid k t0 T mx ho
    rcases List.mem_cons.1 ho with ho | ho
    · cases ho
    · exact h2 _ _ _ _ _ _ _ ho

/-! ### nothing that is due is left behind by a tick -/

def SortedP (l : List (Nat × PMsg)) : Prop := l.Pairwise (fun a b => a.1 ≤ b.1)

def Good (ts : TS) : Prop := SortedP ts.pend ∧ ∀ p ∈ ts.pend, 0 < p.2.T

def SendPos : TEv → Prop
  | .send _ _ T _ => 0 < T
  | _ => True

theorem pinsert_sorted {l : List (Nat × PMsg)} (e : Nat × PMsg) (h : SortedP l) : SortedP (pinsert l e) := by
  induction l with
  | nil => simp [pinsert, SortedP]
  | cons x r ih =>
    simp only [SortedP, List.pairwise_cons] at h
    by_cases hx : x.1 ≤ e.1
    · simp only [pinsert, hx, if_true, SortedP, List.pairwise_cons]
      refine ⟨?_, ih h.2⟩
      intro y hy
      rcases mem_pinsert.1 hy with rfl | hy
      · exact hx
      · exact h.1 y hy
    · simp only [pinsert, hx, if_false, SortedP, List.pairwise_cons]
      refine ⟨?_, h⟩
      intro y hy
      simp only [List.mem_cons] at hy
      rcases hy with rfl | hy
      · omega
      · have := h.1 y hy; omega

theorem good_rearm {now d x : Nat} {m : PMsg} {r : List (Nat × PMsg)} {outs outs' : List TOut} (c : Nat)
    (hg : Good ⟨now, (d, m) :: r, outs⟩) : Good ⟨now, pinsert r (x, { m with cnt := c }), outs'⟩ := by
  refine ⟨pinsert_sorted _ (List.pairwise_cons.mp hg.1).2, fun p hp => ?_⟩
  rcases mem_pinsert.1 hp with rfl | hp
  · exact hg.2 (d, m) (by simp)
  · exact hg.2 p (List.mem_cons_of_mem _ hp)

theorem good_tail {now d : Nat} {m : PMsg} {r : List (Nat × PMsg)} {outs outs' : List TOut}
    (hg : Good ⟨now, (d, m) :: r, outs⟩) : Good ⟨now, r, outs'⟩ :=
  ⟨(List.pairwise_cons.mp hg.1).2, fun p hp => hg.2 p (List.mem_cons_of_mem _ hp)⟩

theorem fire_good (fuel : Nat) (ts : TS) (hg : Good ts) : Good (fire fuel ts) :=
  fire_rule fuel ts hg (fun _ _ _ _ _ _ _ h => good_rearm _ h) (fun _ _ _ _ _ _ _ h => good_tail h)

theorem step_good (ts : TS) (ev : TEv) (hg : Good ts) (hp : SendPos ev) : Good (step ts ev) := by
  refine step_rule ts ev (fun _ => hg) ?_ ?_ ?_
  · rintro s mid T mx rfl
    refine ⟨pinsert_sorted _ hg.1, fun p hp' => ?_⟩
    rcases mem_pinsert.1 hp' with rfl | hp'
    · exact hp
    · exact hg.2 p hp'
  · intro now' f _ _
    exact fire_good f { ts with now := now' } hg
  · intro s mid m r o _ _ hr
    have hs := premove_sublist ts.pend s mid
    rw [hr] at hs
    exact ⟨List.Pairwise.sublist hs hg.1, fun p hp' => hg.2 p (hs.subset hp')⟩

theorem run_good (evs : List TEv) (ts : TS) (hg : Good ts) (hp : ∀ ev ∈ evs, SendPos ev) : Good (run ts evs) :=
  foldl_inv_mem Good evs (fun ev he ts hg => step_good ts ev hg (hp ev he)) ts hg

/-- number of entries that are due at `now` -/
def dc (now : Nat) : List (Nat × PMsg) → Nat
  | [] => 0
  | p :: r => (if p.1 ≤ now then 1 else 0) + dc now r

theorem dc_pinsert (now : Nat) (l : List (Nat × PMsg)) (e : Nat × PMsg) :
    dc now (pinsert l e) = (if e.1 ≤ now then 1 else 0) + dc now l := by
  induction l with
  | nil => simp [pinsert, dc]
  | cons x r ih =>
    by_cases h : x.1 ≤ e.1
    · simp only [pinsert, h, if_true, dc, ih]; omega
    · simp only [pinsert, h, if_false, dc]

theorem dc_le_length (now : Nat) (l : List (Nat × PMsg)) : dc now l ≤ l.length := by
  induction l with
  | nil => simp [dc]
  | cons x r ih => simp only [dc, List.length_cons]; split <;> omega

theorem dc_eq_zero {now : Nat} {l : List (Nat × PMsg)} (h : dc now l = 0) : ∀ p ∈ l, now < p.1 := by
  induction l with
  | nil => intro p hp; cases hp
  | cons x r ih =>
    simp only [dc] at h
    intro p hp
    rcases List.mem_cons.1 hp with rfl | hp
    · by_cases hx : p.1 ≤ now
      · simp [hx] at h
      · omega
    · exact ih (by omega) p hp

theorem length_le_tickFuel (ts : TS) : ts.pend.length ≤ tickFuel ts := by
  unfold tickFuel
  induction ts.pend with
  | nil => simp
  | cons x r ih => simp only [List.length_cons, List.map_cons, List.sum_cons]; omega

/-- with fuel for every due entry nothing due is left: each fires once, being re-armed strictly later -/
theorem fire_complete (fuel : Nat) (ts : TS) (hg : Good ts) (hf : dc ts.now ts.pend ≤ fuel) :
    ∀ p ∈ (fire fuel ts).pend, ts.now < p.1 := by
  induction fuel generalizing ts with
  | zero => exact dc_eq_zero (Nat.le_zero.1 hf)
  | succ f ih =>
    rcases ts with ⟨now, pend, outs⟩
    rcases pend with _ | ⟨⟨d, m⟩, r⟩
    · intro p hp; cases hp
    · simp only [fire]
      simp only [dc] at hf
      by_cases hd : d ≤ now
      · simp only [hd, if_true] at hf ⊢
        by_cases hc : m.cnt < m.maxRtx
        · simp only [hc, if_true]
          have hpos : 0 < m.T * 2 ^ (m.cnt + 1) := Nat.mul_pos (hg.2 (d, m) (by simp)) (Nat.two_pow_pos _)
          apply ih _ (good_rearm _ hg)
          simp only [dc_pinsert]
          have : ¬ (now + m.T * 2 ^ (m.cnt + 1) ≤ now) := by omega
          simp only [this, if_false]
          omega
        · simp only [hc, if_false]
          apply ih _ (good_tail hg)
          show dc now r ≤ f; omega
      · simp only [hd, if_false]
        have hs := List.pairwise_cons.mp hg.1
        intro p hp
        rcases List.mem_cons.1 hp with rfl | hp
        · show now < d; omega
        · have : d ≤ p.1 := hs.1 p hp; omega

theorem tick_complete (ts : TS) (now' : Nat) (hg : Good ts) (h : ts.now ≤ now') :
    (step ts (.tick now')).now = now' ∧ ∀ p ∈ (step ts (.tick now')).pend, now' < p.1 := by
  simp only [step, h, if_true]
  exact ⟨fire_now _ _, fire_complete _ { ts with now := now' } hg
    (Nat.le_trans (dc_le_length _ _) (length_le_tickFuel ts))⟩

end Coap.Timer

/-! ## M level: one confirmable message on an idle endpoint, closed form -/
namespace Coap.Msg
open Coap.SQ
open Coap.Spec.SQ (sched)

def soloNode (mid T k : Nat) : Node :=
  { sess := 0, mid := mid, t := T * 2 ^ k, timeout := T, cnt := k, tok := mid, con := true }

/-- the state right after the `k`-th retransmission (made at `N`), outputs `o` -/
def soloL (se : Sess) (N T mid k : Nat) (o : List Out) : L :=
  { now := N, q := { base := N, nodes := [soloNode mid T k] }, sess := [{ se with conActive := 1 }], out := o }

theorem retransmit_solo (se : Sess) (N B T mid k : Nat) (o : List Out)
    (hest : se.est = true) (hns : 1 ≤ se.nstart) (hk : k < se.maxRtx) (h8 : k + 1 < 256)
    (h64 : T * 2 ^ (k + 1) < 2 ^ 64) :
    retransmit { now := N, q := { base := B, nodes := [] }, sess := [{ se with conActive := 1 }], out := o }
      (soloNode mid T k) = soloL se N T mid (k + 1) (.tx N 0 mid (k + 1) true :: o) := by
  have hm : (k + 1) % 256 = k + 1 := Nat.mod_eq_of_lt h8
  have hd : T * 2 ^ (k + 1) % 18446744073709551616 = T * 2 ^ (k + 1) := Nat.mod_eq_of_lt h64
  have hn : ¬ (0 ≥ se.nstart) := by omega
  simp [retransmit, soloNode, soloL, L.getS, L.setS, L.emit, gate, enqueue, hk, hm, hd, hest, hn]

theorem sched_le_succ (t0 T k : Nat) : sched t0 T k ≤ sched t0 T (k + 1) := by
  rw [Coap.Timer.sched_succ]; omega

/-- outputs (newest first) after the `k`-th retransmission -/
def soloOut (t0 T mid : Nat) : Nat → List Out
  | 0 => [.sub (some mid), .tx t0 0 mid 0 true]
  | k + 1 => .wait (sched t0 T (k + 1)) (T * 2 ^ (k + 1) % 4294967296) ::
      .tx (sched t0 T (k + 1)) 0 mid (k + 1) true :: soloOut t0 T mid k

def soloState (se : Sess) (t0 T mid k : Nat) : L := soloL se (sched t0 T k) T mid k (soloOut t0 T mid k)

/-- `soloL` armed at `B`, clock at `N` -/
def soloAt (se : Sess) (B N T mid k : Nat) (o : List Out) : L :=
  { now := N, q := { base := B, nodes := [soloNode mid T k] }, sess := [{ se with conActive := 1 }], out := o }

def soloPopped (se : Sess) (B N : Nat) (o : List Out) : L :=
  { now := N, q := { base := B, nodes := [] }, sess := [{ se with conActive := 1 }], out := o }

/-- the endpoint after the message is gone: idle again -/
def soloDone (se : Sess) (N B : Nat) (o : List Out) : L :=
  { now := N, q := { base := B, nodes := [] }, sess := [{ se with conActive := 0, est := true }], out := o }

theorem dueLoop_solo (f : Nat) (se : Sess) (B T mid k : Nat) (o : List Out) :
    dueLoop (f + 1) (soloAt se B (B + T * 2 ^ k) T mid k o) =
      dueLoop f (retransmit (soloPopped se B (B + T * 2 ^ k) o) (soloNode mid T k)) := by
  have hc : B + T * 2 ^ k ≥ B ∧ T * 2 ^ k ≤ B + T * 2 ^ k - B := by omega
  simp only [dueLoop, soloAt, popNext, soloPopped]
  simp only [soloNode] at hc ⊢
  simp only [hc, and_self, if_true]

theorem prepareCore_soloAt (se : Sess) (B T mid k : Nat) (o : List Out) (l' : L)
    (hr : retransmit (soloPopped se B (B + T * 2 ^ k) o) (soloNode mid T k) = l')
    (hnd : ∀ d, Spec.SQ.earliest (abs l'.q) = some d → l'.now < d) :
    (prepareCore (soloAt se B (B + T * 2 ^ k) T mid k o)).1 = l' := by
  obtain ⟨f, hf⟩ : ∃ f, dueFuel (soloAt se B (B + T * 2 ^ k) T mid k o) = f + 1 :=
    ⟨dueFuel (soloAt se B (B + T * 2 ^ k) T mid k o) - 1, by unfold dueFuel; omega⟩
  rw [prepareCore_fst, hf, dueLoop_solo, hr]
  exact dueLoop_not_due _ _ hnd

theorem prepareCore_solo (se : Sess) (B T mid k : Nat) (o : List Out)
    (hest : se.est = true) (hns : 1 ≤ se.nstart) (hT : 0 < T) (hk : k < se.maxRtx) (h8 : k + 1 < 256)
    (h64 : T * 2 ^ (k + 1) < 2 ^ 64) :
    prepareCore (soloAt se B (B + T * 2 ^ k) T mid k o) =
      (soloL se (B + T * 2 ^ k) T mid (k + 1) (.tx (B + T * 2 ^ k) 0 mid (k + 1) true :: o),
        T * 2 ^ (k + 1) % 4294967296) := by
  have hpos : 0 < T * 2 ^ (k + 1) := Nat.mul_pos hT (Nat.two_pow_pos _)
  have hdl := prepareCore_soloAt se B T mid k o _ (retransmit_solo se _ B T mid k o hest hns hk h8 h64) (by
    intro d hd
    simp only [soloL, soloNode, abs, absFrom, Spec.SQ.earliest, Option.some.injEq] at hd ⊢
    omega)
  refine Prod.ext hdl ?_
  rw [prepareCore_snd, hdl]
  simp only [soloL, soloNode, abs, absFrom, Spec.SQ.earliest, Nat.add_sub_cancel_left]

theorem solo_step (se : Sess) (t0 T mid k : Nat)
    (hest : se.est = true) (hns : 1 ≤ se.nstart) (hT : 0 < T) (hk : k < se.maxRtx) (h8 : k + 1 < 256)
    (h64 : T * 2 ^ (k + 1) < 2 ^ 64) :
    step (step (soloState se t0 T mid k) (.setNow (sched t0 T (k + 1)))) .prepare =
      soloState se t0 T mid (k + 1) := by
  have hs := Coap.Timer.sched_succ t0 T k
  have := prepareCore_solo se (sched t0 T k) T mid k (soloOut t0 T mid k) hest hns hT hk h8 h64
  rw [← hs] at this
  have e : step (soloState se t0 T mid k) (.setNow (sched t0 T (k + 1))) =
      soloAt se (sched t0 T k) (sched t0 T (k + 1)) T mid k (soloOut t0 T mid k) := rfl
  rw [e]
  simp only [step, prepare]
  rw [this]
  simp [soloL, L.emit, soloOut, soloState]

/-- an idle endpoint: nothing queued, one session that is established, open, with no CON in flight -/
def soloInit (se : Sess) (t0 B : Nat) : L :=
  { now := t0, q := { base := B, nodes := [] }, sess := [se], out := [] }

theorem submit_solo (se : Sess) (t0 B mid r : Nat) (hopen : se.sockOpen = true) (hest : se.est = true)
    (hca : se.conActive = 0) (hns : 1 ≤ se.nstart) :
    submit (soloInit se t0 B) 0 true mid r =
      soloState se t0 (calcTimeout se.atI se.atF se.arfI se.arfF r) mid 0 := by
  have hlt := calcTimeout_lt se.atI se.atF se.arfI se.arfF r
  have hn : ¬ (0 ≥ se.nstart) := by omega
  have hm := Nat.mod_eq_of_lt hlt
  simp [submit, soloInit, soloState, soloL, soloNode, soloOut, L.getS, L.setS, L.emit, gate, waitAck, enqueue,
    hopen, hest, hca, hn, hm, sched]

/-- the clock is moved exactly to each deadline, then `coap_io_prepare_io` runs -/
def soloEvs (t0 T : Nat) : Nat → List Ev
  | 0 => []
  | k + 1 => soloEvs t0 T k ++ [.setNow (sched t0 T (k + 1)), .prepare]

theorem solo_run (se : Sess) (t0 T mid : Nat) (hest : se.est = true) (hns : 1 ≤ se.nstart) (hT : 0 < T)
    (h8 : se.maxRtx < 256) (h64 : T * 2 ^ se.maxRtx < 2 ^ 64) (k : Nat) (hk : k ≤ se.maxRtx) :
    run (soloState se t0 T mid 0) (soloEvs t0 T k) = soloState se t0 T mid k := by
  induction k with
  | zero => rfl
  | succ k ih =>
    have hle : T * 2 ^ (k + 1) ≤ T * 2 ^ se.maxRtx :=
      Nat.mul_le_mul_left T (Nat.pow_le_pow_right (by decide) hk)
    simp only [soloEvs, run, List.foldl_append, List.foldl_cons, List.foldl_nil]
    have ih' := ih (by omega)
    simp only [run] at ih'
    rw [ih']
    exact solo_step se t0 T mid k hest hns hT (by omega) (by omega) (by omega)

theorem solo_giveup (se : Sess) (t0 T mid : Nat) (hest : se.est = true) (hdq : se.delayq = []) :
    let l := step (step (soloState se t0 T mid se.maxRtx) (.setNow (sched t0 T (se.maxRtx + 1)))) .prepare
    l.out = .wait (sched t0 T (se.maxRtx + 1)) 0 :: .nack (sched t0 T (se.maxRtx + 1)) 0 .retries mid true ::
        soloOut t0 T mid se.maxRtx ∧ l.q.nodes = [] := by
  have e : step (soloState se t0 T mid se.maxRtx) (.setNow (sched t0 T (se.maxRtx + 1))) =
      soloAt se (sched t0 T se.maxRtx) (sched t0 T (se.maxRtx + 1)) T mid se.maxRtx (soloOut t0 T mid se.maxRtx) := rfl
  intro l
  simp only [l]
  rw [e, Coap.Timer.sched_succ t0 T se.maxRtx]
  generalize sched t0 T se.maxRtx = B
  generalize soloOut t0 T mid se.maxRtx = o
  have hr : retransmit (soloPopped se B (B + T * 2 ^ se.maxRtx) o) (soloNode mid T se.maxRtx) =
      soloDone se (B + T * 2 ^ se.maxRtx) B (.nack (B + T * 2 ^ se.maxRtx) 0 .retries mid true :: o) := by
    simp [retransmit, soloPopped, soloNode, soloDone, L.getS, L.setS, L.emit, release, connected, drain, hest, hdq]
  have hd := prepareCore_soloAt se B T mid se.maxRtx o _ hr (fun d hd => nomatch hd)
  show (prepare _).out = _ ∧ (prepare _).q.nodes = _
  rw [prepare_eq, prepareCore_snd, hd]
  exact ⟨rfl, rfl⟩

theorem soloOut_mem (t0 T mid : Nat) (k j : Nat) (h : j ≤ k) :
    Out.tx (sched t0 T j) 0 mid j true ∈ soloOut t0 T mid k := by
  induction k with
  | zero =>
    have : j = 0 := by omega
    subst this
    simp [soloOut, sched]
  | succ k ih =>
    by_cases hj : j = k + 1
    · subst hj; simp [soloOut]
    · simp only [soloOut, List.mem_cons]
      exact Or.inr (Or.inr (ih (by omega)))

theorem abs_soloState (se : Sess) (t0 T mid k : Nat) :
    abs (soloState se t0 T mid k).q = [⟨sched t0 T (k + 1), 0, mid, mid⟩] := by
  simp [soloState, soloL, soloNode, abs, absFrom, Coap.Timer.sched_succ]

end Coap.Msg
