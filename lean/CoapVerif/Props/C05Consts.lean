import CoapVerif.Model.StreamReader
import CoapVerif.Model.WsReader
import CoapVerif.Spec.StreamWs
import CoapVerif.Generated.Consts2
/-
C05 / T1 (design/T1.md) — the buffer sizes and limits of the stream / WebSocket reader models are those of the
current tree (`Generated.C2.*`, rewritten from /repo's working tree on every check: struct member sizes and macros as the
compiler sees them, `coap_ws_close`'s local buffer and retry count by source scan).
-/
namespace Coap.C05
open Coap Coap.Generated

theorem stream_rhCap_matches_code : M.Stream.rhCap = C2.sizeofReadHeader := by decide
theorem stream_maxRx_matches_code : M.Stream.maxRx = C2.COAP_DEFAULT_MAX_PDU_RX_SIZE := by decide
theorem stream_rxBuf_matches_code : M.Stream.rxBuf = C2.COAP_RXBUFFER_SIZE := by decide
theorem stream_maxHdr_matches_code : M.Stream.maxHdr = C2.COAP_PDU_MAX_TCP_HEADER_SIZE := by decide
/-- the fixed header of a stream PDU fits `read_header` (what `coap_read_session` relies on when it collects it there) -/
theorem stream_header_fits_matches_code : C2.COAP_PDU_MAX_TCP_HEADER_SIZE ≤ C2.sizeofReadHeader := by decide

theorem ws_httpCap_matches_code : M.Ws.httpCap = C2.wsHttpHdrSize := by decide
theorem ws_fsCap_matches_code : M.Ws.fsCap = C2.COAP_MAX_FS ∧ M.Ws.fsCap = C2.wsRdHeaderSize := by decide
/-- the WebSocket layer is read into the same COAP_RXBUFFER_SIZE stack buffer -/
theorem ws_rxBuf_matches_code : M.Ws.rxBuf = C2.COAP_RXBUFFER_SIZE := by decide
/-- `uint8_t buf[100]` and `count = 5` of coap_ws_close (source scan) -/
theorem ws_drainBuf_matches_code : M.Ws.drainBuf = C2.wsCloseDrainBuf := by decide
theorem ws_drainCount_matches_code : M.Ws.drainCount = C2.wsCloseDrainCount := by decide

/-- D18: S's longest handshake line is what fits `http_hdr` with its LF and the terminating NUL -/
theorem ws_maxLine_matches_code : Spec.Stream.Ws.maxLine + 2 = C2.wsHttpHdrSize := by decide
/-- D19: S's largest frame is the receive buffer -/
theorem ws_maxFrame_matches_code : Spec.Stream.Ws.maxFrame = C2.COAP_RXBUFFER_SIZE := by decide

end Coap.C05
