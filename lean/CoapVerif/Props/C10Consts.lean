import CoapVerif.Model.Server
import CoapVerif.Model.ServerBlock
import CoapVerif.Model.Async
import CoapVerif.Generated.Consts2
/-
C10 / T1 (design/T1.md) — the numerals of the server-dispatch models (Model/Server.lean, Model/ServerBlock.lean,
Model/Async.lean) and the flag / message-type vocabulary they take from Spec/Server.lean are the macros and enum values
of coap_pdu.h, coap_resource.h, coap_block.h as the compiler sees them.  Stage functions are re-stated with the generated
constants for ALL arguments (`rfl`: the two sides differ only in the numerals).
-/
namespace Coap.C10
open Coap Coap.Server Coap.Server.M Coap.Generated

/-- COAP_RESOURCE_FLAGS_* (the bit tested by `flag flags bit`) -/
theorem resourceFlags_match_code :
    F_HAS_MCAST = C2.COAP_RESOURCE_FLAGS_HAS_MCAST_SUPPORT ∧ F_DIS_MCAST_DELAYS = C2.COAP_RESOURCE_FLAGS_LIB_DIS_MCAST_DELAYS ∧
    F_SUPPRESS_2_05 = C2.COAP_RESOURCE_FLAGS_LIB_ENA_MCAST_SUPPRESS_2_05 ∧
    F_SUPPRESS_2_XX = C2.COAP_RESOURCE_FLAGS_LIB_ENA_MCAST_SUPPRESS_2_XX ∧
    F_DIS_SUPPRESS_4_XX = C2.COAP_RESOURCE_FLAGS_LIB_DIS_MCAST_SUPPRESS_4_XX ∧
    F_DIS_SUPPRESS_5_XX = C2.COAP_RESOURCE_FLAGS_LIB_DIS_MCAST_SUPPRESS_5_XX ∧
    F_OSCORE_ONLY = C2.COAP_RESOURCE_FLAGS_OSCORE_ONLY ∧ F_HANDLE_WKC = C2.COAP_RESOURCE_HANDLE_WELLKNOWN_CORE ∧
    MB.F_FORCE_SINGLE_BODY = C2.COAP_RESOURCE_FLAGS_FORCE_SINGLE_BODY := by decide

theorem messageTypes_match_code :
    CON = C2.COAP_MESSAGE_CON ∧ NON = C2.COAP_MESSAGE_NON ∧ ACK = C2.COAP_MESSAGE_ACK ∧ RST = C2.COAP_MESSAGE_RST := by decide

theorem respType_matches_code (t : Nat) :
    respType t = if t = C2.COAP_MESSAGE_CON then C2.COAP_MESSAGE_ACK else C2.COAP_MESSAGE_NON := rfl

/-- the option filter of the critical-option scan: `is_long_option` threshold (evaluated over 0..65535) -/
theorem filterGet_matches_code (f : Filter) (n : Nat) :
    f.get n = if n ≥ C2.optFilterLongThreshold then f.long.contains n else f.short.contains n := by
  unfold Filter.get
  by_cases h : n > 255
  · have h' : n ≥ C2.optFilterLongThreshold := h
    simp only [h, h', if_true]
  · have h' : ¬ n ≥ C2.optFilterLongThreshold := h
    simp only [h, h', if_false]

/-- the slot counts extract/server.c produces (Generated/ServerTables.lean) are the macros -/
theorem filterSlots_match_code :
    Generated.Server.filterShort = C2.COAP_OPT_FILTER_SHORT ∧ Generated.Server.filterLong = C2.COAP_OPT_FILTER_LONG := by decide

/-- the Hop-Limit block of handle_request: COAP_OPTION_HOP_LIMIT, 5.08, 4.00, for every request -/
theorem hopBlock_matches_code (rq : Request) (isProxy skipHop : Bool) (os : Opts) :
    hopBlock rq isProxy skipHop os =
      if skipHop then pathBlock rq isProxy os else
      match firstOpt os C2.COAP_OPTION_HOP_LIMIT with
      | none => pathBlock rq isProxy os
      | some v =>
        let hop := uintOf v % C2.uint32Modulus
        if hop = 1 then .fail C2.code508 none
        else if hop < 1 ∨ hop > 255 then .fail C2.code400 none
        else pathBlock rq isProxy (setHop (hop - 1) os) := rfl

/-- Proxy-Uri decides where the path comes from: COAP_OPTION_PROXY_URI -/
theorem pathBlock_matches_code (rq : Request) (isProxy : Bool) (os : Opts) :
    pathBlock rq isProxy os =
      if hasOpt os C2.COAP_OPTION_PROXY_URI then (match rq.pu with | .ok _ p => .go isProxy os p | _ => .ignore)
      else .go isProxy os (uriPath os) := rfl

/-- resource selection: 5.00 without a proxy resource, 2.02 for DELETE of an unknown resource, 4.04 otherwise -/
theorem selectStage_matches_code (tbl : Table) (code : Nat) (isProxy : Bool) (path : Bytes) :
    selectStage tbl code isProxy path =
      (let found : Option Sel := if isProxy then none else (findRes tbl.res path 0).map fun x => Sel.res x.1 x.2
       let unkFor : Option Special :=
         match tbl.unk with
         | some u => if handlerBit u.mask code then some u else none
         | none => none
       match found with
       | some s => .inr s
       | none =>
         if isProxy then (match tbl.prx with | some p => .inr (.prx p) | none => .inl C2.code500)
         else match unkFor with
           | some u => if flag u.flags C2.COAP_RESOURCE_HANDLE_WELLKNOWN_CORE then .inr (.unk u)
                       else if path = wellKnownCore then .inr .wk else .inr (.unk u)
           | none =>
             if path = wellKnownCore then .inr .wk
             else if code = C2.COAP_REQUEST_CODE_DELETE then .inl C2.code202
             else .inl C2.code404) := rfl

/-- the checks before the handler: 4.01 OSCORE-only, 4.12 If-None-Match, 4.05 no handler / no multicast support,
4.15 FETCH without Content-Format — flags, option numbers, method and response codes from the headers -/
theorem checkStage_matches_code (cfg : Cfg) (rq : Request) (os : Opts) (sel : Sel) :
    checkStage cfg rq os sel =
      (if flag sel.flags C2.COAP_RESOURCE_FLAGS_OSCORE_ONLY then some C2.code401 else
       if sel.exists_ ∧ hasOpt os C2.COAP_OPTION_IF_NONE_MATCH then some C2.code412 else
       if ¬ handlerBit sel.mask rq.msg.code then some C2.code405 else
       if rq.msg.code = C2.COAP_REQUEST_CODE_FETCH ∧ ¬ hasOpt os C2.COAP_OPTION_CONTENT_FORMAT then some C2.code415 else
       if cfg.mpr ∧ ¬ flag sel.flags C2.COAP_RESOURCE_FLAGS_HAS_MCAST_SUPPORT ∧ rq.mcast then some C2.code405 else none) := rfl

/-- Observe registration: COAP_OPTION_OBSERVE, COAP_OBSERVE_ESTABLISH, COAP_OPTION_BLOCK2; the first Observe value is the
`r->observe = 2` of coap_resource_init (source scan) -/
theorem obsStage_matches_code (os : Opts) (observe : Bool) (resp0 : Reply) :
    obsStage os observe resp0 =
      if observe then
        let action := uintOf ((firstOpt os C2.COAP_OPTION_OBSERVE).getD []) % C2.uint32Modulus
        if action = C2.COAP_OBSERVE_ESTABLISH then
          match (firstOpt os C2.COAP_OPTION_BLOCK2).bind block with
          | some (num, _, _) => if num ≠ 0 then none
                                else some { resp0 with opts := [(C2.COAP_OPTION_OBSERVE, [UInt8.ofNat C2.resourceInitialObserve])] }
          | none => some { resp0 with opts := [(C2.COAP_OPTION_OBSERVE, [UInt8.ofNat C2.resourceInitialObserve])] }
        else some resp0
      else some resp0 := rfl

/-- numerals inside the large definitions `critStep` (Q-Block1 19 / Q-Block2 31), `noResponse` (No-Response 258, 2.05 =
69, `% 2^32`), `callStage` (2.05, Content-Format 12, link-format 40), `putBlock` (Request-Tag 292, Block1 27,
Content-Format 12, Size1 60), `uriPathLoop` / `queryLoop` (Uri-Path 11, Uri-Query 15) -/
theorem dispatch_numerals_match_code :
    (19 : Nat) = C2.COAP_OPTION_Q_BLOCK1 ∧ (31 : Nat) = C2.COAP_OPTION_Q_BLOCK2 ∧ (258 : Nat) = C2.COAP_OPTION_NORESPONSE ∧
    (69 : Nat) = C2.code205 ∧ (4294967296 : Nat) = C2.uint32Modulus ∧ (12 : Nat) = C2.COAP_OPTION_CONTENT_FORMAT ∧
    (40 : Nat) = C2.COAP_MEDIATYPE_APPLICATION_LINK_FORMAT ∧ (292 : Nat) = C2.COAP_OPTION_RTAG ∧
    (27 : Nat) = C2.COAP_OPTION_BLOCK1 ∧ (60 : Nat) = C2.COAP_OPTION_SIZE1 ∧ (11 : Nat) = C2.COAP_OPTION_URI_PATH ∧
    (15 : Nat) = C2.COAP_OPTION_URI_QUERY := by decide

/-! ### block mode bits (Model/ServerBlock.lean) -/

/-- `block_mode & COAP_BLOCK_USE_LIBCOAP`, `& COAP_BLOCK_SINGLE_BODY`, `|= COAP_BLOCK_SINGLE_BODY`, for every mode -/
theorem blockMode_matches_code (mode : Nat) :
    MB.useLibcoap mode = (mode / C2.COAP_BLOCK_USE_LIBCOAP % 2 == 1) ∧
    MB.singleBody mode = (mode / C2.COAP_BLOCK_SINGLE_BODY % 2 == 1) ∧
    MB.setSingle mode = (if MB.singleBody mode then mode else mode + C2.COAP_BLOCK_SINGLE_BODY) := by
  refine ⟨?_, rfl, rfl⟩
  unfold MB.useLibcoap
  rw [show C2.COAP_BLOCK_USE_LIBCOAP = 1 from rfl, Nat.div_one]

/-! ### delayed responses (Model/Async.lean) -/

/-- `coap_tick_t` is 64 bits wide: `W` is its modulus -/
theorem tickModulus_matches_code : Async.W = 2 ^ C2.coapTickModulusBits := by decide

/-- `async->delay = now + delay` in `coap_tick_t`, for every value -/
theorem delayOf_matches_code (now d : Nat) :
    Async.delayOf now d = if d ≠ 0 then (now + d) % 2 ^ C2.coapTickModulusBits else 0 := by
  unfold Async.delayOf
  rw [tickModulus_matches_code]

end Coap.C10
