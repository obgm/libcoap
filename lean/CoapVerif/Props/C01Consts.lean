import CoapVerif.Model.Build
import CoapVerif.Model.WsWriter
import CoapVerif.Generated.Consts2
/-
C01 / T1 — the numerals of the PDU-building model (Model/Build.lean) and of the WebSocket write side
(Model/WsWriter.lean) are the macros of include/coap3/coap_pdu_internal.h, coap_pdu.h, coap_ws_internal.h as the compiler
sees them, `coap_opt_encode_size` EVALUATED over 0..65535 (thresholds of the 13/269 scheme), and the literals of
coap_ws_write / coap_ws_close (source scan).  Every theorem re-states a model FUNCTION with the generated constants in
place of the literals, for all arguments, unless said otherwise.  Spec/Encode.lean is written from the RFCs and is not tied.
-/
namespace Coap.C01
open Coap Coap.M Coap.Generated

/-- `if (size > ((size_t)COAP_DEFAULT_MAX_PDU_RX_SIZE - pdu->max_hdr_size)) return NULL;` with
`max_hdr_size = COAP_PDU_MAX_TCP_HEADER_SIZE` -/
theorem pduInit_bound_matches_code (type code mid size : Nat) :
    pduInit type code mid size =
      if size > C2.COAP_DEFAULT_MAX_PDU_RX_SIZE - C2.COAP_PDU_MAX_TCP_HEADER_SIZE then none
      else some ⟨type, code, mid, size, [], 0, 0, 0, none⟩ := rfl

/-- the two extractors (extract/repeatable.c → Generated/Repeatable.lean, extract/consts2.c → `C2`) agree -/
theorem repeatableConsts_match_code :
    Generated.tokenExtMax = C2.COAP_TOKEN_EXT_MAX ∧ Generated.maxPduRx = C2.COAP_DEFAULT_MAX_PDU_RX_SIZE ∧
    Generated.maxHdrSize = C2.COAP_PDU_MAX_TCP_HEADER_SIZE ∧ Generated.tcpOfs8 = C2.COAP_MESSAGE_SIZE_OFFSET_TCP8 ∧
    Generated.tcpOfs16 = C2.COAP_MESSAGE_SIZE_OFFSET_TCP16 ∧ Generated.tcpOfs32 = C2.COAP_MESSAGE_SIZE_OFFSET_TCP32 ∧
    Generated.tokBias1 = C2.COAP_TOKEN_EXT_1B_BIAS ∧ Generated.tokBias2 = C2.COAP_TOKEN_EXT_2B_BIAS ∧
    Generated.optHopLimit = C2.COAP_OPTION_HOP_LIMIT ∧ Generated.optProxyUri = C2.COAP_OPTION_PROXY_URI ∧
    Generated.optProxyScheme = C2.COAP_OPTION_PROXY_SCHEME := by decide

/-- `coap_opt_encode_size`: the compiled function is two threshold tests per argument (`optEncodeThresholds = 1`, checked
by the extractor for all 65536 values of each argument) and the thresholds are the model's -/
theorem optEncodeSize_matches_code (delta length : Nat) :
    C2.optEncodeThresholds = 1 ∧
    optEncodeSize delta length =
      1 + (if delta ≥ C2.optDeltaExt1 then (if delta < C2.optDeltaExt2 then 1 else 2) else 0)
        + (if length ≥ C2.optLenExt1 then (if length < C2.optLenExt2 then 1 else 2) else 0) + length := ⟨rfl, rfl⟩

/-- `coap_opt_setheader`: the nibbles 13 / 14 and the biases 13 / 269 are those thresholds; the option-number and the
byte moduli are the widths of `coap_option_num_t` and `uint8_t` -/
theorem optSetHeader_matches_code (delta length : Nat) :
    optSetHeader delta length =
      (let d : Nat × List Nat :=
        if delta < C2.optDeltaExt1 then ((delta * 16) % 256, [])
        else if delta < C2.optDeltaExt2 then (C2.optDeltaExt1 * 16, [(delta - C2.optDeltaExt1) % 256])
        else ((C2.optDeltaExt1 + 1) * 16, [(delta - C2.optDeltaExt2) / 256 % 256, (delta - C2.optDeltaExt2) % 256])
      let l : Nat × List Nat :=
        if length < C2.optLenExt1 then (length % 16, [])
        else if length < C2.optLenExt2 then (C2.optLenExt1, [(length - C2.optLenExt1) % 256])
        else (C2.optLenExt1 + 1, [(length - C2.optLenExt2) / 256 % 256, (length - C2.optLenExt2) % 256])
      (UInt8.ofNat (d.1 + l.1) :: (d.2.map UInt8.ofNat)) ++ l.2.map UInt8.ofNat) := rfl

/-- `coap_add_token` / `coap_update_token`: COAP_TOKEN_EXT_1B_BIAS, _2B_BIAS, COAP_TOKEN_EXT_MAX -/
theorem tokBias_matches_code (len : Nat) :
    tokBias len =
      if len < C2.COAP_TOKEN_EXT_1B_BIAS then some 0 else if len < C2.COAP_TOKEN_EXT_2B_BIAS then some 1
      else if len ≤ C2.COAP_TOKEN_EXT_MAX then some 2 else none := rfl

theorem tokHdr_matches_code (len bias : Nat) :
    tokHdr len bias =
      if bias = 0 then []
      else if bias = 1 then [UInt8.ofNat (len - C2.COAP_TOKEN_EXT_1B_BIAS)]
      else [UInt8.ofNat ((len - C2.COAP_TOKEN_EXT_2B_BIAS) / 256), UInt8.ofNat ((len - C2.COAP_TOKEN_EXT_2B_BIAS) % 256)] := rfl

/-- `coap_pdu_encode_header`, UDP: `COAP_DEFAULT_VERSION << 6 | type << 4 | tkl` with the TKL nibble
COAP_TOKEN_EXT_1B_TKL / _2B_TKL, for every PDU -/
theorem encodeHeader_udp_matches_code (pdu : Pdu) :
    encodeHeader .udp pdu =
      (if pdu.tokLen < C2.COAP_TOKEN_EXT_1B_BIAS then some (pdu.tokLen % 256)
       else if pdu.tokLen < C2.COAP_TOKEN_EXT_2B_BIAS then some C2.COAP_TOKEN_EXT_1B_TKL
       else if pdu.tokLen ≤ C2.COAP_TOKEN_EXT_MAX then some C2.COAP_TOKEN_EXT_2B_TKL
       else none).map fun tkl =>
        [UInt8.ofNat (C2.COAP_DEFAULT_VERSION * 64 + pdu.type * 16 + tkl), UInt8.ofNat pdu.code,
         UInt8.ofNat (pdu.mid / 256), UInt8.ofNat pdu.mid] := by
  unfold encodeHeader
  show _ = Option.map _ (if pdu.tokLen < 13 then _ else if pdu.tokLen < 269 then _ else if pdu.tokLen ≤ 65804 then _ else _)
  by_cases h1 : pdu.tokLen < 13
  · rw [if_pos h1, if_pos h1]; rfl
  · rw [if_neg h1, if_neg h1]
    by_cases h2 : pdu.tokLen < 269
    · rw [if_pos h2, if_pos h2]; rfl
    · rw [if_neg h2, if_neg h2]
      by_cases h3 : pdu.tokLen ≤ 65804
      · rw [if_pos h3, if_pos h3]; rfl
      · rw [if_neg h3, if_neg h3]; rfl

/-- the length forms of the reliable header (`len ≤ 12 / ≤ 268 / ≤ 65804`, biases 13 / 269 / 65805, nibbles 13 / 14 /
15) inside `encodeHeader` are COAP_MAX_MESSAGE_SIZE_TCP0/8/16 and COAP_MESSAGE_SIZE_OFFSET_TCP8/16/32; the Len nibbles
are 13, 14, 15 by RFC 8323 (literals `0xd0`, `0xe0`, `0xf0` in the C code) -/
theorem encodeHeader_tcp_numerals_match_code :
    (12 : Nat) = C2.COAP_MAX_MESSAGE_SIZE_TCP0 ∧ (268 : Nat) = C2.COAP_MAX_MESSAGE_SIZE_TCP8 ∧
    (65804 : Nat) = C2.COAP_MAX_MESSAGE_SIZE_TCP16 ∧ (13 : Nat) = C2.COAP_MESSAGE_SIZE_OFFSET_TCP8 ∧
    (269 : Nat) = C2.COAP_MESSAGE_SIZE_OFFSET_TCP16 ∧ (65805 : Nat) = C2.COAP_MESSAGE_SIZE_OFFSET_TCP32 := by decide

/-- `% 65536` on option numbers / deltas / `max_opt` (parse loop, `insertOption`, `addOptionInternal`), the `0xFF`
payload marker (`addData`, the parse loop), the implicit Hop-Limit (number 16 with value [16] when Proxy-Uri 35 or
Proxy-Scheme 39 is added to a request), and the `data.length > 65804` refusals of addOption / insertOption / updateOption -/
theorem build_numerals_match_code :
    (65536 : Nat) = C2.optNumModulus ∧ (65536 : Nat) = C2.maxOptModulus ∧ (65535 : Nat) = C2.COAP_MAX_OPT ∧
    (0xFF : Nat) = C2.COAP_PAYLOAD_START ∧
    (16 : Nat) = C2.COAP_OPTION_HOP_LIMIT ∧ (16 : Nat) = C2.COAP_DEFAULT_HOP_LIMIT ∧
    (35 : Nat) = C2.COAP_OPTION_PROXY_URI ∧ (39 : Nat) = C2.COAP_OPTION_PROXY_SCHEME ∧
    (65804 : Nat) = C2.COAP_TOKEN_EXT_MAX := by decide

/-! ### WebSocket write side (Model/WsWriter.lean) -/
open Coap.M.WsW

/-- the three length forms of `coap_ws_write`, for every length -/
theorem wsLenField_matches_code (datalen : Nat) :
    lenField datalen =
      if datalen ≤ C2.wsLen7Max then (u8 (datalen % (C2.WS_B1_LEN_MASK + 1)), [])
      else if datalen ≤ C2.wsLen16Max then (UInt8.ofNat C2.wsLen16Code, [u8 (datalen / 2 ^ 8), u8 datalen])
      else (UInt8.ofNat C2.wsLen64Code,
            [u8 (datalen / 2 ^ 56), u8 (datalen / 2 ^ 48), u8 (datalen / 2 ^ 40), u8 (datalen / 2 ^ 32),
             u8 (datalen / 2 ^ 24), u8 (datalen / 2 ^ 16), u8 (datalen / 2 ^ 8), u8 datalen]) := rfl

/-- `WS_B0_FIN_BIT | WS_OP_BINARY`, `WS_B1_MASK_BIT` of the data frame header, for every role / key / length -/
theorem wsHeader_matches_code (role : Role) (key : Bytes) (datalen : Nat) :
    header role key datalen =
      match role with
      | .client => (UInt8.ofNat C2.WS_B0_FIN_BIT ||| UInt8.ofNat C2.WS_OP_BINARY) ::
                   ((lenField datalen).1 ||| UInt8.ofNat C2.WS_B1_MASK_BIT) :: ((lenField datalen).2 ++ key)
      | .server => (UInt8.ofNat C2.WS_B0_FIN_BIT ||| UInt8.ofNat C2.WS_OP_BINARY) :: (lenField datalen).1 :: (lenField datalen).2 := by
  cases role <;> rfl

/-- `WS_B0_FIN_BIT | WS_OP_CLOSE`, `ws_header[1] = 2`, `WS_B1_MASK_BIT` of the Close frame -/
theorem wsCloseFrame_matches_code (role : Role) (key : Bytes) (reason : Nat) :
    closeFrame role key reason =
      match role with
      | .client => (UInt8.ofNat C2.WS_B0_FIN_BIT ||| UInt8.ofNat C2.WS_OP_CLOSE) ::
                   (UInt8.ofNat C2.wsCloseLen ||| UInt8.ofNat C2.WS_B1_MASK_BIT) ::
                   (key ++ maskData key 0 [u8 (reason / 2 ^ 8), u8 reason])
      | .server => (UInt8.ofNat C2.WS_B0_FIN_BIT ||| UInt8.ofNat C2.WS_OP_CLOSE) :: UInt8.ofNat C2.wsCloseLen ::
                   [u8 (reason / 2 ^ 8), u8 reason] := by
  cases role <;> rfl

/-- `session->ws->close_reason = 1000` when it is 0 (`wsClose`) -/
theorem wsCloseDefaultReason_matches_code : (1000 : Nat) = C2.wsCloseDefaultReason := by decide

end Coap.C01
