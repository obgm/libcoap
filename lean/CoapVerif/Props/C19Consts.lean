import CoapVerif.Model.TlsGate
import CoapVerif.Generated.Consts2
/-
C19 / T1 — the transmission parameters and the COAP_PDU_DELAYED code of the TLS-gate model are those
of the current tree (`Generated.C2.*`, rewritten from /repo's working tree on every check).
-/
namespace Coap.C19
open Coap Coap.Generated

theorem nstart_matches_code : TlsGate.NSTART = C2.COAP_DEFAULT_NSTART := by decide
theorem maxRetransmit_matches_code : TlsGate.MAX_RETRANSMIT = C2.COAP_DEFAULT_MAX_RETRANSMIT := by decide
/-- COAP_PDU_DELAYED (a negative `coap_mid_t`) -/
theorem delayed_matches_code : TlsGate.DELAYED = -(C2.COAP_PDU_DELAYED_NEG : Int) := by decide
/-- 4.01 Unauthorized, the response code `Ctx.lgResponse` looks for -/
theorem code401_matches_code : (129 : Nat) = C2.code401 := by decide

end Coap.C19
