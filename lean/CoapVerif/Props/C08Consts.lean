import CoapVerif.Model.MsgLayerX
import CoapVerif.Lemmas.CalcTimeout
/-
C08 / T1 (design/T1.md) — the defaults of the message-layer model's session, the message-id modulus and the tick rate
are those of the current tree (`Generated.C2.*`, rewritten from /repo's working tree on every check).
-/
namespace Coap.C08
open Coap Coap.Generated

/-- `coap_session_t` after coap_make_session: COAP_DEFAULT_ACK_TIMEOUT, COAP_DEFAULT_ACK_RANDOM_FACTOR,
COAP_DEFAULT_MAX_RETRANSMIT, COAP_DEFAULT_NSTART -/
theorem sess_defaults_matches_code :
    ({} : Msg.Sess).atI = C2.ackTimeoutInt ∧ ({} : Msg.Sess).atF = C2.ackTimeoutFrac ∧
    ({} : Msg.Sess).arfI = C2.ackRandomFactorInt ∧ ({} : Msg.Sess).arfF = C2.ackRandomFactorFrac ∧
    ({} : Msg.Sess).maxRtx = C2.COAP_DEFAULT_MAX_RETRANSMIT ∧ ({} : Msg.Sess).nstart = C2.COAP_DEFAULT_NSTART := by decide

/-- the first timeout of a default session is the compiled `coap_calc_timeout`, for every PRNG byte -/
theorem sess_calcTimeout_matches_code : ∀ r, r < 256 →
    SQ.calcTimeout ({} : Msg.Sess).atI ({} : Msg.Sess).atF ({} : Msg.Sess).arfI ({} : Msg.Sess).arfF r =
      C2.calcTimeoutDefault.getD r 0 :=
  fun _ => getD_of_map_range SQ.calcTimeout_default_table

/-- `++session->tx_mid` on a `uint16_t`; `MsgX.noTok` is the first value that is not a message id -/
theorem mid_modulus_matches_code : MsgX.noTok = C2.midModulus ∧ (65536 : Nat) = C2.midModulus := by decide

/-- `ping_timeout * COAP_TICKS_PER_SECOND` in `MsgX.clampDelay`, for every argument -/
theorem clampDelay_matches_code (pt prng delay : Nat) :
    MsgX.clampDelay pt prng delay =
      if pt ≠ 0 ∧ pt * C2.COAP_TICKS_PER_SECOND < delay then pt * C2.COAP_TICKS_PER_SECOND - 255 + prng else delay := by
  have h : C2.COAP_TICKS_PER_SECOND = 1000 := by decide
  rw [h]; rfl

example : MsgX.clampDelay 3 7 5000 = 2752 := by decide

end Coap.C08
