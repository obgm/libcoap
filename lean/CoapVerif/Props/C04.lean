import CoapVerif.Lemmas.EditDup
/-
C04 — in-place message edits change only what they name.

  S = Spec.applyEdit on (token, ordered option list, payload)     (Spec/Encode.lean)
  M = M.insertOption / M.updateOption / M.removeOption / M.updateToken   (Model/Build.lean)

 * S side: the frame theorems (`edit_frame`, `edits_keep_order`, `edit_sequence_keeps_order`).
 * M refines S, per editor, for EVERY abstract message the API can produce (`Shape`), every argument, every capacity,
   refusals included: `insert_refines` (+ closed form `insert_refines_middle`), `update_refines` (+ `update_refines_present`),
   `remove_refines`, `update_token_refines`.
 * whole sequences + round trip: `edits_then_roundtrip` (`roundtrip_of_refined` is its second half).
 * return codes of removals (SPEC DECISION D17): S prescribes that coap_remove_option returns 1
   exactly when the message holds the option, and that on a message without it nothing changes
   (`remove_absent_changes_nothing`); M does so, per call (`remove_rc_prescribed`) and along every edit sequence, the
   presence being that in the abstract message REACHED SO FAR (`edits_rc_prescribed`, `EditTraceRc` in Lemmas/EditTrace.lean).
   The oracle of the check (Driver/Build.lean `absRunRc`, Driver/EditSpec.lean) applies the same prescription to the
   return codes the implementation reports.
 * coap_pdu_duplicate_lkd (the copy the library edits further: block-wise transfer, proxy, OSCORE, async): read as the
   edit sequence "replace the token, remove the named options" on a copy (D16, `duplicate_is_edit_sequence`,
   `duplicate_frame`); both branches of M refine it for every abstract message, token, filter and capacity
   (`duplicate_memcpy_refines` closed form, `duplicate_filter_refines`), after any edit sequence and with the round
   trip (`edits_then_duplicate`).  Lemmas/EditDup.lean.  M is transcribed from the code after fix 665adab (a token that
   cannot be added makes the duplication fail instead of yielding a copy without token).
 * M is transcribed from the code in which coap_add_option_internal removes the implicit Hop-Limit again when the
   Proxy-Uri / Proxy-Scheme option is refused (the fix of finding hop-limit-left-by-refused-proxy): a refused edit leaves
   the abstract message unchanged (examples among the concrete instances behind `edits_then_roundtrip_wf`).
-/
namespace Coap.C04
open Coap Coap.M

theorem addSem_frame (hop : Bool) (n : Nat) (v : Bytes) (os : List (Nat × Bytes)) :
    ∃ base, (base = os ∨ (hop = true ∧ base = Spec.insertStable 16 [16] os)) ∧
      ∃ pre post, base = pre ++ post ∧ Spec.addSem hop n v os = pre ++ (n, v) :: post ∧
        (∀ o ∈ pre, o.1 ≤ n) ∧ (∀ o, post.head? = some o → n < o.1) := by
  cases hop with
  | false => exact ⟨os, Or.inl rfl, insertStable_split n v os⟩
  | true => exact ⟨_, Or.inr ⟨rfl, rfl⟩, insertStable_split n v (Spec.insertStable 16 [16] os)⟩

/-- Frame theorem: an abstract edit changes only what it names.  Header fields and payload never
change; the token changes only through `setToken`; and the option list changes exactly by one element
at one position — every other option keeps its number, its value and its position relative to the
others (`pre` and `post` are carried over unchanged).  (`base` accounts for D13: an insertion of
Proxy-Uri / Proxy-Scheme may be accompanied by Hop-Limit.) -/
theorem edit_frame (hop : Bool) (m : Msg) (e : Spec.Edit) :
    (Spec.applyEdit hop m e).type = m.type ∧ (Spec.applyEdit hop m e).code = m.code ∧
    (Spec.applyEdit hop m e).mid = m.mid ∧ (Spec.applyEdit hop m e).payload = m.payload ∧
    (match e with
     | .setToken t => (Spec.applyEdit hop m e).token = t ∧ (Spec.applyEdit hop m e).opts = m.opts
     | .remove n =>
        (Spec.applyEdit hop m e).token = m.token ∧
        (Spec.hasOpt n m.opts = false → (Spec.applyEdit hop m e).opts = m.opts) ∧
        (Spec.hasOpt n m.opts = true → ∃ pre v post, m.opts = pre ++ (n, v) :: post ∧
            (Spec.applyEdit hop m e).opts = pre ++ post ∧ ∀ o ∈ pre, o.1 ≠ n)
     | .insert n v =>
        (Spec.applyEdit hop m e).token = m.token ∧
        ∃ base, (base = m.opts ∨ (hop = true ∧ base = Spec.insertStable 16 [16] m.opts)) ∧
          ∃ pre post, base = pre ++ post ∧ (Spec.applyEdit hop m e).opts = pre ++ (n, v) :: post ∧
            (∀ o ∈ pre, o.1 ≤ n) ∧ (∀ o, post.head? = some o → n < o.1)
     | .update n v =>
        (Spec.applyEdit hop m e).token = m.token ∧
        (Spec.hasOpt n m.opts = true → ∃ pre w post, m.opts = pre ++ (n, w) :: post ∧
            (Spec.applyEdit hop m e).opts = pre ++ (n, v) :: post ∧ ∀ o ∈ pre, o.1 ≠ n) ∧
        (Spec.hasOpt n m.opts = false →
          ∃ base, (base = m.opts ∨ (hop = true ∧ base = Spec.insertStable 16 [16] m.opts)) ∧
            ∃ pre post, base = pre ++ post ∧ (Spec.applyEdit hop m e).opts = pre ++ (n, v) :: post ∧
              (∀ o ∈ pre, o.1 ≤ n) ∧ (∀ o, post.head? = some o → n < o.1))) := by
  refine ⟨?_, ?_, ?_, ?_, ?_⟩
  · cases e <;> rfl
  · cases e <;> rfl
  · cases e <;> rfl
  · cases e <;> rfl
  · cases e with
    | setToken t => exact ⟨rfl, rfl⟩
    | remove n =>
      refine ⟨rfl, ?_, ?_⟩
      · intro h; exact removeFirst_absent n m.opts h
      · intro h; exact removeFirst_split n m.opts h
    | insert n v => exact ⟨rfl, addSem_frame hop n v m.opts⟩
    | update n v =>
      have hopts : (Spec.applyEdit hop m (.update n v)).opts =
          if Spec.hasOpt n m.opts = true then Spec.replaceFirst n v m.opts else Spec.addSem hop n v m.opts := rfl
      refine ⟨rfl, ?_, ?_⟩
      · intro h
        rw [hopts, if_pos h]
        exact replaceFirst_split n v m.opts h
      · intro h
        rw [hopts, if_neg (by rw [h]; exact Bool.false_ne_true)]
        exact addSem_frame hop n v m.opts

theorem edits_keep_order (hop : Bool) (m : Msg) (e : Spec.Edit) (h : m.opts.Pairwise (fun a b => a.1 ≤ b.1)) :
    (Spec.applyEdit hop m e).opts.Pairwise (fun a b => a.1 ≤ b.1) := by
  have hop16 : (if hop then Spec.insertStable 16 [16] m.opts else m.opts).Pairwise (fun a b => a.1 ≤ b.1) :=
    ite_ind (fun _ => insertStable_sorted 16 [16] m.opts h) fun _ => h
  cases e with
  | setToken t => exact h
  | remove n => exact removeFirst_sorted n m.opts h
  | insert n v => exact insertStable_sorted n v _ hop16
  | update n v =>
    show (if Spec.hasOpt n m.opts = true then Spec.replaceFirst n v m.opts
      else Spec.addSem hop n v m.opts).Pairwise (fun a b => a.1 ≤ b.1)
    exact ite_ind (fun _ => replaceFirst_sorted n v m.opts h) fun _ => insertStable_sorted n v _ hop16

theorem edit_sequence_keeps_order (es : List (Bool × Spec.Edit)) (m : Msg) (h : m.opts.Pairwise (fun a b => a.1 ≤ b.1)) :
    (es.foldl (fun m e => Spec.applyEdit e.1 m e.2) m).opts.Pairwise (fun a b => a.1 ≤ b.1) :=
  foldl_inv (fun m => m.opts.Pairwise (fun a b => a.1 ≤ b.1)) (fun m e h => edits_keep_order e.1 m e.2 h) es m h

/-- coap_update_token changes the token and nothing else: on the PDU that represents `a` it yields the PDU that
represents `a` with the new token — option bytes, payload bytes, `max_opt` and the payload offset follow the move —
for every token length 0..65804 in both directions; capacity is needed only when the token field grows. -/
theorem update_token_refines (ms : Nat) (a : Msg) (t : Bytes) (ht : t.length ≤ 65804) (hne : (conc ms a).buf ≠ [])
    (hfit : (Spec.encToken t).length ≤ (Spec.encToken a.token).length ∨ ms = 0 ∨
            (conc ms { a with token := t }).buf.length ≤ ms) :
    updateToken (conc ms a) t = R.ok (1, conc ms (Spec.applyEdit false a (.setToken t))) := by
  show updateToken (conc ms a) t = R.ok (1, conc ms { a with token := t })
  rw [updateToken_nonempty ms a t hne, if_neg (by omega), if_pos hfit]

/-- the second half of `edits_then_roundtrip`: once the edited PDU is known to represent the abstract message `a`
(which is what each `*_refines` theorem establishes, edit by edit), its serialisation decodes to exactly `a` -/
theorem roundtrip_of_refined (p : Proto) (ms : Nat) (a : Msg) (h : Spec.WF p a) :
    ∃ bytes, serialise p (conc ms a) = some bytes ∧ Spec.decode p bytes = some (Spec.onWire p a) :=
  ⟨Spec.encode p a, serialise_conc p ms a h.2.2.2.1, Coap.decode_encode p a h⟩

/-- non-vacuity: a 1-byte token replaced by a 14-byte one (the token field gains an extension byte and everything
behind it moves up); a 300-byte replacement runs on the real code as line 3 of corpus/C04/seeds.txt -/
example : updateToken (conc 0 ⟨0, 1, 1, [1], [(11, [0x61]), (2000, [0x62])], [9]⟩) [1,2,3,4,5,6,7,8,9,10,11,12,13,14]
    = R.ok (1, conc 0 ⟨0, 1, 1, [1,2,3,4,5,6,7,8,9,10,11,12,13,14], [(11, [0x61]), (2000, [0x62])], [9]⟩) := by decide

example : Spec.applyEdit false ⟨0, 1, 7, [1], [(3, [0x68]), (11, [0x61]), (300, [1])], [9]⟩ (.insert 11 [0x62]) =
    ⟨0, 1, 7, [1], [(3, [0x68]), (11, [0x61]), (11, [0x62]), (300, [1])], [9]⟩ := by decide
example : Spec.applyEdit false ⟨0, 1, 7, [1], [(3, [0x68]), (11, [0x61]), (300, [1])], [9]⟩ (.remove 11) =
    ⟨0, 1, 7, [1], [(3, [0x68]), (300, [1])], [9]⟩ := by decide
example : Spec.applyEdit true ⟨0, 1, 7, [], [(11, [0x61])], []⟩ (.insert 35 [0x78]) =
    ⟨0, 1, 7, [], [(11, [0x61]), (16, [16]), (35, [0x78])], []⟩ := by decide

/-- the possible outcomes of an option-adding edit `e` of option `n` (an insertion, or an update of an absent option):
accepted = the abstract edit of S, with D13's implicit Hop-Limit only where D13 allows it; refused = nothing changes
(D14); for an insertion this is `Step a (.insertOption n v) rc a'` (Lemmas/EditTrace.lean) written out on `Spec.Edit` -/
def EditOutcome (a : Msg) (n : Nat) (e : Spec.Edit) (rc : Nat) (a' : Msg) : Prop :=
  (rc ≠ 0 ∧ ∃ hop : Bool, (hop = true → Spec.hopApplies a.code n a.opts = true) ∧ a' = Spec.applyEdit hop a e) ∨
  (rc = 0 ∧ a' = a)

theorem editOutcome_of_add {ms : Nat} {a : Msg} {n : Nat} {v : Bytes} {r : Nat × Msg} (e : Spec.Edit)
    (hsem : ∀ hop, Spec.applyEdit hop a e = { a with opts := Spec.addSem hop n v a.opts }) (h : AddOutcome ms a n v r) :
    EditOutcome a n e r.1 r.2 ∧
      (r.1 = 0 → v.length > 65804 ∨ (n = lastNum a.opts ∧ ¬ repeatable n = true) ∨ ms ≠ 0) := by
  rcases h with ⟨k1, hop, k2, k3⟩ | ⟨k1, k2, k3⟩
  · exact ⟨Or.inl ⟨k1, hop, k2, by rw [hsem]; exact k3⟩, fun h0 => absurd h0 k1⟩
  · exact ⟨Or.inr ⟨k1, k2⟩, fun _ => k3⟩

/-- **coap_insert_option refines the abstract insertion**, for every abstract message the builders/editors can
produce (`Shape`), every option number, every value (too long included), every capacity: the result is again a
representing PDU (never out of bounds), accepted ⇒ it represents `Spec.applyEdit … (.insert n v)` (append path, the six
next-header rewrite cases of the middle path, implicit Hop-Limit), refused ⇒ see `EditOutcome`; and a call is refused
only for a value the wire format cannot carry, an illegal repetition, or lack of space. -/
theorem insert_refines (ms : Nat) (a : Msg) (n : Nat) (v : Bytes) (hs : Shape a) (hn : n ≤ 65535) :
    ∃ rc a', insertOption (conc ms a) n v = R.ok (rc, conc ms a') ∧ Shape a' ∧
      EditOutcome a n (.insert n v) rc a' ∧
      (rc = 0 → v.length > 65804 ∨ (n = lastNum a.opts ∧ ¬ repeatable n = true) ∨ ms ≠ 0) :=
  ⟨_, _, insertOption_total ms a n v hs hn, absInsert_shape ms a n v hs hn,
    editOutcome_of_add _ (fun _ => rfl) (absInsert_cases ms a n v)⟩

/-- the middle path in closed form: an insertion below the highest option
number that fits is accepted, returns the encoded size, never adds anything else, and yields exactly the stable
insertion — whichever of the six header-rewrite cases the following option needs -/
theorem insert_refines_middle (ms : Nat) (a : Msg) (n : Nat) (v : Bytes) (hs : Shape a) (hn : n < lastNum a.opts)
    (hv : v.length ≤ 65804) (hfit : fits ms a (Spec.encOpt (n - prevNum n a.opts) v).length) :
    insertOption (conc ms a) n v =
      R.ok ((Spec.encOpt (n - prevNum n a.opts) v).length, conc ms (Spec.applyEdit false a (.insert n v))) := by
  have hn2 : n ≤ 65535 := by
    -- the highest number is the number of an option of the message
    obtain ⟨x, hx, he⟩ := hasOpt_mem (lastNum_hasOpt a.opts (by omega))
    have := (hs.2.2 x hx).1
    omega
  rw [insertOption_total ms a n v hs hn2]
  unfold absInsert
  rw [if_neg (by omega), if_neg (by omega)]
  unfold absPlace
  have hfit' : ms = 0 ∨ (conc ms a).buf.length + (Spec.encOpt (n - prevNum n a.opts) v).length ≤ ms := hfit
  rw [if_pos hfit']
  rfl

/-- S, D17: removing an option number the message does not hold changes NOTHING — whatever options follow -/
theorem remove_absent_changes_nothing (hop : Bool) (m : Msg) (n : Nat) (h : Spec.hasOpt n m.opts = false) :
    Spec.applyEdit hop m (.remove n) = m := by
  show ({ m with opts := Spec.removeFirst n m.opts } : Msg) = m
  rw [removeFirst_absent n m.opts h]

/-- **coap_remove_option refines the abstract removal**, unconditionally: the first option with that number goes (the
following option's delta absorbs its delta — six header-growth cases — or `max_opt` falls back when it was the last),
everything else stays; return value 1 iff there was such an option -/
theorem remove_refines (ms : Nat) (a : Msg) (n : Nat) (hs : Shape a) :
    removeOption (conc ms a) n =
      R.ok ((if Spec.hasOpt n a.opts = true then 1 else 0), conc ms (Spec.applyEdit false a (.remove n))) ∧
    Shape (Spec.applyEdit false a (.remove n)) := by
  refine ⟨?_, Shape_remove a n hs⟩
  rw [removeOption_conc ms a n hs]
  cases hh : Spec.hasOpt n a.opts with
  | true => rfl
  | false => rw [remove_absent_changes_nothing false a n hh]; rfl

/-- **coap_update_option refines the abstract update**: present ⇒ the first option with that number gets the new value
in place (any length change, capacity needed only for growth), absent ⇒ it is an insertion (`insert_refines`) -/
theorem update_refines (ms : Nat) (a : Msg) (n : Nat) (v : Bytes) (hs : Shape a) (hn : n ≤ 65535) :
    ∃ rc a', updateOption (conc ms a) n v = R.ok (rc, conc ms a') ∧ Shape a' ∧
      (Spec.hasOpt n a.opts = true →
        (rc ≠ 0 ∧ a' = Spec.applyEdit false a (.update n v)) ∨ (rc = 0 ∧ a' = a ∧ (v.length > 65804 ∨ ms ≠ 0))) ∧
      (Spec.hasOpt n a.opts = false → EditOutcome a n (.update n v) rc a' ∧
        (rc = 0 → v.length > 65804 ∨ (n = lastNum a.opts ∧ ¬ repeatable n = true) ∨ ms ≠ 0)) := by
  refine ⟨_, _, updateOption_total ms a n v hs hn, absCall_shape ms a (.updateOption n v) hs hn, ?_, ?_⟩
  · intro hh
    unfold absUpdate
    by_cases hv : v.length > 65804
    · rw [if_pos hv]; exact Or.inr ⟨rfl, rfl, Or.inl hv⟩
    · rw [if_neg hv, if_pos hh]
      split
      · exact Or.inl ⟨Nat.one_ne_zero, (applyEdit_update_present false a n v hh).symm⟩
      · rename_i hnf
        exact Or.inr ⟨rfl, rfl, Or.inr (fun h0 => hnf (Or.inr (Or.inl h0)))⟩
  · intro hh
    rw [absUpdate_absent ms a n v hh]
    exact editOutcome_of_add _ (fun hop => applyEdit_update_absent hop a n v hh) (absInsert_cases ms a n v)

/-- the replacement path in closed form: a present option whose new encoding fits (always, when it does not grow) is
replaced, return value 1 -/
theorem update_refines_present (ms : Nat) (a : Msg) (n : Nat) (v : Bytes) (hs : Shape a) (hv : v.length ≤ 65804)
    (hh : Spec.hasOpt n a.opts = true)
    (hfit : (conc ms (Spec.applyEdit false a (.update n v))).buf.length ≤ (conc ms a).buf.length ∨ ms = 0 ∨
            (conc ms (Spec.applyEdit false a (.update n v))).buf.length ≤ ms) :
    updateOption (conc ms a) n v = R.ok (1, conc ms (Spec.applyEdit false a (.update n v))) := by
  rw [applyEdit_update_present false a n v hh] at hfit ⊢
  rw [updateOption_found ms a n v hs hv hh, if_pos hfit]

/-- **the return code of coap_remove_option is the one S prescribes (D17)**, every abstract message the API can produce,
every number, every capacity: on a message WITHOUT option `n` the call returns 0 and the PDU is the one it was — byte for
byte, `max_opt` and `data` included, whichever higher-numbered options follow; on a message WITH it the call returns 1
and the PDU represents the abstract removal -/
theorem remove_rc_prescribed (ms : Nat) (a : Msg) (n : Nat) (hs : Shape a) :
    (Spec.hasOpt n a.opts = false → removeOption (conc ms a) n = R.ok (0, conc ms a)) ∧
    (Spec.hasOpt n a.opts = true →
      removeOption (conc ms a) n = R.ok (1, conc ms (Spec.applyEdit false a (.remove n)))) := by
  have h := (remove_refines ms a n hs).1
  constructor
  · intro hh
    rw [h, remove_absent_changes_nothing false a n hh]
    simp [hh]
  · intro hh
    rw [h]
    simp [hh]

/-- **C04 with prescribed return codes, whole sequences**: `edits_then_roundtrip`'s trace is one in which, in addition,
every removal returned 1 exactly when the abstract message REACHED SO FAR held the option and 0 exactly when it did not
(`EditTraceRc`, D17) — so the return codes M reports for removals are a function of the abstract run alone, and the
oracle may demand them of the implementation -/
theorem edits_rc_prescribed (ms : Nat) (a : Msg) (es : List Spec.Edit) (hs : Shape a) (hn : ∀ e ∈ es, editNumOk e) :
    ∃ rcs a', run (conc ms a) (es.map callOf) = R.ok (rcs, conc ms a') ∧ EditTraceRc a es rcs a' ∧ Shape a' := by
  have hc : ∀ c ∈ es.map callOf, callNumOk c := by
    intro c hc
    obtain ⟨e, he, rfl⟩ := List.mem_map.mp hc
    have := hn e he
    cases e <;> exact this
  obtain ⟨rcs, a', h1, h2, h3⟩ := run_refines_rc ms a (es.map callOf) hs hc
  exact ⟨rcs, a', h1, editTraceRc_of_traceRc es a a' rcs h2, h3⟩

/-- **C04, M side, whole sequences**: any sequence of option insertions, updates, removals and token replacements,
performed by M on the PDU representing `a` (any capacity — refusals included), never leaves the buffer and ends on the
PDU that represents the same edits applied to the abstract (token, ordered option list, payload) model; and whenever that
abstract result is well-formed for a framing (the caller kept the RFC's per-option length limits), the edited PDU
serialises and the bytes decode to exactly that model (`onWire`: D3). -/
theorem edits_then_roundtrip (ms : Nat) (a : Msg) (es : List Spec.Edit) (hs : Shape a) (hn : ∀ e ∈ es, editNumOk e) :
    ∃ rcs a', run (conc ms a) (es.map callOf) = R.ok (rcs, conc ms a') ∧ EditTrace a es rcs a' ∧ Shape a' ∧
      ∀ p, Spec.WF p a' →
        ∃ bytes, serialise p (conc ms a') = some bytes ∧ Spec.decode p bytes = some (Spec.onWire p a') := by
  -- the trace with the prescribed return codes (D17) is the stronger one: `EditTrace` is what is left when they are forgotten
  obtain ⟨rcs, a', h1, h2, h3⟩ := edits_rc_prescribed ms a es hs hn
  refine ⟨rcs, a', h1, editTrace_of_editTraceRc h2, h3, fun p hwf => roundtrip_of_refined p ms a' hwf⟩

/-- non-vacuity (the witness of seed C04-12): options 11, 12, 14, 60 and a payload; removing the absent 27 (Block1 — what
libcoap does on every 4.xx / 5.xx response), 13 or 1 returns 0 and leaves everything in place, 60 / 14 / 11 included -/
example : removeOption (conc 0 ⟨0, 1, 7, [1, 2], [(11, [0x61]), (12, [0]), (14, [0x3c]), (60, [0x10])], [9]⟩) 27 =
    R.ok (0, conc 0 ⟨0, 1, 7, [1, 2], [(11, [0x61]), (12, [0]), (14, [0x3c]), (60, [0x10])], [9]⟩) := by decide
example : removeOption (conc 0 ⟨0, 1, 7, [1, 2], [(11, [0x61]), (12, [0]), (14, [0x3c]), (60, [0x10])], [9]⟩) 27 =
    R.ok (0, conc 0 ⟨0, 1, 7, [1, 2], [(11, [0x61]), (12, [0]), (14, [0x3c]), (60, [0x10])], [9]⟩) :=
  (remove_rc_prescribed 0 ⟨0, 1, 7, [1, 2], [(11, [0x61]), (12, [0]), (14, [0x3c]), (60, [0x10])], [9]⟩ 27
    (by unfold Shape; decide)).1 (by decide)
example : run (conc 0 ⟨0, 1, 7, [1, 2], [(11, [0x61]), (12, [0]), (14, [0x3c]), (60, [0x10])], [9]⟩)
    ([.remove 13, .remove 1, .remove 12, .remove 12, .remove 61].map callOf) =
    R.ok ([0, 0, 1, 0, 0], conc 0 ⟨0, 1, 7, [1, 2], [(11, [0x61]), (14, [0x3c]), (60, [0x10])], [9]⟩) := by decide
example : EditTraceRc ⟨0, 1, 7, [1, 2], [(11, [0x61]), (12, [0]), (60, [0x10])], [9]⟩
    [.remove 27, .remove 12, .remove 12] [0, 1, 0] ⟨0, 1, 7, [1, 2], [(11, [0x61]), (60, [0x10])], [9]⟩ :=
  EditTraceRc.refused (by unfold EditRc; decide) (EditTraceRc.accepted false (by decide) (by decide)
    (by unfold EditRc; decide) (EditTraceRc.refused (by unfold EditRc; decide) (EditTraceRc.nil _)))
/-- … and the prescription has teeth: "returned 1" for the absent 27 is NOT a trace of S, whatever message it ends on -/
example : ¬ ∃ a', EditTraceRc ⟨0, 1, 7, [], [(11, [0x61]), (60, [0x10])], []⟩ [.remove 27] [1] a' := by
  rintro ⟨a', h⟩
  cases h with
  | accepted hop _ _ hrc _ => unfold EditRc at hrc; revert hrc; decide

/-- edits of RECEIVED messages start from a representing PDU too: what `coap_pdu_parse` leaves behind for an accepted
message (`M.ofParsed`: the received bytes behind the fixed header, `max_opt` = last option number, `data` = offset
behind the marker) is `conc ms m` for the decoded `m`, on every framing, and `m` satisfies `Shape` -/
theorem parsed_start_is_refined (ms : Nat) (p : Proto) (wire : Bytes) (m : Msg) (h : Spec.decode p wire = some m) :
    ofParsed ms m (wire.drop (headerSize p (wire.headD 0).toNat)) = conc ms m ∧ Shape m := by
  cases p with
  | udp =>
    rcases wire with _ | ⟨b0, _ | ⟨c, _ | ⟨m1, _ | ⟨m2, rest⟩⟩⟩⟩ <;> simp only [Spec.decode] at h <;> try (cases h)
    split at h
    · exact ofParsed_eq_conc ms _ _ _ _ rest m h
    · cases h
  | ws =>
    rcases wire with _ | ⟨b0, _ | ⟨c, rest⟩⟩ <;> simp only [Spec.decode] at h <;> try (cases h)
    exact ofParsed_eq_conc ms _ _ _ _ rest m h
  | tcp =>
    rcases wire with _ | ⟨b0, r0⟩
    · simp [Spec.decode] at h
    · simp only [Spec.decode] at h
      cases hL : Spec.tcpLen (b0.toNat / 16) r0 with
      | none => simp [hL] at h
      | some q =>
        obtain ⟨len, r1⟩ := q
        simp only [hL] at h
        rcases r1 with _ | ⟨c, r2⟩
        · simp at h
        · simp only at h
          cases hT : Spec.tokenField (b0.toNat % 16) r2 with
          | none => simp [hT] at h
          | some tf =>
            simp only [hT] at h
            split at h
            · rw [show (b0 :: r0).drop (headerSize .tcp ((b0 :: r0).headD 0).toNat) = r2 from tcpLen_drop b0 c r0 r2 len hL]
              exact ofParsed_eq_conc ms _ _ _ _ r2 m h
            · cases h

/-- well-formedness is kept: if the message was well-formed and every inserted / updated value respects the RFC length
limit of its option (`editLenOk`), the edited abstract message is well-formed again (on tcp: as long as it still fits
the 32-bit extended length) — including D13's implicit Hop-Limit -/
theorem edits_keep_wellformed (p : Proto) (a a' : Msg) (es : List Spec.Edit) (rcs : List Nat) (h : EditTrace a es rcs a')
    (hs : Shape a') (hwf : Spec.WF p a) (hc : a.code ≠ 0) (he : ∀ e ∈ es, editLenOk a.code e)
    (htcp : p = .tcp → (Spec.encRest a').length < 65805 + 4294967296) : Spec.WF p a' := by
  obtain ⟨w1, w2, w3, _, w5, _, _⟩ := hwf
  obtain ⟨k1, k2, k3, k4⟩ := editTrace_keeps h (allLen_of_optsOk w5) he
  refine ⟨by rw [k2]; exact w1, by rw [k1]; exact w2, by rw [k3]; exact w3, hs.1, ?_, ?_, htcp⟩
  · rw [k1]
    exact optsOk_of_sorted a.code 0 a'.opts hs.2.1
      (fun o ho => ⟨Nat.zero_le _, (hs.2.2 o ho).1, (hs.2.2 o ho).2, k4 o ho⟩)
  · intro h0; rw [k1] at h0; exact absurd h0 hc

/-- **C04 end to end** (hypotheses on the inputs only): a well-formed non-Empty message, any sequence of edits whose
values respect the RFC length limits, any capacity ⇒ M ends on the PDU representing the same edits applied to the
abstract model, and its serialisation decodes to exactly that model -/
theorem edits_then_roundtrip_wf (p : Proto) (ms : Nat) (a : Msg) (es : List Spec.Edit) (hwf : Spec.WF p a) (hc : a.code ≠ 0)
    (hn : ∀ e ∈ es, editNumOk e) (he : ∀ e ∈ es, editLenOk a.code e) :
    ∃ rcs a', run (conc ms a) (es.map callOf) = R.ok (rcs, conc ms a') ∧ EditTrace a es rcs a' ∧
      ((p = .tcp → (Spec.encRest a').length < 65805 + 4294967296) →
        Spec.WF p a' ∧
        ∃ bytes, serialise p (conc ms a') = some bytes ∧ Spec.decode p bytes = some (Spec.onWire p a')) := by
  have hs : Shape a := Shape_of_optsOk a hwf.2.2.2.1 hwf.2.2.2.2.1
  obtain ⟨rcs, a', h1, h2, h3, h4⟩ := edits_then_roundtrip ms a es hs hn
  refine ⟨rcs, a', h1, h2, ?_⟩
  intro htcp
  have hwf' := edits_keep_wellformed p a a' es rcs h2 h3 hwf hc he htcp
  exact ⟨hwf', h4 p hwf'⟩

/-- the message used below: 9 bytes behind the header; option 300 is encoded with a two-byte delta extension (297) -/
example : Shape ⟨0, 1, 7, [1], [(3, [0x68]), (300, [1])], [9]⟩ ∧
    (conc 0 ⟨0, 1, 7, [1], [(3, [0x68]), (300, [1])], [9]⟩).buf = [1, 0x31, 0x68, 0xe1, 0x00, 0x1c, 1, 0xff, 9] := by
  unfold Shape; decide

/-- insertion in the middle: the following option's header shrinks by two bytes (delta 297 → 10) … -/
example : insertOption (conc 0 ⟨0, 1, 7, [1], [(3, [0x68]), (300, [1])], [9]⟩) 290 [0x62] =
    R.ok (4, conc 0 ⟨0, 1, 7, [1], [(3, [0x68]), (290, [0x62]), (300, [1])], [9]⟩) := by decide
/-- … by one byte (delta 297 → 200) -/
example : insertOption (conc 0 ⟨0, 1, 7, [1], [(3, [0x68]), (300, [1])], [9]⟩) 100 [0x62] =
    R.ok (3, conc 0 ⟨0, 1, 7, [1], [(3, [0x68]), (100, [0x62]), (300, [1])], [9]⟩) := by decide
/-- refused for lack of space (capacity 11: 9 + 3 > 11 — the later shrink by one is not counted by the code), unchanged -/
example : insertOption (conc 11 ⟨0, 1, 7, [1], [(3, [0x68]), (300, [1])], [9]⟩) 100 [0x62] =
    R.ok (0, conc 11 ⟨0, 1, 7, [1], [(3, [0x68]), (300, [1])], [9]⟩) := by decide
/-- the instance of `insert_refines` for that call (hypotheses discharged by evaluation) -/
example : ∃ rc a', insertOption (conc 11 ⟨0, 1, 7, [1], [(3, [0x68]), (300, [1])], [9]⟩) 100 [0x62] = R.ok (rc, conc 11 a') ∧
    Shape a' ∧ EditOutcome ⟨0, 1, 7, [1], [(3, [0x68]), (300, [1])], [9]⟩ 100 (.insert 100 [0x62]) rc a' ∧
    (rc = 0 → ([0x62] : Bytes).length > 65804 ∨
      (100 = lastNum [(3, [0x68]), (300, [(1 : UInt8)])] ∧ ¬ repeatable 100 = true) ∨ 11 ≠ 0) :=
  insert_refines 11 ⟨0, 1, 7, [1], [(3, [0x68]), (300, [1])], [9]⟩ 100 [0x62] (by unfold Shape; decide) (by decide)
example : insertOption (conc 12 ⟨0, 1, 7, [1], [(3, [0x68]), (300, [1])], [9]⟩) 100 [0x62] =
    R.ok ((Spec.encOpt (100 - prevNum 100 [(3, [0x68]), (300, [(1 : UInt8)])]) [0x62]).length,
          conc 12 (Spec.applyEdit false ⟨0, 1, 7, [1], [(3, [0x68]), (300, [1])], [9]⟩ (.insert 100 [0x62]))) :=
  insert_refines_middle 12 ⟨0, 1, 7, [1], [(3, [0x68]), (300, [1])], [9]⟩ 100 [0x62] (by unfold Shape; decide)
    (by decide) (by decide) (by unfold fits; decide)
/-- removal: the following option's header grows by two bytes (delta 10 → 297) -/
example : removeOption (conc 0 ⟨0, 1, 7, [1], [(3, [0x68]), (290, [0x62]), (300, [1])], [9]⟩) 290 =
    R.ok (1, conc 0 ⟨0, 1, 7, [1], [(3, [0x68]), (300, [1])], [9]⟩) := by decide
example : removeOption (conc 0 ⟨0, 1, 7, [1], [(3, [0x68]), (290, [0x62]), (300, [1])], [9]⟩) 290 =
      R.ok ((if Spec.hasOpt 290 [(3, [0x68]), (290, [0x62]), (300, [(1 : UInt8)])] = true then 1 else 0),
        conc 0 (Spec.applyEdit false ⟨0, 1, 7, [1], [(3, [0x68]), (290, [0x62]), (300, [1])], [9]⟩ (.remove 290))) :=
  (remove_refines 0 ⟨0, 1, 7, [1], [(3, [0x68]), (290, [0x62]), (300, [1])], [9]⟩ 290 (by unfold Shape; decide)).1
/-- update in place: the value grows from 1 to 13 bytes (its length field gains an extension byte) -/
example : updateOption (conc 0 ⟨0, 1, 7, [1], [(3, [0x68]), (290, [0x62]), (300, [1])], [9]⟩) 290 [1,2,3,4,5,6,7,8,9,10,11,12,13] =
    R.ok (1, conc 0 ⟨0, 1, 7, [1], [(3, [0x68]), (290, [1,2,3,4,5,6,7,8,9,10,11,12,13]), (300, [1])], [9]⟩) := by decide
example : updateOption (conc 0 ⟨0, 1, 7, [1], [(3, [0x68]), (290, [0x62]), (300, [1])], [9]⟩) 290 [] =
    R.ok (1, conc 0 (Spec.applyEdit false ⟨0, 1, 7, [1], [(3, [0x68]), (290, [0x62]), (300, [1])], [9]⟩ (.update 290 []))) :=
  update_refines_present 0 ⟨0, 1, 7, [1], [(3, [0x68]), (290, [0x62]), (300, [1])], [9]⟩ 290 [] (by unfold Shape; decide)
    (by decide) (by decide) (by decide)
/-- a sequence of all four kinds of edit, ending with a Proxy-Uri that brings its implicit Hop-Limit (D13) -/
example : run (conc 0 ⟨0, 1, 7, [1], [(3, [0x68]), (300, [1])], [9]⟩)
    ([.insert 290 [0x62], .update 3 [0x69], .remove 300, .setToken [5, 6], .remove 290, .insert 35 [0x78]].map callOf) =
    R.ok ([4, 1, 1, 1, 1, 3], conc 0 ⟨0, 1, 7, [5, 6], [(3, [0x69]), (16, [16]), (35, [0x78])], [9]⟩) := by decide
example : Spec.WF .tcp ⟨0, 1, 7, [5, 6], [(3, [0x69]), (16, [16]), (35, [0x78])], [9]⟩ := by decide
example : EditTrace ⟨0, 1, 7, [1], [(3, [0x68]), (300, [1])], [9]⟩
    [.insert 290 [0x62], .remove 300, .insert 35 [0x78]] [4, 1, 3]
    ⟨0, 1, 7, [1], [(3, [0x68]), (35, [0x78]), (290, [0x62])], [9]⟩ :=
  EditTrace.accepted false (by decide) (by decide) (EditTrace.accepted false (by decide) (by decide)
    (EditTrace.accepted false (by decide) (by decide) (EditTrace.nil _)))
/-- a received datagram (GET, token 01, Uri-Path "a", option 300, payload 09) and the PDU the parser leaves behind -/
example : Spec.decode .udp [0x41, 0x01, 0x00, 0x07, 1, 0xb1, 0x61, 0xe1, 0x00, 0x14, 1, 0xff, 9] =
    some ⟨0, 1, 7, [1], [(11, [0x61]), (300, [1])], [9]⟩ := by decide
example : ofParsed 0 ⟨0, 1, 7, [1], [(11, [0x61]), (300, [1])], [9]⟩ [1, 0xb1, 0x61, 0xe1, 0x00, 0x14, 1, 0xff, 9] =
    conc 0 ⟨0, 1, 7, [1], [(11, [0x61]), (300, [1])], [9]⟩ := by decide
example : Spec.WF .tcp ⟨0, 1, 7, [1], [(11, [0x61]), (300, [1])], [9]⟩ ∧
    (∀ e ∈ [Spec.Edit.insert 290 [0x62], .update 11 [0x69], .remove 300, .setToken [5, 6]], editNumOk e) ∧
    (∀ e ∈ [Spec.Edit.insert 290 [0x62], .update 11 [0x69], .remove 300, .setToken [5, 6]], editLenOk 1 e) := by
  refine ⟨by decide, ?_, ?_⟩ <;> (intro e he; simp at he; rcases he with rfl | rfl | rfl | rfl <;> simp [editNumOk, editLenOk] <;> decide)
/-- the finding hop-limit-left-by-refused-proxy inside an edit sequence: the refused Proxy-Uri (capacity 12: Hop-Limit fits, the 20-byte
Proxy-Uri does not) leaves nothing behind; libcoap before the fix left the Hop-Limit:
`R.ok ([0], conc 12 ⟨0, 1, 1, [], [(16, [16])], []⟩)`. -/
example : run (conc 12 ⟨0, 1, 1, [], [], []⟩) ([.insert 35 (List.replicate 20 0x61)].map callOf) =
    R.ok ([0], conc 12 ⟨0, 1, 1, [], [], []⟩) := by decide
example : EditTrace ⟨0, 1, 1, [], [], []⟩ [.insert 35 (List.replicate 20 0x61)] [0] ⟨0, 1, 1, [], [], []⟩ :=
  EditTrace.refused (EditTrace.nil _)
/-- … also through the middle path (Proxy-Uri below max_opt: Hop-Limit inserted before option 300, Proxy-Uri refused,
Hop-Limit removed again — insertion and removal rewrite the header of option 300 there and back) -/
example : run (conc 14 ⟨0, 1, 1, [], [(300, [1])], []⟩) [.addOption 35 (List.replicate 20 0x61)] =
    R.ok ([0], conc 14 ⟨0, 1, 1, [], [(300, [1])], []⟩) := by decide

/-- S: the abstract copy IS the C04 edit sequence "token replacement, then one removal per occurrence of a named
option", applied to the original without its payload and with the new message id -/
theorem duplicate_is_edit_sequence (m : Msg) (mid : Nat) (tok : Bytes) (drop : Nat → Bool) :
    Spec.duplicate false m mid tok drop =
      (Spec.dupEdits m tok drop).foldl (Spec.applyEdit false) { m with mid := mid, payload := [] } := by
  unfold Spec.dupEdits
  rw [List.foldl_cons]
  have h1 : Spec.applyEdit false { m with mid := mid, payload := [] } (.setToken tok) =
      ⟨m.type, m.code, mid, tok, m.opts, []⟩ := rfl
  rw [h1, foldl_applyEdit_removes]
  simp only []
  rw [foldl_remove_keep]
  rfl

/-- S, frame: the copy has the new token, no payload, the original's type and code; its options are a sublist of
the original's (numbers, values and relative order kept), namely exactly those the filter does not name -/
theorem duplicate_frame (m : Msg) (mid : Nat) (tok : Bytes) (drop : Nat → Bool) :
    (Spec.duplicate false m mid tok drop).type = m.type ∧ (Spec.duplicate false m mid tok drop).code = m.code ∧
    (Spec.duplicate false m mid tok drop).mid = mid ∧ (Spec.duplicate false m mid tok drop).token = tok ∧
    (Spec.duplicate false m mid tok drop).payload = [] ∧
    (Spec.duplicate false m mid tok drop).opts.Sublist m.opts ∧
    (∀ o, o ∈ (Spec.duplicate false m mid tok drop).opts ↔ o ∈ m.opts ∧ drop o.1 = false) ∧
    ((∀ o ∈ m.opts, drop o.1 = false) → (Spec.duplicate false m mid tok drop).opts = m.opts) := by
  refine ⟨rfl, rfl, rfl, rfl, rfl, ?_, ?_, ?_⟩
  · exact List.filter_sublist
  · intro o
    show o ∈ Spec.keep drop m.opts ↔ _
    simp [Spec.keep]
  · intro h
    show Spec.keep drop m.opts = m.opts
    unfold Spec.keep
    rw [List.filter_eq_self]
    intro o ho
    simp [h o ho]

/-- **coap_pdu_duplicate_lkd, `drop_options == NULL` (one memcpy of the option area), closed form**: on the PDU
representing ANY abstract message `a` (any token, options, payload), for every new token, message id, session size and
capacity: NULL exactly when the capacity `max ms smax` is above what coap_pdu_init accepts, the token is longer than
65804 bytes, or token field + option area do not fit; otherwise the PDU representing the abstract copy — new id, new
token (whatever the two token lengths are), all options with their numbers, values and order, no payload -/
theorem duplicate_memcpy_refines (ms : Nat) (a : Msg) (mid smax : Nat) (t : Bytes) :
    duplicate (conc ms a) mid smax t none =
      R.ok (if max ms smax ≤ 8388858 ∧ t.length ≤ 65804 ∧
               (max ms smax = 0 ∨ (Spec.encToken t).length + (Spec.encOpts 0 a.opts).length ≤ max ms smax)
            then some (conc (max ms smax) (Spec.duplicate false a mid t (fun _ => false))) else none) := by
  rw [duplicate_keep_all, duplicate_start]
  by_cases hc : max ms smax ≤ 8388858 ∧ t.length ≤ 65804 ∧ (max ms smax = 0 ∨ (Spec.encToken t).length ≤ max ms smax)
  · rw [if_pos hc, dupFast_conc]
    by_cases hfit : max ms smax = 0 ∨ (Spec.encToken t).length + (Spec.encOpts 0 a.opts).length ≤ max ms smax
    · rw [if_pos hfit, if_pos ⟨hc.1, hc.2.1, hfit⟩]
    · rw [if_neg hfit, if_neg (fun h => hfit h.2.2)]
  · rw [if_neg hc, if_neg (fun h => hc ⟨h.1, h.2.1, by omega⟩)]

/-- **coap_pdu_duplicate_lkd with a drop filter** (options re-added one by one through coap_add_option_internal): on the
PDU representing any `a` with `Shape`, for every filter, token, id and capacity the result is NULL — and then the
capacity is limited or above coap_pdu_init's maximum, or the token is too long, or `a` carries a non-repeatable option
(the only candidates for a refused repetition) — or the PDU representing the abstract copy: exactly the options the
filter does not name, numbers / values / order kept; D13: Hop-Limit = 16 added only where `dupHopOk` (a request copy
left with Proxy-Uri / Proxy-Scheme and without Hop-Limit).  Never out of bounds, never a partial copy. -/
theorem duplicate_filter_refines (ms : Nat) (a : Msg) (mid smax : Nat) (t : Bytes) (drop : Nat → Bool) (hs : Shape a) :
    ∃ r, duplicate (conc ms a) mid smax t (some drop) = R.ok r ∧
      ((r = none ∧ (¬ (max ms smax ≤ 8388858) ∨ t.length > 65804 ∨ max ms smax ≠ 0 ∨
                     ∃ o ∈ a.opts, ¬ repeatable o.1 = true)) ∨
       ∃ hop : Bool, (hop = true → Spec.dupHopOk a.code (Spec.keep drop a.opts) = true) ∧
         r = some (conc (max ms smax) (Spec.duplicate hop a mid t drop)) ∧ Shape (Spec.duplicate hop a mid t drop)) := by
  rw [duplicate_start]
  by_cases hc : max ms smax ≤ 8388858 ∧ t.length ≤ 65804 ∧ (max ms smax = 0 ∨ (Spec.encToken t).length ≤ max ms smax)
  · rw [if_pos hc]
    show ∃ r, dupCopy drop (conc ms a) (items (conc ms a)) _ = R.ok r ∧ _
    rw [items_conc ms a hs, ← encToken_length]
    have hbuf : (conc ms a).buf = Spec.encToken a.token ++ (Spec.encOpts 0 a.opts ++ Spec.encPayload a.payload) := rfl
    have hs0 : Shape ⟨a.type, a.code, mid, t, [], []⟩ := ⟨hc.2.1, List.Pairwise.nil, fun o ho => by cases ho⟩
    obtain ⟨r, e1, e2⟩ := dupCopy_conc (max ms smax) drop (conc ms a) a.type a.code mid t a.opts
      (Spec.encToken a.token) (Spec.encPayload a.payload) 0 [] [] hbuf (optsB_of_shape hs) hs0
      (fun x hx => by cases hx) (Or.inl rfl)
    refine ⟨r, e1, ?_⟩
    rcases e2 with ⟨j1, j2⟩ | ⟨bo', j1, j2, j3⟩
    · exact Or.inl ⟨j1, Or.inr (Or.inr j2)⟩
    · right
      rw [List.nil_append] at j2
      rcases j2 with rfl | ⟨hok, rfl⟩
      · exact ⟨false, (fun h => by cases h), j1, j3⟩
      · exact ⟨true, (fun _ => hok), j1, j3⟩
  · rw [if_neg hc]
    refine ⟨none, rfl, Or.inl ⟨rfl, ?_⟩⟩
    have := encToken_length t
    omega

/-- **C04 with a duplication at the end of the edit sequence**: any edits on the PDU representing `a` (any capacity),
then coap_pdu_duplicate_lkd with or without a filter: the edits end on the PDU representing the abstract edits
(`EditTrace`), the original is that PDU still (the function is pure in `old`), and the copy is NULL or the PDU —
with capacity `max ms smax` — representing the abstract copy `c` of the EDITED message; `c` satisfies `Shape`, so
`edits_then_roundtrip` applies to any further edits of the copy; and whenever `c` is well-formed for a framing its
serialisation decodes to exactly `c` -/
theorem edits_then_duplicate (ms : Nat) (a : Msg) (es : List Spec.Edit) (mid smax : Nat) (t : Bytes)
    (drop : Option (Nat → Bool)) (hs : Shape a) (hn : ∀ e ∈ es, editNumOk e) :
    ∃ rcs a', run (conc ms a) (es.map callOf) = R.ok (rcs, conc ms a') ∧ EditTrace a es rcs a' ∧
      ∃ r, duplicate (conc ms a') mid smax t drop = R.ok r ∧
        (r = none ∨
         ∃ (hop : Bool) (c : Msg),
           (hop = true → ∃ f, drop = some f ∧ Spec.dupHopOk a'.code (Spec.keep f a'.opts) = true) ∧
           c = Spec.duplicate hop a' mid t (drop.getD fun _ => false) ∧
           r = some (conc (max ms smax) c) ∧ Shape c ∧
           ∀ p, Spec.WF p c →
             ∃ bytes, serialise p (conc (max ms smax) c) = some bytes ∧ Spec.decode p bytes = some (Spec.onWire p c)) := by
  obtain ⟨rcs, a', h1, h2, h3, _⟩ := edits_then_roundtrip ms a es hs hn
  refine ⟨rcs, a', h1, h2, ?_⟩
  have hrt : ∀ (c : Msg) (p : Proto), Spec.WF p c →
      ∃ bytes, serialise p (conc (max ms smax) c) = some bytes ∧ Spec.decode p bytes = some (Spec.onWire p c) :=
    fun c p hwf => roundtrip_of_refined p (max ms smax) c hwf
  cases drop with
  | none =>
    refine ⟨_, duplicate_memcpy_refines ms a' mid smax t, ?_⟩
    by_cases hc : max ms smax ≤ 8388858 ∧ t.length ≤ 65804 ∧
        (max ms smax = 0 ∨ (Spec.encToken t).length + (Spec.encOpts 0 a'.opts).length ≤ max ms smax)
    · rw [if_pos hc]
      right
      refine ⟨false, _, (fun h => by cases h), rfl, rfl, ?_, hrt _⟩
      show Shape (Spec.duplicate false a' mid t (fun _ => false))
      rw [duplicate_keep_all]
      exact ⟨hc.2.1, h3.2.1, h3.2.2⟩
    · rw [if_neg hc]; exact Or.inl rfl
  | some f =>
    obtain ⟨r, e1, e2⟩ := duplicate_filter_refines ms a' mid smax t f h3
    refine ⟨r, e1, ?_⟩
    rcases e2 with ⟨j, _⟩ | ⟨hop, j1, j2, j3⟩
    · exact Or.inl j
    · right
      exact ⟨hop, _, (fun h => ⟨f, rfl, j1 h⟩), rfl, j2, j3, hrt _⟩

/-! non-vacuity of the duplication theorems (by evaluation of M): the message of the examples below, copied … -/

/-- … by memcpy with a LONGER token (1 → 3 bytes): all options arrive, the payload does not -/
example : duplicate (conc 0 ⟨0, 1, 7, [1], [(3, [0x68]), (300, [1])], [9]⟩) 8 1152 [5, 6, 7] none =
    R.ok (some (conc 1152 ⟨0, 1, 8, [5, 6, 7], [(3, [0x68]), (300, [1])], []⟩)) := by decide
/-- … with a SHORTER token (empty) and an exactly fitting capacity (7 option bytes), one byte less: NULL -/
example : duplicate (conc 0 ⟨0, 1, 7, [1], [(3, [0x68]), (300, [1])], [9]⟩) 8 6 [] none =
    R.ok (some (conc 6 ⟨0, 1, 8, [], [(3, [0x68]), (300, [1])], []⟩)) := by decide
example : duplicate (conc 0 ⟨0, 1, 7, [1], [(3, [0x68]), (300, [1])], [9]⟩) 8 5 [] none = R.ok none := by decide
/-- … through a filter naming option 3: the header of option 300 is re-encoded for the new delta -/
example : duplicate (conc 0 ⟨0, 1, 7, [1], [(3, [0x68]), (300, [1])], [9]⟩) 8 1152 [5, 6, 7] (some fun n => n == 3) =
    R.ok (some (conc 1152 ⟨0, 1, 8, [5, 6, 7], [(300, [1])], []⟩)) := by decide
example : Spec.duplicate false ⟨0, 1, 7, [1], [(3, [0x68]), (300, [1])], [9]⟩ 8 [5, 6, 7] (fun n => n == 3) =
    ⟨0, 1, 8, [5, 6, 7], [(300, [1])], []⟩ := by decide
example : Spec.dupEdits ⟨0, 1, 7, [1], [(3, [0x68]), (11, [1]), (3, [2])], [9]⟩ [5] (fun n => n == 3) =
    [.setToken [5], .remove 3, .remove 3] := by decide
/-- D13 on a copy: the filter names Hop-Limit of a request carrying Proxy-Uri; the copy gets Hop-Limit = 16 -/
example : duplicate (conc 0 ⟨0, 1, 7, [], [(16, [5]), (35, [0x78])], []⟩) 8 1152 [] (some fun n => n == 16) =
    R.ok (some (conc 1152 (Spec.duplicate true ⟨0, 1, 7, [], [(16, [5]), (35, [0x78])], []⟩ 8 [] (fun n => n == 16)))) ∧
    Spec.dupHopOk 1 (Spec.keep (fun n => n == 16) [(16, [5]), (35, [0x78])]) = true := by decide
/-- a token that does not fit the copy's capacity: NULL (before fix 665adab: a copy WITHOUT token, options 3 and 11) -/
example : duplicate (conc 0 ⟨0, 1, 7, [1], [(3, [0x68]), (11, [0x61])], []⟩) 8 10 [1,2,3,4,5,6,7,8,9,10,11,12] none = R.ok none ∧
    duplicate (conc 0 ⟨0, 1, 7, [1], [(3, [0x68]), (11, [0x61])], []⟩) 8 10 [1,2,3,4,5,6,7,8,9,10,11,12] (some fun _ => false) =
      R.ok none := by decide
/-- the option filter: 6 slots for numbers ≤ 255, 2 above; a held number is set again without a slot -/
example : filterOf [] [11, 300, 1, 2, 3, 4, 5, 6, 7, 301, 302, 11] =
    ([1, 1, 1, 1, 1, 1, 1, 0, 0, 1, 0, 1], [11, 300, 1, 2, 3, 4, 5, 301]) := by decide

end Coap.C04
