import CoapVerif.Lemmas.PersistCodec
import CoapVerif.Lemmas.PersistFs
import CoapVerif.Lemmas.PersistHist
import CoapVerif.Lemmas.PersistCnt
/-
C17 — persisted observe state survives a crash at any point and is restored on restart.

  M  = Coap.Persist (CoapVerif/Model/Persist.lean): the updaters / loaders of src/coap_subscribe.c as sequences of
       stdio operations over a file system with process-kill semantics; the call-outs of src/coap_resource.c.
  S  = "file = old ∨ file = new", "new = old with the entry added / replaced / removed",
       Coap.Persist.Abs (created − deleted, registered − cancelled), RFC 7641 §3.4 order on Observe values.

SPEC DECISIONS
  D17.1 re-registering an observation with a new token is a cancellation followed by a registration (two updates).
  D17.2 "first Observe value sent after restart" is the first notification on a re-established observation.
  D17.3 "greater" is RFC 7641 §3.4 serial order on 24 bits; the plain-order theorem states its no-wrap hypothesis.
  D17.4 only observable dynamic resources are persisted (coap_add_resource saves nothing else).
  D17.5 deleting a resource is complete once it has left the dyn file.
-/
namespace Coap.C17
open Coap Coap.Persist Coap.Persist.Op Coap.Persist.Name

/-- dyn-resource record: the reader returns exactly what the writer was given (and leaves the rest of the file) -/
theorem record_roundtrip_dyn (r : DynRec) (rest : Bytes) (h : r.WF) :
    (dynRead (encDyn r ++ rest)).2 = some (r, rest) := by rw [dynRead_enc r rest h]

/-- observe record (with or without OSCORE information) -/
theorem record_roundtrip_obs (r : ObsRec) (rest : Bytes) (h : r.WF) :
    (obsRead (encObs r ++ rest)).2 = some (r, rest) := by rw [obsRead_enc r rest h]

/-- counter line `<name> <decimal>\n` through `fgets` / `strchr` / `atoi` -/
theorem record_roundtrip_cnt (r : CntRec) (rest : Bytes) (h : r.WF) :
    cntLine (encCnt r ++ rest) = some (some r, rest) :=
  cntLine_enc r rest h

theorem dyn_decodes (fuel : Nat) (r : DynRec) (rest : Bytes) (hr : r.WF) :
    dynAll (fuel + 1) (encDyn r ++ rest) = r :: dynAll fuel rest := by rw [dynAll, dynRead_enc r rest hr]

theorem obs_decodes (fuel : Nat) (r : ObsRec) (rest : Bytes) (hr : r.WF) :
    obsAll (fuel + 1) (encObs r ++ rest) = r :: obsAll fuel rest := by rw [obsAll, record_roundtrip_obs r rest hr]

theorem cnt_decodes (fuel : Nat) (r : CntRec) (rest : Bytes) (hr : r.WF) :
    cntAll (fuel + 1) (encCnt r ++ rest) = r :: cntAll fuel rest := by rw [cntAll, record_roundtrip_cnt r rest hr]

/-- whole files: decoding the concatenation of well-formed records gives the records back -/
theorem file_roundtrip_dyn (recs : List DynRec) (h : ∀ r ∈ recs, r.WF) (fuel : Nat) (hf : recs.length < fuel) :
    dynAll fuel (recs.flatMap encDyn) = recs :=
  file_roundtrip encDyn dynAll DynRec.WF dynRF.all_nil dyn_decodes recs h fuel hf

theorem file_roundtrip_obs (recs : List ObsRec) (h : ∀ r ∈ recs, r.WF) (fuel : Nat) (hf : recs.length < fuel) :
    obsAll fuel (recs.flatMap encObs) = recs :=
  file_roundtrip encObs obsAll ObsRec.WF obsRF.all_nil obs_decodes recs h fuel hf

theorem file_roundtrip_cnt (recs : List CntRec) (h : ∀ r ∈ recs, r.WF) (fuel : Nat) (hf : recs.length < fuel) :
    cntAll fuel (recs.flatMap encCnt) = recs :=
  file_roundtrip encCnt cntAll CntRec.WF cntRF.all_nil cnt_decodes recs h fuel hf

/-- **Never torn.**  For every updater, all arguments, every file system in which no save file is open for writing
(the state between two updates), every crash point `k` in the updater's op sequence and every amount `keep` of
unflushed stdio buffer that happened to reach the disk: after the kill EVERY save file holds what it held before the
update, or EVERY save file holds what it holds after the complete update. -/
theorem update_atomic (u : Updater) (fs : FS) (hq : NoMainWr fs) (k : Nat) (keep : Name → Nat) :
    (∀ G, (afterCrash (exec fs ((u.ops fs).take k)) keep).disk (main G) = fs.disk (main G)) ∨
    (∀ G, (afterCrash (exec fs ((u.ops fs).take k)) keep).disk (main G) = (exec fs (u.ops fs)).disk (main G)) :=
  shape_atomic u.file (u.ops fs) (updater_shape u fs) fs hq k keep

/-- an update only ever changes its own save file -/
theorem update_other_files_untouched (u : Updater) (fs : FS) (hq : NoMainWr fs) (G : FileId) (hG : G ≠ u.file) :
    (exec fs (u.ops fs)).disk (main G) = fs.disk (main G) :=
  (exec_shape (updater_shape u fs) fs hq).2 G hG

/-- the state between two updates is re-established by every complete update -/
theorem update_keeps_quiescent (u : Updater) (fs : FS) (hq : NoMainWr fs) : NoMainWr (exec fs (u.ops fs)) :=
  (exec_shape (updater_shape u fs) fs hq).1

/-! ### new = old with the entry added / replaced / removed -/

theorem update_functional_dyn_added (fs : FS) (hq : NoMainWr fs) (r : DynRec) :
    (exec fs (Persist.dynAdded fs r)).disk (main .dyn) =
      some (((dynFile fs).filter (·.name ≠ r.name)).flatMap encDyn ++ encDyn r) :=
  (dynRF.added fs r).2

theorem update_functional_dyn_deleted (fs : FS) (hq : NoMainWr fs) (name : Bytes) :
    (exec fs (Persist.dynDeleted fs name)).disk (main .dyn) =
      if exists? fs (main .dyn) then some (((dynFile fs).filter (·.name ≠ name)).flatMap encDyn) else none :=
  (dynRF.deleted fs name).2

theorem update_functional_obs_added (fs : FS) (hq : NoMainWr fs) (r : ObsRec) :
    (exec fs (Persist.obsAdded fs r)).disk (main .obs) =
      some (((obsFile fs).filter (·.key ≠ r.key)).flatMap encObs ++ encObs r) :=
  (obsRF.added fs r).2

theorem update_functional_obs_deleted (fs : FS) (hq : NoMainWr fs) (key : Nat) :
    (exec fs (Persist.obsDeleted fs key)).disk (main .obs) =
      if exists? fs (main .obs) then some (((obsFile fs).filter (·.key ≠ key)).flatMap encObs) else none :=
  (obsRF.deleted fs key).2

theorem update_functional_cnt_track (fs : FS) (hq : NoMainWr fs) (r : CntRec) :
    (exec fs (Persist.cntTrack fs r)).disk (main .cnt) =
      some (((cntFile fs).filter (·.name ≠ r.name)).flatMap encCnt ++ encCnt r) :=
  (cntRF.added fs r).2

theorem update_functional_cnt_deleted (fs : FS) (hq : NoMainWr fs) (name : Bytes) :
    (exec fs (Persist.cntDeleted fs name)).disk (main .cnt) =
      if exists? fs (main .cnt) then some (((cntFile fs).filter (·.name ≠ name)).flatMap encCnt) else none :=
  (cntRF.deleted fs name).2

/-! ### the same on records: a file made of well-formed records stays one, and its record list changes as the
list-level model (`Files.dynAdded` … in Model/PersistList.lean) says -/

theorem update_records_dyn_added (fs : FS) (hq : NoMainWr fs) (recs : List DynRec)
    (h : fs.disk (main .dyn) = some (recs.flatMap encDyn)) (hw : ∀ x ∈ recs, x.WF) (r : DynRec) (hr : r.WF) :
    dynFile (exec fs (Persist.dynAdded fs r)) = recs.filter (·.name ≠ r.name) ++ [r] :=
  dynRF.records_added dyn_decodes fs recs h hw r hr

theorem update_records_dyn_deleted (fs : FS) (hq : NoMainWr fs) (recs : List DynRec)
    (h : fs.disk (main .dyn) = some (recs.flatMap encDyn)) (hw : ∀ x ∈ recs, x.WF) (name : Bytes) :
    dynFile (exec fs (Persist.dynDeleted fs name)) = recs.filter (·.name ≠ name) :=
  dynRF.records_deleted dyn_decodes fs recs h hw name

theorem update_records_obs_added (fs : FS) (hq : NoMainWr fs) (recs : List ObsRec)
    (h : fs.disk (main .obs) = some (recs.flatMap encObs)) (hw : ∀ x ∈ recs, x.WF) (r : ObsRec) (hr : r.WF) :
    obsFile (exec fs (Persist.obsAdded fs r)) = recs.filter (·.key ≠ r.key) ++ [r] :=
  obsRF.records_added obs_decodes fs recs h hw r hr

theorem update_records_obs_deleted (fs : FS) (hq : NoMainWr fs) (recs : List ObsRec)
    (h : fs.disk (main .obs) = some (recs.flatMap encObs)) (hw : ∀ x ∈ recs, x.WF) (key : Nat) :
    obsFile (exec fs (Persist.obsDeleted fs key)) = recs.filter (·.key ≠ key) :=
  obsRF.records_deleted obs_decodes fs recs h hw key

theorem update_records_cnt_track (fs : FS) (hq : NoMainWr fs) (recs : List CntRec)
    (h : fs.disk (main .cnt) = some (recs.flatMap encCnt)) (hw : ∀ x ∈ recs, x.WF) (r : CntRec) (hr : r.WF) :
    cntFile (exec fs (Persist.cntTrack fs r)) = recs.filter (·.name ≠ r.name) ++ [r] :=
  cntRF.records_added cnt_decodes fs recs h hw r hr

theorem update_records_cnt_deleted (fs : FS) (hq : NoMainWr fs) (recs : List CntRec)
    (h : fs.disk (main .cnt) = some (recs.flatMap encCnt)) (hw : ∀ x ∈ recs, x.WF) (name : Bytes) :
    cntFile (exec fs (Persist.cntDeleted fs name)) = recs.filter (·.name ≠ name) :=
  cntRF.records_deleted cnt_decodes fs recs h hw name

/-- the defect of the pinned tree (fixed by 9097cc1): `coap_op_dyn_resource_added` opened the save file "a" and then
read it, so the rewrite kept only the newest entry.  Witness: a file holding resource `a`, adding `b`. -/
theorem dyn_added_pinned_loses_entries :
    let ra : DynRec := ⟨1, [97], [80, 3]⟩
    let rb : DynRec := ⟨1, [98], [80, 3]⟩
    let fs : FS := ⟨upd (fun _ => none) (main .dyn) (some (encDyn ra)), fun _ => none, fun _ => none⟩
    (exec fs (dynAddedPinned fs rb)).disk (main .dyn) = some (encDyn rb) ∧
    (exec fs (Persist.dynAdded fs rb)).disk (main .dyn) = some (encDyn ra ++ encDyn rb) := by
  decide

/-! ### restart restores the state (list-level semantics `L`: CoapVerif/Model/PersistList.lean; its invariant `L.Inv`:
CoapVerif/Lemmas/PersistHist.lean) -/

/-- **For every history** of resource creations / deletions and observe registrations / re-registrations /
cancellations: the resources the dyn loader re-creates are exactly those created and not deleted, and the
observations the observe loader re-establishes are exactly those registered and not cancelled (nor lost with their
resource). -/
theorem restart_restores (h : List HEv) :
    (∀ n, n ∈ (L.run h).restoredRes ↔ n ∈ (Abs.run h).res) ∧
    (∀ c n v, (c, n, v) ∈ (L.run h).restoredObs ↔ (c, n, v) ∈ (Abs.run h).obs) :=
  restore_of_inv (inv_run h)

/-- … also after a crash at any point of the last event: `fl` is one of `L.stages`, the files as the process leaves
them when it dies after some number of the event's single-file updates are complete (by `update_atomic` an interrupted
update counts as not started or as complete);
the loaders then re-create the state before the event, the state after it, or — for a re-registration with a new
token (D17.1) — the state after the cancellation half. -/
theorem restart_restores_after_crash (h : List HEv) (e : HEv) (fl : Files) (hfl : fl ∈ L.stages (L.run h) e) :
    RestoreEq fl (Abs.run h) ∨ RestoreEq fl (Abs.run (h ++ [e])) ∨
    (∃ c n v, e = .observe c n v ∧ RestoreEq fl ((Abs.run h).step (.cancel c n))) := by
  rw [show Abs.run (h ++ [e]) = (Abs.run h).step e from List.foldl_append]
  exact stages_of_inv (inv_run h) e fl hfl

/-! ### the endpoint an observation came in on (server contexts with several endpoints)

`coap_persist_observe_add_lkd` re-creates the session of a stored observation on the endpoint of the restarted context
whose protocol and `bind_addr` equal the record's (`findEp`, Model/Persist.lean); a record for which the search fails is
dropped.  `eps` = `context->endpoint` of the restarted server (any number of endpoints, any order), `via c` = the endpoint
the session of client `c` came in through. -/

/-- **Every UDP endpoint of the context is found**, whatever its position in `context->endpoint` and whatever other
endpoints exist: the search returns an endpoint of the context with exactly that protocol and bind address. -/
theorem endpoint_search_finds (eps : List Ep) (e : Ep) (he : e ∈ eps) (hp : e.proto = protoUdp) :
    ∃ e', findEp eps e.proto e.addr = some e' ∧ e' ∈ eps ∧ e'.proto = e.proto ∧ e'.addr = e.addr := by
  rw [findEp, hp, if_neg (not_not_intro rfl)]
  cases hw : epWalk protoUdp e.addr eps with
  | none => exact absurd ⟨hp, rfl⟩ (epWalk_none.1 hw e he)
  | some e' => exact ⟨e', rfl, epWalk_some hw⟩

/-- … and nothing else is: a session is only ever re-created on an endpoint of the context that has the record's
protocol (UDP) and listen address. -/
theorem endpoint_search_sound (eps : List Ep) (proto : Nat) (listen : Bytes) (e : Ep)
    (h : findEp eps proto listen = some e) : e ∈ eps ∧ e.proto = proto ∧ e.addr = listen ∧ proto = protoUdp := by
  unfold findEp at h
  split at h
  · cases h
  · next hp =>
    obtain ⟨h1, h2, h3⟩ := epWalk_some h
    exact ⟨h1, h2, h3, Decidable.not_not.1 hp⟩

theorem restoredObsVia_eq {eps : List Ep} {via : Nat → Ep} (hvia : ∀ c, via c ∈ eps ∧ (via c).proto = protoUdp)
    (fl : Files) : fl.restoredObsVia eps via = fl.restoredObs := by
  unfold Files.restoredObsVia Files.restoredObs
  congr 1
  apply List.filter_congr
  intro r _
  obtain ⟨e', h, _⟩ := endpoint_search_finds eps (via r.client) (hvia r.client).1 (hvia r.client).2
  rw [h]; rfl

theorem restoreEqVia_of_restoreEq {eps : List Ep} {via : Nat → Ep} (hvia : ∀ c, via c ∈ eps ∧ (via c).proto = protoUdp)
    {fl : Files} {a : Abs} (h : RestoreEq fl a) : RestoreEqVia eps via fl a :=
  ⟨h.1, by rw [restoredObsVia_eq hvia]; exact h.2⟩

/-- **For every history, every set of endpoints and every assignment of clients to (UDP) endpoints of the context**:
restarted with the same endpoints, the observe loader re-establishes exactly the observations registered and not
cancelled — no observation is lost because of the endpoint it was registered through. -/
theorem restart_restores_endpoints (h : List HEv) (eps : List Ep) (via : Nat → Ep)
    (hvia : ∀ c, via c ∈ eps ∧ (via c).proto = protoUdp) :
    RestoreEqVia eps via (L.run h).files (Abs.run h) :=
  restoreEqVia_of_restoreEq hvia (restart_restores h)

/-- … also after a crash at any point of the last event (`restart_restores_after_crash` with endpoints). -/
theorem restart_restores_endpoints_after_crash (h : List HEv) (e : HEv) (fl : Files) (hfl : fl ∈ L.stages (L.run h) e)
    (eps : List Ep) (via : Nat → Ep) (hvia : ∀ c, via c ∈ eps ∧ (via c).proto = protoUdp) :
    RestoreEqVia eps via fl (Abs.run h) ∨ RestoreEqVia eps via fl (Abs.run (h ++ [e])) ∨
    (∃ c n v, e = .observe c n v ∧ RestoreEqVia eps via fl ((Abs.run h).step (.cancel c n))) :=
  (restart_restores_after_crash h e fl hfl).imp (restoreEqVia_of_restoreEq hvia)
    (Or.imp (restoreEqVia_of_restoreEq hvia) fun ⟨c, n, v, he, h1⟩ => ⟨c, n, v, he, restoreEqVia_of_restoreEq hvia h1⟩)

/-- **No Observe value is repeated or goes backwards across a restart** (plain order; the counter does not wrap
during the history: `c0.obs + evs.length + f < 2^24`).  `c0` is any state in which the saved value covers the
counter (`Cnt.Inv`, e.g. right after a registration), `evs` any sequence of notifications and registrations;
every value put on the wire (notifications and registration responses) is smaller than the first notification after
a restart that finds the saved value in the counter file. -/
theorem observe_after_restart_greater (f : Nat) (hf : 0 < f) (c0 : Cnt) (h0 : Cnt.Inv f c0) (evs : List CntEv)
    (hw : c0.obs + evs.length + f < 2 ^ 24) :
    ∀ v ∈ (Cnt.run f c0 evs).sent, v < nextObs (roundUp (Cnt.run f c0 evs).saved f) := by
  obtain ⟨⟨h1, h2, h3⟩, ho⟩ := Cnt.run_inv f hf evs c0 h0 (Nat.lt_of_le_of_lt (Nat.le_add_right _ f) hw)
  exact fun v hv => lt_first_of_le_windowTop _ f v hf
    (Nat.lt_of_le_of_lt (Nat.add_le_add_right (Nat.le_trans h1 ho) f) hw) (Nat.le_trans (h3 v hv) h2)

/-- … and when the process is killed inside the last event, whichever of the two values (`update_atomic`) the counter
file then holds: nothing of the interrupted event was sent yet (the value is saved before it is sent). -/
theorem observe_after_restart_greater_crash (f : Nat) (hf : 0 < f) (c0 : Cnt) (h0 : Cnt.Inv f c0) (evs : List CntEv)
    (e : CntEv) (hw : c0.obs + (evs.length + 1) + f < 2 ^ 24) (s : Nat)
    (hs : s = (Cnt.run f c0 evs).saved ∨ s = (Cnt.run f c0 (evs ++ [e])).saved) :
    ∀ v ∈ (Cnt.run f c0 evs).sent, v < nextObs (roundUp s f) := by
  intro v hv
  rcases hs with rfl | rfl
  · exact observe_after_restart_greater f hf c0 h0 evs
      (Nat.lt_of_le_of_lt (Nat.add_le_add_right (Nat.add_le_add_left (Nat.le_succ _) _) _) hw) v hv
  · refine observe_after_restart_greater f hf c0 h0 (evs ++ [e])
      (by rw [List.length_append, List.length_singleton]; exact hw) v ?_
    rw [Cnt.run_snoc, Cnt.step_sent]
    exact List.mem_append_left _ hv

/-- across the 24-bit wrap: every value sent since the counter was last saved (these are the values the rounding
`((n + f) / f) * f - 1` exists for) precedes the first value after restart in RFC 7641 §3.4 serial order
(hypothesis on wrap: `f ≤ 2^22`; the property uses 1..10). -/
theorem observe_after_restart_greater_serial (f : Nat) (hf : 0 < f) (hf2 : f ≤ 2 ^ 22) (c0 : Cnt) (h0 : Cnt.InvW f c0)
    (evs : List CntEv) :
    ∀ v ∈ (Cnt.run f c0 evs).recent, serialLt v (nextObs (roundUp (Cnt.run f c0 evs).saved f)) := by
  obtain ⟨hb, _, h2, h3⟩ := Cnt.run_invW f hf evs c0 h0
  exact fun v hv => serialLt_first_of_le_windowTop _ f v hf hf2 (h3 v hv).1 (Nat.lt_of_le_of_lt (h3 v hv).2 hb)
    (Nat.le_trans (h3 v hv).2 h2)

example : NoMainWr FS.empty := fun _ => rfl
example : Cnt.Inv 10 ⟨2, 2, [], []⟩ := by decide
example : Cnt.InvW 10 ⟨16777215, 16777210, [], [16777210, 16777215]⟩ := by decide
example : (Cnt.run 10 ⟨16777215, 16777210, [], [16777215]⟩ [.notify, .notify]).recent = [0, 1] := by decide
example : (L.run [.create [97], .observe 1 [97] 0, .observe 1 [97] 1, .create [98], .delete [98]]).restoredObs = [(1, [97], 1)] := by
  decide
-- two endpoints (context order: the one created last first); client 0 came in through the one created first
example : (L.run [.create [97], .observe 0 [97] 0, .observe 3 [97] 1]).files.restoredObsVia
    [⟨1, [2, 0, 0xB2, 0x75]⟩, ⟨1, [2, 0, 0xB2, 0x73]⟩] (fun c => if c < 3 then ⟨1, [2, 0, 0xB2, 0x73]⟩ else ⟨1, [2, 0, 0xB2, 0x75]⟩) =
    [(0, [97], 0), (3, [97], 1)] := by decide
-- an endpoint that no longer exists (or a record of another protocol) is not found: the hypothesis `via c ∈ eps` matters
example : findEp [⟨1, [2, 0, 0xB2, 0x75]⟩] 1 [2, 0, 0xB2, 0x73] = none ∧ findEp [⟨2, [5]⟩] 2 [5] = none := by decide

end Coap.C17
