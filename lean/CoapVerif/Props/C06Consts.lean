import CoapVerif.Model.SendQueue
import CoapVerif.Model.MsgLayer
import CoapVerif.Lemmas.CalcTimeout
/-
C06 / T1 (design/T1.md) — the fixed-point arithmetic of `SQ.calcTimeout` / `SQ.qfix` is the one compiled into the
current tree: FRAC_BITS, MAX_BITS (private to src/coap_net.c), the Q6 images of the default parameters, and the value
of the compiled `coap_calc_timeout` itself for every PRNG byte (extract/consts2_net.c), plus COAP_TICKS_PER_SECOND.
-/
namespace Coap.C06
open Coap Coap.Generated

/-- `Q(FRAC_BITS, fval)`: the model's 64 is `1 << FRAC_BITS`, for every fixed-point value -/
theorem qfix_matches_code (ip fp : Nat) :
    SQ.qfix ip fp = (2 ^ C2.FRAC_BITS * ip + (2 ^ C2.FRAC_BITS * fp + 500) / 1000) % 65536 := by
  have h : C2.FRAC_BITS = 6 := by decide
  rw [h]; rfl

/-- the shifts `>> MAX_BITS`, `>> FRAC_BITS` and the rounding halves written as 256, 128, 64, 32 in `SQ.calcTimeout` -/
theorem calcTimeout_shifts_matches_code :
    2 ^ C2.MAX_BITS = 256 ∧ 2 ^ (C2.MAX_BITS - 1) = 128 ∧ 2 ^ C2.FRAC_BITS = 64 ∧ 2 ^ (C2.FRAC_BITS - 1) = 32 ∧
    C2.qOne = 64 ∧ C2.COAP_TICKS_PER_SECOND = 1000 := by decide

/-- the Q6 images of the default ACK_TIMEOUT and ACK_RANDOM_FACTOR -/
theorem qfix_defaults_matches_code :
    SQ.qfix C2.ackTimeoutInt C2.ackTimeoutFrac = C2.qAckTimeout ∧
    SQ.qfix C2.ackRandomFactorInt C2.ackRandomFactorFrac = C2.qAckRandomFactor ∧ SQ.qfix 1 0 = C2.qOne := by decide

/-- with the default parameters the model's `calcTimeout` returns what the compiled `coap_calc_timeout` returns, for
every value of the PRNG byte (the C parameter is an `unsigned char`) -/
theorem calcTimeout_matches_code : ∀ r, r < 256 →
    SQ.calcTimeout C2.ackTimeoutInt C2.ackTimeoutFrac C2.ackRandomFactorInt C2.ackRandomFactorFrac r =
      C2.calcTimeoutDefault.getD r 0 :=
  fun _ => getD_of_map_range SQ.calcTimeout_default_table

/-- the default session of the message-layer model carries the compiled defaults -/
theorem sess_defaults_matches_code :
    ({} : Msg.Sess).atI = C2.ackTimeoutInt ∧ ({} : Msg.Sess).atF = C2.ackTimeoutFrac ∧
    ({} : Msg.Sess).arfI = C2.ackRandomFactorInt ∧ ({} : Msg.Sess).arfF = C2.ackRandomFactorFrac ∧
    ({} : Msg.Sess).maxRtx = C2.COAP_DEFAULT_MAX_RETRANSMIT ∧ ({} : Msg.Sess).nstart = C2.COAP_DEFAULT_NSTART := by decide

/-- `coap_io_prepare_io_lkd`'s conversion of ticks to milliseconds, `(timeout * 1000 + COAP_TICKS_PER_SECOND - 1) /
COAP_TICKS_PER_SECOND`, as written in `Msg.prepareCore` / `Observe.waitOf` -/
theorem ticks_to_ms_matches_code (t : Nat) :
    (t * 1000 + 999) / 1000 = (t * 1000 + C2.COAP_TICKS_PER_SECOND - 1) / C2.COAP_TICKS_PER_SECOND := by
  have h : C2.COAP_TICKS_PER_SECOND = 1000 := by decide
  rw [h]; rfl

example : SQ.calcTimeout 2 0 1 500 255 = 3000 := by decide

end Coap.C06
