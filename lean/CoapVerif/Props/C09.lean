import CoapVerif.Generated.BlockConst
import CoapVerif.Lemmas.Block
import CoapVerif.Lemmas.BlockRecv
import CoapVerif.Lemmas.BlockCrcv
import CoapVerif.Lemmas.BlockCrcvHostile
import CoapVerif.Lemmas.BlockSrcvHostile
import CoapVerif.Lemmas.BlockXmit
import CoapVerif.Lemmas.BlockRtag
import CoapVerif.Lemmas.BlockNet
import CoapVerif.Lemmas.BlockNetOnce
import CoapVerif.Lemmas.BlockTok
import CoapVerif.Lemmas.BlockAdl
import CoapVerif.Lemmas.BlockNetTok
import CoapVerif.Lemmas.BlockNetTok1
/-
C09 — block-wise transfer: the sender's body arrives intact, once, or the transfer fails explicitly.

Layer A (pure arithmetic and data structures of src/coap_block.c), full proofs:

  S = Coap.Spec.Block   (slices of a byte list, sets of block numbers; CoapVerif/Spec/Block.lean)
  M = Coap.Block        (transcription of the C; CoapVerif/Model/Block.lean), tied to the compiled code by
                        harness/block.c (the real functions, static ones included) on generated inputs,
                        constants and helper tables regenerated from the tree (Generated/BlockConst.lean, T1).

The property theorems with their witnesses; the lemmas live in CoapVerif/Lemmas/Block*.lean, except `crcvStep_req`
(about `reqOf`, which is defined here; read off `crcvStep_ends`) and `checkUpdateToken_found` (behind the two NACK theorems).
-/
namespace Coap.C09
open Coap Coap.Block Coap.Spec.Block

/-- (T1) the constants M uses are the ones the current tree compiles to -/
theorem constants_match :
    Generated.echoReserve = echoReserve ∧ Generated.optBlock1 = 27 ∧ Generated.optSize1 = 60 ∧
    Generated.optRtag = 292 ∧ Generated.optEcho = 252 ∧ 2 ≤ Generated.rblockCnt := by decide

/-- (T1) `coap_flsll`, `coap_opt_encode_size` and the byte count of `coap_encode_var_safe`, evaluated by the extractor
on the current tree, agree with M's transcriptions on every sampled point -/
theorem helper_tables_match :
    Generated.flsllTable.all (fun p => flsll p.1 == p.2) = true ∧
    Generated.optSizeTable.all (fun p => optEncodeSize p.1 p.2.1 == p.2.2) = true ∧
    Generated.varLenTable.all (fun p => varLen p.1 == p.2) = true := by decide +kernel

/-- Block option codec: what `coap_encode_var_safe((num << 4) | (m << 3) | szx)` writes, `coap_get_block_b` reads back,
for every NUM < 2^20, M ∈ {0,1}, SZX ≤ 6. -/
theorem block_opt_roundtrip (num m szx : Nat) (hn : num < 2 ^ 20) (hm : m ≤ 1) (hs : szx ≤ 6) :
    getBlockB (encodeBlock num m szx) =
      some { num := num, m := m, szx := szx, aszx := szx, chunk := 2 ^ (szx + 4) } := by
  have hv : blockValue num m szx = num * 16 + m * 8 + szx := by
    unfold blockValue; omega
  have hbits : (num * 16 + m * 8 + szx) / 16 = num ∧ (num * 16 + m * 8 + szx) / 8 % 2 = m ∧
      (num * 16 + m * 8 + szx) % 8 = szx := by omega
  have hlt : num * 16 + m * 8 + szx < 2 ^ 32 := by omega
  unfold encodeBlock encodeVar
  rw [hv, Nat.mod_eq_of_lt hlt,
    getBlockB_encodeVarAux _ _ (varLen_le _) (lt_pow_varLen _ hlt) (by rw [hbits.2.2]; omega)
      (by rw [hbits.1]; omega), hbits.1, hbits.2.1, hbits.2.2]

/-- SZX 7 is refused without BERT, and a NUM beyond 20 bits cannot be expressed in the 3 option bytes the parser
admits (C03 length table): decoding never yields a block number above 2^20 - 1. -/
theorem block_opt_bounds (val : Bytes) (b : BlockB) (h : getBlockB val = some b) :
    b.num ≤ 0xFFFFF ∧ b.szx ≤ 6 ∧ b.aszx = b.szx ∧ b.chunk = 2 ^ (b.szx + 4) := by
  unfold getBlockB at h
  dsimp only at h
  have hlt : (if val.length = 0 then 0 else endByte val % 8) < 8 := by split <;> omega
  by_cases h7 : (if val.length = 0 then 0 else endByte val % 8) = 7
  · rw [if_pos h7] at h; cases h
  · rw [if_neg h7] at h
    by_cases hn : optBlockNum val > 0xFFFFF
    · rw [if_pos hn] at h; cases h
    · rw [if_neg hn] at h
      cases h
      dsimp only
      exact ⟨by omega, by omega, rfl, rfl⟩

/-- The slices of ANY body at ANY block size tile it exactly: their concatenation is the body; block `k` as cut by
`coap_add_block` is the k-th slice (and there is no block beyond the last); consecutive offsets differ by exactly the
block size; the More bit M computes is 0 exactly for the last block. -/
theorem blocks_tile_body (body : Bytes) (szx : Nat) :
    (slices body szx).flatten = body ∧
    (∀ k, addBlock body k szx = if k < nBlocks body.length szx then some (slice body szx k) else none) ∧
    (∀ k, blockOffset (k + 1) szx = blockOffset k szx + chunkSize szx) ∧
    (∀ k, k < nBlocks body.length szx → (moreBit body.length k szx = 0 ↔ k + 1 = nBlocks body.length szx)) := by
  refine ⟨slices_flatten body szx, addBlock_eq_slice body szx, fun k => blockOffset_succ k szx, ?_⟩
  intro k hk
  rw [moreBit_eq_spec]
  unfold more
  by_cases h : k + 1 < nBlocks body.length szx
  · rw [if_pos h]; constructor <;> intro hh <;> omega
  · rw [if_neg h]; constructor <;> intro _ <;> omega

/-- … and after a size reduction by `setup_block_b` (too little room in the PDU) the new (NUM, SZX) addresses the same
byte offset, the SZX put on the wire is the size actually used, and the More bit is right for the new size. -/
theorem size_reduction_same_offset (maxSize tokOpts num blk total : Nat) (b : BlockB)
    (hsz : maxSize < 2 ^ 63) (htok : tokOpts ≤ maxSize) (hstart : num * 2 ^ (blk + 4) ≤ total) (htot : total < 2 ^ 32)
    (h : setupBlockB maxSize tokOpts num blk total = some b) :
    b.szx ≤ blk ∧ b.aszx = b.szx ∧ b.chunk = 2 ^ (b.szx + 4) ∧
    blockOffset b.num b.szx = blockOffset num blk ∧ b.m = moreBit total b.num b.szx := by
  obtain ⟨h1, h2, h3, h4, h5, _⟩ := setup_sound maxSize tokOpts num blk total b hsz htok hstart htot h
  exact ⟨h1, h2, h3, h4, h5⟩

/-- The received-ranges structure: after ANY sequence of insertions (refused ones included) starting from empty,
the ranges are sorted, disjoint, non-adjacent and non-empty (`WfFrom 0`), never more than COAP_RBLOCK_CNT - 1, and
cover exactly the block numbers accepted so far; `check_if_received_block` is exact membership; `check_all_blocks_in`
is exact for a non-empty set below the total; a refused insertion leaves the ranges unchanged. -/
theorem rblock_represents (cap : Nat) (ns : List Nat) :
    let st := ns.foldl (insertStep cap) ([], [])
    WfFrom 0 st.1 ∧ st.1.length ≤ cap - 1 ∧ (∀ k, Covers st.1 k ↔ k ∈ st.2) ∧
    (∀ n, checkIfReceived st.1 n = true ↔ n ∈ st.2) ∧
    (∀ t, st.1 ≠ [] → (∀ k, k ∈ st.2 → k < t) → (checkAllBlocksIn st.1 t = true ↔ ∀ k, k < t → k ∈ st.2)) ∧
    (∀ n, (updateReceived cap st.1 n).1 = false → (updateReceived cap st.1 n).2 = st.1) := by
  intro st
  obtain ⟨w, l, c⟩ := insertAll_inv cap ns ([], []) trivial (Nat.zero_le _)
    (by intro k; simp [Covers])
  refine ⟨w, l, c, ?_, ?_, ?_⟩
  · intro n
    rw [checkIfReceived_iff w, c n]
  · intro t hne hlt
    rw [checkAllBlocksIn_iff w hne (fun k hk => hlt k ((c k).mp hk))]
    constructor
    · intro h k hk; exact (c k).mp (h k hk)
    · intro h k hk; exact (c k).mpr (h k hk)
  · intro n
    exact (updateReceived_spec cap st.1 n w l).1

/-- Reassembly: if every block of a non-empty body has been stored through `coap_block_build_body` with the receiver's
running `total_len` (starting from any announced size ≤ the true one, Size1 absent = 0), in ANY order and with ANY
duplicates, the buffer is the body and `total_len` its length — whatever the never-written bytes `junk` were. -/
theorem reassembly_exact (junk : UInt8) (body : Bytes) (szx : Nat) (ks : List Nat) (t0 : Nat)
    (hne : body ≠ []) (ht0 : t0 ≤ body.length)
    (hks : ∀ k, k ∈ ks → k < nBlocks body.length szx)
    (hall : ∀ j, j < nBlocks body.length szx → j ∈ ks) :
    ks.foldl (storeStep junk body szx) (t0, none) = (body.length, some body) := by
  have hinv := store_fold_inv junk body szx ks [] (t0, none) ⟨ht0, fun k hk => (by cases hk), rfl⟩ hks
  generalize ks.foldl (storeStep junk body szx) (t0, none) = st at hinv
  obtain ⟨tl, buf⟩ := st
  obtain ⟨i1, i2, i3⟩ := hinv
  dsimp only at i1 i2 i3
  have hmem : ∀ j, j < nBlocks body.length szx → j ∈ ks.reverse ++ [] := by
    intro j hj; simpa using hall j hj
  have hnb : 0 < nBlocks body.length szx :=
    (lt_nBlocks_iff body.length szx 0).mpr (by rw [Nat.zero_mul]; exact List.length_pos_iff.mpr hne)
  -- the last block ends at the end of the body
  have htl : tl = body.length := by
    have hk : nBlocks body.length szx - 1 < nBlocks body.length szx := by omega
    have h1 := i2 _ (hmem _ hk)
    have h2 := nBlocks_mul_ge body.length szx
    have h3 := slice_length body szx (nBlocks body.length szx - 1)
    have h4 : (nBlocks body.length szx - 1 + 1) * chunkSize szx =
        (nBlocks body.length szx - 1) * chunkSize szx + chunkSize szx := Nat.succ_mul _ _
    rw [Nat.sub_add_cancel hnb] at h4
    unfold blockEnd at h1
    omega
  subst htl
  cases buf with
  | none => rw [i3] at hmem; cases hmem 0 hnb
  | some b =>
    obtain ⟨l1, l2⟩ := i3
    rw [eq_of_blocks b body szx l1 fun k hk i h1 h2 h3 => l2 k (hmem k hk) i h1 (by
      have := slice_length body szx k
      unfold blockEnd
      omega)]

/-- Every block message fits: whenever `coap_add_data_large_internal`'s arithmetic succeeds, the first message it
builds is within the maximum size it was given, its payload is at most one block, and for a multi-block transfer
there is room for EVERY follow-up block message (8-byte token, Block option grown to 3 value bytes, payload marker,
a full block) within the same maximum. -/
theorem block_fits_mtu (maxSize tokLen optBytes lastOpt : Nat) (blk : Option Nat) (maxBlk length rtagLen : Nat)
    (r : AdlRes) (hms : maxSize < 2 ^ 62)
    (h : addDataLarge maxSize tokLen optBytes lastOpt blk maxBlk length rtagLen = some r) :
    (r.payload ≠ 0 → r.used ≤ maxSize) ∧
    r.used = r.hdr + (if r.payload = 0 then 0 else 1 + r.payload) ∧
    (r.lgXmit = true →
      r.hdr + (8 - tokLen) + 3 + 1 + 2 ^ (r.blkSize + 4) ≤ maxSize ∧ r.payload ≤ 2 ^ (r.blkSize + 4)) :=
  adl_fits maxSize tokLen optBytes lastOpt blk maxBlk length rtagLen r hms h

/-- `setup_block_b`: the payload of the block it describes fits into the room the PDU has left -/
theorem setup_payload_fits (maxSize tokOpts num blk total : Nat) (b : BlockB)
    (hsz : maxSize < 2 ^ 63) (htok : tokOpts ≤ maxSize) (hstart : num * 2 ^ (blk + 4) ≤ total) (htot : total < 2 ^ 32)
    (h : setupBlockB maxSize tokOpts num blk total = some b) :
    min b.chunk (total - blockOffset num blk) ≤ maxSize - tokOpts :=
  (setup_sound maxSize tokOpts num blk total b hsz htok hstart htot h).2.2.2.2.2

/-! non-vacuity: concrete instances of the hypotheses -/
example : setupBlockB 64 6 3 6 5000 = some { num := 96, m := 1, szx := 1, aszx := 1, chunk := 32 } := by decide
example : (addDataLarge 1152 4 2 11 none 0 5000 1).isSome = true := by decide
example : ([0, 2, 4, 6, 1, 3].foldl (insertStep 4) ([], [])).1 = [(0, 4)] := by decide
example : (updateReceived 4 [(0, 0), (2, 2), (4, 4)] 6).1 = false := by decide
example : nBlocks 40 0 = 3 ∧ slices [1, 2, 3] 0 = [[1, 2, 3]] := by decide

/-! ## The server's receive step (COAP_BLOCK_SINGLE_BODY Block1 receive path of coap_handle_request_put_block)

Full statements that are NOT proved (kept here as the target):
  never_wrong_body            — for the real composed system client ∘ network ∘ server under every schedule, anything a
                                handler receives is the sender's body / its slices (Block1 and Block2, both modes).
  at_most_once_per_transfer   — at most one delivery per transfer under every schedule.
What is proved: the receiver automata alone under a slice hypothesis (this section: server Block1 `srcvStep`; next
section: client Block2 `crcvStep`), the sender automata (`xmitB2Step`, `xmitB1Step`, first message), and the composition
of sender, lossy network and receiver for one transfer per direction WITHOUT that hypothesis
(`never_wrong_body_block2_composed_partial`, `never_wrong_body_block1_composed_partial`), with token substitution in the
two `## Tokens in the composed …` sections below; timers, per-block mode on the server, Q-Block, BERT and Block+Observe are
outside; they are trace-checked only.
-/

/-- For EVERY sequence of received Block1 datagrams — any order, any duplicates, any losses, any mix of block sizes not
below the tracked one, early size reduction by the server (`maxBlk`), with or without Size1 — in which every datagram
carries the sender's slice for its NUM/SZX and the right More bit: whatever the receiver hands to the application is
exactly the sender's body, with its exact length. -/
theorem never_wrong_body_partial (cap : Nat) (junk : UInt8) (maxBlk : Nat) (body : Bytes) (ds : List Dgram)
    (hlen : body.length < 2 ^ 31) (hadm : Admissible cap junk maxBlk body none ds) :
    ∀ o, o ∈ runSrcv cap junk maxBlk none ds → ∀ b l, o = SrcvOut.deliver b l → b = body ∧ l = body.length :=
  runSrcv_sound cap junk maxBlk body hlen ds none (by intro s hs; cases hs) hadm

/-- At most once per lg_srcv lifetime: a delivery of a block-wise body releases the receiver state (the step returns
`none`), so a second delivery needs a new lg_srcv in which every block has been recorded again; all other steps keep a
state that is consistent with the sender's body (`SrcvInv`). -/
theorem at_most_once_per_transfer_partial (cap : Nat) (junk : UInt8) (maxBlk : Nat) (body : Bytes) (st : Option Srcv)
    (d : Dgram) (hst : ∀ s, st = some s → SrcvInv cap body s) (hg : Genuine body st d) (hlen : body.length < 2 ^ 31) :
    let r := srcvStep cap junk maxBlk st d.num d.m d.szx d.payload d.size1
    (∀ s', r.1 = some s' → SrcvInv cap body s') ∧
    (∀ b l, r.2 = SrcvOut.deliver b l → ¬ (d.num = 0 ∧ d.m = 0) → r.1 = none) := by
  intro r
  have h := srcvStep_spec cap junk maxBlk body st d r.1 r.2 hst hg hlen rfl
  exact ⟨h.1, fun b l hb hn => (h.2 b l hb).2.2 hn⟩

/-- without the no_more_seen gate (the code before fix 57e6aff) the first block of a body without Size1 was "complete":
the fixed automaton answers 2.31 instead -/
example : (srcvStep 4 0 0 none 0 1 0 (List.replicate 16 7) none).2 = SrcvOut.cont := by decide

set_option maxRecDepth 8000 in
/-- early size reduction (fix 0d17941): a 64-byte first block is recorded as 2 blocks of 32 -/
example : ((srcvStep 4 0 1 none 0 1 2 (List.replicate 64 7) none).1.map (·.recv)) = some [(0, 1)] := by decide


/-- HOSTILE CLIENT, server side, single-body mode, no hypothesis on the requests beyond what `coap_get_block_b` guarantees
(`block_opt_bounds`: NUM < 2^20, SZX ≤ 6): for EVERY sequence of Block1 requests `ds` — any NUM, More bit, SZX (changing in
the middle of the transfer in either direction), Size1 absent / too small / too large / anything up to 2^32-1 and beyond,
any payload length (empty, short, oversized), any order, duplicates, blocks far beyond the end, any server block-size
limit — whenever the `i`-th request makes `coap_handle_request_put_block` hand a body `(b, l)` to the request handler,
`l` bytes are really there and EVERY one of them is a byte that one of the requests received so far (`ds.take (i+1)`)
carried for exactly that offset (`SentAt1`).  No never-written byte of the reassembly buffer (`junk`) is delivered.
Invariant `HSInv` by induction over the run; needs the fixes 11109ea (a block in a SMALLER size than the tracked one:
the ranges are rescaled instead of mixing units — `HSInv_rescale`), cb35487 (a payload that is not a multiple of the
block size must end at or beyond the total known, and nothing may reach beyond the total once the block without More
has been seen: `HSFull` holds until then and the total is frozen afterwards), 8abfc44 (the block count is not truncated
to 32 bits) and 0b3fb08.  Before them: `srcv2 0 256 9 256 0.1.3,1.0.0,1.0.3`, `srcv 0 32 189 32 0:1,1:0:4`,
`srcv 0 40 1 4294967295 0:1,1:0:16` handed 128 / 12 / 4294967263 never-written bytes to the handler. -/
theorem block1_hostile_no_unwritten_bytes (cap : Nat) (junk : UInt8) (maxBlk : Nat) (ds : List Dgram)
    (hds : ∀ d, d ∈ ds → d.num < 2 ^ 20 ∧ d.szx ≤ 6) (i : Nat) (b : Bytes) (l : Nat)
    (h : (runSrcv cap junk maxBlk none ds)[i]? = some (SrcvOut.deliver b l)) :
    l ≤ b.length ∧ ∀ o, o < l → ∃ v, b[o]? = some v ∧ SentIn1 (ds.take (i + 1)) o v := by
  have := runSrcv_hostile cap junk maxBlk ds none [] (by intro s hs; cases hs) hds i b l h
  simpa using this

/-- … so if every payload the client ever sends is cut from ONE byte string `B` at the offset its Block1 option names
(whatever SZX on each request, any More bit, any Size1, payloads shorter than the block), the body handed to the
request handler is a prefix of `B`: the oracle of the T2 ops `srcv` / `srcv2`. -/
theorem block1_hostile_prefix_of_body (cap : Nat) (junk : UInt8) (maxBlk : Nat) (ds : List Dgram) (B : Bytes)
    (hds : ∀ d, d ∈ ds → d.num < 2 ^ 20 ∧ d.szx ≤ 6)
    (hB : ∀ d, d ∈ ds → ∀ o v, SentAt1 d o v → B[o]? = some v) (i : Nat) (b : Bytes) (l : Nat)
    (h : (runSrcv cap junk maxBlk none ds)[i]? = some (SrcvOut.deliver b l)) :
    l ≤ B.length ∧ b.take l = B.take l := by
  obtain ⟨h1, h2⟩ := block1_hostile_no_unwritten_bytes cap junk maxBlk ds hds i b l h
  refine prefix_of_bytes h1 fun o ho => ?_
  obtain ⟨v, e1, d, hd, hs⟩ := h2 o ho
  rw [e1, hB d (List.mem_of_mem_take hd) o v hs]

set_option maxRecDepth 100000 in
/-- the input fix 11109ea is about (`srcv2 0 256 9 256 0.1.3,1.0.0,1.0.3`): block 0 of 128 bytes (Size1 256), then "block 1 of
16 bytes", then block 1 of 128 bytes.  Without the fix the 16-byte block is recorded as block 1 in 128-byte units, the real
block 1 is then a duplicate (not stored), and 256 bytes — 128 of them never written — are delivered; with it the ranges are
rescaled ([0,0] → [0,7]) and the body arrives intact -/
example :
    let body : Bytes := (List.range 256).map (fun i => UInt8.ofNat i)
    let ds : List Dgram := [⟨0, 1, 3, slice body 3 0, some 256⟩, ⟨1, 0, 0, slice body 0 1, some 256⟩, ⟨1, 0, 3, slice body 3 1, some 256⟩]
    runSrcv 4 0xEE 0 none ds = [.cont, .cont, .deliver body 256] ∧
    ((srcvStep 4 0xEE 0 (srcvStep 4 0xEE 0 none 0 1 3 (slice body 3 0) (some 256)).1 1 0 0 (slice body 0 1) (some 256)).1.map
      fun s => (s.recv, s.szx)) = some ([(0, 7)], 0) := by decide

set_option maxRecDepth 100000 in
/-- the input fix cb35487 is about (`srcv 0 32 189 32 0:1,1:0:4`): two requests — block 0 (16 bytes, More, Size1 32) and
block 1 with 4 bytes, no More.  Without the fix 32 bytes, 12 of them never written, reach the request handler; with it the
short block that does not reach the announced total is answered by 4.08 and the state is dropped -/
example :
    let body : Bytes := (List.range 32).map (fun i => UInt8.ofNat i)
    runSrcv 4 0xEE 0 none [⟨0, 1, 0, slice body 0 0, some 32⟩, ⟨1, 0, 0, (slice body 0 1).take 4, some 32⟩] = [.cont, .fail] ∧
    runSrcv 4 0xEE 0 none [⟨0, 1, 0, slice body 0 0, none⟩, ⟨1, 0, 0, (slice body 0 1).take 4, none⟩] =
      [.cont, .deliver (body.take 20) 20] := by decide

/-- FORMER DEFECT (h) (8abfc44; `srcv 0 40 1 4294967295 0:1,1:0:16` delivered a 4294967295-byte body): with Size1 = 2^32-1
and 16-byte blocks the truncated count was 0 blocks, the count used now is 2^28 -/
example : (4294967295 + 16 - 1) % 2 ^ 32 / 16 = 0 ∧ totalBlocks 4294967295 16 = 268435456 := by decide


/-! ## The client's receive step: the Block2 receive path (coap_handle_response_get_block), both delivery modes

M = `crcvStep` (Model/BlockCrcv.lean), tied to the real function by the T2 op `crcv`.  The theorems below are about the
receiver automaton alone, for EVERY sequence of responses (any order, duplicates, losses, any ETag / Content-Format
on each of them, restarts after an ETag change included) each of which carries the server's slice for its NUM/SZX
(`Genuine2`); `never_wrong_body_block2_composed_partial` further down removes that hypothesis for a libcoap server.
Against a server that is NOT libcoap (`Genuine2` false: SZX changed in the middle of a transfer without a new ETag, a
different Size2 on every response together with blocks the client did not ask for, short blocks in the middle) the sender's
body is not defined, but memory safety is (C02): `block2_hostile_no_unwritten_bytes` / `block2_hostile_prefix_of_body`
below hold for EVERY response sequence without any hypothesis — they rest on the fixes a8ffb89, 0b3fb08, 2e4f34e; the
`example`s behind them are the inputs that deliver never-written bytes without those fixes. -/

/-- Block2, single-body AND per-block mode, every response sequence: a body handed to the response handler is exactly
the server's body with its exact length (single-body); every block handed over is the server's slice at the offset
announced (per-block, also for random access); a genuine block-wise response is never passed on as a plain one. -/
theorem never_wrong_body_block2_partial (single : Bool) (cap : Nat) (junk : UInt8) (body : Bytes) (sz : Option Nat)
    (rs : List Resp) (hsz : ∀ t, sz = some t → t ≤ body.length)
    (hadm : Admissible2 single cap junk body sz none rs) :
    ∀ o, o ∈ runCrcv single cap junk none rs →
      (∀ d l, o = CrcvOut.body d l → single = true ∧ d.take l = body ∧ l = body.length) ∧
      (∀ off p total nx, o = CrcvOut.block off p total nx →
        single = false ∧ ∃ k szx, k < nBlocks body.length szx ∧ off = k * chunkSize szx ∧ p = slice body szx k) ∧
      (∀ off p total, o = CrcvOut.last off p total →
        single = false ∧ ∃ k szx, k < nBlocks body.length szx ∧ off = k * chunkSize szx ∧ p = slice body szx k) ∧
      (∀ off p total, o = CrcvOut.randomAccess off p total →
        ∃ k szx, k < nBlocks body.length szx ∧ off = k * chunkSize szx ∧ p = slice body szx k) ∧
      (∀ p, o ≠ CrcvOut.plain p) :=
  runCrcv_sound single cap junk body sz hsz rs none (by intro s hs; cases hs) hadm

/-- At most once, and exact tiling, per lg_crcv lifetime (one step, any consistent state): the reassembled body is
handed over together with the release of the lg_crcv; in per-block mode a block handed to the handler had not been
recorded since the lg_crcv was (re-)initialised and is recorded afterwards (a duplicate is answered by `skip`), recorded
blocks stay recorded, nothing else is ever recorded, and when the transfer completes (either mode) every block of the
body has been recorded — so the offsets handed over in per-block mode tile the body, each exactly once. -/
theorem at_most_once_block2_partial (single : Bool) (cap : Nat) (junk : UInt8) (body : Bytes) (sz : Option Nat)
    (st : Option Crcv) (r : Resp) (num szx : Nat) (hsz : ∀ t, sz = some t → t ≤ body.length)
    (hst : ∀ s, st = some s → s.initial = false → CrcvInv single cap body sz s)
    (hg : Genuine2 body sz st r num szx) :
    let res := crcvStep single cap junk st r
    (∀ s', res.1 = some s' → s'.initial = false → CrcvInv single cap body sz s') ∧
    (∀ d l, res.2 = CrcvOut.body d l → res.1 = none) ∧
    (∀ off p total nx, res.2 = CrcvOut.block off p total nx → ¬ Covers (effRecv st) num) ∧
    (∀ off p total, res.2 = CrcvOut.last off p total → ¬ Covers (effRecv st) num ∧ res.1 = none) ∧
    (∀ s', res.1 = some s' → s'.initial = false → ∀ k, Covers s'.recv k ↔
      (Covers (effRecv st) k ∨ (k = num ∧ (res.2 = CrcvOut.next (num + 1) szx ∨ res.2 = CrcvOut.wait ∨
        ∃ off p total nx, res.2 = CrcvOut.block off p total nx)))) ∧
    (res.2.isFinal = true → ∀ k, k < nBlocks body.length szx → k = num ∨ Covers (effRecv st) k) := by
  intro res
  have h := crcvStep_spec single cap junk body sz st r num szx res.1 res.2 hsz hst hg rfl
  exact ⟨h.inv, fun d l hb => (h.dBody d l hb).2.2.2, fun off p total nx hb => (h.dBlock off p total nx hb).2.2.2.1,
    fun off p total hb => (h.dLast off p total hb).2.2.2, h.grow, h.complete⟩

/-- Per-block mode over a whole run, for EVERY sequence of genuine responses from a fresh client (any order, duplicates,
losses, ETag restarts): with the ghost list `seen` of block numbers handed to the handler since the lg_crcv was last
(re-)initialised (`seenAfter`), a block handed over is never in `seen` (at most once), and when the completing block
is handed over every other block of the body is in `seen` — so the (offset, length) pairs the handler got in that
lifetime are the slices of the body (`never_wrong_body_block2_partial`), pairwise different, and all of them: they
tile the body exactly.  (`TilesOnce` is that statement written out along the run.) -/
theorem per_block_tiles_once_partial (cap : Nat) (junk : UInt8) (body : Bytes) (sz : Option Nat) (rs : List Resp)
    (hsz : ∀ t, sz = some t → t ≤ body.length) (hadm : Admissible2 false cap junk body sz none rs) :
    TilesOnce cap junk body none [] rs :=
  tilesOnce_run cap junk body sz hsz rs none [] (by intro s hs; cases hs)
    (by intro k; simp [effRecv, covers_nil]) hadm

set_option maxRecDepth 100000 in
/-- the ghost list along a concrete run (40 bytes, 16-byte blocks, block 1 duplicated): [0], [1,0], [1,0], released -/
example :
    let body : Bytes := (List.range 40).map (fun i => UInt8.ofNat i)
    let rsp (k m : Nat) : Resp := { blk := some (k, m, 0), payload := slice body 0 k }
    let step (a : Option Crcv × List Nat) (r : Resp) : Option Crcv × List Nat :=
      ((crcvStep false 4 0 a.1 r).1, seenAfter (crcvStep false 4 0 a.1 r).1 a.2 (numOf r) (crcvStep false 4 0 a.1 r).2)
    ([rsp 0 1, rsp 1 1, rsp 1 1].foldl step (none, [])).2 = [1, 0] ∧
    ([rsp 0 1, rsp 1 1, rsp 1 1, rsp 2 0].foldl step (none, [])) = (none, []) := by decide

set_option maxRecDepth 100000 in
/-- non-vacuity: a 100-byte body in 32-byte blocks, ETag on every block, block 1 duplicated: three requests, one delivery -/
example :
    let body : Bytes := (List.range 100).map (fun i => UInt8.ofNat i)
    let rsp (k m : Nat) : Resp := { blk := some (k, m, 1), payload := slice body 1 k, size2 := some 100, etag := some [5] }
    runCrcv true 4 0 none [rsp 0 1, rsp 1 1, rsp 1 1, rsp 2 1, rsp 3 0] =
      [.next 1 1, .next 2 1, .skip, .next 3 1, .body body 100] := by decide

set_option maxRecDepth 100000 in
/-- … and per-block mode hands over the four slices, the last one from inside with the lg_crcv released -/
example :
    let body : Bytes := (List.range 100).map (fun i => UInt8.ofNat i)
    let rsp (k m : Nat) : Resp := { blk := some (k, m, 1), payload := slice body 1 k }
    (runCrcv false 4 0 none [rsp 0 1, rsp 1 1, rsp 2 1, rsp 3 0]).map (fun o => match o with
      | .block off p _ _ => some (off, p.length) | .last off p _ => some (off, p.length) | _ => none) =
      [some (0, 32), some (32, 32), some (64, 32), some (96, 4)] := by decide

/-- the hypothesis `Genuine2` is satisfiable along a whole run -/
example :
    let body : Bytes := (List.range 40).map (fun i => UInt8.ofNat i)
    Genuine2 body none none { blk := some (0, 1, 0), payload := slice body 0 0 } 0 0 := by
  refine ⟨by decide, by decide, rfl, rfl, by intro s hs; cases hs⟩

/-- HOSTILE SERVER, single-body mode, no hypothesis at all: for EVERY sequence of responses `rs` (any NUM, More bit, SZX —
also changing in the middle of the transfer —, Size2 absent / too small / too large / different on every response, any
ETag and Content-Format, any payload length, blocks nobody asked for, in any order), from a client without lg_crcv or
with one set up at send time (`initial`): whenever the `i`-th response makes `coap_handle_response_get_block` hand a
reassembled body `(d, l)` to the response handler, `l` bytes are really there and EVERY one of them is a byte that one of
the responses received so far (`rs.take (i+1)`) carried for exactly that offset of the body (`SentAt`: the response has
Block2 (NUM, _, SZX), the offset lies in that block, the payload holds the byte at `offset - NUM * 2^(SZX+4)`).  No byte
of the reassembly buffer that was never written (`junk`: whatever malloc/realloc returned) is ever delivered.
Invariant `HInv` (every byte of every recorded block is in the buffer and was sent for that offset) by induction over
the run; needs all three fixes: responses in another size than the tracked one are refused (a8ffb89), the buffer never
shrinks (0b3fb08), a short block is only recorded for good when it completes the body (2e4f34e). -/
theorem block2_hostile_no_unwritten_bytes (cap : Nat) (junk : UInt8) (st : Option Crcv) (rs : List Resp)
    (hst : ∀ s, st = some s → s.initial = true) (i : Nat) (d : Bytes) (l : Nat)
    (h : (runCrcv true cap junk st rs)[i]? = some (CrcvOut.body d l)) :
    l ≤ d.length ∧ ∀ o, o < l → ∃ v, d[o]? = some v ∧ SentIn (rs.take (i + 1)) o v := by
  have := runCrcv_hostile cap junk rs st [] (by intro s hs hi; rw [hst s hs] at hi; cases hi) i d l h
  simpa using this

/-- … so if everything the server ever sends is cut from ONE byte string `B` at the offset its Block2 option names (with
whatever SZX it likes on each response, any More bit, any Size2, payloads shorter than the block), the body handed to the
handler is a prefix of `B`: the oracle of the T2 op `crcv` (`H0:<l>:…` must hash to the first `l` bytes of the body). -/
theorem block2_hostile_prefix_of_body (cap : Nat) (junk : UInt8) (st : Option Crcv) (rs : List Resp) (B : Bytes)
    (hst : ∀ s, st = some s → s.initial = true)
    (hB : ∀ r, r ∈ rs → ∀ o v, SentAt r o v → B[o]? = some v) (i : Nat) (d : Bytes) (l : Nat)
    (h : (runCrcv true cap junk st rs)[i]? = some (CrcvOut.body d l)) :
    l ≤ B.length ∧ d.take l = B.take l := by
  obtain ⟨h1, h2⟩ := block2_hostile_no_unwritten_bytes cap junk st rs hst i d l h
  refine prefix_of_bytes h1 fun o ho => ?_
  obtain ⟨v, e1, r, hr, hs⟩ := h2 o ho
  rw [e1, hB r (List.mem_of_mem_take hr) o v hs]

/-- HOSTILE SERVER, per-block mode (no reassembly buffer): whatever the handler is given — a block, the completing block,
a random-access block — is the payload of THIS response at the offset its own Block2 option names -/
theorem block2_hostile_per_block (cap : Nat) (junk : UInt8) (st : Option Crcv) (r : Resp) :
    (∀ off p total nx, (crcvStep false cap junk st r).2 = CrcvOut.block off p total nx →
      ∃ num m szx, r.blk = some (num, m, szx) ∧ off = num * 2 ^ (szx + 4) ∧ p = r.payload) ∧
    (∀ off p total, (crcvStep false cap junk st r).2 = CrcvOut.last off p total →
      ∃ num m szx, r.blk = some (num, m, szx) ∧ off = num * 2 ^ (szx + 4) ∧ p = r.payload) ∧
    (∀ off p total, (crcvStep false cap junk st r).2 = CrcvOut.randomAccess off p total →
      ∃ num m szx, r.blk = some (num, m, szx) ∧ off = num * 2 ^ (szx + 4) ∧ p = r.payload) ∧
    (∀ d l, (crcvStep false cap junk st r).2 ≠ CrcvOut.body d l) :=
  (crcvStep_perblock_payload cap junk st r).clauses

set_option maxRecDepth 100000 in
/-- the hypotheses are satisfiable and the conclusion is not vacuous: a server that sends blocks 0, 1 of 16 bytes, then
"block 1 of 32 bytes" (refused, 4.08), then goes on in 16-byte blocks: the 55-byte body is delivered, every byte sent -/
example :
    let body : Bytes := (List.range 55).map (fun i => UInt8.ofNat i)
    let rsp (k m szx : Nat) : Resp := { blk := some (k, m, szx), payload := slice body szx k, size2 := some 55 }
    runCrcv true 4 0xEE none [rsp 0 1 0, rsp 1 1 0, rsp 1 0 1, rsp 2 1 0, rsp 3 0 0] =
      [.next 1 0, .next 2 0, .err408, .next 3 0, .body body 55] := by decide

set_option maxRecDepth 100000 in
/-- the input fix a8ffb89 is about: a server that switches from 16-byte to 32-byte blocks in mid-transfer
(`crcv 1 55 7 55 0.1.0.0.42,2.1.0.0.42,1.0.1.0.42,3.0.0.0.42`).  Without the fix the client delivers a 55-byte "body" whose
bytes 16..31 were never written; with it the response in the other size is answered by 4.08 and nothing is recorded, and the
short last block that cannot complete the body makes the client forget the transfer (2e4f34e) -/
example :
    let body : Bytes := (List.range 55).map (fun i => UInt8.ofNat i)
    let rsp (k m szx : Nat) : Resp := { blk := some (k, m, szx), payload := slice body szx k, size2 := some 55 }
    runCrcv true 4 0xEE none [rsp 0 1 0, rsp 2 1 0, rsp 1 0 1, rsp 3 0 0] = [.next 1 0, .next 3 0, .err408, .err408] ∧
    ((crcvStep true 4 0xEE (crcvStep true 4 0xEE (crcvStep true 4 0xEE none (rsp 0 1 0)).1 (rsp 2 1 0)).1 (rsp 1 0 1)).1.map
      fun s => s.recv) = some [(0, 0), (2, 2)] := by
  decide

set_option maxRecDepth 100000 in
/-- the input fix 0b3fb08 is about: an unrequested block 5 without Size2 followed by block 0 announcing Size2 = 100.  Without
the fix the buffer shrinks from 97 to 16 bytes (coap_block_build_body is called with this response's Size2, not the running
total) while block 5 stays recorded; with it the buffer keeps its 97 bytes -/
example :
    let body : Bytes := (List.range 100).map (fun i => UInt8.ofNat i)
    ((crcvStep true 4 0 (crcvStep true 4 0 (some {}) { blk := some (5, 1, 0), payload := slice body 0 5 }).1
      { blk := some (0, 1, 0), payload := slice body 0 0, size2 := some 100 }).1.map fun s =>
        (s.recv, s.body.map (·.length), s.body.map (fun b => (b.drop 80).take 16 == slice body 0 5))) =
      some ([(0, 0), (5, 5)], some 97, some true) := by decide

set_option maxRecDepth 100000 in
/-- the third hole (2e4f34e): a block without More that is shorter than the block size, with blocks still missing
(`crcv 1 100 7 - 0.1.0.0.0,2.0.0.0.0.5,1.1.0.0.0,3.1.0.0.0,4.0.0.0.0` delivered 80 bytes with 37..47 never written):
now 4.08, and the lg_crcv starts afresh with the next response -/
example :
    let body : Bytes := (List.range 100).map (fun i => UInt8.ofNat i)
    let rsp (k m : Nat) (p : Bytes) : Resp := { blk := some (k, m, 0), payload := p }
    let s2 := crcvStep true 4 0xEE (crcvStep true 4 0xEE none (rsp 0 1 (slice body 0 0))).1 (rsp 2 0 ((slice body 0 2).take 5))
    s2.2 = CrcvOut.err408 ∧ s2.1.map (·.initial) = some true ∧
    ((crcvStep true 4 0xEE s2.1 (rsp 1 1 (slice body 0 1))).1.map fun s => (s.initial, s.recv)) = some (false, [(1, 1)]) := by
  decide


/-! ## The senders (lg_xmit) and the release callback

M = `xmitB2Step` (coap_handle_request_send_block), `xmitB1Step` (coap_handle_response_send_block), `adlRel` (exit paths
of coap_add_data_large_internal), `xlStep` (the session's lg_xmit list) in Model/BlockXmit.lean; T2 ops `xmit2`, `xmit1`. -/

/-- Server, Block2: for EVERY lg_xmit and EVERY request (any NUM, any SZX, in any order, repeated, beyond the end): a
block message the server builds carries exactly the body's slice for the NUM and SZX of the request, the SZX is the
lg_xmit's (a changed size is refused with 4.00), the More bit is the one RFC 7959 prescribes, payload marker and
payload fit the room the PDU has (otherwise 5.00) — and the lg_xmit keeps its body and block size whatever happens.
This discharges the hypothesis `Genuine2` of the client's receive automaton for a libcoap server. -/
theorem server_block2_genuine (x : LgXmit) (room num szx : Nat) :
    (∀ st' n m s p, xmitB2Step (some x) room num szx = (st', B2Out.block n m s p) →
      n = num ∧ s = szx ∧ s = x.blkSize ∧ n < nBlocks x.data.length s ∧ p = slice x.data s n ∧
      m = more x.data.length s n ∧ 1 + p.length ≤ room ∧ p.length ≤ chunkSize s) ∧
    (∃ x', (xmitB2Step (some x) room num szx).1 = some x' ∧ x'.data = x.data ∧ x'.blkSize = x.blkSize) := by
  refine ⟨?_, xmitB2Step_state x room num szx⟩
  intro st' n m s p h
  obtain ⟨a, b, c, d, e, f, g, _⟩ := xmitB2Step_spec x room num szx st' n m s p h
  exact ⟨a, b, c, d, e, f, g, e ▸ slice_length_le _ _ _⟩


/-- The FIRST block message of a body handed to `coap_add_data_large_request` (Block1), for ALL sizes: whenever the
result is a multi-block transfer, the PDU carries Block1 (NUM 0, M 1, SZX = the lg_xmit's block size) — also after the
second size reduction "chunk size change down" — and its payload is exactly slice 0 of the body at that size, which
is a full block, and the More bit is the one RFC 7959 prescribes.  With `client_block1_slices` /
`client_block1_genuine` every block message of a libcoap Block1 sender is covered.  (The arithmetic is the
lemma `adlBody_first`, which is stated for the response path's parameters as well.) -/
theorem first_block_genuine (maxSize tokLen optBytes lastOpt : Nat) (blk : Option Nat) (maxBlk rtagLen : Nat)
    (body : Bytes) (r : AdlRes) (hms : maxSize < 2 ^ 62) (hlen : body.length < 2 ^ 32)
    (h : addDataLarge maxSize tokLen optBytes lastOpt blk maxBlk body.length rtagLen = some r) (hlg : r.lgXmit = true) :
    r.blockVal = some (blockValue 0 (more body.length r.blkSize 0) r.blkSize) ∧
    body.take r.payload = slice body r.blkSize 0 ∧ 0 < nBlocks body.length r.blkSize ∧ r.payload = chunkSize r.blkSize := by
  obtain ⟨a, b, c, _⟩ := addDataLarge_first _ _ _ _ _ _ _ _ r hms hlen h hlg
  obtain ⟨hnb, hmore, hsl⟩ := first_slice body r.blkSize c
  exact ⟨by rw [hmore]; exact a, by rw [b]; exact hsl, by omega, b⟩

/-- non-vacuity: 5000 bytes into a 1152-byte PDU → 1024-byte blocks; into a 200-byte PDU → 128-byte blocks -/
example : (addDataLarge 1152 4 2 11 none 0 5000 1).map (fun r => (r.lgXmit, r.blkSize, r.payload, r.blockVal)) =
    some (true, 6, 1024, some (blockValue 0 1 6)) ∧
    (addDataLarge 200 4 2 11 none 0 5000 1).map (fun r => (r.lgXmit, r.blkSize, r.payload, r.blockVal)) =
    some (true, 3, 128, some (blockValue 0 1 3)) := by decide

/-- Client, Block1: for EVERY lg_xmit and EVERY response matched to it (2.31 in order, duplicated, stale, renegotiating
the size, or any other code): a block message the client builds carries exactly the body's slice for the NUM and SZX
in its Block1 option, that SZX is the one of the response — or the one in use, if the response asks for a larger one
(`xmitB1Szx`, fix 650c3a2) — and marker + payload fit the room the PDU has. -/
theorem client_block1_slices (x : LgXmit) (room : Nat) (ok : Bool) (blk : Option (Nat × Nat)) (st' : Option LgXmit)
    (n m s : Nat) (p : Bytes) (h : xmitB1Step x room ok blk = (st', B1Out.sendNext n m s p)) :
    n < nBlocks x.data.length s ∧ p = slice x.data s n ∧ 1 + p.length ≤ room ∧ p.length ≤ chunkSize s ∧
    ∃ num0 szx, blk = some (num0, szx) ∧ s = xmitB1Szx x szx ∧ s ≤ x.blkSize := by
  obtain ⟨a, b, c, ⟨num0, szx, d, e⟩, _⟩ := xmitB1Step_spec x room ok blk st' n m s p h
  exact ⟨a, b, c, b ▸ slice_length_le _ _ _, num0, szx, d, e, by rw [e]; exact (xmitB1Szx_facts x szx).1⟩

/-- … and, along EVERY sequence of responses — also those that ask for a LARGER block size than the lg_xmit uses, which
RFC 7959 §2.5 does not allow a server and which the client ignores (fix 650c3a2; before it the SZX of such a response
was used for the option and the payload while NUM and More were computed in the size in use: bytes skipped, wrong More
bit, transfer ended in 5.00) — the lg_xmit stays well formed (`XmitInv`: offset aligned to the block size), its block
size never grows, early size renegotiation included, and every block message has the right More bit and follows the
block the response acknowledged: the hypothesis `Genuine` of the server's receive automaton
(`never_wrong_body_partial`) is discharged for a libcoap client, except for its SZX clause.  Full statement: no
hypothesis on the response. -/
theorem client_block1_genuine (x : LgXmit) (room : Nat) (ok : Bool) (blk : Option (Nat × Nat))
    (hinv : XmitInv x) (hlen : x.data.length < 2 ^ 32) :
    (∀ x', (xmitB1Step x room ok blk).1 = some x' → XmitInv x' ∧ x'.data = x.data ∧ x'.blkSize ≤ x.blkSize) ∧
    (∀ st' n m s p, xmitB1Step x room ok blk = (st', B1Out.sendNext n m s p) →
      p = slice x.data s n ∧ n < nBlocks x.data.length s ∧ m = more x.data.length s n ∧
      ∃ x', st' = some x' ∧ x'.blkSize = s ∧ x'.lastBlock = some (n - 1) ∧ 1 ≤ n ∧ x'.offset = n * 2 ^ (s + 4)) := by
  refine ⟨fun x' h => by
    obtain ⟨a, b, c, _⟩ := xmitB1Step_inv x room ok blk x' hinv hlen h
    exact ⟨a, b, c⟩, ?_⟩
  intro st' n m s p h
  obtain ⟨a, b, _, _, e⟩ := xmitB1Step_spec x room ok blk st' n m s p h
  obtain ⟨e1, x', e2, _, e4, e5, e6, e7⟩ := e hinv
  exact ⟨b, a, e1, x', e2, e4, e5, e6, e7⟩

set_option maxRecDepth 100000 in
/-- non-vacuity + early size renegotiation: 400-byte body sent in 64-byte blocks; the server's 2.31 for block 0 asks
for 32-byte blocks (and names block 1 of that size as received): the client goes on with block 2 of 32 bytes -/
example :
    let body : Bytes := (List.range 400).map (fun i => UInt8.ofNat (i % 251))
    let x : LgXmit := { data := body, blkSize := 2 }
    XmitInv x ∧ (xmitB1Step x 1000 true (some (0, 1))).2 = B1Out.sendNext 2 1 1 (slice body 1 2) ∧
    ((xmitB1Step x 1000 true (some (0, 1))).1.map fun y => (y.blkSize, y.offset, y.lastBlock)) = some (1, 64, some 1) := by
  decide

set_option maxRecDepth 100000 in
/-- the input fix 650c3a2 is about (`xmit1 2 400 3 1152 95.0.4,95.1.4`): lg_xmit at 64-byte blocks, block 0 sent, then a 2.31
asking for 256-byte blocks.  Without the fix the client sends "block 1 of 256 bytes" (bytes 256..399, bytes 64..255 skipped)
with M = 1 although it is the last one; with it it sends block 1 of 64 bytes with the right More bit -/
example :
    let body : Bytes := (List.range 400).map (fun i => UInt8.ofNat (i % 251))
    (xmitB1Step { data := body, blkSize := 2 } 1000 true (some (0, 4))).2 = B1Out.sendNext 1 1 2 (slice body 2 1) ∧
    more 400 2 1 = 1 ∧
    ((xmitB1Step { data := body, blkSize := 2 } 1000 true (some (0, 4))).1.map fun y => (y.blkSize, y.offset, y.lastBlock)) =
      some (2, 64, some 0) := by decide

set_option maxRecDepth 100000 in
/-- non-vacuity for the server side: block 2 of a 100-byte body at 32-byte blocks; a changed size is refused -/
example :
    let body : Bytes := (List.range 100).map (fun i => UInt8.ofNat i)
    (xmitB2Step (some { data := body, blkSize := 1 }) 1000 2 1).2 = B2Out.block 2 1 1 (slice body 1 2) ∧
    (xmitB2Step (some { data := body, blkSize := 1 }) 1000 2 0).2 = B2Out.err400 ∧
    (xmitB2Step (some { data := body, blkSize := 1 }) 1000 4 1).2 = B2Out.err500 ∧
    (xmitB2Step (some { data := body, blkSize := 1 }) 20 2 1).2 = B2Out.err500 := by decide

/-- The release callback, part 1 — coap_add_data_large_internal: for ALL inputs, on every exit path either the callback
has been called exactly once and no lg_xmit holds it, or it has not been called and exactly one lg_xmit that holds it
has been linked into the session — the latter exactly when the result is a multi-block transfer. -/
theorem adl_release_once (maxSize tokLen optBytes lastOpt : Nat) (blk : Option Nat) (maxBlk length rtagLen : Nat) :
    let r := adlRel maxSize tokLen optBytes lastOpt blk maxBlk length rtagLen
    r.1 + (if r.2 then 1 else 0) = 1 ∧
    (r.2 = true ↔ ∃ a, addDataLarge maxSize tokLen optBytes lastOpt blk maxBlk length rtagLen = some a ∧ a.lgXmit = true) :=
  adlRel_spec maxSize tokLen optBytes lastOpt blk maxBlk length rtagLen

/-- The release callback, part 2 — the session's lg_xmit list: after ANY sequence of creations, deletions (timeout,
transfer finished, failed, replaced — each through LL_DELETE + coap_block_delete_lg_xmit on a list member) and session
frees, no callback has run twice and none has run for an lg_xmit that is still linked; every lg_xmit ever created is
still linked or has had its callback run; once the session is freed every one of them has had it run exactly once. -/
theorem release_exactly_once (evs : List XlEvent) :
    let s := evs.foldl xlStep ([], [])
    (s.1 ++ s.2).Nodup ∧
    (∀ id, XlEvent.create id ∈ evs → id ∈ s.1 ∨ id ∈ s.2) ∧
    (let f := (evs ++ [XlEvent.sessionFree]).foldl xlStep ([], [])
     f.1 = [] ∧ f.2.Nodup ∧ ∀ id, XlEvent.create id ∈ evs → id ∈ f.2) := by
  intro s
  have hs : XlInv s := xlFold_inv evs _ (by unfold XlInv; exact List.nodup_nil)
  refine ⟨hs, xlFold_created evs _, ?_⟩
  intro f
  have hf : f = xlStep s XlEvent.sessionFree := by
    show (evs ++ [XlEvent.sessionFree]).foldl xlStep ([], []) = _
    rw [List.foldl_append]; rfl
  rw [hf]
  exact ⟨rfl, hs, fun id h => List.mem_append.2 (xlFold_created evs ([], []) id h)⟩

example : [XlEvent.create 1, .create 2, .delete 1, .delete 1, .create 3, .sessionFree].foldl xlStep ([], []) =
    ([], [3, 2, 1]) := by decide
example : adlRel 1152 4 2 11 none 0 5000 1 = (0, true) ∧ adlRel 1152 4 2 11 none 0 50 1 = (1, false) ∧
    adlRel 60 4 2 11 none 0 5000 1 = (1, false) := by decide


/-! ## the release callback when a call supersedes a transfer still in progress

M = `adlCall` / `adlEvStep` (Model/BlockAdl.lean): the search in front of coap_add_data_large_internal ("See if this token
is already in use for large bodies" / coap_find_lg_xmit_response), every exit behind it incl. the allocation failure
points, the `fail:` label with the LOCAL VARIABLE `lg_xmit`, the caller's own refusal; T2 op `adlx`. -/

/-- The release callback, part 3 — ONE call of coap_add_data_large_request / _response in EVERY session state, for every
key, body and exit (success, refusal in front, "does not fit (2)" / "(3)", setup_block_b / coap_add_data failure, any of
the three allocations failing):
(1) the session's list afterwards is the old one without the transfer that had the key (untouched if the caller refused
    in front), with the new lg_xmit at the head exactly when the call linked one;
(2) the callbacks this call runs are exactly: the superseded transfer's, ONCE, and the new body's, ONCE unless its
    lg_xmit was linked — for every body `b` the number of invocations grows by exactly these two indicator terms (so
    no callback runs twice, none of a third body runs, and the new body's is never dropped);
(3) hence "ran + held" of every body is unchanged and the new body is accounted for exactly once. -/
theorem adl_supersede_release_once (s : AdlSess) (key body : Nat) (ex : AdlExit) :
    let s' := adlCall s key body ex
    s'.xmits = (if ex.isLinked then [{ key := key, body := body }] else []) ++
        (if ex = .refused then s.xmits else removeKey s.xmits key) ∧
    (∀ b, ran s' b = ran s b + (if body = b ∧ ex.isLinked = false then 1 else 0) +
        (if superseded s key ex = some b then 1 else 0)) ∧
    (∀ b, ran s' b + held s' b = ran s b + held s b + (if body = b then 1 else 0)) :=
  ⟨(adlCall_spec s key body ex).1, (adlCall_spec s key body ex).2, fun b => adlCall_ledger s key body ex b⟩

/-- The exits are those of `adlRel` / `addDataLarge`: without allocation failure the request path's exit links an
lg_xmit exactly when `addDataLarge` yields a multi-block transfer, and otherwise accounts for one invocation. -/
theorem adl_exit_matches_adlRel (maxSize tokLen optBytes lastOpt : Nat) (blk : Option Nat) (maxBlk length rtagLen : Nat) :
    (adlExitReq maxSize tokLen optBytes lastOpt blk maxBlk length rtagLen 0).rel =
      adlRel maxSize tokLen optBytes lastOpt blk maxBlk length rtagLen ∧
    ((adlExitReq maxSize tokLen optBytes lastOpt blk maxBlk length rtagLen 0).isLinked = true ↔
      ∃ a, addDataLarge maxSize tokLen optBytes lastOpt blk maxBlk length rtagLen = some a ∧ a.lgXmit = true) := by
  have h := adlExitReq_rel maxSize tokLen optBytes lastOpt blk maxBlk length rtagLen
  refine ⟨h, ?_⟩
  rw [← (adlRel_spec maxSize tokLen optBytes lastOpt blk maxBlk length rtagLen).2, ← h]
  cases adlExitReq maxSize tokLen optBytes lastOpt blk maxBlk length rtagLen 0 <;> simp [AdlExit.isLinked, AdlExit.rel]

/-- The release callback, part 4 — a session's whole life: for EVERY sequence of calls (any keys — re-used or not —,
any exits), expiries and frees, with the bodies numbered in call order: at every point each body handed over so far has
either had its callback run exactly once or is held by exactly one linked lg_xmit (never both, never twice), no other
callback has run, the session never holds two transfers with one key, and once the session is freed every body's
callback has run EXACTLY once. -/
theorem adl_run_release_exactly_once (evs : List AdlEv) :
    let st := adlRun evs
    (∀ b, ran st.1 b + held st.1 b = if b < st.2 then 1 else 0) ∧
    (st.1.xmits.map (·.key)).Nodup ∧
    (let f := adlRun (evs ++ [AdlEv.free])
     f.1.xmits = [] ∧ f.2 = st.2 ∧ ∀ b, ran f.1 b = if b < st.2 then 1 else 0) := by
  intro st
  have hinv : AdlInv st := adlFold_inv evs _ adlInv_init
  refine ⟨hinv, adlFold_keys evs _ List.nodup_nil, ?_⟩
  intro f
  have hf : f = adlEvStep st AdlEv.free := by
    show (evs ++ [AdlEv.free]).foldl adlEvStep ({}, 0) = _
    rw [List.foldl_append]; rfl
  rw [hf]
  refine ⟨rfl, rfl, ?_⟩
  intro b
  show ran (adlReleaseAll st.1) b = _
  rw [(adlReleaseAll_ledger st.1 b).2]
  exact hinv b

/-- non-vacuity, and the seeded scenario: a 600-byte PUT with a 5-byte-key token on a 128-byte PDU links an lg_xmit
(block size 2); a second PUT re-using the token with a 60-byte Uri-Path does not fit ("(2)"): the first body's callback
has run once, the second body's once, nothing is linked.  Had `fail:` seen the superseded lg_xmit in the local variable
(`adlFailPath (some 0)`), body 0 would have run twice and body 1 never. -/
example :
    adlExitReq 128 8 2 11 none 0 600 1 0 = .linked 2 ∧ adlExitReq 128 8 62 11 none 0 600 1 0 = .failSearch ∧
    adlRun [.call 5 (.linked 2), .call 5 .failSearch] = ({ xmits := [], rel := [1, 0] }, 2) ∧
    adlFailPath (some 0) 1 [0] = [0, 0] := by decide
example : adlExitReq 1152 4 2 11 none 0 6000 1 1 = .failSearch ∧ adlExitReq 1152 4 2 11 none 0 6000 1 2 = .failNew ∧
    adlExitReq 1152 4 2 11 none 0 6000 1 3 = .failNew ∧ adlExitRsp 60 4 2 12 6 0 5000 1 0 = .failSearch ∧
    adlExitRsp 20 4 2 12 6 0 5000 1 0 = .refused ∧ adlExitRsp 1152 4 2 12 6 0 5000 1 0 = .linked 6 := by decide
example : adlRun [.call 1 (.linked 6), .call 2 (.linked 6), .call 1 .released, .expire, .call 3 .failNew, .free] =
    ({ xmits := [], rel := [3, 1, 2, 0] }, 4) := by decide

/-! ## two concurrent Block1 transfers on one session, told apart by Request-Tag ("locate the lg_srcv")

M = `srcvMultiStep` (Model/BlockRtag.lean), tied to the real coap_handle_request_put_block by the T2 op `srcv3`. -/

/-- The key an lg_srcv is filed under is the Request-Tag's PRESENCE and VALUE (an EMPTY tag is a tag): for every list
of lg_srcvs and every request, (1) the element the request is processed against is the first one filed under exactly
the request's key; (2) if there is none, the element created carries exactly that key, so that the next block with the
same Request-Tag (absent / EMPTY / any value) finds it; (3) elements filed under another key survive the step
unchanged and nothing with another key is added — the blocks of one transfer never reach the other's lg_srcv. -/
theorem request_tag_tells_transfers_apart (cap : Nat) (junk : UInt8) (maxBlk : Nat) (lgs : List LgSrcv)
    (o : Option Bytes) (num m szx : Nat) (payload : Bytes) (size1 : Option Nat) :
    (∀ i, srcvFind lgs o = some i → ∃ lg, lgs[i]? = some lg ∧ lg.key = o ∧
      ∀ j lg', j < i → lgs[j]? = some lg' → lg'.key ≠ o) ∧
    (srcvFind lgs o = none → (∀ lg, lg ∈ lgs → lg.key ≠ o) ∧
      ∀ s' out, srcvStep cap junk maxBlk none num m szx payload size1 = (some s', out) →
        ∃ new, (srcvMultiStep cap junk maxBlk lgs o num m szx payload size1).1 = new :: lgs ∧ new.key = o ∧
          new.s = s' ∧ srcvFind (new :: lgs) o = some 0) ∧
    (∀ lg, lg ∈ lgs → lg.key ≠ o → lg ∈ (srcvMultiStep cap junk maxBlk lgs o num m szx payload size1).1) ∧
    (∀ lg, lg ∈ (srcvMultiStep cap junk maxBlk lgs o num m szx payload size1).1 → lg ∈ lgs ∨ lg.key = o) := by
  refine ⟨fun i h => srcvFind_some lgs o i h, ?_, (srcvMultiStep_keys cap junk maxBlk lgs o num m szx payload size1).1,
    (srcvMultiStep_keys cap junk maxBlk lgs o num m szx payload size1).2⟩
  intro hnone
  refine ⟨srcvFind_none lgs o hnone, ?_⟩
  intro s' out hs
  refine ⟨⟨o.isSome, o.getD [], s'⟩, ?_, ?_, rfl, ?_⟩
  · unfold srcvMultiStep
    rw [hnone]
    simp only
    rw [hs]
    cases o <;> rfl
  · cases o <;> rfl
  · cases o <;> simp [srcvFind, rtagMatch]

/-- an EMPTY Request-Tag is a key of its own: it matches neither an lg_srcv created without the option nor one with a
non-empty tag, and it does match the one created with an empty tag (the defect seeded as "record the tag only if its
length is non-zero" makes the last line false: every block then opens a new lg_srcv) -/
example : rtagMatch (some []) { rtagSet := false, rtag := [], s := { recv := [], totalLen := 0, body := none, szx := 0 } } = false ∧
    rtagMatch (some []) { rtagSet := true, rtag := [1], s := { recv := [], totalLen := 0, body := none, szx := 0 } } = false ∧
    rtagMatch none { rtagSet := true, rtag := [], s := { recv := [], totalLen := 0, body := none, szx := 0 } } = false ∧
    rtagMatch (some []) { rtagSet := true, rtag := [], s := { recv := [], totalLen := 0, body := none, szx := 0 } } = true := by
  decide

set_option maxRecDepth 100000 in
/-- two interleaved 40-byte transfers to one resource, one with an EMPTY Request-Tag and one without the option: two
lg_srcvs, each body delivered once -/
example :
    let b0 : Bytes := (List.range 40).map (fun i => UInt8.ofNat i)
    let b1 : Bytes := (List.range 40).map (fun i => UInt8.ofNat (100 + i))
    let st (lgs : List LgSrcv) (o : Option Bytes) (b : Bytes) (k m : Nat) :=
      srcvMultiStep 4 0 0 lgs o k m 0 (slice b 0 k) none
    let s1 := st [] (some []) b0 0 1
    let s2 := st s1.1 none b1 0 1
    let s3 := st s2.1 (some []) b0 1 1
    let s4 := st s3.1 none b1 1 1
    let s5 := st s4.1 (some []) b0 2 0
    let s6 := st s5.1 none b1 2 0
    s2.1.length = 2 ∧ s5.2 = SrcvOut.deliver b0 40 ∧ s6.2 = SrcvOut.deliver b1 40 ∧ s6.1 = [] := by decide


/-! ## Composed: libcoap sender ∘ lossy network ∘ libcoap receiver, Block2 and Block1 (Model/BlockNet.lean)

FULL statement (not proved): `never_wrong_body` / `at_most_once_per_transfer` for the composed system including
everything the real endpoints do.  What is missing in the two theorems below: responses the APPLICATION builds when a
follow-up Block2 request finds no lg_xmit, and RESPONSE bodies that fit one message (the Block2 model generates no message
there; request bodies that fit one message are modelled); the
parameters `adlBody` is called with on the response path are a hypothesis (`B2ParOK`), which `response_path_params_ok` below
discharges for `rspCfg`, what the C computes for a GET carrying Block2; per-block mode on the server; several transfers at once;
retransmission timers and message ids (abstracted: the schedule picks any datagram ever sent, any number of times, in any
order); tokens are added by the two sections on `b2tStep` / `b1tStep` further down. -/

/-- For EVERY schedule — any loss, duplication, delay, reordering of request and response datagrams, repeated GETs,
time-outs of the server's lg_xmit and of the client's lg_crcv at any moment, an lg_crcv set up at send time (NON
request) or only by the first response (CON), any number of lg_xmit incarnations (each
with a fresh ETag, possibly with a different block size) — without ANY hypothesis on the datagrams: whatever the
client's response handler is given is the server's body (single-body mode: exactly, with its exact length) or an
exact slice of it at the announced offset (per-block mode), and a block response is never passed on as a plain one.
Every response arrival carries the `sent` flag of coap_handle_response_get_block (chosen by the schedule). -/
theorem never_wrong_body_block2_composed_partial (P : B2Par) (hP : B2ParOK P) (evs : List B2Event) :
    ∀ o, o ∈ (evs.foldl (b2Step P) {}).outs →
      (∀ d l, o = CrcvOut.body d l → P.single = true ∧ d.take l = P.body ∧ l = P.body.length) ∧
      (∀ off p total nx, o = CrcvOut.block off p total nx →
        P.single = false ∧ ∃ k szx, k < nBlocks P.body.length szx ∧ off = k * chunkSize szx ∧ p = slice P.body szx k) ∧
      (∀ off p total, o = CrcvOut.last off p total →
        P.single = false ∧ ∃ k szx, k < nBlocks P.body.length szx ∧ off = k * chunkSize szx ∧ p = slice P.body szx k) ∧
      (∀ off p total, o = CrcvOut.randomAccess off p total →
        ∃ k szx, k < nBlocks P.body.length szx ∧ off = k * chunkSize szx ∧ p = slice P.body szx k) ∧
      (∀ p, o ≠ CrcvOut.plain p) :=
  (b2Run_inv P hP evs).net.outs

/-- The hypothesis `B2ParOK` holds for what the C computes: with `cfg` = `rspCfg` (the arguments
coap_add_data_large_response → coap_write_block_b_opt → coap_add_data_large_internal hand to `adlBody` for a GET carrying
Block2; `addDataLargeRsp` = `adlBody` on `rspCfg` is tied to the real function by the T2 op `xmit2` over PDU sizes
20..1500), any PDU size below 2^62, a body below 2^32 bytes and ETags that differ between lg_xmits. -/
theorem response_path_params_ok (maxSize tokLen optBytes lastOpt maxBlk etagLen : Nat) (body : Bytes)
    (etagOf : Nat → Bytes) (fmt room : Nat) (single : Bool) (cap : Nat) (junk : UInt8)
    (hms : maxSize < 2 ^ 62) (hlen : body.length < 2 ^ 32) (hinj : ∀ k1 k2, etagOf k1 = etagOf k2 → k1 = k2) :
    B2ParOK { body := body, cfg := rspCfg maxSize tokLen optBytes lastOpt maxBlk body.length etagLen, etagOf := etagOf,
              fmt := fmt, room := room, single := single, cap := cap, junk := junk } := by
  have h := rspCfg_ok maxSize tokLen optBytes lastOpt maxBlk body.length etagLen hms
  -- `dsimp only` reduces `{ … }.cfg` first: left to the unifier, each field pays for unfolding `rspCfg`
  constructor
  · exact hlen
  · dsimp only; exact fun szx c hc => (h szx c hc).1
  · dsimp only; exact fun szx c hc => (h szx c hc).2.1
  · dsimp only; exact fun szx c hc => (h szx c hc).2.2.1
  · dsimp only; exact fun szx c hc => (h szx c hc).2.2.2
  · exact hinj

set_option maxRecDepth 100000 in
/-- non-vacuity: a 96-byte response PDU makes the server itself reduce 1024-byte blocks to 32 bytes -/
example : (rspCfg 96 4 2 12 0 1000 1 6).map (fun c => (c.b2, c.blk, c.tokOpts0)) = some (1, some 2, 8) ∧
    (addDataLargeRsp 96 4 2 12 6 0 1000 1).map (fun r => (r.lgXmit, r.blkSize, r.payload)) = some (true, 1, 32) := by decide

/-- a concrete system for the examples: 40-byte body, the server settles on 16-byte blocks -/
def exPar (single : Bool) : B2Par :=
  { body := (List.range 40).map (fun i => UInt8.ofNat i),
    cfg := fun _ => some { maxSize := 1152, tokLen := 4, base := 6, d := 11, tokOpts0 := 8, b2 := 0, extra := 6, blk := some 0 },
    etagOf := fun k => List.replicate k 1, fmt := 42, room := 1000, single := single, cap := 4, junk := 0 }

/-- the hypothesis `B2ParOK` is satisfiable -/
example (single : Bool) : B2ParOK (exPar single) :=
  { len := (by show ((List.range 40).map (fun i => UInt8.ofNat i)).length < 2 ^ 32; decide),
    ms := fun _ c hc => (by cases hc; show 1152 < 2 ^ 62; decide),
    tok := fun _ c hc => (by cases hc; show 8 ≤ 6 + 43; decide),
    b2 := fun _ c hc _ => (by cases hc; show ((2 ^ (0 + 4) : Nat) : Int) ≤ adlAvail 1152 8 4; decide),
    b26 := fun _ c hc => (by cases hc; show 0 ≤ 6; decide),
    inj := (by
      intro a b h
      have h' : List.replicate a (1 : UInt8) = List.replicate b 1 := h
      have := congrArg List.length h'
      simpa using this) }

/-- a schedule with a duplicated response and a retransmitted request: three requests, one delivery -/
example :
    let evs : List B2Event := [.appGet 0, .reqArrives 0, .rspArrives 0 true, .reqArrives 1, .rspArrives 1 true, .rspArrives 1 true,
      .reqArrives 1, .reqArrives 2, .rspArrives 3 true]
    let s := evs.foldl (b2Step (exPar true)) {}
    s.outs = [.next 1 0, .next 2 0, .skip, .body (exPar true).body 40] ∧ s.cli = none ∧ s.rsps.length = 4 := by
  decide +kernel

/-- a duplicated FIRST request creates a second lg_xmit with a new ETag: the client restarts and still gets the body -/
example :
    let evs : List B2Event := [.appGet 0, .reqArrives 0, .reqArrives 0, .rspArrives 0 true, .rspArrives 1 true, .reqArrives 2,
      .rspArrives 2 true, .reqArrives 3, .rspArrives 3 true, .reqArrives 4, .rspArrives 4 true]
    let s := evs.foldl (b2Step (exPar true)) {}
    s.outs = [.next 1 0, .restart 0, .next 1 0, .next 2 0, .body (exPar true).body 40] ∧ s.srvEtag = 3 := by
  decide +kernel

/-- The Block1 direction, composed (`b1Step`, Model/BlockNet.lean): libcoap client (`coap_add_data_large_request` for the
first message, `coap_handle_response_send_block` for the others, early size renegotiation included) ∘ network ∘ libcoap
server in single-body mode (`coap_handle_request_put_block` for one lg_srcv; 2.31 with the SZX of the request or the
server's maximum for block 0; empty ACK; the application's answer; 4.08 / 4.00).  For EVERY schedule (repeated PUTs,
time-outs of the client's lg_xmit and of the server's lg_srcv at any moment, any server block-size limit included) and with
NO hypothesis on the datagrams: whatever the server hands to its application is exactly the client's body with its exact
length.  The invariant `B1Inv` discharges the hypotheses of `never_wrong_body_partial` (slice, SZX not below the tracked
one) and of `client_block1_genuine` (`XmitInv`).
A body that fits ONE message is in the model too (`adlNoBlock`; `ReqOK` = `ReqBlk` ∨ `ReqSingle`).
Still not in the model, hence still `_partial` (see the section header): two lg_srcvs at once (`request_tag_…`), per-block
mode on the server, timers / message ids / tokens; body < 2^31 bytes. -/
theorem never_wrong_body_block1_composed_partial (P : B1Par) (hP : B1ParOK P) (evs : List B1Event) :
    ∀ o, o ∈ (evs.foldl (b1Step P) {}).outs → ∀ b l, o = SrcvOut.deliver b l → b = P.body ∧ l = P.body.length :=
  (b1Run_inv P hP evs).outs

/-- a concrete Block1 system: 200-byte body, the client would use 1024-byte blocks but asks for 64, the server allows 32 -/
def exPar1 : B1Par :=
  { body := (List.range 200).map (fun i => UInt8.ofNat i), maxSize := 1152, tokLen := 4, optBytes := 2, lastOpt := 11,
    blk := some 2, maxBlkC := 0, rtagLen := 1, maxBlk := 1, room := 1000, cap := 4, junk := 0 }

example : B1ParOK exPar1 :=
  { len := (by show ((List.range 200).map (fun i => UInt8.ofNat i)).length < 2 ^ 31; simp),
    ms := (by show 1152 < 2 ^ 62; decide) }

/-- early size renegotiation over the composed system, with a duplicated 2.31 and a duplicated block: the first block
(64 bytes) is recorded as two blocks of 32, the client goes on with block 2 of 32 bytes, one delivery at the end -/
example :
    let evs : List B1Event := [.appPut, .reqArrives 0, .rspArrives 0, .rspArrives 0, .reqArrives 1, .reqArrives 1,
      .rspArrives 1, .reqArrives 2, .rspArrives 3, .reqArrives 3, .rspArrives 4, .reqArrives 4, .rspArrives 5, .reqArrives 5]
    let s := evs.foldl (b1Step exPar1) {}
    s.reqs.map (fun d => (d.num, d.m, d.szx, d.payload.length)) =
      [(0, 1, 2, 64), (2, 1, 1, 32), (3, 1, 1, 32), (4, 1, 1, 32), (5, 1, 1, 32), (6, 0, 1, 8)] ∧
    s.outs.getLast? = some (SrcvOut.deliver exPar1.body 200) ∧ s.srv = none ∧
    (s.outs.filter (fun o => match o with | .deliver _ _ => true | _ => false)).length = 1 := by
  decide +kernel

/-! ### RUN-level "at most once" for the composed Block1 system, with a ghost history (Lemmas/BlockNetOnce.lean)

`b1StepG` = `b1Step` plus the ghost epoch `g`.  "At most one delivery per PUT event" is FALSE
of the code — and not demanded by RFC 7959: once the lg_srcv is released a replay of the complete datagram sequence is a
new transfer (SPEC DECISION D6; witness below: one PUT, two deliveries).  What holds, for EVERY schedule: -/

/-- Along EVERY schedule of the composed Block1 system (single-message bodies included), whenever a request arrival makes the server hand a
body to the application: it is the client's body, with its exact length, and EVERY byte of it was carried — for exactly that
offset — by a request datagram that arrived in the CURRENT epoch, i.e. after the lg_srcv was last released (`SentIn1` over
the ghost).  A block-wise delivery releases the lg_srcv and empties the epoch.  So the number of deliveries is at most the
number of times a complete set of blocks was received after the previous delivery / release, and nothing received before can
be used again.  Hypothesis `hN`: the body is addressable with a 20-bit NUM in the settled block size. -/
theorem at_most_once_block1_run (P : B1Par) (hP : B1ParOK P) (hN : nBlocks P.body.length (b1S P) ≤ 2 ^ 20)
    (evs : List B1Event) (i : Nat) (d : Req1) :
    let sg := evs.foldl (b1StepG P) ({}, [])
    sg.1.reqs[i]? = some d →
    ∀ b l, (srcvStep P.cap P.junk P.maxBlk sg.1.srv d.num d.m d.szx d.payload d.size1).2 = SrcvOut.deliver b l →
      (b = P.body ∧ l = P.body.length) ∧
      (∀ o, o < P.body.length → ∃ v, P.body[o]? = some v ∧ SentIn1 (d.dgram :: sg.2) o v) ∧
      (¬ (d.num = 0 ∧ d.m = 0) →
        (b1StepG P sg (B1Event.reqArrives i)).1.srv = none ∧ (b1StepG P sg (B1Event.reqArrives i)).2 = []) := by
  intro sg hq b l hb
  obtain ⟨hinv, hgh⟩ := b1RunG_inv P hP hN evs
  have hd := hinv.req d (List.mem_of_getElem? hq)
  obtain ⟨e1, e2⟩ := b1Step_req P sg.1 i d hq
  have hbl : b = P.body ∧ l = P.body.length := by
    have hnext := b1Step_inv P hP sg.1 (B1Event.reqArrives i) hinv
    exact hnext.outs _ (by rw [e2]; exact List.mem_append_right _ List.mem_cons_self) b l hb
  obtain ⟨_, k2⟩ := b1Req_ghost P hN sg.1 sg.2 d hd hgh
  obtain ⟨_, k4⟩ := k2 b l hb
  refine ⟨hbl, ?_, ?_⟩
  · intro o ho
    rw [hbl.1, hbl.2] at k4
    exact k4 o ho
  · intro hn
    have hrel : (b1StepG P sg (B1Event.reqArrives i)).1.srv = none := by
      show (b1Step P sg.1 (B1Event.reqArrives i)).srv = none
      rw [e1]
      rcases hd with hblk | ⟨q1, q2, _⟩
      · exact ((b1Req_spec P hP sg.1 d hinv hblk).2.2 b l hb).2.2 hn
      · exact (hn ⟨q1, q2⟩).elim
    exact ⟨hrel, (b1StepG_ghost P hN sg (B1Event.reqArrives i) hinv hgh).empty hrel⟩

/-- … hence a delivery needs block 0 to have arrived in the current epoch: whatever was received before the last release,
a replay of datagrams none of which carries NUM 0 — the LAST block alone, the last k blocks, any duplicates of them in any
order — never makes the server call the application. -/
theorem block1_replay_without_block0_never_delivers (P : B1Par) (hP : B1ParOK P)
    (hN : nBlocks P.body.length (b1S P) ≤ 2 ^ 20) (evs : List B1Event) (i : Nat) (d : Req1) :
    let sg := evs.foldl (b1StepG P) ({}, [])
    sg.1.reqs[i]? = some d → (∀ d', d' ∈ d.dgram :: sg.2 → d'.num ≠ 0) →
    ∀ b l, (srcvStep P.cap P.junk P.maxBlk sg.1.srv d.num d.m d.szx d.payload d.size1).2 ≠ SrcvOut.deliver b l := by
  intro sg hq hno b l hb
  obtain ⟨hinv, _⟩ := b1RunG_inv P hP hN evs
  obtain ⟨_, hall, _⟩ := at_most_once_block1_run P hP hN evs i d hq b l hb
  have hpos : 0 < P.body.length := by
    rcases hinv.req d (List.mem_of_getElem? hq) with ⟨_, g2, _⟩ | ⟨q1, _, _⟩
    · have := (lt_nBlocks_iff P.body.length d.szx d.num).mp g2
      omega
    · exact (hno d.dgram List.mem_cons_self q1).elim
  obtain ⟨v, _, d', hd', hle, _⟩ := hall 0 hpos
  exact hno d' hd' ((Nat.mul_eq_zero.mp (Nat.le_zero.mp hle)).resolve_right (Nat.ne_of_gt (Nat.two_pow_pos _)))

/-- in particular: the server holds no lg_srcv (the transfer was delivered, failed or timed out) and a datagram other
than block 0 arrives — a replayed last block in particular: the application is not called. -/
theorem block1_replayed_last_block_never_delivers (P : B1Par) (hP : B1ParOK P)
    (hN : nBlocks P.body.length (b1S P) ≤ 2 ^ 20) (evs : List B1Event) (i : Nat) (d : Req1) :
    let s := evs.foldl (b1Step P) {}
    s.reqs[i]? = some d → s.srv = none → d.num ≠ 0 →
    ∀ b l, (srcvStep P.cap P.junk P.maxBlk s.srv d.num d.m d.szx d.payload d.size1).2 ≠ SrcvOut.deliver b l := by
  intro s hq hnone hnum
  have hfst := b1StepG_fst P evs ({}, [])
  obtain ⟨_, hgh⟩ := b1RunG_inv P hP hN evs
  have hs : (evs.foldl (b1StepG P) ({}, [])).1 = s := hfst
  have hemp := hgh.empty (by rw [hs]; exact hnone)
  have := block1_replay_without_block0_never_delivers P hP hN evs i d (by rw [hs]; exact hq)
    (by
      intro d' hd'
      rw [hemp, List.mem_singleton] at hd'
      rw [hd']
      exact hnum)
  rw [hs] at this
  exact this

/-- `hN` is satisfiable: 200 bytes in 32-byte blocks are 7 blocks -/
example : nBlocks exPar1.body.length (b1S exPar1) ≤ 2 ^ 20 := by decide +kernel

/-- WITNESS that "at most one delivery per PUT" is not what the code does (D6): ONE PUT; after the delivery the complete
sequence of request datagrams is replayed and the server — which has released its lg_srcv — delivers the body again; a
replay of the last block alone (`reqArrives 5` at the end) does not. -/
example :
    let first : List B1Event := [.appPut, .reqArrives 0, .rspArrives 0, .reqArrives 1, .rspArrives 1, .reqArrives 2,
      .rspArrives 2, .reqArrives 3, .rspArrives 3, .reqArrives 4, .rspArrives 4, .reqArrives 5]
    let replay : List B1Event := [.reqArrives 0, .reqArrives 1, .reqArrives 2, .reqArrives 3, .reqArrives 4, .reqArrives 5]
    let isD : SrcvOut → Bool := fun o => match o with | .deliver _ _ => true | _ => false
    ((first.foldl (b1Step exPar1) {}).outs.filter isD).length = 1 ∧
    (((first ++ replay).foldl (b1Step exPar1) {}).outs.filter isD).length = 2 ∧
    (((first ++ replay ++ [B1Event.reqArrives 5]).foldl (b1Step exPar1) {}).outs.filter isD).length = 2 ∧
    (((first ++ [B1Event.reqArrives 5, B1Event.reqArrives 4, B1Event.reqArrives 5]).foldl (b1Step exPar1) {}).outs.filter isD).length = 1 ∧
    ((first ++ replay).foldl (b1StepG exPar1) ({}, [])).2 = [] := by
  decide +kernel

/-- `exPar1` with a body that fits one message (40 bytes) and no Block1 option from the application -/
def exPar1s : B1Par := { exPar1 with body := (List.range 40).map (fun i => UInt8.ofNat i), blk := none }

/-- single-message bodies in the composed system (`adlNoBlock`: no lg_xmit, no Size1, Block1 absent): every arrival of that
datagram is a request of its own (D6) and hands over exactly the body -/
example :
    let s := [B1Event.appPut, .reqArrives 0, .reqArrives 0].foldl (b1Step exPar1s) {}
    s.reqs.map (fun d => (d.num, d.m, d.szx, d.payload.length, d.size1)) = [(0, 0, 0, 40, none)] ∧ s.cli = none ∧
    s.outs = [.deliver exPar1s.body 40, .deliver exPar1s.body 40] ∧ s.srv = none := by
  decide +kernel

/-! ### RUN-level "at most once" for the composed Block2 system (single-body mode), with a ghost history

`b2StepG` = `b2Step` plus the ghost epoch `g`.  The event `rspArrives j sent`
carries the `sent` argument of coap_handle_response_get_block (`crcvStepS`): whether coap_dispatch matched the datagram to a
Confirmable request still in the send queue.  The schedule picks it freely, so every behaviour of the message layer is
covered; what the message layer guarantees (a copy of a response whose request has already been answered is NOT matched)
is outside this model and trace-checked (`xfer` logs the flag). -/

/-- Along EVERY schedule of the composed Block2 system in single-body mode (every choice of `sent`), whenever a response arrival makes the client hand a body to the response handler: it is the server's body with its
exact length, and EVERY byte of it was carried — for exactly that offset — by a response that arrived in the CURRENT epoch,
i.e. after the lg_crcv was last set up or restarted; the delivery releases the lg_crcv and empties the epoch.  So the number
of deliveries is at most the number of lg_crcv lifetimes in which a complete set of block responses arrived. -/
theorem at_most_once_block2_run (P : B2Par) (hP : B2ParOK P) (hs : P.single = true) (evs : List B2Event) (j : Nat)
    (sent : Bool) (r : Resp) :
    let sg := evs.foldl (b2StepG P) ({}, [])
    sg.1.rsps[j]? = some r →
    ∀ d l, (crcvStepS sent P.single P.cap P.junk sg.1.cli r).2 = CrcvOut.body d l →
      (d.take l = P.body ∧ l = P.body.length) ∧
      (∀ o, o < P.body.length → ∃ v, P.body[o]? = some v ∧ SentIn (r :: sg.2) o v) ∧
      (b2StepG P sg (B2Event.rspArrives j sent)).1.cli = none ∧ (b2StepG P sg (B2Event.rspArrives j sent)).2 = [] := by
  intro sg hq d l hb
  obtain ⟨hinv, hgh⟩ := b2RunG_inv P hP hs evs
  obtain ⟨e1, e2⟩ := b2Step_rsp P sg.1 j sent r hq
  have hbl : d.take l = P.body ∧ l = P.body.length := by
    have hnext := b2Step_inv P hP sg.1 (B2Event.rspArrives j sent) hinv
    exact ((hnext.net.outs _ (by rw [e2]; exact List.mem_append_right _ List.mem_cons_self)).1 d l hb).2
  have hb' : (crcvStepS sent true P.cap P.junk sg.1.cli r).2 = CrcvOut.body d l := by rw [← hs]; exact hb
  obtain ⟨_, k2⟩ := b2Rsp_ghost P.cap P.junk sent sg.1.cli sg.2 r hgh.h
  obtain ⟨k3, k4⟩ := k2 d l hb'
  have hrel : (b2StepG P sg (B2Event.rspArrives j sent)).1.cli = none := by
    show (b2Step P sg.1 (B2Event.rspArrives j sent)).cli = none
    rw [e1]
    exact crcvStepS_final_none _ _ _ _ _ _ (by rw [hb]; rfl)
  refine ⟨hbl, ?_, hrel, ?_⟩
  · intro o ho
    obtain ⟨v, h1, h2⟩ := k4 o (by rw [hbl.2]; exact ho)
    refine ⟨v, ?_, h2⟩
    rw [← hbl.1, List.getElem?_take, if_pos (by rw [hbl.2]; exact ho)]
    exact h1
  · exact (b2StepG_ghost P hs sg (B2Event.rspArrives j sent) hgh).empty
      (by intro c hc; rw [hrel] at hc; cases hc)

/-- … hence a delivery needs block 0 to have arrived in the current epoch: replays of block responses none of which is
block 0 (the LAST block in particular) never deliver, whatever was received in earlier lifetimes. -/
theorem block2_replay_without_block0_never_delivers (P : B2Par) (hP : B2ParOK P) (hs : P.single = true)
    (evs : List B2Event) (j : Nat) (sent : Bool) (r : Resp) :
    let sg := evs.foldl (b2StepG P) ({}, [])
    sg.1.rsps[j]? = some r → (∀ r', r' ∈ r :: sg.2 → numOf r' ≠ 0) →
    ∀ d l, (crcvStepS sent P.single P.cap P.junk sg.1.cli r).2 ≠ CrcvOut.body d l := by
  intro sg hq hno d l hb
  obtain ⟨hinv, _⟩ := b2RunG_inv P hP hs evs
  obtain ⟨_, hall, _⟩ := at_most_once_block2_run P hP hs evs j sent r hq d l hb
  obtain ⟨num, szx, k, g1, g2, _⟩ := hinv.net.rsp r (List.mem_of_getElem? hq)
  have hpos : 0 < P.body.length := by
    have := (lt_nBlocks_iff P.body.length szx num).mp g2
    omega
  obtain ⟨v, _, r', hr', n', m', s', hb', hle, _⟩ := hall 0 hpos
  have h0 : n' = 0 := (Nat.mul_eq_zero.mp (Nat.le_zero.mp hle)).resolve_right (Nat.ne_of_gt (Nat.two_pow_pos _))
  exact hno r' hr' (by unfold numOf; rw [hb', h0])

/-- "At most once per GET" as far as the block layer can guarantee it: once the client holds no lg_crcv (the body was
handed over, the transfer failed or timed out), NOTHING reaches the response handler and no lg_crcv appears along any
continuation in which the application sends no new request with an lg_crcv (`cliNew`) and no response is matched to a request
still queued — replays of ANY response datagrams (block 0, the last block, whole sequences, of any lg_xmit incarnation), in any
number and order, requests and time-outs in between, included.  Both delivery modes. -/
theorem block2_replays_after_completion_dropped (P : B2Par) (hP : B2ParOK P) (evs evs2 : List B2Event) :
    let s := evs.foldl (b2Step P) {}
    s.cli = none → (∀ e, e ∈ evs2 → e.unsolicited = true) →
    (evs2.foldl (b2Step P) s).cli = none ∧ ∀ o, o ∈ (evs2.foldl (b2Step P) s).outs → o ∈ s.outs ∨ o = CrcvOut.skip := by
  intro s hc hu
  exact b2_unsolicited_run P hP evs2 s (b2Run_inv P hP evs) hc hu

/-- the run of the first example continued: every response datagram replayed (unmatched) after the delivery, block 0 and
the last block twice — only `skip`s are added, still one delivery, no lg_crcv; and the ghost along the run -/
example :
    let evs : List B2Event := [.appGet 0, .reqArrives 0, .rspArrives 0 true, .reqArrives 1, .rspArrives 1 true,
      .reqArrives 2, .rspArrives 2 true]
    let replay : List B2Event := [.rspArrives 0 false, .rspArrives 2 false, .rspArrives 1 false, .rspArrives 2 false,
      .rspArrives 0 false]
    let s := (evs ++ replay).foldl (b2Step (exPar true)) {}
    s.outs = [.next 1 0, .next 2 0, .body (exPar true).body 40, .skip, .skip, .skip, .skip, .skip] ∧ s.cli = none ∧
    (replay.all fun e => e.unsolicited) = true ∧
    (((evs.take 5).foldl (b2StepG (exPar true)) ({}, [])).2.map numOf) = [1, 0] ∧
    (evs.foldl (b2StepG (exPar true)) ({}, [])).2 = [] := by
  decide +kernel

/-- WITNESS that the `sent` flag matters (and why "once per GET" needs the message layer): a copy of block 0 that IS
matched to a queued request after the transfer completed sets up a new lg_crcv — a new transfer, second delivery (D6) -/
example :
    let evs : List B2Event := [.appGet 0, .reqArrives 0, .rspArrives 0 true, .reqArrives 1, .rspArrives 1 true,
      .reqArrives 2, .rspArrives 2 true, .rspArrives 0 true, .rspArrives 1 true, .rspArrives 2 true]
    ((evs.foldl (b2Step (exPar true)) {}).outs.filter fun o => o.isFinal).length = 2 := by
  decide +kernel

/-- PER-BLOCK mode, composed system, EVERY schedule (ghost `seen`: `b2StepS`, `B2SeenInv`):
a block handed to the handler was not handed over before in this lifetime — duplicates and replays of any response datagram,
of any lg_xmit incarnation, matched or not, never reach the handler twice — and when the completing block is handed over every
other block of the body has been: per lifetime the handler gets each block at most once and, at completion, all of them.
No hypothesis on the datagrams (`per_block_tiles_once_partial` needed `Admissible2`; `B2Inv` supplies it here). -/
theorem per_block_tiles_once_composed (P : B2Par) (hP : B2ParOK P) (hs : P.single = false) (evs : List B2Event) (j : Nat)
    (sent : Bool) (r : Resp) :
    let ss := evs.foldl (b2StepS P) ({}, [])
    ss.1.rsps[j]? = some r →
    (∀ off p t nx, (crcvStepS sent P.single P.cap P.junk ss.1.cli r).2 = CrcvOut.block off p t nx → numOf r ∉ ss.2) ∧
    (∀ off p t, (crcvStepS sent P.single P.cap P.junk ss.1.cli r).2 = CrcvOut.last off p t →
      numOf r ∉ ss.2 ∧ ∀ k, k < nBlocks P.body.length (szxOfR r) → k = numOf r ∨ k ∈ ss.2) := by
  intro ss hq
  obtain ⟨hinv, hG⟩ := b2RunS_inv P hP hs evs
  rw [hs]
  obtain ⟨a, b, _⟩ := b2_tiles_step hinv.net hs ss.2 sent (List.mem_of_getElem? hq) ss.1.cli hinv.cli hG
  exact ⟨a, b⟩

/-- the ghost along a concrete per-block run: block 1 duplicated, then a stray unmatched copy of block 0 after completion -/
example :
    let evs : List B2Event := [.appGet 0, .reqArrives 0, .rspArrives 0 true, .reqArrives 1, .rspArrives 1 true,
      .rspArrives 1 false]
    let s := (evs ++ [B2Event.reqArrives 2, B2Event.rspArrives 2 true, B2Event.rspArrives 0 false]).foldl (b2StepS (exPar false)) ({}, [])
    (evs.foldl (b2StepS (exPar false)) ({}, [])).2 = [1, 0] ∧ s.2 = [] ∧ s.1.cli = none ∧
    s.1.outs.map (fun o => match o with | CrcvOut.block off _ _ _ => off + 1 | CrcvOut.last off _ _ => off + 1 | _ => 0) =
      [1, 17, 0, 33, 0] := by
  decide +kernel

/-! ## Client: what the application's handlers see of a transfer libcoap runs under tokens of its own

`Model/BlockTok.lean`: `crcvStepS` = `coap_handle_response_get_block` with `sent` possibly NULL (every Non-confirmable or
separate response, and every message nobody waits for, arrives that way), T2 op `crcvs`; `checkUpdateToken` =
`coap_check_update_token`, which `coap_handle_nack` runs over the abandoned PDU in front of the NACK handler, T2 op `ctok`.
Whole transfers (timers, retransmission to exhaustion, two transfers on one session, late copies) are trace-checked by the
`xfer` op with content-keyed fault rules. -/

/-- "at most once per transfer", the part the lg_crcv cannot do because it is gone: a response that carries a Block2
option, meets no lg_crcv and was matched to no request (`sent == NULL`) — a duplicate or delayed copy of ANY block of a
transfer that was completed or given up, More bit set or not — is dropped; the handler is not called, no state appears. -/
theorem block2_unsolicited_dropped (single : Bool) (cap : Nat) (junk : UInt8) (r : Resp) (hb : r.blk ≠ none) :
    crcvStepS false single cap junk none r = (none, CrcvOut.skip) :=
  crcvStepS_unsolicited single cap junk r hb

/-- Along EVERY run (any responses, with or without `sent`, any state to start from): the step that hands the reassembled
body (single-body) or the completing block (per-block) to the handler releases the lg_crcv, and of the Block2 responses
that arrive afterwards without a request outstanding (`post`: duplicates, late copies, in any number and order) none
reaches the handler. -/
theorem at_most_once_block2_unsolicited (single : Bool) (cap : Nat) (junk : UInt8) (st : Option Crcv)
    (pre : List (Bool × Resp)) (x : Bool × Resp) (post : List (Bool × Resp))
    (hpost : ∀ y, y ∈ post → y.1 = false ∧ y.2.blk ≠ none) :
    let res := crcvStepS x.1 single cap junk (stateCrcvS single cap junk st pre) x.2
    res.2.isFinal = true →
      res.1 = none ∧ ∀ o, o ∈ runCrcvS single cap junk res.1 post → o = CrcvOut.skip := by
  intro res hf
  have hn : res.1 = none := crcvStepS_final_none _ _ _ _ _ _ hf
  refine ⟨hn, ?_⟩
  rw [hn]
  exact runCrcvS_none_unsolicited single cap junk post hpost

/-- A Non-confirmable Block2 transfer (every response arrives with `sent == NULL`), EVERY response sequence — any order,
any duplicates, any late copies, hostile or not — from any state: the body / the completing block is handed over at most
once. -/
theorem at_most_once_block2_non (single : Bool) (cap : Nat) (junk : UInt8) (st : Option Crcv) (xs : List (Bool × Resp))
    (hx : ∀ x, x ∈ xs → x.1 = false ∧ x.2.blk ≠ none) :
    ((runCrcvS single cap junk st xs).filter (fun o => o.isFinal)).length ≤ 1 :=
  runCrcvS_final_le_one single cap junk xs st hx

set_option maxRecDepth 100000 in
/-- non-vacuity: 40 bytes in 16-byte blocks over NON, the lg_crcv set up at send time; the last block arrives twice, then a
late copy of block 0: one hand-over, the copies are dropped -/
example :
    let body : Bytes := (List.range 40).map (fun i => UInt8.ofNat i)
    let rsp (k m : Nat) : Bool × Resp := (false, { blk := some (k, m, 0), payload := slice body 0 k })
    runCrcvS true 4 0 (some {}) [rsp 0 1, rsp 1 1, rsp 2 0, rsp 2 0, rsp 0 1] =
      [.next 1 0, .next 2 0, .body body 40, .skip, .skip] := by decide

/-- the tokens libcoap puts on the wire for a transfer all have the transfer's base: STATE_TOKEN_BASE(STATE_TOKEN_FULL(t, r))
= STATE_TOKEN_BASE(t) for every retry counter r -/
theorem wire_token_base (t r : Nat) : stateTokenBase (stateTokenFull t r) = stateTokenBase t :=
  base_full_any t r

/-- fix f4071ae: a token without a retry count (no libcoap-generated token has one: the counter starts at 1) is the
application's own and is left alone, whatever state tokens the session holds -/
theorem application_token_left_alone (crcvs xmits : List TokEnt) (isReq : Bool) (tok : Bytes)
    (h : decodeVar8 tok / 2 ^ 44 = 0) : checkUpdateToken crcvs xmits isReq tok = tok := by
  unfold checkUpdateToken
  dsimp only
  rw [if_pos h]

theorem checkUpdateToken_found (crcvs xmits : List TokEnt) (isReq : Bool) (tok : Bytes)
    (hwire : decodeVar8 tok / 2 ^ 44 ≠ 0)
    (h : (∃ e, e ∈ crcvs ∧ (tok = e.appTok ∨ stateTokenBase (decodeVar8 tok) = stateTokenBase e.state)) ∨
         (isReq = true ∧ ∃ e, e ∈ xmits ∧ (tok = e.appTok ∨ stateTokenBase (decodeVar8 tok) = stateTokenBase e.state))) :
    ∃ e, e ∈ crcvs ++ xmits ∧ checkUpdateToken crcvs xmits isReq tok = e.appTok ∧
      (tok = e.appTok ∨ stateTokenBase (decodeVar8 tok) = stateTokenBase e.state) := by
  unfold checkUpdateToken
  dsimp only
  rw [if_neg hwire]
  cases hc : tokScan (stateTokenBase (decodeVar8 tok)) tok crcvs with
  | some t =>
    obtain ⟨e, he, ht, hw⟩ := tokScan_some _ _ _ _ hc
    exact ⟨e, List.mem_append_left _ he, ht, hw⟩
  | none =>
    have hnone := tokScan_none _ _ _ hc
    rcases h with ⟨e, he, hm⟩ | ⟨hr, e, he, hm⟩
    · exact absurd hm (fun hm => hm.elim (hnone e he).1 (hnone e he).2)
    · subst hr
      simp only [if_true]
      cases hx : tokScan (stateTokenBase (decodeVar8 tok)) tok xmits with
      | some t =>
        obtain ⟨e', he', ht, hw⟩ := tokScan_some _ _ _ _ hx
        exact ⟨e', List.mem_append_right _ he', ht, hw⟩
      | none =>
        have hn2 := tokScan_none _ _ _ hx
        exact absurd hm (fun hm => hm.elim (hn2 e he).1 (hn2 e he).2)

/-- `hwire` below: the abandoned PDU carries a token libcoap generated (retry count ≥ 1 in its upper 20 bits).
"handlers only ever see the application's own token", NACK handler: whenever the abandoned PDU's token belongs to a
transfer the session still holds — as the application token or as any wire token of an lg_crcv, or (requests) of an
lg_xmit, at ANY position of the lists — the PDU shown to the handler carries an application token of one of the
session's transfers.  No hypothesis on the tokens. -/
theorem nack_shows_application_token (crcvs xmits : List TokEnt) (isReq : Bool) (tok : Bytes)
    (hwire : decodeVar8 tok / 2 ^ 44 ≠ 0)
    (h : (∃ e, e ∈ crcvs ∧ (tok = e.appTok ∨ stateTokenBase (decodeVar8 tok) = stateTokenBase e.state)) ∨
         (isReq = true ∧ ∃ e, e ∈ xmits ∧ (tok = e.appTok ∨ stateTokenBase (decodeVar8 tok) = stateTokenBase e.state))) :
    ∃ e, e ∈ crcvs ++ xmits ∧ checkUpdateToken crcvs xmits isReq tok = e.appTok := by
  obtain ⟨e, he, ht, _⟩ := checkUpdateToken_found crcvs xmits isReq tok hwire h
  exact ⟨e, he, ht⟩

/-- … and it is the token of THAT transfer: state tokens identify transfers (entries with the same base — an lg_xmit and the
lg_crcv `coap_send` sets up for it — carry the same application token: `hfun`; libcoap numbers them from
`session->tx_token`), the application has not chosen a token that is also on the wire (`hnot`).  Then for the transfer `e`
the abandoned PDU's token was derived from, in the lg_crcv list or (requests) the lg_xmit list, first or last: the NACK
handler is shown `e`'s application token. -/
theorem nack_token_of_its_transfer (crcvs xmits : List TokEnt) (isReq : Bool) (tok : Bytes) (e : TokEnt)
    (he : e ∈ crcvs ∨ (isReq = true ∧ e ∈ xmits))
    (hm : stateTokenBase (decodeVar8 tok) = stateTokenBase e.state)
    (hwire : decodeVar8 tok / 2 ^ 44 ≠ 0)
    (hfun : ∀ e1 e2, e1 ∈ crcvs ++ xmits → e2 ∈ crcvs ++ xmits →
      stateTokenBase e1.state = stateTokenBase e2.state → e1.appTok = e2.appTok)
    (hnot : ∀ e', e' ∈ crcvs ++ xmits → tok ≠ e'.appTok) :
    checkUpdateToken crcvs xmits isReq tok = e.appTok := by
  have hmem : e ∈ crcvs ++ xmits := by
    rcases he with he | ⟨_, he⟩
    · exact List.mem_append_left _ he
    · exact List.mem_append_right _ he
  obtain ⟨e', he', ht, hw⟩ := checkUpdateToken_found crcvs xmits isReq tok hwire
    (he.imp (fun h => ⟨e, h, Or.inr hm⟩) (fun h => ⟨h.1, e, h.2, Or.inr hm⟩))
  rcases hw with hw | hw
  · exact absurd hw (hnot e' he')
  · rw [ht]
    exact hfun e' e he' hmem (by rw [← hw, hm])

/-- non-vacuity (the two-transfers case): transfer A (application token a1a2, state token 1) was started first, transfer B
(b1b2b3, state token 2) second, so B's lg_crcv is the head of the list; A's request for a following block went out under
the wire token STATE_TOKEN_FULL(1, 3) = 0x300000000001 and is abandoned: the NACK handler is shown a1a2.  A PUT's follow-up
block is found through the lg_xmit list. -/
example :
    let A : TokEnt := { appTok := [0xa1, 0xa2], state := 1 }
    let B : TokEnt := { appTok := [0xb1, 0xb2, 0xb3], state := 2 }
    stateTokenFull 1 3 = 0x300000000001 ∧ decodeVar8 [0x30, 0, 0, 0, 0, 0x01] = 0x300000000001 ∧
    checkUpdateToken [B, A] [] true [0x30, 0, 0, 0, 0, 0x01] = [0xa1, 0xa2] ∧
    checkUpdateToken [B] [A] true [0x30, 0, 0, 0, 0, 0x01] = [0xa1, 0xa2] ∧
    checkUpdateToken [B, A] [] true [0xb1, 0xb2, 0xb3] = [0xb1, 0xb2, 0xb3] ∧
    checkUpdateToken [B, A] [] true [0x77] = [0x77] := by decide


/-! ## Tokens in the composed Block2 system (`b2tStep`, `Model/BlockNetTok.lean`) -/

/-- C09 "handlers only ever see the application's own token, never one libcoap substituted on the wire", composed
system, EVERY schedule, NO hypothesis on parameters, tokens or counters
(`tx_token` and the 16-bit retry counter may wrap): as long as no lg_crcv of the session has been released, every
response-handler call carries the application's token. -/
theorem app_token_only_block2_composed (P : B2Par) (app : Bytes) (evs : List B2TEvent) :
    ∀ x ∈ (b2tRun P app {} evs).hToks, x.2 = [] → x.1 = app := by
  intro x hx hrel
  rcases (b2tRun_inv P app evs).shown x hx with h | h
  · exact h
  · rw [hrel] at h; cases h

/-- …and the complement is exactly the open finding `c09-late-message-raw-token`: a handler call that shows a token other
than the application's shows a token whose `STATE_TOKEN_BASE` is that of an lg_crcv that had been RELEASED before the
call (completed, failed, timed out or replaced) — never one of a transfer whose state still exists. -/
theorem raw_token_only_after_release (P : B2Par) (app : Bytes) (evs : List B2TEvent) :
    ∀ x ∈ (b2tRun P app {} evs).hToks, x.1 ≠ app → stateTokenBase (decodeVar8 x.1) ∈ x.2 := by
  intro x hx hne
  rcases (b2tRun_inv P app evs).shown x hx with h | h
  · exact absurd h hne
  · exact h

/-- the same for ONE call in ANY session state satisfying the invariant (any number of lg_crcvs, e.g. other transfers'):
a matched lg_crcv ⇒ its `app_token` is shown; the token shown is the application's or belongs to a released lg_crcv -/
theorem handler_token_step (single : Bool) (cap : Nat) (junk : UInt8) (app : Bytes) (c : CliT) (sent : Bool)
    (tok : Bytes) (r : Resp) (hent : ∀ e ∈ c.crcvs, AppOK app c.released e) (htok : TokOK app c tok) :
    let res := crcvStepT single cap junk c (if sent then some tok else none) tok r
    callsHandler res.2.out = true → res.2.shown = app ∨ stateTokenBase (decodeVar8 res.2.shown) ∈ c.released :=
  (crcvStepT_spec single cap junk app c (if sent then some tok else none) tok r hent htok
    (fun _ hst => Or.inl (sentTok_eq hst))).2.2.1

/-- the hypotheses of `handler_token_step` are satisfiable on a non-trivial state: two lg_crcvs — one of the application's
request, one built from a late message of a released transfer (base 3) — and a follow-up response of the first -/
example :
    let c : CliT := { crcvs := [{ appTok := [0xa1], state := stateTokenFull 7 1, retry := 4, lg := {} },
                                { appTok := encodeVar8 (stateTokenFull 3 2), state := stateTokenFull 9 1, retry := 1, lg := {} }],
                      txTok := 9, released := [3] }
    (∀ e ∈ c.crcvs, AppOK [0xa1] c.released e) ∧ TokOK [0xa1] c (encodeVar8 (stateTokenFull 7 4)) := by
  refine ⟨?_, Or.inr (Or.inl ?_)⟩
  · intro e he
    simp only [List.mem_cons, List.not_mem_nil, or_false] at he
    rcases he with rfl | rfl
    · exact Or.inl rfl
    · exact Or.inr (by rw [base_wire_any 3 2]; decide)
  · rw [base_wire_any 7 4]
    decide

set_option linter.unusedVariables false in
/-- libcoap reads back from its own tokens the state token they were generated from (any retry count) -/
theorem wire_token_roundtrip (st r : Nat) (hr : r < 65536) :
    decodeVar8 (encodeVar8 (stateTokenFull st r)) = stateTokenFull st r ∧
    stateTokenBase (decodeVar8 (encodeVar8 (stateTokenFull st r))) = stateTokenBase st :=
  ⟨decode_encode8 _ (full_lt st r), base_wire_any st r⟩

/-- Lean witness of the open finding `c09-late-message-raw-token` in the composed system: block 1 of a transfer is
answered under the substituted token 0x200000000001; the lg_crcv times out; the (duplicated) response, matched to a
request that is still queued, reaches the handler as "random access" with the wire token — and base 1 had been released.
Without the time-out the same schedule shows the application's token only. -/
example :
    let app : Bytes := [0xa1, 0xa2]
    let evs : List B2TEvent := [.appGet 0, .reqArrives 0, .rspArrives 0 true, .reqArrives 1, .cliExpire 0, .rspArrives 1 true]
    let s := b2tRun (exPar false) app {} evs
    s.reqToks = [app, [0x20, 0, 0, 0, 0, 1]] ∧ s.hToks = [(app, []), ([0x20, 0, 0, 0, 0, 1], [1])] := by
  decide +kernel
example :
    let app : Bytes := [0xa1, 0xa2]
    let evs : List B2TEvent := [.appGet 0, .reqArrives 0, .rspArrives 0 true, .reqArrives 1, .rspArrives 1 true,
      .rspArrives 1 true, .reqArrives 2, .rspArrives 2 false]
    let s := b2tRun (exPar false) app {} evs
    s.reqToks = [app, [0x20, 0, 0, 0, 0, 1], [0x30, 0, 0, 0, 0, 1]] ∧ s.hToks.map (·.1) = [app, app, app] ∧
    s.cli.crcvs.length = 0 ∧ s.cli.released = [1] := by
  decide +kernel

/-- `never_wrong_body_block2_composed_partial` for the system WITH tokens and the lg_crcv LIST (`b2tStep`).  EVERY schedule, no hypothesis on datagrams or tokens: every
handler output is the server's body / an exact slice, and a block response is never passed on as a plain one.
Invariant `B2TInv` = the network part of `B2Inv` (`B2Net`) and `CliOK` of every lg_crcv of the list; `cliOnRsp_inv` is
stated for any lg_crcv and applies to the matched element (`crcvStepT_lg`: the step IS `crcvStep` on it or on none).
Same exclusions as the `_partial` theorem except "tokens" (single-message response bodies, application-built answers
to follow-up requests without lg_xmit, timers). -/
theorem never_wrong_body_block2_composed_tokens (P : B2Par) (hP : B2ParOK P) (app : Bytes) (evs : List B2TEvent) :
    ∀ o, o ∈ (b2tRun P app {} evs).net.outs →
      (∀ d l, o = CrcvOut.body d l → P.single = true ∧ d.take l = P.body ∧ l = P.body.length) ∧
      (∀ off p total nx, o = CrcvOut.block off p total nx →
        P.single = false ∧ ∃ k szx, k < nBlocks P.body.length szx ∧ off = k * chunkSize szx ∧ p = slice P.body szx k) ∧
      (∀ off p total, o = CrcvOut.last off p total →
        P.single = false ∧ ∃ k szx, k < nBlocks P.body.length szx ∧ off = k * chunkSize szx ∧ p = slice P.body szx k) ∧
      (∀ off p total, o = CrcvOut.randomAccess off p total →
        ∃ k szx, k < nBlocks P.body.length szx ∧ off = k * chunkSize szx ∧ p = slice P.body szx k) ∧
      (∀ p, o ≠ CrcvOut.plain p) :=
  (b2tRun_body_inv P hP app evs).1.outs

/-- two lg_crcvs at once (an old one whose follow-up response is still under way when the application asks again and the
new GET's first response arrives matched): each response goes to the lg_crcv its token selects; both bodies complete -/
example :
    let app : Bytes := [0xa1, 0xa2]
    let evs : List B2TEvent := [.appGet 0, .reqArrives 0, .rspArrives 0 true, .reqArrives 1, .cliExpire 0,
      .rspArrives 0 true, .rspArrives 1 true]
    let s := b2tRun (exPar true) app {} evs
    s.cli.crcvs.map (fun e => (e.appTok, stateTokenBase e.state, e.retry)) = [(app, 2, 2)] ∧
    s.net.outs = [.next 1 0, .next 1 0, .randomAccess 16 ((exPar true).body.drop 16 |>.take 16) 33] ∧
    s.hToks = [([0x20, 0, 0, 0, 0, 1], [1])] := by
  decide +kernel

/-! ## Tokens in the composed Block1 system (`b1tStep`, `Model/BlockNetTok1.lean`) -/

/-- C09 "handlers only ever see the application's own token", Block1 direction, composed system, EVERY schedule (Confirmable or
Non-confirmable, single-message bodies included), NO hypothesis: as long as no lg_xmit / lg_crcv of the session has been released, every response-handler call carries the
application's token. -/
theorem app_token_only_block1_composed (P : B1Par) (app : Bytes) (non : Bool) (evs : List B1TEvent) :
    ∀ x ∈ (b1tRun P app non {} evs).hToks, x.2 = [] → x.1 = app := by
  intro x hx hrel
  rcases (b1tRun_inv P app non evs).shown x hx with h | h
  · exact h
  · rw [hrel] at h; cases h

/-- the complement = the open finding `c09-late-message-raw-token` for PUT: a handler call that shows a token other than
the application's shows one whose `STATE_TOKEN_BASE` is that of an lg_xmit / lg_crcv RELEASED before the response was
dispatched (not merely before the handler ran: the lg_xmit that `lg_xmit_finished:` deletes on the way does not count —
invariant `Cli1Inv.link`: an lg_xmit with `lg_crcv` set has an lg_crcv with the same state-token base, so
coap_handle_response_get_block finds it and restores the token). -/
theorem raw_token_only_after_release_block1 (P : B1Par) (app : Bytes) (non : Bool) (evs : List B1TEvent) :
    ∀ x ∈ (b1tRun P app non {} evs).hToks, x.1 ≠ app → stateTokenBase (decodeVar8 x.1) ∈ x.2 := by
  intro x hx hne
  rcases (b1tRun_inv P app non evs).shown x hx with h | h
  · exact absurd h hne
  · exact h

/-- ONE response dispatched by `handle_response()` in ANY session state satisfying the invariant -/
theorem handler_token_step_block1 (room : Nat) (app : Bytes) (c : Cli1T) (tok : Bytes) (ok : Bool)
    (blk : Option (Nat × Nat)) (hinv : Cli1Inv app c) (htok : Tok1OK app c tok) :
    (rspStep1T room c tok ok blk).2.handler = true →
      (rspStep1T room c tok ok blk).2.shown = app ∨
      stateTokenBase (decodeVar8 (rspStep1T room c tok ok blk).2.shown) ∈ c.released :=
  (rspStep1T_spec room app c tok ok blk hinv htok).2.2.2

/-- the hypotheses of `handler_token_step_block1` are satisfiable on a non-trivial state: a linked lg_xmit + lg_crcv -/
example : Cli1Inv [0xa1] { xmit := some { appTok := [0xa1], state := stateTokenFull 7 1, count := 3,
                                            x := { data := [1, 2, 3], blkSize := 0 }, link := true },
                           crcv := some { appTok := [0xa1], state := stateTokenFull 7 1, retry := 1 } } ∧
    Tok1OK [0xa1] { xmit := some { appTok := [0xa1], state := stateTokenFull 7 1, count := 3,
                                    x := { data := [1, 2, 3], blkSize := 0 }, link := true } }
      (encodeVar8 (stateTokenFull 7 3)) :=
  ⟨⟨fun xm h => (by cases h; rfl), fun cr h => (by cases h; rfl), fun xm h _ => (by cases h; exact ⟨_, rfl, rfl⟩)⟩,
   Or.inr (Or.inl (Or.inl ⟨_, rfl, base_wire_any 7 3⟩))⟩

/-- Lean witnesses (200-byte PUT, 32-byte blocks): a complete transfer shows the application's token with nothing
released; the second variant of the server's final answer arriving afterwards (a duplicated final / error response — the
open finding's class) shows the wire token 0x600000000002, base 2 released (lg_xmit and lg_crcv) -/
example :
    let app : Bytes := [0xa1, 0xa2]
    let evs : List B1TEvent := [.appPut, .reqArrives 0, .rspArrives 0, .reqArrives 1, .rspArrives 1, .reqArrives 2,
      .rspArrives 2, .reqArrives 3, .rspArrives 3, .reqArrives 4, .rspArrives 4, .reqArrives 5, .rspArrives 5, .rspArrives 6]
    let s := b1tRun exPar1 app true {} evs
    s.reqToks = [app, [0x20, 0, 0, 0, 0, 2], [0x30, 0, 0, 0, 0, 2], [0x40, 0, 0, 0, 0, 2], [0x50, 0, 0, 0, 0, 2],
      [0x60, 0, 0, 0, 0, 2]] ∧ s.hToks = [(app, []), ([0x60, 0, 0, 0, 0, 2], [2, 2])] ∧ s.net.outs.length = 6 := by
  decide +kernel
/-- … and both time-outs in mid-transfer: the 2.31 for block 2 is handed to the handler under the wire token -/
example :
    let app : Bytes := [0xa1, 0xa2]
    let evs : List B1TEvent := [.appPut, .reqArrives 0, .rspArrives 0, .reqArrives 1, .xmitExpire, .crcvExpire, .rspArrives 1]
    (b1tRun exPar1 app true {} evs).hToks = [([0x20, 0, 0, 0, 0, 2], [2, 2])] := by
  decide +kernel

/-- `never_wrong_body_block1_composed_partial` for the system WITH tokens (`b1tStep`): every step of it is a (possibly
empty) sequence of `b1Step` steps on the state underneath (`b1t_simulated`), so for EVERY schedule whatever the server hands to
its application is exactly the client's body with its exact length.  Remaining exclusions as for the `_partial` theorem
minus "tokens". -/
theorem never_wrong_body_block1_composed_tokens (P : B1Par) (hP : B1ParOK P) (app : Bytes) (non : Bool)
    (evs : List B1TEvent) :
    ∀ o, o ∈ (b1tRun P app non {} evs).net.outs → ∀ b l, o = SrcvOut.deliver b l → b = P.body ∧ l = P.body.length := by
  obtain ⟨evs', h⟩ := b1tRun_simulated P app non evs {} (t1Inv_init app)
  have houts : (absB1 (b1tRun P app non {} evs)).outs = (evs'.foldl (b1Step P) (absB1 {})).outs := congrArg B1Sys.outs h
  have houts' : (b1tRun P app non {} evs).net.outs = (evs'.foldl (b1Step P) {}).outs := houts
  intro o ho
  rw [houts'] at ho
  exact never_wrong_body_block1_composed_partial P hP evs' o ho

/-! ## The client never asks for a Block2 block beyond NUM 0xFFFFF -/

/-- the Block2 request (NUM, SZX) libcoap transmits in reaction to a response, if any -/
def reqOf : CrcvOut → Option (Nat × Nat)
  | .restart szx => some (0, szx)
  | .next n szx => some (n, szx)
  | .block _ _ _ nx => nx
  | _ => none

theorem crcvStep_req (single : Bool) (cap : Nat) (junk : UInt8) (st : Option Crcv) (r : Resp) (num m szx n s : Nat)
    (hblk : r.blk = some (num, m, szx)) (hszx : szx ≤ 6)
    (h : reqOf (crcvStep single cap junk st r).2 = some (n, s)) :
    n ≤ 0xFFFFF ∧ s = szx ∧ n * 2 ^ (s + 4) < 2 ^ 32 := by
  have hfin : ∀ n, n ≤ 0xFFFFF → n * 2 ^ (szx + 4) < 2 ^ 32 := by
    intro n hn
    have h1 : 2 ^ (szx + 4) ≤ 2 ^ 10 := Nat.pow_le_pow_right (by decide) (by omega)
    calc n * 2 ^ (szx + 4) ≤ 0xFFFFF * 2 ^ 10 := Nat.mul_le_mul hn h1
      _ < 2 ^ 32 := by decide
  generalize hres : crcvStep single cap junk st r = res at h
  cases crcvStep_ends single cap junk st r res hres with
  | plain | randomAccess | err402 => cases h
  | onBlock size2 hb hl hend =>
    rw [hblk] at hb
    cases hb
    -- the next block is asked for only if More is set, and then NUM is not the last number
    have hnext : m ≠ 0 → (num + 1 ≤ 0xFFFFF ∧ szx = szx ∧ (num + 1) * 2 ^ (szx + 4) < 2 ^ 32) := fun hm =>
      have hlt : num < 0xFFFFF := Nat.lt_of_not_le fun hc => hl ⟨hm, hc⟩
      ⟨hlt, rfl, hfin _ hlt⟩
    cases hend with
    | restart => cases h; exact ⟨Nat.zero_le _, rfl, hfin 0 (Nat.zero_le _)⟩
    | next _ _ _ hm => cases h; exact hnext hm
    | block =>
      -- a block handed over in per-block mode: the next request is in the output
      by_cases hm : m ≠ 0
      · rw [show reqOf _ = (if m ≠ 0 then some (num + 1, szx) else none) from rfl, if_pos hm] at h
        cases h; exact hnext hm
      · rw [show reqOf _ = (if m ≠ 0 then some (num + 1, szx) else none) from rfl, if_neg hm] at h
        cases h
    | refused | skip | noBuffer | short | wait | body | last => cases h

/-- every follow-up request along a run of the client's Block2 receive path -/
def crcvReqs (single : Bool) (cap : Nat) (junk : UInt8) : Option Crcv → List Resp → List (Nat × Nat)
  | _, [] => []
  | st, r :: rest =>
    (match reqOf (crcvStep single cap junk st r).2 with | some q => [q] | none => []) ++
      crcvReqs single cap junk (crcvStep single cap junk st r).1 rest

/-- (fix 70f6ff3)  For EVERY sequence of 2.xx responses (any Block2 options `coap_get_block_b` accepts: NUM has
at most 20 bits, SZX ≤ 6 - hostile or not), from every state of the lg_crcv, in both delivery modes: every request
libcoap sends for a further block names a block number of at most 20 bits, in the block size of the response it
answers, at an offset below 2^32.  Before the fix a response with NUM 0xFFFFF and M set was answered with a request for
block 2^20 (Block2 = 0x1000000 | SZX, four bytes: unparseable). -/
theorem block2_next_request_20bit (single : Bool) (cap : Nat) (junk : UInt8) (rs : List Resp) :
    ∀ (st : Option Crcv), (∀ r, r ∈ rs → ∀ num m szx, r.blk = some (num, m, szx) → num ≤ 0xFFFFF ∧ szx ≤ 6) →
    ∀ q, q ∈ crcvReqs single cap junk st rs → q.1 ≤ 0xFFFFF ∧ q.2 ≤ 6 ∧ q.1 * 2 ^ (q.2 + 4) < 2 ^ 32 := by
  induction rs with
  | nil => intro st _ q hq; cases hq
  | cons r rest ih =>
    intro st hrs q hq
    unfold crcvReqs at hq
    rcases List.mem_append.mp hq with hq | hq
    · cases hreq : reqOf (crcvStep single cap junk st r).2 with
      | none => rw [hreq] at hq; cases hq
      | some q' =>
        rw [hreq] at hq
        have hqq : q = q' := by simpa using hq
        subst hqq
        cases hb : r.blk with
        | none =>
          exfalso
          revert hreq
          unfold crcvStep crcvFound
          rw [hb]
          cases st <;> simp [reqOf]
        | some b =>
          obtain ⟨num, m, szx⟩ := b
          have h2 := (hrs r (List.mem_cons_self) num m szx hb).2
          obtain ⟨a, b, c⟩ := crcvStep_req single cap junk st r num m szx q.1 q.2 hb h2 hreq
          exact ⟨a, by omega, c⟩
    · exact ih _ (fun r' hr' => hrs r' (List.mem_cons_of_mem _ hr')) q hq

/-- the hypothesis is satisfiable at the end of the number space, and the bound is attained: block 0xFFFFE with M set
is answered with a request for block 0xFFFFF; block 0xFFFFF with M set is refused (4.02), no request -/
example : crcvReqs false 6 0 (some {})
    [{ blk := some (0xFFFFE, 1, 0), payload := List.replicate 16 7 }, { blk := some (0xFFFFF, 1, 0), payload := List.replicate 16 7 }]
    = [(0xFFFFF, 0)] := by decide

example : (crcvStep true 6 0 (some {}) { blk := some (0xFFFFF, 1, 0), payload := List.replicate 16 7 }) = (none, CrcvOut.err402) := by
  decide

end Coap.C09
