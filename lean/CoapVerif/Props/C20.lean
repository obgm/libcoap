import CoapVerif.Lemmas.LinkFormat
import CoapVerif.Lemmas.WkBlock
import CoapVerif.Lemmas.WkLive
import CoapVerif.Lemmas.WkEtag
import CoapVerif.Props.C16
/-
C20 — `/.well-known/core` lists exactly the registered resources in any window / filter.

  S = Coap.LF.listing / selects / matchSpec   (RFC 6690; CoapVerif/Spec/LinkFormat.lean)
  M = Coap.M.LF.wellknown / matchM / hndBody  (transcription of src/coap_resource.c after the three fixes of match(), the
      query splitter and the unquoting, and of hnd_get_wellknown_lkd after its fix — design/C20.md, "Defects found";
      CoapVerif/Model/LinkFormat.lean)

Lemmas/LinkFormat.lean holds the printer and the filter, WkBlock.lean, WkLive.lean, WkEtag.lean the three block-wise
servers.  The printer theorems' only hypothesis is `buflen ≤ COAP_PRINT_STATUS_MAX` (the status word has 28 bits for the
length; beyond that the function reports COAP_PRINT_STATUS_ERROR by design).  A tag in parentheses at the head of a
docstring — (window), (total), (flag), (listing), (match), (block-wise), … — names the clause of the property the theorem
stands for.
-/
namespace Coap.C20
open Coap Coap.LF Coap.M.LF

/-- (match) `match()` is RFC 6690 matching: exact, prefix for a `*` query, per SP-separated token
for rt/if/rel — for every text, pattern and flag combination -/
theorem match_eq_spec (text pat : Bytes) (pfx sub : Bool) :
    matchM text text.length (some pat) pat.length pfx sub = R.ok (matchSpec pfx sub pat text) := by
  have := matchM_eq text pat text.length pat.length pfx sub (Nat.le_refl _) (Nat.le_refl _)
  rwa [List.take_length, List.take_length] at this

/-- (overread) `match()` never reads outside `text[0..tlen)` and `pattern[0..plen)`: called on pointers
into larger objects its answer depends on those bytes only, and on exact-size objects it is never `oob` -/
theorem match_no_overread (text pat : Bytes) (tlen plen : Nat) (pfx sub : Bool)
    (ht : tlen ≤ text.length) (hp : plen ≤ pat.length) :
    matchM text tlen (some pat) plen pfx sub ≠ R.oob ∧
    matchM text tlen (some pat) plen pfx sub =
      matchM (text.take tlen) tlen (some (pat.take plen)) plen pfx sub := by
  have h1 := matchM_eq text pat tlen plen pfx sub ht hp
  have h2 := matchM_eq (text.take tlen) (pat.take plen) tlen plen pfx sub (by simp; omega) (by simp; omega)
  rw [h1, h2]
  refine ⟨by simp, ?_⟩
  simp [List.take_take]

/-- the filter as a whole (query splitter + attribute lookup + unquoting + match) is the specification's -/
theorem filter_eq_spec (qf : Option Bytes) :
    ∃ fp, parseFilter qf = R.ok fp ∧ ∀ r, selectsM fp r = R.ok (selects (qf.getD []) r) := by
  cases qf with
  | none => exact ⟨noFilter, rfl, fun r => by simp [selectsM, noFilter, selects]⟩
  | some q =>
    have hn := scanEq_le q
    have hname : q.takeWhile (· != 0x3D) = q.take (scanEq q) := (take_scanEq q).symm
    have hlen : (q.take (scanEq q)).length = scanEq q := by simp; omega
    by_cases hlt : scanEq q < q.length
    · obtain ⟨p1, plen, st, hpf, hple, hss⟩ := parseFilter_some q hlt
      refine ⟨_, hpf, ?_⟩
      intro r
      unfold selectsM selects
      simp only [Option.getD_some, hname, hlen]
      by_cases h0 : scanEq q = 0
      · simp [h0]
      · have hne : ¬ scanEq q = q.length := by omega
        simp only [if_neg h0, if_neg hne]
        cases huri : (q.take (scanEq q) == sHref) with
        | true =>
          rw [huri] at hss
          simp only [if_true] at hss
          simp only [if_true]
          rw [hss]
          simp only []
          have hsub : isListAttr (q.take (scanEq q)) = false := by
            have : q.take (scanEq q) = sHref := by simpa using huri
            rw [this]; decide
          rw [hsub, matchM_eq _ _ _ _ _ _ (Nat.le_refl _) hple, List.take_length]
        | false =>
          rw [huri] at hss
          simp only [Bool.false_eq_true, if_false] at hss
          simp only [Bool.false_eq_true, if_false]
          rw [findAttrM_eq q _ hn, hss]
          simp only []
          cases hfa : findAttr (q.take (scanEq q)) r.attrs with
          | none => rfl
          | some a =>
            simp only []
            cases hv : a.value with
            | none => rfl
            | some v =>
              simp only []
              rw [isQuoted_eq, unquote_eq]
              by_cases hq : 2 ≤ v.length ∧ v.head? = some 0x22 ∧ v.getLast? = some 0x22
              · simp only [hq, and_self, decide_true, if_true]
                rw [matchM_eq _ _ _ _ _ _ (by simp; omega) hple]
              · simp only [hq, decide_false, if_false]
                rw [matchM_eq _ _ _ _ _ _ (Nat.le_refl _) hple, List.take_length]
    · have heq : scanEq q = q.length := by omega
      refine ⟨⟨scanEq q, q, none, 0, false, false, false⟩, by simp [parseFilter, hlt], ?_⟩
      intro r
      unfold selectsM selects
      simp only [Option.getD_some, hname, hlen]
      by_cases h0 : scanEq q = 0
      · simp [h0]
      · simp only [if_neg h0, if_pos heq, Bool.false_eq_true, if_false]
        rw [findAttrM_eq q _ hn]
        cases findAttr (q.take (scanEq q)) r.attrs with
        | none => rfl
        | some a =>
          obtain ⟨_, av⟩ := a
          cases av with
          | none => rfl
          | some v =>
            simp only [isQuoted_eq]
            cases decide (2 ≤ v.length ∧ v.head? = some 0x22 ∧ v.getLast? = some 0x22) <;> exact matchM_none _ _ _ _ _

/-- everything `coap_print_wellknown_lkd` returns, for every table, query, offset and buffer size -/
theorem wellknown_eq (t : Table) (qf : Option Bytes) (buflen offset : Nat) (hb : buflen ≤ STATUS_MAX) :
    wellknown t qf buflen offset =
      R.ok ⟨window (listing t (qf.getD [])) offset buflen,
            ⟨(window (listing t (qf.getD [])) offset buflen).length,
             decide ((window (listing t (qf.getD [])) offset buflen).length + offset -
                       (if buflen = 0 then offset else offset - (listing t (qf.getD [])).length)
                     < (listing t (qf.getD [])).length),
             false⟩,
            (listing t (qf.getD [])).length⟩ := by
  obtain ⟨fp, hfp, hsel⟩ := filter_eq_spec qf
  unfold wellknown
  rw [hfp]
  simp only []
  rw [wkLoop_eq fp _ hsel t _ false hb, ← joinComma_eq]
  simp only []
  have hl : joinComma ((t.filter (fun r => r.path != wkPath && selects (qf.getD []) r)).map link) =
      listing t (qf.getD []) := rfl
  rw [hl, copy_init]
  have hw : (window (listing t (qf.getD [])) offset buflen).length ≤ STATUS_MAX := by
    have : (window (listing t (qf.getD [])) offset buflen).length ≤ buflen := by simp [window]; omega
    omega
  rw [finish_ok _ _ hw]

/-- (window) for every offset and buffer size the bytes written are exactly that window of the listing -/
theorem window_exact (t : Table) (qf : Option Bytes) (offset buflen : Nat) (hb : buflen ≤ STATUS_MAX) :
    ∃ o, wellknown t qf buflen offset = R.ok o ∧
      o.out = ((listing t (qf.getD [])).drop offset).take buflen ∧
      o.status.len = o.out.length ∧ o.status.error = false :=
  ⟨_, wellknown_eq t qf buflen offset hb, rfl, rfl, rfl⟩

/-- (total) the reported total length (`*buflen` on return) is the length of the whole listing -/
theorem total_exact (t : Table) (qf : Option Bytes) (offset buflen : Nat) (hb : buflen ≤ STATUS_MAX) :
    ∃ o, wellknown t qf buflen offset = R.ok o ∧ o.total = (listing t (qf.getD [])).length :=
  ⟨_, wellknown_eq t qf buflen offset hb, rfl⟩

/-- (flag) for a non-empty buffer COAP_PRINT_STATUS_TRUNC is set exactly when listing remains beyond the window -/
theorem trunc_flag_iff (t : Table) (qf : Option Bytes) (offset buflen : Nat) (hb : buflen ≤ STATUS_MAX)
    (hpos : 0 < buflen) :
    ∃ o, wellknown t qf buflen offset = R.ok o ∧
      (o.status.trunc = true ↔ offset + o.out.length < (listing t (qf.getD [])).length) := by
  refine ⟨_, wellknown_eq t qf buflen offset hb, ?_⟩
  simp only [decide_eq_true_eq]
  rw [if_neg (by omega)]
  simp only [window, List.length_take, List.length_drop]
  omega

/-- with an empty buffer (the size probe of the GET handler) nothing is written, the offset is not
consumed, and the flag says whether the listing is non-empty -/
theorem probe_reports_length (t : Table) (qf : Option Bytes) (offset : Nat) :
    wellknown t qf 0 offset =
      R.ok ⟨[], ⟨0, decide (0 < (listing t (qf.getD [])).length), false⟩, (listing t (qf.getD [])).length⟩ := by
  rw [wellknown_eq t qf 0 offset (by simp [STATUS_MAX])]
  simp [window]

/-- the printer never reads outside the query string, an attribute name or an attribute value -/
theorem wellknown_no_overread (t : Table) (qf : Option Bytes) (offset buflen : Nat) (hb : buflen ≤ STATUS_MAX) :
    wellknown t qf buflen offset ≠ R.oob := by
  rw [wellknown_eq t qf buflen offset hb]; simp

/-- (listing) the listing is the comma-joined RFC 6690 links of exactly the registered resources the
filter selects, once each, in table order: nothing else is listed, nothing selected is missing -/
theorem listing_exactly_registered (t : Table) (q : Bytes) :
    listing t q = joinComma ((selected t q).map link) ∧
    (∀ r, r ∈ selected t q ↔ r ∈ t ∧ r.path ≠ wkPath ∧ selects q r = true) ∧
    (selected t q).Sublist t ∧
    (selected t [] = t.filter (fun r => r.path != wkPath)) := by
  refine ⟨rfl, ?_, List.filter_sublist, ?_⟩
  · intro r
    simp [selected, List.mem_filter]
  · simp [selected, selects]

/-- the link of a resource shows its path, every attribute in table order, and the two markers -/
theorem link_shows_everything (r : Resource) :
    link r = [0x3C, 0x2F] ++ r.path ++ [0x3E] ++ (r.attrs.map attrBytes).flatten ++
      (if r.observable then sObs else []) ++ (if r.oscoreOnly then sOsc else []) := rfl

/-- registering replaces an older registration of the same path and appends; paths stay unique -/
theorem register_paths_nodup (t : Table) (r : Resource) (h : (t.map (·.path)).Nodup) :
    ((register t r).map (·.path)).Nodup ∧ r ∈ register t r ∧
    (∀ x, x ∈ register t r ↔ (x ∈ t ∧ x.path ≠ r.path) ∨ x = r) := by
  refine ⟨?_, by simp [register], ?_⟩
  · simp only [register, List.map_append, List.map_cons, List.map_nil]
    rw [List.nodup_append]
    refine ⟨(List.filter_sublist.map _).nodup h, by simp, ?_⟩
    intro a ha b hb
    simp only [List.mem_map, List.mem_filter] at ha
    obtain ⟨x, ⟨_, hx⟩, rfl⟩ := ha
    simp at hb
    subst hb
    simpa using hx
  · intro x
    simp [register, List.mem_filter]

theorem unregister_removes (t : Table) (p : Bytes) (h : (t.map (·.path)).Nodup) :
    ((unregister t p).map (·.path)).Nodup ∧ (∀ x, x ∈ unregister t p ↔ x ∈ t ∧ x.path ≠ p) := by
  refine ⟨(List.filter_sublist.map _).nodup h, ?_⟩
  intro x
  simp [unregister, List.mem_filter]

/-! ### block-wise GET -/

theorem blocks_tile (body : Bytes) (sz : Nat) (k : Nat) :
    (List.range k).flatMap (block body sz) = body.take (k * sz) := by
  induction k with
  | zero => simp
  | succ k ih =>
    rw [List.range_succ, List.flatMap_append, ih]
    simp only [List.flatMap_cons, List.flatMap_nil, List.append_nil, block]
    rw [Nat.succ_mul, List.take_add]

/-- the body the GET handler hands to the block-wise layer (size probe + full print) is the listing -/
theorem get_body_eq_listing (t : Table) (qf : Option Bytes)
    (hl : (listing t (qf.getD [])).length ≤ STATUS_MAX) :
    hndBody t qf = R.ok (listing t (qf.getD [])) := by
  unfold hndBody
  rw [probe_reports_length]
  simp only [Bool.false_eq_true, if_false]
  by_cases h0 : (listing t (qf.getD [])).length > 0
  · rw [if_pos h0, wellknown_eq t qf _ 0 hl]
    simp [window]
  · rw [if_neg h0]
    have : listing t (qf.getD []) = [] := List.eq_nil_of_length_eq_zero (by omega)
    rw [this]

/-- (block-wise) for every block size, block `num` of the body is the window the printer writes for
`(offset, buflen) = (num·sz, sz)`, and the blocks 0 … n−1 of a Block2 GET concatenate to the listing -/
theorem block_get_reassembles (t : Table) (qf : Option Bytes) (sz : Nat) (hsz : 0 < sz) (hs : sz ≤ STATUS_MAX)
    (hl : (listing t (qf.getD [])).length ≤ STATUS_MAX) :
    ∃ body, hndBody t qf = R.ok body ∧
      (∀ num, ∃ o, wellknown t qf sz (num * sz) = R.ok o ∧ o.out = block body sz num) ∧
      (∀ k, body.length ≤ k * sz → (List.range k).flatMap (block body sz) = listing t (qf.getD [])) ∧
      (List.range ((body.length + sz - 1) / sz)).flatMap (block body sz) = listing t (qf.getD []) := by
  refine ⟨_, get_body_eq_listing t qf hl, ?_, ?_, ?_⟩
  · intro num
    exact ⟨_, wellknown_eq t qf sz (num * sz) hs, rfl⟩
  · intro k hk
    rw [blocks_tile, List.take_of_length_le hk]
  · rw [blocks_tile, List.take_of_length_le (le_ceil_mul _ _ hsz)]

/-! ### the GET path: the filter of hnd_get_wellknown_lkd is the first Uri-Query option as it is (D20.8) -/

theorem getFilter_getD (opts : List Bytes) : (getFilter opts).getD [] = opts.head?.getD [] := by
  cases opts with
  | nil => rfl
  | cons o r =>
    simp only [getFilter, List.head?_cons, Option.getD_some]
    split
    · rfl
    · have : o = [] := List.eq_nil_of_length_eq_zero (by omega)
      simp [this]

theorem getBody_eq (t : Table) (opts : List Bytes) (hl : (getListing t opts).length ≤ STATUS_MAX) :
    getBody t opts = R.ok (getListing t opts) := by
  unfold getBody getListing
  rw [get_body_eq_listing t (getFilter opts) (by rw [getFilter_getD]; exact hl), getFilter_getD]

/-- (GET) `GET /.well-known/core` with any Uri-Query options — whatever bytes they contain — and any Block2 size:
the body is the listing for the first option taken as the search criterion (D20.8), and the `nblocks` blocks
reassemble to it -/
theorem get_reassembles (t : Table) (opts : List Bytes)
    (hl : (getListing t opts).length ≤ STATUS_MAX) (sz : Nat) (hsz : 0 < sz) :
    ∃ body, getBody t opts = R.ok body ∧ body = getListing t opts ∧
      (List.range (nblocks body.length sz)).flatMap (block body sz) = getListing t opts :=
  ⟨_, getBody_eq t opts hl, rfl, by rw [blocks_tile, List.take_of_length_le (le_nblocks_mul _ _ hsz)]⟩

/-- regression for defect 4 of design/C20.md (`wkc-query-escaped`): `</t>;title="a b"` queried with `?title=a%20b`
(option bytes `title=a b`) is listed; a second Uri-Query option does not change the answer -/
theorem get_query_with_space_listed :
    let t : Table := [⟨[0x74], [⟨[0x74, 0x69, 0x74, 0x6C, 0x65], some [0x22, 0x61, 0x20, 0x62, 0x22]⟩], false, false⟩]
    let q : Bytes := [0x74, 0x69, 0x74, 0x6C, 0x65, 0x3D, 0x61, 0x20, 0x62]
    getBody t [q] = R.ok (listing t []) ∧ listing t [] ≠ [] ∧ getBody t [q, [0x78]] = R.ok (listing t []) ∧
    getBody t [[0x78, 0x3D], q] = R.ok [] := by
  decide

/-! ### interleaved block-wise GETs: the Block2 response cache is keyed by the query string -/

/-- **the cache key determines the listing**: requests whose `coap_get_query()` strings compare equal ask for the same
listing of any table (C16 `query_injective`) -/
theorem same_key_same_listing (t : Table) (a b : List Bytes) (ha : C16.Small a) (hb : C16.Small b)
    (hk : SameKey a b) : getListing t a = getListing t b := by
  obtain ⟨k1, k2, h1, h2, hk⟩ := hk
  have e1 := C16.get_query_eq_spec a ha
  have e2 := C16.get_query_eq_spec b hb
  have hc : Spec.Uri.composeQuery a = Spec.Uri.composeQuery b := by
    rw [e1] at h1; rw [e2] at h2
    cases R.ok.inj h1; cases R.ok.inj h2
    simpa only [keyEq, beq_iff_eq, UriL.getD_ite_nil] using hk
  have hn := C16.query_injective a b ha hb (by rw [e1, e2, hc])
  -- a single empty option and no option both have the empty search criterion
  have head : ∀ x : List Bytes, (Spec.Uri.norm x).head?.getD [] = x.head?.getD [] := by
    intro x; unfold Spec.Uri.norm; split
    · rename_i h; rw [h]; rfl
    · rfl
  unfold getListing
  rw [← head a, ← head b, hn]

theorem reqOk_of_small (t : Table) (opts : List Bytes) (hs : C16.Small opts)
    (hl : (getListing t opts).length ≤ STATUS_MAX) : ReqOk t opts :=
  ⟨⟨_, C16.get_query_eq_spec opts hs⟩, getBody_eq t opts hl⟩

/-- the cache key (coap_get_query()'s string, C16) determines the search criterion, hence the listing; the handler's
body is the listing: the facts `Keyed` asks for hold for every script with option values a request can carry -/
theorem keyed_of_small (t : Table) (xs : List Xfer)
    (hs : ∀ xf ∈ xs, C16.Small xf.opts ∧ (getListing t xf.opts).length ≤ STATUS_MAX) : Keyed t xs := by
  refine ⟨?_, ?_, ?_⟩
  · intro xf hx
    exact (reqOk_of_small t xf.opts (hs xf hx).1 (hs xf hx).2).1
  · intro xf hx
    exact (reqOk_of_small t xf.opts (hs xf hx).1 (hs xf hx).2).2
  · intro xf hx yf hy k1 k2 h1 h2 hk
    exact same_key_same_listing t xf.opts yf.opts (hs xf hx).1 (hs yf hy).1 ⟨k1, k2, h1, h2, hk⟩

/-- (interleaving, under the keying hypothesis spelled out in `Keyed`) for ANY order in which the block requests of
any number of transfers — any Uri-Query options, any sessions — reach the server, every transfer is exactly where
as many turns of its own would have brought it had it been alone: it has the first blocks of ITS listing, never a
failure, and is complete once it has had `nblocks` turns -/
theorem interleaved_gets_reassemble_of_keyed (t : Table) (szx : Nat) (xs : List Xfer) (K : Keyed t xs)
    (order : List Nat) (i : Nat) (xf : Xfer) (hi : xs[i]? = some xf) :
    (runX t szx xs SState.init order).x i = xAfter (getListing t xf.opts) (2 ^ (szx + 4)) (order.count i) := by
  have h := runX_inv t szx xs K order SState.init (fun _ => 0) (SInv_init t szx xs)
  have := h.2 i xf hi
  simpa using this

/-- (interleaving) block-wise GETs of `/.well-known/core` for different filters (or none) may interleave in any
order, on one session or several: every transfer that gets its `⌈len/size⌉` turns reassembles to the listing for
ITS OWN filter, with exactly that many responses and no error; before that it holds a prefix of that listing -/
theorem interleaved_gets_reassemble (t : Table) (szx : Nat) (xs : List Xfer)
    (hs : ∀ xf ∈ xs, C16.Small xf.opts ∧ (getListing t xf.opts).length ≤ STATUS_MAX)
    (order : List Nat) (i : Nat) (xf : Xfer) (hi : xs[i]? = some xf) :
    let x := (runX t szx xs SState.init order).x i
    let nb := nblocks (getListing t xf.opts).length (2 ^ (szx + 4))
    x.failed = false ∧ x.buf = (getListing t xf.opts).take (x.next * 2 ^ (szx + 4)) ∧
    (x.done = true ↔ nb ≤ order.count i) ∧
    (nb ≤ order.count i → x.buf = getListing t xf.opts ∧ x.next = nb) := by
  have h := interleaved_gets_reassemble_of_keyed t szx xs (keyed_of_small t xs hs) order i xf hi
  simp only []
  rw [h]
  have hcpos : 0 < 2 ^ (szx + 4) := Nat.pow_pos (by omega)
  refine ⟨by simp [xAfter], by simp [xAfter], by simp [xAfter], ?_⟩
  intro hnb
  rw [xAfter_ge _ _ _ hcpos hnb]
  exact ⟨rfl, rfl⟩

/-- completing a transfer (`drainX`) is more turns of that transfer, so the theorems above cover the scripts the
check runs (order, then every unfinished transfer is completed) -/
theorem drain_is_turns (t : Table) (szx : Nat) (xs : List Xfer) (i fuel : Nat) (st : SState) :
    ∃ n, drainX t szx xs fuel st i = runX t szx xs st (List.replicate n i) := by
  induction fuel generalizing st with
  | zero => exact ⟨0, rfl⟩
  | succ f ih =>
    unfold drainX
    by_cases hd : (st.x i).done = true
    · rw [if_pos hd]; exact ⟨0, rfl⟩
    · rw [if_neg hd]
      obtain ⟨n, hn⟩ := ih (stepX t szx xs st i)
      exact ⟨n + 1, by rw [hn]; rfl⟩

/-- a concrete interleaving (`</t>;title="a b"` and `</u>`; transfer 0 unfiltered, transfer 1 `?title=a*`, block
size 16, order 0 1 0 1 0): the hypotheses are satisfiable and the two transfers end with different bodies -/
example :
    let t : Table := [⟨[0x74], [⟨[0x74, 0x69, 0x74, 0x6C, 0x65], some [0x22, 0x61, 0x20, 0x62, 0x22]⟩], false, false⟩,
                      ⟨[0x75], [], false, false⟩]
    let xs : List Xfer := [⟨0, []⟩, ⟨0, [[0x74, 0x69, 0x74, 0x6C, 0x65, 0x3D, 0x61, 0x2A]]⟩]
    let st := runX t 0 xs SState.init [0, 1, 0, 1, 0]
    (st.x 0).buf = listing t [] ∧ (st.x 0).next = 2 ∧ (st.x 1).buf = (listing t []).take 16 ∧ (st.x 1).done = true ∧
    (st.x 0).buf ≠ (st.x 1).buf := by
  decide

/-! ### a live server: the listing is that of the resources registered NOW -/

/-- the requests of a run are requests a client can send (option values ≤ 65535 bytes), no listing exceeds the
printer's 28-bit length, and the client does not give up before the last block -/
def LiveOk (fuel : Nat) : Table → List LiveEv → Prop
  | _, [] => True
  | t, .op o :: r => LiveOk fuel (applyOp t o) r
  | t, .get _ szx opts :: r =>
    (C16.Small opts ∧ (getListing t opts).length ≤ STATUS_MAX ∧
      nblocks (getListing t opts).length (2 ^ (szx + 4)) ≤ fuel) ∧ LiveOk fuel t r
  | t, .print qf :: r => (listing t (qf.getD [])).length ≤ STATUS_MAX ∧ LiveOk fuel t r

theorem liveKeyed_of_ok (fuel : Nat) (evs : List LiveEv) : ∀ t, LiveOk fuel t evs → LiveKeyed fuel t evs := by
  induction evs with
  | nil => intro _ _; trivial
  | cons e r ih =>
    intro t h
    cases e with
    | op o => exact ih _ h
    | get sid szx opts =>
      obtain ⟨⟨hs, hl, hf⟩, hr⟩ := h
      exact ⟨⟨reqOk_of_small t opts hs hl, hf⟩, ih t hr⟩
    | print qf => exact ⟨get_body_eq_listing t qf h.1, ih t h.2⟩

/-- (currently registered) for EVERY sequence of table changes — `coap_add_resource`, `coap_delete_resource`,
`coap_add_attr` and `coap_resource_set_get_observable` on resources that are already registered — interleaved with
complete block-wise GETs (any Uri-Query options, any Block2 size, any session) and listings printed by the application,
starting from any table and any content of the sessions' Block2 caches: every request yields exactly the listing of
the table as it is when the request arrives, in `⌈len/size⌉` responses, without failure.  Nothing an earlier request
computed (a length, a body, a cache entry) shows in a later answer. -/
theorem live_gets_current_listing (fuel : Nat) (st : LState) (evs : List LiveEv) (h : LiveOk fuel st.table evs) :
    liveRun fuel st evs = liveSpec st.table evs :=
  liveRun_eq_spec fuel evs st (liveKeyed_of_ok fuel evs st.table h)

/-- the instance a stale size would break: GET, describe a registered resource further (or flip its observable
flag, or any other table operation), GET again — the second body is the listing of the changed table -/
theorem get_after_change (fuel : Nat) (st : LState) (o : TableOp) (sid szx : Nat) (opts : List Bytes)
    (h : LiveOk fuel st.table [.get sid szx opts, .op o, .get sid szx opts]) :
    liveRun fuel st [.get sid szx opts, .op o, .get sid szx opts] =
      [⟨getListing st.table opts, nblocks (getListing st.table opts).length (2 ^ (szx + 4)), false⟩,
       ⟨getListing (applyOp st.table o) opts,
        nblocks (getListing (applyOp st.table o) opts).length (2 ^ (szx + 4)), false⟩] :=
  live_gets_current_listing fuel st _ h

/-- an attribute added to a registered resource is part of that resource's link from then on (and the resource keeps
its place): with `link_shows_everything` the link shows it first among the attributes -/
theorem attr_added_is_listed (t : Table) (p : Bytes) (a : Attr) :
    applyOp t (.attr p a) = t.map (fun r => if r.path == p then { r with attrs := a :: r.attrs } else r) ∧
    (applyOp t (.attr p a)).map (·.path) = t.map (·.path) ∧
    ∀ r ∈ t, r.path = p → addAttr r a ∈ applyOp t (.attr p a) ∧
      link (addAttr r a) = [0x3C, 0x2F] ++ r.path ++ [0x3E] ++ (attrBytes a ++ (r.attrs.map attrBytes).flatten) ++
        (if r.observable then sObs else []) ++ (if r.oscoreOnly then sOsc else []) := by
  refine ⟨rfl, ?_, ?_⟩
  · simp only [applyOp, List.map_map]
    apply List.map_congr_left
    intro r _
    simp only [Function.comp]
    split <;> rfl
  · intro r hr hp
    refine ⟨?_, ?_⟩
    · simp only [applyOp, List.mem_map]
      exact ⟨r, hr, by simp [hp]⟩
    · rfl

/-- non-vacuity (the seeded stale-length scenario): `</a>;rt=x` and `</b>`; unfiltered GET (szx 0), `title` added to
the registered `a`, `b` made observable, unfiltered GET on the same session, filtered GET, and the application's own
print: the hypotheses hold and the bodies follow the table -/
example :
    let t : Table := [⟨[0x61], [⟨sRt, some [0x78]⟩], false, false⟩, ⟨[0x62], [], false, false⟩]
    let evs : List LiveEv := [.get 0 0 [], .op (.attr [0x61] ⟨[0x74, 0x69, 0x74, 0x6C, 0x65], some [0x22, 0x52, 0x22]⟩),
      .get 0 0 [], .op (.obs [0x62] true), .get 0 0 [], .get 0 0 [sRt ++ [0x3D, 0x78]], .print none]
    LiveOk 5001 t evs ∧
    (liveRun 5001 ⟨t, fun _ => []⟩ evs).map (fun r => (r.buf.length, r.nresp, r.failed)) =
      [(14, 1, false), (24, 2, false), (28, 2, false), (19, 2, false), (28, 0, false)] := by
  refine ⟨?_, by decide⟩
  simp only [LiveOk, C16.Small, STATUS_MAX]
  decide

/-! ### non-vacuity: concrete instances, and the behaviour the three `fix:` commits removed -/

/-- `</a>;rt="ab cd";obs` and `</b>;ct=40` -/
def exTable : Table :=
  register (register [] (addAttr ⟨[0x61], [], true, false⟩ ⟨sRt, some [0x22, 0x61, 0x62, 0x20, 0x63, 0x64, 0x22]⟩))
    (addAttr ⟨[0x62], [], false, false⟩ ⟨[0x63, 0x74], some [0x34, 0x30]⟩)

example : (listing exTable []).length = 30 := by decide
example : some (listing exTable (sRt ++ [0x3D, 0x63, 0x64])) = exTable.head?.map link := by decide          -- rt=cd: token match
example : some (listing exTable (sRt ++ [0x3D, 0x61, 0x2A])) = exTable.head?.map link := by decide          -- rt=a*: prefix
example : listing exTable (sRt ++ [0x3D, 0x61, 0x62, 0x20, 0x63, 0x2A]) = [] := by decide        -- rt=ab c*: no token
example : (wellknown exTable none 5 27).toOption.map (·.out) = some [0x3D, 0x34, 0x30] := by decide
example : (wellknown exTable none 4 3).toOption.map (·.status.trunc) = some true := by decide
/-- the comparison the unfixed `match()` made for `rt=ab c*` on `ab cd`: 4 bytes from the 2-byte token -/
example : matchSpec true true [0x61, 0x62, 0x20, 0x63] [0x61, 0x62, 0x20, 0x63, 0x64] = false ∧
    ([0x61, 0x62, 0x20, 0x63, 0x64].take 4 == [0x61, 0x62, 0x20, 0x63]) = true := by decide
/-- a value consisting of one `"`: `length - 2` wraps to SIZE_MAX in the unfixed code; S takes the value as it is -/
example : unquote [0x22] = [0x22] ∧ (1 + 2 ^ 64 - 2) % 2 ^ 64 = 2 ^ 64 - 1 := by decide

/-! ### table changes WHILE block-wise transfers are under way (`runB`, Model/WkLive.lean): one ETag, one listing -/

/-- the requests of a trace are requests a client can send (option values ≤ 65535 bytes) and no listing asked for exceeds
the printer's 28-bit length -/
def OkB (tr : List Obs) : Prop :=
  ∀ o ∈ tr, C16.Small o.req.opts ∧ (getListing o.table o.req.opts).length ≤ STATUS_MAX

theorem okObs_of_okB {tr : List Obs} (h : OkB tr) : ∀ o ∈ tr, OkObs o := by
  intro o ho
  exact reqOk_of_small o.table o.req.opts (h o ho).1 (h o ho).2

theorem runB_good_init (t : Table) (e0 : Nat) (evs : List BEv)
    (hok : OkB (runB (BState.init t e0) evs)) (hw : e0 + evs.length < 2 ^ 64) :
    (∀ o ∈ runB (BState.init t e0) evs, GoodB (runB (BState.init t e0) evs) o) ∧
    (issued (runB (BState.init t e0) evs)).Nodup := by
  simpa only [List.nil_append] using runB_good evs (BState.init t e0) [] (invB_init t e0) (okObs_of_okB hok) hw

/-- (restart) whatever happened before — transfers under way, table changes, timeouts —, a request for block 0 is
answered from the table AS IT IS NOW: first block of the current listing, M bit and a (new) ETag exactly when more follows -/
theorem restart_gets_current_listing (t : Table) (e0 : Nat) (evs : List BEv)
    (hok : OkB (runB (BState.init t e0) evs)) (hw : e0 + evs.length < 2 ^ 64) :
    ∀ o ∈ runB (BState.init t e0) evs, o.req.num = 0 →
      o.resp = RespB.blk ((getListing o.table o.req.opts).take (2 ^ (o.req.szx + 4)))
                 (decide (2 ^ (o.req.szx + 4) < (getListing o.table o.req.opts).length)) (etagOf o.resp) ∧
      (etagOf o.resp).isSome = decide (2 ^ (o.req.szx + 4) < (getListing o.table o.req.opts).length) :=
  fun o ho h0 => ((runB_good_init t e0 evs hok hw).1 o ho).1 h0

/-- the context never hands out the same ETag with two block 0s (fewer than 2^64 bodies) -/
theorem etags_never_reused (t : Table) (e0 : Nat) (evs : List BEv)
    (hok : OkB (runB (BState.init t e0) evs)) (hw : e0 + evs.length < 2 ^ 64) :
    (issued (runB (BState.init t e0) evs)).Nodup :=
  (runB_good_init t e0 evs hok hw).2

/-- every response that carries ETag `E` is block `num` of the listing — for the request's OWN Uri-Query options — of the table
as it was when the block 0 carrying `E` was served to the same session (same Request-Tag, same block size): never a block of
another client's body, never of a later or earlier table -/
theorem block_under_etag_is_block_of_block0_listing (t : Table) (e0 : Nat) (evs : List BEv)
    (hok : OkB (runB (BState.init t e0) evs)) (hw : e0 + evs.length < 2 ^ 64) :
    ∀ o ∈ runB (BState.init t e0) evs, ∀ p more E, o.resp = RespB.blk p more (some E) →
      ∃ o0 ∈ runB (BState.init t e0) evs, o0.req.num = 0 ∧ etagOf o0.resp = some E ∧
        o0.req.sid = o.req.sid ∧ o0.req.rtag = o.req.rtag ∧ o0.req.szx = o.req.szx ∧
        getListing o0.table o0.req.opts = getListing o0.table o.req.opts ∧
        p = block (getListing o0.table o.req.opts) (2 ^ (o.req.szx + 4)) o.req.num ∧
        more = decide (o.req.num * 2 ^ (o.req.szx + 4) + 2 ^ (o.req.szx + 4) <
                         (getListing o0.table o.req.opts).length) := by
  intro o ho p more E he
  obtain ⟨o0, h0, a1, a2, a3, a4, a5, a6, a7, a8⟩ := ((runB_good_init t e0 evs hok hw).1 o ho).2 p more E he
  have hl := same_key_same_listing o0.table o0.req.opts o.req.opts (hok o0 h0).1 (hok o ho).1 a5
  exact ⟨o0, h0, a1, a6, a2, a3, a4, hl, by rw [← hl]; exact a7, by rw [← hl]; exact a8⟩

/-- (one ETag, one listing) all responses of a run that carry the same ETag are blocks of ONE body: the listing of the table as
it was when the — unique — block 0 with that ETag was served; a table change never yields a mixture of two listings under one
ETag, and two clients never share an ETag unless they are the same session asking with the same key -/
theorem blocks_of_one_etag_are_one_listing (t : Table) (e0 : Nat) (evs : List BEv)
    (hok : OkB (runB (BState.init t e0) evs)) (hw : e0 + evs.length < 2 ^ 64)
    (o o' : Obs) (ho : o ∈ runB (BState.init t e0) evs) (ho' : o' ∈ runB (BState.init t e0) evs)
    (p p' : Bytes) (m m' : Bool) (E : Nat)
    (he : o.resp = RespB.blk p m (some E)) (he' : o'.resp = RespB.blk p' m' (some E)) :
    ∃ o0 ∈ runB (BState.init t e0) evs, o0.req.num = 0 ∧ etagOf o0.resp = some E ∧
      o.req.sid = o0.req.sid ∧ o'.req.sid = o0.req.sid ∧
      getListing o0.table o.req.opts = getListing o0.table o0.req.opts ∧
      getListing o0.table o'.req.opts = getListing o0.table o0.req.opts ∧
      p = block (getListing o0.table o0.req.opts) (2 ^ (o0.req.szx + 4)) o.req.num ∧
      p' = block (getListing o0.table o0.req.opts) (2 ^ (o0.req.szx + 4)) o'.req.num := by
  obtain ⟨o0, h0, a1, a2, a3, _, a5, a6, a7, _⟩ :=
    block_under_etag_is_block_of_block0_listing t e0 evs hok hw o ho p m E he
  obtain ⟨o0', h0', b1, b2, b3, _, b5, b6, b7, _⟩ :=
    block_under_etag_is_block_of_block0_listing t e0 evs hok hw o' ho' p' m' E he'
  have heq : o0' = o0 := issued_inj _ (etags_never_reused t e0 evs hok hw) o0' o0 h0' h0 E b1 a1 b2 a2
  subst heq
  exact ⟨o0', h0, a1, a2, a3.symm, b3.symm, a6.symm, b6.symm, by rw [a6, a5]; exact a7, by rw [b6, b5]; exact b7⟩

def payloadOf : RespB → Bytes
  | .blk p _ _ => p
  | .err _ => []

/-- (reassembly) a client that has collected, in any order and with anything in between, the responses to its requests for
blocks `0 … n-1` under ONE ETag, `n` the block count of the listing at its block 0, has exactly that listing -/
theorem etag_blocks_reassemble (t : Table) (e0 : Nat) (evs : List BEv)
    (hok : OkB (runB (BState.init t e0) evs)) (hw : e0 + evs.length < 2 ^ 64)
    (f : Nat → Obs) (E n : Nat) (hn : 0 < n)
    (hf : ∀ i, i < n → f i ∈ runB (BState.init t e0) evs ∧ (f i).req.num = i ∧
      ∃ p m, (f i).resp = RespB.blk p m (some E))
    (hnb : n = nblocks (getListing (f 0).table (f 0).req.opts).length (2 ^ ((f 0).req.szx + 4))) :
    (List.range n).flatMap (fun i => payloadOf (f i).resp) = getListing (f 0).table (f 0).req.opts := by
  obtain ⟨h0m, h0n, p0, m0, h0r⟩ := hf 0 hn
  have hcong : ∀ i ∈ List.range n, payloadOf (f i).resp =
      block (getListing (f 0).table (f 0).req.opts) (2 ^ ((f 0).req.szx + 4)) i := by
    intro i hi
    obtain ⟨him, hin, p, m, hir⟩ := hf i (List.mem_range.mp hi)
    obtain ⟨o0, h0, a1, a2, _, _, _, _, _, a8⟩ :=
      blocks_of_one_etag_are_one_listing t e0 evs hok hw (f 0) (f i) h0m him p0 p m0 m E h0r hir
    have : o0 = f 0 := issued_inj _ (etags_never_reused t e0 evs hok hw) o0 (f 0) h0 h0m E a1 h0n a2
      (by rw [h0r]; rfl)
    subst this
    rw [hir, hin] at *
    exact a8
  rw [List.flatMap_def, List.map_congr_left hcong, ← List.flatMap_def, hnb]
  obtain ⟨body, _, hb, hr⟩ := get_reassembles (f 0).table (f 0).req.opts (hok _ h0m).2 (2 ^ ((f 0).req.szx + 4))
    (Nat.pow_pos (by omega))
  subst hb
  exact hr

/-- a run of 6 events with a table change and a timeout in the middle of a transfer: `</aaaaaaaaaaaaaaaaaa>` (21 bytes, two
blocks of 16); block 0 (ETag 1), `</b>` added, block 1 still comes from the OLD listing under ETag 1; a restart gets the
NEW listing under ETag 2; after the timeout block 1 is served from the current table without ETag.  The hypotheses of the
theorems above hold for it. -/
example :
    let r : Resource := ⟨List.replicate 18 0x61, [], false, false⟩
    let evs : List BEv := [.get ⟨0, 0, 0, [], none⟩, .op (.reg ⟨[0x62], [], false, false⟩), .get ⟨0, 1, 0, [], none⟩,
      .get ⟨0, 0, 0, [], none⟩, .expire 0 [], .get ⟨0, 1, 0, [], none⟩]
    let tr := runB (BState.init [r] 0) evs
    tr.map (·.resp) =
      [RespB.blk ((listing [r] []).take 16) true (some 1), RespB.blk ((listing [r] []).drop 16) false (some 1),
       RespB.blk ((listing [r, ⟨[0x62], [], false, false⟩] []).take 16) true (some 2),
       RespB.blk ((listing [r, ⟨[0x62], [], false, false⟩] []).drop 16) false none] ∧
    (∀ o ∈ tr, C16.Small o.req.opts) ∧ 0 + evs.length < 2 ^ 64 := by
  decide

end Coap.C20
