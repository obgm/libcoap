import CoapVerif.Lemmas.AllocRecvSim
import CoapVerif.Props.C05
import CoapVerif.Props.C18
/-
C18 — the receive path of a reliable session (coap_read_session, stream branch; Model/AllocRecv.lean): ownership of the receive
PDU under EVERY allocation oracle, EVERY dispatch oracle (which coap_dispatch calls disconnect the session), EVERY byte stream
and EVERY cut of it into read events.  `Own o L h` (Lemmas/AllocOracle.lean): the heap has seen no invalid free, and its live
objects are exactly the pairwise distinct objects `o` plus the objects `L` that were live before.  Then: with memory available
the skeleton dispatches what C05's reader delivers (simulation of Lemmas/AllocRecvSim.lean), and the ledger of every receive
script is the monitor's replay of its trace.
-/
namespace Coap.C18
open Coap Coap.AllocOracle Coap.AllocBlock Coap.AllocRecv Coap.M.Stream

/-- AT MOST ONE PARTIAL PDU PER SESSION, at any time of any script: what is live beyond `L` is exactly the current session's
partial PDU — no object (`ppdu = none`) or the two objects (buffer, header) of ONE PDU — and no release so far was invalid. -/
theorem recv_at_most_one_partial (maxRcv : Nat) (L : List Nat) (evs : List REv) (st : RState) (hI : SInv L st) :
    match (recvRun maxRcv st evs).2.sess with
    | some s => Own (owned s) L (recvRun maxRcv st evs).2.w.h ∧ (owned s).length ≤ 2 ∧ (s.ppdu = none → owned s = [])
    | none => Own [] L (recvRun maxRcv st evs).2.w.h := by
  have h := (own_pduInv L).recvRun maxRcv evs st hI
  unfold StInv at h
  cases hs : (recvRun maxRcv st evs).2.sess with
  | none => rw [hs] at h; exact h
  | some s => rw [hs] at h; exact ⟨h, owned_length_le s, owned_none⟩

/-- EVERY PDU ALLOCATED IS RELEASED EXACTLY ONCE: after ANY script (any streams, any cuts, peers going away, sessions replaced)
under ANY oracle and ANY dispatch oracle, once the last session is freed NOTHING the reader allocated is live (`live` is
exactly what was live before) and no release was a second release or a release of something not allocated (`ok`) — so every
object allocated on the way (serials are fresh: never one of `L`) was released once and only once: dispatched-and-deleted,
deleted by coap_session_disconnected_lkd (failed growth, failed allocation of the next PDU, peer gone, oversized message),
or deleted with the session. -/
theorem recv_pdu_released_once (maxRcv : Nat) (L : List Nat) (evs : List REv) (st : RState) (hI : SInv L st) :
    let fin := recvCleanup (recvRun maxRcv st evs).2
    fin.h.ok = true ∧ fin.h.live.Nodup ∧ (∀ i, i ∈ fin.h.live ↔ i ∈ L) := by
  have h := (own_pduInv L).recvCleanup ((own_pduInv L).recvRun maxRcv evs st hI)
  exact ⟨h.ok, h.nodup, fun i => by rw [h.mem i]; simp⟩

/-- the same from a fresh context: nothing at all is live at the end, whatever the oracle -/
theorem recv_script_clean (maxRcv : Nat) (orc : Oracle) (dcs : List Bool) (evs : List REv) :
    let fin := recvCleanup (recvRun maxRcv { w := { h := { orc := orc }, dcs := dcs } } evs).2
    fin.h.ok = true ∧ fin.h.live = [] := by
  have h := (own_pduInv []).recvCleanup
    ((own_pduInv []).recvRun maxRcv evs { w := { h := { orc := orc }, dcs := dcs } } (Own.init_empty orc))
  exact ⟨h.ok, h.live_nil⟩

/-- A FAILED ALLOCATION CLOSES THE SESSION AND LEAVES NOTHING OWNED: a coap_read_session call that takes the failure exit — the
receive PDU or its buffer cannot be allocated, the buffer cannot be grown to the announced size (oracle or size limit), the
message announces more than COAP_DEFAULT_MAX_PDU_RX_SIZE — ends with the session closed, without partial PDU, and the live
objects exactly those that were live before the session allocated anything (the PDU whose growth failed was ALREADY the
session's and is released by coap_session_disconnected_lkd: seeded C18-17 falsifies exactly this). -/
theorem recv_no_leak_on_failure (maxRcv : Nat) (L : List Nat) (fuel : Nat) (s : RSess) (w : RW) (avail : Bytes)
    (hI : RInv L s w) (hf : (call maxRcv fuel s w avail).1 = .fail) :
    (call maxRcv fuel s w avail).2.1.up = false ∧ (call maxRcv fuel s w avail).2.1.ppdu = none ∧
    (call maxRcv fuel s w avail).2.2.h.ok = true ∧ (∀ i, i ∈ (call maxRcv fuel s w avail).2.2.h.live ↔ i ∈ L) := by
  have h3 := (own_pduInv L).call maxRcv fuel s w avail hI
  obtain ⟨h1, h2⟩ := call_fail maxRcv fuel s w avail hf
  rw [owned_none h2] at h3
  exact ⟨h1, h2, h3.ok, fun i => by rw [h3.mem i]; simp⟩

/-- … and an allocation that fails once the header is complete IS that exit: coap_pdu_init NULL, or the growth refused -/
theorem recv_alloc_failure_is_failure_exit (maxRcv : Nat) (s : RSess) (w : RW) (rh : Bytes) (hdrSize hl size : Nat)
    (hsz : M.parseSizeTcp rh = R.ok size) (hm : ¬ size > M.Stream.maxRx)
    (hfail : (AllocOracle.pduInit maxRcv w.h).1 = none ∨
             ∃ p0 h1, AllocOracle.pduInit maxRcv w.h = (some p0, h1) ∧ (growTo p0 size h1).1 = 0) :
    (headerDone maxRcv s w rh hdrSize hl).1 = .fail := by
  unfold headerDone
  rw [hsz]; simp only
  rw [if_neg hm]
  rcases hfail with hn | ⟨p0, h1, hq, hg⟩
  · rcases hq : AllocOracle.pduInit maxRcv w.h with ⟨_ | p0, h1⟩
    · rfl
    · rw [hq] at hn; cases hn
  · rw [hq]; simp only
    rw [if_pos hg]

/-- AFTER THE FAILURE A NEW SESSION ON THE SAME ENDPOINT STARTS CLEAN: whatever happened before (any script, any oracle), the
session accepted next is in the state a session of a fresh endpoint is in (up, no header bytes, no partial PDU), the old
session's objects are gone and the ledger is sound — its behaviour depends on the past only through the allocator. -/
theorem recv_new_session_starts_clean (maxRcv : Nat) (L : List Nat) (evs : List REv) (st : RState) (hI : SInv L st) :
    let st' := (recvStep maxRcv (recvRun maxRcv st evs).2 .newSess).2
    st'.sess = some {} ∧ Own [] L st'.w.h := by
  have h := (own_pduInv L).recvStep maxRcv .newSess ((own_pduInv L).recvRun maxRcv evs st hI)
  have hs : (recvStep maxRcv (recvRun maxRcv st evs).2 .newSess).2.sess = some {} := by
    unfold recvStep
    cases (recvRun maxRcv st evs).2.sess <;> rfl
  refine ⟨hs, ?_⟩
  unfold StInv at h
  rw [hs] at h
  exact h

/-! ## served: with memory available the skeleton IS C05's reader (simulation, Lemmas/AllocRecvSim.lean) -/

/-- WHAT REACHES coap_dispatch IS WHAT THE READER DELIVERS: a session fed ANY byte stream in ANY cut into read events, with
memory available (`Avail`: the oracle is exhausted, every request is granted; no coap_dispatch disconnects the session),
hands to coap_dispatch (ghost `msgs`, one `dsp` record per call) exactly the messages C05's reader `Stream.feed` delivers,
in the same order, each exactly once; the session is closed exactly when the reader closes it. -/
theorem recv_dispatches_what_reader_delivers (m : Nat) (hc : Cap m) (chunks : List Bytes) (w : RW) (ha : Avail w) :
    let r := (recvRun m { sess := some {}, w := w } (chunks.map .chunk)).2
    r.w.msgs = w.msgs ++ (M.Stream.feed m M.Stream.St.init chunks).1 ∧
    r.w.dsp.length = w.dsp.length + (M.Stream.feed m M.Stream.St.init chunks).1.length ∧
    Avail r.w ∧
    ∃ s', r.sess = some s' ∧ (s'.up = false ↔ (M.Stream.feed m M.Stream.St.init chunks).2 = .closed) := by
  have hno := C05.reader_no_oob m hc chunks
  have h := run_sim m chunks {} w ha rfl hno
  have e : toSt {} = M.Stream.St.init := rfl
  rw [e] at h
  obtain ⟨h1, h2, h3, s', h4, h5⟩ := h
  refine ⟨h2, h3, h1, s', h4, ?_⟩
  generalize (M.Stream.feed m M.Stream.St.init chunks).2 = o at h5 hno
  cases o with
  | cont st => simp only at h5; simp [h5.1]
  | closed => simp only at h5; simp [h5]
  | oob => exact absurd rfl hno

/-- … and these are the messages the SPECIFICATION finds in the concatenated bytes (C05 `reader_eq_spec`): the cut plays no
role, every well-formed frame completely received is dispatched (C05 `spec_delivers_complete_frame`) once, in order. -/
theorem recv_dispatches_spec_frames (m : Nat) (hc : Cap m) (chunks : List Bytes) (w : RW) (ha : Avail w) :
    (recvRun m { sess := some {}, w := w } (chunks.map .chunk)).2.w.msgs =
      w.msgs ++ (Spec.Stream.framesOf m chunks.flatten).1 := by
  have h := (recv_dispatches_what_reader_delivers m hc chunks w ha).1
  rw [C05.reader_eq_spec m hc] at h
  rw [h]
  generalize Spec.Stream.framesOf m chunks.flatten = q
  rfl

/-- AFTER A FAILURE THE NEXT SESSION IS SERVED: whatever happened before — ANY script under ANY oracle and dispatch oracle:
allocations that failed, sessions closed by them, peers gone — once memory is available again (the oracle has no refusal
left) a NEW session accepted on the endpoint and fed ANY byte stream in ANY cut gets every message of the stream dispatched:
the messages dispatched from then on are exactly those the specification finds in the bytes, in order, each once. -/
theorem recv_served_after_failure (m : Nat) (hc : Cap m) (evs : List REv) (st : RState) (chunks : List Bytes)
    (hmem : Avail (recvRun m st evs).2.w) :
    let st1 := (recvStep m (recvRun m st evs).2 .newSess).2
    let r := (recvRun m st1 (chunks.map .chunk)).2
    r.w.msgs = (recvRun m st evs).2.w.msgs ++ (Spec.Stream.framesOf m chunks.flatten).1 ∧
    r.w.dsp.length = (recvRun m st evs).2.w.dsp.length + (Spec.Stream.framesOf m chunks.flatten).1.length := by
  obtain ⟨w', e, hav, hm, hd⟩ := newSess_spec m (recvRun m st evs).2 hmem
  simp only
  rw [e]
  have h1 := recv_dispatches_spec_frames m hc chunks w' hav
  have h2 := (recv_dispatches_what_reader_delivers m hc chunks w' hav).2.1
  rw [C05.reader_eq_spec m hc] at h2
  refine ⟨by rw [h1, hm], ?_⟩
  rw [h2, hd]
  generalize Spec.Stream.framesOf m chunks.flatten = q
  rfl

/-- THE LEDGER OF EVERY RECEIVE SCRIPT IS THE MONITOR'S REPLAY OF ITS TRACE (the driver's `ledger=ok` per run, as a theorem):
after any script — any oracle, any dispatch oracle, any streams and cuts — and after the tear-down, the model's `live` / `ok`
bookkeeping is what the verified monitor `Sessions.runLedger` computes from the model's alloc/free trace. -/
theorem recv_ledger_replays (maxRcv : Nat) : ∀ (evs : List REv) (st : RState), st.w.h.Replays →
    (recvRun maxRcv st evs).2.w.h.Replays ∧ (recvCleanup (recvRun maxRcv st evs).2).h.Replays := by
  intro evs st hr
  -- coap_read_session reaches the heap through `coap_pdu_init`, `coap_pdu_resize` and `coap_delete_pdu` only
  have c := PduInv.of_closed replays_closed
  have hI : StInv (fun _ h => h.Replays) (recvRun maxRcv st evs).2 :=
    c.recvRun maxRcv evs st (by unfold StInv; split <;> exact hr)
  refine ⟨?_, c.recvCleanup hI⟩
  unfold StInv at hI
  split at hI <;> exact hI

/-! ## witnesses (`decide`): hypotheses are satisfiable, and the new session IS served -/

/-- PUT-like message of 300 bytes after the header (Len nibble 14, extended length 31): needs the growth (request 3) -/
def bigMsg : Bytes := [0xE2, 0x00, 0x1F, 0x01, 0xAA, 0xBB, 0xFF] ++ List.replicate 297 0x55
/-- a small message: Len 2, no token, payload marker + 1 byte -/
def smallMsg : Bytes := [0x20, 0x01, 0xFF, 0x07]

-- the invariant's hypothesis on a non-trivial state: a session in the middle of a message, other objects live
example : SInv [7] { sess := some { partialRead := 4, ppdu := some ⟨⟨9, 8, 1152, 256, [], 0, 0, none⟩, 2, 6, []⟩ },
                     w := { h := { orc := [false], next := 10, live := [8, 9, 7] } } } := by
  unfold SInv RInv owned; simp only
  exact { ok := rfl, nodup := by decide, fresh := by decide, onodup := by decide, mem := by intro i; simp [or_assoc], disj := by decide }

-- request 3 (the growth of the receive PDU) fails: the call takes the failure exit, session closed, nothing live;
-- the NEW session then receives a small message in two reads: dispatched (PDU 3) and released
example :
    let w0 : RW := { h := { orc := oracleFailing 3 0 3 } }
    let r := recvRun 8388858 { w := w0 } [.chunk bigMsg, .newSess, .chunk (smallMsg.take 1), .chunk (smallMsg.drop 1)]
    r.1 = ["c", "o", "o", "o"] ∧ r.2.w.h.live = [] ∧ r.2.w.h.ok = true ∧ r.2.w.h.reqs = 5 ∧ r.2.w.dsp = [(3, 6)] ∧
    r.2.sess = some {} := by decide +kernel

-- the hypotheses of recv_alloc_failure_is_failure_exit / recv_no_leak_on_failure on that instance
example : M.parseSizeTcp (bigMsg.take 3) = R.ok 302 := by decide
example : (call 8388858 400 {} { h := { orc := oracleFailing 3 0 3 } } bigMsg).1 = .fail := by decide +kernel

-- coap_dispatch disconnects the session (dispatch oracle [true]) in the middle of a read: the loop goes on, the PDU of the
-- next message belongs to the closed session and is released with it
example :
    let w0 : RW := { h := { orc := [] }, dcs := [true] }
    let r := recvRun 8388858 { w := w0 } [.chunk (smallMsg ++ smallMsg.take 3)]
    r.1 = ["c"] ∧ r.2.w.h.live = [4, 3] ∧ (recvCleanup r.2).h.live = [] ∧ (recvCleanup r.2).h.ok = true := by decide

-- recv_served_after_failure on a concrete past: request 3 (the growth) fails and closes the first session; the oracle is
-- then exhausted (`Avail`), and the new session, fed two messages cut in the middle of the first, gets both dispatched
example : Cap 8388858 := by unfold Cap M.Stream.maxHdr M.Stream.maxRx; omega
example : Avail (recvRun 8388858 { w := { h := { orc := oracleFailing 3 0 3 } } } [.chunk bigMsg]).2.w := by
  unfold Avail; decide +kernel
example :
    let st := (recvRun 8388858 { w := { h := { orc := oracleFailing 3 0 3 } } } [.chunk bigMsg, .newSess]).2
    let r := (recvRun 8388858 st ([smallMsg.take 1, smallMsg.drop 1 ++ smallMsg].map .chunk)).2
    r.w.msgs.length = 2 ∧ r.w.dsp.length = 2 ∧ (Spec.Stream.framesOf 8388858 (smallMsg ++ smallMsg)).1.length = 2 ∧
    r.w.h.live = [] := by decide +kernel
-- the hypothesis of recv_ledger_replays: a fresh context
example : ({ w := { h := { orc := oracleFailing 3 0 3 } } } : RState).w.h.Replays := replays_init _

end Coap.C18
