import CoapVerif.Model.Exchange
import CoapVerif.Lemmas.CalcTimeout
/-
C07 / T1 (design/T1.md) — the transmission parameters of the exchange model are those of the current tree:
COAP_DEFAULT_MAX_RETRANSMIT, COAP_DEFAULT_NSTART as compiled, and `coap_calc_timeout` of the compiled code, evaluated
on a session with the default ACK_TIMEOUT / ACK_RANDOM_FACTOR for every PRNG byte (extract/consts2_net.c), equals the
model's `calcTimeout` for EVERY argument.
-/
namespace Coap.C07
open Coap Coap.Generated

theorem maxRetransmit_matches_code : Exch.maxRetransmit = C2.COAP_DEFAULT_MAX_RETRANSMIT := by decide
theorem nstart_matches_code : Exch.nstart = C2.COAP_DEFAULT_NSTART := by decide

/-- the fixed-point numerals written into `Exch.calcTimeout` (96, 64, 128, the shifts by 8 and 6, 1000 ticks) are the
compiled ones -/
theorem calcTimeout_numerals_matches_code :
    C2.qAckRandomFactor = 96 ∧ C2.qOne = 64 ∧ C2.qAckTimeout = 128 ∧ 2 ^ C2.MAX_BITS = 256 ∧ 2 ^ C2.FRAC_BITS = 64 ∧
    C2.COAP_TICKS_PER_SECOND = 1000 := by decide

private theorem calcTimeout_table : (List.range 256).map Exch.calcTimeout = C2.calcTimeoutDefault := by decide +kernel

/-- `Exch.calcTimeout r` is what the compiled `coap_calc_timeout(session, (uint8_t) r)` returns with the default
parameters, for every `r` -/
theorem calcTimeout_matches_code (r : Nat) : Exch.calcTimeout r = C2.calcTimeoutDefault.getD (r % 256) 0 := by
  have h : Exch.calcTimeout r = Exch.calcTimeout (r % 256) := by
    simp [Exch.calcTimeout]
  rw [h]
  exact getD_of_map_range calcTimeout_table (Nat.mod_lt _ (by decide))

/-- ACK_TIMEOUT, the un-randomised timeout (`r = 0`): the bound on network delays in `exactly_once_piggybacked_default` -/
theorem ackTimeout_matches_code :
    Exch.ackTimeout = C2.calcTimeoutDefault.getD 0 0 ∧ Exch.ackTimeout = C2.ackTimeoutInt * C2.COAP_TICKS_PER_SECOND ∧
    C2.ackTimeoutFrac = 0 := by decide

example : Exch.calcTimeout 255 = 3000 := by decide
example : Exch.calcTimeout 511 = 3000 := by decide

end Coap.C07
