import CoapVerif.Model.LinkFormat
import CoapVerif.Generated.Consts2
/-
C20 / T1 — the `coap_print_status_t` layout and UINT_MAX used by the link-format model are those of the
current tree.
-/
namespace Coap.C20
open Coap Coap.Generated

/-- COAP_PRINT_STATUS_MAX; the error flag and the mask sit above it -/
theorem statusMax_matches_code :
    M.LF.STATUS_MAX = C2.COAP_PRINT_STATUS_MAX ∧ C2.COAP_PRINT_STATUS_MASK = C2.UINT_MAX - C2.COAP_PRINT_STATUS_MAX ∧
    C2.COAP_PRINT_STATUS_ERROR > C2.COAP_PRINT_STATUS_MAX := by decide
theorem uintMax_matches_code : M.LF.UINT_MAX = C2.UINT_MAX := by decide
/-- Content-Format of /.well-known/core and the option its query filter is read from -/
theorem linkFormat_numbers_matches_code :
    (40 : Nat) = C2.COAP_MEDIATYPE_APPLICATION_LINK_FORMAT ∧ (15 : Nat) = C2.COAP_OPTION_URI_QUERY := by decide

end Coap.C20
