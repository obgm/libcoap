import CoapVerif.Props.C06
/-
C07, several sessions of ONE context — "... with one exchange outstanding PER SESSION".

The sessions of a context keep their Confirmables in one retransmission queue (`context->sendqueue`) and choose their message ids
independently, so requests with EQUAL message ids on different sessions wait in that queue together.  `Model/Exchange.lean` (the model
of `Props/C07.lean`) is ONE session's view of the queue; the queue with several sessions is `Coap.SQ` / `Coap.Msg` (+ `Coap.MsgX` for
piggybacked responses), the model that the op `msg` ties to the compiled code (harness/msg.c, Driver/Msg.lean) and that C07 runs
with colliding message ids (props/C07.py `shared_queue`, `oracle_msg`).  Proved here, for every queue / state / run:
removal from the queue is keyed by session AND message id; a reply processed on session `s` leaves every other session as it was; over
whole runs a request accepted once is concluded exactly once, and only by replies received on its own session.
-/
namespace Coap.C07
open Coap Coap.SQ Coap.Msg Coap.MsgX
open Coap.Spec.SQ (Entry)

/-! ## the queue: removal by (session, message id) -/

theorem spec_remove_filter (p : Entry → Bool) (s id : Nat) (hp : ∀ e : Entry, e.sess = s → e.mid = id → p e = false) :
    ∀ l : List Entry, (Spec.SQ.remove l s id).2.filter p = l.filter p
  | [] => rfl
  | x :: r => by
    unfold Spec.SQ.remove
    split
    · rename_i h
      simp [hp x h.1 h.2]
    · simp only [List.filter_cons, spec_remove_filter p s id hp r]

/-- **coap_remove_from_queue leaves everybody else alone** - for every queue (any base time, any nodes, any number of sessions, any
collisions of message ids): after `coap_remove_from_queue(&sendqueue, s, id, …)` the entries that are not (s, id), read as absolute
deadlines, are exactly what they were - same entries, same order, same deadlines. -/
theorem shared_queue_remove_keeps_everybody_else (q : Queue) (s id : Nat) :
    (abs { q with nodes := (removeNode q.nodes s id).2 }).filter (fun e => !decide (e.sess = s ∧ e.mid = id)) =
      (abs q).filter (fun e => !decide (e.sess = s ∧ e.mid = id)) := by
  have h := removeNode_rest q.base q.nodes s id
  simp only [abs]
  rw [h]
  exact spec_remove_filter _ s id (fun e h1 h2 => by simp [h1, h2]) _

/-- … in particular the nodes of EVERY OTHER SESSION, those carrying the same message id included: an ACK / RST on session `s` does not
move, delay or remove what another session is waiting for. -/
theorem shared_queue_remove_other_sessions_untouched (q : Queue) (s id : Nat) :
    (abs { q with nodes := (removeNode q.nodes s id).2 }).filter (fun e => !decide (e.sess = s)) =
      (abs q).filter (fun e => !decide (e.sess = s)) := by
  have h := removeNode_rest q.base q.nodes s id
  simp only [abs]
  rw [h]
  exact spec_remove_filter _ s id (fun e h1 _ => by simp [h1]) _

/-- what leaves is a node of THAT session with THAT id, and one leaves whenever the queue holds one -/
theorem shared_queue_remove_takes_own (l : List Node) (s id : Nat) :
    (∀ n, (removeNode l s id).1 = some n → n ∈ l ∧ n.sess = s ∧ n.mid = id) ∧
    ((removeNode l s id).1 = none →
      (removeNode l s id).2 = l ∧ l.countP (fun n => decide (n.sess = s ∧ n.mid = id)) = 0) := by
  rcases hr : removeNode l s id with ⟨res, rest⟩
  constructor
  · intro n hn
    simp only at hn
    subst hn
    obtain ⟨h1, h2, hm, _⟩ := removeNode_some _ _ _ _ _ hr
    exact ⟨hm, h1, h2⟩
  · intro hn
    simp only at hn
    subst hn
    exact removeNode_none _ _ _ _ hr

/-- the seeded witness shape: queue [other, B (mid X), A (mid X)], the reply for A arrives: A's node leaves, B's stays where it was
with its deadline (2500), and so does the other one -/
example :
    let q : Queue := { base := 1000, nodes := [⟨0, 1001, 2000, 2000, 0, 1001, true⟩, ⟨1, 1000, 500, 2500, 0, 1000, true⟩,
                                                ⟨2, 1000, 500, 3000, 0, 1000, true⟩] }
    (removeNode q.nodes 2 1000).1.map (·.sess) = some 2 ∧
    abs { q with nodes := (removeNode q.nodes 2 1000).2 } = [⟨3000, 0, 1001, 1001⟩, ⟨3500, 1, 1000, 1000⟩] ∧
    abs { q with nodes := (removeNode q.nodes 1 1000).2 } = [⟨3000, 0, 1001, 1001⟩, ⟨4000, 2, 1000, 1000⟩] := by decide

/-! ## the message layer: a reply on one session -/

/-- **a reply concludes on its own session only**: an Empty ACK, a RST or an invalid ACK with ANY message id processed on session `s`
(the ACK / RST branches of `coap_dispatch`: `coap_remove_from_queue`, `con_active--`, `coap_session_connected`) leaves every other
session `s'` exactly as it was - `con_active`, its delay queue, its state and parameters - and the same number of its Confirmables in
the shared send queue, also when `s'` has a Confirmable with that very message id in flight.  Every state `l`. -/
theorem reply_concludes_own_session_only (l : L) (s mid s' : Nat) (h : s' ≠ s) :
    ((rxAck l s mid).getS s' = l.getS s' ∧ inflight (rxAck l s mid) s' = inflight l s') ∧
    ((rxRst l s mid).getS s' = l.getS s' ∧ inflight (rxRst l s mid) s' = inflight l s') ∧
    ((rxBad l s mid).getS s' = l.getS s' ∧ inflight (rxBad l s mid) s' = inflight l s') :=
  have D := frame_disp (R := fun n => n.sess = s ∧ n.mid = mid) s l fun _ hn => hn.1
  ⟨(D.rxAck l (Frame.refl s l)).other s' h, (D.rxRst l (Frame.refl s l)).other s' h, (D.rxBad l (Frame.refl s l)).other s' h⟩

/-- the same for a PIGGYBACKED RESPONSE (duplicate or not), and: no Confirmable with another (session, id) key leaves the queue -
the Confirmable of session `s'` with the SAME id `mid` is still there. -/
theorem piggybacked_reply_concludes_own_session_only (l : L) (s mid : Nat) (dup : Bool) (s' : Nat) (h : s' ≠ s) :
    (rxAckP l s mid dup).getS s' = l.getS s' ∧ inflight (rxAckP l s mid dup) s' = inflight l s' ∧
    ∀ m', l.q.nodes.countP (fun n => decide (n.sess = s' ∧ n.mid = m')) ≤
      (rxAckP l s mid dup).q.nodes.countP (fun n => decide (n.sess = s' ∧ n.mid = m')) := by
  have hf := (frame_disp (R := fun n => n.sess = s ∧ n.mid = mid) s l fun _ hn => hn.1).rxAckP l dup (Frame.refl s l)
  refine ⟨(hf.other s' h).1, (hf.other s' h).2, fun m' => ?_⟩
  apply rxAckP_countP_le _ (tstable_key s' m')
  intro n hs _
  simp only [decide_eq_false_iff_not]
  intro hk
  exact h (hk.1.symm.trans hs)

/-- three sessions with the SAME message id in flight (deadlines 3000 / 3094 / 4000), the piggybacked response for the LAST node of
the queue arrives: that node leaves, its session's slot is free, the two others are untouched (the seeded change C07-14 took the
node of session 1 instead) -/
example :
    let l : L := { now := 1050, q := { base := 1000, nodes := [⟨2, 1000, 2000, 2000, 0, 1000, true⟩, ⟨1, 1000, 94, 2094, 0, 1000, true⟩,
                                                               ⟨0, 1000, 906, 3000, 0, 1000, true⟩] },
                   sess := [{ conActive := 1 }, { conActive := 1 }, { conActive := 1 }], out := [] }
    let l' := rxAckP l 0 1000 false
    abs l'.q = [⟨3000, 2, 1000, 1000⟩, ⟨3094, 1, 1000, 1000⟩] ∧ l'.sess.map (·.conActive) = [0, 1, 1] ∧
    l'.out = [.rsp 1050 0 1000] := by decide

/-! ## whole runs, any number of sessions -/

open Coap.Sim Coap.Sched

/-- the session a received datagram belongs to -/
def rxSess : Msg.Ev → Option Nat
  | .rxAck s _ => some s
  | .rxRst s _ => some s
  | .rxNon s _ _ => some s
  | .rxBad s _ => some s
  | _ => none

theorem cancelCount_other (s mid : Nat) : ∀ (fuel : Nat) (l : L) (s' tok : Nat), s' ≠ s → cancelCount s mid fuel l s' tok = 0
  | 0, _, _, _, _ => rfl
  | fuel + 1, l, s', tok, h => by
    unfold cancelCount
    split
    · rfl
    · rename_i n rest hr
      have hn := (removeTok_some _ _ _ _ _ hr).1
      have : ¬ (n.sess = s ∧ n.mid = mid) := fun hk => h (hn.symm.trans hk.1)
      simp only [this, if_false, Nat.zero_add]
      exact cancelCount_other s mid fuel _ s' tok h

/-- **a reply that arrives on another session concludes nothing**: the removals the conservation law of the shared queue counts for
the request (s, mid) (`remC` of `Coap.C06.m_single_outcome`: an ACK / invalid ACK finding it, a response cancelling it by token) are
0 for every event that is not a datagram received ON SESSION `s` - whatever message id or token it carries.  Every state. -/
theorem reply_on_other_session_concludes_nothing (s mid : Nat) (l : L) (ev : Msg.Ev) (h : rxSess ev ≠ some s) :
    remW s mid l ev = 0 := by
  cases ev with
  | rxAck s' m' =>
    have : ¬ s' = s := fun e => h (by simp [rxSess, e])
    simp [remW, this]
  | rxBad s' m' =>
    have : ¬ s' = s := fun e => h (by simp [rxSess, e])
    simp [remW, this]
  | rxNon s' m' tok =>
    have : s' ≠ s := fun e => h (by simp [rxSess, e])
    simp only [remW]
    split
    · exact cancelCount_other s mid _ l s' tok this
    · rfl
  | _ => rfl

theorem remC_other_sessions (s mid : Nat) : ∀ (evs : List Msg.Ev) (l : L), (∀ ev ∈ evs, rxSess ev ≠ some s) → remC s mid l evs = 0
  | [], _, _ => rfl
  | ev :: evs, l, h => by
    simp only [remC]
    rw [reply_on_other_session_concludes_nothing s mid l ev (h ev (List.mem_cons_self ..)),
      remC_other_sessions s mid evs _ (fun e he => h e (List.mem_cons_of_mem _ he))]

/-- **exactly once per session, for every interleaving** - any number of sessions sharing the send queue, any order of `coap_send`
calls, timer runs, clock steps and arrivals (Empty ACK, RST, invalid ACK, separate response; any session, any message id, any token),
message ids colliding between sessions at will: a Confirmable request (s, mid) that `coap_send` accepted once and that is no longer
pending (neither in the send queue nor held in its session's delay queue) has been concluded EXACTLY ONCE - by its NACK
(TOO_MANY_RETRIES / RST) or by a reply that took it off the queue - never both, never twice, never neither; and by
`reply_on_other_session_concludes_nothing` only replies received on session `s` are counted on the right. -/
theorem shared_queue_exactly_once_per_session (now0 : Nat) (sess : List Msg.Sess) (evs : List Msg.Ev)
    (hs : ∀ se ∈ sess, SessOk se) (hin : RunG (Msg.init now0 sess) evs) (s mid : Nat)
    (hacc : accC s mid (Msg.init now0 sess) evs = 1)
    (hq : pendC s mid (Msg.run (Msg.init now0 sess) evs).q.nodes = 0)
    (hd : midC mid ((Msg.run (Msg.init now0 sess) evs).getS s).delayq = 0) :
    nackC s mid (Msg.run (Msg.init now0 sess) evs).out + remC s mid (Msg.init now0 sess) evs = 1 := by
  have h := Coap.C06.m_single_outcome now0 sess evs hs hin s mid
  simp only at h
  omega

/-- … and while it IS pending it has not been concluded at all (no NACK, no removal counted): at most once at every moment. -/
theorem shared_queue_at_most_once_per_session (now0 : Nat) (sess : List Msg.Sess) (evs : List Msg.Ev)
    (hs : ∀ se ∈ sess, SessOk se) (hin : RunG (Msg.init now0 sess) evs) (s mid : Nat)
    (hacc : accC s mid (Msg.init now0 sess) evs = 1) :
    nackC s mid (Msg.run (Msg.init now0 sess) evs).out + remC s mid (Msg.init now0 sess) evs ≤ 1 := by
  have h := Coap.C06.m_single_outcome now0 sess evs hs hin s mid
  simp only at h
  omega

/-- **replies on other sessions never conclude a request**: in a run in which every datagram was received on a session other than
`s` - Empty ACKs, RSTs, responses carrying the very message id / token of (s, mid) included - the request (s, mid), once no longer
pending, has had exactly one NACK: nothing but its own give-up (or a RST on its own session - excluded here) ends it. -/
theorem replies_on_other_sessions_never_conclude (now0 : Nat) (sess : List Msg.Sess) (evs : List Msg.Ev)
    (hs : ∀ se ∈ sess, SessOk se) (hin : RunG (Msg.init now0 sess) evs) (s mid : Nat)
    (hacc : accC s mid (Msg.init now0 sess) evs = 1)
    (hother : ∀ ev ∈ evs, rxSess ev ≠ some s)
    (hq : pendC s mid (Msg.run (Msg.init now0 sess) evs).q.nodes = 0)
    (hd : midC mid ((Msg.run (Msg.init now0 sess) evs).getS s).delayq = 0) :
    nackC s mid (Msg.run (Msg.init now0 sess) evs).out = 1 := by
  have h := shared_queue_exactly_once_per_session now0 sess evs hs hin s mid hacc hq hd
  rw [remC_other_sessions s mid evs _ hother] at h
  omega

/-- non-vacuity: two sessions, both send message id 7 (MAX_RETRANSMIT 1); the ACK for id 7 arrives on session 1 only.  Session 1's
request is concluded by that removal (no NACK), session 0's - same id, same queue - by its own TOO_MANY_RETRIES NACK, once each. -/
def sharedEvs : List Msg.Ev :=
  [.submit 0 true 7 0, .submit 1 true 7 255, .setNow 1050, .rxAck 1 7, .setNow 3000, .prepare, .setNow 7000, .prepare]

example :
    let l0 := Msg.init 1000 [{ maxRtx := 1 }, { maxRtx := 1 }]
    (∀ se ∈ [({ maxRtx := 1 } : Msg.Sess), { maxRtx := 1 }], SessOk se) ∧ RunG l0 sharedEvs ∧
    accC 0 7 l0 sharedEvs = 1 ∧ accC 1 7 l0 sharedEvs = 1 ∧
    (∀ ev ∈ sharedEvs, rxSess ev ≠ some 0) ∧
    pendC 0 7 (Msg.run l0 sharedEvs).q.nodes = 0 ∧ pendC 1 7 (Msg.run l0 sharedEvs).q.nodes = 0 ∧
    nackC 0 7 (Msg.run l0 sharedEvs).out = 1 ∧ remC 0 7 l0 sharedEvs = 0 ∧
    nackC 1 7 (Msg.run l0 sharedEvs).out = 0 ∧ remC 1 7 l0 sharedEvs = 1 := by decide

end Coap.C07
