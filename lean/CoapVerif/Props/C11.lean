import CoapVerif.Lemmas.Observe
import CoapVerif.Lemmas.ObserveInv
import CoapVerif.Lemmas.ObserveRef
import CoapVerif.Lemmas.ObserveAbsent
import CoapVerif.Lemmas.ObserveWake
import CoapVerif.Lemmas.ObserveStale
import CoapVerif.Lemmas.ObserveKey
import CoapVerif.Lemmas.ObserveCon
import CoapVerif.Lemmas.ObserveFrame
import CoapVerif.Lemmas.ObserveToken
/-
C11 — Observe: registered observers get fresh, ordered notifications until cancelled.
Property theorems about M (CoapVerif/Model/Observe.lean), which T2 ties to the compiled libcoap on every run.

The theorems of the first half (up to "GLOBAL statements") are about ONE visit of the notify loop or ONE primitive; where a name
`X` there is the name of a clause of C11, the clause itself — over all event sequences — is `X_run` in the second half.

SPEC DECISIONS
 D8   `every_sixth_con` is stated for resources without COAP_RESOURCE_FLAGS_NOTIFY_NON_ALWAYS.
 D13  the ordering clause is strict among the notifications a change gives rise to; the response to a (re-)registration
      request carries the counter's current value, i.e. it may repeat the number of the neighbouring notification exactly
      when no change was signalled in between (same number <=> same state).  RFC 7641 §4.4 read to the letter wants it
      greater; the oracle checks "equal only without an intervening change".
-/
namespace Coap.C11
open Coap.Observe Coap.Generated

/-! ### T1: the counter's successor function is the code's -/
theorem obsNext_matches_code : ∀ p ∈ obsNextSamples, setObserve p.1 = p.2.1 ∧ nextObserve p.2.1 = p.2.2 := by decide

theorem constants_in_range : obsMaxNon + 1 ≤ 6 ∧ obsMaxNon ≤ 255 ∧ 1 ≤ obsMaxFail ∧ obsMaxFail ≤ 1 ∧ 1 ≤ obsNstart := by decide

/-! ### re-registration replaces, never duplicates -/
/-- For ALL event sequences: no resource ever lists two entries of one session with the same token or the same cache key. -/
theorem reregistration_replaces (st : State) (evs : List Event) (h : NoDupSt st) :
    ∀ y ∈ (run st evs).1.res, (y.subs.map ident).Pairwise Distinct :=
  run_noDup evs st h

theorem reregistration_replaces_init (res : List Res) (stTicks : Nat) (evs : List Event) (h : ∀ y ∈ res, y.subs = []) :
    ∀ y ∈ (run (init res stTicks) evs).1.res, (y.subs.map ident).Pairwise Distinct := by
  exact reregistration_replaces _ evs (noDupSt_init res stTicks h)

example : ∀ y ∈ [mkRes 0 false false 5, mkRes 1 true false 16777215], y.subs = [] := by decide

/-! ### ordering: 24-bit serial arithmetic (RFC 7641 §3.4, RFC 1982) -/
/-- `new` is fresher than `old` (without the 128 s escape clause) -/
def serialGt (new old : Nat) : Prop := (old < new ∧ new - old < 8388608) ∨ (new < old ∧ old - new > 8388608)

def changes : Nat → Nat → Nat
  | 0, o => o
  | k + 1, o => nextObserve (changes k o)

theorem changes_eq (k o : Nat) (ho : o < 16777216) : changes k o = (o + k) % 16777216 := by
  induction k with
  | zero => exact (Nat.mod_eq_of_lt ho).symm
  | succ k ih => simp only [changes, nextObserve, ih, Nat.mod_add_mod, Nat.add_assoc]

/-- The counter after k effective changes, 0 < k < 2^23, is fresher (24-bit serial arithmetic) than the counter before —
    including across the wrap from 0xFFFFFF to 0.  Explicit hypothesis: fewer than 2^23 changes between the two values. -/
theorem observe_strictly_increasing (o k : Nat) (ho : o < 16777216) (hk : 0 < k) (hk' : k < 8388608) :
    serialGt (changes k o) o := by
  rw [changes_eq k o ho]
  unfold serialGt
  omega

example : serialGt (changes 3 16777214) 16777214 := observe_strictly_increasing _ _ (by decide) (by decide) (by decide)
example : changes 3 16777214 = 1 := by decide

/-- `coap_resource_notify_observers` on a resource with observers: counter := successor, dirty, context pending -/
theorem change_advances (st : State) (r : Nat) (x : Res) (hx : findRes st r = some x) (hs : x.subs.isEmpty = false) :
    (change st r).pending = true ∧
    (change st r).res = st.res.map (fun y => if y.id = r then { y with dirty := true, observe := nextObserve y.observe, ver := y.ver + 1 } else y) := by
  unfold change
  rw [hx]
  simp [hs, modRes, mapRes]

/-- a change without observers changes nothing (the counter only moves while somebody is listening) -/
theorem change_without_observers (st : State) (r : Nat) (x : Res) (hx : findRes st r = some x) (hs : x.subs.isEmpty = true) :
    change st r = st := by
  unfold change
  rw [hx]
  simp [hs]

/-! ### what one visit of the notify loop does -/
theorem not_clean {r : Res} {o : Sub} (hd : r.dirty = true ∨ o.dirty = true) : (!r.dirty && !o.dirty) = false := by
  cases hd with
  | inl h => simp [h]
  | inr h => simp [h]

/-- One visit: an entry that has something to be told (the resource changed, or its own
    notification was deferred) and is not back-pressured is sent 2.05 with ITS token, the counter's CURRENT value, and is
    clean afterwards. -/
theorem notification_per_observer (r : Res) (o : Sub) (st : State) (hd : r.dirty = true ∨ o.dirty = true)
    (hbp : backPressured st r o = false) (herr : r.err = false) :
    ∃ out o', (notifyOne false r o st).outs = [out] ∧ (notifyOne false r o st).sub = some o' ∧
      out.tag = .note ∧ out.c = o.sess ∧ out.token = o.token ∧ out.code = 69 ∧ out.obs = some r.observe ∧
      out.kind = (if wantCon r o then .con else .non) ∧
      o'.dirty = false ∧ o'.sess = o.sess ∧ o'.token = o.token ∧ o'.lastVer = some r.ver := by
  have h1 := not_clean hd
  unfold notifyOne
  simp only [h1, hbp, herr, Bool.false_eq_true, if_false]
  refine ⟨_, _, rfl, rfl, ?_⟩
  simp [sendNote_out, noteOut]

/-- … and over the whole list: every entry of a changed, healthy resource is either sent such a notification or is
    back-pressured at its turn (then it stays dirty — see `latest_eventually_notified`). -/
theorem notification_per_observer_loop (r : Res) (hr : r.dirty = true) (herr : r.err = false) :
    ∀ (subs : List Sub) (st : State) (o : Sub), o ∈ subs →
      (∃ out ∈ (notifyLoop false r subs st).outs, out.tag = .note ∧ out.c = o.sess ∧ out.token = o.token ∧
          out.code = 69 ∧ out.obs = some r.observe) ∨
      (∃ st', backPressured st' r o = true)
  | [], _, _, h => by cases h
  | a :: rest, st, o, h => by
    unfold notifyLoop
    dsimp only
    cases h with
    | head =>
      by_cases hbp : backPressured st r a = true
      · exact Or.inr ⟨st, hbp⟩
      · obtain ⟨out, o', ho, _, h1, h2, h3, h4, h5, _⟩ :=
          notification_per_observer r a st (Or.inl hr) (by simpa using hbp) herr
        exact Or.inl ⟨out, by rw [ho]; simp, h1, h2, h3, h4, h5⟩
    | tail _ h' =>
      cases notification_per_observer_loop r hr herr rest (notifyOne false r a st).st o h' with
      | inl h =>
        obtain ⟨out, hm, hh⟩ := h
        exact Or.inl ⟨out, List.mem_append_right _ hm, hh⟩
      | inr h => exact Or.inr h

/-- The no-lost-wakeup half: a back-pressured entry is marked dirty, the resource partially
    dirty and the context pending — so the next I/O step visits it again; by `notification_per_observer` it is then told the
    counter's value of THAT moment (the latest state) as soon as the fairness hypothesis holds: the outstanding
    Confirmable was acknowledged or given up, i.e. `backPressured = false`. -/
theorem latest_eventually_notified (d : Bool) (r : Res) (o : Sub) (st : State) (hd : r.dirty = true ∨ o.dirty = true)
    (hbp : backPressured st r o = true) :
    (notifyOne d r o st).sub = some { o with dirty := true } ∧ (notifyOne d r o st).pd = true ∧
    (notifyOne d r o st).st.pending = true ∧ (notifyOne d r o st).outs = [] := by
  have h1 := not_clean hd
  unfold notifyOne
  simp [h1, hbp]

/-- an entry that was already told the current state is skipped: nothing is ever sent twice for one change -/
theorem clean_entry_skipped (d : Bool) (r : Res) (o : Sub) (st : State) (hr : r.dirty = false) (ho : o.dirty = false) :
    (notifyOne d r o st).outs = [] ∧ (notifyOne d r o st).sub = some o := by
  unfold notifyOne
  simp [hr, ho]

/-! ### at least every (COAP_OBS_MAX_NON + 1)-th notification is Confirmable (D8) -/
theorem wantCon_iff (r : Res) (o : Sub) : wantCon r o = true ↔ (r.fCon = true ∨ (r.fNonAlways = false ∧ obsMaxNon ≤ o.nonCnt)) := by
  unfold wantCon
  cases r.fCon <;> cases r.fNonAlways <;> simp [Nat.not_lt]

/-- the message types of the next notifications to one entry, as a function of its NON counter (resource without
    NOTIFY_CON / NOTIFY_NON_ALWAYS): Confirmable iff the counter reached COAP_OBS_MAX_NON -/
def cadence : Nat → Nat → List Bool
  | 0, _ => []
  | k + 1, n => if obsMaxNon ≤ n then true :: cadence k 0 else false :: cadence k (n + 1)

/-- Among any COAP_OBS_MAX_NON + 1 consecutive notifications to one observer at least one is Confirmable,
    whatever the counter was at the start of the window. -/
theorem every_sixth_con (n : Nat) : true ∈ cadence (obsMaxNon + 1) n := by
  have gen : ∀ (j n : Nat), obsMaxNon ≤ n + j → true ∈ cadence (j + 1) n := by
    intro j
    induction j with
    | zero =>
      intro n h
      unfold cadence
      rw [if_pos (by omega)]
      exact List.mem_cons_self ..
    | succ j ih =>
      intro n h
      unfold cadence
      split
      · exact List.mem_cons_self ..
      · exact List.mem_cons_of_mem _ (ih (n + 1) (by omega))
  exact gen obsMaxNon n (by omega)

example : cadence 7 0 = [false, false, false, false, false, true, false] := by decide

/-! ### nothing is sent to an entry that is not listed -/
/-- every datagram the notify loop writes goes to the session and carries the token of an entry of the list it walks -/
theorem notes_only_to_listed (d : Bool) (r : Res) : ∀ (subs : List Sub) (st : State),
    ∀ out ∈ (notifyLoop d r subs st).outs, ∃ o ∈ subs, out.c = o.sess ∧ out.token = o.token
  | subs, st, out, h => by
    obtain ⟨o, ho, _, _, _, hv, hout⟩ := (notifyLoop_visits d r subs st).visit_of_out out h
    obtain ⟨_, h1, h2, _⟩ := hv.out_fields out hout
    exact ⟨o, ho, h1, h2⟩

/-- no_notification_after_cancel — Observe=1 request, Reset, failed Confirmable notification, error response to a request:
    all four end in coap_delete_observer (`eraseP (matchST c tok)`), after which the list holds no entry of that session with
    that token (`reregistration_replaces` is what makes the first match the only one); by `notes_only_to_listed` nothing is
    sent under that token until it registers again. -/
theorem no_notification_after_cancel (c tok : Nat) : ∀ (l : List Sub), (l.map ident).Pairwise Distinct →
    ∀ s ∈ l.eraseP (matchST c tok), matchST c tok s = false
  | l => erase_absent c tok l

/-- … error response produced by the handler while notifying: the entry is dropped by that very visit -/
theorem no_notification_after_error_response (r : Res) (o : Sub) (st : State) (hd : r.dirty = true ∨ o.dirty = true)
    (hbp : backPressured st r o = false) (herr : r.err = true) :
    (notifyOne false r o st).sub = none ∧ ∀ out ∈ (notifyOne false r o st).outs, out.obs = none ∧ out.code = 132 := by
  have h1 := not_clean hd
  unfold notifyOne
  simp [h1, hbp, herr, sendNote_out, noteOut]

/-- … session loss: no entry of that session is left in any resource -/
theorem no_notification_after_session_loss (st : State) (c : Nat) (s0 : Sess) (h : st.sess c = some s0) :
    ∀ y ∈ (sessionLost st c).res, ∀ s ∈ y.subs, s.sess ≠ c :=
  sessionLost_no_entries st c s0 h

/-- … resource deletion: the deleted resource lists nobody (what it sends while going down is 4.04 without Observe) -/
theorem no_notification_after_resource_deletion (st : State) (r : Nat) (x x1 : Res) (hx : findRes st r = some x)
    (hx1 : findRes (change st r) r = some x1) :
    ∀ y ∈ (deleteResource st r).1.res, y.id = r → y.subs = [] ∧ y.alive = false := by
  unfold deleteResource
  rw [hx]
  dsimp only
  rw [hx1]
  dsimp only
  intro y hy hid
  simp only [modRes, mapRes] at hy
  obtain ⟨z, _, rfl⟩ := List.mem_map.mp hy
  split
  · exact ⟨rfl, rfl⟩
  · rename_i hne
    split at hid
    · exact absurd hid hne
    · exact absurd hid hne

/-! ### the session stays alive while it has observers -/
/-- idle reclamation never frees a referenced session … -/
theorem reclaim_keeps_referenced (st : State) (c : Nat) (s : Sess) (h : st.sess c = some s) (href : 1 ≤ s.ref) :
    (reclaim st).sess c = some s :=
  (reclaim_keeps_of_ref h href).trans h

/-- … and a new entry takes a reference (coap_session_reference in coap_add_observer) — one registration, `_partial`.
    FULL STATEMENT: for all event sequences, `ref c = #entries of c in all resources + #send-queue nodes of c`, hence ≥ 1 while
    an entry refers to the session, hence — by `reclaim_keeps_referenced` — the session object exists: `ref_eq_holders`,
    `session_alive_while_observed`, `idle_reclaim_keeps_observed` below. -/
theorem session_alive_while_observed_partial (st : State) (r c tok key : Nat) (x : Res) (hx : findRes st r = some x)
    (hnew : x.subs.any (matchST c tok) = false) (hkey : x.subs.find? (matchSK c key) = none) :
    ((addObserver st r c tok key).sess c).map (·.ref) = some ((getSess st c).ref + 1) := by
  unfold addObserver
  rw [hx]
  simp [hnew, hkey, refInc, modSess, setSess, getSess, newMid, mapRes]

/-! ### open finding `rst_of_superseded_notification_ignored`
libcoap remembers only the message id of the LATEST notification per entry (`obs->pdu->mid`) besides the Confirmable
ones still in the send queue.  A Reset that names an earlier Non-confirmable notification (delayed past the next one) is
not attributed: the entry stays and notifications continue — against "after a Reset in reply to a notification no further
notification is sent".  Witness (decided on M, reproduced on the compiled code by corpus/C11/known.txt): -/
def supersededWitness : List Event :=
  [.reg 0 0 1 0 true 1, .chg 0, .adv 0, .chg 0, .adv 0, .rst 0 0, .chg 0, .adv 0]

/-- three notifications are written although the Reset of the first one arrived before the third change -/
example : ((run (init [mkRes 0 false false 0] 30000) supersededWitness).2.filter (fun o => o.tag == .note && o.code == 69)).length = 3 := by
  decide

/-- what IS proved about Resets: one that names an entry's latest notification (and no queued Confirmable) removes exactly
    that entry through coap_delete_observer (then `no_notification_after_cancel` applies). -/
theorem reset_of_notification_removes_partial (st : State) (c mid rid tok : Nat)
    (hq : (rxSession st c).sendq.find? (matchQ c mid) = none)
    (hm : findByMid (rxSession st c).res c mid = some (rid, tok)) :
    handleRst st c mid = deleteObserver (rxSession st c) rid c tok := by
  unfold handleRst
  dsimp only
  rw [hq]
  dsimp only
  rw [hm]

/-! ## GLOBAL statements: invariants over ALL event sequences (Lemmas/ObserveRun.lean, ObserveInv.lean, ObserveRef.lean) -/

/-! ### ordering over whole runs -/
def SameObs (a b : Out) : Prop := a.c = b.c ∧ a.token = b.token ∧ a.res = b.res

theorem tag_of_isNotif {a : Out} (h : isNotif a = true) : a.tag = .note := by
  unfold isNotif at h
  simp only [Bool.and_eq_true, beq_iff_eq] at h
  exact h.1

/-- the start value of a resource's counter, extrapolated back to version 0 -/
def baseOf (st : State) (rid : Nat) : Nat :=
  match st.res.find? (fun y => y.id == rid) with
  | some y => (y.observe + 16777216 - y.ver % 16777216) % 16777216
  | none => 0

theorem find_by_id {st : State} (hid : IdsNodup st) {y : Res} (hy : y ∈ st.res) :
    st.res.find? (fun z => z.id == y.id) = some y := by
  cases hf : st.res.find? (fun z => z.id == y.id) with
  | none =>
    have := List.find?_eq_none.mp hf y hy
    simp at this
  | some z =>
    have h2 := List.find?_some hf
    rw [eq_of_id_eq hid (List.mem_of_find?_eq_some hf) hy (by simpa using h2)]

theorem baseOf_spec (st : State) (hid : IdsNodup st) (hobs : ∀ y ∈ st.res, y.observe < 16777216) :
    ∀ y ∈ st.res, y.observe = (baseOf st y.id + y.ver) % 16777216 := by
  intro y hy
  unfold baseOf
  rw [find_by_id hid hy]
  dsimp only
  have := hobs y hy
  omega

theorem pair_of_filtered {l : List Out} {p : Out → Bool} {R : Out → Out → Prop} (h : (l.filter p).Pairwise R) {a b : Out}
    (hab : [a, b].Sublist l) (ha : p a = true) (hb : p b = true) : R a b := by
  have h1 := hab.filter p
  have h2 : [a, b].filter p = [a, b] := by simp [List.filter, ha, hb]
  rw [h2] at h1
  exact List.pairwise_iff_forall_sublist.mp h h1

/-- In every run (any start state with distinct resource ids, no duplicate entries
    and 24-bit counters, any event sequence), of any two notifications (2.05, written by the notify loop) to the same
    (session, token, resource) the later one reports a strictly later state of the resource (`ver` = number of effective
    changes: between two notifications to one entry the resource counter HAS advanced), and its Observe value is greater in
    the 24-bit serial sense whenever fewer than 2^23 changes lie between the two — in particular between consecutive ones. -/
theorem observe_strictly_increasing_run (st : State) (evs : List Event) (hid : IdsNodup st) (hnd : NoDupSt st)
    (hobs : ∀ y ∈ st.res, y.observe < 16777216) :
    (run st evs).2.Pairwise (fun a b => isNotif a = true → isNotif b = true → SameObs a b →
      a.ver < b.ver ∧ ∀ x z, a.obs = some x → b.obs = some z → b.ver - a.ver < 8388608 → serialGt z x) := by
  rw [List.pairwise_iff_forall_sublist]
  intro a b hab hna hnb hso
  obtain ⟨hc, ht, hr⟩ := hso
  have hamem : a ∈ (run st evs).2 := hab.subset (List.mem_cons_self ..)
  have hbmem : b ∈ (run st evs).2 := hab.subset (List.mem_cons_of_mem _ (List.mem_cons_self ..))
  have hatag : a.tag = .note := tag_of_isNotif hna
  have hbtag : b.tag = .note := tag_of_isNotif hnb
  obtain ⟨y, hy, hyid⟩ := run_note_res evs st a hamem hatag
  have hord := run_ordInv st evs hid hnd a.c a.token y hy
  have hval := run_valInv st evs hid (baseOf st) (baseOf_spec st hid hobs) y hy
  have hfa := fromRes_of_note hatag hyid
  have hfb := fromRes_of_note hbtag (hyid.trans hr)
  have hlt : a.ver < b.ver := by
    have hs := hord.sorted
    unfold notifsTo at hs
    rw [List.filter_filter, List.filter_filter] at hs
    refine pair_of_filtered hs hab ?_ ?_
    · simp [hna, hfa, toST]
    · simp [hnb, hfb, toST, ← hc, ← ht]
  refine ⟨hlt, ?_⟩
  intro x z hx hz hk
  have h1 := hval.outs a (List.mem_filter.mpr ⟨hamem, hfa⟩) hna
  have h2 := hval.outs b (List.mem_filter.mpr ⟨hbmem, hfb⟩) hnb
  rw [hx] at h1; rw [hz] at h2
  simp only [Option.some.injEq] at h1 h2
  -- z is x advanced by the changes in between
  have hxlt : x < 16777216 := by rw [h1]; exact Nat.mod_lt _ (by decide)
  have hzx : z = changes (b.ver - a.ver) x := by
    rw [changes_eq _ _ hxlt, h2, h1, Nat.mod_add_mod, Nat.add_assoc, Nat.add_sub_cancel' (Nat.le_of_lt hlt)]
  rw [hzx]
  exact observe_strictly_increasing x _ hxlt (Nat.sub_pos_of_lt hlt) hk

/-- (1) from an INITIAL state: no invariant hypothesis left -/
theorem observe_strictly_increasing_run_init (res : List Res) (stTicks : Nat) (evs : List Event)
    (hids : (res.map (·.id)).Nodup) (hsubs : ∀ y ∈ res, y.subs = []) (hobs : ∀ y ∈ res, y.observe < 16777216) :
    (run (init res stTicks) evs).2.Pairwise (fun a b => isNotif a = true → isNotif b = true → SameObs a b →
      a.ver < b.ver ∧ ∀ x z, a.obs = some x → b.obs = some z → b.ver - a.ver < 8388608 → serialGt z x) :=
  observe_strictly_increasing_run (init res stTicks) evs hids (noDupSt_init res stTicks hsubs) hobs

example : ∀ y ∈ [mkRes 0 false false 16777214, mkRes 1 true false 4294967295], y.observe < 16777216 := by decide

/-! witness: the hypotheses are satisfiable and the statement bites — a run across the 24-bit wrap with a burst of changes -/
def runStart : State := init [mkRes 0 false false 16777214, mkRes 1 true false 7] 30000
def runEvents : List Event :=
  [.reg 0 0 1 0 true 1, .chg 0, .adv 0, .chg 0, .chg 0, .adv 0, .chg 0, .adv 0, .chg 0, .adv 0, .chg 0, .adv 0,
   .chg 0, .adv 0, .chg 0, .adv 0]
instance (st : State) : Decidable (IdsNodup st) := by unfold IdsNodup; exact inferInstance
instance (a b : Nat) : Decidable (serialGt a b) := by unfold serialGt; exact inferInstance
example : IdsNodup runStart := by decide
example : NoDupSt runStart := noDupSt_init _ _ (by decide)
example : ∀ y ∈ runStart.res, y.observe < 16777216 := by decide
example : ((run runStart runEvents).2.filter fun o => isNotif o).map (fun o => (o.obs, o.ver)) =
    [(some 16777215, 1), (some 1, 3), (some 2, 4), (some 3, 5), (some 4, 6), (some 5, 7), (some 6, 8)] := by decide
example : serialGt 1 16777215 := by decide

def verOf (st : State) (rid : Nat) : Nat :=
  match st.res.find? (fun y => y.id == rid) with
  | some y => y.ver
  | none => 0

theorem verOf_spec (st : State) (hid : IdsNodup st) : ∀ y ∈ st.res, verOf st y.id = y.ver := by
  intro y hy
  unfold verOf
  rw [find_by_id hid hy]

/-- With the hypothesis on the events: in a run with fewer than 2^23 change-signalling
    events (`chg`, `del`) — a fortiori between any two notifications — of any two notifications to the same (session, token,
    resource) the later one carries the serially greater Observe value.  No ghost quantity in the statement. -/
theorem observe_strictly_increasing_run_events (st : State) (evs : List Event) (hid : IdsNodup st) (hnd : NoDupSt st)
    (hobs : ∀ y ∈ st.res, y.observe < 16777216) (hfew : chgTotal evs < 8388608) :
    (run st evs).2.Pairwise (fun a b => isNotif a = true → isNotif b = true → SameObs a b →
      ∀ x z, a.obs = some x → b.obs = some z → serialGt z x) := by
  refine List.Pairwise.imp_of_mem ?_ (observe_strictly_increasing_run st evs hid hnd hobs)
  intro a b hamem hbmem hR hna hnb hso x z hx hz
  obtain ⟨hlt, hser⟩ := hR hna hnb hso
  refine hser x z hx hz ?_
  -- the resource the two notifications are about, at the end and at the start of the run
  have hbtag : b.tag = .note := tag_of_isNotif hnb
  have hatag : a.tag = .note := tag_of_isNotif hna
  obtain ⟨y, hy, hyid⟩ := run_note_res evs st b hbmem hbtag
  obtain ⟨y0, hy0, hid0, hv0⟩ := run_verLe evs st y hy
  have hfb := fromRes_of_note hbtag hyid
  have hfa := fromRes_of_note hatag (hyid.trans hso.2.2.symm)
  -- upper bound for b
  have hord := run_ordInv st evs hid hnd b.c b.token y hy
  have hbin : b ∈ notifsTo b.c b.token ((run st evs).2.filter (fromRes y.id)) := by
    unfold notifsTo
    rw [List.mem_filter, List.mem_filter, List.mem_filter]
    exact ⟨⟨⟨hbmem, hfb⟩, by simp [toST]⟩, hnb⟩
  have hub := (hord.bound b hbin).1
  -- lower bound for a
  have hlow := run_lowInv st evs hid (verOf st) (fun z hz => by rw [verOf_spec st hid z hz]; exact Nat.le_refl _) y hy
  have hlb := hlow.outs a (List.mem_filter.mpr ⟨hamem, hfa⟩) hna
  rw [hid0, verOf_spec st hid y0 hy0] at hlb
  omega

example : chgTotal runEvents = 8 := by decide

/-- the 2.05 notifications of a run to observation (session c, token tok) of resource rid, in order -/
def notificationsTo (rid c tok : Nat) (outs : List Out) : List Out := notifsTo c tok (outs.filter (fromRes rid))

/-- Over whole runs: from any state with distinct resource ids, a resource `rid` without NOTIFY_NON_ALWAYS (D8),
    no duplicate entries and NON counters in range (all invariants of every run: `run_idsNodup`, `reregistration_replaces`,
    `nonCnt_in_range`), over ANY event sequence in which (c, tok) does not register anew on rid — i.e. within one registration
    epoch of the entry — every window of COAP_OBS_MAX_NON + 1 consecutive notifications to that entry contains a Confirmable
    one. -/
theorem every_sixth_con_run (st : State) (evs : List Event) (rid c tok : Nat) (hid : IdsNodup st)
    (h0 : ∀ y ∈ st.res, y.id = rid → NoDup y ∧ y.fNonAlways = false ∧ NonCntOk y)
    (hepoch : ∀ e ∈ evs, ¬ RegEv e rid c tok) :
    ∀ pre w post, (notificationsTo rid c tok (run st evs).2).map isConOut = pre ++ w ++ post → w.length = obsMaxNon + 1 →
      true ∈ w := by
  intro pre w post heq hl
  by_cases hex : ∃ y ∈ (run st evs).1.res, y.id = rid
  · obtain ⟨y, hy, hyid⟩ := hex
    have := (run_cadInv st evs hid rid c tok hepoch h0 y hy hyid).window
    unfold kindsTo at this
    rw [hyid] at this
    unfold notificationsTo at heq
    rw [heq] at this
    exact windowOk_window pre w post 0 this hl
  · -- no such resource: nothing is ever written about it
    exfalso
    have hnil : notificationsTo rid c tok (run st evs).2 = [] := by
      unfold notificationsTo notifsTo
      rw [List.filter_filter, List.filter_filter, List.filter_eq_nil_iff]
      intro a ha hp
      simp [isNotif, fromRes] at hp
      obtain ⟨y, hy, hyid⟩ := run_note_res evs st a ha hp.1.1.1
      exact hex ⟨y, hy, hyid.trans hp.2.2⟩
    rw [hnil] at heq
    have h1 := congrArg List.length heq
    simp only [List.map_nil, List.length_nil, List.length_append] at h1
    omega

/-- the range of the NON counter is an invariant of every run -/
theorem nonCnt_in_range (st : State) (evs : List Event) (hid : IdsNodup st) (h : ∀ y ∈ st.res, NonCntOk y) :
    ∀ y ∈ (run st evs).1.res, NonCntOk y :=
  run_resInv_nil (Q := fun y _ => NonCntOk y) (fun _ y o y' _ hq hm => NonCntOk.micro y o y' hq hm) evs st hid h

example : ∀ y ∈ runStart.res, y.id = 0 → NoDup y ∧ y.fNonAlways = false ∧ NonCntOk y := by
  intro y hy hid
  simp [runStart, init, mkRes] at hy
  rcases hy with rfl | rfl
  · exact ⟨List.Pairwise.nil, rfl, fun o ho => by cases ho⟩
  · cases hid
example : ∀ e ∈ runEvents.tail, ¬ RegEv e 0 0 1 := by
  intro e he ⟨key, con, mid, h⟩
  subst h
  simp [runEvents] at he
example : (notificationsTo 0 0 1 (run runStart runEvents).2).map isConOut = [false, false, false, false, false, true, false] := by decide

/-- every_sixth_con from an INITIAL state, no invariant hypothesis left: after any prefix `pre`, over any continuation `evs`
    within one registration epoch of (c, tok) on rid -/
theorem every_sixth_con_run_init (res : List Res) (stTicks : Nat) (pre evs : List Event) (rid c tok : Nat)
    (hids : (res.map (·.id)).Nodup) (hsubs : ∀ y ∈ res, y.subs = []) (hflag : ∀ y ∈ res, y.id = rid → y.fNonAlways = false)
    (hepoch : ∀ e ∈ evs, ¬ RegEv e rid c tok) :
    ∀ p w q, (notificationsTo rid c tok (run (run (init res stTicks) pre).1 evs).2).map isConOut = p ++ w ++ q →
      w.length = obsMaxNon + 1 → true ∈ w := by
  have hid0 : IdsNodup (init res stTicks) := hids
  have hnd0 : NoDupSt (init res stTicks) := noDupSt_init res stTicks hsubs
  have hflags : ∀ y ∈ (run (init res stTicks) pre).1.res, y.id = rid → y.fNonAlways = false :=
    run_resInv_nil (Q := fun y _ => y.id = rid → y.fNonAlways = false)
      (fun _ y o y' _ hq hm hy' => by rw [hm.fixed.2.2]; exact hq (hm.fixed.1 ▸ hy'))
      pre (init res stTicks) hid0 hflag
  refine every_sixth_con_run _ evs rid c tok (run_idsNodup _ pre hid0) ?_ hepoch
  intro y hy hyid
  exact ⟨run_noDup pre _ hnd0 y hy, hflags y hy hyid,
    nonCnt_in_range _ pre hid0 (fun z hz o ho => by rw [hsubs z hz] at ho; cases ho) y hy⟩

example : ∀ e ∈ ([.chg 0, .adv 0, .chg 0, .adv 0] : List Event), ¬ RegEv e 0 0 1 := by
  intro e he ⟨key, con, mid, h⟩
  subst h
  simp at he

/-! ### the session stays alive while it has observers, over whole runs -/
/-- `ref(session) = #observer entries of it in all resources + #its queued nodes` (application
    references are 0 in M) is an invariant of EVERY run from any state with distinct resource ids in which it holds (e.g. `init`
    with empty subscriber lists, `ref_eq_holders_init`). -/
theorem ref_eq_holders (st : State) (evs : List Event) (hid : IdsNodup st) (h : RefInv st) :
    ∀ c, (getSess (run st evs).1 c).ref = entriesOf (run st evs).1 c + nodesOf (run st evs).1 c :=
  run_refInv st evs hid h

theorem ref_eq_holders_init (res : List Res) (stTicks : Nat) (hs : ∀ y ∈ res, y.subs = []) (hn : (res.map (·.id)).Nodup)
    (evs : List Event) : RefInv (run (init res stTicks) evs).1 :=
  run_refInv _ evs hn (init_refInv res stTicks hs)

/-- … hence in every reachable state the session object of every listed observer exists and is referenced (ref ≥ 1) … -/
theorem session_alive_while_observed (st : State) (evs : List Event) (hid : IdsNodup st) (h : RefInv st) :
    ∀ y ∈ (run st evs).1.res, ∀ o ∈ y.subs, ∃ s, (run st evs).1.sess o.sess = some s ∧ 1 ≤ s.ref :=
  Coap.Observe.session_alive_while_observed st evs hid h

/-- … likewise while a Confirmable notification to it is still queued for retransmission … -/
theorem session_alive_while_queued (st : State) (evs : List Event) (hid : IdsNodup st) (h : RefInv st) :
    ∀ q ∈ (run st evs).1.sendq, ∃ s, (run st evs).1.sess q.sess = some s ∧ 1 ≤ s.ref :=
  Coap.Observe.session_alive_while_queued st evs hid h

/-- … and the idle reclaim of coap_io_prepare_io never frees it, in any reachable state. -/
theorem idle_reclaim_keeps_observed (st : State) (evs : List Event) (hid : IdsNodup st) (h : RefInv st) :
    ∀ y ∈ (run st evs).1.res, ∀ o ∈ y.subs, (reclaim (run st evs).1).sess o.sess = (run st evs).1.sess o.sess :=
  reclaim_keeps_observed _ (run_refInv st evs hid h)

example : RefInv runStart := init_refInv _ _ (by decide)
example : (getSess (run runStart runEvents).1 0).ref = 2 ∧ entriesOf (run runStart runEvents).1 0 = 1 ∧
    nodesOf (run runStart runEvents).1 0 = 1 := by decide

/-! ### after deregistration no further notification — run level, one theorem per cause
`NoteTo out r c tok`: `out` is a datagram written by the notify loop (tag `.note`, ANY code) to (session c, token tok) about
resource r.  `isRegOf e c r tok`: the event is a registration request (Observe = 0) of (c, tok) on r.  `Absent st r c tok`:
no alive resource with id r lists (c, tok).  Retransmissions (tag `.rtx`) of a Confirmable notification written BEFORE the
deregistration are not new notifications; coap_delete_observer does not cancel them (see Lemmas/ObserveAbsent.lean). -/

/-- the engine, for ALL states and event sequences: while (c, tok) is not listed on r and does not register anew, nothing is
    written to it and it stays unlisted -/
theorem no_notification_while_absent (st : State) (evs : List Event) (r c tok : Nat) (h : Absent st r c tok)
    (hne : ∀ e ∈ evs, ¬ isRegOf e c r tok) :
    Absent (run st evs).1 r c tok ∧ ∀ out ∈ (run st evs).2, ¬ NoteTo out r c tok :=
  Coap.Observe.no_notification_while_absent st evs r c tok h hne

/-- cause 1, Observe = 1 request: from the cancel request on (its own I/O step included) and over any continuation without a
    new registration of (c, tok) on r, no notification to (c, tok) about r -/
theorem no_notification_after_cancel_run (st : State) (c r tok key : Nat) (con : Bool) (mid : Nat) (evs : List Event)
    (hid : IdsNodup st) (hnd : NoDupSt st) (hne : ∀ e ∈ evs, ¬ isRegOf e c r tok) :
    ∀ out ∈ (run st (.can c r tok key con mid :: evs)).2, ¬ NoteTo out r c tok :=
  no_notification_after_cancel_request_run st c r tok key con mid evs hid hnd hne

/-- cause 2, Reset in reply to a notification — PARTIAL: the Reset names (i) a Confirmable notification still in the send queue
    (then the token is removed from EVERY resource: coap_cancel) or (ii) the LATEST notification of an entry (`obs->pdu->mid`).
    The full statement is false for the pinned code: open finding above, `supersededWitness`. -/
theorem no_notification_after_reset_run_partial (st : State) (c n : Nat) (nt : Note) (evs : List Event)
    (hid : IdsNodup st) (hnd : NoDupSt st) (hl : lookupNote st c n = some nt) :
    (∀ q, (rxSession st c).sendq.find? (matchQ c nt.mid) = some q →
        ∀ r', (∀ e ∈ evs, ¬ isRegOf e c r' q.token) →
          ∀ out ∈ (run st (.rst c n :: evs)).2, ¬ NoteTo out r' c q.token) ∧
    (∀ rid tok, (rxSession st c).sendq.find? (matchQ c nt.mid) = none →
        findByMid (rxSession st c).res c nt.mid = some (rid, tok) →
        (∀ e ∈ evs, ¬ isRegOf e c rid tok) →
          ∀ out ∈ (run st (.rst c n :: evs)).2, ¬ NoteTo out rid c tok) :=
  Coap.Observe.no_notification_after_reset_run_partial st c n nt evs hid hnd hl

/-- cause 3, failed Confirmable notification: the I/O step `adv ms` in which the retransmission loop gives up on node q
    (`GivenUp`: q is popped with its retransmission count exhausted) removes (q.sess, q.token) from every resource
    (COAP_OBS_MAX_FAIL = 1 as extracted; `FailZero`: fail counters are 0 between steps — an invariant, `run_failZero`) -/
theorem no_notification_after_failed_notify_run (st : State) (ms : Nat) (q : QNode) (evs : List Event)
    (hid : IdsNodup st) (hnd : NoDupSt st) (hfz : FailZero st)
    (hg : GivenUp ((checkNotify { st with now := st.now + ms }).1.sendq.length + 1) (checkNotify { st with now := st.now + ms }).1 q)
    (r' : Nat) (hne : ∀ e ∈ evs, ¬ isRegOf e q.sess r' q.token) :
    ∀ out ∈ (run (step st (.adv ms)).1 evs).2, ¬ NoteTo out r' q.sess q.token :=
  no_notification_after_failed_notify_adv_run st ms q evs hid hnd hfz hg r' hne

/-- cause 4a, error response to the (re-)registration request itself (read off the response: 4.04) -/
theorem no_notification_after_error_response_run (st : State) (c r tok key : Nat) (con : Bool) (mid : Nat) (out : Out)
    (evs : List Event) (hid : IdsNodup st) (hnd : NoDupSt st) (ho : out ∈ (step st (.reg c r tok key con mid)).2)
    (htag : out.tag = .resp) (hcode : out.code = 132) (hne : ∀ e ∈ evs, ¬ isRegOf e c r tok) :
    ∀ out' ∈ (run st (.reg c r tok key con mid :: evs)).2, ¬ NoteTo out' r c tok :=
  no_notification_after_error_response_output_run st c r tok key con mid out evs hid hnd ho htag hcode hne

/-- cause 4b, error response produced by the handler while notifying: whatever event's I/O step wrote a 4.04 "notification" to
    (c, tok) about r, that was the last datagram of the notify loop to it -/
theorem no_notification_after_error_notification_run (st : State) (e : Event) (evs : List Event) (r c tok : Nat) (out : Out)
    (hid : IdsNodup st) (hnd : NoDupSt st) (ho : out ∈ (step st e).2) (hn : NoteTo out r c tok) (hcode : out.code = 132)
    (hne : ∀ e ∈ evs, ¬ isRegOf e c r tok) :
    ∀ out' ∈ (run (step st e).1 evs).2, ¬ NoteTo out' r c tok :=
  Coap.Observe.no_notification_after_error_notification_run st e evs r c tok out hid hnd ho hn hcode hne

/-- cause 5, session loss: for every resource and token of that session -/
theorem no_notification_after_session_loss_run (st : State) (c : Nat) (s0 : Sess) (evs : List Event)
    (h : st.sess c = some s0) (r tok : Nat) (hne : ∀ e ∈ evs, ¬ isRegOf e c r tok) :
    ∀ out ∈ (run st (.lost c :: evs)).2, ¬ NoteTo out r c tok :=
  Coap.Observe.no_notification_after_session_loss_run st c s0 evs h r tok hne

theorem no_entries_without_session (st : State) (h : RefInv st) (c : Nat) (hc : st.sess c = none) :
    ∀ y ∈ st.res, ∀ s ∈ y.subs, s.sess ≠ c := by
  intro y hy s hs heq
  obtain ⟨s0, h0, _⟩ := h.observed y hy s hs
  rw [heq, hc] at h0
  cases h0

/-- cause 5 without the side condition "the server still holds the session object": in every reachable state (RefInv) -/
theorem no_notification_after_session_loss_run_any (st : State) (c : Nat) (evs : List Event) (h : RefInv st) (r tok : Nat)
    (hne : ∀ e ∈ evs, ¬ isRegOf e c r tok) :
    ∀ out ∈ (run st (.lost c :: evs)).2, ¬ NoteTo out r c tok := by
  cases hc : st.sess c with
  | some s0 => exact no_notification_after_session_loss_run st c s0 evs hc r tok hne
  | none =>
    have habs : Absent st r c tok := by
      intro y hy _ _ s hs
      have := no_entries_without_session st h c hc y hy s hs
      unfold matchST
      simp [this]
    refine (no_notification_while_absent st (.lost c :: evs) r c tok habs ?_).2
    intro e he
    cases he with
    | head => intro hh; simp [isRegOf, isRegOfB] at hh
    | tail _ he' => exact hne e he'

example : ∀ out ∈ (run (run runStart [.reg 0 0 1 0 true 1, .chg 0, .adv 0]).1 [.lost 0, .chg 0, .adv 0, .adv 40000, .lost 0, .chg 0, .adv 0]).2,
    ¬ NoteTo out 0 0 1 :=
  no_notification_after_session_loss_run_any _ 0 _ (run_refInv _ _ (by decide) (init_refInv _ _ (by decide))) 0 1 (by decide)

/-- cause 6, resource deletion: after the `.del` step (which writes the 4.04 goodbyes, `goodbye_on_resource_deletion`) nothing
    is ever written about r again — for every session and token, over ANY continuation, registration attempts included -/
theorem no_notification_after_resource_deletion_run (st : State) (r : Nat) (evs : List Event) :
    ∀ c tok, ∀ out ∈ (run (step st (.del r)).1 evs).2, ¬ NoteTo out r c tok :=
  Coap.Observe.no_notification_after_resource_deletion_run st r evs

/-- the well-formedness hypotheses used above are invariants of every run from an initial state -/
theorem deregistration_invariants_init (res : List Res) (stTicks : Nat) (evs : List Event) (hids : (res.map (·.id)).Nodup)
    (hsubs : ∀ y ∈ res, y.subs = []) :
    IdsNodup (run (init res stTicks) evs).1 ∧ NoDupSt (run (init res stTicks) evs).1 ∧ FailZero (run (init res stTicks) evs).1 :=
  invariants_of_init res stTicks evs hids hsubs

/-- witness: notified before the cancel, never after it — until it registers again -/
example : ∃ out ∈ (run runStart [.reg 0 0 1 0 true 1, .chg 0, .adv 0]).2, NoteTo out 0 0 1 := by decide
example : ∀ out ∈ (run (run runStart [.reg 0 0 1 0 true 1, .chg 0, .adv 0]).1 [.can 0 0 1 0 true 2, .chg 0, .adv 0, .chg 0, .adv 0]).2,
    ¬ NoteTo out 0 0 1 :=
  no_notification_after_cancel_run _ 0 0 1 0 true 2 _ (run_idsNodup _ _ (by decide))
    (run_noDup _ _ (noDupSt_init _ _ (by decide)))
    (by decide)
example : ∃ out ∈ (run (run runStart [.reg 0 0 1 0 true 1, .chg 0, .adv 0]).1
    [.can 0 0 1 0 true 2, .reg 0 0 1 0 true 3, .chg 0, .adv 0]).2, NoteTo out 0 0 1 := by decide

/-! ### the last state is always eventually notified
Three run-level statements: (a) no lost wake-up — an entry that has not been told the resource's current state (resource dirty
or entry dirty) keeps `observe_pending` and the resource's dirty/partiallydirty flag set, in EVERY reachable state, so every
later I/O step walks it; (b) an entry that is NOT stale has been sent the resource's current state (by a notification or by the
2.05 response to its registration); (c) under the explicit fairness hypothesis — when the walk reaches the entry it is not
back-pressured, i.e. its session has fewer than NSTART Confirmables in flight (they were acknowledged or given up) or the
notification may go Non-confirmable — the I/O step writes the notification carrying the then-current (latest) state. -/

theorem stale_entry_keeps_wakeup (st : State) (evs : List Event) (hid : IdsNodup st) (h : Wake st) :
    ∀ y ∈ (run st evs).1.res, y.alive = true → ∀ o ∈ y.subs, (y.dirty = true ∨ o.dirty = true) →
      (run st evs).1.pending = true ∧ (y.dirty = true ∨ y.pdirty = true) := by
  obtain ⟨hw, hpd⟩ := run_wake st evs hid h
  intro y hy hal o ho hst
  refine ⟨hw ⟨y, hy, ?_⟩, ?_⟩
  · rcases hst with hst | hst
    · exact Or.inl hst
    · exact Or.inr ⟨hal, o, ho, hst⟩
  · rcases hst with hst | hst
    · exact Or.inl hst
    · exact Or.inr (hpd y hy o ho hst)

theorem clean_entry_holds_latest (st : State) (evs : List Event) (hid : IdsNodup st) (h0 : ∀ y ∈ st.res, LiveInv y []) :
    ∀ y ∈ (run st evs).1.res, y.alive = true → y.dirty = false → ∀ o ∈ y.subs, o.dirty = false →
      ∃ a ∈ (run st evs).2, a.res = y.id ∧ Told a o.sess o.token y.observe y.ver := by
  intro y hy hal hd o ho hod
  obtain ⟨a, ha, hta⟩ := (run_liveInv st evs hid h0 y hy).told hal hd o ho hod
  obtain ⟨ha1, ha2⟩ := List.mem_filter.mp ha
  refine ⟨a, ha1, ?_, hta⟩
  simp [fromRes] at ha2
  exact ha2.2

/-- (c), the fairness hypothesis `hfair` explicit: entry `o` is not back-pressured in the state the walk is in at its turn
    (`turnState`). -/
theorem latest_eventually_notified_run (st0 : State) (evs : List Event) (ms : Nat) (hid : IdsNodup st0) (hw : Wake st0)
    (pre post : List Res) (y : Res) (spre spost : List Sub) (o : Sub)
    (hres : (run st0 evs).1.res = pre ++ y :: post) (hsubs : y.subs = spre ++ o :: spost)
    (hal : y.alive = true) (herr : y.err = false) (hst : y.dirty = true ∨ o.dirty = true)
    (hfair : backPressured (turnState { (run st0 evs).1 with now := (run st0 evs).1.now + ms } pre y spre) y o = false) :
    ∃ out ∈ (run st0 (evs ++ [.adv ms])).2, out.tag = .note ∧ out.c = o.sess ∧ out.token = o.token ∧ out.res = y.id ∧
      out.code = 69 ∧ out.obs = some y.observe ∧ out.ver = y.ver := by
  have hy : y ∈ (run st0 evs).1.res := by rw [hres]; simp
  have ho : o ∈ y.subs := by rw [hsubs]; simp
  obtain ⟨hp, hwalk⟩ := stale_entry_keeps_wakeup st0 evs hid hw y hy hal o ho hst
  generalize hts : turnState { (run st0 evs).1 with now := (run st0 evs).1.now + ms } pre y spre = ts at hfair
  obtain ⟨out, o', hout, _, h1, h2, h3, h4, h5, _⟩ := notification_per_observer y o ts hst hfair herr
  have hmem : out ∈ (notifyOne false y o ts).outs := by rw [hout]; exact List.mem_singleton_self out
  have hf := (notifyOne_visit false y o ts).out_fields out hmem
  refine ⟨out, ?_, h1, h2, h3, hf.2.2.2.1, h4, h5, hf.2.2.2.2⟩
  rw [run_append]
  apply List.mem_append_right
  simp only [run_cons, run_nil, List.append_nil]
  rw [← hts] at hmem
  refine io_outs_of_turn _ pre post y spre spost o ?_ hsubs ?_ hal hwalk out hmem
  · exact hres
  · exact hp

/-- the fairness hypothesis is met whenever the session has fewer than NSTART Confirmables in flight at that moment … -/
theorem fair_when_acknowledged (st : State) (y : Res) (o : Sub) (h : (getSess st o.sess).conActive < obsNstart) :
    backPressured st y o = false := by
  unfold backPressured
  simp [Nat.not_le.mpr h]

/-- … and always for an entry whose next notification may go Non-confirmable -/
theorem fair_when_non (st : State) (y : Res) (o : Sub) (h1 : y.fCon = false) (h2 : o.nonCnt < obsMaxNon) :
    backPressured st y o = false := by
  unfold backPressured
  simp [h1, Nat.not_le.mpr h2]

theorem wake_holds_initially (res : List Res) (stTicks : Nat) (h : ∀ y ∈ res, y.subs = [] ∧ y.dirty = false) :
    Wake (init res stTicks) ∧ ∀ y ∈ (init res stTicks).res, LiveInv y [] :=
  ⟨wake_init res stTicks h, liveInv_init res (fun y hy => (h y hy).1)⟩

/-- witness: NOTIFY_CON resource 1, second change while the first Confirmable is in flight → the entry is deferred (stale, flags
    set); after the ACK the I/O step tells it the latest value -/
def lateEvents : List Event := [.reg 0 1 2 0 true 1, .chg 1, .adv 0, .chg 1, .adv 0]
example : ∀ y ∈ [mkRes 0 false false 16777214, mkRes 1 true false 7], y.subs = [] ∧ y.dirty = false := by decide
example : ((run runStart lateEvents).1.res.map fun y => (y.dirty, y.pdirty, y.subs.map (·.dirty))) = [(false, false, []), (false, true, [true])] ∧
    (run runStart lateEvents).1.pending = true := by decide

/-- … and an instance of (c): a burst of two changes, then the I/O step -/
def lateSt : State := (run runStart [.reg 0 0 1 0 true 1, .chg 0, .chg 0]).1
def lateY : Res := lateSt.res.getD 0 (mkRes 9 false false 0)
def lateO : Sub := lateY.subs.getD 0 { sess := 9, token := 9, key := 9, nonCnt := 0, failCnt := 0, dirty := false, mid := 0, lastVer := none }
example : lateSt.res = [] ++ lateY :: [lateSt.res.getD 1 (mkRes 9 false false 0)] ∧ lateY.subs = [] ++ lateO :: [] ∧
    lateY.alive = true ∧ lateY.err = false ∧ lateY.dirty = true := by decide
example : backPressured (turnState { lateSt with now := lateSt.now + 0 } [] lateY []) lateY lateO = false := by decide
example : ((run runStart ([.reg 0 0 1 0 true 1, .chg 0, .chg 0] ++ [.adv 0])).2.filter fun o => isNotif o).map (fun o => (o.obs, o.ver)) =
    [(some 0, 2)] := by decide
example : ((run runStart (lateEvents ++ [.ack 0 1000] ++ [.adv 0])).2.filter fun o => isNotif o).map (fun o => (o.obs, o.ver)) =
    [(some 8, 1), (some 9, 2)] := by decide

/-- the fairness hypothesis discharged from the state BEFORE the I/O step: fewer than NSTART Confirmables of the session in flight
    (every earlier one acknowledged or given up) and `o` the first stale entry of its session in walk order -/
theorem fair_when_first_stale (st : State) (pre : List Res) (y : Res) (spre : List Sub) (o : Sub)
    (hcon : (getSess st o.sess).conActive < obsNstart)
    (hpre : ∀ y1 ∈ pre, y1.alive = true → ∀ o1 ∈ y1.subs, o1.sess = o.sess → y1.dirty = false ∧ o1.dirty = false)
    (hspre : ∀ o1 ∈ spre, o1.sess = o.sess → y.dirty = false ∧ o1.dirty = false) :
    backPressured (turnState st pre y spre) y o = false := by
  have h1 := notifyAll_frame o.sess pre { st with pending := false } (fun y1 hy1 hal o1 ho1 => by
    by_cases hs : o1.sess = o.sess
    · exact Or.inr (hpre y1 hy1 hal o1 ho1 hs)
    · exact Or.inl hs)
  have h2 := notifyLoop_frame false y o.sess spre (notifyAll pre { st with pending := false }).2.1 (fun o1 ho1 => by
    by_cases hs : o1.sess = o.sess
    · exact Or.inr (hspre o1 ho1 hs)
    · exact Or.inl hs)
  have hg : getSess (turnState st pre y spre) o.sess = getSess st o.sess := by
    unfold getSess turnState
    rw [h2.1, h2.2, h1.1, h1.2]
  unfold backPressured
  rw [hg]
  simp [Nat.not_le.mpr hcon]

/-- latest_eventually_notified, run level, fairness stated on the reachable state itself: after ANY run, for every session with
    fewer than NSTART Confirmables in flight, the I/O step tells the first stale entry of that session (in walk order, alive
    healthy resource) the resource's latest state.  (So with every Confirmable eventually acknowledged or given up, each
    ACK + I/O round serves one more stale entry of the session until none is left; NON-eligible entries are served at once:
    `fair_when_non`.) -/
theorem latest_eventually_notified_first_stale (st0 : State) (evs : List Event) (ms : Nat) (hid : IdsNodup st0) (hw : Wake st0)
    (pre post : List Res) (y : Res) (spre spost : List Sub) (o : Sub)
    (hres : (run st0 evs).1.res = pre ++ y :: post) (hsubs : y.subs = spre ++ o :: spost)
    (hal : y.alive = true) (herr : y.err = false) (hst : y.dirty = true ∨ o.dirty = true)
    (hcon : (getSess (run st0 evs).1 o.sess).conActive < obsNstart)
    (hpre : ∀ y1 ∈ pre, y1.alive = true → ∀ o1 ∈ y1.subs, o1.sess = o.sess → y1.dirty = false ∧ o1.dirty = false)
    (hspre : ∀ o1 ∈ spre, o1.sess = o.sess → y.dirty = false ∧ o1.dirty = false) :
    ∃ out ∈ (run st0 (evs ++ [.adv ms])).2, out.tag = .note ∧ out.c = o.sess ∧ out.token = o.token ∧ out.res = y.id ∧
      out.code = 69 ∧ out.obs = some y.observe ∧ out.ver = y.ver :=
  latest_eventually_notified_run st0 evs ms hid hw pre post y spre spost o hres hsubs hal herr hst
    (fair_when_first_stale _ pre y spre o (by rw [getSess_conActive_now]; exact hcon) hpre hspre)

/-- witness: NOTIFY_CON resource 1 — the second change is deferred while the first Confirmable is in flight; once it is
    acknowledged (here: by `handleAck` alone, before the I/O loop runs) the hypotheses of the theorem hold -/
def ackedSt : State := handleAck (run runStart lateEvents).1 0 2
def ackedY : Res := ackedSt.res.getD 1 (mkRes 9 false false 0)
def ackedO : Sub := ackedY.subs.getD 0 { sess := 9, token := 9, key := 9, nonCnt := 0, failCnt := 0, dirty := false, mid := 0, lastVer := none }
example : (getSess (run runStart lateEvents).1 0).conActive = 1 ∧ (getSess ackedSt 0).conActive = 0 := by decide
example : ackedSt.res = [ackedSt.res.getD 0 (mkRes 9 false false 0)] ++ ackedY :: [] ∧ ackedY.subs = [] ++ ackedO :: [] ∧
    ackedY.alive = true ∧ ackedY.err = false ∧ ackedO.dirty = true ∧ ackedY.fCon = true ∧
    (getSess ackedSt ackedO.sess).conActive < obsNstart ∧
    (∀ o1 ∈ (ackedSt.res.getD 0 (mkRes 9 false false 0)).subs, o1.sess ≠ ackedO.sess) := by decide

/-- every well-formedness hypothesis used by the global theorems holds in EVERY state reachable from an initial state whose
    resources have pairwise distinct ids, no subscribers and are not dirty -/
theorem reachable_invariants_init (res : List Res) (stTicks : Nat) (evs : List Event) (hids : (res.map (·.id)).Nodup)
    (h : ∀ y ∈ res, y.subs = [] ∧ y.dirty = false) :
    IdsNodup (run (init res stTicks) evs).1 ∧ NoDupSt (run (init res stTicks) evs).1 ∧ FailZero (run (init res stTicks) evs).1 ∧
    RefInv (run (init res stTicks) evs).1 ∧ Wake (run (init res stTicks) evs).1 ∧
    (∀ y ∈ (run (init res stTicks) evs).1.res, NonCntOk y) := by
  have hsubs : ∀ y ∈ res, y.subs = [] := fun y hy => (h y hy).1
  obtain ⟨h1, h2, h3⟩ := invariants_of_init res stTicks evs hids hsubs
  exact ⟨h1, h2, h3, run_refInv _ evs hids (init_refInv res stTicks hsubs), run_wake _ evs hids (wake_init res stTicks h),
    nonCnt_in_range _ evs hids (fun z hz o ho => by rw [show z.subs = [] from hsubs z hz] at ho; cases ho)⟩

example : ([mkRes 0 false false 16777214, mkRes 1 true false 7].map (·.id)).Nodup ∧
    ∀ y ∈ [mkRes 0 false false 16777214, mkRes 1 true false 7], y.subs = [] ∧ y.dirty = false := by decide

/-! ### progress measure for "eventually" — the number of stale entries of a session -/
/-- `staleOf c st` = number of entries of session c on alive resources that have not been told the current state.
    It is 0 exactly when every such entry is clean on a clean resource (then `clean_entry_holds_latest` applies). -/
theorem staleOf_zero_iff (c : Nat) (st : State) :
    staleOf c st = 0 ↔ ∀ y ∈ st.res, y.alive = true → ∀ o ∈ y.subs, o.sess = c → y.dirty = false ∧ o.dirty = false := by
  unfold staleOf
  constructor
  · intro h y hy hal o ho hc
    have h1 := List.sum_eq_zero_iff_forall_eq_nat.mp h _ (List.mem_map_of_mem (f := staleR c) hy)
    unfold staleR at h1
    rw [if_pos hal] at h1
    have h2 : (y.subs.filter (staleP c y)) = [] := List.eq_nil_of_length_eq_zero h1
    have h3 := List.filter_eq_nil_iff.mp h2 o ho
    simp [staleP, hc] at h3
    exact h3
  · intro h
    apply List.sum_eq_zero_iff_forall_eq_nat.mpr
    intro x hx
    obtain ⟨y, hy, rfl⟩ := List.mem_map.mp hx
    unfold staleR
    split
    · rename_i hal
      rw [List.length_eq_zero_iff, List.filter_eq_nil_iff]
      intro o ho
      by_cases hc : o.sess = c
      · have := h y hy hal o ho hc
        simp [staleP, this.1, this.2]
      · simp [staleP, hc]
    · rfl

/-- an I/O step (`adv`) and an ACK never add a stale entry: only a new change (`chg`, `del`) or a registration on a dirty
    resource does -/
theorem quiet_events_never_add_stale (c : Nat) : ∀ (evs : List Event) (st : State),
    (∀ e ∈ evs, (∃ ms, e = .adv ms) ∨ (∃ c' n, e = .ack c' n)) → staleOf c (run st evs).1 ≤ staleOf c st
  | [], _, _ => Nat.le_refl _
  | e :: es, st, h => by
    rw [run_cons]
    have h1 : staleOf c (step st e).1 ≤ staleOf c st := by
      rcases h e (List.mem_cons_self ..) with ⟨ms, rfl⟩ | ⟨c', n, rfl⟩
      · exact io_stale_le { st with now := st.now + ms } c
      · unfold step; dsimp only
        split
        · split
          · unfold rxThenIo
            dsimp only
            refine Nat.le_trans (io_stale_le _ c) ?_
            exact staleOf_le_of_le c (handleAck_leF ..)
          · exact Nat.le_refl _
        · exact Nat.le_refl _
    exact Nat.le_trans (quiet_events_never_add_stale c es _ (fun e' he' => h e' (List.mem_cons_of_mem _ he'))) h1

/-- every FAIR I/O step serves one more: after any run, if session o.sess has fewer than NSTART Confirmables in flight and `o` is
    its first stale entry in walk order, the step strictly decreases the number of stale entries of that session (whatever the
    handler answers).  With `quiet_events_never_add_stale`: under fairness (each Confirmable eventually acknowledged or given
    up, the I/O loop keeps running) and no further change, after at most `staleOf` rounds no entry of the session is stale —
    everybody holds the latest state (`staleOf_zero_iff`, `clean_entry_holds_latest`). -/
theorem fair_step_decreases_stale (st0 : State) (evs : List Event) (ms : Nat) (hid : IdsNodup st0) (hw : Wake st0)
    (pre post : List Res) (y : Res) (spre spost : List Sub) (o : Sub)
    (hres : (run st0 evs).1.res = pre ++ y :: post) (hsubs : y.subs = spre ++ o :: spost)
    (hal : y.alive = true) (hst : y.dirty = true ∨ o.dirty = true)
    (hcon : (getSess (run st0 evs).1 o.sess).conActive < obsNstart)
    (hpre : ∀ y1 ∈ pre, y1.alive = true → ∀ o1 ∈ y1.subs, o1.sess = o.sess → y1.dirty = false ∧ o1.dirty = false)
    (hspre : ∀ o1 ∈ spre, o1.sess = o.sess → y.dirty = false ∧ o1.dirty = false) :
    staleOf o.sess (run st0 (evs ++ [.adv ms])).1 < staleOf o.sess (run st0 evs).1 := by
  have hy : y ∈ (run st0 evs).1.res := by rw [hres]; simp
  have ho : o ∈ y.subs := by rw [hsubs]; simp
  obtain ⟨hp, hwalk⟩ := stale_entry_keeps_wakeup st0 evs hid hw y hy hal o ho hst
  rw [run_append]
  simp only [run_cons, run_nil]
  exact io_stale_lt { (run st0 evs).1 with now := (run st0 evs).1.now + ms } pre post y spre spost o hres hsubs hp hal hwalk hst
    (fair_when_first_stale _ pre y spre o (by rw [getSess_conActive_now]; exact hcon) hpre hspre)

/-- witness (the deferred entry of `lateEvents`, acknowledged): one stale entry before the fair step, none after -/
example : staleOf 0 ackedSt = 1 ∧ staleOf 0 (io ackedSt).1 = 0 := by decide
example : staleOf 0 (run runStart lateEvents).1 = 1 ∧ staleOf 0 (run runStart (lateEvents ++ [.ack 0 1000])).1 = 0 := by decide

/-! ### what an observation IS — the cache key of the registration request (Model/ObserveKey.lean)
`Event.reg c r tok key …` carries the key; the driver computes it as `obsKey (options of the request)`, the transcription of
coap_cache_derive_key_w_ignore(session, request, SESSION_BASED, {ETag, OSCORE}).  RFC 7641 3.3/3.6: ETag options are not part
of the observation's identity (a client re-registers to update the ETags it holds); RFC 7252 5.4.2: nor are NoCacheKey
options; RFC 7641 2: nor is Observe itself. -/

/-- which options are left out: ETag, OSCORE, Observe, and the NoCacheKey class (Size1 = 60, 28 = Size2, …); Uri-Path, Uri-Query,
    Uri-Host, Accept, … are part of the identity -/
theorem not_part_of_identity :
    isCacheKey obsIgnore 4 = false ∧ isCacheKey obsIgnore 9 = false ∧ isCacheKey obsIgnore 6 = false ∧
    isCacheKey obsIgnore 60 = false ∧ isCacheKey obsIgnore 28 = false ∧
    isCacheKey obsIgnore 3 = true ∧ isCacheKey obsIgnore 11 = true ∧ isCacheKey obsIgnore 15 = true ∧ isCacheKey obsIgnore 17 = true := by
  decide

/-- an option that is not a cache-key option may be added, dropped or changed anywhere in the request: same observation -/
theorem observation_identity_ignores (a b : List ReqOpt) (o : ReqOpt) (h : isCacheKey obsIgnore o.num = false) :
    obsKey (a ++ o :: b) = obsKey (a ++ b) :=
  obsKey_eq_of_cacheOpts_eq _ _ (cacheOpts_ignores obsIgnore a b o h)

/-- in particular any ETag option, with any value, anywhere -/
theorem observation_identity_ignores_etag (a b : List ReqOpt) (v : List Nat) :
    obsKey (a ++ { num := 4, val := v } :: b) = obsKey (a ++ b) :=
  observation_identity_ignores a b _ (show isCacheKey obsIgnore 4 = false by decide)

/-- … and nothing else is forgotten: two requests have the same key exactly when their cache-key options (numbers, lengths,
    values, order) are the same.  The direction → is the one that was FALSE before fix f201070 (the digest input did not
    delimit the values; `digestInput_aliased_before_fix` below). -/
theorem observation_identity_exact (a b : List ReqOpt) (ha : WfOpts a) (hb : WfOpts b) :
    obsKey a = obsKey b ↔ cacheOpts obsIgnore a = cacheOpts obsIgnore b := by
  unfold obsKey
  rw [reqKey_eq_iff 1 1 a b [] [] (by decide) (by decide) ha hb wfPayload_nil wfPayload_nil]
  constructor
  · exact fun h => h.2.1
  · exact fun h => ⟨rfl, h, fun _ => rfl⟩

/-- `reregistration_replaces` read on the entries: two entries of one session differ in token and in key -/
theorem reregistration_replaces_keys (st : State) (evs : List Event) (h : NoDupSt st) :
    ∀ y ∈ (run st evs).1.res, y.subs.Pairwise fun s1 s2 => s1.sess = s2.sess → s1.token ≠ s2.token ∧ s1.key ≠ s2.key := by
  intro y hy
  have h1 := reregistration_replaces st evs h y hy
  rw [List.pairwise_map] at h1
  exact h1

/-- For ALL event sequences: no resource ever lists two entries of one session whose registration requests have the same
    cache-key options — whatever their tokens and whatever ETag / NoCacheKey options they carried.  (A re-registration under a
    new token with other ETags REPLACES the entry.) -/
theorem reregistration_same_target_replaces (st : State) (evs : List Event) (h : NoDupSt st) :
    ∀ y ∈ (run st evs).1.res, y.subs.Pairwise fun s1 s2 =>
      s1.sess = s2.sess → ∀ o1 o2 : List ReqOpt, s1.key = obsKey o1 → s2.key = obsKey o2 →
        cacheOpts obsIgnore o1 ≠ cacheOpts obsIgnore o2 := by
  intro y hy
  refine (reregistration_replaces_keys st evs h y hy).imp ?_
  intro s1 s2 hd hs o1 o2 hk1 hk2 heq
  refine (hd hs).2 ?_
  rw [hk1, hk2]
  exact obsKey_eq_of_cacheOpts_eq o1 o2 heq

/-- coap_add_observer's action on one table, whatever the key stands for: when no entry of the session carries key `k`, registering
    under `k` removes nothing, and under a token the session does not use yet it adds an entry with that token and key -/
theorem registration_under_free_key_keeps (y : Res) (c tok k m : Nat) (h : ∀ s ∈ y.subs, s.sess = c → s.key ≠ k) :
    (∀ s ∈ y.subs, s ∈ (addToRes y c tok k m).subs) ∧
    (y.subs.any (matchST c tok) = false → ∃ s ∈ (addToRes y c tok k m).subs, s.sess = c ∧ s.token = tok ∧ s.key = k) := by
  have hnone : y.subs.find? (matchSK c k) = none := by
    rw [List.find?_eq_none]
    intro s hs hm
    unfold matchSK at hm
    simp only [Bool.and_eq_true, beq_iff_eq] at hm
    exact h s hs hm.1 hm.2
  constructor
  · intro s hs
    unfold addToRes
    split
    · exact hs
    · rw [hnone]
      exact List.mem_cons_of_mem _ hs
  · intro hno
    unfold addToRes
    rw [if_neg (by simp [hno]), hnone]
    exact ⟨_, List.mem_cons_self .., rfl, rfl, rfl⟩

/-- the other direction, one registration: a request for ANOTHER target (different cache-key options) removes nothing -/
theorem registration_of_other_target_keeps (y : Res) (c tok m : Nat) (o2 : List ReqOpt) (h2 : WfOpts o2)
    (h : ∀ s ∈ y.subs, s.sess = c → ∃ o1, WfOpts o1 ∧ s.key = obsKey o1 ∧ cacheOpts obsIgnore o1 ≠ cacheOpts obsIgnore o2) :
    ∀ s ∈ y.subs, s ∈ (addToRes y c tok (obsKey o2) m).subs := by
  refine (registration_under_free_key_keeps y c tok (obsKey o2) m ?_).1
  intro s hs hc e
  obtain ⟨o1, w1, hk, hne⟩ := h s hs hc
  rw [hk] at e
  exact hne ((observation_identity_exact o1 o2 w1 h2).mp e)

/-- witnesses.  GET /r0 Observe with token-independent options: (1) no ETag, (2) ETag 1122, (3) ETag 33 + Size1: one identity;
    (4) ?a&b and (5) one Uri-Query option with the bytes 61 0f 00 62: two more, different from each other -/
def wReq (extra : List ReqOpt) (query : List ReqOpt) (tail : List ReqOpt) : List ReqOpt :=
  extra ++ [{ num := 6, val := [] }, { num := 11, val := [114, 48] }] ++ query ++ tail
example : obsKey (wReq [] [] []) = obsKey (wReq [{ num := 4, val := [0x11, 0x22] }] [] []) ∧
    obsKey (wReq [] [] []) = obsKey (wReq [{ num := 4, val := [0x33] }] [] [{ num := 60, val := [2] }]) := by decide
example : obsKey (wReq [] [{ num := 15, val := [97] }, { num := 15, val := [98] }] []) ≠
    obsKey (wReq [] [{ num := 15, val := [97, 15, 0, 98] }] []) ∧
    obsKey (wReq [] [] []) ≠ obsKey (wReq [] [{ num := 15, val := [97] }, { num := 15, val := [98] }] []) := by decide
example : WfOpts (wReq [{ num := 4, val := [0x33] }] [{ num := 15, val := [97, 15, 0, 98] }] [{ num := 60, val := [2] }]) := by
  intro o ho
  simp only [wReq, List.cons_append, List.nil_append, List.mem_cons, List.not_mem_nil, or_false] at ho
  rcases ho with rfl | rfl | rfl | rfl | rfl <;> refine ⟨by decide, by decide, ?_⟩ <;> intro b hb <;> simp at hb <;> omega

/-- the defect fixed by f201070, as a decided witness: WITHOUT the length the two different requests (4), (5) feed the same
    bytes into the digest (`0f 00 61 0f 00 62` after the Uri-Path), so registering one replaced the same client's observation of
    the other.  Replay: `obs st=30 R=d0 C=1 reg:0:0:1:4:C:1 reg:0:0:2:3:C:2 chg:0 io` -/
def digestNoLength : List ReqOpt → List Nat
  | [] => []
  | o :: rest => if isCacheKey obsIgnore o.num then le16 o.num ++ o.val ++ digestNoLength rest else digestNoLength rest

theorem digestInput_aliased_before_fix :
    digestNoLength (wReq [] [{ num := 15, val := [97] }, { num := 15, val := [98] }] []) =
      digestNoLength (wReq [] [{ num := 15, val := [97, 15, 0, 98] }] []) ∧
    digestInput obsIgnore (wReq [] [{ num := 15, val := [97] }, { num := 15, val := [98] }] []) ≠
      digestInput obsIgnore (wReq [] [{ num := 15, val := [97, 15, 0, 98] }] []) := by decide

/-! ### NSTART bookkeeping — `con_active` says "busy" exactly while a Confirmable is outstanding -/

/-- For ALL event sequences: in every reachable state the session's `con_active` equals the number of its Confirmable
    notifications in the retransmission queue (0 without session object).  Hence no event of ANOTHER client (Reset, give-up,
    cancellation — with whatever token values, equal ones included) can leave a session "busy" with nothing outstanding. -/
theorem con_active_eq_queued (st : State) (evs : List Event) (hid : IdsNodup st) (hr : RefInv st) (hc : ConInv st) :
    ∀ c, (getSess (run st evs).1 c).conActive = nodesOf (run st evs).1 c :=
  run_conInv st evs hid hr hc

theorem con_active_eq_queued_init (res : List Res) (stTicks : Nat) (evs : List Event) (hids : (res.map (·.id)).Nodup)
    (h : ∀ y ∈ res, y.subs = []) :
    ∀ c, (getSess (run (init res stTicks) evs).1 c).conActive = nodesOf (run (init res stTicks) evs).1 c :=
  run_conInv _ evs hids (init_refInv res stTicks h) (init_conInv res stTicks)

/-- frame of coap_cancel_all_messages(context, session c, token): every other session keeps its counter and its queued
    notifications, whatever their tokens -/
theorem cancel_leaves_other_sessions (st : State) (c tok c' : Nat) (hc : c' ≠ c) :
    (cancelAllMessages st c tok).sess c' = st.sess c' ∧
    (cancelAllMessages st c tok).sendq.filter (fun q => q.sess == c') = st.sendq.filter (fun q => q.sess == c') :=
  cancelAllMessages_other st c tok c' hc

/-- `latest_eventually_notified_first_stale` with the fairness hypothesis stated on what is OBSERVABLE — fewer than NSTART
    Confirmable notifications of the session are unacknowledged (still in the retransmission queue) — instead of on the
    session's counter: after ANY run from a state satisfying the invariants, the I/O step tells the first stale entry of such a
    session the resource's latest state. -/
theorem latest_eventually_notified_when_acknowledged (st0 : State) (evs : List Event) (ms : Nat) (hid : IdsNodup st0) (hw : Wake st0)
    (hr : RefInv st0) (hc : ConInv st0)
    (pre post : List Res) (y : Res) (spre spost : List Sub) (o : Sub)
    (hres : (run st0 evs).1.res = pre ++ y :: post) (hsubs : y.subs = spre ++ o :: spost)
    (hal : y.alive = true) (herr : y.err = false) (hst : y.dirty = true ∨ o.dirty = true)
    (hq : nodesOf (run st0 evs).1 o.sess < obsNstart)
    (hpre : ∀ y1 ∈ pre, y1.alive = true → ∀ o1 ∈ y1.subs, o1.sess = o.sess → y1.dirty = false ∧ o1.dirty = false)
    (hspre : ∀ o1 ∈ spre, o1.sess = o.sess → y.dirty = false ∧ o1.dirty = false) :
    ∃ out ∈ (run st0 (evs ++ [.adv ms])).2, out.tag = .note ∧ out.c = o.sess ∧ out.token = o.token ∧ out.res = y.id ∧
      out.code = 69 ∧ out.obs = some y.observe ∧ out.ver = y.ver :=
  latest_eventually_notified_first_stale st0 evs ms hid hw pre post y spre spost o hres hsubs hal herr hst
    (by rw [con_active_eq_queued st0 evs hid hr hc]; exact hq) hpre hspre

/-- … and the progress measure: such a step strictly decreases the number of stale entries of the session -/
theorem fair_step_decreases_stale_when_acknowledged (st0 : State) (evs : List Event) (ms : Nat) (hid : IdsNodup st0) (hw : Wake st0)
    (hr : RefInv st0) (hc : ConInv st0)
    (pre post : List Res) (y : Res) (spre spost : List Sub) (o : Sub)
    (hres : (run st0 evs).1.res = pre ++ y :: post) (hsubs : y.subs = spre ++ o :: spost)
    (hal : y.alive = true) (hst : y.dirty = true ∨ o.dirty = true)
    (hq : nodesOf (run st0 evs).1 o.sess < obsNstart)
    (hpre : ∀ y1 ∈ pre, y1.alive = true → ∀ o1 ∈ y1.subs, o1.sess = o.sess → y1.dirty = false ∧ o1.dirty = false)
    (hspre : ∀ o1 ∈ spre, o1.sess = o.sess → y.dirty = false ∧ o1.dirty = false) :
    staleOf o.sess (run st0 (evs ++ [.adv ms])).1 < staleOf o.sess (run st0 evs).1 :=
  fair_step_decreases_stale st0 evs ms hid hw pre post y spre spost o hres hsubs hal hst
    (by rw [con_active_eq_queued st0 evs hid hr hc]; exact hq) hpre hspre

/-- witness: two clients observe the NOTIFY_CON resource 1 under the SAME token value 128; both have a Confirmable outstanding;
    client 0 answers with a Reset, then client 1 acknowledges: client 1's counter is back to 0, nothing of it is queued, and the
    next change reaches it (Observe 9) while client 0 gets nothing more -/
def sharedTokenEvents : List Event :=
  [.reg 0 1 128 0 true 1, .reg 1 1 128 0 true 1, .chg 1, .adv 0, .rst 0 1000, .ack 1 1000, .chg 1, .adv 0]
example : (getSess (run runStart (sharedTokenEvents.take 4)).1 1).conActive = 1 ∧ nodesOf (run runStart (sharedTokenEvents.take 4)).1 1 = 1 ∧
    (getSess (run runStart (sharedTokenEvents.take 5)).1 1).conActive = 1 ∧ nodesOf (run runStart (sharedTokenEvents.take 5)).1 1 = 1 ∧
    (getSess (run runStart (sharedTokenEvents.take 6)).1 1).conActive = 0 ∧ nodesOf (run runStart (sharedTokenEvents.take 6)).1 1 = 0 := by
  decide
example : ((run runStart sharedTokenEvents).2.filter fun o => isNotif o).map (fun o => (o.c, o.token, o.obs)) =
    [(1, 128, some 8), (0, 128, some 8), (1, 128, some 9)] := by decide
example : ConInv runStart ∧ RefInv runStart := ⟨init_conInv _ _, init_refInv _ _ (by decide)⟩

/-! ### what ends ONE client's observation leaves every OTHER client alone (Lemmas/ObserveFrame.lean)
`viewOf c' st` = everything M holds about client c': its session object (ref, con_active, tx_mid, last_rx_tx), its queued
Confirmable notifications, its observer entries on every resource (in list order, with all their fields). -/

/-- a Reset from client c (coap_dispatch RST branch: coap_cancel over all resources, or the entry whose latest message id is
    named) changes nothing about any other client c' — whatever the token values, equal ones included -/
theorem reset_leaves_other_clients (st : State) (c mid c' : Nat) (hc : c' ≠ c) : viewOf c' (handleRst st c mid) = viewOf c' st :=
  sameFor_handleRst st c mid c' hc

/-- nor does giving up on a Confirmable notification to client c (coap_handle_failed_notify: coap_cancel_all_messages +
    coap_delete_observer on every resource) -/
theorem give_up_leaves_other_clients (st : State) (c tok c' : Nat) (hc : c' ≠ c) :
    viewOf c' (handleFailedNotify st c tok) = viewOf c' st :=
  sameFor_handleFailedNotify st c tok c' hc

/-- nor does an ACK from client c -/
theorem ack_leaves_other_clients (st : State) (c mid c' : Nat) (hc : c' ≠ c) : viewOf c' (handleAck st c mid) = viewOf c' st :=
  sameFor_handleAck st c mid c' hc

/-- witness (`sharedTokenEvents`): client 0's Reset removes client 0's entry and queued notification; client 1 — same token
    value 128, same message id 2 — keeps entry, queued notification and counter -/
def sharedSt : State := (run runStart (sharedTokenEvents.take 4)).1
example : ((handleRst sharedSt 0 2).res.map fun y => y.subs.map fun s => (s.sess, s.token)) = [[], [(1, 128)]] ∧
    (sharedSt.res.map fun y => y.subs.map fun s => (s.sess, s.token)) = [[], [(1, 128), (0, 128)]] ∧
    ((handleRst sharedSt 0 2).sendq.map fun q => (q.sess, q.mid, q.token)) = [(1, 2, 128)] ∧
    (sharedSt.sendq.map fun q => (q.sess, q.mid, q.token)) = [(1, 2, 128), (0, 2, 128)] := by decide

/-! ### the observer's TOKEN is the whole byte string, its length included (Model/ObserveToken.lean, Lemmas/ObserveToken.lean)
M's `token : Nat` is `tokNat` of the token bytes (injective, decoded by `natTok`); the comparison `==` on it in
coap_find_observer / coap_remove_failed_observers (`matchST`) and coap_cancel_all_messages (`matchQT`) is the transcription
`binaryEqual` of coap_binary_equal on the bytes: equal LENGTH and equal bytes.  So a request, Reset or failed notification that
names the empty token, or a token that is a proper prefix of another token of the same client, is about another observer. -/

/-- coap_binary_equal answers yes exactly for equal byte strings -/
theorem binary_equal_exact (a b : List Nat) : binaryEqual a b = true ↔ a = b := binaryEqual_iff a b

/-- two tokens are the same token in M iff they are the same byte string -/
theorem token_identity_exact (t u : List Nat) (ht : ∀ x ∈ t, x < 256) (hu : ∀ x ∈ u, x < 256) : tokNat t = tokNat u ↔ t = u :=
  ⟨tokNat_injective t u ht hu, fun h => by rw [h]⟩

/-- M's entry lookup is coap_find_observer's test on the bytes: same session and coap_binary_equal(token, entry's token) -/
theorem token_compare_is_binary_equal (c : Nat) (t u : List Nat) (s : Sub) (ht : ∀ x ∈ t, x < 256) (hu : ∀ x ∈ u, x < 256)
    (hs : s.token = tokNat u) : matchST c (tokNat t) s = (s.sess == c && binaryEqual t (natTok s.token)) :=
  matchST_is_binary_equal c t u s ht hu hs

/-- the same for the retransmission queue (coap_cancel_all_messages) -/
theorem token_compare_queue_is_binary_equal (c : Nat) (t u : List Nat) (q : QNode) (ht : ∀ x ∈ t, x < 256) (hu : ∀ x ∈ u, x < 256)
    (hq : q.token = tokNat u) : matchQT c (tokNat t) q = (q.sess == c && binaryEqual u t) := by
  unfold matchQT
  rw [hq]
  congr 1
  rw [Bool.eq_iff_iff, beq_iff_eq, binaryEqual_iff]
  exact ⟨fun h => tokNat_injective u t hu ht h, fun h => by rw [h]⟩

/-- an entry whose token merely STARTS with the bytes named (any entry, when the empty token is named) is not the one named -/
theorem prefix_token_is_other_observer (c : Nat) (t : List Nat) (x : Nat) (xs : List Nat) (s : Sub)
    (ht : ∀ b ∈ t ++ x :: xs, b < 256) (hs : s.token = tokNat (t ++ x :: xs)) : matchST c (tokNat t) s = false := by
  rw [matchST_is_binary_equal c t (t ++ x :: xs) s (fun b hb => ht b (List.mem_append_left _ hb)) ht hs]
  unfold findObserverMatch
  rw [hs, natTok_tokNat _ ht, binaryEqual_proper_prefix, Bool.and_false]

/-- the entries of client c under the token with bytes u, on every resource -/
def underToken (c : Nat) (u : List Nat) (st : State) : List (Nat × Bool × List Sub) :=
  subsWhere (fun s => matchST c (tokNat u) s) st

theorem matchST_other_token {c a b : Nat} (hne : a ≠ b) {s : Sub} (hs : matchST c a s = true) : matchST c b s = false := by
  unfold matchST at hs ⊢
  simp only [Bool.and_eq_true, beq_iff_eq] at hs
  rw [Bool.eq_false_iff]
  intro h2
  simp only [Bool.and_eq_true, beq_iff_eq] at h2
  exact hne (hs.2.symm.trans h2.2)

theorem other_token_not_named (c : Nat) (t u : List Nat) (ht : ∀ x ∈ t, x < 256) (hu : ∀ x ∈ u, x < 256) (hne : t ≠ u) :
    ∀ s, matchST c (tokNat t) s = true → (fun s => matchST c (tokNat u) s) s = false :=
  fun _ hs => matchST_other_token (fun e => hne (tokNat_injective t u ht hu e)) hs

/-- coap_delete_observer(resource, session, t) — error response to a request, error while notifying — leaves the client's
    observation under every other token u (longer, shorter, empty) exactly as it was, all fields included -/
theorem other_token_survives_delete (st : State) (r c : Nat) (t u : List Nat) (ht : ∀ x ∈ t, x < 256) (hu : ∀ x ∈ u, x < 256)
    (hne : t ≠ u) : underToken c u (deleteObserver st r c (tokNat t)) = underToken c u st :=
  deleteObserver_keeps _ st r c (tokNat t) (other_token_not_named c t u ht hu hne)

/-- a Reset from client c attributed to token t (queued Confirmable, or the entry whose latest message id is named) -/
theorem other_token_survives_reset (st : State) (c mid : Nat) (t u : List Nat) (ht : ∀ x ∈ t, x < 256) (hu : ∀ x ∈ u, x < 256)
    (hne : t ≠ u) (hr : rstToken st c mid = some (tokNat t)) : underToken c u (handleRst st c mid) = underToken c u st := by
  apply handleRst_keeps
  intro tok htok
  rw [hr] at htok
  cases htok
  exact other_token_not_named c t u ht hu hne

/-- giving up on a Confirmable notification sent under token t (coap_handle_failed_notify) -/
theorem other_token_survives_failed_notify (st : State) (c : Nat) (t u : List Nat) (ht : ∀ x ∈ t, x < 256) (hu : ∀ x ∈ u, x < 256)
    (hne : t ≠ u) : underToken c u (handleFailedNotify st c (tokNat t)) = underToken c u st :=
  handleFailedNotify_keeps _ st c (tokNat t) (other_token_not_named c t u ht hu hne)

/-- an Observe=1 request with token t for a target with cache key `key`: the observation under another token u stays unless it is
    the one with that very cache key (RFC 7641 §3.6 lets the server match the cancellation by target) -/
theorem other_token_survives_cancel_request (st : State) (r c key : Nat) (con : Bool) (mid : Nat) (t u : List Nat)
    (ht : ∀ x ∈ t, x < 256) (hu : ∀ x ∈ u, x < 256) (hne : t ≠ u)
    (hk : ∀ y ∈ st.res, ∀ old ∈ y.subs, matchSK c key old = true → old.token ≠ tokNat u) :
    underToken c u (request st (some 1) c r (tokNat t) key con mid).1 = underToken c u st := by
  have hdr : underToken c u (deleteObserverRequest (rxSession st c) r c (tokNat t) key) = underToken c u st := by
    refine (deleteObserverRequest_keeps _ (rxSession st c) r c (tokNat t) key (other_token_not_named c t u ht hu hne) ?_).trans rfl
    intro y hy old hold hm s hs
    exact matchST_other_token (hk y hy old hold hm) hs
  refine request_inv (P := fun s => underToken c u s = underToken c u st) (fun he h => ?_) st (some 1) c r (tokNat t) key con mid
    (fun _ => rfl) (fun h => by cases h) (fun _ => hdr) (fun s hs => (other_token_survives_delete s r c t u ht hu hne).trans hs)
  unfold underToken subsWhere at h ⊢
  rw [he]
  exact h

/-- coap_add_observer: afterwards the resource lists an entry of (session, token) — and when no entry of the session carried
    exactly these token bytes before (a longer or shorter token of the client does not count, `prefix_token_is_other_observer`),
    it is a NEW entry at the head of the list -/
theorem registration_lists_token (y : Res) (c tok key m : Nat) : (addToRes y c tok key m).subs.any (matchST c tok) = true := by
  unfold addToRes
  split
  · assumption
  · simp [matchST]

theorem registration_under_new_token_adds (y : Res) (c tok key m : Nat) (h : ∀ s ∈ y.subs, matchST c tok s = false) :
    ∃ rest, (addToRes y c tok key m).subs =
      { sess := c, token := tok, key := key, nonCnt := 0, failCnt := 0, dirty := false, mid := m, lastVer := none } :: rest := by
  unfold addToRes
  split
  · rename_i hany
    rw [List.any_eq_true] at hany
    obtain ⟨s, hs, hm⟩ := hany
    rw [h s hs] at hm
    cases hm
  · exact ⟨_, rfl⟩

/-- witnesses.  (1) what a length-blind comparison (memcmp over the length of the token named) would say, and what
    coap_binary_equal says; (2) client 0 observes r0 under token a1b2, then sends Observe=1 with the EMPTY token for another
    target: the entry stays and the next change is notified under a1b2; (3) tokens 51 (on ?q, key 7) and 5162 (key 5) of one
    client, Observe=1 for 51: 5162 stays listed and is notified, 51 is gone; (4) a registration under token 51 while 5162 is
    listed is a NEW entry -/
example : memcmpEq 1 [0x51] [0x51, 0x62] = true ∧ binaryEqual [0x51] [0x51, 0x62] = false ∧ memcmpEq 0 [] [0xa1, 0xb2] = true ∧
    binaryEqual [] [0xa1, 0xb2] = false ∧ binaryEqual [0, 0] [0, 0] = true ∧ binaryEqual [0] [0, 0] = false := by decide
example : natTok (tokNat [0x51, 0x62]) = [0x51, 0x62] ∧ natTok (tokNat []) = [] ∧ natTok (tokNat [0, 0]) = [0, 0] ∧
    tokNat [0] ≠ tokNat [0, 0] ∧ tokNat [] ≠ tokNat [0] := by
  refine ⟨natTok_tokNat _ (by decide), natTok_tokNat _ (by decide), natTok_tokNat _ (by decide), by decide, by decide⟩

def tokStart : State := init [mkRes 0 false false 0] 30000
def emptyTokenEvents : List Event := [.reg 0 0 (tokNat [0xa1, 0xb2]) 5 true 1, .can 0 0 (tokNat []) 7 true 2, .chg 0, .adv 0]
example : ((run tokStart emptyTokenEvents).1.res.map fun y => y.subs.map fun s => (s.sess, s.token)) = [[(0, tokNat [0xa1, 0xb2])]] ∧
    (((run tokStart emptyTokenEvents).2.filter fun o => isNotif o).map fun o => (o.c, o.token, o.obs)) = [(0, tokNat [0xa1, 0xb2], some 1)] := by
  decide

def prefixTokenEvents : List Event :=
  [.reg 0 0 (tokNat [0x51]) 7 true 1, .reg 0 0 (tokNat [0x51, 0x62]) 5 true 2, .can 0 0 (tokNat [0x51]) 7 true 3, .chg 0, .adv 0]
example : ((run tokStart (prefixTokenEvents.take 2)).1.res.map fun y => y.subs.map fun s => (s.sess, s.token)) =
      [[(0, tokNat [0x51, 0x62]), (0, tokNat [0x51])]] ∧
    ((run tokStart prefixTokenEvents).1.res.map fun y => y.subs.map fun s => (s.sess, s.token)) = [[(0, tokNat [0x51, 0x62])]] ∧
    (((run tokStart prefixTokenEvents).2.filter fun o => isNotif o).map fun o => (o.c, o.token, o.obs)) = [(0, tokNat [0x51, 0x62], some 1)] := by
  decide
example : ∀ s ∈ ((run tokStart [.reg 0 0 (tokNat [0x51, 0x62]) 5 true 2]).1.res.flatMap fun y => y.subs), matchST 0 (tokNat [0x51]) s = false := by
  decide
example : underToken 0 [0x51, 0x62] (request (run tokStart (prefixTokenEvents.take 2)).1 (some 1) 0 0 (tokNat [0x51]) 7 true 3).1 =
    underToken 0 [0x51, 0x62] (run tokStart (prefixTokenEvents.take 2)).1 :=
  other_token_survives_cancel_request _ 0 0 7 true 3 [0x51] [0x51, 0x62] (by decide) (by decide) (by decide) (by decide)

/-! ### FETCH observations (RFC 8132) — the identity of an observation is (method, cache-key options, FETCH payload)
`reqKey code opts payload` (Model/ObserveKey.lean) is the transcription of coap_cache_derive_key_w_ignore after fix 3034572: the
method code, for FETCH the length of the payload and the payload, then the cache-key options.  `Event.reg c r tok key …` of M
carries an ARBITRARY key, so every global theorem above (reregistration_replaces, observe_strictly_increasing_run,
notes_only_to_listed, no_notification_after_cancel_run, ref_eq_holders, con_active_eq_queued, …) already quantifies over the
histories with FETCH registrations; this section says what the key of such a request IS.  The driver hands M
`scriptKey` = `reqKey 5 (options with Content-Format) payload` for a scripted FETCH and `obsKey opts = reqKey 1 opts []` for a GET. -/

/-- two requests are "the same request" for an observation: same method, same cache-key options (numbers, lengths, values,
    order), and — FETCH only — the same payload -/
def SameRequest (m1 : Nat) (o1 : List ReqOpt) (p1 : List Nat) (m2 : Nat) (o2 : List ReqOpt) (p2 : List Nat) : Prop :=
  m1 = m2 ∧ cacheOpts obsIgnore o1 = cacheOpts obsIgnore o2 ∧ (m1 = 5 → p1 = p2)

/-- equal keys ⇔ same request: method, options AND (for FETCH) payload; nothing else is part of the key and nothing of these is
    forgotten.  The direction → was FALSE before fix 3034572 (`fetch_payload_aliased_before_fix`). -/
theorem request_identity_exact (m1 m2 : Nat) (o1 o2 : List ReqOpt) (p1 p2 : List Nat) (hm1 : m1 < 256) (hm2 : m2 < 256)
    (h1 : WfOpts o1) (h2 : WfOpts o2) (hp1 : WfPayload p1) (hp2 : WfPayload p2) :
    reqKey m1 o1 p1 = reqKey m2 o2 p2 ↔ SameRequest m1 o1 p1 m2 o2 p2 :=
  reqKey_eq_iff m1 m2 o1 o2 p1 p2 hm1 hm2 h1 h2 hp1 hp2

/-- ETag, OSCORE, Observe, NoCacheKey options stay outside the identity of a FETCH observation too (any method, any payload) -/
theorem request_identity_ignores (m : Nat) (a b : List ReqOpt) (o : ReqOpt) (p : List Nat) (h : isCacheKey obsIgnore o.num = false) :
    reqKey m (a ++ o :: b) p = reqKey m (a ++ b) p :=
  reqKey_eq_of_cacheOpts_eq m _ _ p (cacheOpts_ignores obsIgnore a b o h)

/-- the payload of a request that is not a FETCH is not looked at -/
theorem payload_only_part_of_fetch_identity (m : Nat) (a : List ReqOpt) (p q : List Nat) (h : m ≠ 5) : reqKey m a p = reqKey m a q :=
  reqKey_ignores_payload_unless_fetch m a p q h

/-- `reregistration_replaces` over the larger key space.  For ALL event sequences (GET and FETCH registrations, cancellations,
    everything else): two entries a resource lists for one session have different tokens AND are registrations of different
    requests — never the same method, cache-key options and payload.  Together with `registration_of_other_request_keeps`: two
    registrations of a session coincide (the later one replaces / is the earlier one) iff same token or same request. -/
theorem reregistration_replaces_requests (st : State) (evs : List Event) (h : NoDupSt st) :
    ∀ y ∈ (run st evs).1.res, y.subs.Pairwise fun s1 s2 =>
      s1.sess = s2.sess → s1.token ≠ s2.token ∧
        ∀ (m1 m2 : Nat) (o1 o2 : List ReqOpt) (p1 p2 : List Nat), s1.key = reqKey m1 o1 p1 → s2.key = reqKey m2 o2 p2 →
          ¬ SameRequest m1 o1 p1 m2 o2 p2 := by
  intro y hy
  refine (reregistration_replaces_keys st evs h y hy).imp ?_
  intro s1 s2 hd hs
  refine ⟨(hd hs).1, ?_⟩
  intro m1 m2 o1 o2 p1 p2 hk1 hk2 hsame
  refine (hd hs).2 ?_
  obtain ⟨rfl, ho, hp⟩ := hsame
  rw [hk1, hk2]
  by_cases h5 : m1 = 5
  · rw [hp h5]
    exact reqKey_eq_of_cacheOpts_eq m1 o1 o2 p2 ho
  · rw [reqKey_ignores_payload_unless_fetch m1 o1 p1 p2 h5]
    exact reqKey_eq_of_cacheOpts_eq m1 o1 o2 p2 ho

/-- the other direction, one registration (coap_add_observer's action on the table, any table): a request that is not the same
    request as any the session's entries were registered with removes nothing; and under a token the session does not use yet it
    ADDS an entry with that token and key. -/
theorem registration_of_other_request_keeps (y : Res) (c tok m : Nat) (m2 : Nat) (o2 : List ReqOpt) (p2 : List Nat)
    (hm2 : m2 < 256) (h2 : WfOpts o2) (hp2 : WfPayload p2)
    (h : ∀ s ∈ y.subs, s.sess = c → ∃ m1 o1 p1, m1 < 256 ∧ WfOpts o1 ∧ WfPayload p1 ∧ s.key = reqKey m1 o1 p1 ∧
      ¬ SameRequest m1 o1 p1 m2 o2 p2) :
    (∀ s ∈ y.subs, s ∈ (addToRes y c tok (reqKey m2 o2 p2) m).subs) ∧
    (y.subs.any (matchST c tok) = false → ∃ s ∈ (addToRes y c tok (reqKey m2 o2 p2) m).subs,
      s.sess = c ∧ s.token = tok ∧ s.key = reqKey m2 o2 p2) := by
  refine registration_under_free_key_keeps y c tok (reqKey m2 o2 p2) m ?_
  intro s hs hc e
  obtain ⟨m1, o1, p1, hm1, w1, wp1, hk, hne⟩ := h s hs hc
  rw [hk] at e
  exact hne ((reqKey_eq_iff m1 m2 o1 o2 p1 p2 hm1 hm2 w1 h2 wp1 hp2).mp e)

/-- RFC 8132 §2: FETCH requests for the same target with DIFFERENT payloads are different observations — their keys differ
    (whatever the options: even equal ones), and registering one, on ANY table whose entries of that session are FETCH
    observations with other payloads, removes none of them and (under an unused token) adds a new entry. -/
theorem fetch_observations_with_different_payloads_are_distinct (o1 o2 : List ReqOpt) (p q : List Nat)
    (h1 : WfOpts o1) (h2 : WfOpts o2) (hp : WfPayload p) (hq : WfPayload q) (hpq : p ≠ q) :
    reqKey 5 o1 p ≠ reqKey 5 o2 q := by
  intro h
  exact hpq (((reqKey_eq_iff 5 5 o1 o2 p q (by decide) (by decide) h1 h2 hp hq).mp h).2.2 rfl)

theorem fetch_registration_with_other_payload_keeps (y : Res) (c tok m : Nat) (o2 : List ReqOpt) (q : List Nat)
    (h2 : WfOpts o2) (hq : WfPayload q)
    (h : ∀ s ∈ y.subs, s.sess = c → ∃ o1 p, WfOpts o1 ∧ WfPayload p ∧ s.key = reqKey 5 o1 p ∧ p ≠ q) :
    (∀ s ∈ y.subs, s ∈ (addToRes y c tok (reqKey 5 o2 q) m).subs) ∧
    (y.subs.any (matchST c tok) = false → ∃ s ∈ (addToRes y c tok (reqKey 5 o2 q) m).subs,
      s.sess = c ∧ s.token = tok ∧ s.key = reqKey 5 o2 q) := by
  apply registration_of_other_request_keeps y c tok m 5 o2 q (by decide) h2 hq
  intro s hs hc
  obtain ⟨o1, p, w1, wp, hk, hne⟩ := h s hs hc
  exact ⟨5, o1, p, by decide, w1, wp, hk, fun hsame => hne (hsame.2.2 rfl)⟩

/-- a GET observation and a FETCH observation of the same target are different observations, whatever the FETCH payload -/
theorem get_and_fetch_observations_are_distinct (o1 o2 : List ReqOpt) (p q : List Nat)
    (h1 : WfOpts o1) (h2 : WfOpts o2) (hp : WfPayload p) (hq : WfPayload q) : reqKey 1 o1 p ≠ reqKey 5 o2 q := by
  intro h
  have := ((reqKey_eq_iff 1 5 o1 o2 p q (by decide) (by decide) h1 h2 hp hq).mp h).1
  omega

/-- witnesses: the scripted FETCH requests of harness/observe.c for /r0.  (a) ?a + payload `0f 00 01 00 00 00 62`, (b) ?a&b + empty
    payload, (c) payload "A", (d) payload "AB", (e) the GET -/
def wFetch (query : List ReqOpt) : List ReqOpt :=
  [{ num := 6, val := [] }, { num := 11, val := [114, 48] }, { num := 12, val := [0x2a] }] ++ query

def wPayloadB : List Nat := [0x0f, 0, 1, 0, 0, 0, 0x62]
example : reqKey 5 (wFetch [{ num := 15, val := [97] }]) wPayloadB ≠ reqKey 5 (wFetch [{ num := 15, val := [97] }, { num := 15, val := [98] }]) [] ∧
    reqKey 5 (wFetch []) [0x41] ≠ reqKey 5 (wFetch []) [0x41, 0x42] ∧ reqKey 5 (wFetch []) [] ≠ reqKey 1 (wFetch []) [] ∧
    reqKey 5 ({ num := 4, val := [0x33] } :: wFetch []) [0x41] = reqKey 5 (wFetch []) [0x41] ∧
    reqKey 1 (wFetch []) [0x41] = reqKey 1 (wFetch []) [] := by decide
example : WfPayload wPayloadB ∧ WfPayload [0x41, 0x42] := by
  refine ⟨⟨by decide, ?_⟩, ⟨by decide, ?_⟩⟩ <;> intro b hb <;> simp [wPayloadB] at hb <;> omega
example : WfOpts (wFetch [{ num := 15, val := [97] }]) := by
  intro o ho
  simp only [wFetch, List.cons_append, List.nil_append, List.mem_cons, List.not_mem_nil, or_false] at ho
  rcases ho with rfl | rfl | rfl | rfl <;> refine ⟨by decide, by decide, ?_⟩ <;> intro b hb <;> simp at hb <;> omega

/-- hypothesis of `fetch_registration_with_other_payload_keeps` on a non-trivial table: client 0 holds FETCH "A" under token 7,
    registering FETCH "AB" under token 8 keeps it and adds the new entry -/
def wFetchRes : Res :=
  { mkRes 0 false false 5 with subs := [{ sess := 0, token := 7, key := reqKey 5 (wFetch []) [0x41], nonCnt := 0, failCnt := 0,
                                          dirty := false, mid := 1, lastVer := none }] }
example : ((addToRes wFetchRes 0 8 (reqKey 5 (wFetch []) [0x41, 0x42]) 2).subs.map fun s => (s.sess, s.token)) = [(0, 8), (0, 7)] ∧
    ((addToRes wFetchRes 0 8 (reqKey 5 (wFetch []) [0x41]) 2).subs.map fun s => (s.sess, s.token)) = [(0, 8)] := by decide

/-- the defect fixed by 3034572, as decided witnesses: the digest input as it was (options, then the bare FETCH payload, no method)
    is the same for (a) and (b), and for a GET and a FETCH with the empty payload; the present one tells them apart.  Replays:
    `obs st=30 R=d0 C=1 reg:0:0:1:5:C:1:0:4 reg:0:0:2:3:C:2:0:1 chg:0 io` and `obs st=30 R=d0 C=1 reg:0:0:1:0:C:1 reg:0:0:2:0:C:2:0:1 chg:0 io` -/
def digestBeforeFix (code : Nat) (opts : List ReqOpt) (payload : List Nat) : List Nat :=
  digestInput obsIgnore opts ++ (if code == 5 then payload else [])

theorem fetch_payload_aliased_before_fix :
    digestBeforeFix 5 (wFetch [{ num := 15, val := [97] }]) wPayloadB =
      digestBeforeFix 5 (wFetch [{ num := 15, val := [97] }, { num := 15, val := [98] }]) [] ∧
    digestBeforeFix 1 (wFetch []) [] = digestBeforeFix 5 (wFetch []) [] ∧
    reqDigest 5 (wFetch [{ num := 15, val := [97] }]) wPayloadB ≠
      reqDigest 5 (wFetch [{ num := 15, val := [97] }, { num := 15, val := [98] }]) [] ∧
    reqDigest 1 (wFetch []) [] ≠ reqDigest 5 (wFetch []) [] := by decide

end Coap.C11
