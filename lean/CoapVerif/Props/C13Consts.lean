import CoapVerif.Model.Lock
import CoapVerif.Generated.Consts2
/-
C13 / T1 — the nesting bound of the lock model is the range of the counters of `coap_lock_t` in the
current tree (thread-safe build).
-/
namespace Coap.C13
open Coap Coap.Generated

/-- `lock_count` and `in_callback` are 32-bit unsigned counters -/
theorem maxDepth_matches_code :
    Lock.maxDepth = 2 ^ C2.lockCountBits - 1 ∧ Lock.maxDepth = 2 ^ C2.lockInCallbackBits - 1 := by decide

end Coap.C13
