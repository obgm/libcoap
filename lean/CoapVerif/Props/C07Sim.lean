import CoapVerif.Props.C07
/-
C07 — the harness loop `Sim.run` (what the driver executes and what is compared, trace for trace, with the real client
and server on every check) IS a run of the closed loop `Sys`: refinement theorem `sim_run_refines_sys` and the `Sys`
theorems transferred to `Sim.run`.
-/
namespace Coap.C07
open Coap.Exch

def fateOk (Δ : Nat) : Fate → Prop
  | .deliver d => d < Δ
  | .drop => True
  | .dup d1 d2 => d1 < Δ ∧ d2 < Δ

def isRspTr : Tr → Bool | .rsp _ _ _ => true | _ => false
def isNackTr : Tr → Bool | .nack _ _ _ => true | _ => false
/-- response-handler calls / NACK-handler calls recorded in the trace of the harness loop (`rsp@…` / `nack@…` entries) -/
def simRsp (sim : Sim) : Nat := sim.trace.countP isRspTr
def simNack (sim : Sim) : Nat := sim.trace.countP isNackTr

theorem bumpReq_length (p : Req → Bool) (g : Req → Req) : ∀ rs : List Req, (Sim.bumpReq rs p g).length = rs.length := by
  intro rs
  induction rs with
  | nil => rfl
  | cons r t ih => by_cases h : p r <;> simp [Sim.bumpReq, h, ih]

theorem bumpRsp_length (rs : List Req) (cur : Option Nat) (tok : Bytes) : (Sim.bumpRsp rs cur tok).length = rs.length := by
  unfold Sim.bumpRsp
  split
  · split
    · split <;> simp [bumpReq_length]
    · simp [bumpReq_length]
  · simp [bumpReq_length]

/-- what absorbing the outputs `o` of one call (of the client: `tc = false`; of the server: `tc = true`) does to the
    harness state: endpoints, clock and application position untouched; fates consumed in order; the new flights are
    copies of the datagrams transmitted in `o`, each arriving less than `Δ` after now -/
structure Ext (Δ : Nat) (tc : Bool) (o : List Out) (sim sim' : Sim) : Prop where
  hc : sim'.c = sim.c
  hs : sim'.s = sim.s
  hnow : sim'.now = sim.now
  hcur : sim'.cur = sim.cur
  hlen : sim'.reqs.length = sim.reqs.length
  hfates : ∀ f ∈ sim'.fates, f ∈ sim.fates
  hfly : ∀ f ∈ sim'.fly, f ∈ sim.fly ∨ (f.toClient = tc ∧ Out.tx f.d ∈ o ∧ sim.now ≤ f.arr ∧ f.arr < sim.now + Δ)

theorem Ext.refl (Δ : Nat) (tc : Bool) (o : List Out) (sim : Sim) : Ext Δ tc o sim sim :=
  ⟨rfl, rfl, rfl, rfl, rfl, fun _ h => h, fun _ h => Or.inl h⟩

theorem Ext.record (Δ : Nat) (tc : Bool) (o : List Out) (sim : Sim) (t : List Tr) (v : List Bool) (rs : List Req)
    (h : rs.length = sim.reqs.length) : Ext Δ tc o sim { sim with trace := t, verdicts := v, reqs := rs } :=
  ⟨rfl, rfl, rfl, rfl, h, fun _ h => h, fun _ h => Or.inl h⟩

theorem Ext.append {Δ : Nat} {tc : Bool} {o1 o2 : List Out} {sim sim1 sim2 : Sim}
    (h1 : Ext Δ tc o1 sim sim1) (h2 : Ext Δ tc o2 sim1 sim2) : Ext Δ tc (o1 ++ o2) sim sim2 := by
  refine ⟨h2.hc.trans h1.hc, h2.hs.trans h1.hs, h2.hnow.trans h1.hnow, h2.hcur.trans h1.hcur, h2.hlen.trans h1.hlen,
    fun f hf => h1.hfates f (h2.hfates f hf), ?_⟩
  intro f hf
  rcases h2.hfly f hf with h | ⟨a, b, c, d⟩
  · rcases h1.hfly f h with h | ⟨a, b, c, d⟩
    · exact Or.inl h
    · exact Or.inr ⟨a, List.mem_append_left _ b, c, d⟩
  · rw [h1.hnow] at c d
    exact Or.inr ⟨a, List.mem_append_right _ b, c, d⟩

theorem transmit_spec (Δ : Nat) (hΔ : 0 < Δ) (sim : Sim) (hf : ∀ f ∈ sim.fates, fateOk Δ f) (tc : Bool) (d : Dgram) :
    Ext Δ tc [Out.tx d] sim (sim.transmit tc d) ∧ (sim.transmit tc d).trace = sim.trace := by
  obtain ⟨now, c, s, cT, cmid, eager, fates, verdicts, nseq, fly, reqs, cur, trace⟩ := sim
  -- a new flight with delay `d1 < Δ`
  have hnew : ∀ (d1 copy : Nat) (f : Flight), d1 < Δ →
      f = { arr := now + d1, seq := nseq, copy := copy, toClient := tc, d := d } →
      f.toClient = tc ∧ Out.tx f.d ∈ [Out.tx d] ∧ now ≤ f.arr ∧ f.arr < now + Δ := by
    intro d1 copy f h1 hf
    subst hf
    exact ⟨rfl, List.mem_singleton.mpr rfl, Nat.le_add_right .., Nat.add_lt_add_left h1 now⟩
  cases fates with
  | nil =>
    refine ⟨⟨rfl, rfl, rfl, rfl, rfl, fun f h => h, fun f hfl => ?_⟩, rfl⟩
    rcases List.mem_append.mp hfl with h | h
    · exact Or.inl h
    · exact Or.inr (hnew 0 0 f hΔ (List.mem_singleton.mp h))
  | cons ft r =>
    have hft := hf ft (List.mem_cons_self ..)
    cases ft with
    | drop => exact ⟨⟨rfl, rfl, rfl, rfl, rfl, fun f h => List.mem_cons_of_mem _ h, fun f h => Or.inl h⟩, rfl⟩
    | deliver d1 =>
      refine ⟨⟨rfl, rfl, rfl, rfl, rfl, fun f h => List.mem_cons_of_mem _ h, fun f hfl => ?_⟩, rfl⟩
      rcases List.mem_append.mp hfl with h | h
      · exact Or.inl h
      · exact Or.inr (hnew d1 0 f hft (List.mem_singleton.mp h))
    | dup d1 d2 =>
      refine ⟨⟨rfl, rfl, rfl, rfl, rfl, fun f h => List.mem_cons_of_mem _ h, fun f hfl => ?_⟩, rfl⟩
      rcases List.mem_append.mp hfl with h | h
      · exact Or.inl h
      · rcases List.mem_cons.mp h with h | h
        · exact Or.inr (hnew d1 0 f hft.1 h)
        · exact Or.inr (hnew d2 1 f hft.2 (List.mem_singleton.mp h))

/-- the body of `Sim.clientOuts` / `Sim.serverOuts` for one output -/
def absorbC (sim : Sim) : Out → Sim
  | .tx d => (({ sim with trace := .ctx sim.now d :: sim.trace } : Sim).transmit false d)
  | .callResponse d ok =>
    { sim with trace := .rsp sim.now d ok :: sim.trace, verdicts := sim.verdicts.tail,
               reqs := Sim.bumpRsp sim.reqs sim.cur d.token }
  | .callNack r mid =>
    { sim with trace := .nack sim.now r mid :: sim.trace,
               reqs := Sim.bumpReq sim.reqs (fun q => q.sent && q.mid == mid) (fun q => { q with nnack := q.nnack + 1 }) }
  | .callRequest _ _ => sim
  | .unmodelled => { sim with trace := .unmodelled sim.now :: sim.trace }

def absorbS (sim : Sim) : Out → Sim
  | .tx d => (({ sim with trace := .stx sim.now d :: sim.trace } : Sim).transmit true d)
  | .callRequest mid tok => { sim with trace := .req sim.now mid tok :: sim.trace }
  | .callNack r mid => { sim with trace := .snack sim.now r mid :: sim.trace }
  | .callResponse _ _ => sim
  | .unmodelled => { sim with trace := .unmodelled sim.now :: sim.trace }

theorem clientOuts_cons (sim : Sim) (x : Out) (os : List Out) :
    sim.clientOuts (x :: os) = (absorbC sim x).clientOuts os := by
  cases x <;> rfl

theorem serverOuts_cons (sim : Sim) (x : Out) (os : List Out) :
    sim.serverOuts (x :: os) = (absorbS sim x).serverOuts os := by
  cases x <;> rfl

theorem simCounts_push (sim sim' : Sim) (t : Tr) (h : sim'.trace = t :: sim.trace) :
    simRsp sim' = simRsp sim + (if isRspTr t then 1 else 0) ∧ simNack sim' = simNack sim + (if isNackTr t then 1 else 0) := by
  unfold simRsp simNack
  rw [h, List.countP_cons, List.countP_cons]
  exact ⟨rfl, rfl⟩

theorem absorbC_spec (Δ : Nat) (hΔ : 0 < Δ) (sim : Sim) (hf : ∀ f ∈ sim.fates, fateOk Δ f) (x : Out) :
    Ext Δ false [x] sim (absorbC sim x) ∧ simRsp (absorbC sim x) = simRsp sim + nRsp [x] ∧
    simNack (absorbC sim x) = simNack sim + nNack [x] := by
  cases x with
  | tx d =>
    obtain ⟨E, ht⟩ := transmit_spec Δ hΔ ({ sim with trace := .ctx sim.now d :: sim.trace } : Sim) hf false d
    exact ⟨⟨E.hc, E.hs, E.hnow, E.hcur, E.hlen, E.hfates, E.hfly⟩, simCounts_push sim _ _ ht⟩
  | callResponse d ok =>
    exact ⟨Ext.record _ _ _ sim _ _ _ (bumpRsp_length ..), simCounts_push sim _ (.rsp sim.now d ok) rfl⟩
  | callNack r mid =>
    exact ⟨Ext.record _ _ _ sim _ _ _ (bumpReq_length ..), simCounts_push sim _ (.nack sim.now r mid) rfl⟩
  | callRequest m t => exact ⟨Ext.refl .., rfl, rfl⟩
  | unmodelled =>
    exact ⟨Ext.record _ _ _ sim _ _ _ rfl, simCounts_push sim _ (.unmodelled sim.now) rfl⟩

theorem absorbS_spec (Δ : Nat) (hΔ : 0 < Δ) (sim : Sim) (hf : ∀ f ∈ sim.fates, fateOk Δ f) (x : Out) :
    Ext Δ true [x] sim (absorbS sim x) ∧ simRsp (absorbS sim x) = simRsp sim ∧ simNack (absorbS sim x) = simNack sim := by
  cases x with
  | tx d =>
    obtain ⟨E, ht⟩ := transmit_spec Δ hΔ ({ sim with trace := .stx sim.now d :: sim.trace } : Sim) hf true d
    exact ⟨⟨E.hc, E.hs, E.hnow, E.hcur, E.hlen, E.hfates, E.hfly⟩, simCounts_push sim _ _ ht⟩
  | callResponse d ok => exact ⟨Ext.refl .., rfl, rfl⟩
  | callNack r mid =>
    exact ⟨Ext.record _ _ _ sim _ _ _ rfl, simCounts_push sim _ (.snack sim.now r mid) rfl⟩
  | callRequest m t =>
    exact ⟨Ext.record _ _ _ sim _ _ _ rfl, simCounts_push sim _ (.req sim.now m t) rfl⟩
  | unmodelled =>
    exact ⟨Ext.record _ _ _ sim _ _ _ rfl, simCounts_push sim _ (.unmodelled sim.now) rfl⟩

theorem clientOuts_spec (Δ : Nat) (hΔ : 0 < Δ) : ∀ (o : List Out) (sim : Sim), (∀ f ∈ sim.fates, fateOk Δ f) →
    Ext Δ false o sim (sim.clientOuts o) ∧ simRsp (sim.clientOuts o) = simRsp sim + nRsp o ∧
    simNack (sim.clientOuts o) = simNack sim + nNack o := by
  intro o
  induction o with
  | nil => intro sim _; exact ⟨Ext.refl .., rfl, rfl⟩
  | cons x os ih =>
    intro sim hf
    obtain ⟨a1, a2, a3⟩ := absorbC_spec Δ hΔ sim hf x
    obtain ⟨c1, c2, c3⟩ := ih (absorbC sim x) (fun f h => hf f (a1.hfates f h))
    rw [clientOuts_cons]
    refine ⟨Ext.append a1 c1, ?_, ?_⟩
    · rw [c2, a2, show x :: os = [x] ++ os from rfl, nRsp_append]; omega
    · rw [c3, a3, show x :: os = [x] ++ os from rfl, nNack_append]; omega

theorem serverOuts_spec (Δ : Nat) (hΔ : 0 < Δ) : ∀ (o : List Out) (sim : Sim), (∀ f ∈ sim.fates, fateOk Δ f) →
    Ext Δ true o sim (sim.serverOuts o) ∧ simRsp (sim.serverOuts o) = simRsp sim ∧
    simNack (sim.serverOuts o) = simNack sim := by
  intro o
  induction o with
  | nil => intro sim _; exact ⟨Ext.refl .., rfl, rfl⟩
  | cons x os ih =>
    intro sim hf
    obtain ⟨a1, a2, a3⟩ := absorbS_spec Δ hΔ sim hf x
    obtain ⟨c1, c2, c3⟩ := ih (absorbS sim x) (fun f h => hf f (a1.hfates f h))
    rw [serverOuts_cons]
    exact ⟨Ext.append a1 c1, by rw [c2, a2], by rw [c3, a3]⟩

/-- `Sys` state `y` represents harness state `sim`: same client, same server, the clock of `y` not ahead, and every datagram
    in flight is a copy of a datagram logged as transmitted by the peer less than `Δ` before its arrival time, which is
    not in the past -/
structure Ref (Δ : Nat) (sim : Sim) (y : Sys) : Prop where
  hc : y.c = sim.c
  hs : y.s = sim.s
  hnow : y.now ≤ sim.now
  hfly : ∀ f ∈ sim.fly, sim.now ≤ f.arr ∧
    ∃ sent, (sent, f.d) ∈ (if f.toClient then y.sLog else y.cLog) ∧ f.arr < sent + Δ

/-- side conditions kept along a run of the harness loop: every remaining fate delays by less than `Δ`; the application
    has sent its last request (the closed loop `Sys` is the system of ONE exchange) -/
def Good (Δ : Nat) (sim : Sim) : Prop :=
  0 < Δ ∧ (∀ f ∈ sim.fates, fateOk Δ f) ∧ ∃ i, sim.cur = some i ∧ sim.reqs.length ≤ i + 1

/-- the harness absorbs one call of the client / of the server -/
def cAbs (sim : Sim) (e : CEvent) : Sim := ({ sim with c := (sim.c.step e).1 } : Sim).clientOuts (sim.c.step e).2
def sAbs (sim : Sim) (e : SEvent) : Sim := ({ sim with s := (sim.s.step e).1 } : Sim).serverOuts (sim.s.step e).2

theorem ref_cAbs {Δ : Nat} {sim : Sim} {y : Sys} (hr : Ref Δ sim y) (hg : Good Δ sim) (e : CEvent) :
    Ref Δ (cAbs sim e) (y.cStep sim.now e).1 ∧ Good Δ (cAbs sim e) ∧
    simRsp (cAbs sim e) = simRsp sim + nRsp (y.cStep sim.now e).2 ∧
    simNack (cAbs sim e) = simNack sim + nNack (y.cStep sim.now e).2 := by
  obtain ⟨hΔ, hf, i, hi, hlen⟩ := hg
  obtain ⟨E, e1, e2⟩ := clientOuts_spec Δ hΔ (sim.c.step e).2 ({ sim with c := (sim.c.step e).1 } : Sim) hf
  have hyc : y.c.step e = sim.c.step e := by rw [hr.hc]
  refine ⟨⟨?_, ?_, ?_, ?_⟩, ⟨hΔ, fun f h => hf f (E.hfates f h), i, E.hcur.trans hi, Nat.le_trans (Nat.le_of_eq E.hlen) hlen⟩, ?_, ?_⟩
  · simp only [Sys.cStep, hyc]; exact E.hc.symm
  · simp only [Sys.cStep]; rw [hr.hs]; exact E.hs.symm
  · simp only [Sys.cStep]; exact Nat.le_of_eq E.hnow.symm
  · intro f hfl
    have hn : (cAbs sim e).now = sim.now := E.hnow
    rw [hn]
    rcases E.hfly f hfl with h | ⟨b1, b2, b3, b4⟩
    · obtain ⟨g1, sent, g2, g3⟩ := hr.hfly f h
      refine ⟨g1, sent, ?_, g3⟩
      simp only [Sys.cStep]
      by_cases htc : f.toClient = true
      · simpa [htc] using g2
      · simp only [htc] at g2 ⊢
        exact List.mem_append_left _ g2
    · refine ⟨b3, sim.now, ?_, b4⟩
      simp only [Sys.cStep, b1]
      refine List.mem_append_right _ (mem_txAt.mpr ⟨rfl, ?_⟩)
      rw [hyc]; exact b2
  · simp only [Sys.cStep, hyc]; exact e1
  · simp only [Sys.cStep, hyc]; exact e2

theorem ref_sAbs {Δ : Nat} {sim : Sim} {y : Sys} (hr : Ref Δ sim y) (hg : Good Δ sim) (e : SEvent) :
    Ref Δ (sAbs sim e) (y.sStep sim.now e).1 ∧ Good Δ (sAbs sim e) ∧
    simRsp (sAbs sim e) = simRsp sim ∧ simNack (sAbs sim e) = simNack sim := by
  obtain ⟨hΔ, hf, i, hi, hlen⟩ := hg
  obtain ⟨E, e1, e2⟩ := serverOuts_spec Δ hΔ (sim.s.step e).2 ({ sim with s := (sim.s.step e).1 } : Sim) hf
  have hys : y.s.step e = sim.s.step e := by rw [hr.hs]
  refine ⟨⟨?_, ?_, ?_, ?_⟩, ⟨hΔ, fun f h => hf f (E.hfates f h), i, E.hcur.trans hi, Nat.le_trans (Nat.le_of_eq E.hlen) hlen⟩, e1, e2⟩
  · simp only [Sys.sStep]; rw [hr.hc]; exact E.hc.symm
  · simp only [Sys.sStep, hys]; exact E.hs.symm
  · simp only [Sys.sStep]; exact Nat.le_of_eq E.hnow.symm
  · intro f hfl
    have hn : (sAbs sim e).now = sim.now := E.hnow
    rw [hn]
    rcases E.hfly f hfl with h | ⟨b1, b2, b3, b4⟩
    · obtain ⟨g1, sent, g2, g3⟩ := hr.hfly f h
      refine ⟨g1, sent, ?_, g3⟩
      simp only [Sys.sStep]
      by_cases htc : f.toClient = true
      · simp only [htc, if_true] at g2 ⊢
        exact List.mem_append_left _ g2
      · simpa [htc] using g2
    · refine ⟨b3, sim.now, ?_, b4⟩
      simp only [Sys.sStep, b1, if_true]
      refine List.mem_append_right _ (mem_txAt.mpr ⟨rfl, ?_⟩)
      rw [hys]; exact b2

/-! ### the iterations of the harness loop, branch by branch -/

def rmFlight (sim : Sim) (f : Flight) : Sim :=
  { sim with fly := sim.fly.filter (fun g => !(g.seq == f.seq && g.copy == f.copy)) }

def rxSimC (sim : Sim) (f : Flight) : Sim := { rmFlight sim f with trace := .crx sim.now f.d :: sim.trace }
def rxSimS (sim : Sim) (f : Flight) : Sim := { rmFlight sim f with trace := .srx sim.now f.d :: sim.trace }

/-- iteration "deliver to the client": `rx`, then the client's timer -/
def iterC (sim : Sim) (f : Flight) : Sim :=
  let sim2 := cAbs (rxSimC sim f) (.rx sim.now f.d sim.nextVerdict)
  cAbs sim2 (.tick sim2.now)

/-- iteration "deliver to the server": `rx`, then the server's timer -/
def iterS (sim : Sim) (f : Flight) : Sim :=
  let sim2 := sAbs (rxSimS sim f) (.rx sim.now f.d)
  sAbs sim2 (.tick sim2.now)

theorem iter_toC (sim : Sim) (f : Flight) (h : sim.pickFlight = some f) (htc : f.toClient = true) :
    sim.iter = some (iterC sim f) := by
  unfold Sim.iter
  rw [h]
  simp only [htc, if_true]
  rfl

theorem iter_toS (sim : Sim) (f : Flight) (h : sim.pickFlight = some f) (htc : f.toClient = false) :
    sim.iter = some (iterS sim f) := by
  unfold Sim.iter
  rw [h]
  simp only [htc]
  rfl

def timersDue (sim : Sim) : Bool :=
  Sim.dueLe sim.c.L.nextDue sim.now || (Sim.dueLe sim.s.L.nextDue sim.now || Sim.dueLe sim.s.asyncDue sim.now) ||
    Sim.dueLe sim.s.pendDue sim.now

/-- iteration "timers due now": client, server, all due application timers -/
def iterT (sim : Sim) : Sim :=
  let sim1 := if Sim.dueLe sim.c.L.nextDue sim.now then cAbs sim (.tick sim.now) else sim
  let sim2 := if Sim.dueLe sim.s.L.nextDue sim.now || Sim.dueLe sim.s.asyncDue sim.now then sAbs sim1 (.tick sim1.now) else sim1
  if Sim.dueLe sim.s.pendDue sim.now then Sim.iter.apps (sim2.s.pend.length + 1) sim2 else sim2

theorem iter_timers (sim : Sim) (h : sim.pickFlight = none) (hd : timersDue sim = true) :
    sim.iter = some (iterT sim) := by
  unfold Sim.iter
  rw [h]
  unfold timersDue at hd
  simp only [hd, if_true]
  rfl

theorem apps_succ (fuel : Nat) (sim : Sim) :
    Sim.iter.apps (fuel + 1) sim =
      match sim.s.appTimer sim.now with
      | none => sim
      | some _ => Sim.iter.apps fuel (sAbs sim (.app sim.now)) := by
  rw [Sim.iter.apps]
  cases h : sim.s.appTimer sim.now with
  | none => rfl
  | some p => simp only [sAbs, Server.step, h, Option.getD_some]

theorem iter_clock (sim : Sim) (h : sim.pickFlight = none) (hd : timersDue sim = false)
    (i : Nat) (hi : sim.cur = some i) (hlen : sim.reqs.length ≤ i + 1) :
    sim.iter = match sim.nextTime with
      | none => none
      | some t => if t ≤ sim.now then none else some { sim with now := t } := by
  unfold Sim.iter
  rw [h]
  unfold timersDue at hd
  have hn : ¬ (i + 1 < sim.reqs.length) := by omega
  simp only [hd, hi, hn, decide_false, Bool.and_false, Bool.false_eq_true, if_false]
  rw [← hi]
  rfl

/-! ### the events of a run of the harness loop, as events of `Sys` -/

/-- forget the (ghost) transmission time carried by a delivery event; `Sys.step` does not look at it -/
def SysEv.erase : SysEv → SysEv
  | .toS _ now d => .toS 0 now d
  | .toC _ now d ok => .toC 0 now d ok
  | e => e

theorem step_erase (y : Sys) (e : SysEv) : y.step e.erase = y.step e := by cases e <;> rfl

theorem run_erase : ∀ (es : List SysEv) (y : Sys), y.run (es.map SysEv.erase) = y.run es := by
  intro es
  induction es with
  | nil => intro y; rfl
  | cons e es ih => intro y; simp only [List.map_cons, Sys.run_cons, step_erase, ih]

theorem cevs_erase (es : List SysEv) : cevs (es.map SysEv.erase) = cevs es := by
  unfold cevs
  rw [List.filterMap_map]
  congr 1
  funext e
  cases e <;> rfl

theorem sysNoLate_erase (r : Dgram) (es : List SysEv) (y : Sys) :
    SysNoLate r y (es.map SysEv.erase) ↔ SysNoLate r y es := by
  rw [sysNoLate_cevs, sysNoLate_cevs, cevs_erase]

/-- application timers run by one iteration -/
def appsEv : Nat → Sim → List SysEv
  | 0, _ => []
  | fuel + 1, sim =>
    match sim.s.appTimer sim.now with
    | none => []
    | some _ => .sApp sim.now :: appsEv fuel (sAbs sim (.app sim.now))

/-- the `Sys` events of one iteration of the harness loop (delivery events with the transmission time erased) -/
def iterEvents (sim : Sim) : List SysEv :=
  match sim.pickFlight with
  | some f =>
    if f.toClient then [.toC 0 sim.now f.d sim.nextVerdict, .cTick sim.now] else [.toS 0 sim.now f.d, .sTick sim.now]
  | none =>
    if timersDue sim then
      let sim1 := if Sim.dueLe sim.c.L.nextDue sim.now then cAbs sim (.tick sim.now) else sim
      let sim2 := if Sim.dueLe sim.s.L.nextDue sim.now || Sim.dueLe sim.s.asyncDue sim.now then sAbs sim1 (.tick sim1.now) else sim1
      (if Sim.dueLe sim.c.L.nextDue sim.now then [.cTick sim.now] else []) ++
      ((if Sim.dueLe sim.s.L.nextDue sim.now || Sim.dueLe sim.s.asyncDue sim.now then [.sTick sim.now] else []) ++
       (if Sim.dueLe sim.s.pendDue sim.now then appsEv (sim2.s.pend.length + 1) sim2 else []))
    else []

def simEvents : Nat → Sim → List SysEv
  | 0, _ => []
  | fuel + 1, sim =>
    match sim.iter with
    | none => []
    | some s' => iterEvents sim ++ simEvents fuel s'

/-- `sim'` is reached from `sim` by harness steps that are the `Sys` events `ev` from any `Sys` state representing `sim` -/
structure Step (Δ : Nat) (sim : Sim) (y : Sys) (sim' : Sim) (ev : List SysEv) : Prop where
  ex : ∃ es, es.map SysEv.erase = ev ∧ y.RunOk Δ es ∧ Ref Δ sim' (y.run es).1 ∧
        simRsp sim' = simRsp sim + nRsp (y.run es).2 ∧ simNack sim' = simNack sim + nNack (y.run es).2
  good : Good Δ sim'

theorem Step.refl {Δ : Nat} {sim : Sim} {y : Sys} (hr : Ref Δ sim y) (hg : Good Δ sim) : Step Δ sim y sim [] :=
  ⟨⟨[], rfl, trivial, hr, rfl, rfl⟩, hg⟩

theorem Step.trans {Δ : Nat} {sim sim1 sim2 : Sim} {y : Sys} {ev1 ev2 : List SysEv}
    (h1 : Step Δ sim y sim1 ev1) (h2 : ∀ y1, Ref Δ sim1 y1 → Step Δ sim1 y1 sim2 ev2) :
    Step Δ sim y sim2 (ev1 ++ ev2) := by
  obtain ⟨⟨es1, a1, a2, a3, a4, a5⟩, _⟩ := h1
  obtain ⟨⟨es2, b1, b2, b3, b4, b5⟩, hg2⟩ := h2 _ a3
  refine ⟨⟨es1 ++ es2, by rw [List.map_append, a1, b1], (Sys.RunOk_append Δ es1 es2 y).mpr ⟨a2, b2⟩, ?_, ?_, ?_⟩, hg2⟩
  · rw [Sys.run_append]; exact b3
  · rw [Sys.run_append]; simp only [nRsp_append]; omega
  · rw [Sys.run_append]; simp only [nNack_append]; omega

theorem Step.of_eq {Δ : Nat} {sim sim' : Sim} {y : Sys} {ev ev' : List SysEv}
    (h : Step Δ sim y sim' ev) (h2 : ev = ev') : Step Δ sim y sim' ev' :=
  h2 ▸ h

theorem step_cev {Δ : Nat} {sim : Sim} {y : Sys} (hr : Ref Δ sim y) (hg : Good Δ sim) (e : CEvent) (se : SysEv)
    (hse : y.step se = y.cStep sim.now e) (hnet : y.Net Δ se) : Step Δ sim y (cAbs sim e) [se.erase] := by
  obtain ⟨a1, a2, a4, a5⟩ := ref_cAbs hr hg e
  refine ⟨⟨[se], rfl, ⟨hnet, trivial⟩, ?_, ?_, ?_⟩, a2⟩
  · simp only [Sys.run, hse]; exact a1
  · simp only [Sys.run, hse, List.append_nil]; exact a4
  · simp only [Sys.run, hse, List.append_nil]; exact a5

theorem step_sev {Δ : Nat} {sim : Sim} {y : Sys} (hr : Ref Δ sim y) (hg : Good Δ sim) (e : SEvent) (se : SysEv)
    (hse : y.step se = y.sStep sim.now e) (hnet : y.Net Δ se) : Step Δ sim y (sAbs sim e) [se.erase] := by
  obtain ⟨a1, a2, a4, a5⟩ := ref_sAbs hr hg e
  refine ⟨⟨[se], rfl, ⟨hnet, trivial⟩, ?_, ?_, ?_⟩, a2⟩
  · simp only [Sys.run, hse]; exact a1
  · simp only [Sys.run, hse, Sys.sStep, List.append_nil, nRsp_nil]; exact a4
  · simp only [Sys.run, hse, Sys.sStep, List.append_nil, nNack_nil]; exact a5

theorem cAbs_now {Δ : Nat} {sim : Sim} (hg : Good Δ sim) (e : CEvent) : (cAbs sim e).now = sim.now :=
  (clientOuts_spec Δ hg.1 _ ({ sim with c := (sim.c.step e).1 } : Sim) hg.2.1).1.hnow

theorem sAbs_now {Δ : Nat} {sim : Sim} (hg : Good Δ sim) (e : SEvent) : (sAbs sim e).now = sim.now :=
  (serverOuts_spec Δ hg.1 _ ({ sim with s := (sim.s.step e).1 } : Sim) hg.2.1).1.hnow

/-! ### which flight is delivered, and how far the clock advances -/

theorem pick_fold_mem : ∀ (l : List Flight) (b : Option Flight) (f : Flight),
    l.foldl (fun b f => match b with | none => some f | some g => if Sim.flightLt f g then some f else some g) b = some f →
    b = some f ∨ f ∈ l := by
  intro l
  induction l with
  | nil => intro b f h; exact Or.inl h
  | cons x l ih =>
    intro b f h
    simp only [List.foldl_cons] at h
    rcases ih _ f h with h1 | h1
    · cases b with
      | none => simp only [Option.some.injEq] at h1; exact Or.inr (by rw [h1]; exact List.mem_cons_self ..)
      | some g =>
        by_cases hlt : Sim.flightLt x g = true
        · simp only [hlt, if_true, Option.some.injEq] at h1; exact Or.inr (by rw [h1]; exact List.mem_cons_self ..)
        · simp only [hlt] at h1; exact Or.inl h1
    · exact Or.inr (List.mem_cons_of_mem _ h1)

theorem pickFlight_mem {sim : Sim} {f : Flight} (h : sim.pickFlight = some f) : f ∈ sim.fly ∧ f.arr ≤ sim.now := by
  unfold Sim.pickFlight at h
  rcases pick_fold_mem _ _ f h with h1 | h1
  · cases h1
  · have := List.mem_filter.mp h1
    exact ⟨this.1, by simpa using this.2⟩

theorem omin_some_left (x : Nat) (b : Option Nat) : ∃ z, Sim.omin (some x) b = some z ∧ z ≤ x := by
  cases b with
  | none => exact ⟨x, rfl, Nat.le_refl _⟩
  | some y => exact ⟨min x y, rfl, Nat.min_le_left ..⟩

theorem omin_some_right (a : Option Nat) (y : Nat) : ∃ z, Sim.omin a (some y) = some z ∧ z ≤ y := by
  cases a with
  | none => exact ⟨y, rfl, Nat.le_refl _⟩
  | some x => exact ⟨min x y, rfl, Nat.min_le_right ..⟩

theorem arr_fold_init (l : List Flight) (x : Nat) :
    ∃ m, l.foldl (fun b (g : Flight) => Sim.omin b (some g.arr)) (some x) = some m ∧ m ≤ x :=
  Coap.foldl_inv (fun b => ∃ m, b = some m ∧ m ≤ x)
    (fun _ g ⟨z, hz, hzx⟩ => by
      obtain ⟨m, hm, hmz⟩ := omin_some_left z (some g.arr)
      exact ⟨m, hz ▸ hm, Nat.le_trans hmz hzx⟩)
    l (some x) ⟨x, rfl, Nat.le_refl x⟩

theorem arr_fold_mem : ∀ (l : List Flight) (b : Option Nat) (f : Flight), f ∈ l →
    ∃ m, l.foldl (fun b (g : Flight) => Sim.omin b (some g.arr)) b = some m ∧ m ≤ f.arr := by
  intro l
  induction l with
  | nil => intro b f h; cases h
  | cons g l ih =>
    intro b f h
    rcases List.mem_cons.mp h with rfl | h
    · obtain ⟨z, hz, hzx⟩ := omin_some_right b f.arr
      obtain ⟨m, hm, hmz⟩ := arr_fold_init l z
      exact ⟨m, by simp only [List.foldl_cons, hz, hm], Nat.le_trans hmz hzx⟩
    · obtain ⟨m, hm, hmf⟩ := ih (Sim.omin b (some g.arr)) f h
      exact ⟨m, by simp only [List.foldl_cons, hm], hmf⟩

theorem nextTime_le_arr {sim : Sim} {t : Nat} (h : sim.nextTime = some t) : ∀ f ∈ sim.fly, t ≤ f.arr := by
  intro f hf
  obtain ⟨m, hm, hmf⟩ := arr_fold_mem sim.fly none f hf
  unfold Sim.nextTime at h
  simp only [hm] at h
  obtain ⟨z1, h1, l1⟩ := omin_some_left m sim.c.L.nextDue
  obtain ⟨z2, h2, l2⟩ := omin_some_left z1 sim.s.L.nextDue
  obtain ⟨z3, h3, l3⟩ := omin_some_left z2 sim.s.asyncDue
  obtain ⟨z4, h4, l4⟩ := omin_some_left z3 sim.s.pendDue
  rw [h1, h2, h3, h4] at h
  injection h with h
  omega

/-! ### every iteration, and every run, of the harness loop is a run of `Sys` -/

theorem ref_sub {Δ : Nat} {sim sim' : Sim} {y : Sys} (hr : Ref Δ sim y) (hc : sim'.c = sim.c) (hs : sim'.s = sim.s)
    (hn : sim'.now = sim.now) (hf : ∀ f ∈ sim'.fly, f ∈ sim.fly) : Ref Δ sim' y :=
  ⟨hr.hc.trans hc.symm, hr.hs.trans hs.symm, by rw [hn]; exact hr.hnow, fun f h => by rw [hn]; exact hr.hfly f (hf f h)⟩

theorem Step.of_src {Δ : Nat} {sim sim1 sim' : Sim} {y : Sys} {ev : List SysEv} (h : Step Δ sim1 y sim' ev)
    (h1 : simRsp sim1 = simRsp sim) (h2 : simNack sim1 = simNack sim) : Step Δ sim y sim' ev := by
  obtain ⟨⟨es, a1, a2, a3, a4, a5⟩, hg⟩ := h
  exact ⟨⟨es, a1, a2, a3, by rw [← h1]; exact a4, by rw [← h2]; exact a5⟩, hg⟩

theorem step_toC {Δ : Nat} {sim : Sim} {y : Sys} {f : Flight} (hr : Ref Δ sim y) (hg : Good Δ sim)
    (hp : sim.pickFlight = some f) (htc : f.toClient = true) :
    Step Δ sim y (iterC sim f) [.toC 0 sim.now f.d sim.nextVerdict, .cTick sim.now] := by
  obtain ⟨hmem, harr⟩ := pickFlight_mem hp
  obtain ⟨g1, sent, g2, g3⟩ := hr.hfly f hmem
  simp only [htc, if_true] at g2
  have hr1 : Ref Δ (rxSimC sim f) y := ref_sub hr rfl rfl rfl (fun g hg => (List.mem_filter.mp hg).1)
  have hg1 : Good Δ (rxSimC sim f) := hg
  have s1 := step_cev hr1 hg1 (.rx sim.now f.d sim.nextVerdict) (.toC sent sim.now f.d sim.nextVerdict) rfl
    ⟨g2, hr.hnow, by omega⟩
  have hn2 := cAbs_now hg1 (.rx sim.now f.d sim.nextVerdict)
  have s2 := s1.trans (fun y1 h1 => step_cev h1 s1.good (.tick (cAbs (rxSimC sim f) (.rx sim.now f.d sim.nextVerdict)).now)
    (.cTick (cAbs (rxSimC sim f) (.rx sim.now f.d sim.nextVerdict)).now) rfl h1.hnow)
  refine (s2.of_src ?_ ?_).of_eq ?_
  · exact (simCounts_push sim (rxSimC sim f) (.crx sim.now f.d) rfl).1
  · exact (simCounts_push sim (rxSimC sim f) (.crx sim.now f.d) rfl).2
  · rw [hn2]; rfl

theorem step_toS {Δ : Nat} {sim : Sim} {y : Sys} {f : Flight} (hr : Ref Δ sim y) (hg : Good Δ sim)
    (hp : sim.pickFlight = some f) (htc : f.toClient = false) :
    Step Δ sim y (iterS sim f) [.toS 0 sim.now f.d, .sTick sim.now] := by
  obtain ⟨hmem, harr⟩ := pickFlight_mem hp
  obtain ⟨g1, sent, g2, g3⟩ := hr.hfly f hmem
  simp only [htc] at g2
  have hr1 : Ref Δ (rxSimS sim f) y := ref_sub hr rfl rfl rfl (fun g hg => (List.mem_filter.mp hg).1)
  have hg1 : Good Δ (rxSimS sim f) := hg
  have s1 := step_sev hr1 hg1 (.rx sim.now f.d) (.toS sent sim.now f.d) rfl ⟨g2, hr.hnow, by omega⟩
  have hn2 := sAbs_now hg1 (.rx sim.now f.d)
  have s2 := s1.trans (fun y1 h1 => step_sev h1 s1.good (.tick (sAbs (rxSimS sim f) (.rx sim.now f.d)).now)
    (.sTick (sAbs (rxSimS sim f) (.rx sim.now f.d)).now) rfl h1.hnow)
  refine (s2.of_src ?_ ?_).of_eq ?_
  · exact (simCounts_push sim (rxSimS sim f) (.srx sim.now f.d) rfl).1
  · exact (simCounts_push sim (rxSimS sim f) (.srx sim.now f.d) rfl).2
  · rw [hn2]; rfl

theorem step_apps {Δ : Nat} : ∀ (fuel : Nat) (sim : Sim) (y : Sys), Ref Δ sim y → Good Δ sim →
    Step Δ sim y (Sim.iter.apps fuel sim) (appsEv fuel sim) := by
  intro fuel
  induction fuel with
  | zero => intro sim y hr hg; rw [Sim.iter.apps]; exact Step.refl hr hg
  | succ n ih =>
    intro sim y hr hg
    rw [apps_succ]
    simp only [appsEv]
    cases h : sim.s.appTimer sim.now with
    | none => exact Step.refl hr hg
    | some p =>
      have s1 := step_sev hr hg (.app sim.now) (.sApp sim.now) rfl hr.hnow
      exact (s1.trans (fun y1 h1 => ih _ y1 h1 s1.good)).of_eq rfl

theorem Step.ite {Δ : Nat} {sim sim1 : Sim} {y : Sys} {ev : List SysEv} (b : Bool) (hr : Ref Δ sim y) (hg : Good Δ sim)
    (h : b = true → Step Δ sim y sim1 ev) : Step Δ sim y (if b then sim1 else sim) (if b then ev else []) := by
  cases b
  · exact Step.refl hr hg
  · exact h rfl

theorem step_timers {Δ : Nat} {sim : Sim} {y : Sys} (hr : Ref Δ sim y) (hg : Good Δ sim) (hp : sim.pickFlight = none)
    (hd : timersDue sim = true) : Step Δ sim y (iterT sim) (iterEvents sim) := by
  -- the client's timer, the server's timer, the application timers: each stage only if it is due
  obtain ⟨sim1, e1⟩ : ∃ s1, s1 = (if Sim.dueLe sim.c.L.nextDue sim.now then cAbs sim (.tick sim.now) else sim) := ⟨_, rfl⟩
  have hA : Step Δ sim y sim1 _ := e1 ▸ Step.ite (Sim.dueLe sim.c.L.nextDue sim.now) hr hg
    (fun _ => step_cev hr hg (.tick sim.now) (.cTick sim.now) rfl hr.hnow)
  have hn1 : sim1.now = sim.now := by
    rw [e1]
    cases Sim.dueLe sim.c.L.nextDue sim.now
    · rfl
    · exact cAbs_now hg _
  obtain ⟨sim2, e2⟩ : ∃ s2, s2 = (if Sim.dueLe sim.s.L.nextDue sim.now || Sim.dueLe sim.s.asyncDue sim.now
      then sAbs sim1 (.tick sim1.now) else sim1) := ⟨_, rfl⟩
  have hAB : Step Δ sim y sim2 _ := hA.trans fun y1 h1 =>
    e2 ▸ Step.ite (Sim.dueLe sim.s.L.nextDue sim.now || Sim.dueLe sim.s.asyncDue sim.now) h1 hA.good
      (fun _ => (step_sev h1 hA.good (.tick sim1.now) (.sTick sim1.now) rfl h1.hnow).of_eq
        (show [(SysEv.sTick sim1.now).erase] = [SysEv.sTick sim.now] by rw [hn1]; rfl))
  have hABC := hAB.trans fun y2 h2 =>
    Step.ite (Sim.dueLe sim.s.pendDue sim.now) h2 hAB.good (fun _ => step_apps (sim2.s.pend.length + 1) sim2 y2 h2 hAB.good)
  subst e2
  subst e1
  refine hABC.of_eq ?_
  simp only [iterEvents, hp, hd, if_true, List.append_assoc]
  rfl

theorem step_clock {Δ : Nat} {sim : Sim} {y : Sys} (hr : Ref Δ sim y) (hg : Good Δ sim) {t : Nat}
    (hnt : sim.nextTime = some t) (hlt : sim.now < t) : Step Δ sim y { sim with now := t } [] :=
  ⟨⟨[], rfl, trivial, ⟨hr.hc, hr.hs, Nat.le_trans hr.hnow (Nat.le_of_lt hlt),
    fun f hf => ⟨nextTime_le_arr hnt f hf, (hr.hfly f hf).2⟩⟩, rfl, rfl⟩, hg⟩

theorem iter_step {Δ : Nat} {sim s' : Sim} {y : Sys} (hr : Ref Δ sim y) (hg : Good Δ sim) (hit : sim.iter = some s') :
    Step Δ sim y s' (iterEvents sim) := by
  cases hp : sim.pickFlight with
  | some f =>
    by_cases htc : f.toClient = true
    · rw [iter_toC sim f hp htc] at hit
      injection hit with hit
      subst hit
      exact (step_toC hr hg hp htc).of_eq (by simp only [iterEvents, hp, htc, if_true])
    · have htc' : f.toClient = false := by simpa using htc
      rw [iter_toS sim f hp htc'] at hit
      injection hit with hit
      subst hit
      exact (step_toS hr hg hp htc').of_eq (by simp [iterEvents, hp, htc'])
  | none =>
    by_cases hd : timersDue sim = true
    · rw [iter_timers sim hp hd] at hit
      injection hit with hit
      subst hit
      exact step_timers hr hg hp hd
    · have hd' : timersDue sim = false := by simpa using hd
      obtain ⟨i, hi, hlen⟩ := hg.2.2
      rw [iter_clock sim hp hd' i hi hlen] at hit
      cases hnt : sim.nextTime with
      | none => rw [hnt] at hit; cases hit
      | some t =>
        rw [hnt] at hit
        by_cases hle : t ≤ sim.now
        · simp only [hle, if_true] at hit; cases hit
        · simp only [hle, if_false] at hit
          injection hit with hit
          subst hit
          exact (step_clock hr hg hnt (by omega)).of_eq (by simp [iterEvents, hp, hd'])

/-- **Refinement: every run of the harness loop `Sim.run` is a run of the closed loop `Sys`.**  Whenever the `Sys` state
    `y` represents the harness state `sim` (`Ref`) and the side conditions `Good` hold, then for every amount of fuel there is an event sequence `es` of
    `Sys` — the events `simEvents fuel sim` of the loop's iterations, with a transmission time for each delivery — that
    satisfies the network hypothesis `RunOk Δ`, ends in a `Sys` state representing `Sim.run fuel sim`, and during which
    the client reported exactly the handler calls and NACKs the harness recorded in its trace. -/
theorem sim_run_refines_sys {Δ : Nat} : ∀ (fuel : Nat) (sim : Sim) (y : Sys), Ref Δ sim y → Good Δ sim →
    Step Δ sim y (Sim.run fuel sim) (simEvents fuel sim) := by
  intro fuel
  induction fuel with
  | zero => intro sim y hr hg; exact Step.refl hr hg
  | succ n ih =>
    intro sim y hr hg
    simp only [Sim.run, simEvents]
    cases hit : sim.iter with
    | none => exact Step.refl hr hg
    | some s' =>
      have s1 := iter_step hr hg hit
      exact s1.trans (fun y1 h1 => ih s' y1 h1 s1.good)

/-! ### from the state the driver starts in -/

def firstReq (sim : Sim) : Dgram :=
  let r := sim.reqs[0]?.getD { con := true, method := 1, token := [] }
  { type := if r.con then .con else .non, code := r.method, mid := (sim.cmid + 1) % 65536, token := r.token }

/-- the harness state after the iteration in which the application sends its first request -/
def firstSend (sim : Sim) : Sim :=
  cAbs ({ sim with cmid := (sim.cmid + 1) % 65536, cur := some 0,
                   reqs := sim.reqs.mapIdx (fun j (q : Req) => if j = 0 then { q with mid := (sim.cmid + 1) % 65536, sent := true } else q),
                   trace := .send sim.now 0 ((sim.cmid + 1) % 65536) :: sim.trace } : Sim)
    (.appSend sim.now (firstReq sim) sim.cT)

theorem iter_first (sim : Sim) (hfly : sim.fly = []) (hcur : sim.cur = none) (hreqs : 0 < sim.reqs.length)
    (hd : timersDue sim = false) : sim.iter = some (firstSend sim) := by
  have hp : sim.pickFlight = none := by simp [Sim.pickFlight, hfly]
  unfold Sim.iter
  rw [hp]
  unfold timersDue at hd
  simp only [hd, hcur, hreqs, decide_true, Bool.and_true, Bool.false_eq_true, if_false, if_true]
  rfl

theorem timersDue_quiet (sim : Sim) (hc : sim.c.L = Idle) (hs : sim.s.L = Idle) (ha : sim.s.asyncs = [])
    (hp : sim.s.pend = []) : timersDue sim = false := by
  simp [timersDue, hc, hs, ha, hp, Layer.nextDue, Idle, Sim.dueLe, Server.asyncDue, Server.pendDue]

theorem firstSend_ref {Δ : Nat} (sim : Sim) (hΔ : 0 < Δ) (hf : ∀ f ∈ sim.fates, fateOk Δ f) (hfly : sim.fly = [])
    (hlen : sim.reqs.length = 1) (hc : sim.c.L = Idle) (hcon : (firstReq sim).type = .con) :
    Ref Δ (firstSend sim) (Sys.start sim.c sim.s sim.now (firstReq sim) sim.cT) ∧ Good Δ (firstSend sim) ∧
    simRsp (firstSend sim) = simRsp sim ∧ simNack (firstSend sim) = simNack sim := by
  -- the harness state in which the request is handed to the client, and a `Sys` state with empty logs representing it
  obtain ⟨sim0, h0⟩ : ∃ s0 : Sim, s0 =
      { sim with
        cmid := (sim.cmid + 1) % 65536, cur := some 0,
        reqs := sim.reqs.mapIdx (fun j (q : Req) => if j = 0 then { q with mid := (sim.cmid + 1) % 65536, sent := true } else q),
        trace := .send sim.now 0 ((sim.cmid + 1) % 65536) :: sim.trace } := ⟨_, rfl⟩
  have hr0 : Ref Δ sim0 { c := sim.c, s := sim.s, now := sim.now, cLog := [], sLog := [] } := by
    subst h0
    exact ⟨rfl, rfl, Nat.le_refl _, fun f hf => by rw [show _ = sim.fly from rfl, hfly] at hf; cases hf⟩
  have hg0 : Good Δ sim0 := by
    subst h0
    exact ⟨hΔ, hf, 0, rfl, by rw [List.length_mapIdx, hlen]; exact Nat.le_refl 1⟩
  have hcnt := simCounts_push sim sim0 (.send sim.now 0 ((sim.cmid + 1) % 65536)) (by rw [h0])
  obtain ⟨a1, a2, a3, a4⟩ := ref_cAbs hr0 hg0 (.appSend sim.now (firstReq sim) sim.cT)
  have hy : (Sys.cStep { c := sim.c, s := sim.s, now := sim.now, cLog := [], sLog := [] } sim.now
      (.appSend sim.now (firstReq sim) sim.cT)) =
      (Sys.start sim.c sim.s sim.now (firstReq sim) sim.cT, [Out.tx (firstReq sim)]) := by
    simp only [Sys.cStep, Sys.start, Client.step, appSend_Idle sim.c sim.now (firstReq sim) sim.cT hc hcon, txAt, List.nil_append]
  have hnow : sim0.now = sim.now := by rw [h0]
  rw [hnow, hy] at a1 a3 a4
  subst h0
  exact ⟨a1, a2, a3.trans hcnt.1, a4.trans hcnt.2⟩

/-- the state the driver (and the C harness) starts a schedule in: nothing in flight, the application has ONE
    (Confirmable) request to send and has not sent it yet, client and server quiet, every scripted delay below `Δ` -/
structure SimStart (Δ : Nat) (sim : Sim) : Prop where
  hΔ : 0 < Δ
  hf : ∀ f ∈ sim.fates, fateOk Δ f
  hfly : sim.fly = []
  hcur : sim.cur = none
  hlen : sim.reqs.length = 1
  hc : sim.c.L = Idle
  hreq : SReq (firstReq sim)
  hq : SQuiet sim.s (firstReq sim)

/-- from the driver's initial state the first iteration sends the request (`firstSend`), and the rest of the run is a run of
    `Sys.start` (`sim_run_refines_sys`) -/
theorem sim_run_is_sys_run {Δ : Nat} {sim : Sim} (h : SimStart Δ sim) (fuel : Nat) :
    Sim.run (fuel + 1) sim = Sim.run fuel (firstSend sim) ∧
    ∃ es, es.map SysEv.erase = simEvents fuel (firstSend sim) ∧
      (Sys.start sim.c sim.s sim.now (firstReq sim) sim.cT).RunOk Δ es ∧
      Ref Δ (Sim.run (fuel + 1) sim) ((Sys.start sim.c sim.s sim.now (firstReq sim) sim.cT).run es).1 ∧
      simRsp (Sim.run (fuel + 1) sim) = simRsp sim + nRsp ((Sys.start sim.c sim.s sim.now (firstReq sim) sim.cT).run es).2 ∧
      simNack (Sim.run (fuel + 1) sim) = simNack sim + nNack ((Sys.start sim.c sim.s sim.now (firstReq sim) sim.cT).run es).2 := by
  have hit := iter_first sim h.hfly h.hcur (by rw [h.hlen]; exact Nat.one_pos)
    (timersDue_quiet sim h.hc h.hq.hL h.hq.hasync h.hq.hpend)
  have hrun : Sim.run (fuel + 1) sim = Sim.run fuel (firstSend sim) := by simp only [Sim.run, hit]
  obtain ⟨r0, g0, c1, c2⟩ := firstSend_ref sim h.hΔ h.hf h.hfly h.hlen h.hc h.hreq.hcon
  obtain ⟨⟨es, a1, a2, a3, a4, a5⟩, _⟩ := sim_run_refines_sys fuel (firstSend sim) _ r0 g0
  rw [hrun]
  exact ⟨rfl, es, a1, a2, a3, by rw [a4, c1], by rw [a5, c2]⟩

/-- **exactly once, transferred to the harness loop** (`exactly_once_closed_loop_partial` read on `Sim.run`): one
    Confirmable request, a server personality that piggybacks or de-duplicates and answers with an ACK or a CON, every
    scripted delay below `Δ`; if no copy of the response is delivered after the NACK in the event sequence of the run
    (`SysNoLate` on `simEvents` — the open finding), the trace of the run holds at most one `rsp@` / `nack@` entry more
    than at the start, and exactly one more when the client is quiet at the end, unless no copy of the response was
    ever delivered. -/
theorem sim_exactly_once_partial {Δ : Nat} {sim : Sim} (h : SimStart Δ sim) (hp : sim.s.pers ≠ .dn) (hpa : sim.s.pers ≠ .da)
    (hfresh : fresh sim.c (respFor sim.s (firstReq sim))) (fuel : Nat)
    (hlate : SysNoLate (respFor sim.s (firstReq sim)) (Sys.start sim.c sim.s sim.now (firstReq sim) sim.cT)
      (simEvents fuel (firstSend sim))) :
    simRsp (Sim.run (fuel + 1) sim) + simNack (Sim.run (fuel + 1) sim) ≤ simRsp sim + simNack sim + 1 ∧
    ((Sim.run (fuel + 1) sim).c.L.sendq = [] →
      simRsp (Sim.run (fuel + 1) sim) + simNack (Sim.run (fuel + 1) sim) = simRsp sim + simNack sim + 1 ∨
      ∀ e ∈ simEvents fuel (firstSend sim), ¬ isRspS (respFor sim.s (firstReq sim)) e) := by
  obtain ⟨_, es, a1, a2, a3, a4, a5⟩ := sim_run_is_sys_run h fuel
  have hl : SysNoLate (respFor sim.s (firstReq sim)) (Sys.start sim.c sim.s sim.now (firstReq sim) sim.cT) es := by
    rw [← a1] at hlate; exact (sysNoLate_erase _ es _).mp hlate
  obtain ⟨b1, b2⟩ := exactly_once_closed_loop_partial h.hreq sim.s h.hq hp hpa sim.c h.hc hfresh sim.now sim.cT Δ es a2 hl
  refine ⟨by omega, fun hq => ?_⟩
  rw [← a3.hc] at hq
  rcases b2 hq with b | b
  · left; omega
  · right
    rw [← a1, no_rspS_cevs, cevs_erase]
    exact no_rspS_cevs.mp b

/-- **exactly once, piggybacked response, transferred to the harness loop** (`exactly_once_piggybacked` /
    `exactly_once_piggybacked_quiet` read on `Sim.run`; no `NoLate`): piggybacking server, every scripted delay below `Δ`
    with `2Δ ≤ cT·2^MAX_RETRANSMIT`: at most one `rsp@` / `nack@` entry, and exactly one whenever the client is quiet at
    the end of the run. -/
theorem sim_exactly_once_piggybacked {Δ : Nat} {sim : Sim} (h : SimStart Δ sim) (hp : sim.s.pers = .pb)
    (hfresh : fresh sim.c (respFor sim.s (firstReq sim))) (hT : 0 < sim.cT) (h2 : 2 * Δ ≤ sim.cT * 2 ^ maxRetransmit)
    (fuel : Nat) :
    simRsp (Sim.run (fuel + 1) sim) + simNack (Sim.run (fuel + 1) sim) ≤ simRsp sim + simNack sim + 1 ∧
    ((Sim.run (fuel + 1) sim).c.L.sendq = [] →
      simRsp (Sim.run (fuel + 1) sim) + simNack (Sim.run (fuel + 1) sim) = simRsp sim + simNack sim + 1) := by
  obtain ⟨_, es, a1, a2, a3, a4, a5⟩ := sim_run_is_sys_run h fuel
  obtain ⟨b1, _⟩ := exactly_once_piggybacked h.hreq sim.s h.hq hp sim.c h.hc hfresh sim.now sim.cT Δ hT h2 es a2
  refine ⟨by omega, fun hq => ?_⟩
  rw [← a3.hc] at hq
  have := exactly_once_piggybacked_quiet h.hreq sim.s h.hq hp sim.c h.hc hfresh sim.now sim.cT Δ hT h2 es a2 hq
  omega

/-! ### the hypotheses are satisfiable: a concrete schedule of the driver -/

instance (Δ : Nat) : (f : Fate) → Decidable (fateOk Δ f)
  | .deliver d => inferInstanceAs (Decidable (d < Δ))
  | .drop => isTrue trivial
  | .dup a b => inferInstanceAs (Decidable (a < Δ ∧ b < Δ))

/-- `xchg ac+ 300 1000 5000 … q C1 - d100,x,d100,d100,u100+300`: the first copy of the request is answered by an Empty
    ACK that is lost, the request is retransmitted … -/
def wSim : Sim :=
  { s := wAc, cT := 2000, cmid := 1000, eager := false,
    fates := [.deliver 100, .drop, .deliver 100, .deliver 100, .dup 100 300], verdicts := [],
    reqs := [{ con := true, method := 1, token := [0xc0, 7] }] }

set_option maxRecDepth 8000 in
example :
    SimStart ackTimeout wSim ∧ wSim.s.pers ≠ .dn ∧ wSim.s.pers ≠ .da ∧ fresh wSim.c (respFor wSim.s (firstReq wSim)) ∧
    SysNoLate (respFor wSim.s (firstReq wSim)) (Sys.start wSim.c wSim.s wSim.now (firstReq wSim) wSim.cT)
      (simEvents 30 (firstSend wSim)) ∧
    simRsp (Sim.run 31 wSim) = 1 ∧ simNack (Sim.run 31 wSim) = 0 ∧ (Sim.run 31 wSim).c.L.sendq = [] ∧
    (simEvents 30 (firstSend wSim)).length = 7 := by
  refine ⟨⟨by decide, by decide, rfl, rfl, rfl, rfl, ⟨by decide, by decide⟩, ⟨by decide, by decide, by decide, by decide, by decide⟩⟩,
    by decide, by decide, ⟨fun _ => by decide, fun _ => by decide⟩, by decide, by decide, by decide,
    by decide, by decide⟩

end Coap.C07
