import CoapVerif.Model.Observe
import CoapVerif.Model.ObserveKey
import CoapVerif.Model.ObserveWait
import CoapVerif.Generated.Consts2
/-
C11 / T1 — the Observe model takes COAP_OBS_MAX_NON, COAP_OBS_MAX_FAIL, NSTART, MAX_RETRANSMIT, the ACK
timeout and the resource flags from Generated/ObsConst.lean (extract/obsconst.c) already; here that extractor is
cross-checked against extract/consts2.c, and the remaining numerals (24-bit Observe counter, 16-bit message id, 8-bit
failure counter, the option numbers of the cache key, `cache_ignore_options[]` as compiled, 4.04 / 2.05, tick
conversion) are tied.
-/
namespace Coap.C11
open Coap Coap.Observe Coap.Generated

/-- extract/obsconst.c and extract/consts2.c (+ coap_calc_timeout evaluated by consts2_net.c) agree -/
theorem obsConst_matches_code :
    obsMaxNon = C2.COAP_OBS_MAX_NON ∧ obsMaxFail = C2.COAP_OBS_MAX_FAIL ∧ obsNstart = C2.COAP_DEFAULT_NSTART ∧
    obsMaxRetransmit = C2.COAP_DEFAULT_MAX_RETRANSMIT ∧ obsAckTimeoutTicks = C2.calcTimeoutDefault.getD 0 0 ∧
    obsTicksPerSecond = C2.COAP_TICKS_PER_SECOND ∧ obsMaxSubscribers = C2.COAP_RESOURCE_MAX_SUBSCRIBER ∧
    obsFlagNotifyCon = C2.COAP_RESOURCE_FLAGS_NOTIFY_CON ∧
    obsFlagNotifyNonAlways = C2.COAP_RESOURCE_FLAGS_NOTIFY_NON_ALWAYS := by decide

/-- `(r->observe + 1) & 0xFFFFFF`, for every counter value (mask from the source scan of coap_resource.c) -/
theorem nextObserve_matches_code (o : Nat) : nextObserve o = (o + 1) &&& C2.observeCounterMask := by
  have h : C2.observeCounterMask = 2 ^ 24 - 1 := by decide
  rw [h, Nat.and_two_pow_sub_one_eq_mod]; rfl

/-- `start_observe_no & 0xffffff`, for every value -/
theorem setObserve_matches_code (o : Nat) : setObserve o = o &&& C2.observeCounterMask := by
  have h : C2.observeCounterMask = 2 ^ 24 - 1 := by decide
  rw [h, Nat.and_two_pow_sub_one_eq_mod]; rfl

/-- `++session->tx_mid` in `uint16_t`, for every state -/
theorem newMid_matches_code (st : State) (c : Nat) :
    (newMid st c).1 = ((getSess st c).txMid + 1) % C2.midModulus := rfl

/-- `fail_cnt` is a `uint8_t` (the `% 256` of `removeFailedOne`), `non_cnt` too (`constants_in_range`: obsMaxNon ≤ 255) -/
theorem failCnt_width_matches_code : (256 : Nat) = C2.failCntModulus ∧ C2.nonCntBits = 8 ∧ obsMaxNon < 2 ^ C2.nonCntBits := by decide

/-- `cache_ignore_options[]` of coap_resource.c as compiled (extract/consts2_res.c) -/
theorem obsIgnore_matches_code :
    obsIgnore = C2.cacheIgnoreOptions ∧ obsIgnore.length = C2.cacheIgnoreCount ∧
    obsIgnore = [C2.COAP_OPTION_ETAG, C2.COAP_OPTION_OSCORE] := by decide

/-- `is_cache_key`: Observe is left out by number, for every ignore list and option number -/
theorem isCacheKey_matches_code (ignore : List Nat) (n : Nat) :
    isCacheKey ignore n =
      if (n &&& 0x1e) == 0x1c then false
      else if n == C2.COAP_OPTION_OBSERVE then false
      else if ignore.contains n then false
      else true := rfl

/-- Observe option values of a request: 0 = COAP_OBSERVE_ESTABLISH, 1 = COAP_OBSERVE_CANCEL (the `match obsOpt` of
`request`); response codes 132 = 4.04, 69 = 2.05 of `request` / the notifications -/
theorem request_numerals_match_code :
    (0 : Nat) = C2.COAP_OBSERVE_ESTABLISH ∧ (1 : Nat) = C2.COAP_OBSERVE_CANCEL ∧ (132 : Nat) = C2.code404 ∧
    (69 : Nat) = C2.code205 ∧ (6 : Nat) = C2.COAP_OPTION_OBSERVE := by decide

/-- `(timeout * 1000 + COAP_TICKS_PER_SECOND - 1) / COAP_TICKS_PER_SECOND` as `unsigned int`, for every state -/
theorem waitOf_matches_code (st : State) (ncli : Nat) :
    waitOf st ncli = ((tickWait st ncli * 1000 + (C2.COAP_TICKS_PER_SECOND - 1)) / C2.COAP_TICKS_PER_SECOND) % (C2.UINT_MAX + 1) := rfl

end Coap.C11
