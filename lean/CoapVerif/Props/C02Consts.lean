import CoapVerif.Lemmas.QBlock
import CoapVerif.Model.Gate
import CoapVerif.Generated.Consts2
/-
C02 / T1 — the numerals of the Q-Block (RFC 9177) model and of the receive gate are those of the
current tree: the 2^20 bounds of `add_408_block` and of the 4.08 handler (literals in src/coap_block.c: source scan), the
content format application/missing-blocks+cbor-seq, COAP_MEDIATYPE_TEXT_PLAIN, COAP_DEFAULT_MTU.
-/
namespace Coap.C02
open Coap Coap.Generated

/-- `if (block < 0 || block >= (1 << 20)) return 0;`: the model refuses exactly from the compiled bound on -/
theorem add408Block_bound_matches_code (block : Nat) :
    QBlock.add408Block block = none ↔ block ≥ 2 ^ C2.add408BlockBits :=
  QBlock.add408Block_none_iff block

/-- `if (block.num > (1 << 20) - 1) goto fail_cbor;` in the 4.08 handler: the numeral written into `q408Loop` -/
theorem q408_bound_matches_code : (2 ^ 20 - 1 : Nat) = 2 ^ C2.q408BlockBits - 1 ∧ C2.q408BlockBits = C2.add408BlockBits ∧
    2 ^ C2.q408BlockBits - 1 = C2.blockNumMax := by decide

/-- a 4.08 whose Content-Format is not COAP_MEDIATYPE_APPLICATION_MB_CBOR_SEQ as compiled ends in `fail_body`, for
every input; an absent Content-Format is COAP_MEDIATYPE_TEXT_PLAIN -/
theorem q408_format_matches_code (mp : Nat) (body : Bytes) (szx : Nat) (fmt : Option Nat) (isNon : Bool) (payload : Bytes)
    (h : QBlock.fmtOf fmt ≠ C2.COAP_MEDIATYPE_APPLICATION_MB_CBOR_SEQ) :
    QBlock.q408Branch mp body szx fmt isNon payload = .ok ⟨[], .failBody⟩ := by
  have h2 : C2.COAP_MEDIATYPE_APPLICATION_MB_CBOR_SEQ = 272 := by decide
  rw [h2] at h
  simp [QBlock.q408Branch, h]

theorem q408_noFormat_matches_code : QBlock.fmtOf none = C2.COAP_MEDIATYPE_TEXT_PLAIN := by decide

example : QBlock.fmtOf (some 0) ≠ C2.COAP_MEDIATYPE_APPLICATION_MB_CBOR_SEQ := by decide

/-- the two extractors agree on COAP_DEFAULT_MTU (the MTU `M.gateDefault` uses) -/
theorem gate_mtu_matches_code : Generated.Consts.COAP_DEFAULT_MTU = C2.COAP_DEFAULT_MTU := by decide

example : QBlock.add408Block (2 ^ 20) = none := by decide
example : QBlock.add408Block (2 ^ 20 - 1) ≠ none := by decide

end Coap.C02
