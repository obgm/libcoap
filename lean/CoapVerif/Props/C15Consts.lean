import CoapVerif.Model.Replay
import CoapVerif.Spec.Replay
import CoapVerif.Generated.Consts2
/-
C15 / T1 — OSCORE_SEQ_MAX, the AEAD tag length and the width of the sliding window used by the replay
model / specification are those of the current tree.
-/
namespace Coap.C15
open Coap Coap.Generated

theorem seqMax_matches_code : Replay.SEQ_MAX = C2.OSCORE_SEQ_MAX := by decide
theorem seqLimit_matches_code : ReplaySpec.SEQ_LIMIT = C2.OSCORE_SEQ_MAX := by decide
/-- `cose_tag_len(COSE_ALGORITHM_AES_CCM_16_64_128)` evaluated -/
theorem tagLen_matches_code : Replay.TAG_LEN = C2.aesCcmTagLen ∧ Replay.TAG_LEN = C2.COSE_ALGORITHM_AES_CCM_16_64_128_TAG_LEN := by
  decide
/-- `sliding_window` is a `uint64_t` (the model's `shift > 63`, the specification's `min window 64`), `replay_window_size`
a `uint32_t` -/
theorem windowBits_matches_code :
    (63 : Nat) = C2.slidingWindowBits - 1 ∧ (64 : Nat) = C2.slidingWindowBits ∧ (32 : Nat) = C2.replayWindowSizeBits ∧
    C2.COAP_OSCORE_DEFAULT_REPLAY_WINDOW ≤ C2.slidingWindowBits := by decide

end Coap.C15
