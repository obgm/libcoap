import CoapVerif.Lemmas.ExchangeTimed
import CoapVerif.Lemmas.ExchangeRun
import CoapVerif.Lemmas.ExchangeServer
/-
C07 — each request concludes exactly once despite loss, duplication and delay.

All theorems are about M = `Coap.Exch.Client` (Model/Exchange.lean), the transcription of the client side of
coap_dispatch / handle_response and of the message layer underneath, which is tied to the compiled code by exact
trace equality on every schedule run (props/C07.py).

SPEC DECISIONS (see design/C07.md)
  D1  "one exchange outstanding per session": the application sends its next request when the previous exchange is
      over on the wire; in M: the delay queue is empty and at most the request itself is on the send queue.
  D2  exactly-once is claimed for a server that produces ONE response message per request (piggybacked ACK with the
      request's mid, or one separate CON/NON message with its own mid, retransmitted / duplicated at will).
  D3  a NON response is delivered once per copy that the network delivers (the property's last clause).
  D4  a FAIL verdict on a piggybacked (ACK) response cannot be answered by a Reset; FAIL ⇒ RST for CON and NON.
  D5  "never neither once the network is quiet": a request whose empty ACK arrived and whose separate response was
      lost on every transmission stays open (RFC 7252 leaves this to an application timeout).

Everything about one exchange and about the closed loop is read off one relation and one induction (`XStep`, `exch_run`): a run
of the closed loop `Sys` is a schedule of the client (`cevs`, `Sys.run_client`).  The timed results rest on the timed shape `TW`.
The server personality `Pers.tr` is the harness's `at` (`at` is a keyword).
-/
namespace Coap.C07
open Coap.Exch

/-! ### one received response: ACK / RST rules, duplicate filter, NON delivery (any client state with D1) -/

/-- **Every Confirmable response is acknowledged** — exactly one ACK or RST carrying its message id is sent, whatever
    the client's state; when it is a duplicate (`last_con_mid`) it is acknowledged again and NOT passed to the handler. -/
theorem con_response_always_acked (c : Client) (now : Nat) (d : Dgram) (ok : Bool)
    (h : c.L.delayq = []) (hd : d.type = .con) (hr : isResponse d.code = true) :
    ∃ k, (k = MType.ack ∨ k = MType.rst) ∧
      (c.rx now d ok).2 =
        (if c.lastCon = some d.mid then [] else [Out.callResponse d ok]) ++
        [Out.tx { type := k, code := 0, mid := d.mid, token := [] }] := by
  obtain ⟨L1, hca, _, _⟩ := Layer.cancelAll_nil now d.token c.L h
  rw [rx_con_eq c now d ok L1 hca hd hr]
  by_cases hdup : c.lastCon = some d.mid
  · cases hro : c.lastResOk
    · exact ⟨.rst, Or.inr rfl, by simp [hdup, rstFor]⟩
    · exact ⟨.ack, Or.inl rfl, by simp [hdup, ackFor, hd]⟩
  · cases ok
    · exact ⟨.rst, Or.inr rfl, by simp [hdup, rstFor]⟩
    · exact ⟨.ack, Or.inl rfl, by simp [hdup, ackFor, hd]⟩

/-- **A duplicate is not re-delivered** (`last_con_mid`, `last_ack_mid`). -/
theorem duplicate_not_redelivered (c : Client) (now : Nat) (d : Dgram) (ok : Bool)
    (h : c.L.delayq = []) (hr : isResponse d.code = true)
    (hdup : (d.type = .con ∧ c.lastCon = some d.mid) ∨ (d.type = .ack ∧ c.lastAck = some d.mid)) :
    nRsp (c.rx now d ok).2 = 0 := by
  rcases hdup with ⟨hd, hl⟩ | ⟨hd, hl⟩
  · obtain ⟨k, _, hk⟩ := con_response_always_acked c now d ok h hd hr
    rw [hk]; simp [hl]
  · rw [(rx_ack_out c now d ok h hd hr).1]; simp [hl]

/-- **A handler verdict of FAIL produces a Reset** (D4: for a CON or NON response that is delivered) and no ACK. -/
theorem fail_verdict_resets (c : Client) (now : Nat) (d : Dgram)
    (h : c.L.delayq = []) (hr : isResponse d.code = true)
    (hd : (d.type = .con ∧ c.lastCon ≠ some d.mid) ∨ d.type = .non) :
    (c.rx now d false).2 = [Out.callResponse d false, Out.tx { type := .rst, code := 0, mid := d.mid, token := [] }] := by
  obtain ⟨L1, hca, _, _⟩ := Layer.cancelAll_nil now d.token c.L h
  rcases hd with ⟨hd, hl⟩ | hd
  · rw [rx_con_eq c now d false L1 hca hd hr, if_neg hl]
    rfl
  · rw [rx_non_eq c now d false L1 hca hd hr]
    rfl

/-- **A Non-confirmable message is delivered once per datagram received**: every arrival of a NON response produces
    exactly one handler call, carrying that message — there is no duplicate filter for NON, in any client state. -/
theorem non_delivered_once_per_datagram (c : Client) (now : Nat) (d : Dgram) (ok : Bool)
    (h : c.L.delayq = []) (hd : d.type = .non) (hr : isResponse d.code = true) :
    nRsp (c.rx now d ok).2 = 1 ∧ Out.callResponse d ok ∈ (c.rx now d ok).2 := by
  obtain ⟨L1, hca, _, _⟩ := Layer.cancelAll_nil now d.token c.L h
  rw [rx_non_eq c now d ok L1 hca hd hr]
  cases ok <;> simp [rstFor]

/-- **A piggybacked or separate response stops retransmission of the request** (one step): no node with the response's token
    (CON / NON: coap_cancel_all_messages) resp. message id (piggybacked: removal by mid) is left on the send queue —
    `Layer.tick` only ever transmits nodes of the send queue, so the request is never transmitted again. -/
theorem response_stops_retransmission (c : Client) (now : Nat) (d : Dgram) (ok : Bool)
    (h : c.L.delayq = []) (hq : c.L.sendq.length ≤ 1) (hr : isResponse d.code = true) :
    (d.type = .con ∨ d.type = .non → ∀ n ∈ (c.rx now d ok).1.L.sendq, n.d.token ≠ d.token) ∧
    (d.type = .ack → ∀ n ∈ (c.rx now d ok).1.L.sendq, n.d.mid ≠ d.mid) := by
  refine ⟨?_, ?_⟩
  · intro ht n hn
    obtain ⟨L1, hca, _, h3⟩ := Layer.cancelAll_nil now d.token c.L h
    rcases ht with ht | ht
    · rw [rx_con_eq c now d ok L1 hca ht hr] at hn
      by_cases hdup : c.lastCon = some d.mid
      · rw [if_pos hdup] at hn; exact (h3 n hn).2
      · rw [if_neg hdup] at hn; exact (h3 n hn).2
    · rw [rx_non_eq c now d ok L1 hca ht hr] at hn
      exact (h3 n hn).2
  · intro ht n hn
    rw [(rx_ack_out c now d ok h ht hr).2] at hn
    -- a queue of at most one node: removal by mid leaves no node with that mid
    match hs : c.L.sendq, hq with
    | [], _ => simp [hs, Layer.removeByMid] at hn
    | [q], _ =>
      by_cases hm : q.d.mid = d.mid
      · simp [hs, Layer.removeByMid, hm] at hn
      · simp [hs, Layer.removeByMid, hm] at hn
        rw [hn]; exact hm
    | _ :: _ :: _, hq => simp at hq

/-! ### whole runs: every Confirmable response is acknowledged, duplicates are not re-delivered -/

/-- **Every Confirmable response received in a run is acknowledged, exactly once each** (whole runs under D1, `RunD1`: ANY
    datagrams at ANY time): the message ids of the ACK / RST datagrams the client transmits are, in order, exactly those
    of the Confirmable responses it received (duplicates included: acknowledged again) and of the Non-confirmable
    responses its handler FAILed; no other ACK or RST is ever sent. -/
theorem run_con_responses_acked (c : Client) (es : List CEvent) (hL : LOk c.L) (h : RunD1 c es) :
    replies (Client.run c es).2 = owed es := (run_D1 es c hL h).2.1

/-- **… and the ACK / RST follows the datagram immediately**: wherever in a run a Confirmable response arrives, the
    client's output at that point is `[handler call?] ++ [one ACK or RST with its mid]`; the handler call is absent
    iff the previous Confirmable response received in the run (however long ago) carried the same message id
    (**a duplicate is not re-delivered**, run form). -/
theorem run_con_response_acked_at (c : Client) (pre post : List CEvent) (now : Nat) (d : Dgram) (ok : Bool)
    (hL : LOk c.L) (h : RunD1 c (pre ++ .rx now d ok :: post)) (hd : d.type = .con) (hr : isResponse d.code = true) :
    ∃ k, (k = MType.ack ∨ k = MType.rst) ∧
      (Client.run c (pre ++ .rx now d ok :: post)).2 =
        (Client.run c pre).2 ++
        ((if lastConAfter c.lastCon pre = some d.mid then [] else [Out.callResponse d ok]) ++
          [Out.tx { type := k, code := 0, mid := d.mid, token := [] }]) ++
        (Client.run ((Client.run c pre).1.rx now d ok).1 post).2 := by
  have h1 := ((RunD1_append pre _ c).mp h).1
  have hL1 := run_LOk pre c hL h1
  obtain ⟨k, hk, hout⟩ := con_response_always_acked (Client.run c pre).1 now d ok (LOk_delayq hL1) hd hr
  refine ⟨k, hk, ?_⟩
  rw [Client.run_append, Client.run_cons]
  simp only [Client.step]
  rw [hout, run_lastCon pre c hL h1]
  simp only [List.append_assoc]

/-- **A duplicate is not re-delivered; a Non-confirmable message is delivered once per datagram** (whole runs, D1):
    the handler calls of the whole run are exactly those the single-slot filter lets through, as a function of the
    received datagrams alone — a CON (piggybacked) response unless its mid equals that of the previous CON
    (piggybacked) response, and every NON response. -/
theorem run_duplicates_not_redelivered (c : Client) (es : List CEvent) (hL : LOk c.L) (h : RunD1 c es) :
    handlerCalls (Client.run c es).2 = expectedCalls c.lastCon c.lastAck es := (run_D1 es c hL h).2.2.1

/-- **never twice** (whole runs, D1, ANY datagrams — in particular ACK-typed responses that match nothing on the send
    queue: a stale copy, or the "response as an ACK with a message id of its own after an Empty ACK" of a peer outside
    RFC 7252, which handle_response accepts by token): the response handler is never handed the same ACK-typed message
    twice in a row, nor the same Confirmable one — between two handler calls carrying the same message id there is a
    call with another message of that type, and the first call differs from what the filter slot held at the start.
    With a server that produces ONE response message (D2) this is "the response is delivered at most once". -/
theorem response_never_delivered_twice_in_a_row (c : Client) (es : List CEvent) (hL : LOk c.L) (h : RunD1 c es) :
    noRepeat c.lastAck (callMids .ack (handlerCalls (Client.run c es).2)) ∧
    noRepeat c.lastCon (callMids .con (handlerCalls (Client.run c es).2)) := by
  rw [run_duplicates_not_redelivered c es hL h]
  exact expectedCalls_noRepeat es _ _

/-- **… at the point of arrival**: wherever in a run an ACK-typed response arrives — whether or not it took a request
    off the send queue — the handler is called there iff its message id differs from that of the previous ACK-typed
    response received in the run (however long ago, whatever else arrived in between). -/
theorem run_ack_response_at (c : Client) (pre post : List CEvent) (now : Nat) (d : Dgram) (ok : Bool)
    (hL : LOk c.L) (h : RunD1 c (pre ++ .rx now d ok :: post)) (hd : d.type = .ack) (hr : isResponse d.code = true) :
    (Client.run c (pre ++ .rx now d ok :: post)).2 =
      (Client.run c pre).2 ++
      (if lastAckAfter c.lastAck pre = some d.mid then [] else [Out.callResponse d ok]) ++
      (Client.run ((Client.run c pre).1.rx now d ok).1 post).2 := by
  have h1 := ((RunD1_append pre _ c).mp h).1
  have hL1 := run_LOk pre c hL h1
  have hout := (rx_ack_out (Client.run c pre).1 now d ok (LOk_delayq hL1) hd hr).1
  rw [Client.run_append, Client.run_cons]
  simp only [Client.step]
  rw [hout, run_lastAck pre c hL h1]
  simp only [List.append_assoc]

def wReq : Dgram := { type := .con, code := 1, mid := 1001, token := [0xc0, 7] }

def wRsp (mid : Nat) : Dgram := { type := .con, code := 69, mid := mid, token := [0xc0, 7] }

/-- `response_never_delivered_twice_in_a_row` / `run_ack_response_at`: the request is answered by an Empty ACK, then
    by an ACK-typed response with a message id of its own (5001: it matches nothing on the send queue), whose duplicate
    arrives 700 ms later: admissible under D1, ONE handler call; and after a different ACK-typed message (5002) the
    single slot lets a third copy of 5001 through — never twice IN A ROW is exactly what the filter gives -/
example :
    let r : Dgram := { type := .ack, code := 69, mid := 5001, token := [0xc0, 7] }
    let r2 : Dgram := { type := .ack, code := 69, mid := 5002, token := [0xc0, 7] }
    let es : List CEvent := [.appSend 1000 wReq 2000, .rx 1000 (emptyAck 1001) true, .rx 1300 r true, .rx 2000 r true]
    RunD1 {} es ∧ RunD1 {} (es ++ [.rx 2100 r2 true, .rx 2200 r true]) ∧
    handlerCalls (Client.run {} es).2 = [(r, true)] ∧ (Client.run {} es).1.L = Idle ∧
    callMids .ack (handlerCalls (Client.run {} (es ++ [.rx 2100 r2 true, .rx 2200 r true])).2) = [5001, 5002, 5001] ∧
    noRepeat none [5001, 5002, 5001] ∧ ¬ noRepeat none [5001, 5001] := by
  decide

/-- `run_con_response_acked_at`: a retransmission, the separate response, a timer step, its duplicate -/
example :
    let pre : List CEvent := [.appSend 1000 wReq 2000, .tick 3000, .rx 3500 (wRsp 5001) true, .tick 4000]
    LOk ({} : Client).L ∧ RunD1 {} (pre ++ .rx 5500 (wRsp 5001) true :: [.tick 6000]) ∧
    lastConAfter none pre = some 5001 ∧
    replies (Client.run {} (pre ++ .rx 5500 (wRsp 5001) true :: [.tick 6000])).2 = [5001, 5001] ∧
    (handlerCalls (Client.run {} (pre ++ .rx 5500 (wRsp 5001) true :: [.tick 6000])).2).length = 1 := by
  refine ⟨Or.inl rfl, by decide, by decide, by decide, by decide⟩

/-! ### one exchange, every response shape

`XStep` says what one event of an exchange can do to the client and `exch_run` what a whole schedule does, for every message
type libcoap accepts a response in.  The end results about one exchange (here and in `Props/C07Late`) are read off these
two, and so are those about the closed loop: a run of `Sys` is a schedule of the client (`Sys.run_client`, `jg_run`; `sys_exch`). -/

/-- the duplicate filter (`last_ack_mid` for an ACK-typed message, `last_con_mid` for a Confirmable one) does not hold the
    message id of `r`; a NON is never filtered -/
def fresh (c : Client) (r : Dgram) : Prop :=
  (r.type = .ack → c.lastAck ≠ some r.mid) ∧ (r.type = .con → c.lastCon ≠ some r.mid)

theorem fresh_con {c : Client} {r : Dgram} (ht : r.type = .con) : fresh c r ↔ c.lastCon ≠ some r.mid :=
  ⟨fun h => h.2 ht, fun h => ⟨fun h' => absurd (ht.symm.trans h') (by decide), fun _ => h⟩⟩

theorem fresh_ack {c : Client} {r : Dgram} (ht : r.type = .ack) : fresh c r ↔ c.lastAck ≠ some r.mid :=
  ⟨fun h => h.1 ht, fun h => ⟨fun _ => h, fun h' => absurd (ht.symm.trans h') (by decide)⟩⟩

theorem fresh_non {c : Client} {r : Dgram} (h : r.type = .non) : fresh c r :=
  ⟨fun h' => absurd (h.symm.trans h') (by decide), fun h' => absurd (h.symm.trans h') (by decide)⟩

/-- what can happen to the client during the exchange: time passes (any `now`, any number of times), a copy of the
    empty ACK arrives, a copy of the response message arrives — any number of copies in any order = every pattern
    of loss, duplication and delay of the datagrams of a server that answers with one response message -/
inductive ExEv (req r : Dgram) : CEvent → Prop where
  | tick (now : Nat) : ExEv req r (.tick now)
  | emptyAck (now : Nat) (ok : Bool) : ExEv req r (.rx now (emptyAck req.mid) ok)
  | response (now : Nat) (ok : Bool) : ExEv req r (.rx now r ok)

def isRsp (r : Dgram) : CEvent → Prop
  | .rx _ d _ => d = r
  | _ => False

def isEAck (req : Dgram) : CEvent → Prop
  | .rx _ d _ => d = emptyAck req.mid
  | _ => False

instance (r : Dgram) : (e : CEvent) → Decidable (isRsp r e)
  | .rx _ d _ => inferInstanceAs (Decidable (d = r))
  | .appSend _ _ _ => isFalse (fun h => h)
  | .tick _ => isFalse (fun h => h)

instance (req r : Dgram) : (e : CEvent) → Decidable (ExEv req r e)
  | .tick now => isTrue (.tick now)
  | .appSend _ _ _ => isFalse (fun h => nomatch h)
  | .rx now d ok =>
    if h1 : d = r then isTrue (h1 ▸ .response now ok)
    else if h2 : d = emptyAck req.mid then isTrue (h2 ▸ .emptyAck now ok)
    else isFalse (fun h => by
      cases h with
      | emptyAck => exact h2 rfl
      | response => exact h1 rfl)

def CShape (req : Dgram) (c : Client) : Prop := c.L = Idle ∨ ∃ n, c.L = Wt n ∧ n.d = req

theorem idle_of_sendq_nil {req : Dgram} {c : Client} (hs : CShape req c) (h : c.L.sendq = []) : c.L = Idle := by
  rcases hs with hL | ⟨n, hL, _⟩
  · exact hL
  · rw [hL] at h; cases h

theorem rx_eack_shape {req : Dgram} (c : Client) (hs : CShape req c) (now : Nat) (ok : Bool) :
    c.rx now (emptyAck req.mid) ok = ({ c with L := Idle }, []) := by
  rcases hs with hL | ⟨n, hL, hn⟩
  · rw [rx_emptyAck_Idle c now ok req.mid hL, ← hL]
  · rw [← hn]
    exact rx_emptyAck_Wt c now ok n hL

theorem cancelAll_shape {req : Dgram} (hreq : req.type = .con) {c : Client} (hs : CShape req c) (now : Nat) :
    Layer.cancelAll now req.token c.L = (Idle, []) := by
  rcases hs with hL | ⟨n, hL, hn⟩
  · rw [hL]; exact Layer.cancelAll_Idle now _
  · rw [hL]; exact Layer.cancelAll_Wt now _ n (by rw [hn]) (by rw [hn]; exact hreq)

theorem tick_tx_shape {req : Dgram} (hreq : req.type = .con) (c : Client) (hs : CShape req c) (now : Nat) :
    ∀ d, Out.tx d ∈ (c.tick now).2 → d = req := by
  intro d hd
  rcases hs with hL | ⟨n, hL, hn⟩
  · rw [tick_Idle_client c now hL] at hd
    exact absurd hd List.not_mem_nil
  · rw [tick_snd, hL, Layer.tickAll] at hd
    obtain ⟨k, ⟨n', _, h, _⟩ | h⟩ := Layer.tick_Wt_shape now _ n (hn ▸ hreq)
    · rw [h] at hd
      exact (Out.tx.inj (List.eq_of_mem_replicate hd)).trans hn
    · rw [h] at hd
      rcases List.mem_append.mp hd with hd | hd
      · exact (Out.tx.inj (List.eq_of_mem_replicate hd)).trans hn
      · cases List.mem_singleton.mp hd

/-- `r` is a response message to the Confirmable request `req`, of any message type a server may give it (piggybacked
    or ACK-typed with a message id of its own, separate Confirmable, separate Non-confirmable) -/
structure Resp (req r : Dgram) : Prop where
  hreq : req.type = .con
  hr : isResponse r.code = true
  htok : r.token = req.token
  hty : r.type ≠ .rst

/-- the arrival of `r` takes the request off the layer: by token (CON, NON: coap_cancel_all_messages) or by message id
    (piggybacked); an ACK-typed response with another message id does neither -/
def Cancels (req r : Dgram) : Prop := r.type = .ack → r.mid = req.mid

/-- an arrival after which the request no longer waits -/
def Ends (req r : Dgram) (e : CEvent) : Prop := isEAck req e ∨ (Cancels req r ∧ isRsp r e)

/-- static facts about the exchange: `req` the Confirmable request, `r` THE response message of the server (D2) -/
structure Exchange (req r : Dgram) : Prop where
  hreq : req.type = .con
  hr : isResponse r.code = true
  htok : r.token = req.token
  htype : r.type = .ack ∨ r.type = .con
  hpb : r.type = .ack → r.mid = req.mid

theorem Exchange.not_non {req r : Dgram} (X : Exchange req r) : r.type ≠ .non :=
  fun h => by rcases X.htype with h' | h' <;> rw [h] at h' <;> cases h'

theorem Exchange.resp {req r : Dgram} (X : Exchange req r) : Resp req r :=
  ⟨X.hreq, X.hr, X.htok, fun h => by rcases X.htype with h' | h' <;> rw [h] at h' <;> cases h'⟩

theorem Exchange.cancels {req r : Dgram} (X : Exchange req r) : Cancels req r := X.hpb

theorem rx_non_shape {req r : Dgram} (X : Resp req r) (ht : r.type = .non) (c : Client) (hs : CShape req c) (now : Nat)
    (ok : Bool) :
    c.rx now r ok = ({ c with L := Idle, lastResOk := ok }, Out.callResponse r ok :: (if ok then [] else rstFor r)) :=
  rx_non_eq c now r ok Idle (X.htok ▸ cancelAll_shape X.hreq hs now) ht X.hr

/-- an ACK-typed response with a message id of its own leaves the request ON the send queue; only `last_ack_mid` filters it -/
theorem rx_ack_shape {req r : Dgram} (X : Resp req r) (ht : r.type = .ack) (c : Client) (hs : CShape req c) (now : Nat)
    (ok : Bool) :
    ∃ L1, (L1 = Idle ∧ Cancels req r ∨ L1 = c.L ∧ ¬ Cancels req r) ∧
      c.rx now r ok = if c.lastAck = some r.mid then ({ c with L := L1 }, [])
                      else ({ c with L := L1, lastAck := some r.mid, lastResOk := true }, [Out.callResponse r ok]) := by
  by_cases hm : r.mid = req.mid
  · refine ⟨Idle, Or.inl ⟨rfl, fun _ => hm⟩, rx_ack_rsp c now r ok ht X.hr Idle ?_⟩
    exact hs.imp (fun hL => ⟨hL, rfl⟩) (fun ⟨n, hL, hn⟩ => ⟨n, hL, (if_pos (by rw [hn]; exact hm.symm)).symm⟩)
  · refine ⟨c.L, Or.inr ⟨rfl, fun h => hm (h ht)⟩, rx_ack_rsp c now r ok ht X.hr c.L ?_⟩
    exact hs.imp (fun hL => ⟨hL, hL⟩)
      (fun ⟨n, hL, hn⟩ => ⟨n, hL, hL.trans (if_neg (by rw [hn]; exact fun h => hm h.symm)).symm⟩)

/-- what one event `e` of the exchange does to the client `c` (result `res`), whatever the shape of the response -/
structure XStep (req r : Dgram) (c : Client) (e : CEvent) (res : Client × List Out) : Prop where
  shape : CShape req res.1
  -- the timer transmits nothing but the request, an arrival nothing but the ACK / RST of the response
  tx : ∀ d, Out.tx d ∈ res.2 →
    (d = req ∧ ∃ now, e = .tick now) ∨ ((d.type = .ack ∨ d.type = .rst) ∧ d.mid = r.mid)
  nack : nNack res.2 ≤ 1
  idle : c.L = Idle → res.1.L = Idle ∧ nNack res.2 = 0
  nackIdle : 0 < nNack res.2 → res.1.L = Idle
  ends : Ends req r e → res.1.L = Idle ∧ nNack res.2 = 0
  -- the layer becomes idle by the give-up, by an arrival that ends the wait, and in no other way
  leave : c.L ≠ Idle → res.1.L = Idle → nNack res.2 = 1 ∨ Ends req r e
  hit : isRsp r e → fresh c r → nRsp res.2 = 1
  miss : ¬ (isRsp r e ∧ fresh c r) → nRsp res.2 = 0
  fresh' : fresh res.1 r ↔ fresh c r ∧ (isRsp r e → r.type = .non)
  out : ∀ now ok, e = .rx now r ok → fresh c r → ∃ tl, res.2 = .callResponse r ok :: tl

theorem XStep.of_arrival {req r : Dgram} (X : Resp req r) {c : Client} (hs : CShape req c) (now : Nat) (ok : Bool)
    (res : Client × List Out) (hL : res.1.L = Idle ∧ Cancels req r ∨ res.1.L = c.L ∧ ¬ Cancels req r)
    (hk : nNack res.2 = 0) (htx : ∀ d, Out.tx d ∈ res.2 → (d.type = .ack ∨ d.type = .rst) ∧ d.mid = r.mid)
    (hcall : fresh c r → ∃ tl, res.2 = Out.callResponse r ok :: tl ∧ nRsp tl = 0) (hno : ¬ fresh c r → nRsp res.2 = 0)
    (hfr : fresh res.1 r ↔ r.type = .non) : XStep req r c (.rx now r ok) res := by
  have hnE : ¬ isEAck req (.rx now r ok) := fun h => emptyAck_ne_response X.hr req.mid h.symm
  have hI : Cancels req r → res.1.L = Idle := fun h => hL.elim (fun h' => h'.1) (fun h' => absurd h h'.2)
  exact {
    shape := hL.elim (fun h => Or.inl h.1) (fun h => hs.imp (h.1.trans ·) (fun ⟨n, h', hn⟩ => ⟨n, h.1.trans h', hn⟩))
    tx := fun d hd => Or.inr (htx d hd)
    nack := hk ▸ Nat.zero_le 1
    idle := fun h => ⟨hL.elim (fun h' => h'.1) (fun h' => h'.1.trans h), hk⟩
    nackIdle := fun h => absurd (hk ▸ h) (Nat.lt_irrefl 0)
    ends := fun h => ⟨hI (h.resolve_left hnE).1, hk⟩
    leave := fun h1 h2 => hL.elim (fun h => Or.inr (Or.inr ⟨h.2, rfl⟩)) (fun h => absurd (h.1.symm.trans h2) h1)
    hit := fun _ hf => by
      obtain ⟨tl, ho, htl⟩ := hcall hf
      rw [ho, nRsp_cons_rsp, htl]
    miss := fun h => hno (fun hf => h ⟨rfl, hf⟩)
    fresh' := hfr.trans ⟨fun h => ⟨fresh_non h, fun _ => h⟩, fun h => h.2 rfl⟩
    out := fun now' ok' h hf => by
      injection h with _ _ h3
      subst h3
      obtain ⟨tl, ho, _⟩ := hcall hf
      exact ⟨tl, ho⟩ }

theorem xstep {req r : Dgram} (X : Resp req r) (c : Client) (hs : CShape req c) (e : CEvent) (he : ExEv req r e) :
    XStep req r c e (c.step e) := by
  have hne := emptyAck_ne_response X.hr req.mid
  cases he with
  | tick now =>
    have hE : ¬ Ends req r (.tick now) := fun h => h.elim id (fun h => h.2)
    have hfr : fresh (c.tick now).1 r ↔ fresh c r ∧ (isRsp r (.tick now) → r.type = .non) :=
      ⟨fun h => ⟨h, fun h' => h'.elim⟩, fun h => h.1⟩
    have htx : ∀ d, Out.tx d ∈ (c.tick now).2 →
        (d = req ∧ ∃ now', CEvent.tick now = .tick now') ∨ ((d.type = .ack ∨ d.type = .rst) ∧ d.mid = r.mid) :=
      fun d hd => Or.inl ⟨tick_tx_shape X.hreq c hs now d hd, now, rfl⟩
    show XStep req r c (.tick now) (c.tick now)
    rcases hs with hL | ⟨n, hL, hn⟩
    · have h0 := tick_Idle_client c now hL
      exact {
        shape := by rw [h0]; exact Or.inl hL
        tx := htx
        nack := by rw [h0]; exact Nat.zero_le 1
        idle := fun _ => by rw [h0]; exact ⟨hL, rfl⟩
        nackIdle := by rw [h0]; exact fun h => absurd h (Nat.lt_irrefl 0)
        ends := fun h => absurd h hE
        leave := fun h => absurd hL h
        hit := fun h => h.elim
        miss := fun _ => by rw [h0]; rfl
        fresh' := hfr
        out := fun _ _ h => by cases h }
    · have hW : c.L ≠ Idle := Wt_ne_Idle hL
      rcases tick_Wt_client c now n hL (hn ▸ X.hreq) with ⟨n', b1, b2, b3, b4⟩ | ⟨b1, b3, b4⟩
      · -- it still waits
        exact {
          shape := Or.inr ⟨n', b1, b2.trans hn⟩
          tx := htx
          nack := by omega
          idle := fun h => absurd h hW
          nackIdle := fun h => by omega
          ends := fun h => absurd h hE
          leave := fun _ hI => absurd hI (Wt_ne_Idle b1)
          hit := fun h => h.elim
          miss := fun _ => b3
          fresh' := hfr
          out := fun _ _ h => by cases h }
      · -- given up
        exact {
          shape := Or.inl b1
          tx := htx
          nack := by omega
          idle := fun h => absurd h hW
          nackIdle := fun _ => b1
          ends := fun h => absurd h hE
          leave := fun _ _ => Or.inl b4
          hit := fun h => h.elim
          miss := fun _ => b3
          fresh' := hfr
          out := fun _ _ h => by cases h }
  | emptyAck now ok =>
    have h : c.step (.rx now (emptyAck req.mid) ok) = ({ c with L := Idle }, []) := rx_eack_shape c hs now ok
    rw [h]
    exact {
      shape := Or.inl rfl
      tx := fun _ h => absurd h List.not_mem_nil
      nack := Nat.zero_le 1
      idle := fun _ => ⟨rfl, rfl⟩
      nackIdle := fun h => absurd h (Nat.lt_irrefl 0)
      ends := fun _ => ⟨rfl, rfl⟩
      leave := fun _ _ => Or.inr (Or.inl rfl)
      hit := fun h => absurd h hne
      miss := fun _ => rfl
      fresh' := ⟨fun h => ⟨h, fun h' => absurd h' hne⟩, fun h => h.1⟩
      out := fun now' ok' h _ => by injection h with _ h2 _; exact absurd h2 hne }
  | response now ok =>
    show XStep req r c (.rx now r ok) (c.rx now r ok)
    cases ht : r.type with
    | rst => exact absurd ht X.hty
    | non =>
      -- no filter
      rw [rx_non_shape X ht c hs now ok]
      refine XStep.of_arrival X hs now ok _ (Or.inl ⟨rfl, fun h => absurd (ht.symm.trans h) (by decide)⟩)
        (by cases ok <;> rfl) (fun d hd => ?_) (fun _ => ⟨_, rfl, by cases ok <;> rfl⟩)
        (fun h => absurd (fresh_non ht) h) ⟨fun _ => ht, fun _ => fresh_non ht⟩
      cases ok
      · cases List.mem_singleton.mp ((List.mem_cons.mp hd).resolve_left (fun h => by cases h))
        exact ⟨Or.inr rfl, rfl⟩
      · cases List.mem_singleton.mp hd
    | con =>
      -- cancelled by token; `last_con_mid` filters; ACK or RST after the verdict (for a duplicate: after the last one)
      have hcan : Cancels req r := fun h => absurd (ht.symm.trans h) (by decide)
      have hnn : r.type ≠ .non := fun h => absurd (ht.symm.trans h) (by decide)
      rw [rx_con_eq c now r ok Idle (X.htok ▸ cancelAll_shape X.hreq hs now) ht X.hr]
      by_cases hd : c.lastCon = some r.mid
      · rw [if_pos hd]
        obtain ⟨k1, k2, k3⟩ := reply_facts ht c.lastResOk
        exact XStep.of_arrival X hs now ok _ (Or.inl ⟨rfl, hcan⟩) k2 k3 (fun hf => absurd hd ((fresh_con ht).mp hf))
          (fun _ => k1) ⟨fun hf => absurd hd ((fresh_con ht).mp hf), fun h => absurd h hnn⟩
      · rw [if_neg hd]
        obtain ⟨k1, k2, k3⟩ := reply_facts ht ok
        exact XStep.of_arrival X hs now ok _ (Or.inl ⟨rfl, hcan⟩) ((nNack_cons_rsp ..).trans k2)
          (fun d h => (List.mem_cons.mp h).elim (fun h => by cases h) (k3 d)) (fun _ => ⟨_, rfl, k1⟩)
          (fun h => absurd ((fresh_con ht).mpr hd) h) ⟨fun hf => absurd rfl ((fresh_con ht).mp hf), fun h => absurd h hnn⟩
    | ack =>
      -- off the layer iff it carries the request's message id; `last_ack_mid` filters; no reply
      have hnn : r.type ≠ .non := fun h => absurd (ht.symm.trans h) (by decide)
      obtain ⟨L1, hL1, hrx⟩ := rx_ack_shape X ht c hs now ok
      rw [hrx]
      by_cases hd : c.lastAck = some r.mid
      · rw [if_pos hd]
        exact XStep.of_arrival X hs now ok _ hL1 rfl (fun _ h => absurd h List.not_mem_nil)
          (fun hf => absurd hd ((fresh_ack ht).mp hf)) (fun _ => rfl)
          ⟨fun hf => absurd hd ((fresh_ack ht).mp hf), fun h => absurd h hnn⟩
      · rw [if_neg hd]
        exact XStep.of_arrival X hs now ok _ hL1 rfl (fun _ h => by cases List.mem_singleton.mp h)
          (fun _ => ⟨[], rfl, rfl⟩) (fun h => absurd ((fresh_ack ht).mpr hd) h)
          ⟨fun hf => absurd rfl ((fresh_ack ht).mp hf), fun h => absurd h hnn⟩

/-- "no copy of the response reaches the client after it has given up": once the NACK handler has run, no later
    event is an arrival of the response message.  (Implied by network delays < ACK_TIMEOUT when the server's own
    delay and retransmissions end before the client's last wait of 16·T expires; NOT implied in general — that
    remainder is the open finding `unsolicited_response_delivered`, see `late_response_after_nack_witness`.) -/
def NoLate (r : Dgram) : Client → List CEvent → Prop
  | _, [] => True
  | c, e :: es => (nNack (c.step e).2 > 0 → ∀ e' ∈ es, ¬ isRsp r e') ∧ NoLate r (c.step e).1 es

instance decNoLate (r : Dgram) : (c : Client) → (es : List CEvent) → Decidable (NoLate r c es)
  | _, [] => isTrue trivial
  | c, e :: es =>
    @instDecidableAnd (nNack (c.step e).2 > 0 → ∀ e' ∈ es, ¬ isRsp r e') (NoLate r (c.step e).1 es) inferInstance
      (decNoLate r (c.step e).1 es)

def nArr (r : Dgram) (es : List CEvent) : Nat := es.countP (fun e => decide (isRsp r e))

theorem nArr_cons (r : Dgram) (e : CEvent) (es : List CEvent) :
    nArr r (e :: es) = (if isRsp r e then 1 else 0) + nArr r es := by
  unfold nArr
  by_cases h : isRsp r e <;> simp [h] <;> omega

theorem nArr_zero {r : Dgram} {es : List CEvent} : nArr r es = 0 ↔ ∀ e ∈ es, ¬ isRsp r e := by
  simp [nArr, List.countP_eq_zero]

theorem nArr_ne_zero {r : Dgram} {es : List CEvent} {e : CEvent} (he : e ∈ es) (hi : isRsp r e) : nArr r es ≠ 0 :=
  fun h => nArr_zero.mp h e he hi

/-- number of copies of the response message `r` that arrive after the NACK handler has run (summed over the NACKs of the
    run — there is at most one: `conclusions_bounded_by_late_responses`).  Mirrors `NoLate`: `lateArrivals = 0 ↔ NoLate`. -/
def lateArrivals (r : Dgram) : Client → List CEvent → Nat
  | _, [] => 0
  | c, e :: es => (if nNack (c.step e).2 > 0 then es.countP (fun e' => decide (isRsp r e')) else 0) +
                  lateArrivals r (c.step e).1 es

theorem lateArrivals_zero_iff_noLate (r : Dgram) : ∀ (es : List CEvent) (c : Client),
    lateArrivals r c es = 0 ↔ NoLate r c es := by
  intro es
  induction es with
  | nil => intro c; simp [lateArrivals, NoLate]
  | cons e es ih =>
    intro c
    simp only [lateArrivals, NoLate, Nat.add_eq_zero_iff, ih]
    by_cases h : nNack (c.step e).2 > 0
    · simp [h, List.countP_eq_zero]
    · simp [h]

theorem lateArrivals_pos (r : Dgram) : ∀ (es : List CEvent) (c : Client), lateArrivals r c es ≠ 0 →
    0 < nNack (Client.run c es).2 ∧ nArr r es ≠ 0 := by
  intro es
  induction es with
  | nil => intro c h; exact absurd rfl h
  | cons e es ih =>
    intro c h
    rw [Client.run_cons, nNack_append, nArr_cons]
    have hA : nArr r es ≠ 0 → (if isRsp r e then 1 else 0) + nArr r es ≠ 0 := fun h1 h2 => h1 (Nat.add_eq_zero_iff.mp h2).2
    by_cases hn : nNack (c.step e).2 > 0
    · refine ⟨Nat.lt_of_lt_of_le hn (Nat.le_add_right _ _), hA fun h0 => h ?_⟩
      have h1 : lateArrivals r (c.step e).1 es = 0 := Decidable.byContradiction fun h1 => (ih _ h1).2 h0
      simp only [lateArrivals, hn, if_true, h1, Nat.add_zero]
      exact h0
    · have h1 : lateArrivals r (c.step e).1 es ≠ 0 := fun h1 => h (by simp only [lateArrivals, hn, if_false, h1])
      exact ⟨Nat.lt_of_lt_of_le (ih _ h1).1 (Nat.le_add_left _ _), hA (ih _ h1).2⟩

/-- what a schedule `es` of the exchange has done when run from a client `c` whose layer is idle or holds the request:
    `c'` the client at the end, `a` handler calls, `k` NACKs -/
structure XRun (req r : Dgram) (c : Client) (es : List CEvent) (c' : Client) (a k : Nat) : Prop where
  shape : CShape req c'
  nack : k ≤ 1
  idle : c.L = Idle → c'.L = Idle ∧ k = 0
  nackIdle : 0 < k → c'.L = Idle
  ends : (∃ e ∈ es, Ends req r e) → c'.L = Idle
  leave : c.L ≠ Idle → c'.L = Idle → k = 1 ∨ ∃ e ∈ es, Ends req r e
  -- one call per copy of a NON response; for any other type one call, at the first copy, unless the filter already holds its id
  calls : fresh c r → a = if r.type = .non then nArr r es else min 1 (nArr r es)
  nocall : ¬ fresh c r → a = 0
  fresh' : fresh c' r ↔ fresh c r ∧ (nArr r es = 0 ∨ r.type = .non)
  -- an arrival of a response that cancels leaves the layer idle, and an idle layer raises no NACK
  nolate : Cancels req r → NoLate r c es → 0 < k → nArr r es = 0

theorem XRun.calls_non {req r : Dgram} {c c' : Client} {es : List CEvent} {a k : Nat} (x : XRun req r c es c' a k)
    (hn : r.type = .non) : a = nArr r es := (x.calls (fresh_non hn)).trans (if_pos hn)

theorem XRun.calls_min {req r : Dgram} {c c' : Client} {es : List CEvent} {a k : Nat} (x : XRun req r c es c' a k)
    (hn : r.type ≠ .non) (hf : fresh c r) : a = min 1 (nArr r es) := (x.calls hf).trans (if_neg hn)

theorem exch_run {req r : Dgram} (X : Resp req r) : ∀ (es : List CEvent) (c : Client), CShape req c →
    (∀ e ∈ es, ExEv req r e) →
    XRun req r c es (Client.run c es).1 (nRsp (Client.run c es).2) (nNack (Client.run c es).2) := by
  intro es
  induction es with
  | nil =>
    intro c hs _
    exact {
      shape := hs
      nack := Nat.zero_le 1
      idle := fun h => ⟨h, rfl⟩
      nackIdle := fun h => absurd h (Nat.lt_irrefl 0)
      ends := by rintro ⟨_, h, _⟩; cases h
      leave := fun h1 h2 => absurd h2 h1
      calls := fun _ => by simp [Client.run, nArr]
      nocall := fun _ => rfl
      fresh' := ⟨fun h => ⟨h, Or.inl rfl⟩, fun h => h.1⟩
      nolate := fun _ _ _ => rfl }
  | cons e es ih =>
    intro c hs hes
    have xs := xstep X c hs e (hes e (List.mem_cons_self ..))
    have x := ih (c.step e).1 xs.shape (fun e' h => hes e' (List.mem_cons_of_mem _ h))
    rw [Client.run_cons]
    simp only [nRsp_append, nNack_append]
    refine {
      shape := x.shape, nack := ?nack, idle := fun hI => ?idle, nackIdle := fun hp => ?nackIdle, ends := ?ends
      leave := fun h1 h2 => ?leave, calls := fun hf => ?calls, nocall := fun hf => ?nocall, fresh' := ?fresh'
      nolate := fun hcan hnl hk => ?nolate }
    case nack =>
      -- a NACK in this step leaves the layer idle, and then none follows
      rcases Nat.eq_zero_or_pos (nNack (c.step e).2) with h | h
      · rw [h, Nat.zero_add]; exact x.nack
      · rw [(x.idle (xs.nackIdle h)).2, Nat.add_zero]; exact xs.nack
    case idle =>
      obtain ⟨k1, k2⟩ := xs.idle hI
      obtain ⟨k3, k4⟩ := x.idle k1
      exact ⟨k3, by rw [k2, k4]⟩
    case nackIdle =>
      rcases Nat.eq_zero_or_pos (nNack (c.step e).2) with h | h
      · exact x.nackIdle (by rw [h, Nat.zero_add] at hp; exact hp)
      · exact (x.idle (xs.nackIdle h)).1
    case ends =>
      rintro ⟨e', he', h'⟩
      rcases List.mem_cons.mp he' with rfl | hm
      · exact (x.idle (xs.ends h').1).1
      · exact x.ends ⟨e', hm, h'⟩
    case leave =>
      by_cases hI : (c.step e).1.L = Idle
      · rcases xs.leave h1 hI with h | h
        · exact Or.inl (by rw [h, (x.idle hI).2])
        · exact Or.inr ⟨e, List.mem_cons_self .., h⟩
      · have h0 : nNack (c.step e).2 = 0 :=
          (Nat.eq_zero_or_pos _).resolve_right (fun h => hI (xs.nackIdle h))
        rcases x.leave hI h2 with h | ⟨e', he', h'⟩
        · exact Or.inl (by rw [h0, h])
        · exact Or.inr ⟨e', List.mem_cons_of_mem _ he', h'⟩
    case calls =>
      rw [nArr_cons]
      by_cases hi : isRsp r e
      · rw [xs.hit hi hf, if_pos hi]
        by_cases hn : r.type = .non
        · rw [x.calls (xs.fresh'.mpr ⟨hf, fun _ => hn⟩), if_pos hn, if_pos hn]
        · rw [x.nocall (fun h => hn ((xs.fresh'.mp h).2 hi)), if_neg hn, Nat.min_eq_left (Nat.le_add_right 1 _)]
      · rw [xs.miss (fun h => hi h.1), if_neg hi, x.calls (xs.fresh'.mpr ⟨hf, fun h => absurd h hi⟩)]
        simp only [Nat.zero_add]
    case nocall => rw [xs.miss (fun h => hf h.2), x.nocall (fun h => hf (xs.fresh'.mp h).1)]
    case fresh' =>
      rw [x.fresh', xs.fresh', nArr_cons]
      by_cases hi : isRsp r e
      · simp only [hi, if_true, forall_const]
        have h1 : ¬ 1 + nArr r es = 0 := fun h => by rw [Nat.add_comm] at h; exact Nat.succ_ne_zero _ h
        exact ⟨fun ⟨⟨a, b⟩, _⟩ => ⟨a, Or.inr b⟩, fun ⟨a, b⟩ => ⟨⟨a, b.resolve_left h1⟩, Or.inr (b.resolve_left h1)⟩⟩
      · simp only [hi, if_false, Nat.zero_add, false_imp_iff, and_true]
    case nolate =>
      have hnot : ¬ isRsp r e := fun h => by
        obtain ⟨k1, k2⟩ := xs.ends (Or.inr ⟨hcan, h⟩)
        rw [k2, (x.idle k1).2] at hk
        exact Nat.lt_irrefl 0 hk
      rw [nArr_cons, if_neg hnot, Nat.zero_add]
      rcases Nat.eq_zero_or_pos (nNack (c.step e).2) with h0 | hpos
      · exact x.nolate hcan hnl.2 (by rw [h0, Nat.zero_add] at hk; exact hk)
      · exact nArr_zero.mpr (hnl.1 hpos)

theorem min_one_cases (A : Nat) : A = 0 ∧ min 1 A = 0 ∨ A ≠ 0 ∧ min 1 A = 1 := by
  cases A with
  | zero => exact Or.inl ⟨rfl, rfl⟩
  | succ n => exact Or.inr ⟨Nat.succ_ne_zero n, Nat.min_eq_left (Nat.succ_le_succ (Nat.zero_le n))⟩

theorem once_arith {a k A : Nat} (ha : a = min 1 A) (hk : k ≤ 1) (hN : 0 < k → A = 0) :
    a + k ≤ 1 ∧ (A ≠ 0 → a + k = 1) := by
  rcases min_one_cases A with ⟨hA, hm⟩ | ⟨hA, hm⟩ <;> rw [hm] at ha <;> subst ha
  · exact ⟨by omega, fun h => absurd hA h⟩
  · have hk0 : k = 0 := (Nat.eq_zero_or_pos k).resolve_right (fun h => hA (hN h))
    subst hk0
    exact ⟨Nat.le_refl 1, fun _ => rfl⟩

theorem XRun.once {req r : Dgram} {c c' : Client} {es : List CEvent} {a k : Nat} (x : XRun req r c es c' a k)
    (X : Exchange req r) (hf : fresh c r) (hnl : NoLate r c es) : a + k ≤ 1 ∧ (nArr r es ≠ 0 → a + k = 1) :=
  once_arith (x.calls_min X.not_non hf) x.nack (x.nolate X.cancels hnl)

theorem start_shape {req : Dgram} (hreq : req.type = .con) (c0 : Client) (hidle : c0.L = Idle) (now0 T : Nat) :
    CShape req (c0.appSend now0 req T).1 ∧ (c0.appSend now0 req T).1.L ≠ Idle ∧
    ∀ r, fresh c0 r → fresh (c0.appSend now0 req T).1 r := by
  rw [appSend_Idle c0 now0 req T hidle hreq]
  exact ⟨Or.inr ⟨_, rfl, rfl⟩, Wt_ne_Idle rfl, fun _ h => h⟩

theorem run_start {req : Dgram} (hreq : req.type = .con) (c0 : Client) (hidle : c0.L = Idle) (now0 T : Nat)
    (es : List CEvent) :
    (Client.run c0 (.appSend now0 req T :: es)).1 = (Client.run (c0.appSend now0 req T).1 es).1 ∧
    nRsp (Client.run c0 (.appSend now0 req T :: es)).2 = nRsp (Client.run (c0.appSend now0 req T).1 es).2 ∧
    nNack (Client.run c0 (.appSend now0 req T :: es)).2 = nNack (Client.run (c0.appSend now0 req T).1 es).2 := by
  have ho : (c0.step (.appSend now0 req T)).2 = [Out.tx req] := by
    show (c0.appSend now0 req T).2 = _
    rw [appSend_Idle c0 now0 req T hidle hreq]
  rw [Client.run_cons, ho]
  exact ⟨rfl, nRsp_cons_tx .., nNack_cons_tx ..⟩

/-- **At most one conclusion** (never both, never twice): for a Confirmable request sent from a quiet session (D1)
    whose dedup slots do not already hold the ids of this exchange, and for every schedule of the exchange (`ExEv`, D2)
    the response handler and the NACK handler are called at most once in total. -/
theorem at_most_one_conclusion {req r : Dgram} (X : Exchange req r) (c0 : Client) (hidle : c0.L = Idle)
    (hfresh : fresh c0 r) (now0 T : Nat) (es : List CEvent) (hes : ∀ e ∈ es, ExEv req r e)
    (hlate : NoLate r (c0.appSend now0 req T).1 es) :
    nRsp (Client.run c0 (.appSend now0 req T :: es)).2 + nNack (Client.run c0 (.appSend now0 req T :: es)).2 ≤ 1 ∧
    ((Client.run c0 (.appSend now0 req T :: es)).1.L.sendq = [] →
      nRsp (Client.run c0 (.appSend now0 req T :: es)).2 + nNack (Client.run c0 (.appSend now0 req T :: es)).2 = 1 ∨
      ∀ e ∈ es, ¬ isRsp r e) := by
  obtain ⟨_, e2, e3⟩ := run_start X.hreq c0 hidle now0 T es
  obtain ⟨hs, _, hf⟩ := start_shape X.hreq c0 hidle now0 T
  obtain ⟨h1, h2⟩ := (exch_run X.resp es _ hs hes).once X (hf r hfresh) hlate
  rw [e2, e3]
  refine ⟨h1, fun _ => ?_⟩
  by_cases hex : nArr r es = 0
  · exact Or.inr (nArr_zero.mp hex)
  · exact Or.inl (h2 hex)

/-- `response_stops_retransmission`, end to end: for every schedule of the exchange in which a copy of the response arrives, the
    message layer ends up idle (send queue and delay queue empty, NSTART slot free), and a timer on an idle layer
    does nothing -/
theorem response_ends_exchange {req r : Dgram} (X : Exchange req r) (c0 : Client) (hidle : c0.L = Idle)
    (hfresh : fresh c0 r) (now0 T : Nat) (es : List CEvent) (hes : ∀ e ∈ es, ExEv req r e)
    (hlate : NoLate r (c0.appSend now0 req T).1 es) (hex : ∃ e ∈ es, isRsp r e) :
    (Client.run c0 (.appSend now0 req T :: es)).1.L = Idle ∧ ∀ now fuel, Layer.tick now fuel Idle = (Idle, []) := by
  obtain ⟨e, he, hie⟩ := hex
  rw [(run_start X.hreq c0 hidle now0 T es).1]
  exact ⟨(exch_run X.resp es _ (start_shape X.hreq c0 hidle now0 T).1 hes).ends ⟨e, he, Or.inr ⟨X.cancels, hie⟩⟩,
    fun now fuel => Layer.tick_Idle now fuel⟩

/-- **exactly once** — partial: the domain of the open finding `unsolicited_response_delivered` is excluded by the
    hypotheses (D2: one response message; `NoLate`: no copy of it arrives after the client has given up), and the
    liveness half carries the caveat D5.  Full statement wanted by the property: the same conclusion with `ExEv`
    admitting ANY response datagram carrying the request's token and without `NoLate`; it is false for the pinned
    code (witnesses below).
    Under these hypotheses, for every schedule: never both, never twice (≤ 1 conclusion), and never neither once the
    client is quiet (send queue empty) unless no copy of the response ever arrived.
    The two side conditions are discharged in the closed loop: D2 for the piggybacking and the de-duplicating personalities
    (`exactly_once_closed_loop_partial`), `NoLate` for piggybacked responses only (`exactly_once_piggybacked`, `…_quiet`: nothing
    left open); liveness proper is `never_neither`. -/
theorem exactly_once_partial {req r : Dgram} (X : Exchange req r) (c0 : Client) (hidle : c0.L = Idle)
    (hfresh : fresh c0 r) (now0 T : Nat) (es : List CEvent) (hes : ∀ e ∈ es, ExEv req r e)
    (hlate : NoLate r (c0.appSend now0 req T).1 es) :
    nRsp (Client.run c0 (.appSend now0 req T :: es)).2 + nNack (Client.run c0 (.appSend now0 req T :: es)).2 ≤ 1 ∧
    ((Client.run c0 (.appSend now0 req T :: es)).1.L.sendq = [] →
      nRsp (Client.run c0 (.appSend now0 req T :: es)).2 + nNack (Client.run c0 (.appSend now0 req T :: es)).2 = 1 ∨
      ∀ e ∈ es, ¬ isRsp r e) :=
  at_most_one_conclusion X c0 hidle hfresh now0 T es hes hlate

/-! ### witnesses of the open finding (concrete runs of M, by evaluation) and non-vacuity -/

/-- after MAX_RETRANSMIT the NACK handler runs; a copy of the server's separate response that arrives later is
    delivered all the same: both a NACK and a response for one request -/
theorem late_response_after_nack_witness :
    let o := (Client.run {} [.appSend 1000 wReq 2000, .tick 3000, .tick 7000, .tick 15000, .tick 31000, .tick 63000,
                             .rx 76001 (wRsp 5001) true]).2
    nRsp o = 1 ∧ nNack o = 1 := by decide

/-- a second response message (the server processed a retransmitted request again) is delivered again -/
theorem second_response_witness :
    let o := (Client.run {} [.appSend 1000 wReq 2000, .rx 1000 (emptyAck 1001) true, .rx 1300 (wRsp 5001) true,
                             .rx 1600 (wRsp 5002) true]).2
    nRsp o = 2 := by decide

/-- the hypotheses of `exactly_once_partial` are satisfiable: retransmission, empty ACK, the separate response twice -/
example :
    let es := [CEvent.tick 3000, .rx 3001 (emptyAck 1001) true, .rx 3500 (wRsp 5001) true, .tick 4000, .rx 5500 (wRsp 5001) true]
    Exchange wReq (wRsp 5001) ∧ (∀ e ∈ es, ExEv wReq (wRsp 5001) e) ∧
    nRsp (Client.run {} (.appSend 1000 wReq 2000 :: es)).2 = 1 ∧ nNack (Client.run {} (.appSend 1000 wReq 2000 :: es)).2 = 0 := by
  exact ⟨⟨rfl, by decide, rfl, Or.inr rfl, fun h => by cases h⟩, by decide, by decide, by decide⟩

/-- the zero-length token (RFC 7252 5.3.1) is a token like any other: `Exchange`, `exactly_once_partial`,
    `response_ends_exchange` and `response_stops_retransmission` do not restrict `req.token`.  The Empty ACK is lost, the
    separate CON response (no token) arrives while the request (no token) is still on the send queue: one handler
    call, the response is acknowledged, the layer is idle — the timers that follow transmit nothing and raise no NACK -/
example :
    let req : Dgram := { type := .con, code := 1, mid := 1001, token := [] }
    let r : Dgram := { type := .con, code := 69, mid := 0x7001, token := [] }
    let es : List CEvent := [.rx 1100 r true, .tick 3000, .tick 7000, .tick 63000]
    Exchange req r ∧ (∀ e ∈ es, ExEv req r e) ∧ NoLate r (({} : Client).appSend 1000 req 2000).1 es ∧
    (Client.run {} (.appSend 1000 req 2000 :: es)).2 =
      [Out.tx req, Out.callResponse r true, Out.tx { type := .ack, code := 0, mid := 0x7001, token := [] }] ∧
    (Client.run {} (.appSend 1000 req 2000 :: es)).1.L = Idle := by
  exact ⟨⟨rfl, by decide, rfl, Or.inr rfl, fun h => by cases h⟩, by decide, by decide, by decide, by decide⟩

/-! ### liveness: never neither once the network is quiet -/

/-- the clock is fair to the client: each of the timer calls at the times `ts` comes at or after the deadline of the
    request that is waiting then (if one is) -/
def TimerRuns : Client → List Nat → Prop
  | _, [] => True
  | c, t :: ts => (∀ n ∈ c.L.sendq, n.due ≤ t) ∧ TimerRuns (c.tick t).1 ts

instance decTimerRuns : (c : Client) → (ts : List Nat) → Decidable (TimerRuns c ts)
  | _, [] => isTrue trivial
  | c, t :: ts => @instDecidableAnd (∀ n ∈ c.L.sendq, n.due ≤ t) (TimerRuns (c.tick t).1 ts) inferInstance
      (decTimerRuns (c.tick t).1 ts)

def ticks (ts : List Nat) : List CEvent := ts.map CEvent.tick

theorem run_ticks_Idle (ts : List Nat) (c : Client) (hL : c.L = Idle) : Client.run c (ticks ts) = (c, []) := by
  induction ts with
  | nil => rfl
  | cons t ts ih =>
    show Client.run c (CEvent.tick t :: ticks ts) = (c, [])
    rw [Client.run_cons]
    have : c.step (.tick t) = (c, []) := tick_Idle_client c t hL
    rw [this]; simp [ih]

theorem run_ticks_Wt : ∀ (ts : List Nat) (c : Client) (n : Node), c.L = Wt n → n.d.type = .con → TimerRuns c ts →
    1 ≤ ts.length → 5 ≤ ts.length + n.cnt →
    (Client.run c (ticks ts)).1.L = Idle ∧ nRsp (Client.run c (ticks ts)).2 = 0 ∧ nNack (Client.run c (ticks ts)).2 = 1 := by
  intro ts
  induction ts with
  | nil => intro c n _ _ _ h1 _; cases h1
  | cons t ts ih =>
    intro c n hL hc htr h1 h5
    have hx : ticks (t :: ts) = CEvent.tick t :: ticks ts := rfl
    rw [hx, Client.run_cons]
    simp only [Client.step, nRsp_append, nNack_append]
    have hdue : n.due ≤ t := htr.1 n (by rw [hL]; exact List.mem_singleton.mpr rfl)
    rcases tick_Wt_client c t n hL hc with ⟨n', a1, a2, a3, a4⟩ | ⟨a1, a3, a4⟩
    · -- retransmitted: the counter went up, so it was below MAX_RETRANSMIT before and timer calls remain
      obtain ⟨hcnt, hlt⟩ := tick_Wt_due c t n n' hL hc hdue a1
      simp only [List.length_cons, maxRetransmit] at h5 hlt
      obtain ⟨b1, b2, b3⟩ := ih (c.tick t).1 n' a1 (by rw [a2]; exact hc) htr.2 (by omega) (by omega)
      rw [a3, a4, b2, b3]
      exact ⟨b1, rfl, rfl⟩
    · rw [a3, a4, run_ticks_Idle ts _ a1]
      exact ⟨a1, rfl, rfl⟩

/-- **never neither once the network is quiet** (liveness) — partial only in that it still carries `NoLate` (the open
    finding; the count would be 2, not 0, without it).  For EVERY schedule `es` of the exchange that is FAIR —
    a copy of the response is delivered (so a request copy and a response copy got through), or no copy of the empty
    ACK is delivered (so nothing stops the retransmissions and MAX_RETRANSMIT is exhausted) — and every continuation
    in which the network is quiet and the clock runs (`ticks ts`: at least 1 + MAX_RETRANSMIT timer calls, each at or
    after the deadline then pending, `TimerRuns`), the request has concluded exactly once and the layer is idle.
    The schedules the fairness hypothesis excludes are exactly D5 (empty ACK delivered, every copy of the separate
    response lost: `d5_neither_witness`).  The full-strength form (no `NoLate`, conclusion ≥ 1) is `never_neither` below. -/
theorem concludes_when_quiet_partial {req r : Dgram} (X : Exchange req r) (c0 : Client) (hidle : c0.L = Idle)
    (hfresh : fresh c0 r) (now0 T : Nat) (es : List CEvent) (hes : ∀ e ∈ es, ExEv req r e)
    (hlate : NoLate r (c0.appSend now0 req T).1 es)
    (hfair : (∃ e ∈ es, isRsp r e) ∨ (∀ e ∈ es, ¬ isEAck req e))
    (ts : List Nat) (hlen : 1 + maxRetransmit ≤ ts.length)
    (hts : TimerRuns (Client.run c0 (.appSend now0 req T :: es)).1 ts) :
    nRsp (Client.run c0 (.appSend now0 req T :: (es ++ ticks ts))).2 +
      nNack (Client.run c0 (.appSend now0 req T :: (es ++ ticks ts))).2 = 1 ∧
    (Client.run c0 (.appSend now0 req T :: (es ++ ticks ts))).1.L = Idle := by
  obtain ⟨e1, e2, e3⟩ := run_start X.hreq c0 hidle now0 T es
  obtain ⟨hs, hne, hf⟩ := start_shape X.hreq c0 hidle now0 T
  have x := exch_run X.resp es _ hs hes
  obtain ⟨h1, h2⟩ := x.once X (hf r hfresh) hlate
  have happ : (CEvent.appSend now0 req T :: (es ++ ticks ts)) = (CEvent.appSend now0 req T :: es) ++ ticks ts := rfl
  rw [happ, Client.run_append]
  simp only [nRsp_append, nNack_append]
  rw [e1] at hts ⊢
  rw [e2, e3]
  rcases x.shape with hI | ⟨n, hL, hn⟩
  · -- the exchange is over: by the response, or (no Empty ACK arrived) by the NACK
    rw [run_ticks_Idle ts _ hI]
    refine ⟨?_, hI⟩
    simp only [nRsp_nil, nNack_nil, Nat.add_zero]
    have : nArr r es ≠ 0 ∨ nNack (Client.run (c0.appSend now0 req T).1 es).2 = 1 := by
      rcases hfair with ⟨e, he, hie⟩ | hno
      · exact Or.inl (nArr_ne_zero he hie)
      · rcases x.leave hne hI with h | ⟨e, he, h | ⟨_, h⟩⟩
        · exact Or.inr h
        · exact absurd h (hno e he)
        · exact Or.inl (nArr_ne_zero he h)
    rcases this with h | h
    · exact h2 h
    · exact Nat.le_antisymm h1 (Nat.le_trans (Nat.le_of_eq h.symm) (Nat.le_add_left _ _))
  · -- the request still waits: nothing was reported, and the timers give it up
    have hW : (Client.run (c0.appSend now0 req T).1 es).1.L ≠ Idle := Wt_ne_Idle hL
    have hk : nNack (Client.run (c0.appSend now0 req T).1 es).2 = 0 :=
      (Nat.eq_zero_or_pos _).resolve_right (fun h => hW (x.nackIdle h))
    have hA : nArr r es = 0 := nArr_zero.mpr (fun e he hi => hW (x.ends ⟨e, he, Or.inr ⟨X.cancels, hi⟩⟩))
    obtain ⟨b1, b2, b3⟩ := run_ticks_Wt ts _ n hL (hn ▸ X.hreq) hts (Nat.le_trans (Nat.le_add_right 1 maxRetransmit) hlen)
      (Nat.le_trans hlen (Nat.le_add_right _ _))
    rw [b2, b3, hk, x.calls_min X.not_non (hf r hfresh), hA]
    exact ⟨rfl, b1⟩

/-- `concludes_when_quiet_partial`: every datagram is lost (no ACK ever arrives), the clock runs: the request is
    retransmitted four times and concludes by exactly one NACK -/
example :
    let es : List CEvent := [.tick 2000, .tick 3000]
    let ts : List Nat := [7000, 15000, 31000, 63000, 70000]
    Exchange wReq (wRsp 5001) ∧ (∀ e ∈ es, ExEv wReq (wRsp 5001) e) ∧ (∀ e ∈ es, ¬ isEAck wReq e) ∧
    1 + maxRetransmit ≤ ts.length ∧ TimerRuns (Client.run {} (.appSend 1000 wReq 2000 :: es)).1 ts ∧
    nNack (Client.run {} (.appSend 1000 wReq 2000 :: (es ++ ticks ts))).2 = 1 ∧
    nTx wReq (Client.run {} (.appSend 1000 wReq 2000 :: (es ++ ticks ts))).2 = 5 := by
  refine ⟨⟨rfl, by decide, rfl, Or.inr rfl, fun h => by cases h⟩, by decide, ?_, by decide, by decide, by decide, by decide⟩
  · intro e he
    simp only [List.mem_cons, List.mem_nil_iff, or_false] at he
    rcases he with rfl | rfl <;> exact fun h => h

/-- D5, the case the fairness hypothesis of `concludes_when_quiet_partial` excludes: the empty ACK arrived, every copy
    of the separate response was lost — the client has nothing left to retransmit and the request stays open -/
theorem d5_neither_witness :
    let o := (Client.run {} (.appSend 1000 wReq 2000 :: .rx 1100 (emptyAck 1001) true :: ticks [3000, 7000, 15000, 31000, 63000, 99000])).2
    nRsp o = 0 ∧ nNack o = 0 := by decide

/-- **never neither once the network is quiet** (liveness, full strength: no `NoLate`, no hypothesis on the server).
    For the fair schedules and the quiet continuations of `concludes_when_quiet_partial`, the request HAS concluded: by the
    response handler or by the NACK handler. -/
theorem never_neither {req r : Dgram} (X : Exchange req r) (c0 : Client) (hidle : c0.L = Idle)
    (hfresh : fresh c0 r) (now0 T : Nat) (es : List CEvent) (hes : ∀ e ∈ es, ExEv req r e)
    (hfair : (∃ e ∈ es, isRsp r e) ∨ (∀ e ∈ es, ¬ isEAck req e))
    (ts : List Nat) (hlen : 1 + maxRetransmit ≤ ts.length)
    (hts : TimerRuns (Client.run c0 (.appSend now0 req T :: es)).1 ts) :
    1 ≤ nRsp (Client.run c0 (.appSend now0 req T :: (es ++ ticks ts))).2 +
        nNack (Client.run c0 (.appSend now0 req T :: (es ++ ticks ts))).2 := by
  by_cases hL : lateArrivals r (c0.appSend now0 req T).1 es = 0
  · exact Nat.le_of_eq (concludes_when_quiet_partial X c0 hidle hfresh now0 T es hes
      ((lateArrivals_zero_iff_noLate r es _).mp hL) hfair ts hlen hts).1.symm
  · -- a late copy: the NACK handler has run
    rw [(run_start X.hreq c0 hidle now0 T (es ++ ticks ts)).2.2, Client.run_append, nNack_append]
    exact Nat.le_trans (lateArrivals_pos r es _ hL).1 (Nat.le_trans (Nat.le_add_right _ _) (Nat.le_add_left _ _))

/-- `never_neither`: the NACK came, then a late copy of the response (outside `NoLate`): still concluded (twice — the
    open finding — but not "neither") -/
example :
    let es : List CEvent := [.tick 3000, .tick 7000, .tick 15000, .tick 31000, .tick 63000, .rx 76001 (wRsp 5001) true]
    let ts : List Nat := [80000, 80001, 80002, 80003, 80004]
    (∀ e ∈ es, ExEv wReq (wRsp 5001) e) ∧ (∃ e ∈ es, isRsp (wRsp 5001) e) ∧
    TimerRuns (Client.run {} (.appSend 1000 wReq 2000 :: es)).1 ts ∧
    ¬ NoLate (wRsp 5001) (({} : Client).appSend 1000 wReq 2000).1 es ∧
    1 ≤ nRsp (Client.run {} (.appSend 1000 wReq 2000 :: (es ++ ticks ts))).2 := by
  refine ⟨by decide, ⟨_, List.mem_cons_of_mem _ (List.mem_cons_of_mem _ (List.mem_cons_of_mem _ (List.mem_cons_of_mem _
    (List.mem_cons_of_mem _ (List.mem_cons_self ..))))), rfl⟩, by decide, ?_, by decide⟩
  intro h
  have h5 := h.2.2.2.2.1
  exact h5 (by decide) _ (List.mem_cons_self ..) rfl

/-! ### the give-up is never premature (seeded C07-10) -/

def evTime : CEvent → Nat
  | .appSend now _ _ => now
  | .rx now _ _ => now
  | .tick now => now

/-- `GiveUpLate req T last k c es`: while `es` runs from `c` — `last` = time of the latest transmission of `req` so far, `k` = number
    of its transmissions so far — every call of the NACK handler happens after `1 + MAX_RETRANSMIT` transmissions of the request
    and no earlier than `T·2^MAX_RETRANSMIT` after the latest of them -/
def GiveUpLate (req : Dgram) (T : Nat) : Nat → Nat → Client → List CEvent → Prop
  | _, _, _, [] => True
  | last, k, c, e :: es =>
    (nNack (c.step e).2 ≠ 0 → k = 1 + maxRetransmit ∧ last + T * 2 ^ maxRetransmit ≤ evTime e) ∧
    GiveUpLate req T (if Out.tx req ∈ (c.step e).2 then evTime e else last)
      (if Out.tx req ∈ (c.step e).2 then k + 1 else k) (c.step e).1 es

instance decGiveUpLate (req : Dgram) (T : Nat) :
    (last k : Nat) → (c : Client) → (es : List CEvent) → Decidable (GiveUpLate req T last k c es)
  | _, _, _, [] => isTrue trivial
  | last, k, c, e :: es =>
    have := decGiveUpLate req T (if Out.tx req ∈ (c.step e).2 then evTime e else last)
      (if Out.tx req ∈ (c.step e).2 then k + 1 else k) (c.step e).1 es
    by unfold GiveUpLate; exact inferInstance

/-- the timed shape of the client during the exchange: idle, or the request waits with `retransmit_cnt = k - 1 ≤ MAX_RETRANSMIT`
    and a deadline at least `T·2^cnt` after its latest transmission -/
def TW (req : Dgram) (T last k : Nat) (c : Client) : Prop :=
  c.L = Idle ∨ ∃ n, c.L = Wt n ∧ n.d = req ∧ n.timeout = T ∧ n.cnt + 1 = k ∧ n.cnt ≤ maxRetransmit ∧ last + T * 2 ^ n.cnt ≤ n.due

theorem TW_shape {req : Dgram} {T last k : Nat} {c : Client} (h : TW req T last k c) : CShape req c := by
  rcases h with h | ⟨n, hL, hn, _⟩
  · exact Or.inl h
  · exact Or.inr ⟨n, hL, hn⟩

/-- one event of the exchange on the timed shape, the ghosts moved on by a transmission of the request.  `0 < T` is what makes the
    step that raises the NACK transmit nothing: with `T = 0` one timer call retransmits four times and gives up. -/
theorem tw_step {req r : Dgram} (X : Exchange req r) {T : Nat} (hT : 0 < T) {last k : Nat} {c : Client}
    (hw : TW req T last k c) {e : CEvent} (he : ExEv req r e) :
    TW req T (if Out.tx req ∈ (c.step e).2 then evTime e else last) (if Out.tx req ∈ (c.step e).2 then k + 1 else k)
      (c.step e).1 ∧
    (nNack (c.step e).2 ≠ 0 →
      k = 1 + maxRetransmit ∧ last + T * 2 ^ maxRetransmit ≤ evTime e ∧ Out.tx req ∉ (c.step e).2) ∧
    (Out.tx req ∈ (c.step e).2 → last ≤ evTime e) ∧ (c.L = Idle → Out.tx req ∉ (c.step e).2) := by
  by_cases hE : Ends req r e
  · -- an arrival that ends the wait: idle afterwards, no NACK, nothing but an ACK or RST goes out
    have xs := xstep X.resp c (TW_shape hw) e he
    obtain ⟨hI, h0⟩ := xs.ends hE
    have hno : Out.tx req ∉ (c.step e).2 := fun h =>
      (xs.tx req h).elim (fun ⟨_, now, h'⟩ => by subst h'; exact hE.elim id (fun h => h.2))
        (fun ⟨h', _⟩ => by rw [X.hreq] at h'; rcases h' with h' | h' <;> cases h')
    exact ⟨Or.inl hI, fun h => absurd h0 h, fun h => absurd h hno, fun _ => hno⟩
  cases he with
  | emptyAck now ok => exact absurd (Or.inl rfl) hE
  | response now ok => exact absurd (Or.inr ⟨X.cancels, rfl⟩) hE
  | tick now =>
    have hstep : c.step (.tick now) = c.tick now := rfl
    rw [hstep]
    rcases hw with hL | ⟨n, hL, hn, hnT, hk, hle, hb⟩
    · rw [tick_Idle_client c now hL]
      simp only [List.not_mem_nil, if_false]
      exact ⟨Or.inl hL, fun h => absurd rfl h, fun h => h.elim, fun _ h => h⟩
    · have hc : n.d.type = .con := by rw [hn]; exact X.hreq
      have hW : c.L ≠ Idle := Wt_ne_Idle hL
      rcases tick_Wt_explicit c now n hL hc (by rw [hnT]; exact hT) with ⟨_, hex⟩ | ⟨hdue, hcnt, hex⟩ | ⟨hdue, hcnt, hex⟩
      · rw [hex]
        simp only [List.not_mem_nil, if_false]
        exact ⟨Or.inr ⟨n, hL, hn, hnT, hk, hle, hb⟩, fun h => absurd rfl h, fun h => h.elim, fun h => absurd h hW⟩
      · -- retransmission at `now` with the doubled timeout
        rw [hex]
        have hmem : Out.tx req ∈ [Out.tx n.d] := by rw [hn]; exact List.mem_singleton.mpr rfl
        simp only [hmem, if_true, evTime]
        exact ⟨Or.inr ⟨_, rfl, hn, hnT, congrArg (· + 1) hk, hcnt, by rw [hnT]; exact Nat.le_refl _⟩,
          fun h => absurd rfl h, fun _ => Nat.le_trans (Nat.le_trans (Nat.le_add_right ..) hb) hdue, fun h => absurd h hW⟩
      · -- given up: `cnt = MAX_RETRANSMIT`, the deadline was `T·2^cnt` after the latest transmission
        rw [hex]
        have hno : Out.tx req ∉ [Out.callNack Nack.retries n.d.mid] := by simp
        simp only [hno, if_false]
        refine ⟨Or.inl rfl, fun _ => ?_, fun h => h.elim, fun h => absurd h hW⟩
        have h4 : n.cnt = maxRetransmit := by omega
        rw [h4] at hb hk
        simp only [evTime]
        exact ⟨by omega, by omega, fun h => h⟩

theorem giveUpLate_run {req r : Dgram} (X : Exchange req r) {T : Nat} (hT : 0 < T) :
    ∀ (es : List CEvent) (last k : Nat) (c : Client), TW req T last k c → (∀ e ∈ es, ExEv req r e) →
      GiveUpLate req T last k c es := by
  intro es
  induction es with
  | nil => intro _ _ _ _ _; trivial
  | cons e es ih =>
    intro last k c hw hes
    obtain ⟨h1, h2, _⟩ := tw_step X hT hw (hes e (List.mem_cons_self ..))
    exact ⟨fun h => ⟨(h2 h).1, (h2 h).2.1⟩, ih _ _ _ h1 (fun e' h => hes e' (List.mem_cons_of_mem _ h))⟩

theorem start_TW {req : Dgram} (hreq : req.type = .con) (c0 : Client) (hidle : c0.L = Idle) (now0 T : Nat) :
    TW req T now0 1 (c0.appSend now0 req T).1 := by
  rw [appSend_Idle c0 now0 req T hidle hreq]
  exact Or.inr ⟨_, rfl, rfl, rfl, rfl, Nat.zero_le _, Nat.le_refl _⟩

/-- **The give-up is never premature**: a Confirmable request sent at `now0` from a quiet session with initial timeout `T > 0`;
    for every schedule of the exchange (`ExEv`: timer steps at any times), a call of the
    NACK handler happens only after all `1 + MAX_RETRANSMIT` transmissions of the request and no earlier than
    `T·2^MAX_RETRANSMIT` (≥ 16·ACK_TIMEOUT for `T = calcTimeout b`) after the LAST of them — so a response to that last transmission that travels
    less than ACK_TIMEOUT each way still finds the request waiting ("never both"; piggybacked: `exactly_once_piggybacked`). -/
theorem giveup_never_premature {req r : Dgram} (X : Exchange req r) (c0 : Client) (hidle : c0.L = Idle)
    (now0 T : Nat) (hT : 0 < T) (es : List CEvent) (hes : ∀ e ∈ es, ExEv req r e) :
    GiveUpLate req T now0 1 (c0.appSend now0 req T).1 es :=
  giveUpLate_run X hT es now0 1 _ (start_TW X.hreq c0 hidle now0 T) hes

/-- non-vacuity: four transmissions lost, the fifth answered: the NACK handler is never called, the response is delivered once;
    and the schedule in which nothing is answered: the NACK comes at 63000 = 31000 (last transmission) + 16·T -/
example :
    let es : List CEvent := [.tick 3000, .tick 7000, .tick 15000, .tick 31000, .rx 32400 { wReq with type := .ack, code := 69 } true,
                             .tick 63000]
    (∀ e ∈ es, ExEv wReq { wReq with type := .ack, code := 69 } e) ∧
    nNack (Client.run {} (.appSend 1000 wReq 2000 :: es)).2 = 0 ∧ nRsp (Client.run {} (.appSend 1000 wReq 2000 :: es)).2 = 1 ∧
    nTx wReq (Client.run {} (.appSend 1000 wReq 2000 :: es)).2 = 5 := by
  exact ⟨by decide, by decide, by decide, by decide⟩

example :
    GiveUpLate wReq 2000 1000 1 (({} : Client).appSend 1000 wReq 2000).1 (ticks [3000, 7000, 15000, 31000, 62999, 63000]) ∧
    nNack (Client.run {} (.appSend 1000 wReq 2000 :: ticks [3000, 7000, 15000, 31000, 62999])).2 = 0 ∧
    nNack (Client.run {} (.appSend 1000 wReq 2000 :: ticks [3000, 7000, 15000, 31000, 62999, 63000])).2 = 1 := by
  refine ⟨by decide, by decide, by decide⟩

/-! ### the closed loop: client, network, server -/

def txAt (now : Nat) : List Out → List (Nat × Dgram)
  | [] => []
  | .tx d :: o => (now, d) :: txAt now o
  | _ :: o => txAt now o

theorem mem_txAt {now : Nat} {p : Nat × Dgram} : ∀ {o : List Out}, p ∈ txAt now o ↔ p.1 = now ∧ Out.tx p.2 ∈ o := by
  intro o
  induction o with
  | nil => simp [txAt]
  | cons x o ih =>
    cases x with
    | tx d =>
      simp only [txAt, List.mem_cons, ih, Out.tx.injEq]
      constructor
      · rintro (rfl | ⟨h1, h2⟩)
        · exact ⟨rfl, Or.inl rfl⟩
        · exact ⟨h1, Or.inr h2⟩
      · rintro ⟨h1, h2 | h2⟩
        · left; cases p; simp_all
        · exact Or.inr ⟨h1, h2⟩
    | callResponse d ok => simp [txAt, ih]
    | callNack r m => simp [txAt, ih]
    | callRequest m t => simp [txAt, ih]
    | unmodelled => simp [txAt, ih]

/-- client, server, the global clock, and everything either side has put on the network so far (with the time of
    transmission): the network may deliver any of it, any number of times, or never -/
structure Sys where
  c : Client
  s : Server
  now : Nat
  cLog : List (Nat × Dgram)
  sLog : List (Nat × Dgram)

inductive SysEv where
  | cTick (now : Nat)                                  -- the client's timer (coap_io_prepare_io)
  | sTick (now : Nat)                                  -- the server's timer
  | sApp (now : Nat)                                   -- a server application timer
  | toS (sent now : Nat) (d : Dgram)                   -- a copy of what the client transmitted at `sent` reaches the server
  | toC (sent now : Nat) (d : Dgram) (ok : Bool)       -- a copy of what the server transmitted at `sent` reaches the client
  deriving Repr

def Sys.cStep (y : Sys) (now : Nat) (e : CEvent) : Sys × List Out :=
  ({ y with c := (y.c.step e).1, now := now, cLog := y.cLog ++ txAt now (y.c.step e).2 }, (y.c.step e).2)

def Sys.sStep (y : Sys) (now : Nat) (e : SEvent) : Sys × List Out :=
  ({ y with s := (y.s.step e).1, now := now, sLog := y.sLog ++ txAt now (y.s.step e).2 }, [])

/-- one event of the closed system; the second component is what the CLIENT did (handler calls, NACKs, transmissions) -/
def Sys.step (y : Sys) : SysEv → Sys × List Out
  | .cTick now => y.cStep now (.tick now)
  | .toC _ now d ok => y.cStep now (.rx now d ok)
  | .sTick now => y.sStep now (.tick now)
  | .sApp now => y.sStep now (.app now)
  | .toS _ now d => y.sStep now (.rx now d)

def Sys.run (y : Sys) : List SysEv → Sys × List Out
  | [] => (y, [])
  | e :: es => (((y.step e).1.run es).1, (y.step e).2 ++ ((y.step e).1.run es).2)

/-- the network and the clock: a datagram that is delivered was transmitted by the peer (any number of copies of it may
    be delivered, or none: loss and duplication on every datagram) and every copy arrives less than `Δ` after the
    transmission; the clock never runs backwards -/
def Sys.Net (Δ : Nat) (y : Sys) : SysEv → Prop
  | .toS sent now d => (sent, d) ∈ y.cLog ∧ y.now ≤ now ∧ now < sent + Δ
  | .toC sent now d _ => (sent, d) ∈ y.sLog ∧ y.now ≤ now ∧ now < sent + Δ
  | .cTick now => y.now ≤ now
  | .sTick now => y.now ≤ now
  | .sApp now => y.now ≤ now

instance (Δ : Nat) (y : Sys) : (e : SysEv) → Decidable (y.Net Δ e)
  | .toS sent now d => inferInstanceAs (Decidable ((sent, d) ∈ y.cLog ∧ y.now ≤ now ∧ now < sent + Δ))
  | .toC sent now d _ => inferInstanceAs (Decidable ((sent, d) ∈ y.sLog ∧ y.now ≤ now ∧ now < sent + Δ))
  | .cTick now => inferInstanceAs (Decidable (y.now ≤ now))
  | .sTick now => inferInstanceAs (Decidable (y.now ≤ now))
  | .sApp now => inferInstanceAs (Decidable (y.now ≤ now))

def Sys.RunOk (Δ : Nat) : Sys → List SysEv → Prop
  | _, [] => True
  | y, e :: es => y.Net Δ e ∧ Sys.RunOk Δ (y.step e).1 es

instance decRunOk (Δ : Nat) : (y : Sys) → (es : List SysEv) → Decidable (y.RunOk Δ es)
  | _, [] => isTrue trivial
  | y, e :: es => @instDecidableAnd (y.Net Δ e) (Sys.RunOk Δ (y.step e).1 es) inferInstance (decRunOk Δ (y.step e).1 es)

theorem Sys.run_cons (y : Sys) (e : SysEv) (es : List SysEv) :
    y.run (e :: es) = (((y.step e).1.run es).1, (y.step e).2 ++ ((y.step e).1.run es).2) := rfl

theorem Sys.run_append : ∀ (es1 es2 : List SysEv) (y : Sys),
    y.run (es1 ++ es2) = (((y.run es1).1.run es2).1, (y.run es1).2 ++ ((y.run es1).1.run es2).2) := by
  intro es1
  induction es1 with
  | nil => intro es2 y; simp [Sys.run]
  | cons e es ih => intro es2 y; simp only [List.cons_append, Sys.run_cons, ih, List.append_assoc]

theorem Sys.RunOk_append (Δ : Nat) : ∀ (es1 es2 : List SysEv) (y : Sys),
    y.RunOk Δ (es1 ++ es2) ↔ y.RunOk Δ es1 ∧ (y.run es1).1.RunOk Δ es2 := by
  intro es1
  induction es1 with
  | nil => intro es2 y; simp [Sys.RunOk, Sys.run]
  | cons e es ih => intro es2 y; simp only [List.cons_append, Sys.RunOk, Sys.run_cons, ih, and_assoc]

def isRspS (r : Dgram) : SysEv → Prop
  | .toC _ _ d _ => d = r
  | _ => False

instance (r : Dgram) : (e : SysEv) → Decidable (isRspS r e)
  | .toC _ _ d _ => inferInstanceAs (Decidable (d = r))
  | .toS _ _ _ => isFalse (fun h => h)
  | .cTick _ => isFalse (fun h => h)
  | .sTick _ => isFalse (fun h => h)
  | .sApp _ => isFalse (fun h => h)

def isEAckS (req : Dgram) : SysEv → Prop
  | .toC _ _ d _ => d = emptyAck req.mid
  | _ => False

instance (req : Dgram) : (e : SysEv) → Decidable (isEAckS req e)
  | .toC _ _ d _ => inferInstanceAs (Decidable (d = emptyAck req.mid))
  | .toS _ _ _ => isFalse (fun h => h)
  | .cTick _ => isFalse (fun h => h)
  | .sTick _ => isFalse (fun h => h)
  | .sApp _ => isFalse (fun h => h)

/-- the closed-loop form of `NoLate` -/
def SysNoLate (r : Dgram) : Sys → List SysEv → Prop
  | _, [] => True
  | y, e :: es => (nNack (y.step e).2 > 0 → ∀ e' ∈ es, ¬ isRspS r e') ∧ SysNoLate r (y.step e).1 es

instance decSysNoLate (r : Dgram) : (y : Sys) → (es : List SysEv) → Decidable (SysNoLate r y es)
  | _, [] => isTrue trivial
  | y, e :: es =>
    @instDecidableAnd (nNack (y.step e).2 > 0 → ∀ e' ∈ es, ¬ isRspS r e') (SysNoLate r (y.step e).1 es) inferInstance
      (decSysNoLate r (y.step e).1 es)

/-- the system right after the application has sent `req` from an idle client -/
def Sys.start (c0 : Client) (s0 : Server) (now0 : Nat) (req : Dgram) (T : Nat) : Sys :=
  { c := (c0.appSend now0 req T).1, s := s0, now := now0, cLog := [(now0, req)], sLog := [] }

/-! A run of the closed loop, seen from the client: server events do not touch it, so the client runs the schedule of
    its own events, and under `JG` that is a schedule of the exchange.  Every statement about `Client.run` over `ExEv`
    schedules is thereby a statement about `Sys.run`. -/

/-- the client's event in an event of the closed loop -/
def SysEv.cev : SysEv → Option CEvent
  | .cTick now => some (.tick now)
  | .toC _ now d ok => some (.rx now d ok)
  | _ => none

def cevs (es : List SysEv) : List CEvent := es.filterMap SysEv.cev

theorem mem_cevs {ce : CEvent} {es : List SysEv} : ce ∈ cevs es ↔ ∃ e ∈ es, e.cev = some ce := List.mem_filterMap

theorem cevs_cons_none {e : SysEv} (es : List SysEv) (h : e.cev = none) : cevs (e :: es) = cevs es :=
  List.filterMap_cons_none h

theorem cevs_cons_some {e : SysEv} {ce : CEvent} (es : List SysEv) (h : e.cev = some ce) : cevs (e :: es) = ce :: cevs es :=
  List.filterMap_cons_some h

theorem exists_cevs {P : SysEv → Prop} {Q : CEvent → Prop} (h : ∀ e, P e ↔ ∃ ce, e.cev = some ce ∧ Q ce)
    (es : List SysEv) : (∃ e ∈ es, P e) ↔ ∃ ce ∈ cevs es, Q ce := by
  constructor
  · rintro ⟨e, he, hp⟩
    obtain ⟨ce, hc, hq⟩ := (h e).mp hp
    exact ⟨ce, mem_cevs.mpr ⟨e, he, hc⟩, hq⟩
  · rintro ⟨ce, hce, hq⟩
    obtain ⟨e, he, hc⟩ := mem_cevs.mp hce
    exact ⟨e, he, (h e).mpr ⟨ce, hc, hq⟩⟩

theorem rspS_cev (r : Dgram) (e : SysEv) : isRspS r e ↔ ∃ ce, e.cev = some ce ∧ isRsp r ce := by
  cases e with
  | cTick _ | toC _ _ _ _ => exact ⟨fun h => ⟨_, rfl, h⟩, fun ⟨_, hc, h⟩ => by cases hc; exact h⟩
  | sTick _ | sApp _ | toS _ _ _ => exact ⟨fun h => h.elim, fun ⟨_, hc, _⟩ => by cases hc⟩

theorem eackS_cev (req : Dgram) (e : SysEv) : isEAckS req e ↔ ∃ ce, e.cev = some ce ∧ isEAck req ce := by
  cases e with
  | cTick _ | toC _ _ _ _ => exact ⟨fun h => ⟨_, rfl, h⟩, fun ⟨_, hc, h⟩ => by cases hc; exact h⟩
  | sTick _ | sApp _ | toS _ _ _ => exact ⟨fun h => h.elim, fun ⟨_, hc, _⟩ => by cases hc⟩

theorem eackS_cevs {req : Dgram} {es : List SysEv} : (∃ e ∈ es, isEAckS req e) ↔ ∃ ce ∈ cevs es, isEAck req ce :=
  exists_cevs (eackS_cev req) es

theorem Sys.step_cev_some {y : Sys} {e : SysEv} {ce : CEvent} (h : e.cev = some ce) :
    (y.step e).1.c = (y.c.step ce).1 ∧ (y.step e).2 = (y.c.step ce).2 := by
  cases e <;> cases h <;> exact ⟨rfl, rfl⟩

theorem Sys.step_cev_none {y : Sys} {e : SysEv} (h : e.cev = none) : (y.step e).1.c = y.c ∧ (y.step e).2 = [] := by
  cases e <;> cases h <;> exact ⟨rfl, rfl⟩

theorem Sys.run_client : ∀ (es : List SysEv) (y : Sys),
    (y.run es).1.c = (Client.run y.c (cevs es)).1 ∧ (y.run es).2 = (Client.run y.c (cevs es)).2 := by
  intro es
  induction es with
  | nil => intro y; exact ⟨rfl, rfl⟩
  | cons e es ih =>
    intro y
    obtain ⟨i1, i2⟩ := ih (y.step e).1
    rw [Sys.run_cons, i1, i2]
    cases hc : e.cev with
    | none =>
      obtain ⟨k1, k2⟩ := @Sys.step_cev_none y e hc
      rw [cevs_cons_none es hc, k1, k2]
      exact ⟨rfl, rfl⟩
    | some ce =>
      obtain ⟨k1, k2⟩ := @Sys.step_cev_some y e ce hc
      rw [cevs_cons_some es hc, k1, k2]
      exact ⟨rfl, rfl⟩

theorem no_rspS_cevs {r : Dgram} {es : List SysEv} : (∀ e ∈ es, ¬ isRspS r e) ↔ ∀ ce ∈ cevs es, ¬ isRsp r ce := by
  have h := exists_cevs (rspS_cev r) es
  exact ⟨fun h1 ce hce hi => let ⟨e, he, hp⟩ := h.mpr ⟨ce, hce, hi⟩; h1 e he hp,
    fun h1 e he hp => let ⟨ce, hce, hi⟩ := h.mp ⟨e, he, hp⟩; h1 ce hce hi⟩

theorem sysNoLate_cevs (r : Dgram) : ∀ (es : List SysEv) (y : Sys), SysNoLate r y es ↔ NoLate r y.c (cevs es) := by
  intro es
  induction es with
  | nil => intro _; exact Iff.rfl
  | cons e es ih =>
    intro y
    have h3 := ih (y.step e).1
    cases hc : e.cev with
    | none =>
      obtain ⟨k1, k2⟩ := @Sys.step_cev_none y e hc
      rw [k1] at h3
      rw [cevs_cons_none es hc]
      exact ⟨fun h => h3.mp h.2, fun h => ⟨fun hn => by rw [k2] at hn; exact absurd hn (Nat.lt_irrefl 0), h3.mpr h⟩⟩
    | some ce =>
      obtain ⟨k1, k2⟩ := @Sys.step_cev_some y e ce hc
      rw [k1] at h3
      rw [cevs_cons_some es hc]
      exact ⟨fun h => ⟨fun hn => no_rspS_cevs.mp (h.1 (by rw [k2]; exact hn)), h3.mp h.2⟩,
        fun h => ⟨fun hn => no_rspS_cevs.mpr (h.1 (by rw [← k2]; exact hn)), h3.mpr h.2⟩⟩

/-- the joint invariant of the closed loop: the client's layer is idle or holds the request, the server is in one of
    the phases of its side of the exchange, and the only datagrams ever put on the network are the request, the
    ACK / RST datagrams of the client, the empty ACK of the server and THE response message -/
structure JG (req r : Dgram) (s0 : Server) (y : Sys) : Prop where
  hc : CShape req y.c
  hs : SInv s0 req y.s
  hcl : ∀ p ∈ y.cLog, p.2 = req ∨ p.2.type = .ack ∨ p.2.type = .rst
  hsl : ∀ p ∈ y.sLog, p.2 = r ∨ p.2 = emptyAck req.mid

theorem start_JG {req : Dgram} (hr : SReq req) (s0 : Server) (c0 : Client) (hidle : c0.L = Idle)
    (now0 T : Nat) : JG req (respFor s0 req) s0 (Sys.start c0 s0 now0 req T) := by
  have hs := appSend_Idle c0 now0 req T hidle hr.hcon
  refine ⟨?_, SInv_init, ?_, ?_⟩
  · simp only [Sys.start]; rw [hs]; exact Or.inr ⟨_, rfl, rfl⟩
  · intro p hp; simp only [Sys.start, List.mem_singleton] at hp; subst hp; exact Or.inl rfl
  · intro p hp; cases hp

theorem jg_server {req r : Dgram} {s0 : Server} (hr : SReq req) (hq : SQuiet s0 req) (hrr : r = respFor s0 req)
    (y : Sys) (hj : JG req r s0 y) (now : Nat) (e : SEvent) (he : SExEv req e) : JG req r s0 (y.sStep now e).1 := by
  obtain ⟨h1, h2⟩ := SInv_step hr hq y.s hj.hs e he
  refine ⟨hj.hc, h1, hj.hcl, ?_⟩
  intro p hp
  simp only [Sys.sStep, List.mem_append] at hp
  rcases hp with hp | hp
  · exact hj.hsl p hp
  · rw [hrr]; exact h2 p.2 (mem_txAt.mp hp).2

theorem jg_cstep {req r : Dgram} {s0 : Server} (y : Sys) (hj : JG req r s0 y) (now : Nat) (e : CEvent)
    (hs : CShape req (y.c.step e).1)
    (htx : ∀ d, Out.tx d ∈ (y.c.step e).2 → d = req ∨ d.type = .ack ∨ d.type = .rst) :
    JG req r s0 (y.cStep now e).1 := by
  refine ⟨hs, hj.hs, ?_, hj.hsl⟩
  intro p hp
  simp only [Sys.cStep, List.mem_append] at hp
  rcases hp with hp | hp
  · exact hj.hcl p hp
  · exact htx p.2 (mem_txAt.mp hp).2

theorem jg_toS {req r : Dgram} {s0 : Server} {y : Sys} (hj : JG req r s0 y) {sent : Nat} {d : Dgram}
    (h : (sent, d) ∈ y.cLog) (now : Nat) : SExEv req (.rx now d) := by
  rcases hj.hcl _ h with h | h
  · simp only at h; subst h; exact .request now
  · exact .reply now d h

theorem jg_toC {req r : Dgram} {s0 : Server} {y : Sys} (hj : JG req r s0 y) {sent : Nat} {d : Dgram}
    (h : (sent, d) ∈ y.sLog) (now : Nat) (ok : Bool) : ExEv req r (.rx now d ok) := by
  rcases hj.hsl _ h with h | h
  · simp only at h; subst h; exact .response now ok
  · simp only at h; subst h; exact .emptyAck now ok

theorem jg_step {req r : Dgram} {s0 : Server} (X : Resp req r) (hr : SReq req) (hq : SQuiet s0 req)
    (hrr : r = respFor s0 req) (Δ : Nat) (y : Sys) (hj : JG req r s0 y) (e : SysEv) (hn : y.Net Δ e) :
    JG req r s0 (y.step e).1 ∧ ∀ ce, e.cev = some ce → ExEv req r ce := by
  have hcl : ∀ (now : Nat) (ce : CEvent), ExEv req r ce → JG req r s0 (y.cStep now ce).1 := fun now ce hce =>
    have xs := xstep X y.c hj.hc ce hce
    jg_cstep y hj now ce xs.shape (fun d hd => (xs.tx d hd).imp (fun h => h.1) (fun h => h.1))
  cases e with
  | cTick now => exact ⟨hcl now _ (.tick now), fun ce h => by cases h; exact .tick now⟩
  | toC sent now d ok =>
    exact ⟨hcl now _ (jg_toC hj hn.1 now ok), fun ce h => by cases h; exact jg_toC hj hn.1 now ok⟩
  | sTick now => exact ⟨jg_server hr hq hrr y hj now _ (.tick now), fun _ h => by cases h⟩
  | sApp now => exact ⟨jg_server hr hq hrr y hj now _ (.app now), fun _ h => by cases h⟩
  | toS sent now d => exact ⟨jg_server hr hq hrr y hj now _ (jg_toS hj hn.1 now), fun _ h => by cases h⟩

theorem jg_run {req r : Dgram} {s0 : Server} (X : Resp req r) (hr : SReq req) (hq : SQuiet s0 req)
    (hrr : r = respFor s0 req) (Δ : Nat) : ∀ (es : List SysEv) (y : Sys), JG req r s0 y → y.RunOk Δ es →
    JG req r s0 (y.run es).1 ∧ ∀ ce ∈ cevs es, ExEv req r ce := by
  intro es
  induction es with
  | nil => intro y hj _; exact ⟨hj, fun _ h => absurd h List.not_mem_nil⟩
  | cons e es ih =>
    intro y hj hok
    obtain ⟨h1, h2⟩ := jg_step X hr hq hrr Δ y hj e hok.1
    obtain ⟨i1, i2⟩ := ih (y.step e).1 h1 hok.2
    refine ⟨i1, fun ce hce => ?_⟩
    obtain ⟨e', he', hc'⟩ := mem_cevs.mp hce
    rcases List.mem_cons.mp he' with rfl | hm
    · exact h2 ce hc'
    · exact i2 ce (mem_cevs.mpr ⟨e', hm, hc'⟩)

/-- what the client has done in a run of the closed loop is what its own events, a schedule of the exchange, do (`exch_run`) -/
theorem sys_exch {req r : Dgram} {s0 : Server} (X : Resp req r) (hr : SReq req) (hq : SQuiet s0 req)
    (hrr : r = respFor s0 req) (Δ : Nat) (es : List SysEv) (y : Sys) (hj : JG req r s0 y) (hok : y.RunOk Δ es) :
    JG req r s0 (y.run es).1 ∧ XRun req r y.c (cevs es) (y.run es).1.c (nRsp (y.run es).2) (nNack (y.run es).2) := by
  obtain ⟨j1, j2⟩ := jg_run X hr hq hrr Δ es y hj hok
  rw [(Sys.run_client es y).1, (Sys.run_client es y).2]
  exact ⟨j1, exch_run X (cevs es) y.c hj.hc j2⟩

theorem sys_ends_quiet {req r : Dgram} {s0 : Server} (X : Resp req r) (hr : SReq req) (hq : SQuiet s0 req)
    (hrr : r = respFor s0 req) (Δ : Nat) (pre post : List SysEv) (y : Sys) (hj : JG req r s0 y)
    (hok : y.RunOk Δ (pre ++ post)) (hex : ∃ ce ∈ cevs pre, Ends req r ce) : nNack ((y.run pre).1.run post).2 = 0 := by
  obtain ⟨k1, k2⟩ := (Sys.RunOk_append Δ pre post y).mp hok
  obtain ⟨p1, xp⟩ := sys_exch X hr hq hrr Δ pre y hj k1
  exact ((sys_exch X hr hq hrr Δ post _ p1 k2).2.idle (xp.ends hex)).2

theorem exchange_of_server {s0 : Server} {req : Dgram} (hr : SReq req) (hp : s0.pers ≠ .dn) (hpa : s0.pers ≠ .da) :
    Exchange req (respFor s0 req) := by
  unfold respFor
  cases hpers : s0.pers with
  | pb => exact ⟨hr.hcon, rfl, rfl, Or.inl rfl, fun _ => rfl⟩
  | ac => exact ⟨hr.hcon, rfl, rfl, Or.inr rfl, fun h => by cases h⟩
  | tr => exact ⟨hr.hcon, rfl, rfl, Or.inr rfl, fun h => by cases h⟩
  | dc => exact ⟨hr.hcon, rfl, rfl, Or.inr rfl, fun h => by cases h⟩
  | dn => exact absurd hpers hp
  | da => exact absurd hpers hpa

/-- the timing invariant of the closed loop with a server that answers on arrival; ghosts `last` (time of the latest transmission
    of the request) and `nacked` (the NACK handler has run); the client has the timed shape `TW` of `giveup_never_premature` -/
structure TI (req r : Dgram) (T Δ last : Nat) (nacked : Prop) (y : Sys) : Prop where
  htw : ∃ ntx, TW req T last ntx y.c
  hlast : ∀ p ∈ y.cLog, p.2 = req → p.1 ≤ last
  hnack : nacked → y.c.L = Idle ∧ last + T * 2 ^ maxRetransmit ≤ y.now
  hsrv : ∀ q ∈ y.sLog, q.2 = r → ∃ p ∈ y.cLog, p.2 = req ∧ q.1 < p.1 + Δ
  hsl : ∀ q ∈ y.sLog, q.2 = r

/-- after the NACK no copy of the response can still be on its way -/
theorem no_late_arrival {req r : Dgram} {T Δ last : Nat} {nacked : Prop} {y : Sys} (ht : TI req r T Δ last nacked y) (hk : nacked)
    (hΔ : 2 * Δ ≤ T * 2 ^ maxRetransmit) (e : SysEv) (hn : y.Net Δ e) : ¬ isRspS r e := by
  intro hr
  cases e with
  | toC sent now d ok =>
    simp only [isRspS] at hr
    subst hr
    obtain ⟨h1, h2, h3⟩ := hn
    obtain ⟨p, hp, hpr, hlt⟩ := ht.hsrv _ h1 rfl
    have := ht.hlast p hp hpr
    have := (ht.hnack hk).2
    simp only at hlt
    omega
  | cTick now => exact hr
  | sTick now => exact hr
  | sApp now => exact hr
  | toS sent now d => exact hr

theorem tstep_server {req r : Dgram} {T Δ last : Nat} {nacked : Prop} (y : Sys) (ht : TI req r T Δ last nacked y) (now : Nat)
    (hnow : y.now ≤ now) (se : SEvent)
    (hnew : ∀ d, Out.tx d ∈ (y.s.step se).2 → d = r ∧ ∃ p ∈ y.cLog, p.2 = req ∧ now < p.1 + Δ) :
    TI req r T Δ last nacked (y.sStep now se).1 := by
  refine ⟨ht.htw, ht.hlast, fun hk => ⟨(ht.hnack hk).1, Nat.le_trans (ht.hnack hk).2 hnow⟩, fun q hq hqr => ?_, fun q hq => ?_⟩
  · simp only [Sys.sStep, List.mem_append] at hq
    rcases hq with hq | hq
    · exact ht.hsrv q hq hqr
    · obtain ⟨h1, h2⟩ := mem_txAt.mp hq
      obtain ⟨p, hp, hpr, hlt⟩ := (hnew q.2 h2).2
      exact ⟨p, hp, hpr, by rw [h1]; exact hlt⟩
  · simp only [Sys.sStep, List.mem_append] at hq
    rcases hq with hq | hq
    · exact ht.hsl q hq
    · exact (hnew q.2 (mem_txAt.mp hq).2).1

/-- the timing invariant over an event of the client: `tw_step`, read on the log -/
theorem tstep_client {req r : Dgram} {T Δ last : Nat} {nacked : Prop} (X : Exchange req r) (hT : 0 < T) (y : Sys)
    (ht : TI req r T Δ last nacked y) (now : Nat) (hnow : y.now ≤ now) (e : CEvent) (he : ExEv req r e) (het : evTime e = now) :
    TI req r T Δ (if Out.tx req ∈ (y.c.step e).2 then now else last) (nacked ∨ 0 < nNack (y.c.step e).2) (y.cStep now e).1 := by
  obtain ⟨n, hw⟩ := ht.htw
  obtain ⟨h1, h2, h3, h4⟩ := tw_step X hT hw he
  have xs := xstep X.resp y.c (TW_shape hw) e he
  rw [het] at h1 h2 h3
  refine ⟨⟨_, h1⟩, fun p hp hpr => ?_, ?_, fun q hq hqr => ?_, ht.hsl⟩
  · rcases List.mem_append.mp hp with hp | hp
    · have hl := ht.hlast p hp hpr
      by_cases hm : Out.tx req ∈ (y.c.step e).2
      · rw [if_pos hm]; exact Nat.le_trans hl (h3 hm)
      · rw [if_neg hm]; exact hl
    · obtain ⟨e1, hm⟩ := mem_txAt.mp hp
      rw [hpr] at hm
      rw [if_pos hm, e1]
      exact Nat.le_refl _
  · rintro (hk | hk)
    · obtain ⟨hI, h16⟩ := ht.hnack hk
      rw [if_neg (h4 hI)]
      exact ⟨(xs.idle hI).1, Nat.le_trans h16 hnow⟩
    · obtain ⟨_, h16, hno⟩ := h2 (Nat.ne_of_gt hk)
      rw [if_neg hno]
      exact ⟨xs.nackIdle hk, h16⟩
  · obtain ⟨p, hp, hpr, hlt⟩ := ht.hsrv q hq hqr
    exact ⟨p, List.mem_append_left _ hp, hpr, hlt⟩

theorem tstep {req r : Dgram} {s0 : Server} (X : Exchange req r) (hr : SReq req) (hq : SQuiet s0 req)
    (hrr : r = respFor s0 req) (hp : s0.pers = .pb) {T Δ last : Nat} (hT : 0 < T) {nacked : Prop} (y : Sys)
    (hj : JG req r s0 y) (ht : TI req r T Δ last nacked y) (e : SysEv) (hn : y.Net Δ e) :
    ∃ last', TI req r T Δ last' (nacked ∨ 0 < nNack (y.step e).2) (y.step e).1 := by
  have hk0 : ∀ {y' : Sys}, TI req r T Δ last nacked y' → ∃ last', TI req r T Δ last' (nacked ∨ 0 < nNack ([] : List Out)) y' :=
    fun h => ⟨last, h.htw, h.hlast, fun h' => h.hnack (h'.resolve_right (Nat.lt_irrefl 0)), h.hsrv, h.hsl⟩
  have hquiet : ∀ (se : SEvent), SExEv req se → (∀ now', se ≠ .rx now' req) → ∀ (now : Nat) (d : Dgram),
      Out.tx d ∈ (y.s.step se).2 → d = r ∧ ∃ p ∈ y.cLog, p.2 = req ∧ now < p.1 + Δ := fun se hse hne _ d hd =>
    absurd hd (SInv_step_pb hq hp y.s hj.hs se hse hne d)
  cases e with
  | cTick now => exact ⟨_, tstep_client X hT y ht now hn _ (.tick now) rfl⟩
  | toC sent now d ok =>
    have hd : d = r := ht.hsl _ hn.1
    subst hd
    exact ⟨_, tstep_client X hT y ht now hn.2.1 _ (.response now ok) rfl⟩
  | sTick now => exact hk0 (tstep_server y ht now hn _ (hquiet _ (.tick now) (fun _ h => by cases h) now))
  | sApp now => exact hk0 (tstep_server y ht now hn _ (hquiet _ (.app now) (fun _ h => by cases h) now))
  | toS sent now d =>
    refine hk0 (tstep_server y ht now hn.2.1 (.rx now d) ?_)
    by_cases hdr : d = req
    · -- a copy of the request transmitted at `sent` is answered at `now < sent + Δ`
      subst hdr
      intro d' hd'
      rw [SInv_step_pb_request hr hq hp y.s hj.hs now] at hd'
      simp only [List.mem_cons, List.mem_nil_iff, or_false] at hd'
      rcases hd' with hd' | hd'
      · cases hd'
      · injection hd' with hd'
        exact ⟨hd'.trans hrr.symm, (sent, d), hn.1, rfl, hn.2.2⟩
    · exact hquiet _ (jg_toS hj hn.1 now) (fun now' h => by injection h with _ h2; exact hdr h2) now

/-- all runs of the closed loop with a piggybacking server and network delays below `Δ`, `2Δ ≤ T·2^MAX_RETRANSMIT`:
    the timing invariant makes a late copy of the response impossible (`SysNoLate` is a theorem here, not a hypothesis),
    and no Empty ACK ever reaches the client -/
theorem pb_noLate {req r : Dgram} {s0 : Server} (X : Exchange req r) (hr : SReq req) (hq : SQuiet s0 req)
    (hrr : r = respFor s0 req) (hp : s0.pers = .pb) {T Δ : Nat} (hT : 0 < T) (hΔ : 2 * Δ ≤ T * 2 ^ maxRetransmit) :
    ∀ (es : List SysEv) (last : Nat) (nacked : Prop) (y : Sys), JG req r s0 y → TI req r T Δ last nacked y → y.RunOk Δ es →
      SysNoLate r y es ∧ (nacked → ∀ e ∈ es, ¬ isRspS r e) ∧ ∀ ce ∈ cevs es, ¬ isEAck req ce := by
  intro es
  induction es with
  | nil => intro _ _ y _ _ _; exact ⟨trivial, fun _ _ h => absurd h List.not_mem_nil, fun _ h => absurd h List.not_mem_nil⟩
  | cons e es ih =>
    intro last nacked y hj ht hok
    obtain ⟨last', ht'⟩ := tstep X hr hq hrr hp hT y hj ht e hok.1
    obtain ⟨i1, i2, i3⟩ := ih _ _ _ (jg_step X.resp hr hq hrr Δ y hj e hok.1).1 ht' hok.2
    refine ⟨⟨fun hn => i2 (Or.inr hn), i1⟩, fun hk e' he' => ?_, fun ce hce => ?_⟩
    · rcases List.mem_cons.mp he' with rfl | hm
      · exact no_late_arrival ht hk hΔ _ hok.1
      · exact i2 (Or.inl hk) e' hm
    · obtain ⟨e', he', hc'⟩ := mem_cevs.mp hce
      rcases List.mem_cons.mp he' with rfl | hm
      · intro hi
        cases e' with
        | toC sent now d ok =>
          cases hc'
          exact emptyAck_ne_response X.hr req.mid ((show d = emptyAck req.mid from hi).symm.trans (ht.hsl _ hok.1.1))
        | cTick now => cases hc'; exact hi
        | sTick now => cases hc'
        | sApp now => cases hc'
        | toS sent now d => cases hc'
      · exact i3 ce (mem_cevs.mpr ⟨e', hm, hc'⟩)

theorem start_TI {req r : Dgram} {s0 : Server} (hr : SReq req) (c0 : Client) (hidle : c0.L = Idle)
    (now0 T Δ : Nat) : TI req r T Δ now0 False (Sys.start c0 s0 now0 req T) := by
  refine ⟨⟨1, start_TW hr.hcon c0 hidle now0 T⟩, fun p hp _ => ?_, fun h => h.elim, fun q hq => by simp [Sys.start] at hq,
    fun q hq => by simp [Sys.start] at hq⟩
  simp only [Sys.start, List.mem_singleton] at hp
  subst hp
  exact Nat.le_refl _

/-- **The de-duplicating server personalities answer one request with ONE response message** (side condition D2 of
    `exactly_once_partial`, proved for the model of the server): a server that is quiet, has not seen the request's
    token, and either piggybacks or de-duplicates requests at application level (`ac+`, `at+`, `dc+`, `dn+`)
    transmits — for every schedule of its side of the exchange (`SExEv`) — no response other than copies of `respFor s0 req`
    (plus copies of the empty ACK). -/
theorem server_one_response_message {s0 : Server} {req : Dgram} (hr : SReq req) (hq : SQuiet s0 req)
    (es : List SEvent) (hes : ∀ e ∈ es, SExEv req e) :
    ∀ d, Out.tx d ∈ (Server.run s0 es).2 → isResponse d.code = true → d = respFor s0 req := by
  intro d hd hc
  rcases (server_run_one_response hr hq es hes).2 d hd with h | h
  · exact h
  · rw [h] at hc; simp [emptyAck, isResponse] at hc

/-- without application-level de-duplication the pinned server answers a late copy of the request with a second
    response message (libcoap keeps no request de-duplication state; open finding `unsolicited_response_delivered`) -/
theorem server_without_dedup_witness :
    let s0 : Server := { pers := .ac, dedup := false, D := 300, T := 2500, txMid := 5000 }
    let req : Dgram := { type := .con, code := 1, mid := 1001, token := [0xc0, 7] }
    let es : List SEvent := [.rx 1000 req, .tick 1300, .rx 1500 (emptyAck 5001), .rx 3100 req, .tick 3400]
    (∀ e ∈ es, SExEv req e) ∧
    ¬ (∀ d, Out.tx d ∈ (Server.run s0 es).2 → d = respFor s0 req ∨ d = emptyAck req.mid) := by
  obtain ⟨_, _, _, _, _, hes, _, hno⟩ := server_without_dedup_two_responses_witness
  exact ⟨hes, hno⟩

/-- the closed loop with any server whose one response message stands in the relation `Exchange` to the request
    (an ACK carrying the request's message id, or a CON): at most one conclusion, and exactly one at a quiet end
    unless no copy of the response was delivered — given `SysNoLate` -/
theorem closed_loop_of_exchange {req : Dgram} (hr : SReq req) (s0 : Server) (hq : SQuiet s0 req)
    (X : Exchange req (respFor s0 req)) (c0 : Client) (hidle : c0.L = Idle) (hfresh : fresh c0 (respFor s0 req))
    (now0 T Δ : Nat) (es : List SysEv) (hok : (Sys.start c0 s0 now0 req T).RunOk Δ es)
    (hlate : SysNoLate (respFor s0 req) (Sys.start c0 s0 now0 req T) es) :
    nRsp ((Sys.start c0 s0 now0 req T).run es).2 + nNack ((Sys.start c0 s0 now0 req T).run es).2 ≤ 1 ∧
    (((Sys.start c0 s0 now0 req T).run es).1.c.L.sendq = [] →
      nRsp ((Sys.start c0 s0 now0 req T).run es).2 + nNack ((Sys.start c0 s0 now0 req T).run es).2 = 1 ∨
      ∀ e ∈ es, ¬ isRspS (respFor s0 req) e) := by
  obtain ⟨h1, h2⟩ := (sys_exch X.resp hr hq rfl Δ es _ (start_JG hr s0 c0 hidle now0 T) hok).2.once X
    ((start_shape hr.hcon c0 hidle now0 T).2.2 _ hfresh) ((sysNoLate_cevs _ es _).mp hlate)
  refine ⟨h1, fun _ => ?_⟩
  by_cases h0 : ∀ e ∈ es, ¬ isRspS (respFor s0 req) e
  · exact Or.inr h0
  · exact Or.inl (h2 (fun hA => h0 (no_rspS_cevs.mpr (nArr_zero.mp hA))))

/-- **exactly once in the closed loop** — partial.  Client, network (`Sys.Net`) and server composed; the server is
    any personality that piggybacks or de-duplicates (D2 is PROVED here, not assumed: `server_one_response_message`
    through the joint invariant `JG`), the response is an ACK or a CON.  Remaining hypothesis `SysNoLate`: no copy of
    the response is delivered after the client has given up — for separate responses it does NOT follow from delays
    < ACK_TIMEOUT (the server retransmits its response for up to 31·T_server after the client's last request copy:
    `late_response_after_nack_witness`, open finding `unsolicited_response_delivered`); for piggybacked responses it
    does: `exactly_once_piggybacked`.  Full statement wanted: the same without `SysNoLate` and without `SQuiet.hdedup`;
    false for the pinned code. -/
theorem exactly_once_closed_loop_partial {req : Dgram} (hr : SReq req) (s0 : Server) (hq : SQuiet s0 req)
    (hp : s0.pers ≠ .dn) (hpa : s0.pers ≠ .da) (c0 : Client) (hidle : c0.L = Idle) (hfresh : fresh c0 (respFor s0 req))
    (now0 T Δ : Nat) (es : List SysEv) (hok : (Sys.start c0 s0 now0 req T).RunOk Δ es)
    (hlate : SysNoLate (respFor s0 req) (Sys.start c0 s0 now0 req T) es) :
    nRsp ((Sys.start c0 s0 now0 req T).run es).2 + nNack ((Sys.start c0 s0 now0 req T).run es).2 ≤ 1 ∧
    (((Sys.start c0 s0 now0 req T).run es).1.c.L.sendq = [] →
      nRsp ((Sys.start c0 s0 now0 req T).run es).2 + nNack ((Sys.start c0 s0 now0 req T).run es).2 = 1 ∨
      ∀ e ∈ es, ¬ isRspS (respFor s0 req) e) :=
  closed_loop_of_exchange hr s0 hq (exchange_of_server hr hp hpa) c0 hidle hfresh now0 T Δ es hok hlate

/-- **exactly once, piggybacked response, network delays below ACK_TIMEOUT** — full strength, no `NoLate`, D2 proved:
    for every run of the closed loop in which each delivered copy arrives less than `Δ` after its transmission, `2Δ ≤ T·2^MAX_RETRANSMIT` (in particular
    `Δ = ACK_TIMEOUT ≤ T`), the request concludes at most once (never both, never twice), and exactly once when the
    client is quiet at the end unless no copy of the response was ever delivered.  The timed argument: the NACK comes
    no earlier than `T·2^MAX_RETRANSMIT` after the LAST transmission of the request (invariant `TI`, from the
    retransmission schedule `tick_Wt_explicit`), every copy of the response was transmitted less than `Δ` after the
    arrival of a copy of the request transmitted at most `Δ` earlier, so it arrives before the NACK. -/
theorem exactly_once_piggybacked {req : Dgram} (hr : SReq req) (s0 : Server) (hq : SQuiet s0 req)
    (hp : s0.pers = .pb) (c0 : Client) (hidle : c0.L = Idle) (hfresh : fresh c0 (respFor s0 req))
    (now0 T Δ : Nat) (hT : 0 < T) (hΔ : 2 * Δ ≤ T * 2 ^ maxRetransmit) (es : List SysEv)
    (hok : (Sys.start c0 s0 now0 req T).RunOk Δ es) :
    nRsp ((Sys.start c0 s0 now0 req T).run es).2 + nNack ((Sys.start c0 s0 now0 req T).run es).2 ≤ 1 ∧
    (((Sys.start c0 s0 now0 req T).run es).1.c.L.sendq = [] →
      nRsp ((Sys.start c0 s0 now0 req T).run es).2 + nNack ((Sys.start c0 s0 now0 req T).run es).2 = 1 ∨
      ∀ e ∈ es, ¬ isRspS (respFor s0 req) e) := by
  have X := exchange_of_server hr (by rw [hp]; decide : s0.pers ≠ .dn) (by rw [hp]; decide : s0.pers ≠ .da)
  exact closed_loop_of_exchange hr s0 hq X c0 hidle hfresh now0 T Δ es hok
    (pb_noLate X hr hq rfl hp hT hΔ es _ False _ (start_JG hr s0 c0 hidle now0 T) (start_TI hr c0 hidle now0 T Δ) hok).1

/-- the same with the library's own parameters: the client's timeout is `coap_calc_timeout` of any PRNG byte
    (≥ ACK_TIMEOUT) and every network delay is shorter than ACK_TIMEOUT -/
theorem exactly_once_piggybacked_default {req : Dgram} (hr : SReq req) (s0 : Server) (hq : SQuiet s0 req)
    (hp : s0.pers = .pb) (c0 : Client) (hidle : c0.L = Idle) (hfresh : fresh c0 (respFor s0 req))
    (now0 b : Nat) (es : List SysEv)
    (hok : (Sys.start c0 s0 now0 req (calcTimeout b)).RunOk ackTimeout es) :
    nRsp ((Sys.start c0 s0 now0 req (calcTimeout b)).run es).2 +
      nNack ((Sys.start c0 s0 now0 req (calcTimeout b)).run es).2 ≤ 1 ∧
    (((Sys.start c0 s0 now0 req (calcTimeout b)).run es).1.c.L.sendq = [] →
      nRsp ((Sys.start c0 s0 now0 req (calcTimeout b)).run es).2 +
        nNack ((Sys.start c0 s0 now0 req (calcTimeout b)).run es).2 = 1 ∨
      ∀ e ∈ es, ¬ isRspS (respFor s0 req) e) := by
  have h := (calcTimeout_ge b).1
  refine exactly_once_piggybacked hr s0 hq hp c0 hidle hfresh now0 (calcTimeout b) ackTimeout ?_ ?_ es hok
  · simp only [ackTimeout] at h; omega
  · simp only [ackTimeout, maxRetransmit] at h ⊢; omega

/-- **exactly once, piggybacked response: never neither** — a piggybacking server never sends an empty ACK, so the
    D5 situation cannot arise: whenever the client is quiet at the end of a run of the closed loop (send queue empty:
    nothing left to retransmit), the request HAS concluded, exactly once — with no side condition at all (the first
    conjunct of `exactly_once_piggybacked` gives "at most once" for every run, quiet or not). -/
theorem exactly_once_piggybacked_quiet {req : Dgram} (hr : SReq req) (s0 : Server) (hq : SQuiet s0 req)
    (hp : s0.pers = .pb) (c0 : Client) (hidle : c0.L = Idle) (hfresh : fresh c0 (respFor s0 req))
    (now0 T Δ : Nat) (hT : 0 < T) (hΔ : 2 * Δ ≤ T * 2 ^ maxRetransmit) (es : List SysEv)
    (hok : (Sys.start c0 s0 now0 req T).RunOk Δ es)
    (hquiet : ((Sys.start c0 s0 now0 req T).run es).1.c.L.sendq = []) :
    nRsp ((Sys.start c0 s0 now0 req T).run es).2 + nNack ((Sys.start c0 s0 now0 req T).run es).2 = 1 := by
  have X := exchange_of_server hr (by rw [hp]; decide : s0.pers ≠ .dn) (by rw [hp]; decide : s0.pers ≠ .da)
  have hj := start_JG hr s0 c0 hidle now0 T
  obtain ⟨h1, h2⟩ := exactly_once_piggybacked hr s0 hq hp c0 hidle hfresh now0 T Δ hT hΔ es hok
  refine (h2 hquiet).elim id (fun hno => Nat.le_antisymm h1 ?_)
  -- no copy of the response was delivered, and a piggybacking server sends no Empty ACK: the layer became idle by the NACK
  obtain ⟨_, x⟩ := sys_exch X.resp hr hq rfl Δ es _ hj hok
  rcases x.leave (start_shape hr.hcon c0 hidle now0 T).2.1 (idle_of_sendq_nil x.shape hquiet) with
    h | ⟨ce, hce, h | ⟨_, h⟩⟩
  · exact Nat.le_trans (Nat.le_of_eq h.symm) (Nat.le_add_left _ _)
  · exact absurd h ((pb_noLate X hr hq rfl hp hT hΔ es _ False _ hj (start_TI hr c0 hidle now0 T Δ) hok).2.2 ce hce)
  · exact absurd h (no_rspS_cevs.mp hno ce hce)

/-! ### the hypotheses of the closed-loop theorems are satisfiable (concrete instances, by evaluation) -/

def wPb : Server := { pers := .pb, dedup := false, D := 0, T := 2500, txMid := 5000 }

def wAc : Server := { pers := .ac, dedup := true, D := 300, T := 2500, txMid := 5000 }

/-- `exactly_once_piggybacked`, `exactly_once_piggybacked_quiet`: the first copy of the request reaches the server but its response is lost, the client
    retransmits at 3000, that copy is answered, the response arrives twice (duplicated, the second copy 1800 ms
    late), the timer keeps running: every hypothesis holds with Δ = ACK_TIMEOUT, one handler call, no NACK -/
example :
    let es : List SysEv := [.toS 1000 1500 wReq, .cTick 3000, .toS 3000 3100 wReq,
                            .toC 3100 3300 (respFor wPb wReq) true, .toC 3100 4900 (respFor wPb wReq) true, .cTick 9000]
    SReq wReq ∧ SQuiet wPb wReq ∧ fresh {} (respFor wPb wReq) ∧ 2 * ackTimeout ≤ 2000 * 2 ^ maxRetransmit ∧
    (Sys.start {} wPb 1000 wReq 2000).RunOk ackTimeout es ∧
    nRsp ((Sys.start {} wPb 1000 wReq 2000).run es).2 = 1 ∧ nNack ((Sys.start {} wPb 1000 wReq 2000).run es).2 = 0 ∧
    ((Sys.start {} wPb 1000 wReq 2000).run es).1.c.L.sendq = [] := by
  refine ⟨⟨by decide, by decide⟩, ⟨by decide, by decide, by decide, by decide, by decide⟩,
    ⟨fun _ => by decide, fun _ => by decide⟩, by decide, by decide, by decide, by decide, by decide⟩

/-- `exactly_once_closed_loop_partial`: the de-duplicating async server `ac+`: request, empty ACK, the async fires at
    1400, the separate response arrives, is acknowledged, the ACK reaches the server, a duplicate of the response
    arrives later and is acknowledged again but not re-delivered -/
example :
    let r := respFor wAc wReq
    let es : List SysEv := [.toS 1000 1100 wReq, .toC 1100 1200 (emptyAck 1001) true, .sTick 1400, .toC 1400 1500 r true,
                            .toS 1500 1600 (emptyAck 5001), .toC 1400 1700 r true, .sTick 5000, .cTick 5000]
    SReq wReq ∧ SQuiet wAc wReq ∧ wAc.pers ≠ .dn ∧ wAc.pers ≠ .da ∧ fresh {} r ∧
    (Sys.start {} wAc 1000 wReq 2000).RunOk ackTimeout es ∧ SysNoLate r (Sys.start {} wAc 1000 wReq 2000) es ∧
    nRsp ((Sys.start {} wAc 1000 wReq 2000).run es).2 = 1 ∧ nNack ((Sys.start {} wAc 1000 wReq 2000).run es).2 = 0 ∧
    ((Sys.start {} wAc 1000 wReq 2000).run es).1.cLog.length = 3 := by
  refine ⟨⟨by decide, by decide⟩, ⟨by decide, by decide, by decide, by decide, by decide⟩, by decide, by decide,
    ⟨fun _ => by decide, fun _ => by decide⟩, by decide, by decide, by decide, by decide, by decide⟩

end Coap.C07
