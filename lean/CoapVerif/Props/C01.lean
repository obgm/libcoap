import CoapVerif.Lemmas.EditTrace
import CoapVerif.Lemmas.WsWriter
/-
C01 — wire codec round trip for every API-built message on every transport.

  S = Coap.Spec.encode / Coap.Spec.decode, abstract API semantics Spec.insertStable …   (Spec/Encode.lean, Spec/Codec.lean)
  M = Coap.M.addToken … Coap.M.encodeHeader                                              (Model/Build.lean)
  T1: Generated.nonRepeatable and the constants, regenerated from /repo on every run.

Property theorems only.  The S half (round trip, canonicity, insertion order; all messages, all three framings) rests on
Lemmas/Encode.lean; the M half (`M_encode_eq_S`, `view_of_built`, `build_view`: EVERY script of API calls, refusals included,
run by M on a representing PDU) on Lemmas/Build.lean and C04's refinement lemmas (Lemmas/EditItems, EditPatch, EditRefine,
EditApi, EditTrace); the WebSocket WRITE side (RFC 8323 §4 over RFC 6455 §5.2: Model/WsWriter.lean = coap_ws_write /
coap_ws_close with the partial-write fix, Spec/WsFrame.lean = the RFC 6455 frame grammar, read back by C05's reader) on
Lemmas/WsWriter.lean.  What a theorem claims of libcoap is said at the theorem; design/C01.md has the statements in words.
-/
namespace Coap.C01
open Coap Coap.M

/-! ### T1: the code's tables and constants -/

/-- the constants the model is written with are the ones in the current headers -/
theorem constants_match :
    Generated.tokenExtMax = 65804 ∧ Generated.maxPduRx = 8388864 ∧ Generated.maxHdrSize = 6 ∧
    Generated.tcpOfs8 = 13 ∧ Generated.tcpOfs16 = 269 ∧ Generated.tcpOfs32 = 65805 ∧
    Generated.tokBias1 = 13 ∧ Generated.tokBias2 = 269 ∧
    Generated.optHopLimit = 16 ∧ Generated.optProxyUri = 35 ∧ Generated.optProxyScheme = 39 := by decide

/-- D14: libcoap refuses a repetition only for options the RFCs define as not repeatable -/
theorem refused_repetitions_are_illegal : ∀ n ∈ Generated.nonRepeatable, n ∈ Spec.nonRepeatable := by decide

/-! ### the 13/14 scheme is a bijection on 0..65804 -/

theorem ext_roundtrip (v : Nat) (r : Bytes) (h : v ≤ 65804) :
    Spec.ext (Spec.nib v) (Spec.extBytes v ++ r) = some (v, r) := Coap.ext_roundtrip v r h

/-- every header that decodes to `v` is the canonical header of `v`: delta/length ↔ header bytes is one-to-one -/
theorem opt_header_unique {n : Nat} {bs r : Bytes} {v : Nat} (h : Spec.ext n bs = some (v, r)) :
    n = Spec.nib v ∧ bs = Spec.extBytes v ++ r ∧ v ≤ 65804 := Coap.ext_canonical h

/-! ### the round trip, every framing, every well-formed message -/

/-- `decode (encode m) = m` (modulo D3 on reliable transports), by induction over the option list -/
theorem decode_encode (p : Proto) (m : Msg) (h : Spec.WF p m) :
    Spec.decode p (Spec.encode p m) = some (Spec.onWire p m) := Coap.decode_encode p m h

/-- the encoding is well-formed under the RFC grammar: the RFC decoder accepts it -/
theorem encode_wellformed (p : Proto) (m : Msg) (h : Spec.WF p m) : (Spec.decode p (Spec.encode p m)).isSome = true := by
  rw [Coap.decode_encode p m h]; rfl

/-- … and by `parse_eq` (Lemmas/Parse, the lemma under C03's `parse_eq_spec`) libcoap's decoding algorithm returns exactly that
message -/
theorem parse_encode (p : Proto) (m : Msg) (h : Spec.WF p m) :
    (M.parse p (Spec.encode p m)).toOption = some (Spec.onWire p m) := by
  rw [parse_eq, Coap.decode_encode p m h]

/-- the option area is canonical: whatever decodes to `os` is `encOpts os` (bytes ↔ options is an isomorphism) -/
theorem opts_canonical (code fuel prev : Nat) (bs : Bytes) (os : List (Nat × Bytes)) (rest : Bytes)
    (h : Spec.opts code fuel prev bs = some (os, rest)) :
    bs = Spec.encOpts prev os ++ rest ∧ Spec.optsOk code prev os = true := by
  have := Coap.opts_canonical code fuel prev bs os rest h
  exact ⟨this.1, this.2.1⟩

/-- on the datagram framing, what decodes to `m` IS `encode m` -/
theorem encode_decode_udp (bs : Bytes) (m : Msg) (h : Spec.decode .udp bs = some m) : Spec.encode .udp m = bs := by
  -- the four header bytes are put together again from the fields read out of them; behind them `body_canonical`
  have byte0 : ∀ b : Nat, b < 256 → b / 64 = 1 → 64 + b / 16 % 4 * 16 + b % 16 = b := fun _ _ _ => by omega
  have mid2 : ∀ a b : Nat, b < 256 → (a * 256 + b) / 256 = a ∧ (a * 256 + b) % 256 = b := fun _ _ _ => by omega
  match bs, h with
  | [], h | [_], h | [_, _], h | [_, _, _], h => simp [Spec.decode] at h
  | b0 :: c :: m1 :: m2 :: rest, h =>
    simp only [Spec.decode] at h
    by_cases hv : b0.toNat / 64 = 1
    · simp only [hv, if_true] at h
      have hb := byte0 _ (byte_lt b0) hv
      have hmm := mid2 m1.toNat _ (byte_lt m2)
      have em1 : UInt8.ofNat ((m1.toNat * 256 + m2.toNat) / 256) = m1 := ofNat_eq_of_toNat hmm.1
      have em2 : UInt8.ofNat ((m1.toNat * 256 + m2.toNat) % 256) = m2 := ofNat_eq_of_toNat hmm.2
      by_cases hc : c.toNat = 0
      · rw [hc] at h
        obtain ⟨htk, rfl, rfl⟩ := body_canonical0 h
        have eb : UInt8.ofNat (64 + b0.toNat / 16 % 4 * 16 + 0) = b0 := ofNat_eq_of_toNat (by rw [← htk]; exact hb)
        have ec : UInt8.ofNat 0 = c := ofNat_eq_of_toNat hc.symm
        simp only [Spec.encode, Spec.encToken, Spec.encRest, Spec.encOpts, Spec.encPayload, Spec.extBytes,
          List.length_nil, show Spec.nib 0 = 0 from rfl, eb, ec, em1, em2]
        simp
      · obtain ⟨hty, hcd, hmid, htk, _, hrest, _⟩ := body_canonical hc h
        have eb : UInt8.ofNat (64 + m.type * 16 + Spec.nib m.token.length) = b0 := by
          rw [hty, ← htk]; exact ofNat_eq_of_toNat hb
        have ec : UInt8.ofNat m.code = c := by rw [hcd]; exact UInt8.ofNat_toNat
        rw [← hmid] at em1 em2
        simp only [Spec.encode, eb, ec, em1, em2, hrest, Spec.encRest]
        rfl
    · simp [hv] at h

/-! ### any insertion order: ascending numbers, insertion order kept among equal numbers -/

theorem build_sorted (xs : List (Nat × Bytes)) :
    (xs.foldl (fun os x => Spec.insertStable x.1 x.2 os) []).Pairwise (fun a b => a.1 ≤ b.1) := Coap.build_sorted xs

theorem build_stable (xs : List (Nat × Bytes)) (k : Nat) :
    (xs.foldl (fun os x => Spec.insertStable x.1 x.2 os) []).filter (fun o => o.1 == k) = xs.filter (fun o => o.1 == k) :=
  Coap.build_stable xs k

/-! ### M side: the PDU the builders produce -/

/-- M's bytes = S's bytes: `coap_pdu_encode_header` + the buffer of the PDU that represents `a` is `Spec.encode p a`,
for udp, tcp (all four length forms) and ws -/
theorem M_encode_eq_S (p : Proto) (ms : Nat) (a : Msg) (hty : a.type < 4) (hcode : a.code < 256) (hmid : a.mid < 65536)
    (ht : a.token.length ≤ 65804) (hlen : p = .tcp → (Spec.encRest a).length < 65805 + 4294967296) :
    serialise p (conc ms a) = some (Spec.encode p a) := serialise_conc p ms a ht

/-- the decoder's view of the representing PDU is the abstract message (values within the RFC length limits) -/
theorem view_of_built (ms : Nat) (a : Msg) (hc : a.code ≠ 0) (ht : a.token.length ≤ 65804)
    (ho : Spec.optsOk a.code 0 a.opts = true) : view (conc ms a) = some a := view_conc ms a hc ht ho

/-- `coap_add_option` on the append path is `appendOption`: no payload yet, value fits the length field, not an
illegal repetition, and the call does not trigger the implicit Hop-Limit (D13) -/
theorem addOption_is_append (pdu : Pdu) (n : Nat) (v : Bytes) (hd : pdu.data = none) (hv : v.length ≤ 65804)
    (hrep : ¬ (n = pdu.maxOpt ∧ ¬ repeatable n = true)) (hn : pdu.maxOpt ≤ n)
    (hhop : ¬ ((pdu.code ≠ 0 ∧ pdu.code < 32) ∧ (n = 35 ∨ n = 39) ∧ ¬ hasOption pdu 16 = true)) :
    addOption pdu n v = appendOption pdu n v := by
  have h1 : ¬ (v.length > 65804) := by omega
  have h2 : ¬ (n < pdu.maxOpt) := by omega
  simp only [addOption, hd, Option.isSome_none, Bool.false_eq_true, if_false, addOptionInternal, addInternalK, h1, hrep, hhop,
    bind, R.bind, h2]
  cases appendOption pdu n v with
  | ok r => simp
  | rej => rfl
  | oob => rfl

/-- the special case of `build_view` for one accepted call on the APPEND path: it maps the PDU that represents `a` to the
PDU that represents the abstract result (stable insertion = append behind the highest number), and the return value is
the encoded size -/
theorem build_view_partial (ms : Nat) (a : Msg) (n : Nat) (v : Bytes) (hs : Shape a) (hp : a.payload = [])
    (hn : lastNum a.opts ≤ n) (hn2 : n ≤ 65535) (hv : v.length ≤ 65804)
    (hrep : ¬ (n = lastNum a.opts ∧ ¬ repeatable n = true))
    (hhop : ¬ ((a.code ≠ 0 ∧ a.code < 32) ∧ (n = 35 ∨ n = 39)))
    (hfit : ms = 0 ∨ (conc ms a).buf.length + (Spec.encOpt (n - lastNum a.opts) v).length ≤ ms) :
    addOption (conc ms a) n v =
      R.ok ((Spec.encOpt (n - lastNum a.opts) v).length, conc ms { a with opts := Spec.insertStable n v a.opts }) := by
  have hd : (conc ms a).data = none := by simp [conc, hp]
  rw [addOption_is_append (conc ms a) n v hd hv hrep hn (fun h => hhop ⟨h.1, h.2.1⟩)]
  rw [insertStable_append n v a.opts hs.2.1 hn]
  exact appendOption_conc ms a n v hn hn2 hfit

theorem build_token (ms ty code mid : Nat) (t : Bytes) (ht : t.length ≤ 65804)
    (hfit : ms = 0 ∨ (Spec.extBytes t.length).length + t.length ≤ ms) :
    addToken (conc ms ⟨ty, code, mid, [], [], []⟩) t = R.ok (1, conc ms ⟨ty, code, mid, t, [], []⟩) :=
  addToken_conc ms ty code mid t ht hfit

theorem build_payload (ms : Nat) (a : Msg) (d : Bytes) (hp : a.payload = []) (hd : d ≠ [])
    (hfit : ms = 0 ∨ (conc ms a).buf.length + d.length + 1 ≤ ms) :
    addData (conc ms a) d = R.ok (1, conc ms { a with payload := d }) := addData_conc ms a d hp hd hfit

/-- For EVERY call list (token, options in any order through coap_add_option / coap_insert_option and
its six header-rewrite cases, updates, removals, token replacements, payload; any capacity, so with refusals at any
step) M never leaves the buffer and ends on the PDU that represents the abstract message `a` obtained from `a₀` by the
specification's steps with exactly M's return codes (`Trace`: accepted = the abstract operation, D13's Hop-Limit only
where allowed; refused = nothing); and the decoder's view of that PDU is `a`
whenever the caller kept the RFC length limits. -/
theorem build_view (ms : Nat) (a₀ : Msg) (cs : List Call) (hs : Shape a₀) (hc : ∀ c ∈ cs, callNumOk c) :
    ∃ rcs a, run (conc ms a₀) cs = R.ok (rcs, conc ms a) ∧ Trace a₀ cs rcs a ∧ Shape a ∧
      (a.code ≠ 0 → Spec.optsOk a.code 0 a.opts = true → view (conc ms a) = some a) := by
  obtain ⟨rcs, a, h1, h2, h3⟩ := run_refines ms a₀ cs hs hc
  exact ⟨rcs, a, h1, h2, h3, fun hcode ho => view_conc ms a hcode h3.1 ho⟩

/-- … in particular from the PDU `coap_pdu_init` returns -/
theorem build_view_fresh (ty code mid ms : Nat) (pdu : Pdu) (cs : List Call) (hi : pduInit ty code mid ms = some pdu)
    (hc : ∀ c ∈ cs, callNumOk c) :
    ∃ rcs a, run pdu cs = R.ok (rcs, conc ms a) ∧ Trace ⟨ty, code, mid, [], [], []⟩ cs rcs a ∧ Shape a := by
  have hp : pdu = conc ms ⟨ty, code, mid, [], [], []⟩ := by
    unfold pduInit at hi
    split at hi
    · cases hi
    · injection hi with hi; rw [← hi]; rfl
  rw [hp]
  have hs : Shape ⟨ty, code, mid, [], [], []⟩ := ⟨by simp, by simp, by simp⟩
  obtain ⟨rcs, a, h1, h2, h3⟩ := run_refines ms _ cs hs hc
  exact ⟨rcs, a, h1, h2, h3⟩

/-- every accepted step of a `Trace` is the specification's operation: for the option calls `Spec.applyEdit`, i.e.
stable insertion / first-match replacement / first-match removal (so `build_sorted`, `build_stable` apply to what M built) -/
theorem accepted_step_is_spec (hop : Bool) (a : Msg) (n : Nat) (v : Bytes) :
    callSem hop a (.addOption n v) = { a with opts := Spec.addSem hop n v a.opts } ∧
    callSem hop a (.insertOption n v) = { a with opts := Spec.addSem hop n v a.opts } ∧
    callSem hop a (.updateOption n v) =
      { a with opts := if Spec.hasOpt n a.opts then Spec.replaceFirst n v a.opts else Spec.addSem hop n v a.opts } ∧
    callSem hop a (.removeOption n) = { a with opts := Spec.removeFirst n a.opts } :=
  ⟨rfl, rfl, rfl, rfl⟩

/-- WHEN the builders refuse: a coap_add_token that is not first / too long / without space, an append without space
and a coap_add_data with a payload present / without space return 0 and leave the PDU exactly as it was -/
theorem refused_when (ms : Nat) (a : Msg) :
    (∀ t, ((conc ms a).buf ≠ [] ∨ t.length > 65804 ∨ (ms ≠ 0 ∧ (Spec.extBytes t.length).length + t.length > ms)) →
        addToken (conc ms a) t = R.ok (0, conc ms a)) ∧
    (∀ n v, (ms ≠ 0 ∧ (conc ms a).buf.length + optEncodeSize ((n - lastNum a.opts) % 65536) v.length > ms) →
        appendOption (conc ms a) n v = R.ok (0, conc ms a)) ∧
    (∀ d, d ≠ [] → (a.payload ≠ [] ∨ (ms ≠ 0 ∧ (conc ms a).buf.length + d.length + 1 > ms)) →
        addData (conc ms a) d = R.ok (0, conc ms a)) :=
  ⟨fun t h => addToken_refused ms a t h, fun n v h => appendOption_refused ms a n v h,
   fun d hd h => addData_refused ms a d hd h⟩

/-- Every refused call of every kind — coap_add_token, coap_add_option,
coap_insert_option, coap_update_option, coap_remove_option, coap_update_token, coap_add_data, whatever the reason (value
too long, illegal repetition, no space at any of the places where space is tested, payload present, nothing to remove)
— on the PDU representing any abstract message the API can produce leaves that PDU exactly as it was: the same bytes,
`max_opt` and payload offset, hence the same view.  In particular a refused Proxy-Uri / Proxy-Scheme takes its implicit
Hop-Limit with it (libcoap's fix; the code before it left the Hop-Limit in, so the statement held only outside `hopDomain`). -/
theorem refused_is_noop (ms : Nat) (a : Msg) (c : Call) (pdu' : Pdu) (hs : Shape a) (hc : callNumOk c)
    (h : call (conc ms a) c = R.ok (0, pdu')) : pdu' = conc ms a ∧ view pdu' = view (conc ms a) := by
  rw [call_conc ms a c hs hc] at h
  injection h with h
  injection h with h1 h2
  have hstep := absCall_step ms a c
  rw [h1] at hstep
  have : pdu' = conc ms a := by
    rw [← h2]
    generalize (absCall ms a c).2 = a' at hstep
    cases hstep with
    | accepted rc hop hne _ => exact absurd rfl hne
    | refused => rfl
  exact ⟨this, by rw [this]⟩

/-- … and over whole scripts: the calls that return 0 can be deleted from any script without changing where it ends -/
theorem refused_calls_are_skippable (ms : Nat) (a : Msg) (c : Call) (cs : List Call) (rcs : List Nat) (pdu' : Pdu)
    (hs : Shape a) (hc : callNumOk c) (h : run (conc ms a) (c :: cs) = R.ok (0 :: rcs, pdu')) :
    run (conc ms a) cs = R.ok (rcs, pdu') := by
  simp only [run] at h
  cases hcall : call (conc ms a) c with
  | rej => simp [hcall] at h
  | oob => simp [hcall] at h
  | ok r =>
    obtain ⟨rc, p1⟩ := r
    simp only [hcall] at h
    cases hrun : run p1 cs with
    | rej => simp [hrun] at h
    | oob => simp [hrun] at h
    | ok q =>
      obtain ⟨rcs', p2⟩ := q
      simp only [hrun, R.ok.injEq, Prod.mk.injEq, List.cons.injEq] at h
      obtain ⟨⟨rfl, rfl⟩, rfl⟩ := h
      rw [(refused_is_noop ms a c p1 hs hc hcall).1] at hrun
      exact hrun

/-- the replay of the finding hop-limit-left-by-refused-proxy (build udp 12 0 1 1 O35:*20*1): on a GET with room for 12 bytes, adding a
20-byte Proxy-Uri returns 0 — and nothing is left behind.  libcoap before the fix left the Hop-Limit:
`R.ok (0, conc 12 ⟨0, 1, 1, [], [(16, [16])], []⟩)`. -/
theorem refused_proxy_leaves_nothing :
    addOption (conc 12 ⟨0, 1, 1, [], [], []⟩) 35 (List.replicate 20 0x61) =
      R.ok (0, conc 12 ⟨0, 1, 1, [], [], []⟩) := by decide

/-! ### WebSocket write side: coap_ws_write / coap_ws_close (RFC 8323 §4, RFC 6455 §5.2) -/

section WsWrite
open Coap.M.WsW Coap.WsW Coap.Spec.Stream.Ws

/-- **(a)** what coap_ws_write builds for ANY payload shorter than 2^63 bytes, either role, any masking key is exactly
ONE RFC 6455 frame (whatever follows it, `rest`, is left over): FIN = 1, RSV = 0, opcode 2 (binary), MASK set iff the
writer is the client (then the key is in the header), the length in its MINIMAL form (`Spec.WsFrame.decode` refuses the
16-bit form for ≤ 125 and the 64-bit form for ≤ 65535 or ≥ 2^63), application data = the payload; and on the wire the
payload is `header ++ body` with `body[j] = payload[j] XOR key[j mod 4]` for the client, the payload itself for the server -/
theorem ws_frame_wellformed (role : Role) (key data rest : Bytes) (hk : key.length = 4) (hn : data.length < 2 ^ 63) :
    Spec.WsFrame.decode (frame role key data ++ rest) =
      some (⟨true, 0, 2, role = .client, (match role with | .client => key | .server => []), data⟩, rest) ∧
    frame role key data = header role key data.length ++ bodyBytes role key 0 data ∧
    (∀ j, (bodyBytes .client key 0 data)[j]? = data[j]?.map (· ^^^ key.getD (j % 4) 0)) ∧
    bodyBytes .server key 0 data = data := by
  refine ⟨?_, rfl, fun j => ?_, rfl⟩
  · rw [decode_frame role key data rest hk hn]; cases role <;> rfl
  · have := maskData_get key data 0 j
    rw [Nat.zero_add] at this
    exact this

/-- the Close frame coap_ws_close writes: one frame, FIN = 1, RSV = 0, opcode 8, MASK iff client, two bytes of
application data = the status code, most significant byte first (RFC 6455 §5.5.1) -/
theorem ws_close_frame_wellformed (role : Role) (key rest : Bytes) (reason : Nat) (hk : key.length = 4) :
    Spec.WsFrame.decode (closeFrame role key reason ++ rest) =
      some (⟨true, 0, 8, role = .client, (match role with | .client => key | .server => []),
             [u8 (reason / 2 ^ 8), u8 reason]⟩, rest) := by
  rw [decode_closeFrame role key rest reason hk]; cases role <;> rfl

/-- coap_ws_write itself, from a writer with no frame part way and a lower layer that takes what it is offered: it
returns `datalen`, what it hands down is exactly `frame` (so (a) is about the bytes WRITTEN), and it is idle again -/
theorem ws_write_whole (st : St) (key data : Bytes) (lw : Nat → Int) (hk : key.length = 4) (hidle : Idle st)
    (hall : lw (frame st.role key data).length = ((frame st.role key data).length : Int)) :
    (wsWrite st key data lw).1 = (data.length : Int) ∧ (wsWrite st key data lw).2.2 = frame st.role key data ∧
    Idle (wsWrite st key data lw).2.1 ∧ (wsWrite st key data lw).2.1.role = st.role := by
  have hF := fLen_eq st.role key data
  have hH := hLen_ge st.role key data
  have hfl : (frame st.role key data).length = fLen st.role key data := rfl
  rw [hfl] at hall
  have hlw : lw (fLen st.role key data - 0) ≤ ((fLen st.role key data - 0 : Nat) : Int) := by
    rw [Nat.sub_zero, hall]; exact Int.le_refl _
  obtain ⟨hw, hrep, hrole, _, hret⟩ := wsWrite_step st key data 0 lw hk (Rep_zero st key data hidle) (by omega) _ rfl hlw _ rfl
  simp only [Nat.zero_sub, List.drop_zero, Nat.sub_zero, Nat.zero_add, hall, Int.toNat_natCast] at hw hrep hret hrole
  refine ⟨?_, ?_, ?_, hrole⟩
  · rw [hret (Int.natCast_nonneg _)]; congr 1; omega
  · rw [hw, ← hfl]; exact List.take_length
  · rw [← hrole] at hrep; exact Idle_of_Rep_full _ key data hrep

/-- coap_ws_close on a session that is up and has not sent a Close: the lower layer is handed exactly the Close frame
with the status code (1000 when none was set), and from then on coap_ws_write writes nothing and returns 0 -/
theorem ws_close_then_silent (st : St) (key : Bytes) (hup : st.up = true) (hsc : st.sentClose = false) :
    (wsClose st key lwAll).2 = closeFrame st.role key (if st.closeReason = 0 then 1000 else st.closeReason) ∧
    ∀ key' data lw, wsWrite (wsClose st key lwAll).1 key' data lw = (0, (wsClose st key lwAll).1, []) := by
  constructor
  · simp [wsClose, hup, hsc, lwAll]
  · intro key' data lw
    apply wsWrite_down
    right
    simp only [wsClose, hup, hsc, Bool.not_false, Bool.and_self, if_true]
    cases st.role <;> rfl

/-- several frames back to back parse as that sequence of frames under the RFC 6455 grammar -/
theorem ws_frames_wellformed (role : Role) (msgs : List (Bytes × Bytes)) (hk : ∀ m ∈ msgs, m.1.length = 4)
    (hn : ∀ m ∈ msgs, m.2.length < 2 ^ 63) :
    Spec.WsFrame.decodeAll (msgs.length + 1) (writeAll role msgs) = some (msgs.map (frameOf role)) :=
  decodeAll_writeAll role msgs _ (Nat.lt_succ_self _) hk hn

/-- the receiver specification of C05 (S_ws, role opposite to the writer's) on a written frame followed by `rest`:
the payload as one data frame - one CoAP message if it decodes, nothing for an empty payload - then `rest` -/
theorem ws_spec_reads_written (role : Role) (key data rest : Bytes) (hk : key.length = 4) (hn : data.length ≤ maxFrame) :
    frames (readerMode role) ((frame role key data ++ rest).length + 1) (frame role key data ++ rest) =
      ((if data.length = 0 then (frames (readerMode role) (rest.length + 1) rest).1
        else Spec.Stream.deliver (Spec.decode .ws data) (frames (readerMode role) (rest.length + 1) rest).1),
       (frames (readerMode role) (rest.length + 1) rest).2) :=
  frOf_written role key data rest hk hn

/-- what C05's receiver specification delivers for the written encodings of well-formed messages is those messages
(`decode_encode` per payload; an encoding is never empty) -/
theorem delivered_encode : ∀ (ms : List (Bytes × Msg)), (∀ m ∈ ms, Spec.WF .ws m.2) →
    delivered (ms.map fun m => (m.1, Spec.encode .ws m.2)) = ms.map fun m => Spec.onWire .ws m.2 := by
  intro ms
  induction ms with
  | nil => intro _; rfl
  | cons m rest ih =>
    intro h
    have hne : ¬ (Spec.encode .ws m.2).length = 0 := by simp [Spec.encode]
    simp only [List.map_cons, delivered, hne, if_false, Coap.decode_encode .ws m.2 (h m (List.mem_cons_self ..)),
      Spec.Stream.deliver, ih (fun x hx => h x (List.mem_cons_of_mem _ hx))]

/-- **(b)** write → read round trip: the bytes coap_ws_write produces for the encoding of a well-formed CoAP message
(`Spec.encode .ws`, = M's serialisation by `M_encode_eq_S`), cut into ANY chunks and fed to M's reader of the opposite
role (coap_ws_read / coap_read_session, handshake done; = S_ws by C05's `feed_spec`), come out as exactly that message
(`decode_encode`), and the session stays open -/
theorem ws_write_read_roundtrip (role : Role) (accept key : Bytes) (m : Msg) (chunks : List Bytes) (hk : key.length = 4)
    (hwf : Spec.WF .ws m) (hlen : (Spec.encode .ws m).length ≤ maxFrame)
    (hc : chunks.flatten = frame role key (Spec.encode .ws m)) :
    wsObs (Coap.M.Ws.feed (readerMode role) accept { up := true } chunks) = ([Spec.onWire .ws m], .open true) := by
  have h := feed_writeAll role accept [(key, Spec.encode .ws m)] chunks (by simpa using hk) (by simpa using hlen)
    (by simpa [writeAll] using hc)
  rw [h]
  have := delivered_encode [(key, m)] (by simpa using hwf)
  simp only [List.map_cons, List.map_nil] at this
  rw [this]

/-- … for arbitrary payloads (not only CoAP messages): every written payload is read back as one data frame -/
theorem ws_payload_roundtrip (role : Role) (accept : Bytes) (msgs : List (Bytes × Bytes)) (chunks : List Bytes)
    (hk : ∀ m ∈ msgs, m.1.length = 4) (hn : ∀ m ∈ msgs, m.2.length ≤ maxFrame)
    (hc : chunks.flatten = writeAll role msgs) :
    wsObs (Coap.M.Ws.feed (readerMode role) accept { up := true } chunks) = (delivered msgs, .open true) :=
  feed_writeAll role accept msgs chunks hk hn hc

/-- **(c)** several messages written back to back (each with its own masking key), the bytes cut into ANY chunks:
the reader delivers the same messages in the same order -/
theorem ws_write_sequence_roundtrip (role : Role) (accept : Bytes) (ms : List (Bytes × Msg)) (chunks : List Bytes)
    (hk : ∀ m ∈ ms, m.1.length = 4) (hwf : ∀ m ∈ ms, Spec.WF .ws m.2)
    (hlen : ∀ m ∈ ms, (Spec.encode .ws m.2).length ≤ maxFrame)
    (hc : chunks.flatten = writeAll role (ms.map fun m => (m.1, Spec.encode .ws m.2))) :
    wsObs (Coap.M.Ws.feed (readerMode role) accept { up := true } chunks) =
      (ms.map fun m => Spec.onWire .ws m.2, .open true) := by
  rw [feed_writeAll role accept _ chunks
    (List.forall_mem_map.2 hk)
    (List.forall_mem_map.2 hlen) hc, delivered_encode ms hwf]

/-- **partial writes, one message**: from a writer with no frame part way, the caller's loop (offer what was not taken
until everything is) under ANY sequence of lower-layer behaviours that never take more than offered (each may take
nothing, a part of the header, a part of the payload, or fail): the wire always holds a prefix of THE frame of the
message; when the loop reports that everything was taken it holds exactly that one frame and the writer is idle again.
(Before the libcoap fix the rest of a partly taken frame was dropped and the next frame started inside it.) -/
theorem ws_partial_writes_one_frame (st : St) (key data : Bytes) (lws : List (Nat → Int)) (hk : key.length = 4)
    (hd : 0 < data.length) (hidle : Idle st) (hs : ∀ lw ∈ lws, Sane lw) :
    (∃ m, (sendAll key lws st data).2.2 = (frame st.role key data).take m) ∧
    ((sendAll key lws st data).1 = true →
      (sendAll key lws st data).2.2 = frame st.role key data ∧ Idle (sendAll key lws st data).2.1) :=
  ⟨(sendAll_idle st key data lws hk hd hidle hs).1, (sendAll_idle st key data lws hk hd hidle hs).2.2⟩

/-- **partial writes, several messages**: messages sent one after the other from a writer with no frame part way, ANY
partial-write pattern for each: the wire always holds a prefix of the frames of the messages in order (never a frame started
inside another), and when every message was reported sent it holds exactly those frames and the writer is idle again -/
theorem ws_partial_writes_sequence (ms : List (Bytes × Bytes × List (Nat → Int))) (st : St) (hidle : Idle st)
    (h : ∀ m ∈ ms, m.1.length = 4 ∧ 0 < m.2.1.length ∧ ∀ lw ∈ m.2.2, Sane lw) :
    (∃ k, (sendMsgs ms st).2.2 = (writeAll st.role (ms.map fun m => (m.1, m.2.1))).take k) ∧
    ((sendMsgs ms st).1 = true →
      (sendMsgs ms st).2.2 = writeAll st.role (ms.map fun m => (m.1, m.2.1)) ∧ Idle (sendMsgs ms st).2.1) :=
  sendMsgs_spec ms st hidle h

/-- **end to end**: CoAP messages sent one after the other through coap_ws_write under any partial-write pattern, all
reported sent; the bytes that reached the wire cut into any chunks and read by the peer: the peer gets exactly those
messages, in order -/
theorem ws_send_receive (accept : Bytes) (ms : List (Bytes × Msg × List (Nat → Int))) (st : St) (chunks : List Bytes)
    (hidle : Idle st) (hk : ∀ m ∈ ms, m.1.length = 4) (hs : ∀ m ∈ ms, ∀ lw ∈ m.2.2, Sane lw)
    (hwf : ∀ m ∈ ms, Spec.WF .ws m.2.1) (hlen : ∀ m ∈ ms, (Spec.encode .ws m.2.1).length ≤ maxFrame)
    (hsent : (sendMsgs (ms.map fun m => (m.1, Spec.encode .ws m.2.1, m.2.2)) st).1 = true)
    (hc : chunks.flatten = (sendMsgs (ms.map fun m => (m.1, Spec.encode .ws m.2.1, m.2.2)) st).2.2) :
    wsObs (Coap.M.Ws.feed (readerMode st.role) accept { up := true } chunks) =
      (ms.map fun m => Spec.onWire .ws m.2.1, .open true) := by
  have hall : ∀ m ∈ ms.map (fun m => (m.1, Spec.encode .ws m.2.1, m.2.2)),
      m.1.length = 4 ∧ 0 < m.2.1.length ∧ ∀ lw ∈ m.2.2, Sane lw :=
    List.forall_mem_map.2 fun m hm => ⟨hk m hm, by simp [Spec.encode], hs m hm⟩
  have hw := ((sendMsgs_spec _ st hidle hall).2 hsent).1
  rw [hw, List.map_map] at hc
  have h := ws_write_sequence_roundtrip st.role accept (ms.map fun m => (m.1, m.2.1)) chunks
    (List.forall_mem_map.2 hk) (List.forall_mem_map.2 hwf)
    (by intro x hx; obtain ⟨m, hm, rfl⟩ := List.mem_map.1 hx; exact hlen m hm) (by rw [hc, List.map_map]; rfl)
  rw [h, List.map_map]; rfl

end WsWrite

/-! ### non-vacuity -/

/-- out-of-order build: an illegal repetition of Size1 refused, 300, then 3 and 290 below it (coap_add_option →
coap_insert_option; the header of the following option is rewritten each time), payload, an insertion behind the
payload's back, a removal -/
example : run (conc 0 ⟨0, 1, 7, [], [], []⟩)
    [.addToken [1], .addOption 60 [5], .addOption 60 [6], .addOption 300 [1], .addOption 3 [0x68], .addOption 290 [0x62],
     .addData [9], .insertOption 11 [0x61], .removeOption 290] =
    R.ok ([1, 3, 0, 3, 2, 3, 1, 2, 1], conc 0 ⟨0, 1, 7, [1], [(3, [0x68]), (11, [0x61]), (60, [5]), (300, [1])], [9]⟩) := by decide
example : ∃ rcs a, run (conc 0 ⟨0, 1, 7, [], [], []⟩) [.addToken [1], .addOption 300 [1], .addOption 3 [0x68]] =
    R.ok (rcs, conc 0 a) ∧ Trace ⟨0, 1, 7, [], [], []⟩ [.addToken [1], .addOption 300 [1], .addOption 3 [0x68]] rcs a ∧
    Shape a ∧ (a.code ≠ 0 → Spec.optsOk a.code 0 a.opts = true → view (conc 0 a) = some a) :=
  build_view 0 ⟨0, 1, 7, [], [], []⟩ _ ⟨by decide, by decide, by decide⟩ (by decide)
/-- refused calls (no room for Uri-Path in 3 bytes; a 20-byte Proxy-Uri after its Hop-Limit in 12 bytes, payload present) -/
example : call (conc 3 ⟨0, 1, 7, [1], [], []⟩) (.insertOption 11 [0x61, 0x62]) = R.ok (0, conc 3 ⟨0, 1, 7, [1], [], []⟩) := by decide
example : call (conc 12 ⟨0, 1, 7, [1], [(11, [0x61])], [9]⟩) (.updateOption 39 (List.replicate 20 0x61)) =
    R.ok (0, conc 12 ⟨0, 1, 7, [1], [(11, [0x61])], [9]⟩) ∧
    hopDomain ⟨0, 1, 7, [1], [(11, [0x61])], [9]⟩ (.updateOption 39 (List.replicate 20 0x61)) = true := by decide

example : Spec.WF .udp ⟨0, 1, 0x1234, [1, 2], [(11, [0x61]), (11, [0x62]), (12, [])], [0x68, 0x69]⟩ := by decide
example : Spec.encode .udp ⟨0, 1, 0x1234, [1, 2], [(11, [0x61]), (11, [0x62]), (12, [])], [0x68, 0x69]⟩ =
    [0x42, 0x01, 0x12, 0x34, 0x01, 0x02, 0xb1, 0x61, 0x01, 0x62, 0x10, 0xff, 0x68, 0x69] := by decide
example : Spec.encode .tcp ⟨0, 1, 0, [1, 2], [(11, [0x61]), (11, [0x62]), (12, [])], [0x68, 0x69]⟩ =
    [0x82, 0x01, 0x01, 0x02, 0xb1, 0x61, 0x01, 0x62, 0x10, 0xff, 0x68, 0x69] := by decide
example : Spec.WF .ws ⟨0, 69, 0, [], [(3, [0x68]), (60, [1])], [0xff]⟩ := by decide
/-- D2: an Empty message with a token is not well-formed -/
example : ¬ Spec.WF .udp ⟨0, 0, 1, [0xaa], [], []⟩ := by decide
example : [(60, [1]), (11, [0x61]), (3, [0x68]), (11, [0x62])].foldl (fun os x => Spec.insertStable x.1 x.2 os) [] =
    [(3, [0x68]), (11, [0x61]), (11, [0x62]), (60, [1])] := by decide

section WsWriteExamples
open Coap.M.WsW Coap.WsW Coap.Spec.Stream.Ws

/-- the frames for the payload `00 01 aa`, client (key 01020304) / server -/
example : frame .client [1, 2, 3, 4] [0, 1, 0xaa] = [0x82, 0x83, 1, 2, 3, 4, 1, 3, 0xa9] := by decide
example : frame .server [1, 2, 3, 4] [0, 1, 0xaa] = [0x82, 3, 0, 1, 0xaa] := by decide
/-- the three length forms on both sides of 125/126 and 65535/65536 -/
example : header .server [] 125 = [0x82, 125] ∧ header .server [] 126 = [0x82, 126, 0, 126] ∧
    header .client [1, 2, 3, 4] 65535 = [0x82, 0xfe, 0xff, 0xff, 1, 2, 3, 4] ∧
    header .server [] 65536 = [0x82, 127, 0, 0, 0, 0, 0, 1, 0, 0] := by decide
example : closeFrame .client [1, 2, 3, 4] 1000 = [0x88, 0x82, 1, 2, 3, 4, 2, 0xea] ∧
    closeFrame .server [] 1002 = [0x88, 2, 3, 0xea] := by decide
/-- the grammar refuses a length that is not in its minimal form, and an incomplete frame -/
example : Spec.WsFrame.decode [0x82, 126, 0, 3, 0, 1, 0xaa] = none ∧ Spec.WsFrame.decode [0x82, 3, 0, 1] = none := by decide
example : Spec.WsFrame.decode [0x82, 0x83, 1, 2, 3, 4, 1, 3, 0xa9, 0x55] =
    some (⟨true, 0, 2, true, [1, 2, 3, 4], [0, 1, 0xaa]⟩, [0x55]) := by decide
/-- hypotheses are satisfiable: a key, an idle writer, lower layers that take everything / at most 7 bytes / fail -/
example : ([1, 2, 3, 4] : Bytes).length = 4 ∧ ([0, 1, 0xaa] : Bytes).length < 2 ^ 63 := by decide
example : Idle {} := ⟨rfl, rfl, Or.inl rfl⟩
example : lwAll (frame .client [1, 2, 3, 4] [0, 1, 0xaa]).length = ((frame .client [1, 2, 3, 4] [0, 1, 0xaa]).length : Int) := rfl
example : wsWrite {} [1, 2, 3, 4] [0, 1, 0xaa] lwAll =
    (3, { maskKey := [1, 2, 3, 4], txHdr := [0x82, 0x83, 1, 2, 3, 4], txHdrOfs := 6, txDataOfs := 3 },
     [0x82, 0x83, 1, 2, 3, 4, 1, 3, 0xa9]) := by decide
/-- a session that is up and has not sent a Close (the defaults of `St`); Close, then a write: nothing, 0 -/
example : ({} : St).up = true ∧ ({} : St).sentClose = false := ⟨rfl, rfl⟩
example : (wsClose { role := .server, closeReason := 1002 } [] lwAll).2 = [0x88, 2, 3, 0xea] ∧
    (wsWrite (wsClose { role := .server, closeReason := 1002 } [] lwAll).1 [] [0, 1] lwAll).1 = 0 := by decide
example : Sane lwAll ∧ Sane (fun n => ((min n 7 : Nat) : Int)) ∧ Sane (fun _ => -1) :=
  ⟨sane_lwAll, fun _ => Int.ofNat_le.2 (Nat.min_le_left _ _), fun m => by show (-1 : Int) ≤ (m : Int); omega⟩
example : Spec.WF .ws ⟨0, 1, 0, [], [], []⟩ ∧ (Spec.encode .ws ⟨0, 1, 0, [], [], []⟩).length ≤ maxFrame := by decide
/-- the replay of the fixed defect (`wsw c W01020304:0001aa:7;W05060708:0002bb:a`): the lower layer takes 7 of the 9
bytes of the first frame; the caller's second call sends the 2 bytes left (masked from key offset 1) and only then the
next frame starts.  [Before the fix coap_ws_write returned 3 on the first call, the two bytes `03 a9` were never sent
and the wire read 82 83 01 02 03 04 01 | 82 83 05 06 07 08 05 04 bc: the peer takes `82 83` for payload.] -/
example : (sendMsgs [([1, 2, 3, 4], [0, 1, 0xaa], [fun n => ((min n 7 : Nat) : Int), lwAll]),
                     ([5, 6, 7, 8], [0, 2, 0xbb], [lwAll])] {}).1 = true ∧
    (sendMsgs [([1, 2, 3, 4], [0, 1, 0xaa], [fun n => ((min n 7 : Nat) : Int), lwAll]),
               ([5, 6, 7, 8], [0, 2, 0xbb], [lwAll])] {}).2.2 =
      [0x82, 0x83, 1, 2, 3, 4, 1, 3, 0xa9, 0x82, 0x83, 5, 6, 7, 8, 5, 4, 0xbc] := by decide
/-- half of the header, nothing, the rest of the header, then the payload byte by byte -/
example : (sendAll [1, 2, 3, 4] [fun _ => 3, fun _ => 0, fun _ => 3, fun _ => 1, fun _ => 1, fun _ => 1] {} [0, 1, 0xaa]) =
    (true, { maskKey := [1, 2, 3, 4], txHdr := [0x82, 0x83, 1, 2, 3, 4], txHdrOfs := 6, txDataOfs := 3 },
     [0x82, 0x83, 1, 2, 3, 4, 1, 3, 0xa9]) := by decide
/-- a client's frame for `00 01` cut in three, read by M's server-side reader -/
example : wsObs (Coap.M.Ws.feed .server [] { up := true } [[0x82, 0x82, 1], [2, 3, 4, 1], [3]]) =
    ([⟨0, 1, 0, [], [], []⟩], .open true) := by decide
end WsWriteExamples

end Coap.C01
