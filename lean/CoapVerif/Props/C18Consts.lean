import CoapVerif.Model.AllocOracle
import CoapVerif.Generated.Consts2
/-
C18 / T1 — constants of the allocation-oracle model that come from the current tree.
-/
namespace Coap.C18
open Coap Coap.Generated

/-- `coap_session_max_pdu_size_lkd` of a UDP session: COAP_DEFAULT_MTU - COAP_PDU_MAX_UDP_HEADER_SIZE -/
theorem sessMaxPdu_matches_code :
    AllocOracle.SESS_MAX_PDU = C2.COAP_DEFAULT_MTU - C2.COAP_PDU_MAX_UDP_HEADER_SIZE := by decide
/-- the observer list is unbounded in this build -/
theorem maxSubscriber_matches_code : C2.COAP_RESOURCE_MAX_SUBSCRIBER = 0 := by decide

end Coap.C18
