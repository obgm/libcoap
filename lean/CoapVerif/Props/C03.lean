import CoapVerif.Lemmas.Parse
import CoapVerif.Lemmas.OptFilter
/-
C03 — the decoder accepts exactly the well-formed messages and reports what is on the wire.

  S = Coap.Spec.decode      (RFC 7252 §3, RFC 8323 §3-5, RFC 8974 §2; CoapVerif/Spec/Codec.lean)
  M = Coap.M.parse          (transcription of coap_pdu_parse & callees; CoapVerif/Model/Parse.lean)
  M's length table = Coap.Generated.lenGroups, regenerated from /repo on every run (T1).

The property theorems, `FilterRel` and the two script runners of the option filter with their step lemma `filter_op`; the
other helper lemmas live in CoapVerif/Lemmas/Parse.lean and Lemmas/OptFilter.lean.
-/
namespace Coap.C03
open Coap Coap.M

/-- (T1) the per-option length limits libcoap enforces are the RFCs' — row by row, for every
message code, every option number and every length the wire format can express. -/
theorem optLenTable_matches_rfc : Generated.lenGroups = Spec.lenGroups := lenGroups_eq

/-- (P1) M = S: for every framing and **every** byte string, libcoap's decoding algorithm accepts
iff the RFC grammar does, and then yields the same type, code, message id, token, options, payload.
(`toOption` maps "return 0" to "not accepted"; by `parse_never_oob` the third result never occurs.) -/
theorem parse_eq_spec (p : Proto) (bs : Bytes) : (M.parse p bs).toOption = Spec.decode p bs :=
  parse_eq p bs

theorem every_wellformed_accepted (p : Proto) (bs : Bytes) (m : Msg) (h : Spec.decode p bs = some m) :
    M.parse p bs = R.ok m := by
  rw [parse_spec, h]; rfl

theorem accepted_only_if_wellformed (p : Proto) (bs : Bytes) (m : Msg) (h : M.parse p bs = R.ok m) :
    Spec.decode p bs = some m :=
  R.ofOption_eq_ok.mp ((parse_spec p bs).symm.trans h)

/-- the decoder never reads outside the message it was given: no input drives the transcribed
algorithm to an out-of-range index (the model's reads are `bs[i]?` with `oob` on `none`).
With libcoap's fix 14e688b this includes the extended-token-length bytes. -/
theorem parse_never_oob (p : Proto) (bs : Bytes) : M.parse p bs ≠ R.oob := parse_ne_oob p bs

/-- the option loop alone, for any starting point and any running option number -/
theorem walk_never_oob (code fuel : Nat) (bs : Bytes) (maxOpt : Nat) :
    walk code fuel bs maxOpt ≠ R.oob := walk_ne_oob code fuel bs maxOpt

/-! ### the clauses named in the property statement (about S, hence by `parse_eq_spec` about M) -/

/-- a reserved nibble (delta 15 other than the payload marker, or length 15) is always rejected -/
theorem reserved_nibble_rejected (code fuel prev : Nat) (b : UInt8) (r : Bytes) (hm : b ≠ 0xFF)
    (hr : b.toNat / 16 = 15 ∨ b.toNat % 16 = 15) :
    Spec.opts code (fuel + 1) prev (b :: r) = none := by
  simp only [Spec.opts, hm, if_false]
  rcases hr with h | h
  · simp [h, Spec.ext]
  · cases hE : Spec.ext (b.toNat / 16) r with
    | none => rfl
    | some p => simp [h, Spec.ext]

theorem number_above_65535_rejected (code fuel prev : Nat) (b : UInt8) (r r1 : Bytes) (d : Nat)
    (hm : b ≠ 0xFF) (hE : Spec.ext (b.toNat / 16) r = some (d, r1)) (hbig : prev + d > 65535) :
    Spec.opts code (fuel + 1) prev (b :: r) = none := by
  have : ¬ (prev + d ≤ 65535) := by omega
  simp only [Spec.opts, hm, if_false, hE]
  split
  · rfl
  · simp [this]

theorem truncated_value_rejected (code fuel prev : Nat) (b : UInt8) (r r1 r2 : Bytes) (d l : Nat)
    (hm : b ≠ 0xFF) (hE : Spec.ext (b.toNat / 16) r = some (d, r1))
    (hL : Spec.ext (b.toNat % 16) r1 = some (l, r2)) (hshort : r2.length < l) :
    Spec.opts code (fuel + 1) prev (b :: r) = none := by
  have : ¬ (l ≤ r2.length) := by omega
  simp [Spec.opts, hm, hE, hL, this]

theorem truncated_header_rejected (code fuel prev : Nat) (b : UInt8) (r : Bytes) (hm : b ≠ 0xFF)
    (h : Spec.ext (b.toNat / 16) r = none ∨
         ∃ d r1, Spec.ext (b.toNat / 16) r = some (d, r1) ∧ Spec.ext (b.toNat % 16) r1 = none) :
    Spec.opts code (fuel + 1) prev (b :: r) = none := by
  rcases h with h | ⟨d, r1, h1, h2⟩
  · simp [Spec.opts, hm, h]
  · simp [Spec.opts, hm, h1, h2]

theorem marker_without_payload_rejected (type code mid tkl : Nat) (rest : Bytes) (os : List (Nat × Bytes))
    (n : Nat) (r : Bytes) (m : UInt8) (hc : code ≠ 0) (hE : Spec.ext tkl rest = some (n, r))
    (hO : Spec.opts code (rest.length + 1) 0 (r.drop n) = some (os, [m])) :
    Spec.body type code mid tkl rest = none := by
  simp only [Spec.body, hE, hc, if_false, hO, Spec.finish]
  split <;> simp

/-- an Empty message (code 0.00) with a token, options or payload is always rejected -/
theorem nonempty_empty_rejected (type mid tkl : Nat) (rest : Bytes) (h : tkl ≠ 0 ∨ rest ≠ []) :
    Spec.body type 0 mid tkl rest = none := by
  have hz : ¬ (tkl = 0 ∧ rest = []) := fun ⟨h1, h2⟩ => h.elim (· h1) (· h2)
  unfold Spec.body
  cases Spec.ext tkl rest with
  | none => rfl
  | some p => exact ite_ind (P := (· = none)) (fun _ => by rw [if_pos rfl, if_neg hz]) fun _ => rfl

/-- the length table is enforced: an option whose value length is outside its row is rejected -/
theorem bad_length_rejected (code fuel prev : Nat) (b : UInt8) (r r1 r2 : Bytes) (d l : Nat)
    (hm : b ≠ 0xFF) (hE : Spec.ext (b.toNat / 16) r = some (d, r1))
    (hL : Spec.ext (b.toNat % 16) r1 = some (l, r2)) (hbad : Spec.optLenOk code (prev + d) l = false) :
    Spec.opts code (fuel + 1) prev (b :: r) = none := by
  simp [Spec.opts, hm, hE, hL, hbad]

/-- the accessor walk (`coap_option_next` + `coap_opt_length/value`) over an accepted message
reports exactly the options the decoder checked -/
theorem accessors_report_wire (code : Nat) : ∀ (fuel : Nat) (bs : Bytes) (maxOpt : Nat)
    (os : List (Nat × Bytes)) (rest : Bytes),
    walk code fuel bs maxOpt = R.ok (true, os, rest) → iter fuel bs maxOpt = R.ok os :=
  fun fuel bs maxOpt => (walk_iter code fuel bs maxOpt).2

/-! ### the selective accessors: option filter, filtered iteration, `coap_check_option`

`coap_check_option(pdu, number, &oi)` and `coap_option_iterator_init(pdu, &oi, filter)` + `coap_option_next` are how every
caller (the library itself and applications) reads single options of an accepted message.  M = `Coap.M.OptFilter`
(transcription of `coap_option_filter_op`, the skip loop of `coap_option_next`, `coap_check_option`), S =
`Coap.Spec.OptFilter.BSet` (a bounded duplicate-free set) and `List.filter` / `List.find?` over the decoder's option list. -/

open Coap.M.OptFilter in
/-- the representation relation between the C filter (mask + slot arrays) and the bounded set of S -/
def FilterRel (f : Flt) (s : Spec.OptFilter.BSet) : Prop :=
  f.long.length = Spec.OptFilter.capLong ∧ f.short.length = Spec.OptFilter.capShort ∧
  s.long.Perm (usedVals f.long) ∧ s.short.Perm (usedVals f.short) ∧ s.WF

open Coap.M.OptFilter in
theorem filter_clear_rel : FilterRel Flt.clear Spec.OptFilter.BSet.empty := by
  refine ⟨rfl, rfl, ?_, ?_, ?_, ?_⟩ <;> simp [Flt.clear, Spec.OptFilter.BSet.empty, usedVals, List.replicate]

open Coap.M.OptFilter in
/-- one operation on a filter that represents a bounded set, for any number: the model's `Flt.op` takes the class from
`n > 255` and the value from `n % 256`, so nothing depends on `n` fitting `coap_option_num_t` -/
theorem filter_op (f : Flt) (s : Spec.OptFilter.BSet) (h : FilterRel f s) (n : Nat) :
    f.op n Op.get = (f, if s.get n then 1 else 0) ∧
    (FilterRel (f.op n Op.set).1 (s.set n).1 ∧ (f.op n Op.set).2 = (s.set n).2) ∧
    (FilterRel (f.op n Op.clr).1 (s.clr n).1 ∧ (f.op n Op.clr).2 = (s.clr n).2) := by
  obtain ⟨hl, hs, hpl, hps, hwl, hws⟩ := h
  by_cases hc : n > 255
  · obtain ⟨hsl, hsv, hsp⟩ := opOn_set hpl n
    obtain ⟨hcl, hcv, hcp⟩ := opOn_clr hpl n
    rw [hl] at hsv hsp
    simp only [Flt.op, if_pos hc, Spec.OptFilter.BSet.get, set_long hc, Spec.OptFilter.BSet.clr, opOn_get hpl,
      decide_eq_true_eq]
    exact ⟨trivial, ⟨⟨hsl.trans hl, hs, hsp, hps, setL_nodup n hwl, hws⟩, hsv⟩, ⟨hcl.trans hl, hs, hcp, hps, hwl.erase n, hws⟩, hcv⟩
  · obtain ⟨hsl, hsv, hsp⟩ := opOn_set hps n
    obtain ⟨hcl, hcv, hcp⟩ := opOn_clr hps n
    rw [hs] at hsv hsp
    simp only [Flt.op, if_neg hc, Nat.mod_eq_of_lt (show n < 256 by omega), Spec.OptFilter.BSet.get, set_short hc,
      Spec.OptFilter.BSet.clr, opOn_get hps, decide_eq_true_eq]
    exact ⟨trivial, ⟨⟨hl, hsl.trans hs, hpl, hsp, hwl, setL_nodup n hws⟩, hsv⟩, ⟨hl, hcl.trans hs, hpl, hcp, hwl, hws.erase n⟩, hcv⟩

open Coap.M.OptFilter in
/-- (P1, one operation) for EVERY filter state that represents a bounded set and EVERY option number ≤ 65535:
FILTER_GET / FILTER_SET / FILTER_CLEAR return what the bounded set returns and leave a state representing the set's
next state (GET changes nothing).  In particular a SET is refused exactly when the number is absent and all
slots of its class are in use, and CLEAR removes exactly the number named. -/
theorem filter_op_refines (f : Flt) (s : Spec.OptFilter.BSet) (h : FilterRel f s) (n : Nat) (hn : n ≤ 65535) :
    f.op n Op.get = (f, if s.get n then 1 else 0) ∧
    (FilterRel (f.op n Op.set).1 (s.set n).1 ∧ (f.op n Op.set).2 = (s.set n).2) ∧
    (FilterRel (f.op n Op.clr).1 (s.clr n).1 ∧ (f.op n Op.clr).2 = (s.clr n).2) :=
  filter_op f s h n

abbrev FScript := List (M.OptFilter.Op × Nat)

open Coap.M.OptFilter in
def runFilterM : FScript → Flt → Flt × List Nat
  | [], f => (f, [])
  | (o, n) :: r, f => let x := f.op n o; let y := runFilterM r x.1; (y.1, x.2 :: y.2)

open Coap.M.OptFilter in
def runFilterS : FScript → Spec.OptFilter.BSet → Spec.OptFilter.BSet × List Nat
  | [], s => (s, [])
  | (Op.get, n) :: r, s => let y := runFilterS r s; (y.1, (if s.get n then 1 else 0) :: y.2)
  | (Op.set, n) :: r, s => let x := s.set n; let y := runFilterS r x.1; (y.1, x.2 :: y.2)
  | (Op.clr, n) :: r, s => let x := s.clr n; let y := runFilterS r x.1; (y.1, x.2 :: y.2)

open Coap.M.OptFilter in
/-- (P1, every history) after `coap_option_filter_clear` EVERY sequence of set / unset / get calls with option numbers
≤ 65535 returns exactly what the bounded set returns, and the final filter represents the final set — so afterwards
`coap_option_filter_get(f, m)` is true exactly for the numbers the set holds. -/
theorem filter_run_refines (sc : FScript) (hsc : ∀ x ∈ sc, x.2 ≤ 65535) :
    ∀ (f : Flt) (s : Spec.OptFilter.BSet), FilterRel f s →
      (runFilterM sc f).2 = (runFilterS sc s).2 ∧ FilterRel (runFilterM sc f).1 (runFilterS sc s).1 := by
  clear hsc
  induction sc with
  | nil => intro f s h; exact ⟨rfl, h⟩
  | cons x r ih =>
    intro f s h
    obtain ⟨o, n⟩ := x
    obtain ⟨hg, ⟨hsr, hsv⟩, hcr, hcv⟩ := filter_op f s h n
    cases o with
    | get =>
      have := ih f s h
      simp only [runFilterM, runFilterS, hg]
      exact ⟨by rw [this.1], this.2⟩
    | set =>
      have := ih _ _ hsr
      simp only [runFilterM, runFilterS]
      exact ⟨by rw [this.1, hsv], this.2⟩
    | clr =>
      have := ih _ _ hcr
      simp only [runFilterM, runFilterS]
      exact ⟨by rw [this.1, hcv], this.2⟩

open Coap.M.OptFilter in
theorem filter_get_is_membership (f : Flt) (s : Spec.OptFilter.BSet) (h : FilterRel f s) (n : Nat) :
    f.get n = s.get n := by
  have := (filter_op f s h n).1
  simp only [Flt.get, this]
  cases s.get n <;> simp

/-- S-level law the callers rely on: in a duplicate-free bounded set a number that was unset is no longer a member,
and every other number keeps its membership under set / unset of `n`. -/
theorem bset_laws (s : Spec.OptFilter.BSet) (hw : s.WF) (n m : Nat) :
    (s.clr n).1.get n = false ∧ ((s.set n).2 = 1 → (s.set n).1.get n = true) ∧
    (m ≠ n → (s.clr n).1.get m = s.get m ∧ (s.set n).1.get m = s.get m) ∧ (s.set n).1.WF ∧ (s.clr n).1.WF := by
  obtain ⟨hwl, hws⟩ := hw
  by_cases hc : n > 255
  · simp only [Spec.OptFilter.BSet.clr, M.OptFilter.set_long hc, Spec.OptFilter.BSet.get, if_pos hc, Spec.OptFilter.BSet.WF]
    refine ⟨decide_eq_false fun h => (hwl.mem_erase_iff.1 h).1 rfl, fun h => decide_eq_true (M.OptFilter.setL_mem_self h),
      fun hne => ?_, ⟨M.OptFilter.setL_nodup n hwl, hws⟩, hwl.erase n, hws⟩
    by_cases hc2 : m > 255
    · simp only [if_pos hc2, List.mem_erase_of_ne hne, M.OptFilter.setL_mem_ne hne, and_self]
    · simp only [if_neg hc2, and_self]
  · simp only [Spec.OptFilter.BSet.clr, M.OptFilter.set_short hc, Spec.OptFilter.BSet.get, if_neg hc, Spec.OptFilter.BSet.WF]
    refine ⟨decide_eq_false fun h => (hws.mem_erase_iff.1 h).1 rfl, fun h => decide_eq_true (M.OptFilter.setL_mem_self h),
      fun hne => ?_, ⟨hwl, M.OptFilter.setL_nodup n hws⟩, hwl, hws.erase n⟩
    by_cases hc2 : m > 255
    · simp only [if_pos hc2, and_self]
    · simp only [if_neg hc2, List.mem_erase_of_ne hne, M.OptFilter.setL_mem_ne hne, and_self]

/-- (P1) filtered iteration: for EVERY byte string, filter predicate and starting number, `coap_option_iterator_init`
with a filter + `coap_option_next` until NULL returns exactly the options of the unfiltered walk whose numbers pass
the filter, in message order (and is out of bounds / stops exactly where the unfiltered walk does) — although the
skip loop does not re-evaluate `opt_finished()` between skipped options. -/
theorem filtered_iteration_is_filter (flt : Nat → Bool) (fuel : Nat) (bs : Bytes) (n : Nat) (fresh : Bool) :
    M.OptFilter.iterF flt fuel bs n fresh =
      M.OptFilter.mapR (List.filter (fun o => flt o.1)) (M.iter fuel bs n) :=
  M.OptFilter.iterF_eq_filter flt fuel bs n fresh

/-- with `accessors_report_wire`: over an ACCEPTED message the filtered iteration reports exactly the decoder's options
whose numbers are in the bounded set the filter represents -/
theorem filtered_accessors_report_wire (code fuel : Nat) (bs : Bytes) (os : List (Nat × Bytes)) (rest : Bytes)
    (hw : walk code fuel bs 0 = R.ok (true, os, rest))
    (f : M.OptFilter.Flt) (s : Spec.OptFilter.BSet) (h : FilterRel f s) (hos : ∀ o ∈ os, o.1 ≤ 65535) :
    M.OptFilter.iterF f.get fuel bs 0 true = R.ok (os.filter (fun o => s.get o.1)) := by
  rw [filtered_iteration_is_filter, accessors_report_wire code fuel bs 0 os rest hw]
  simp only [M.OptFilter.mapR]
  congr 1
  apply List.filter_congr
  intro o ho
  exact filter_get_is_membership f s h o.1

/-- (P1) `coap_check_option(pdu, number, &oi)` over an accepted message returns the FIRST option carrying that number
(NULL iff there is none), for every number ≤ 65535. -/
theorem check_option_is_first (code fuel : Nat) (bs : Bytes) (os : List (Nat × Bytes)) (rest : Bytes)
    (hw : walk code fuel bs 0 = R.ok (true, os, rest)) (number : Nat) (hn : number ≤ 65535)
    (hos : ∀ o ∈ os, o.1 ≤ 65535) :
    M.OptFilter.checkOption fuel bs number = R.ok (os.find? (fun o => o.1 = number)) := by
  have hit := accessors_report_wire code fuel bs 0 os rest hw
  unfold M.OptFilter.checkOption
  rw [M.OptFilter.firstF_eq_find _ fuel bs 0 true os hit]
  congr 1
  -- the filter {number}: get m ↔ m = number
  obtain ⟨_, ⟨hrel, _⟩, _⟩ := filter_op _ _ filter_clear_rel number
  have key : ∀ o ∈ os, (M.OptFilter.Flt.clear.op number M.OptFilter.Op.set).1.get o.1 = decide (o.1 = number) := by
    intro o ho
    rw [filter_get_is_membership _ _ hrel o.1]
    by_cases hc : number > 255
    · by_cases hc2 : o.1 > 255 <;> simp [Spec.OptFilter.BSet.set, Spec.OptFilter.BSet.get, Spec.OptFilter.BSet.empty,
        Spec.OptFilter.capLong, hc, hc2] <;> omega
    · by_cases hc2 : o.1 > 255 <;> simp [Spec.OptFilter.BSet.set, Spec.OptFilter.BSet.get, Spec.OptFilter.BSet.empty,
        Spec.OptFilter.capShort, hc, hc2] <;> omega
  rw [← List.head?_filter, List.filter_congr key, List.head?_filter]

/-! non-vacuity for the filter theorems -/
example : FilterRel ((M.OptFilter.Flt.clear.op 300 M.OptFilter.Op.set).1.op 7 M.OptFilter.Op.set).1 ⟨[300], [7]⟩ := by
  refine ⟨by decide, by decide, ?_, ?_, ?_, ?_⟩ <;> decide
/-- a third long option is refused (2 slots), unset makes room again -/
example : (runFilterM [(.set, 300), (.set, 301), (.set, 302), (.clr, 300), (.set, 302), (.get, 300), (.get, 302)]
    M.OptFilter.Flt.clear).2 = [1, 1, 0, 1, 1, 0, 1] := by decide
example : M.OptFilter.checkOption 10 [0xB1, 0x61, 0x01, 0x62, 0x11, 0x63] 12 = R.ok (some (12, [0x63])) := by decide
example : M.OptFilter.checkOption 10 [0xB1, 0x61, 0x01, 0x62, 0xFF, 0x63] 12 = R.ok none := by decide
example : walk 1 10 [0xB1, 0x61, 0x01, 0x62, 0x11, 0x63] 0 =
    R.ok (true, [(11, [0x61]), (11, [0x62]), (12, [0x63])], []) := by decide

/-! ### non-vacuity: concrete strings on both sides of the accept/reject line -/

example : Spec.decode .udp [0x40, 0x01, 0x12, 0x34, 0xb1, 0x61] = some ⟨0, 1, 0x1234, [], [(11, [0x61])], []⟩ := by decide
example : M.parse .udp [0x40, 0x01, 0x12, 0x34, 0xb1, 0x61] = R.ok ⟨0, 1, 0x1234, [], [(11, [0x61])], []⟩ := by decide
example : Spec.decode .udp [0x41, 0x45, 0, 1, 0xaa, 0xc1, 0x00, 0xff, 0x68, 0x69] =
    some ⟨0, 69, 1, [0xaa], [(12, [0])], [0x68, 0x69]⟩ := by decide
/-- a delta of 65548 is rejected, not taken for option 12 (what libcoap did before its fix of the uint16_t addition) -/
example : M.parse .udp [0x40, 0x01, 0x12, 0x34, 0xe0, 0xfe, 0xff] = R.rej := by decide
example : Spec.decode .udp [0x40, 0x01, 0x12, 0x34, 0xe0, 0xfe, 0xff] = none := by decide
/-- option number 65535 is well-formed -/
example : M.parse .udp [0x60, 0x01, 0, 0, 0xe1, 0xfe, 0xf2, 0x80] = R.ok ⟨2, 1, 0, [], [(65535, [0x80])], []⟩ := by decide
example : Spec.decode .tcp [0x20, 0x01, 0xb0, 0x00] = some ⟨0, 1, 0, [], [(11, []), (11, [])], []⟩ := by decide
example : Spec.decode .tcp [0x30, 0x01, 0xb0, 0x00] = none := by decide   -- Len says 3, 2 bytes follow
example : Spec.decode .udp [0x40, 0x01, 0, 1, 0xff] = none := by decide       -- marker, no payload
example : Spec.decode .udp [0x41, 0x00, 0, 1, 0xaa] = none := by decide       -- non-empty Empty
example : Spec.decode .ws [0x0d, 0x01, 0x00, 1, 2, 3, 4, 5, 6, 7, 8, 9, 10, 11, 12, 13] =
    some ⟨0, 1, 0, [1, 2, 3, 4, 5, 6, 7, 8, 9, 10, 11, 12, 13], [], []⟩ := by decide  -- RFC 8974 token

end Coap.C03
