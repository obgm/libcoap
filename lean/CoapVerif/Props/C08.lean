import CoapVerif.Lemmas.MsgLedger
import CoapVerif.Lemmas.MsgLayerW08
/-
C08 — NSTART: a session never has more than NSTART Confirmable messages in flight; messages beyond the limit
(and anything submitted before the session is established) are held and later transmitted exactly once each, in
submission order; on failure each held Confirmable is reported by exactly one NACK; NONs are not delayed by NSTART.

  M = Coap.Msg (CoapVerif/Model/MsgLayer.lean), the message layer of libcoap after the `fix:` commits; from "The extended model" on
  Coap.MsgX (Model/MsgLayerX.lean: explicit tokens, ICMP errors, keepalive, piggy-backed responses, DTLS sessions; the ledger of a
  message), at the end Coap.MsgW (Model/MsgLayerW.lean: failing socket writes).
  `inflight l s` = number of nodes of session `s` in the send queue (sent, not yet acknowledged / reset / given up).
-/
namespace Coap.C08
open Coap Coap.SQ Coap.Msg Coap.MsgX

/-- The inductive invariant `WF` (every queued node is a CON; for every session `con_active` = number of its
nodes in the send queue ≤ NSTART ≤ 255) is kept by every event, whatever the peer sends. -/
theorem wf_step (l : L) (e : Ev) (h : WF l) : WF (step l e) := Msg.wf_step l e h

/-- (1) For every event sequence — arbitrary ACK/RST/NON/invalid-code arrivals with arbitrary ids, duplicates,
hold/connect/disconnect, retransmissions — `con_active` of every session is exactly the number of its messages
waiting for an acknowledgement in the send queue. -/
theorem con_active_eq_inflight (ss : List Sess) (t0 : Nat) (evs : List Ev) (s : Nat)
    (hss : ∀ se ∈ ss, se.conActive = 0 ∧ se.delayq = [] ∧ se.nstart ≤ 255) (hs : s < ss.length) :
    ((run (init t0 ss) evs).getS s).conActive = inflight (run (init t0 ss) evs) s :=
  ((run_reach evs _).acct (wf_init t0 ss hss) hs).1

/-- (2) For every event sequence the number of Confirmable messages in flight on a session never exceeds its
NSTART. -/
theorem inflight_le_nstart (ss : List Sess) (t0 : Nat) (evs : List Ev) (s : Nat)
    (hss : ∀ se ∈ ss, se.conActive = 0 ∧ se.delayq = [] ∧ se.nstart ≤ 255) (hs : s < ss.length) :
    inflight (run (init t0 ss) evs) s ≤ ((run (init t0 ss) evs).getS s).nstart :=
  ((run_reach evs _).acct (wf_init t0 ss hss) hs).2

/-- (3) A NON submitted on an open, established session goes out at once, whatever `con_active` is: nothing is
put on the delay queue or the send queue. -/
theorem non_not_delayed_by_nstart (l : L) (s mid r : Nat) (_hs : s < l.sess.length)
    (ho : (l.getS s).sockOpen = true) (he : (l.getS s).est = true) :
    (submit l s false mid r).out = Out.sub (some mid) :: Out.tx l.now s mid 0 false :: l.out ∧
    ((submit l s false mid r).getS s).delayq = (l.getS s).delayq ∧
    (submit l s false mid r).q = l.q := by
  simp [submit, gate, ho, he]

/-- (4a) The loop that empties the delay queue (`coap_session_connected`, run when the session comes up and
whenever an exchange finishes) transmits exactly the first `k` held messages — once each, in submission order,
and nothing else — and leaves the others held, in order. -/
theorem drain_fifo_exactly_once (fuel : Nat) (l : L) (s : Nat) (hs : s < l.sess.length) :
    ∃ (k : Nat) (added : List Out),
      ((drain fuel l s).getS s).delayq = (l.getS s).delayq.drop k ∧
      (drain fuel l s).out = added ++ l.out ∧
      added.reverse = ((l.getS s).delayq.take k).map (fun n => Out.tx l.now s n.mid n.cnt n.con) ∧
      (drain fuel l s).now = l.now := by
  refine (drain_inv (s := s) (P := fun l' => l'.sess.length = l.sess.length ∧ ∃ (k : Nat) (added : List Out),
      (l'.getS s).delayq = (l.getS s).delayq.drop k ∧ l'.out = added ++ l.out ∧
      added.reverse = ((l.getS s).delayq.take k).map (fun n => Out.tx l.now s n.mid n.cnt n.con) ∧
      l'.now = l.now) ?_ fuel l ⟨rfl, 0, [], by simp⟩).2
  rintro l1 n rest ⟨hlen, k, added, h1, h2, h3, h4⟩ hdq -
  refine ⟨(drainOne_len ..).trans hlen, k + 1, Out.tx l.now s n.mid n.cnt n.con :: added, ?_, ?_, ?_, ?_⟩
  · rw [drainOne_getS (hlen ▸ hs), ← List.drop_drop, ← h1, hdq]; rfl
  · rw [drainOne_out, h2, h4]; rfl
  · have hk : (l.getS s).delayq[k]? = some n := by
      rw [← List.head?_drop, ← h1, hdq]; rfl
    rw [List.reverse_cons, h3, List.take_add_one, hk]; simp
  · rw [drainOne_now, h4]

/-- (4b) A message that is held (gate closed: session not established, or CON beyond NSTART) is appended at the
END of the delay queue, is accepted, and nothing is transmitted or queued for retransmission. -/
theorem submit_held_appends (l : L) (s : Nat) (con : Bool) (mid r : Nat) (hs : s < l.sess.length)
    (hg : gate (l.getS s) con = true) (ho : (l.getS s).sockOpen = true)
    (hm : (l.getS s).delayq.any (fun x => x.mid = mid) = false) :
    ((submit l s con mid r).getS s).delayq = (l.getS s).delayq ++
      [{ sess := s, mid := mid, t := 0,
         timeout := if con then calcTimeout (l.getS s).atI (l.getS s).atF (l.getS s).arfI (l.getS s).arfF r else 0,
         cnt := 0, tok := mid, con := con }] ∧
    (submit l s con mid r).out = Out.sub (some mid) :: l.out ∧ (submit l s con mid r).q = l.q :=
  Msg.submit_held_appends l s con mid r hs hg ho hm

/-- (4) For EVERY event, the delay queue of every session evolves only by a sequence of `DqStep`s: a message
being appended at its END (`push`: held, nothing is transmitted by that step), its HEAD leaving at the very moment
it is transmitted (`popTx`: `Out.tx` for exactly that message is the one output added, once), the whole queue being
cleared by a session failure with exactly one NACK per held Confirmable, in order (`clear`), or steps that leave
the delay queue alone (`other`).  There is no other way for a message to enter, leave or move within the delay
queue; hence held messages go out exactly once each, in submission order, and none is lost.  (Within one event
several steps may happen: a retransmission that finds the gate closed pushes, a give-up in the same I/O pass
drains — so the per-event statement is the reflexive-transitive closure `Star`.) -/
theorem held_fifo_exactly_once (l : L) (e : Ev) (s : Nat) (hs : s < l.sess.length) :
    Star (DqStep s) l (step l e) := (step_reach l e).star s hs

/-- (4) lifted to event sequences: along every run the delay queue of every session changes only by `DqStep`s. -/
theorem held_fifo_exactly_once_run (l : L) (evs : List Ev) (s : Nat) (hs : s < l.sess.length) :
    Star (DqStep s) l (run l evs) := (run_reach evs l).star s hs

/-- (5) When the session fails, every held Confirmable is reported by exactly one NACK (`undeliv`), in
submission order (outputs are newest first), and the delay queue is empty afterwards.  `pre` is the (at most one)
NACK for the first message of the send queue, `post` only concerns messages that were in the send queue (or is
the single "nothing was pending" NACK `0 false`). -/
theorem failure_nacks_each_held_once (l : L) (s : Nat) (hs : s < l.sess.length) :
    ∃ pre post : List Out,
      (disconnect l s).out = post ++ (((l.getS s).delayq.filter (·.con)).reverse.map
        (fun n => Out.nack l.now s .undeliv n.mid true)) ++ pre ++ l.out ∧
      ((disconnect l s).getS s).delayq = [] ∧ pre.length ≤ 1 ∧
      (∀ o ∈ post, (∃ n ∈ l.q.nodes, n.sess = s ∧ o = Out.nack l.now s .undeliv n.mid true) ∨
        o = Out.nack l.now s .undeliv 0 false) := disconnect_out l s hs

/-! ### the hypotheses are satisfiable, the statements are not vacuous -/

/-- the hypotheses of (1)/(2) hold for the default session -/
example : ∀ se ∈ [({ nstart := 1 } : Sess)], se.conActive = 0 ∧ se.delayq = [] ∧ se.nstart ≤ 255 := by
  simp

example : WF (init 1000 [{ nstart := 1 }]) := wf_init _ _ (by simp)

/-- (3) is not vacuous: an open, established session exists -/
example : (0 : Nat) < (init 0 [{}]).sess.length ∧ ((init 0 [{}]).getS 0).sockOpen = true ∧
    ((init 0 [{}]).getS 0).est = true := by decide

/-- (4b) is not vacuous: a session on hold holds everything -/
example : gate ((init 0 [{ est := false }]).getS 0) true = true ∧
    ((init 0 [{ est := false }]).getS 0).sockOpen = true ∧
    ((init 0 [{ est := false }]).getS 0).delayq.any (fun x => x.mid = 7) = false := by decide

/-- what the property is about: NSTART = 1, three CONs submitted (two are held), the first is reset, a
duplicate of the RST arrives: exactly one message is in flight, `con_active` = 1, one message is still held. -/
example :
    let l := run (init 1000 [{ nstart := 1 }]) [.submit 0 true 1 0, .submit 0 true 2 0, .submit 0 true 3 0, .rxRst 0 1, .rxRst 0 1]
    (l.getS 0).conActive = 1 ∧ inflight l 0 = 1 ∧ (l.getS 0).delayq.length = 1 := by decide

/-- on failure the two held CONs (2 and 3) are NACKed once each, oldest first (outputs are newest first;
message 1, in the send queue, is reported twice — DESIGN.md §5 row 22) -/
example : ((run (init 1000 [{ nstart := 1 }])
      [.submit 0 true 1 0, .submit 0 true 2 0, .submit 0 true 3 0, .disconnect 0]).out.take 4) =
    [Out.nack 1000 0 .undeliv 1 true, Out.nack 1000 0 .undeliv 3 true, Out.nack 1000 0 .undeliv 2 true,
     Out.nack 1000 0 .undeliv 1 true] := by decide

/-- (4) on the 3-CON / RST scenario: the chain of delay-queue steps exists by the theorem … -/
example : Star (DqStep 0) (init 1000 [{ nstart := 1 }])
    (run (init 1000 [{ nstart := 1 }])
      [.submit 0 true 1 0, .submit 0 true 2 0, .submit 0 true 3 0, .rxRst 0 1, .rxRst 0 1]) :=
  held_fifo_exactly_once_run _ _ 0 (by decide)

/-- … and it is not trivial: messages 2 and 3 are pushed (held, in that order), the RST of 1 pops 2 — which is
transmitted at that moment, exactly once — and 3 stays held. -/
example :
    let l := run (init 1000 [{ nstart := 1 }]) [.submit 0 true 1 0, .submit 0 true 2 0, .submit 0 true 3 0]
    let l' := run l [.rxRst 0 1, .rxRst 0 1]
    ((l.getS 0).delayq.map (·.mid)) = [2, 3] ∧ ((l'.getS 0).delayq.map (·.mid)) = [3] ∧
    (l'.out.filter (fun o => o matches Out.tx _ _ 2 _ _)) = [Out.tx 1000 0 2 0 true] := by decide

example : DqStep 0 (init 0 [{ est := false }])
    ((init 0 [{ est := false }]).setS 0 { est := false, delayq := [⟨0, 7, 0, 0, 0, 7, true⟩] }) :=
  DqStep.push ⟨0, 7, 0, 0, 0, 7, true⟩ (by decide) (by decide) (by decide)

/-! ## The extended model (Model/MsgLayerX.lean): explicit tokens and `coap_cancel_all_messages` as the pointer
walk it is, ICMP errors, keepalive pings.  `runX (initX t0 ss) evs` is a run of `stepX` over ANY list of base and
extended events. -/

/-- The invariant is kept by every event of the extended model: a separate response cancelling several
Confirmables that share its token, an ICMP error, a keepalive ping being sent, acknowledged, reset ("pong") or
given up, in any interleaving with everything else. -/
theorem wf_step_x (lx : LX) (e : EvX) (h : WF lx.l) : WF (stepX lx e).l := wfX_step lx e h

/-- (1x) `con_active` = number of the session's Confirmables (the library's pings included) waiting for an
acknowledgement, after every sequence of base and extended events. -/
theorem con_active_eq_inflight_x (ss : List Sess) (t0 : Nat) (evs : List EvX) (s : Nat)
    (hss : ∀ se ∈ ss, se.conActive = 0 ∧ se.delayq = [] ∧ se.nstart ≤ 255) (hs : s < ss.length) :
    ((runX (initX t0 ss) evs).l.getS s).conActive = inflight (runX (initX t0 ss) evs).l s :=
  ((runX_reach evs (initX t0 ss)).acct (wf_init t0 ss hss) hs).1

/-- (2x) never more than NSTART Confirmables in flight, after every sequence of base and extended events: an ICMP
error does not make the library forget the Confirmables it keeps retransmitting, a ping counts. -/
theorem inflight_le_nstart_x (ss : List Sess) (t0 : Nat) (evs : List EvX) (s : Nat)
    (hss : ∀ se ∈ ss, se.conActive = 0 ∧ se.delayq = [] ∧ se.nstart ≤ 255) (hs : s < ss.length) :
    inflight (runX (initX t0 ss) evs).l s ≤ ((runX (initX t0 ss) evs).l.getS s).nstart :=
  ((runX_reach evs (initX t0 ss)).acct (wf_init t0 ss hss) hs).2

/-- (3x) a NON with an explicit token on an open, established session goes out at once. -/
theorem non_not_delayed_by_nstart_x (l : L) (s mid r tok : Nat)
    (ho : (l.getS s).sockOpen = true) (he : (l.getS s).est = true) :
    (submitT l s false mid r tok).out = Out.sub (some mid) :: Out.tx l.now s mid 0 false :: l.out ∧
    ((submitT l s false mid r tok).getS s).delayq = (l.getS s).delayq ∧
    (submitT l s false mid r tok).q = l.q := by
  simp [submitT, sendCore, gate, ho, he]

/-- (4x) every event of the extended model moves the delay queue of every session only by `DqStep`s (appended at
the end without transmission / head leaves exactly when transmitted / cleared by a failure with one NACK per held
CON): held messages go out exactly once each, in submission order, none is lost — also when slots are freed by a
cancel-by-token walk or by the RST of a ping, and an ICMP error does not touch the delay queue. -/
theorem held_fifo_exactly_once_x (lx : LX) (e : EvX) (s : Nat) (hs : s < lx.l.sess.length) :
    Star (DqStep s) lx.l (stepX lx e).l := (stepX_reach lx e).star s hs

theorem held_fifo_exactly_once_x_run (lx : LX) (evs : List EvX) (s : Nat) (hs : s < lx.l.sess.length) :
    Star (DqStep s) lx.l (runX lx evs).l := (runX_reach evs lx).star s hs

/-- An ICMP error (`coap_session_disconnected_lkd(COAP_NACK_ICMP_ISSUE)`) reports one NACK and changes nothing
else: the Confirmables in flight stay in the send queue AND stay counted, the held ones stay held. -/
theorem icmp_changes_only_output (l : L) (s : Nat) :
    (icmp l s).q = l.q ∧ (icmp l s).sess = l.sess ∧ (icmp l s).now = l.now ∧
    ∃ mid known, (icmp l s).out = Out.nack l.now s .icmp mid known :: l.out := by
  unfold icmp
  split
  · rename_i n _; exact ⟨rfl, rfl, rfl, n.mid, true, rfl⟩
  · exact ⟨rfl, rfl, rfl, 0, false, rfl⟩

/-- With keepalive off and UDP sessions only the extended model does to the message layer what the base model does (all base events
but the arrival of a NON response, where it follows the pointer walk of `coap_cancel_all_messages`): the
theorems above specialise to the base theorems' runs. -/
theorem x_agrees_with_base (lx : LX) (e : Ev) (h : lx.pingTimeout = 0) (hn : ∀ s mid tok, e ≠ .rxNon s mid tok)
    (hu : ∀ s, lx.proto s = .udp) :
    (stepX lx (.base e)).l = step lx.l e ∧ (stepX lx (.base e)).pingTimeout = 0 := stepX_base lx e h hn hu

theorem submitT_mid_is_submit (l : L) (s : Nat) (con : Bool) (mid r : Nat) :
    submitT l s con mid r mid = submit l s con mid r := submitT_eq_submit l s con mid r

/-! ## "held … and later transmitted as earlier exchanges finish" -/

/-- (6) No idle hold.  For every event sequence: if an ESTABLISHED session holds a message at all, the message at
the head of its delay queue is a Confirmable and EXACTLY NSTART Confirmables of the session are in flight.  So a
held message waits only for a slot: whatever ends an exchange (ACK, RST, reply with an invalid code, give-up,
cancel by token) re-opens the gate in the same event, and a NON never waits on an established session. -/
theorem no_idle_hold (ss : List Sess) (t0 : Nat) (evs : List Ev) (s : Nat)
    (hss : ∀ se ∈ ss, se.conActive = 0 ∧ se.delayq = [] ∧ se.nstart ≤ 255) (hs : s < ss.length)
    (he : ((run (init t0 ss) evs).getS s).est = true) :
    ∀ n ∈ ((run (init t0 ss) evs).getS s).delayq.head?,
      n.con = true ∧ inflight (run (init t0 ss) evs) s = ((run (init t0 ss) evs).getS s).nstart := by
  have hw := wf_init t0 ss hss
  exact (nih_run evs _ hw (nih_init t0 ss hss)).full (wf_run evs _ hw) (by rw [run_len]; exact hs) he

/-- (6x) the same over the extended model: also the RST of a keepalive ping ("pong"), a cancel-by-token walk
that removes several Confirmables, and an ICMP error leave no message waiting next to a free slot. -/
theorem no_idle_hold_x (ss : List Sess) (t0 : Nat) (evs : List EvX) (s : Nat)
    (hss : ∀ se ∈ ss, se.conActive = 0 ∧ se.delayq = [] ∧ se.nstart ≤ 255) (hs : s < ss.length)
    (he : ((runX (initX t0 ss) evs).l.getS s).est = true) :
    ∀ n ∈ ((runX (initX t0 ss) evs).l.getS s).delayq.head?,
      n.con = true ∧ inflight (runX (initX t0 ss) evs).l s = ((runX (initX t0 ss) evs).l.getS s).nstart := by
  have hw : WF (initX t0 ss).l := wf_init t0 ss hss
  have r := runX_reach evs (initX t0 ss)
  exact (nihX_run evs _ hw (nih_init t0 ss hss)).full (r.wf hw) (by rw [r.len]; exact hs) he

/-- (6) is not vacuous: NSTART = 1, two CONs submitted — the session is established, the second is held, one is in
flight -/
example :
    let l := run (init 1000 [{ nstart := 1 }]) [.submit 0 true 1 0, .submit 0 true 2 0]
    (l.getS 0).est = true ∧ ((l.getS 0).delayq.head?.map (·.mid)) = some 2 ∧ inflight l 0 = 1 := by decide

/-! ### non-vacuity of the extended statements -/

/-- NSTART = 2: two Confirmables sharing token 7 are in flight, two more are held; ONE separate response with
token 7 cancels both and frees BOTH slots: both held messages are transmitted, in order, `con_active` = 2 = the
number in flight, nothing is held. -/
example :
    let lx := runX (initX 1000 [{ nstart := 2 }])
      [.submitT 0 true 101 0 7, .submitT 0 true 102 0 7, .base (.submit 0 true 103 0), .base (.submit 0 true 104 0),
       .base (.rxNon 0 900 7)]
    (lx.l.getS 0).conActive = 2 ∧ inflight lx.l 0 = 2 ∧ (lx.l.getS 0).delayq = [] ∧
    (lx.l.out.filter (fun o => o matches Out.tx ..)).reverse.map (fun o => match o with | .tx _ _ m _ _ => m | _ => 0)
      = [101, 102, 103, 104] := by decide

/-- NSTART = 1: a Confirmable is in flight when an ICMP error arrives; the next Confirmable is HELD (one in
flight, `con_active` = 1), not transmitted. -/
example :
    let lx := runX (initX 1000 [{ nstart := 1 }]) [.base (.submit 0 true 101 0), .icmp 0, .base (.submit 0 true 102 0)]
    (lx.l.getS 0).conActive = 1 ∧ inflight lx.l 0 = 1 ∧ ((lx.l.getS 0).delayq.map (·.mid)) = [102] := by decide

/-- NSTART = 1, keepalive 1 s: after one silent second the library's ping (message id 1) takes the slot, a
Confirmable submitted now is held; the peer's RST of the ping ("pong") frees the slot: the held Confirmable is
transmitted at that moment, exactly one is in flight, and the RST was not reported as a NACK. -/
example :
    let lx := runX (initX 1000 [{ nstart := 1 }])
      [.keepalive 1, .base (.setNow 2000), .base .prepare, .base (.submit 0 true 101 0)]
    let lx' := stepX lx (.base (.rxRst 0 1))
    (lx.l.getS 0).conActive = 1 ∧ inflight lx.l 0 = 1 ∧ ((lx.l.getS 0).delayq.map (·.mid)) = [101] ∧
    (lx'.l.getS 0).conActive = 1 ∧ (lx'.l.q.nodes.map (·.mid)) = [101] ∧ (lx'.l.getS 0).delayq = [] ∧
    lx'.l.out.head? = some (Out.tx 2000 0 101 0 true) ∧
    (lx'.l.out.filter (fun o => o matches Out.nack ..)) = [] := by decide

/-- the pointer walk differs from "remove every message with that token": a held message with the SAME token that
is released during the walk and lands in FRONT of the walk's position stays in flight (NSTART = 2; message 1 has
another token and the earliest deadline, message 2 has token 7, message 3 — token 7, the shortest timeout — is held:
the walk has passed message 1 when message 2 is unlinked and message 3 is inserted in front of message 1) -/
example :
    let lx := runX (initX 1000 [{ nstart := 2 }])
      [.base (.submit 0 true 1 128), .submitT 0 true 2 255 7, .submitT 0 true 3 0 7, .base (.rxNon 0 900 7)]
    (lx.l.q.nodes.map (·.mid)) = [3, 1] ∧ (lx.l.getS 0).conActive = 2 ∧ inflight lx.l 0 = 2 := by decide

/-! ## piggy-backed responses; DTLS sessions -/

/-- (7) A piggy-backed response - an ACK that carries a response code and a token - concludes the exchange of the
message whose ID it carries and of NO OTHER: whatever token it carries, whether or not its id matches anything,
duplicate or not, every other message waiting for its acknowledgement (any session `s'`, any id `m'` other than
the acknowledged one) is still in the send queue afterwards.  (`coap_session_connected` may add messages.) -/
theorem piggybacked_ack_concludes_only_its_own (l : L) (s mid : Nat) (dup : Bool) (s' m' : Nat)
    (h : ¬ (s' = s ∧ m' = mid)) :
    l.q.nodes.countP (fun n => decide (n.sess = s' ∧ n.mid = m')) ≤
      (rxAckP l s mid dup).q.nodes.countP (fun n => decide (n.sess = s' ∧ n.mid = m')) := by
  apply rxAckP_countP_le _ (tstable_key s' m')
  intro n hs hm
  simp only [decide_eq_false_iff_not]
  intro hk
  exact h ⟨hk.1.symm.trans hs, hk.2.symm.trans hm⟩

/-- (7') A piggy-backed response whose message id is NOT in the send queue - the network's duplicate of one
already processed, one arriving after its request was given up, a stray - changes nothing but the output (the
response handler call, unless it is recognised as a duplicate): the send queue, `con_active`, the delay queues of
all sessions are as before.  In particular it does not free a slot that belongs to another Confirmable carrying
the same token, and it releases no held message. -/
theorem unmatched_piggybacked_ack_changes_only_output (l : L) (s mid : Nat) (dup : Bool)
    (h : l.q.nodes.countP (fun n => decide (n.sess = s ∧ n.mid = mid)) = 0) :
    (rxAckP l s mid dup).q = l.q ∧ (rxAckP l s mid dup).sess = l.sess ∧ (rxAckP l s mid dup).now = l.now ∧
    ((rxAckP l s mid dup).out = l.out ∨ (rxAckP l s mid dup).out = Out.rsp l.now s mid :: l.out) := by
  have hq : rxAck l s mid = l := by
    unfold rxAck
    rcases removeNode_cases l.q.nodes s mid with e | ⟨n, rest, e, h1, h2, hwo⟩ <;> rw [e]
    -- nothing found: `rw` closes the goal; a node with that key would have been counted by `h`
    have hk := hwo.count _ (tstable_key s mid)
    simp only [h, h1, h2, and_self, decide_true, if_true] at hk
    omega
  unfold rxAckP
  simp only [hq]
  cases dup
  · exact ⟨rfl, rfl, rfl, Or.inr rfl⟩
  · exact ⟨rfl, rfl, rfl, Or.inl rfl⟩

/-- (1d)/(2d) `con_active` = in flight <= NSTART on EVERY datagram transport: for every list of sessions, each a UDP
or a DTLS session (`ds`), and every sequence of base and extended events (submissions, ACK / RST / piggy-backed
and separate responses, retransmissions, failures - which leave a DTLS session in state NONE, a UDP session
ESTABLISHED -, keepalive).  The guard of every `con_active` update, `COAP_PROTO_NOT_RELIABLE(session->proto)`,
is open for both (`notReliable_datagram`). -/
theorem con_active_eq_inflight_le_nstart_dtls (ss : List Sess) (ds : List Bool) (t0 : Nat) (evs : List EvX) (s : Nat)
    (hss : ∀ se ∈ ss, se.conActive = 0 ∧ se.delayq = [] ∧ se.nstart ≤ 255) (hs : s < ss.length) :
    ((runX (initXP t0 ss ds) evs).l.getS s).conActive = inflight (runX (initXP t0 ss ds) evs).l s ∧
    inflight (runX (initXP t0 ss ds) evs).l s ≤ ((runX (initXP t0 ss ds) evs).l.getS s).nstart :=
  (runX_reach evs (initXP t0 ss ds)).acct (wf_init t0 ss hss) hs

/-- (6d) no idle hold on every datagram transport -/
theorem no_idle_hold_dtls (ss : List Sess) (ds : List Bool) (t0 : Nat) (evs : List EvX) (s : Nat)
    (hss : ∀ se ∈ ss, se.conActive = 0 ∧ se.delayq = [] ∧ se.nstart ≤ 255) (hs : s < ss.length)
    (he : ((runX (initXP t0 ss ds) evs).l.getS s).est = true) :
    ∀ n ∈ ((runX (initXP t0 ss ds) evs).l.getS s).delayq.head?,
      n.con = true ∧ inflight (runX (initXP t0 ss ds) evs).l s = ((runX (initXP t0 ss ds) evs).l.getS s).nstart := by
  have hw : WF (initXP t0 ss ds).l := wf_init t0 ss hss
  have r := runX_reach evs (initXP t0 ss ds)
  exact (nihX_run evs _ hw (nih_init t0 ss hss)).full (r.wf hw) (by rw [r.len]; exact hs) he

/-- (5d) the failure of a DTLS session reports what the failure of a UDP session reports - every held Confirmable
by exactly one NACK, in order (`failure_nacks_each_held_once`) - and empties the delay queue; the session is then
NOT established (a UDP session is). -/
theorem failure_dtls (l : L) (s : Nat) (hs : s < l.sess.length) :
    (disconnectP .dtls l s).out = (disconnect l s).out ∧ (disconnectP .dtls l s).q = (disconnect l s).q ∧
    ((disconnectP .dtls l s).getS s).delayq = [] ∧ ((disconnectP .dtls l s).getS s).est = false ∧
    ((disconnectP .udp l s).getS s).est = true := by
  have hlen : s < (disconnect l s).sess.length := by rw [(disconnect_frame l s).len]; exact hs
  have e : disconnectP .dtls l s = (disconnect l s).setS s { ((disconnect l s).getS s) with est := false } := rfl
  rw [e, getS_setS_same hlen, disconnect_getS l s hs]
  exact ⟨setS_out _ _ _, setS_q _ _ _, rfl, rfl, congrArg Sess.est (disconnect_getS l s hs)⟩

/-! ### "in flight (sent and neither acknowledged, reset nor given up)": a message leaves only when its exchange is concluded
(the ledger `led` and `Concludes` of Lemmas/MsgLedger.lean) -/

/-- (8) For EVERY event that does not conclude the exchange of message (`s`, `mid`) - submissions, timer runs with
retransmissions and give-ups of any message, ACK / RST / responses for OTHER messages incl. duplicated and stray piggy-backed
responses carrying the SAME token, ICMP errors, keepalive, other sessions failing - the ledger of that message does not
decrease: a Confirmable that is in flight stays in the send queue, counted by `con_active` (theorems (1), (2)), or is
reported to the NACK handler as given up; it is never dropped silently, so its slot is never handed to another message
while it is "sent and neither acknowledged, reset nor given up". -/
theorem in_flight_until_concluded (lx : LX) (e : EvX) (s mid : Nat) (hw : WF lx.l) (hs : s < lx.l.sess.length)
    (hn : ¬ Concludes lx.l s mid e) : led s mid gT lx.l ≤ led s mid gT (stepX lx e).l :=
  led_stepX s mid lx e hw hs hn

/-- (8) along runs: from any reachable state (after `evs1`, any mix of UDP and DTLS sessions), as long as no event of
`evs2` concludes the message, its ledger does not decrease. -/
theorem in_flight_until_concluded_run (ss : List Sess) (ds : List Bool) (t0 : Nat) (evs1 evs2 : List EvX) (s mid : Nat)
    (hss : ∀ se ∈ ss, se.conActive = 0 ∧ se.delayq = [] ∧ se.nstart ≤ 255) (hs : s < ss.length)
    (hn : ∀ (pre : List EvX) (e : EvX) (post : List EvX), evs2 = pre ++ e :: post →
      ¬ Concludes (runX (runX (initXP t0 ss ds) evs1) pre).l s mid e) :
    led s mid gT (runX (initXP t0 ss ds) evs1).l ≤ led s mid gT (runX (runX (initXP t0 ss ds) evs1) evs2).l := by
  have r := runX_reach evs1 (initXP t0 ss ds)
  exact led_runX s mid evs2 _ (r.wf (wf_init t0 ss hss)) (by rw [r.len]; exact hs) hn

/-! ### non-vacuity of (7), (7') and (8) -/

/-- the scenario of (7'): NSTART = 1, three Confirmables A, B, C (101, 102, 103) share token 7.  A is answered by
a piggy-backed response: B goes out.  The network's duplicate of that response arrives while B is unacknowledged:
B is still in flight, `con_active` = 1, C is still held, nothing was transmitted, the response handler is not
called a second time. -/
example :
    let lx := runX (initX 1000 [{ nstart := 1 }])
      [.submitT 0 true 101 0 7, .submitT 0 true 102 0 7, .submitT 0 true 103 0 7, .rxAckP 0 101 7]
    let lx' := stepX lx (.rxAckP 0 101 7)
    (lx.l.q.nodes.map (·.mid)) = [102] ∧ ((lx.l.getS 0).delayq.map (·.mid)) = [103] ∧
    (lx'.l.q.nodes.map (·.mid)) = [102] ∧ (lx'.l.getS 0).conActive = 1 ∧ ((lx'.l.getS 0).delayq.map (·.mid)) = [103] ∧
    lx'.l.out = lx.l.out ∧
    lx.l.q.nodes.countP (fun n => decide (n.sess = 0 ∧ n.mid = 101)) = 0 := by decide

/-- (8) on the scenario of (7'): message 102 (token 7, in flight after A's response) has ledger 1; the duplicate of A's
response - same token 7 - does not conclude it (the hypothesis of (8) holds) and its ledger is still 1: it is still in the
send queue.  (In the seeded variant C08-12 the ledger drops to 0 here.) -/
example :
    let lx := runX (initX 1000 [{ nstart := 1 }])
      [.submitT 0 true 101 0 7, .submitT 0 true 102 0 7, .submitT 0 true 103 0 7, .rxAckP 0 101 7]
    ¬ Concludes lx.l 0 102 (.rxAckP 0 101 7) ∧ led 0 102 gT lx.l = 1 ∧ led 0 102 gT (stepX lx (.rxAckP 0 101 7)).l = 1 ∧
    (stepX lx (.rxAckP 0 101 7)).l.q.nodes.countP (pq 0 102 gT) = 1 := by
  refine ⟨fun h => absurd h.2 (by decide), by decide, by decide, by decide⟩

/-- (8) is not vacuous for a separate response either: NSTART = 2, message 1 (token 1) and message 2 (token 7) in flight;
a NON response with token 7 does not conclude message 1, whose ledger stays 1, and concludes message 2 -/
example :
    let lx := runX (initX 1000 [{ nstart := 2 }]) [.base (.submit 0 true 1 0), .submitT 0 true 2 0 7]
    ¬ Concludes lx.l 0 1 (.base (.rxNon 0 900 7)) ∧ Concludes lx.l 0 2 (.base (.rxNon 0 900 7)) ∧
    led 0 1 gT (stepX lx (.base (.rxNon 0 900 7))).l = 1 ∧ led 0 2 gT (stepX lx (.base (.rxNon 0 900 7))).l = 0 := by
  refine ⟨?_, ?_, by decide, by decide⟩
  · intro h
    rcases h.2 with ⟨n, hn, _, h2, h3⟩ | ⟨n, hn, _⟩
    · revert n; decide
    · revert n; decide
  · exact ⟨rfl, Or.inl (by decide)⟩

/-- a DTLS session (NSTART = 1): a burst of three Confirmables on the established session puts ONE in flight and
holds two; the session's failure reports 101 (in flight; twice: DESIGN §5 row 22), 102 and 103 (held, once each)
and leaves the session not established with nothing counted -/
example :
    let lx := runX (initXP 1000 [{ nstart := 1 }] [true])
      [.base (.submit 0 true 101 0), .base (.submit 0 true 102 0), .base (.submit 0 true 103 0)]
    let lx' := stepX lx (.base (.disconnect 0))
    lx.proto 0 = .dtls ∧ (lx.l.getS 0).conActive = 1 ∧ inflight lx.l 0 = 1 ∧ ((lx.l.getS 0).delayq.map (·.mid)) = [102, 103] ∧
    (lx'.l.getS 0).est = false ∧ (lx'.l.getS 0).conActive = 0 ∧ inflight lx'.l 0 = 0 ∧ (lx'.l.getS 0).delayq = [] ∧
    (lx'.l.out.take 4) = [Out.nack 1000 0 .undeliv 101 true, Out.nack 1000 0 .undeliv 103 true,
      Out.nack 1000 0 .undeliv 102 true, Out.nack 1000 0 .undeliv 101 true] := by decide

/-- the hypothesis of `x_agrees_with_base` on the transport holds for every line without DTLS sessions -/
example : ∀ s, (initX 1000 [{ nstart := 1 }]).proto s = .udp := proto_udp_of_nil _ rfl

/-! ### failing socket writes (seed C08-13): the write-failure model `Coap.MsgW` (Model/MsgLayerW.lean)

The model takes the list `wf` of what the next calls of `coap_socket_send()` return as ONE MORE INPUT; the theorems below hold for
EVERY such list.  An `Out.tx` of this model is a write ATTEMPT. -/

open Coap.MsgW in
/-- (1w/2w, inductive step) the invariant `WF` is kept by every event whatever the socket does. -/
theorem wf_step_w (lw : LW) (e : Ev) (h : WF lw.l) : WF (stepW lw e).l := (MsgW.stepW_reach lw e).wf h

open Coap.MsgW in
/-- (1w/2w) For every event sequence AND every pattern of failing socket writes: `con_active` of every session is
exactly the number of its Confirmables in the send queue, and that number never exceeds NSTART. -/
theorem con_active_eq_inflight_le_nstart_w (ss : List Sess) (t0 : Nat) (wf : List Bool) (evs : List Ev) (s : Nat)
    (hss : ∀ se ∈ ss, se.conActive = 0 ∧ se.delayq = [] ∧ se.nstart ≤ 255) (hs : s < ss.length) :
    ((runW (initW t0 ss wf) evs).l.getS s).conActive = inflight (runW (initW t0 ss wf) evs).l s ∧
    inflight (runW (initW t0 ss wf) evs).l s ≤ ((runW (initW t0 ss wf) evs).l.getS s).nstart :=
  (MsgW.runW_reach evs (initW t0 ss wf)).acct (wf_init t0 ss hss) hs

open Coap.MsgW in
/-- (9w) What the slot of a released Confirmable depends on: NOT on the write.  One round of the loop of
`coap_session_connected` for a held Confirmable `n` - for every state, every oracle: `con_active` goes up by one, `n` has
left the delay queue, is in the send queue (one more node of the session) and its write was attempted exactly once.
(A transcription that counts the message only when the write succeeded cannot satisfy this, nor `wf_step_w`.) -/
theorem released_con_takes_slot_whatever_the_write_returns (lw : LW) (s : Nat) (n : Node) (rest : List Node)
    (hs : s < lw.l.sess.length) (hc : n.con = true) :
    ((drainRound lw s n rest).2.l.getS s).conActive = ((lw.l.getS s).conActive + 1) % 256 ∧
    ((drainRound lw s n rest).2.l.getS s).delayq = rest ∧
    inflight (drainRound lw s n rest).2.l s = inflight lw.l s + 1 ∧
    (drainRound lw s n rest).2.l.out = Out.tx lw.l.now s n.mid n.cnt true :: lw.l.out := by
  rw [drainRound_l, drainOne_getS hs, drainOne_out, inflight_eq, inflight_eq, drainOne_countP (tstable_sess s)]
  simp [hc]

open Coap.MsgW in
/-- (4w-a) The drain loop with `if (bytes_written < 0) break;` is the loop of the base model stopped early: whatever
writes fail, it attempts exactly the first `k` held messages - once each, in submission order, nothing else - and leaves
the others held, in order (`drain_fifo_exactly_once` applies to `drain k`). -/
theorem drain_with_failing_writes_is_drain_stopped_early (fuel : Nat) (lw : LW) (s : Nat) :
    ∃ k, (drainW fuel lw s).l = drain k lw.l s := MsgW.drainW_is_drain fuel lw s

open Coap.MsgW in
/-- (4w) For EVERY event and every write oracle the delay queue of every session evolves only by `DqStep`s (append at
the END without transmission / the HEAD leaves exactly when its write is attempted, once / cleared by the session's
failure with one NACK per held Confirmable): a failing write lets nobody overtake, loses and duplicates nothing. -/
theorem held_fifo_exactly_once_w (lw : LW) (e : Ev) (s : Nat) (hs : s < lw.l.sess.length) :
    Star (DqStep s) lw.l (stepW lw e).l := (MsgW.stepW_reach lw e).star s hs

open Coap.MsgW in
/-- (4w) lifted to event sequences. -/
theorem held_fifo_exactly_once_w_run (lw : LW) (evs : List Ev) (s : Nat) (hs : s < lw.l.sess.length) :
    Star (DqStep s) lw.l (runW lw evs).l := (MsgW.runW_reach evs lw).star s hs

open Coap.MsgW in
/-- (6w, PARTIAL) no idle hold, as long as no FIRST transmission failed in the write (`dev = false`; failing
retransmissions are covered).  The full statement - without the hypothesis on `dev` - is FALSE for the code as it is:
`coap_session_connected` stops draining at the first failing write (`if (bytes_written < 0) break;`), so the messages
behind the failed one wait until the NEXT exchange of the session finishes although a slot may be free (NSTART ≥ 2), and
for ever when the failed write was a NON's and no Confirmable of the session is in flight (open finding
`drain_break_strands_delayed`, KNOWN_FINDINGS.txt; witness below). -/
theorem no_idle_hold_w_partial (ss : List Sess) (t0 : Nat) (wf : List Bool) (evs : List Ev) (s : Nat)
    (hss : ∀ se ∈ ss, se.conActive = 0 ∧ se.delayq = [] ∧ se.nstart ≤ 255) (hs : s < ss.length)
    (hdev : (runW (initW t0 ss wf) evs).dev = false)
    (he : ((runW (initW t0 ss wf) evs).l.getS s).est = true) :
    ∀ n ∈ ((runW (initW t0 ss wf) evs).l.getS s).delayq.head?,
      n.con = true ∧ inflight (runW (initW t0 ss wf) evs).l s = ((runW (initW t0 ss wf) evs).l.getS s).nstart := by
  have ht := (MsgW.runW_tracks evs (initW t0 ss wf) hdev).2
  have hl : (initW t0 ss wf).l = init t0 ss := rfl
  rw [ht, hl] at he ⊢
  exact no_idle_hold ss t0 evs s hss hs he

open Coap.MsgW in
/-- the scenario of seed C08-13 in M: NSTART = 1, Confirmables 1, 2, 3; the ACK for 1 arrives and the write of the
released 2 FAILS (second entry of the oracle): 2 is in the send queue AND counted (`con_active` = 1 = in flight), 3 is
still held (the failed attempt is output number 4); a fourth Confirmable submitted now is HELD behind 3 (nobody
overtakes), nothing is written for it. -/
example :
    let lw := runW (initW 1000 [{ nstart := 1 }] [false, true])
      [.submit 0 true 1 0, .submit 0 true 2 0, .submit 0 true 3 0, .rxAck 0 1]
    let lw' := stepW lw (.submit 0 true 4 0)
    (lw.l.getS 0).conActive = 1 ∧ inflight lw.l 0 = 1 ∧ (lw.l.q.nodes.map (·.mid)) = [2] ∧
    ((lw.l.getS 0).delayq.map (·.mid)) = [3] ∧ lw.failed = [4] ∧
    ((lw'.l.getS 0).delayq.map (·.mid)) = [3, 4] ∧ lw'.l.out = Out.sub (some 4) :: lw.l.out := by decide

open Coap.MsgW in
/-- the exclusion in `no_idle_hold_w_partial` is necessary (`drain_break_strands_delayed`): a NON and a Confirmable are
submitted before the session is established; it comes up, the write of the NON fails: the session is established, holds
the Confirmable, and NOTHING is in flight (NSTART = 2) - `dev` is set. -/
example :
    let lw := runW (initW 1000 [{ nstart := 2 }] [true])
      [.hold 0, .submit 0 false 101 0, .submit 0 true 102 0, .connect 0]
    (lw.l.getS 0).est = true ∧ ((lw.l.getS 0).delayq.map (·.mid)) = [102] ∧ inflight lw.l 0 = 0 ∧ lw.dev = true := by
  decide

/-- the hypotheses of `released_con_takes_slot_whatever_the_write_returns` are satisfiable (write failing) -/
example : (0 : Nat) < (MsgW.initW 0 [{}] [true]).l.sess.length ∧
    (MsgW.initW 0 [{}] [true]).wf.headD false = true := by decide

end Coap.C08
