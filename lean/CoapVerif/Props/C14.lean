import CoapVerif.Lemmas.OscorePlain
import CoapVerif.Lemmas.OscoreSeq
import CoapVerif.Lemmas.OscoreCtx
import CoapVerif.Lemmas.OscoreCtxSeq
import CoapVerif.Model.OscoreDispatch
/-
C14 — OSCORE protection round-trips, matches RFC 8613, and tampering is detected by the tag.

  S = Coap.Spec.Oscore (RFC 8613 written from the RFCs) over Coap.Spec.Crypto (CCM, AES, HKDF, SHA-256)
  M = Coap.M.Oscore    (transcription of src/oscore/*.c helpers and of the option split / merge)

NOT a theorem: "every modification is rejected" — that is unforgeability of the MAC, a cryptographic
assumption.  What is proved: the AEAD round-trips for every block function, decryption rejects
exactly when the recomputed tag differs (or the input is shorter than a tag), and the inputs of the
tag (AAD, nonce) determine kid / Partial IV / algorithm injectively (`aad_injective`, `nonce_injective`,
from `cbor_head_injective` / `cbor_bstr_injective`); libcoap's helpers (M) equal S (`aad_eq_spec`,
`nonce_eq_spec`, `option_value_eq_spec`, `split_eq_spec`, `info_eq_spec`); `unprotect ∘ protect` is the
identity for requests and, up to the recipient's Observe value (D14.3), for responses (`unprotect_protect`).
Sequences of exchanges, several contexts at one server and libcoap's association tables follow (D14.15 - D14.19); last: outer
class E options, an OSCORE option of more than 255 bytes, OSCORE only resources (Model/OscoreDispatch.lean).  The constants
against the code: Props/C14Consts.lean.  Helper lemmas: Lemmas/Oscore*.lean.
Vocabulary of the statements that is not S or M: `Opt` (Lemmas/Oscore.lean), `pivMinimal` (Lemmas/OscoreNonce.lean),
`SrvStepLeaves`, `SrvStepKeepsClient` (Lemmas/OscoreCtxSeq.lean), `Pos`, `positions`, `StoreUnambiguous` (Model/OscoreCtx.lean,
namespace `Coap`), `Unambiguous` (Spec/OscoreCtx.lean), `Matching` (below).
-/
namespace Coap.C14
open Coap.Spec.Crypto Coap.Spec.Oscore

/-- CCM decryption undoes CCM encryption, for every block function `E` (AES-128 is one). -/
theorem ccm_roundtrip (E : Bytes → Bytes) (M : Nat) (n a p : Bytes) :
    ccmDecrypt E M n a (ccmEncrypt E M n a p) = some p := by
  have hl : (ccmEncrypt E M n a p).length = p.length + M := by
    simp [ccmEncrypt, ccmCtr_length, xorKs_length, ccmTag_length]
  have ht : (ccmEncrypt E M n a p).take p.length = ccmCtr E n p := by
    simp [ccmEncrypt, ← ccmCtr_length E n p]
  have hd : (ccmEncrypt E M n a p).drop p.length = xorKs (ccmTag E M n a p) (fit M (E (ccmCtrBlock n 0))) := by
    simp [ccmEncrypt, ← ccmCtr_length E n p]
  unfold ccmDecrypt
  have hlt : ¬ (ccmEncrypt E M n a p).length < M := by omega
  simp only [hlt, if_false]
  have hsub : (ccmEncrypt E M n a p).length - M = p.length := by omega
  rw [hsub, ht, hd, ccmCtr_ccmCtr, xorKs_xorKs]
  simp

/-- Rejection happens iff the datagram is shorter than a tag or the tag recomputed over the
recovered message differs from the transmitted one. -/
theorem tamper_detected_iff_tag_mismatch (E : Bytes → Bytes) (M : Nat) (n a c : Bytes) :
    ccmDecrypt E M n a c = none ↔
      (c.length < M ∨
       xorKs (c.drop (c.length - M)) (fit M (E (ccmCtrBlock n 0))) ≠
         ccmTag E M n a (ccmCtr E n (c.take (c.length - M)))) := by
  unfold ccmDecrypt
  by_cases h : c.length < M
  · simp [h]
  · by_cases h2 : xorKs (c.drop (c.length - M)) (fit M (E (ccmCtrBlock n 0))) =
        ccmTag E M n a (ccmCtr E n (c.take (c.length - M)))
    · simp [h, h2]
    · simp [h, h2]

/-- §6.1: decompressing a compressed COSE object gives it back, for every Partial IV of up to 5 bytes,
every kid and kid context (present or absent) whose encoding fits the option (255 bytes). -/
theorem option_value_roundtrip (v : OptVal) (hp : v.piv.length ≤ 5) (hl : (optEncode v).length ≤ 255) :
    optDecode (optEncode v) = some v := by
  obtain ⟨piv, kc, kid⟩ := v
  by_cases he : piv = [] ∧ kc = none ∧ kid = none
  · obtain ⟨rfl, rfl, rfl⟩ := he; rfl
  dsimp only at hp
  unfold optEncode at hl ⊢
  dsimp only at hl ⊢
  rw [if_neg he] at hl ⊢
  obtain ⟨f1, f2, f3, f4, f5⟩ := flag_fields piv.length kc.isSome kid.isSome (by omega) rfl
  unfold optDecode
  simp only [UInt8.toNat_ofNat', Nat.mod_eq_of_lt f5, f1, f2, f3, f4]
  clear f1 f2 f3 f4 f5
  simp only [List.length_cons, List.length_append] at hl
  rw [List.append_assoc, List.take_left, List.drop_left, if_neg (by simp only [List.length_append]; omega),
    if_neg (by simp only [List.length_append]; omega)]
  cases kc with
  | none => cases kid <;> rfl
  | some c =>
    have hc : (UInt8.ofNat c.length).toNat = c.length := by
      rw [UInt8.toNat_ofNat']; simp only [List.length_cons] at hl; omega
    simp only [Option.isSome_some, if_true, List.cons_append, hc, List.length_append, List.take_left, List.drop_left]
    rw [if_neg (by omega)]
    cases kid <;> rfl

/-- Inner and outer options recombine to the original list (requests; for responses see
`split_merge_inverse_response`): the options that survive §8.2 step 1 of the outer message produced by
`protectRequest`, merged with the inner options, are the original options. -/
theorem split_merge_inverse (os : List Opt) (ov : Bytes) (hs : os.Pairwise (fun a b => a.1 ≤ b.1))
    (hno : ∀ o ∈ os, o.1 ≠ optOscore) :
    mergeOpts (withOscore (outerOpts os) ov) (innerOpts true os) = os := by
  have hin : innerOpts true os = (os.filter fun o => !classUOnly o.1).map id := by
    unfold innerOpts
    simp only [not_true_eq_false, and_false, if_false]
    rfl
  rw [hin]
  exact (split_merge id (fun _ => rfl) (fun _ _ => rfl) os ov hs hno).trans (List.map_id os)

/-- `split_merge_inverse` for responses: the outer options that survive §8.4 step 1, merged with the inner options
after the recipient has set the Observe value (`obs`; the sender blanked it, D14.3), are the original options with
that Observe value. -/
theorem split_merge_inverse_response (os : List Opt) (ov obs : Bytes) (hs : os.Pairwise (fun a b => a.1 ≤ b.1))
    (hno : ∀ o ∈ os, o.1 ≠ optOscore) :
    mergeOpts (withOscore (outerOpts os) ov)
        ((innerOpts false os).map fun o => if o.1 = optObserve then (o.1, obs) else o) =
      os.map fun o => if o.1 = optObserve then (o.1, obs) else o :=
  split_merge_response os ov obs hs hno

theorem oscoreValue_withOscore (outer : List Opt) (ov : Bytes) (h : ∀ o ∈ outer, o.1 ≠ optOscore) :
    oscoreValue (withOscore outer ov) = some ov := by
  unfold oscoreValue withOscore
  have h1 : (outer.filter fun o => decide (o.1 ≤ optOscore)).find? (fun o => decide (o.1 = optOscore)) = none := by
    rw [List.find?_eq_none]; intro x hx; have := h x (List.mem_filter.mp hx).1; simpa using this
  simp [List.find?_append, h1]

theorem outerOpts_no_oscore (os : List Opt) : ∀ o ∈ outerOpts os, o.1 ≠ optOscore := by
  intro o ho
  have := (List.mem_filter.mp ho).2
  simp at this
  exact this.2

theorem aeadOpen_aeadSeal (cipher : Bytes → Bytes → Bytes) (k n a p : Bytes) :
    aeadOpen cipher k n a (aeadSeal cipher k n a p) = some p := ccm_roundtrip _ _ _ _ _

theorem aeadSeal_ne_nil (cipher : Bytes → Bytes → Bytes) (k n a p : Bytes) : aeadSeal cipher k n a p ≠ [] := by
  intro h
  have := congrArg List.length h
  simp [aeadSeal, ccmEncrypt, xorKs_length, ccmTag_length] at this


/-- Matching contexts: the recipient's view of the sender (§3.1) -/
def Matching (cS cR : Ctx) : Prop :=
  cR.rid = cS.sid ∧ cR.recipientKey = cS.senderKey ∧ cR.commonIV = cS.commonIV ∧ cR.idctx = cS.idctx ∧ cR.alg = cS.alg

/-! ### CBOR: the encodings that go into the AAD are injective and prefix-free -/

/-- A CBOR head (major type + argument, RFC 8949 §3) followed by anything equals a head followed by anything only if
major type, argument and continuation agree — injective and prefix-free, over the whole range of the encoding
(major types 0..7, arguments below 2^64).  `cborUint n = cborHead 0 n`, `cborArray n = cborHead 4 n`. -/
theorem cbor_head_injective (mt mt' a b : Nat) (x y : Bytes) (hmt : mt < 8) (hmt' : mt' < 8) (ha : a < 2 ^ 64)
    (hb : b < 2 ^ 64) : cborHead mt a ++ x = cborHead mt' b ++ y → mt = mt' ∧ a = b ∧ x = y :=
  cborHead_inj mt mt' a b x y hmt hmt' ha hb

theorem cbor_bstr_injective (a b x y : Bytes) (ha : a.length < 2 ^ 64) (hb : b.length < 2 ^ 64) :
    cborBstr a ++ x = cborBstr b ++ y → a = b ∧ x = y := cborBstr_inj a b x y ha hb

/-- … and the other items used: unsigned integers, array heads, signed integers (−2^64 .. 2^64−1), text strings -/
theorem cbor_items_injective :
    (∀ (a b : Nat) (x y : Bytes), a < 2 ^ 64 → b < 2 ^ 64 → cborUint a ++ x = cborUint b ++ y → a = b ∧ x = y) ∧
    (∀ (a b : Nat) (x y : Bytes), a < 2 ^ 64 → b < 2 ^ 64 → cborArray a ++ x = cborArray b ++ y → a = b ∧ x = y) ∧
    (∀ (i j : Int) (x y : Bytes), (-(2 ^ 64) ≤ i ∧ i < 2 ^ 64) → (-(2 ^ 64) ≤ j ∧ j < 2 ^ 64) →
        cborInt i ++ x = cborInt j ++ y → i = j ∧ x = y) ∧
    (∀ (a b x y : Bytes), a.length < 2 ^ 64 → b.length < 2 ^ 64 → cborTstr a ++ x = cborTstr b ++ y → a = b ∧ x = y) :=
  ⟨fun a b x y ha hb h => (cborHead_inj 0 0 a b x y (by decide) (by decide) ha hb h).2,
   fun a b x y ha hb h => (cborHead_inj 4 4 a b x y (by decide) (by decide) ha hb h).2,
   cborInt_inj, cborStr_inj 3 (by decide)⟩

/-- §5.4: the external_aad (`aadArray`) and the Enc_structure (`aad`) determine algorithm, request_kid and
request_piv: different (alg, kid, piv) never authenticate under the same associated data.  (Algorithm ids in the
CBOR integer range, lengths such that the structure stays below 2^64 bytes.) -/
theorem aad_injective (alg alg' : Int) (kid kid' piv piv' : Bytes)
    (ha : -(2 ^ 64) ≤ alg ∧ alg < 2 ^ 64) (ha' : -(2 ^ 64) ≤ alg' ∧ alg' < 2 ^ 64)
    (hl : kid.length + piv.length < 2 ^ 63) (hl' : kid'.length + piv'.length < 2 ^ 63) :
    (aadArray alg kid piv = aadArray alg' kid' piv' → alg = alg' ∧ kid = kid' ∧ piv = piv') ∧
    (aad alg kid piv = aad alg' kid' piv' → alg = alg' ∧ kid = kid' ∧ piv = piv') := by
  have h1 : aadArray alg kid piv = aadArray alg' kid' piv' → alg = alg' ∧ kid = kid' ∧ piv = piv' :=
    aadArray_inj alg alg' kid kid' piv piv' ha ha' (by omega) (by omega) (by omega) (by omega)
  refine ⟨h1, fun h => h1 ?_⟩
  have l1 := aadArray_length_le alg kid piv
  have l2 := aadArray_length_le alg' kid' piv'
  exact encStructure_inj _ _ (by omega) (by omega) h

/-! ### nonce -/

/-- Equal-length Partial IVs (minimal-length encoding or not): two nonces built from the same Common IV are equal only
if the kids are equal and the Partial IVs are equal.  For Partial IVs of different lengths see `nonce_injective`. -/
theorem nonce_injective_same_length (civ kid kid' piv piv' : Bytes) (hk : kid.length ≤ 7) (hk' : kid'.length ≤ 7)
    (hp : piv.length = piv'.length) (hp5 : piv.length ≤ 5)
    (h : nonce civ kid piv = nonce civ kid' piv') : kid = kid' ∧ piv = piv' := by
  obtain ⟨ha, hb⟩ := nonce_fields civ kid kid' piv piv' hk hk' h
  unfold leftPad at hb
  rw [hp] at hb
  exact ⟨ha, List.append_cancel_left hb⟩

/-- libcoap's `oscore_generate_nonce` (M: two `memcpy`s into a zeroed 13-byte buffer, then xor) computes the §5.2
nonce (S), for every Sender ID of at most 7 bytes (nonce length − 6), every Partial IV of at most 5 bytes and every
Common IV of at least 13 bytes (13 in use). -/
theorem nonce_eq_spec (civ kid piv : Bytes) (hk : kid.length ≤ 7) (hp : piv.length ≤ 5) (hc : 13 ≤ civ.length) :
    M.Oscore.generateNonce civ kid piv = R.ok (nonce civ kid piv) := generateNonce_eq civ kid piv hk hp hc

/-- **The nonce determines Sender ID and Partial IV.**  For Partial IVs in minimal-length encoding (`pivMinimal`: not
empty, no leading zero byte except the single byte 0x00 for the value 0 — what every sender produces, D14.4), of any
lengths up to 5, and ids up to 7 bytes: different (kid, Partial IV) give different nonces under the same Common IV. -/
theorem nonce_injective (civ kid kid' piv piv' : Bytes) (hk : kid.length ≤ 7) (hk' : kid'.length ≤ 7)
    (hp : piv.length ≤ 5) (hp' : piv'.length ≤ 5) (mp : pivMinimal piv = true) (mp' : pivMinimal piv' = true)
    (hne : piv ≠ piv' ∨ kid ≠ kid') : nonce civ kid piv ≠ nonce civ kid' piv' := by
  intro h
  obtain ⟨h1, h2⟩ := nonce_inj civ kid kid' piv piv' hk hk' hp hp' mp mp' h
  rcases hne with hne | hne
  · exact hne h2
  · exact hne h1

/-- `pivBytes` (D14.4, libcoap's sender) is the minimal-length encoding, at most 5 bytes below 2^40, and one-to-one -/
theorem pivBytes_minimal_encoding (n : Nat) (h : n < 2 ^ 40) :
    pivMinimal (pivBytes n) = true ∧ (pivBytes n).length ≤ 5 ∧ ∀ m, m < 2 ^ 40 → pivBytes n = pivBytes m → n = m :=
  ⟨pivBytes_minimal n (by omega), pivBytes_length n h, fun m hm e => pivBytes_inj n m (by omega) (by omega) e⟩

/-- **The link for C15** ("distinct Partial IV ⇒ distinct nonce"): for sequence numbers below 2^40 encoded as the
sender encodes them, different sequence numbers or different Sender IDs give different nonces. -/
theorem distinct_piv_distinct_nonce (civ kid kid' : Bytes) (seq seq' : Nat) (hk : kid.length ≤ 7) (hk' : kid'.length ≤ 7)
    (hs : seq < 2 ^ 40) (hs' : seq' < 2 ^ 40) (hne : seq ≠ seq' ∨ kid ≠ kid') :
    nonce civ kid (pivBytes seq) ≠ nonce civ kid' (pivBytes seq') := by
  intro h
  obtain ⟨h1, h2⟩ := nonce_pivBytes_inj civ kid kid' seq seq' hk hk' hs hs' h
  exact hne.elim (· h2) (· h1)

/-- … for a whole history: a sender context that never reuses a sequence number (C15's `piv_never_reused`) never
reuses a nonce. -/
theorem distinct_pivs_distinct_nonces (civ kid : Bytes) (seqs : List Nat) (hk : kid.length ≤ 7)
    (hs : ∀ s ∈ seqs, s < 2 ^ 40) (hd : seqs.Pairwise (· ≠ ·)) :
    (seqs.map fun s => nonce civ kid (pivBytes s)).Pairwise (· ≠ ·) :=
  nonces_pairwise_ne civ kid seqs hk hs hd

/-! ### M = S: AAD, option value, option split / merge, `info` -/

/-- libcoap's `oscore_prepare_e_aad` / `oscore_prepare_aad` (M) produce the external_aad and the
Enc_structure of RFC 8613 §5.4 (S), for every algorithm id (positive or negative), kid and Partial IV. -/
theorem aad_eq_spec (alg : Int) (kid piv : Bytes) :
    M.Oscore.prepareEAad alg kid piv = aadArray alg kid piv ∧ M.Oscore.prepareAad (M.Oscore.prepareEAad alg kid piv) = aad alg kid piv := by
  have e : M.Oscore.prepareEAad alg kid piv = aadArray alg kid piv := by
    simp only [M.Oscore.prepareEAad, aadArray, putArray_eq, putBytes_eq, putUnsigned_eq, putNumber_eq, cborUint, List.append_assoc]
  refine ⟨e, ?_⟩
  rw [e]
  simp only [M.Oscore.prepareAad, aad, encStructure, putArray_eq, putBytes_eq, putText_eq, labelEncrypt0, List.append_assoc]

/-- `aad_injective` for what libcoap computes (M), through `aad_eq_spec` -/
theorem aad_injective_impl (alg alg' : Int) (kid kid' piv piv' : Bytes)
    (ha : -(2 ^ 64) ≤ alg ∧ alg < 2 ^ 64) (ha' : -(2 ^ 64) ≤ alg' ∧ alg' < 2 ^ 64)
    (hl : kid.length + piv.length < 2 ^ 63) (hl' : kid'.length + piv'.length < 2 ^ 63)
    (h : M.Oscore.prepareAad (M.Oscore.prepareEAad alg kid piv) = M.Oscore.prepareAad (M.Oscore.prepareEAad alg' kid' piv')) :
    alg = alg' ∧ kid = kid' ∧ piv = piv' := by
  rw [(aad_eq_spec alg kid piv).2, (aad_eq_spec alg' kid' piv').2] at h
  exact (aad_injective alg alg' kid kid' piv piv' ha ha' hl hl').2 h

/-- libcoap's `oscore_encode_option_value` (M) is the §6.1 compression (S) whenever the value fits the buffer
(Partial IV ≤ 5 bytes; a kid context, if present, 1..255 bytes — D14.10), and `oscore_decode_option_value` (M) is
the §6.1 decompression (S) on every byte string: it rejects exactly when S does and returns the same fields. -/
theorem option_value_eq_spec :
    (∀ (bufLen : Nat) (piv : Bytes) (kidctx kid : Option Bytes), piv.length ≤ 5 →
        (∀ c, kidctx = some c → 0 < c.length ∧ c.length ≤ 255) →
        0 < bufLen → (optEncode ⟨piv, kidctx, kid⟩).length ≤ bufLen →
        M.Oscore.encodeOptionValue bufLen piv kidctx kid = R.ok (optEncode ⟨piv, kidctx, kid⟩)) ∧
    (∀ v : Bytes, M.Oscore.decodeOptionValue v =
        match optDecode v with
        | some o => R.ok ⟨o.piv, o.kidctx, o.kid⟩
        | none => R.rej) := by
  exact ⟨encodeOptionValue_eq, decodeOptionValue_eq⟩

/-- libcoap's protect loop (M: `coap_insert_option` into the outer and the plain PDU, one option at a time) is the
class E / U filter of S, and its decrypt loop (M) is S's ordered merge — for every option list sorted by number
(every PDU is) without an OSCORE or Proxy-Uri option (D14.10), requests and responses. -/
theorem split_eq_spec :
    (∀ (req : Bool) (os : List Opt), os.Pairwise (fun a b => a.1 ≤ b.1) → (∀ o ∈ os, o.1 ≠ 9 ∧ o.1 ≠ 35) →
        M.Oscore.protectSplit req os = (outerOpts os, innerOpts req os)) ∧
    (∀ (piv : Bytes) (outer inner : List Opt), inner.Pairwise (fun a b => a.1 ≤ b.1) → (∀ o ∈ inner, o.1 ≠ 9) →
        M.Oscore.decryptMerge true piv outer inner = mergeOpts outer inner ∧
        M.Oscore.decryptMerge false piv outer inner =
          mergeOpts outer (inner.map fun o => if o.1 = optObserve then (o.1, last3 piv) else o)) := by
  refine ⟨protectSplit_eq, ?_⟩
  intro piv outer inner hs hno
  have hf : inner.filter (fun o => decide (o.1 ≠ 9)) = inner := by
    rw [List.filter_eq_self]; intro o ho; simpa using hno o ho
  constructor
  · rw [decryptMerge_eq true piv outer inner hs]
    unfold innerSeen
    rw [hf]
    simp
  · rw [decryptMerge_eq false piv outer inner hs]
    unfold innerSeen
    rw [hf]
    rfl

/-- libcoap's `compose_info` (M) builds the HKDF `info` structure of RFC 8613 §3.2.1 (S), for every id, ID Context
(absent or non-empty, D14.10), type string, length, and every algorithm id that fits libcoap's `uint8_t` -/
theorem info_eq_spec (alg : Nat) (id : Bytes) (idctx : Option Bytes) (type : Bytes) (L : Nat) (ha : alg < 256)
    (hc : idctx ≠ some []) : M.Oscore.composeInfo alg id idctx type L = info id idctx (alg : Int) type L := by
  have hm : alg % 256 = alg := Nat.mod_eq_of_lt ha
  have hi : cborInt (alg : Int) = cborHead 0 alg := by simp [cborInt]
  cases idctx with
  | none =>
    simp only [M.Oscore.composeInfo, info, putArray_eq, putBytes_eq, putText_eq, putUnsigned_eq, M.Oscore.putNil, cborUint, cborNil, hm, hi]
  | some c =>
    have : c.length > 0 := by
      cases c with
      | nil => exact absurd rfl hc
      | cons _ _ => simp
    simp only [M.Oscore.composeInfo, info, putArray_eq, putBytes_eq, putText_eq, putUnsigned_eq, cborUint, hm, hi, this, if_true]

/-! ### the round trip, requests and responses -/

/-- `unprotect ctxR (protect ctxS m) = ok m` for requests and matching contexts, for every block cipher,
message, Partial IV and context — from `ccm_roundtrip`, `option_value_roundtrip` and `split_merge_inverse`,
given that the plaintext codec round-trips on the inner message (`hplain`).  `hplain` is discharged in
`unprotect_protect_request` below (this is the cipher / option-value / option-split part of the argument). -/
theorem unprotect_protect_request_of_plain (cipher : Bytes → Bytes → Bytes) (cS cR : Ctx) (m : Msg) (seq : Nat)
    (hm : Matching cS cR)
    (hsorted : m.opts.Pairwise (fun a b => a.1 ≤ b.1))
    (hno : ∀ o ∈ m.opts, o.1 ≠ optOscore)
    (hseq : seq ≤ maxSeq)
    (hpiv : (pivBytes seq).length ≤ 5)
    (hopt : (optEncode ⟨pivBytes seq, cS.idctx, some cS.sid⟩).length ≤ 255)
    (hplain : decPlain (encPlain m.code (innerOpts true m.opts) m.payload) =
                some (m.code, innerOpts true m.opts, m.payload)) :
    ∀ r, protectRequest cipher cS m seq = some r → unprotectRequest cipher cR r.1 = .ok m r.2 := by
  obtain ⟨h1, h2, h3, h4, h5⟩ := hm
  intro r hr
  rw [(protectRequest_some hr).2.2]
  unfold unprotectRequest
  simp only [oscoreValue_withOscore _ _ (outerOpts_no_oscore m.opts)]
  simp only [aeadSeal_ne_nil, if_false]
  rw [option_value_roundtrip _ hpiv hopt]
  simp only [h1, h2, h3, h4, h5, ne_eq, not_true_eq_false, or_self, if_false, aeadOpen_aeadSeal, hplain]
  simp only [split_merge_inverse m.opts _ hsorted hno]

/-- **Requests**: `unprotect ctxR (protect ctxS m) = ok m` with the sender's binding, for every block cipher, matching
contexts, every message with a code below 256 whose options are sorted by number, numbered ≤ 65535 and at most 65804
bytes long (what RFC 7252 §3.1 can carry), every sequence number, as long as the OSCORE option value fits its 255
bytes.  (That the message carries no OSCORE option and that `seq ≤ 2^40 − 2` follow from `protectRequest … = some r`.)
The inner option-codec round trip is `decPlain_encPlain` (from C01's 13/14-scheme lemmas). -/
theorem unprotect_protect_request (cipher : Bytes → Bytes → Bytes) (cS cR : Ctx) (m : Msg) (seq : Nat)
    (hm : Matching cS cR)
    (hsorted : m.opts.Pairwise (fun a b => a.1 ≤ b.1))
    (hcode : m.code < 256)
    (hwire : ∀ o ∈ m.opts, o.1 ≤ 65535 ∧ o.2.length ≤ 65804)
    (hopt : (optEncode ⟨pivBytes seq, cS.idctx, some cS.sid⟩).length ≤ 255) :
    ∀ r, protectRequest cipher cS m seq = some r → unprotectRequest cipher cR r.1 = .ok m r.2 := by
  intro r hr
  obtain ⟨hany, hseq, _⟩ := protectRequest_some hr
  have hno := no_oscore_of_any hany
  have hpiv : (pivBytes seq).length ≤ 5 := pivBytes_length seq (lt_of_le_maxSeq hseq)
  exact unprotect_protect_request_of_plain cipher cS cR m seq hm hsorted hno hseq hpiv hopt
    (decPlain_encPlain m.code _ m.payload hcode (innerOpts_wire true m.opts hsorted hwire)) r hr

/-- the recipient's side of `unprotect_protect_response`, for whatever Partial IV `piv` (≤ 5 bytes, empty = none) the
response carries: the nonce `nce` it was sealed under is the one §8.4 derives, `opiv` the Partial IV the Observe value comes from -/
theorem unprotectResponse_sealed (cipher : Bytes → Bytes → Bytes) (cS cR : Ctx) (b : Binding) (m : Msg) (piv nce opiv : Bytes)
    (ty mid code : Nat) (hm : Matching cS cR) (hsorted : m.opts.Pairwise (fun a b => a.1 ≤ b.1))
    (hno : ∀ o ∈ m.opts, o.1 ≠ optOscore) (hpiv : piv.length ≤ 5)
    (hnce : nce = if piv = [] then b.nonce else nonce cS.commonIV cS.sid piv) (hopiv : opiv = if piv = [] then b.piv else piv)
    (hplain : decPlain (encPlain m.code (innerOpts false m.opts) m.payload) = some (m.code, innerOpts false m.opts, m.payload)) :
    unprotectResponse cipher cR (some b)
        { m with type := ty, mid := mid, code := code, opts := withOscore (outerOpts m.opts) (optEncode ⟨piv, none, none⟩),
                 payload := aeadSeal cipher cS.senderKey nce (aad cS.alg b.kid b.piv)
                   (encPlain m.code (innerOpts false m.opts) m.payload) } =
      .ok { normalize false opiv m with type := ty, mid := mid } b := by
  obtain ⟨h1, h2, h3, h4, h5⟩ := hm
  subst hopiv
  have hopt : (optEncode ⟨piv, none, none⟩).length ≤ 255 := by
    unfold optEncode
    split
    · exact Nat.zero_le _
    · simp only [Option.getD_none, List.append_nil, List.length_cons]; omega
  unfold unprotectResponse
  simp only [oscoreValue_withOscore _ _ (outerOpts_no_oscore m.opts), aeadSeal_ne_nil, if_false]
  rw [option_value_roundtrip ⟨piv, none, none⟩ hpiv hopt]
  simp only [h1, h2, h3, h5, ← hnce, aeadOpen_aeadSeal, hplain]
  simp only [obsSet_lambda, split_merge_response m.opts _ _ hsorted hno, normalize]
  rfl

/-- **Responses**: the recipient of `protectResponse … m` (same binding `b` on both sides: the request's kid, Partial
IV and nonce) recovers `m` with the Observe value the recipient derives from the Partial IV (`normalize`, D14.3) —
the response's own Partial IV if it carries one (`seq = some n`, fresh nonce), else the request's (request nonce
used) — BOTH forms RFC 8613 §8.3 allows, whichever the sender chose; which one it chooses is D14.5
(`unprotect_protect_response_for` below).  Type and message id are outside the protected content (D14.7: `sepMid`), they
are the outer message's. -/
theorem unprotect_protect_response (cipher : Bytes → Bytes → Bytes) (cS cR : Ctx) (b : Binding) (m : Msg)
    (seq : Option Nat) (sepMid : Option Nat)
    (hm : Matching cS cR)
    (hsorted : m.opts.Pairwise (fun a b => a.1 ≤ b.1))
    (hcode : m.code < 256)
    (hwire : ∀ o ∈ m.opts, o.1 ≤ 65535 ∧ o.2.length ≤ 65804) :
    ∀ r, protectResponse cipher cS b m seq sepMid = some r →
      unprotectResponse cipher cR (some b) r =
        .ok { normalize false (match seq with | some n => pivBytes n | none => b.piv) m with type := r.type, mid := r.mid } b := by
  intro r hr
  obtain ⟨hany, hseq, hr⟩ := protectResponse_some hr
  have hno := no_oscore_of_any hany
  have hplain := decPlain_encPlain m.code _ m.payload hcode (innerOpts_wire false m.opts hsorted hwire)
  rw [hr]
  cases seq with
  | none =>
    exact unprotectResponse_sealed cipher cS cR b m [] b.nonce b.piv _ _ _ hm hsorted hno (Nat.zero_le 5) rfl rfl hplain
  | some n =>
    have hlt : n < 2 ^ 40 := lt_of_le_maxSeq (hseq n rfl)
    have hne : pivBytes n ≠ [] := pivBytes_ne_nil n (by omega)
    exact unprotectResponse_sealed cipher cS cR b m (pivBytes n) _ (pivBytes n) _ _ _ hm hsorted hno (pivBytes_length n hlt)
      (if_neg hne).symm (if_neg hne).symm hplain

/-- **Responses under D14.5** (`protectResponseFor`: what the server really sends): the response carries its own Partial
IV iff the caller asks for it, or it carries Observe, or the request it answers carried Observe (`ownPiv`); the client
recovers the message either way — through the own-Partial-IV branch of §8.4 in the first case (Observe value = the low
bytes of the RESPONSE's Partial IV `pivBytes seq`), through the request-nonce branch in the second. -/
theorem unprotect_protect_response_for (cipher : Bytes → Bytes → Bytes) (cS cR : Ctx) (b : Binding) (reqObserve : Bool)
    (m : Msg) (ask : Bool) (seq : Nat) (sepMid : Option Nat)
    (hm : Matching cS cR)
    (hsorted : m.opts.Pairwise (fun a b => a.1 ≤ b.1))
    (hcode : m.code < 256)
    (hwire : ∀ o ∈ m.opts, o.1 ≤ 65535 ∧ o.2.length ≤ 65804) :
    ∀ r, protectResponseFor cipher cS b reqObserve m ask seq sepMid = some r →
      unprotectResponse cipher cR (some b) r =
        .ok { normalize false (if ownPiv ask reqObserve m then pivBytes seq else b.piv) m with type := r.type, mid := r.mid } b := by
  intro r hr
  unfold protectResponseFor at hr
  have := unprotect_protect_response cipher cS cR b m _ sepMid hm hsorted hcode hwire r hr
  rw [this]
  cases ownPiv ask reqObserve m <;> rfl

/-- **The nonce of an Observe request protects no response** (D14.5; RFC 8613 §5.2 / §8.3: the nonce of a request at most
once — and the binding of an Observe request stays, D14.16).  A response to a request that carried an Observe option —
notification or not, asked for a Partial IV or not, whatever its code — (1) is the §8.3 message with its OWN Partial IV
`pivBytes seq`, i.e. protected under the nonce of the server's Sender ID and ITS sequence number; (2) does not depend on the
nonce of the request at all (any other value in the binding gives the same bytes); (3) its OSCORE option carries that
Partial IV (not empty). -/
theorem observe_request_response_own_piv (cipher : Bytes → Bytes → Bytes) (c : Ctx) (b : Binding) (m : Msg) (ask : Bool)
    (seq : Nat) (sepMid : Option Nat) :
    protectResponseFor cipher c b true m ask seq sepMid = protectResponse cipher c b m (some seq) sepMid ∧
    (∀ n', protectResponseFor cipher c { b with nonce := n' } true m ask seq sepMid =
      protectResponseFor cipher c b true m ask seq sepMid) ∧
    (∀ r, protectResponseFor cipher c b true m ask seq sepMid = some r →
      oscoreValue r.opts = some (optEncode ⟨pivBytes seq, none, none⟩) ∧ pivBytes seq ≠ [] ∧
      r.payload = aeadSeal cipher c.senderKey (nonce c.commonIV c.sid (pivBytes seq)) (aad c.alg b.kid b.piv)
        (encPlain m.code (innerOpts false m.opts) m.payload)) := by
  have h1 : ∀ b', protectResponseFor cipher c b' true m ask seq sepMid = protectResponse cipher c b' m (some seq) sepMid := by
    intro b'
    unfold protectResponseFor ownPiv
    simp
  refine ⟨h1 b, ?_, ?_⟩
  · intro n'
    rw [h1, h1]
    unfold protectResponse
    rfl
  · intro r hr
    rw [h1] at hr
    obtain ⟨_, hseq, hr⟩ := protectResponse_some hr
    have hne : pivBytes seq ≠ [] := pivBytes_ne_nil seq (Nat.lt_trans (lt_of_le_maxSeq (hseq seq rfl)) (by decide))
    rw [hr]
    exact ⟨oscoreValue_withOscore _ _ (outerOpts_no_oscore m.opts), hne, rfl⟩

/-- the other half of D14.5: a response to a request WITHOUT Observe that carries no Observe itself and for which no Partial
IV is asked uses the nonce of the request (and no sequence number) — `request_nonce_at_most_once` below shows it is the
only one -/
theorem plain_response_request_nonce (cipher : Bytes → Bytes → Bytes) (c : Ctx) (b : Binding) (m : Msg) (seq : Nat)
    (sepMid : Option Nat) (h : hasObserve m.opts = false) :
    protectResponseFor cipher c b false m false seq sepMid = protectResponse cipher c b m none sepMid := by
  unfold protectResponseFor ownPiv
  simp [h]

/-- **`unprotect ∘ protect`, both directions**, for every block cipher, matching contexts (Sender ID + ID Context short
enough for the 255-byte OSCORE option: ≤ 248 bytes together), every message with code < 256 and encodable sorted
options: a protected request is recovered exactly, a protected response is recovered up to the Observe value the
recipient derives (D14.3) and the outer type / message id (D14.7) — in either §8.3 form, and in the form D14.5 selects
(own Partial IV whenever the request carried Observe). -/
theorem unprotect_protect (cipher : Bytes → Bytes → Bytes) (cS cR : Ctx) (m : Msg)
    (hm : Matching cS cR)
    (hsorted : m.opts.Pairwise (fun a b => a.1 ≤ b.1))
    (hcode : m.code < 256)
    (hwire : ∀ o ∈ m.opts, o.1 ≤ 65535 ∧ o.2.length ≤ 65804)
    (hid : cS.sid.length + (cS.idctx.getD []).length ≤ 248) :
    (∀ seq r, protectRequest cipher cS m seq = some r → unprotectRequest cipher cR r.1 = .ok m r.2) ∧
    (∀ b seq sepMid r, protectResponse cipher cS b m seq sepMid = some r →
      unprotectResponse cipher cR (some b) r =
        .ok { normalize false (match seq with | some n => pivBytes n | none => b.piv) m with type := r.type, mid := r.mid } b) ∧
    (∀ b reqObserve ask seq sepMid r, protectResponseFor cipher cS b reqObserve m ask seq sepMid = some r →
      unprotectResponse cipher cR (some b) r =
        .ok { normalize false (if ownPiv ask reqObserve m then pivBytes seq else b.piv) m with type := r.type, mid := r.mid } b) := by
  refine ⟨?_, fun b seq sepMid => unprotect_protect_response cipher cS cR b m seq sepMid hm hsorted hcode hwire,
    fun b o ask seq sepMid => unprotect_protect_response_for cipher cS cR b o m ask seq sepMid hm hsorted hcode hwire⟩
  intro seq r hr
  have hpiv : (pivBytes seq).length ≤ 5 := pivBytes_length seq (lt_of_le_maxSeq (protectRequest_some hr).2.1)
  refine unprotect_protect_request cipher cS cR m seq hm hsorted hcode hwire ?_ r hr
  unfold optEncode
  cases hc : cS.idctx with
  | none => simp [hc] at hid ⊢; omega
  | some c => simp [hc] at hid ⊢; omega

/-! ### sequences of exchanges on one client / server pair: the association of a token (D14.15 - D14.17) -/

/-- **The client's binding of a token is that of the latest request sent with it** — for every sequence of events at the
client (`send`: it protects a request, with a fresh or a re-used token; `recv`: any datagram arrives — the genuine response,
a late one to a superseded request, a duplicate, a forgery; a lost response is no event), by induction over the step list:
(1) whatever binding the store holds for a token `t` is the (kid, Partial IV, nonce) of the latest successfully protected
request with `t`; (2) right after protecting a request the store holds exactly that request's binding for its token,
whatever was there before (a re-used token is re-bound: RFC 8613 §8.3/§8.4, §4.1.3.5.1). -/
theorem association_tracks_latest_request (cipher : Bytes → Bytes → Bytes) (c : Ctx) (steps : List CStep) :
    (∀ t e, sFind (clientRun cipher c [] steps) t = some e → latestRequest cipher c steps t = some e.b) ∧
    (∀ m seq pm b, protectRequest cipher c m seq = some (pm, b) →
      sFind (clientRun cipher c [] (steps ++ [.send m seq])) m.token =
        some ⟨m.token, b, isRegistration m.opts, hasObserve m.opts⟩ ∧
      latestRequest cipher c (steps ++ [.send m seq]) m.token = some b) := by
  refine ⟨fun t e he => ((SInv_clientRun cipher c steps) t e he).1, ?_⟩
  intro m seq pm b hp
  constructor
  · unfold clientRun
    rw [List.foldl_append, List.foldl_cons, List.foldl_nil, clientStep_send_some cipher c _ m seq pm b hp, sFind_sSet]
    simp
  · unfold latestRequest
    rw [List.foldl_append, List.foldl_cons, List.foldl_nil, trackStep_send_some cipher c _ m seq pm b hp]
    simp

/-- **The same for libcoap's association list (M)**: for every sequence of `protect` (the tail of
`coap_oscore_new_pdu_encrypted_lkd` for a request: association found → refreshed, else created) and `decrypt` steps (the
association part of `coap_oscore_decrypt_pdu` for a response, verified or not), every association holds the `aad`, `nonce`
and `partial_iv` of the latest `protect` step with its token — in particular after a re-use of the token (all three fields
are replaced: with a stale `partial_iv` the AAD rebuilt for the response would be that of the superseded request). -/
theorem association_tracks_latest_request_impl (steps : List M.Oscore.AStep) :
    (∀ t a, M.Oscore.findAssoc (M.Oscore.assocRun [] steps) t = some a →
      M.Oscore.assocLatest steps t = some (a.aad, a.nonce, a.piv)) ∧
    (∀ t aad nonce piv o v, ∃ a,
      M.Oscore.findAssoc (M.Oscore.assocRun [] (steps ++ [.protect t aad nonce piv o v])) t = some a ∧
        a.aad = aad ∧ a.nonce = nonce ∧ a.piv = piv) := by
  constructor
  · have h0 : AInv [] (fun _ => none) := by
      intro t a ha
      simp [M.Oscore.findAssoc] at ha
    exact foldl_rel AInv steps (fun x _ as acc => AInv_step as acc x) [] (fun _ => none) h0
  · intro t aad nonce piv o v
    unfold M.Oscore.assocRun
    rw [List.foldl_append, List.foldl_cons, List.foldl_nil]
    exact ⟨_, (findAssoc_protect _ t aad nonce piv o v t).trans (if_pos rfl), rfl, rfl, rfl⟩

/-- what libcoap's client feeds the AEAD with for a response under association `a` (M: the stored nonce or one generated
from the response's Partial IV, and an AAD **rebuilt** from the Sender ID and the stored `partial_iv`) is what §8.4 says for
the binding ⟨Sender ID, `a.piv`, `a.nonce`⟩ (S, `unprotectResponse`) — ids ≤ 7 bytes, Partial IV ≤ 5 bytes, Common IV ≥ 13. -/
theorem response_inputs_eq_spec (alg : Int) (civ sid rid : Bytes) (a : M.Oscore.Assoc) (rpiv : Bytes)
    (hr : rid.length ≤ 7) (hp : rpiv.length ≤ 5) (hc : 13 ≤ civ.length) :
    M.Oscore.responseInputs alg civ sid rid a rpiv =
      R.ok (if rpiv = [] then a.nonce else nonce civ rid rpiv, aad alg sid a.piv) := by
  unfold M.Oscore.responseInputs
  rw [(aad_eq_spec alg sid a.piv).2]
  by_cases h : rpiv = []
  · simp [h]
  · have : ¬ rpiv.length = 0 := fun x => h (List.eq_nil_of_length_eq_zero x)
    simp only [this, h, if_false]
    rw [nonce_eq_spec civ rid rpiv hr hp hc]

/-- a response that does not verify changes nothing (D14.16, §8.4 "the client SHALL stop processing the response"): the
binding of its token is still there for the genuine response — in S, and in M (`coap_oscore_decrypt_pdu` after fix 7bc4d64) -/
theorem rejected_response_keeps_binding (cipher : Bytes → Bytes → Bytes) (c : Ctx) (st : Store) (r : Msg) :
    ((∀ m b, (clientRecv cipher c st r).1 ≠ .ok m b) → (clientRecv cipher c st r).2 = st) ∧
    (∀ (as : List M.Oscore.Assoc) (t : Bytes), M.Oscore.decryptAssoc as t false = as) := by
  constructor
  · intro h
    unfold clientRecv at h ⊢
    cases hf : sFind st r.token with
    | none => rfl
    | some e =>
      simp only [hf] at h ⊢
      cases hv : unprotectResponse cipher c (some e.b) r with
      | plain => rfl
      | rej => rfl
      | ok m b =>
        simp only [hv] at h
        exact absurd rfl (h m b)
  · intro as t
    unfold M.Oscore.decryptAssoc
    cases M.Oscore.findAssoc as t <;> simp

/-- **Round trip over sequences.**  For every sequence of events at the client (requests with fresh and re-used tokens,
responses lost, late, duplicated, forged — `steps` is arbitrary) and every token `t` the client holds a binding `e` for
afterwards: (1) `e.b` is the binding of the latest request sent with `t`, that request is in the sequence, and the server
that verifies it obtains the same message and the same binding (`unprotect_protect_request`); (2) every response the server
protects for that request — with or without its own Partial IV (both §8.3 forms: the client does not rely on D14.5),
whatever the message — is accepted by the client and yields the server's message (`unprotect_protect_response`), and the
binding is consumed unless the request was an Observe registration.  `sequence_roundtrip_server` below adds the server's
side: which form it sends (D14.5) and what that does to ITS binding.  Matching contexts in both directions; the requests sent are encodable (sorted options, code < 256, OSCORE
option ≤ 255 bytes). -/
theorem sequence_roundtrip (cipher : Bytes → Bytes → Bytes) (cC cS : Ctx) (hCS : Matching cC cS) (hSC : Matching cS cC)
    (steps : List CStep)
    (hwf : ∀ m seq, CStep.send m seq ∈ steps →
      m.opts.Pairwise (fun a b => a.1 ≤ b.1) ∧ m.code < 256 ∧ (∀ o ∈ m.opts, o.1 ≤ 65535 ∧ o.2.length ≤ 65804) ∧
      (optEncode ⟨pivBytes seq, cC.idctx, some cC.sid⟩).length ≤ 255)
    (t : Bytes) (e : Entry) (he : sFind (clientRun cipher cC [] steps) t = some e) :
    (∃ m seq pm, CStep.send m seq ∈ steps ∧ m.token = t ∧ protectRequest cipher cC m seq = some (pm, e.b) ∧
        latestRequest cipher cC steps t = some e.b ∧ e.keep = isRegistration m.opts ∧ e.observe = hasObserve m.opts ∧
        unprotectRequest cipher cS pm = .ok m e.b) ∧
    (∀ (rm : Msg) (rseq sepMid : Option Nat) (r : Msg), rm.token = t →
        rm.opts.Pairwise (fun a b => a.1 ≤ b.1) → rm.code < 256 → (∀ o ∈ rm.opts, o.1 ≤ 65535 ∧ o.2.length ≤ 65804) →
        protectResponse cipher cS e.b rm rseq sepMid = some r →
        clientRecv cipher cC (clientRun cipher cC [] steps) r =
          (.ok { normalize false (match rseq with | some n => pivBytes n | none => e.b.piv) rm with type := r.type, mid := r.mid } e.b,
           if e.keep then clientRun cipher cC [] steps else sDel (clientRun cipher cC [] steps) t)) := by
  obtain ⟨hl, m, seq, pm, hmem, htok, hp, hkeep⟩ := (SInv_clientRun cipher cC steps) t e he
  obtain ⟨h1, h2, h3, h4⟩ := hwf m seq hmem
  constructor
  · exact ⟨m, seq, pm, hmem, htok, hp, hl, hkeep.1, hkeep.2,
      unprotect_protect_request cipher cC cS m seq hCS h1 h2 h3 h4 (pm, e.b) hp⟩
  · intro rm rseq sepMid r hrt hs hc hw hr
    have htr : r.token = t := (protectResponse_token cipher cS e.b rm rseq sepMid r hr).trans hrt
    have hv := unprotect_protect_response cipher cS cC e.b rm rseq sepMid hSC hs hc hw r hr
    unfold clientRecv
    rw [htr, he]
    simp only [hv]

/-- **A request that does not verify changes nothing** (D14.15 / D14.16 / D14.19, §8.2 "stop processing the request"):
whatever is bound — to its token or to any other — stays bound as it was, so the response to an outstanding genuine request
is still protected with THAT request's nonce, AAD and context.  In S at a server with one context and with several, and in
M (`coap_oscore_decrypt_pdu` after fix b3c6528: the association is created / refreshed after the AEAD has accepted; the
old order replaced nonce, AAD, Partial IV and recipient context of the token's association by the forged request's). -/
theorem rejected_request_keeps_bindings (cipher : Bytes → Bytes → Bytes) (c : Ctx) (cs : List Ctx) :
    (∀ (st : Store) (pm : Msg), (∀ m b, (serverRecv cipher c st pm).1 ≠ .ok m b) → (serverRecv cipher c st pm).2 = st) ∧
    (∀ (st : CStore) (pm : Msg), (∀ m b, (serverRecvAny cipher cs st pm).1 ≠ .ok m b) → (serverRecvAny cipher cs st pm).2 = st) ∧
    (∀ (s : M.Oscore.Srv) (t : Bytes) (pos : M.Oscore.RPos) (aad nonce piv : Bytes) (o : Bool),
      (M.Oscore.srvDecrypt s t pos aad nonce piv false o).as = s.as) := by
  refine ⟨?_, ?_, fun s t pos aad nonce piv o => rfl⟩
  · intro st pm h
    unfold serverRecv at h ⊢
    cases hv : unprotectRequest cipher c pm with
    | plain => rfl
    | rej => rfl
    | ok m b =>
      simp only [hv] at h
      exact absurd rfl (h m b)
  · intro st pm h
    unfold serverRecvAny at h ⊢
    split
    · rename_i x b c0 hx hsel
      simp only [hx, hsel] at h
      exact absurd rfl (h x b)
    · rfl

/-- **The nonce of a request protects at most one response** (RFC 8613 §5.2 / §8.3 step 3; D14.5 + D14.16).  The server
verifies request `pm` and protects a response `rm` for its token; `o` = the `observe` mark of the binding (`sObs`: set when the
request carries Observe — first conjunct —, inherited when it re-uses the token of a marked binding, otherwise — fresh token,
unmarked binding — exactly "the request carries Observe").  EITHER the response carries its own Partial IV (fresh nonce from
the server's Sender Sequence Number — always so for a marked binding), OR it is protected with the nonce of the request and
then the binding is gone: no further response can be protected for that token until a new request with it has been verified
(which brings its own nonce). -/
theorem request_nonce_at_most_once (cipher : Bytes → Bytes → Bytes) (c : Ctx) (st : Store) (pm m : Msg) (b : Binding)
    (st1 : Store) (hrecv : serverRecv cipher c st pm = (.ok m b, st1))
    (rm : Msg) (ask : Bool) (seq : Nat) (sepMid : Option Nat) (r : Msg) (st2 : Store) (htok : rm.token = pm.token)
    (hsend : serverSend cipher c st1 rm ask seq sepMid = some (r, st2)) :
    (hasObserve m.opts = true → sObs st pm.token m.opts = true) ∧
    (sFind st pm.token = none → sObs st pm.token m.opts = hasObserve m.opts) ∧
    ((ownPiv ask (sObs st pm.token m.opts) rm = true ∧ protectResponse cipher c b rm (some seq) sepMid = some r) ∨
     (ownPiv ask (sObs st pm.token m.opts) rm = false ∧ hasObserve m.opts = false ∧
       protectResponse cipher c b rm none sepMid = some r ∧ sFind st2 pm.token = none ∧
       ∀ rm' ask' seq' sepMid', rm'.token = pm.token → serverSend cipher c st2 rm' ask' seq' sepMid' = none)) := by
  refine ⟨fun h => by simp [sObs, h], fun h => by simp [sObs, h], ?_⟩
  unfold serverRecv at hrecv
  cases hv : unprotectRequest cipher c pm with
  | plain => simp [hv] at hrecv
  | rej => simp [hv] at hrecv
  | ok m0 b0 =>
    simp only [hv, Prod.mk.injEq, Verdict.ok.injEq] at hrecv
    obtain ⟨⟨hm0, hb0⟩, hst⟩ := hrecv
    subst hm0 hb0 hst
    generalize hob : sObs st pm.token m0.opts = ob at *
    obtain ⟨e, hfind, hp, hst2⟩ := serverSend_some hsend
    rw [sFind_sSet, if_pos htok.symm] at hfind
    cases hfind
    unfold protectResponseFor at hp
    cases hown : ownPiv ask ob rm with
    | true =>
      simp only [hown, if_true] at hp
      exact Or.inl ⟨rfl, hp⟩
    | false =>
      simp only [hown, if_false, Bool.false_eq_true] at hp
      cases ownPiv_false hown
      have hnone : sFind st2 pm.token = none := by
        rw [hst2, if_neg Bool.false_ne_true, htok, sFind_sDel, if_pos rfl]
      refine Or.inr ⟨rfl, (Bool.or_eq_false_iff.mp hob).1, hp, hnone, ?_⟩
      intro rm' ask' seq' sepMid' ht'
      unfold serverSend
      rw [ht', hnone]

/-- **Round trip over sequences, the server's side under D14.5.**  In the situation of `sequence_roundtrip` (any event
history at the client, `e` = what it holds for token `t` afterwards) the server — whatever ITS store `sst` held before —
verifies the latest request `pm` with `t`, and every response `rm` it then protects for `t` through `serverSend` (D14.5 decides
the form: own Partial IV iff asked for, or `rm` carries Observe, or the binding is marked `observe`: the REQUEST carried
Observe, or re-used the token of a marked binding) is accepted by the client and yields the server's message, with the Observe
value taken from the Partial IV D14.5 selects. -/
theorem sequence_roundtrip_server (cipher : Bytes → Bytes → Bytes) (cC cS : Ctx) (hCS : Matching cC cS) (hSC : Matching cS cC)
    (steps : List CStep)
    (hwf : ∀ m seq, CStep.send m seq ∈ steps →
      m.opts.Pairwise (fun a b => a.1 ≤ b.1) ∧ m.code < 256 ∧ (∀ o ∈ m.opts, o.1 ≤ 65535 ∧ o.2.length ≤ 65804) ∧
      (optEncode ⟨pivBytes seq, cC.idctx, some cC.sid⟩).length ≤ 255)
    (t : Bytes) (e : Entry) (he : sFind (clientRun cipher cC [] steps) t = some e) (sst : Store) :
    ∃ m seq pm, CStep.send m seq ∈ steps ∧ m.token = t ∧ protectRequest cipher cC m seq = some (pm, e.b) ∧
      (serverRecv cipher cS sst pm).1 = .ok m e.b ∧
      (hasObserve m.opts = true → sObs sst t m.opts = true) ∧ (sFind sst t = none → sObs sst t m.opts = hasObserve m.opts) ∧
      ∀ (rm : Msg) (ask : Bool) (sseq : Nat) (sepMid : Option Nat) (r : Msg) (sst2 : Store), rm.token = t →
        rm.opts.Pairwise (fun a b => a.1 ≤ b.1) → rm.code < 256 → (∀ o ∈ rm.opts, o.1 ≤ 65535 ∧ o.2.length ≤ 65804) →
        serverSend cipher cS (serverRecv cipher cS sst pm).2 rm ask sseq sepMid = some (r, sst2) →
        clientRecv cipher cC (clientRun cipher cC [] steps) r =
          (.ok { normalize false (if ownPiv ask (sObs sst t m.opts) rm then pivBytes sseq else e.b.piv) rm with
                   type := r.type, mid := r.mid } e.b,
           if e.keep then clientRun cipher cC [] steps else sDel (clientRun cipher cC [] steps) t) := by
  obtain ⟨⟨m, seq, pm, hmem, htok, hp, _, _, _, hu⟩, hresp⟩ := sequence_roundtrip cipher cC cS hCS hSC steps hwf t e he
  have hpt : pm.token = t := (protectRequest_token cipher cC m seq (pm, e.b) hp).trans htok
  have hrecv : serverRecv cipher cS sst pm =
      (.ok m e.b, sSet sst ⟨pm.token, e.b, sObs sst pm.token m.opts, sObs sst pm.token m.opts⟩) := by
    unfold serverRecv
    simp only [hu]
  refine ⟨m, seq, pm, hmem, htok, hp, by rw [hrecv], fun h => by simp [sObs, h], fun h => by simp [sObs, h], ?_⟩
  intro rm ask sseq sepMid r sst2 hrt hs hc hw hsend
  rw [hrecv, hpt] at hsend
  obtain ⟨e', hfind, hpr, _⟩ := serverSend_some hsend
  dsimp only at hfind
  rw [sFind_sSet, if_pos hrt.symm] at hfind
  cases hfind
  unfold protectResponseFor at hpr
  rw [hresp rm _ sepMid r hrt hs hc hw hpr]
  cases ownPiv ask (sObs sst t m.opts) rm <;> rfl

/-! ### Several security contexts at the recipient of a request (D14.18; S: Spec/OscoreCtx.lean, M: Model/OscoreCtx.lean) -/

/-- **M = S for the context lookup.**  libcoap's `oscore_find_context` (two nested loops with the mismatch counter `ok`,
called by `coap_oscore_decrypt_pdu` with the request's kid and kid context — absent = empty) returns the position of the
FIRST (context, recipient) pair of the store, in list / chain order, that the request names in the sense of D14.18 —
for every store (any number of contexts, any recipient chains, ID Contexts present, empty or absent), every kid and kid
context; and the Appendix B.2 call without a kid context returns the first pair with that Recipient ID. -/
theorem find_context_eq_spec (cs : M.Oscore.CtxStore) (v : OptVal) (kid : Bytes) (hk : v.kid = some kid) :
    M.Oscore.findContext cs kid (some (v.kidctx.getD [])) none =
      ((positions cs).find? fun p => namesId v p.rid p.idctx).map (fun p => (p.i, p.j)) ∧
    M.Oscore.findContext cs kid none none =
      ((positions cs).find? fun p => decide (p.rid = kid)).map (fun p => (p.i, p.j)) := by
  constructor
  · rw [findContext_first]
    congr 2
    funext p
    simp only [namesId, hk, Option.some.injEq, Bool.decide_and, eq_comm]
  · unfold M.Oscore.findContext positions
    apply findFrom_eq
    intro p
    rw [mismatch_zero_iff_nokc]
    simp

/-- S's retrieval (§8.2 step 2) over the derived contexts of libcoap's store, listed in store order, picks the context
of the very pair `find_context_eq_spec` says `oscore_find_context` returns (`mk p` = the context derived for the pair
`p`: any function that keeps Recipient ID and ID Context). -/
theorem select_ctx_eq_find_context (cs : M.Oscore.CtxStore) (v : OptVal) (mk : Pos → Ctx)
    (hmk : ∀ p, (mk p).rid = p.rid ∧ (mk p).idctx = p.idctx) :
    selectCtx ((positions cs).map mk) v = ((positions cs).find? fun p => namesId v p.rid p.idctx).map mk := by
  unfold selectCtx
  rw [List.find?_map]
  have hf : (names v ∘ mk) = fun p => namesId v p.rid p.idctx := by
    funext p; simp [names, (hmk p).1, (hmk p).2]
  rw [hf]

/-- **A context the request does not name is never selected** ("use of a different context"): what
`oscore_find_context` returns is a recipient whose id IS the kid, in a context whose ID Context IS the kid context. -/
theorem find_context_sound (cs : M.Oscore.CtxStore) (kid kc : Bytes) (i j : Nat)
    (h : M.Oscore.findContext cs kid (some kc) none = some (i, j)) :
    ∃ c, cs[i]? = some c ∧ c.rcps[j]? = some kid ∧ c.idctx.getD [] = kc := by
  rw [findContext_first] at h
  obtain ⟨p, hf, hij⟩ := Option.map_eq_some_iff.mp h
  obtain ⟨c, h1, h2, h3⟩ := (mem_positions cs p).mp (List.mem_of_find?_eq_some hf)
  have hp := List.find?_some hf
  rw [decide_eq_true_eq] at hp
  cases hij
  exact ⟨c, h1, hp.1 ▸ h3, h2 ▸ hp.2⟩

/-- … and a request that names no pair of the store finds nothing (libcoap answers 4.01 "Security context not found"
and returns NULL: no handler runs). -/
theorem find_context_none_iff (cs : M.Oscore.CtxStore) (kid kc : Bytes) :
    M.Oscore.findContext cs kid (some kc) none = none ↔
      ∀ p ∈ positions cs, ¬ (p.rid = kid ∧ p.idctx.getD [] = kc) := by
  rw [findContext_first, Option.map_eq_none_iff, List.find?_eq_none]
  simp only [decide_eq_true_eq]

/-- **Every held context is found by the requests that name it.**  On an unambiguous store (D14.18) — any number of
contexts and recipients, equal Recipient IDs (also the empty one) under different ID Contexts, equal ID Contexts with
different Recipient IDs — the lookup for (kid, kid context) returns exactly the pair (i, j) whose Recipient ID is the kid
and whose ID Context is the kid context, wherever it is in the store and whatever was looked at before it.  (A
transcription in which the mismatch counter is not reset for every recipient does not satisfy this: example below.) -/
theorem find_context_complete (cs : M.Oscore.CtxStore) (hu : StoreUnambiguous cs) (kid kc : Bytes) (i j : Nat)
    (c : M.Oscore.OscCtx) (hc : cs[i]? = some c) (hj : c.rcps[j]? = some kid) (hid : c.idctx.getD [] = kc) :
    M.Oscore.findContext cs kid (some kc) none = some (i, j) := by
  have hmem : (⟨i, j, kid, c.idctx⟩ : Pos) ∈ positions cs := (mem_positions cs _).mpr ⟨c, hc, rfl, hj⟩
  rw [findContext_first, find?_of_pairwise _ _ (positions cs) ⟨i, j, kid, c.idctx⟩ hu hmem (decide_eq_true ⟨rfl, hid⟩)]
  · rfl
  · intro x y hx hy hr
    obtain ⟨hx1, hx2⟩ := of_decide_eq_true hx
    obtain ⟨hy1, hy2⟩ := of_decide_eq_true hy
    exact hr ⟨hx1.trans hy1.symm, hx2.trans hy2.symm⟩

/-- On an unambiguous set of contexts, what the endpoint does with a request is what the one context the request names
does with it: if `c ∈ cs` accepts the request, so does the endpoint, with the same result. -/
theorem unprotect_any_eq (cipher : Bytes → Bytes → Bytes) (cs : List Ctx) (hu : Unambiguous cs) (c : Ctx) (hc : c ∈ cs)
    (m x : Msg) (b : Binding) (h : unprotectRequest cipher c m = .ok x b) :
    unprotectRequestAny cipher cs m = .ok x b := by
  obtain ⟨ov, v, h1, h2, h3, h4⟩ := unprotectRequest_ok_names cipher c m x b h
  unfold unprotectRequestAny
  simp only [h1, h2, if_false, h3, selectCtx_of_unambiguous cs v c hu hc h4]
  exact h

/-- **Round trip with several contexts at the server**: for every unambiguous set of contexts the server holds (D14.18),
every one of them `cR` and the matching sender context `cS`, every block cipher, encodable request and sequence number:
the server recovers the original request from `protectRequest cS m seq`, with the binding of that request —
wherever `cR` is in the set and whatever the other contexts are (same Recipient ID under another ID Context, …). -/
theorem unprotect_protect_request_any (cipher : Bytes → Bytes → Bytes) (cS cR : Ctx) (cs : List Ctx)
    (hu : Unambiguous cs) (hR : cR ∈ cs) (m : Msg) (seq : Nat)
    (hm : Matching cS cR)
    (hsorted : m.opts.Pairwise (fun a b => a.1 ≤ b.1))
    (hcode : m.code < 256)
    (hwire : ∀ o ∈ m.opts, o.1 ≤ 65535 ∧ o.2.length ≤ 65804)
    (hopt : (optEncode ⟨pivBytes seq, cS.idctx, some cS.sid⟩).length ≤ 255) :
    ∀ r, protectRequest cipher cS m seq = some r → unprotectRequestAny cipher cs r.1 = .ok m r.2 := by
  intro r hr
  exact unprotect_any_eq cipher cs hu cR hR r.1 m r.2
    (unprotect_protect_request cipher cS cR m seq hm hsorted hcode hwire hopt r hr)

/-- **Use of a different context**: a request is accepted by an endpoint only through a context it holds AND the request
names, and then with that context's verdict (key, nonce, AAD) — so a request protected for a context the endpoint does
not hold (other Recipient ID or other ID Context) is rejected before any key is tried; every block cipher, every
datagram (no unambiguity needed). -/
theorem request_for_unknown_context_rejected (cipher : Bytes → Bytes → Bytes) (cs : List Ctx) (m : Msg) :
    (∀ x b, unprotectRequestAny cipher cs m = .ok x b →
      ∃ c ∈ cs, ∃ ov v, oscoreValue m.opts = some ov ∧ optDecode ov = some v ∧ names v c = true ∧
        unprotectRequest cipher c m = .ok x b) ∧
    (∀ ov v, oscoreValue m.opts = some ov → optDecode ov = some v → (∀ c ∈ cs, names v c = false) →
      unprotectRequestAny cipher cs m = .rej) := by
  constructor
  · intro x b h
    unfold unprotectRequestAny at h
    cases hov : oscoreValue m.opts with
    | none => simp [hov] at h
    | some ov =>
      simp only [hov] at h
      by_cases hp : m.payload = []
      · simp [hp] at h
      · simp only [hp, if_false] at h
        cases hd : optDecode ov with
        | none => simp [hd] at h
        | some v =>
          simp only [hd] at h
          cases hs : selectCtx cs v with
          | none => simp [hs] at h
          | some c =>
            simp only [hs] at h
            exact ⟨c, List.mem_of_find?_eq_some hs, ov, v, rfl, hd, List.find?_some hs, h⟩
  · intro ov v hov hd hnone
    unfold unprotectRequestAny
    have hs : selectCtx cs v = none := by
      unfold selectCtx
      rw [List.find?_eq_none]
      intro c hc; simp [hnone c hc]
    simp only [hov, hd, hs]
    by_cases hp : m.payload = [] <;> simp [hp]

/-! ### Requests under SEVERAL contexts interleaved on ONE server session (D14.19; S: Spec/OscoreCtxSeq.lean, M: Model/OscoreSrv.lean) -/

/-- **A response is protected with the context of the request it answers (S).**  A server holds the unambiguous set `cs`
(D14.18); a client with the context `cC` matching `cR ∈ cs` protects request `m`; the server verifies it and then sees ANY
sequence `mid` of events that concern other tokens — requests for any of its other contexts (each re-directs "the context
used last"), responses to other requests — or that are requests, WITH WHATEVER TOKEN (also `m`'s own), which do not verify
(forged ones: they bind and re-bind nothing).  Then (1) the server recovered `m`, (2) the token of `m` is still
bound to `m`'s binding AND to `cR` (RFC 8613 §8.3 step 1: "the Security Context associated with the Token"), marked
`observe` iff `m` carried Observe or re-used the token of a marked binding (`cObs`; on a token not bound before: iff `m`
carried Observe), (3) every response the server protects for that token — in the form D14.5 selects: own Partial IV iff
asked for, or the response carries Observe, or the binding is marked — is unprotected by the client to the server's
message, and (4) a response that used the nonce of the request has consumed the binding (the nonce of a request at most
once). -/
theorem interleaved_contexts_roundtrip (cipher : Bytes → Bytes → Bytes) (cs : List Ctx) (hu : Unambiguous cs)
    (cC cR : Ctx) (hR : cR ∈ cs) (hCR : Matching cC cR) (hRC : Matching cR cC) (m : Msg) (seq : Nat)
    (hsorted : m.opts.Pairwise (fun a b => a.1 ≤ b.1))
    (hcode : m.code < 256)
    (hwire : ∀ o ∈ m.opts, o.1 ≤ 65535 ∧ o.2.length ≤ 65804)
    (hopt : (optEncode ⟨pivBytes seq, cC.idctx, some cC.sid⟩).length ≤ 255)
    (st : CStore) (mid : List XStep)
    (hmid : ∀ s ∈ mid, s.token ≠ m.token ∨ ∃ pm, s = .recv pm ∧ ∀ x b, unprotectRequestAny cipher cs pm ≠ .ok x b) :
    ∀ r, protectRequest cipher cC m seq = some r →
      (serverRecvAny cipher cs st r.1).1 = .ok m r.2 ∧
      cFind (serverRunAny cipher cs (serverRecvAny cipher cs st r.1).2 mid) m.token =
        some ⟨m.token, r.2, cObs st m.token m.opts, cR, cObs st m.token m.opts⟩ ∧
      (hasObserve m.opts = true → cObs st m.token m.opts = true) ∧
      (cFind st m.token = none → cObs st m.token m.opts = hasObserve m.opts) ∧
      ∀ (rm : Msg) (ask : Bool) (sseq : Nat) (sepMid : Option Nat) (pr : Msg) (st3 : CStore), rm.token = m.token →
        rm.opts.Pairwise (fun a b => a.1 ≤ b.1) → rm.code < 256 → (∀ o ∈ rm.opts, o.1 ≤ 65535 ∧ o.2.length ≤ 65804) →
        serverSendAny cipher (serverRunAny cipher cs (serverRecvAny cipher cs st r.1).2 mid) rm ask sseq sepMid = some (pr, st3) →
        unprotectResponse cipher cC (some r.2) pr =
          .ok { normalize false (if ownPiv ask (cObs st m.token m.opts) rm then pivBytes sseq else r.2.piv) rm with
                  type := pr.type, mid := pr.mid } r.2 ∧
        (ownPiv ask (cObs st m.token m.opts) rm = false → cFind st3 m.token = none) := by
  intro r hr
  have hone := unprotect_protect_request cipher cC cR m seq hCR hsorted hcode hwire hopt r hr
  have hany := unprotect_any_eq cipher cs hu cR hR r.1 m r.2 hone
  have hsel := selectFor_of_ok cipher cs hu cR hR r.1 m r.2 hone
  have htok := protectRequest_token cipher cC m seq r hr
  have hrecv : serverRecvAny cipher cs st r.1 =
      (.ok m r.2, cSet st ⟨m.token, r.2, cObs st m.token m.opts, cR, cObs st m.token m.opts⟩) := by
    unfold serverRecvAny
    simp only [hany, hsel, htok]
  have hfind : cFind (serverRunAny cipher cs (serverRecvAny cipher cs st r.1).2 mid) m.token =
      some ⟨m.token, r.2, cObs st m.token m.opts, cR, cObs st m.token m.opts⟩ := by
    rw [cFind_run_leaves cipher cs mid m.token hmid, hrecv]
    simp only
    rw [cFind_cSet]
    simp
  refine ⟨by rw [hrecv], hfind, fun h => by simp [cObs, h], fun h => by simp [cObs, h], ?_⟩
  intro rm ask sseq sepMid pr st3 hrt hs hc hw hsend
  obtain ⟨e, he, hp, hst3⟩ := serverSendAny_some hsend
  rw [hrt, hfind] at he
  cases he
  refine ⟨unprotect_protect_response_for cipher cR cC r.2 (cObs st m.token m.opts) rm ask sseq sepMid hRC hs hc hw pr hp, ?_⟩
  intro hown
  rw [hst3, ownPiv_false hown, if_neg Bool.false_ne_true, hrt, cFind_cDel, if_pos rfl]

/-- **The same for libcoap's server session (M)**: for every sequence of `decrypt` steps (a request arrives for which
`oscore_find_context` returned the recipient context `pos`; verified or not, with or without Observe) and `protect` steps
(a response has been protected), the recipient context `coap_oscore_new_pdu_encrypted_lkd` takes the Sender Context of a
response from — `association->recipient_ctx` — is the one of the LATEST VERIFIED `decrypt` step with the response's token;
and after a verified `decrypt` step for `t` the association holds that step's context, nonce, AAD and Partial IV whatever
happens later to other tokens (in particular: whatever `session->recipient_ctx` has become) AND whatever requests that do
not verify arrive with the SAME token (fix b3c6528: before, such a request replaced all four).  A transcription that reads
`session->recipient_ctx` instead, or one that refreshes the association before the AEAD has run, does not satisfy it
(`example`s below). -/
theorem response_ctx_is_request_ctx_impl (steps : List M.Oscore.SrvStep) :
    (∀ t pos, M.Oscore.srvResponseCtx (M.Oscore.srvRun ⟨none, []⟩ steps) t = some pos →
      M.Oscore.srvLatest steps t = some pos) ∧
    (∀ t pos aad nonce piv o (later : List M.Oscore.SrvStep), (∀ x ∈ later, SrvStepLeaves t x) →
      M.Oscore.srvResponseCtx (M.Oscore.srvRun ⟨none, []⟩ (steps ++ [.decrypt t pos aad nonce piv true o] ++ later)) t = some pos ∧
      ∃ a, M.Oscore.findSAssoc (M.Oscore.srvRun ⟨none, []⟩ (steps ++ [.decrypt t pos aad nonce piv true o] ++ later)).as t = some a ∧
        a.rcp = pos ∧ a.piv = piv ∧ a.nonce = nonce ∧ a.aad = aad ∧ (o = true → a.isObserve = true) ∧ a.isClient = false) := by
  constructor
  · intro t pos h
    rw [srvResponseCtx_eq] at h
    obtain ⟨a, ha, rfl⟩ := Option.map_eq_some_iff.mp h
    rw [srvLatest_fst, (srvResponseAssoc_latest steps t a ha).2]
    rfl
  · intro t pos aad nonce piv o later hl
    have hf := findSAssoc_run_leaves later t hl (M.Oscore.srvStep (M.Oscore.srvRun ⟨none, []⟩ steps) (.decrypt t pos aad nonce piv true o))
    rw [← srvRun_snoc_append, show M.Oscore.srvStep _ (.decrypt t pos aad nonce piv true o) = M.Oscore.srvDecrypt _ t pos aad nonce piv true o from rfl,
      findSAssoc_decrypt, if_pos rfl] at hf
    refine ⟨?_, _, hf, rfl, rfl, rfl, rfl, fun h => by rw [h]; rfl, rfl⟩
    unfold M.Oscore.srvResponseCtx
    rw [hf]
    rfl

/-- **A response is never protected with the nonce of a request sent from this end** (fix 48ee5dc; RFC 8613 §5.2: a nonce
at most once per key).  libcoap keeps ONE table `session->associations`, keyed by the token only, for the requests a
session sends AND the requests it receives.  For EVERY interleaving, on one session, of received requests (`decrypt`,
verified or not, any context, with or without Observe), responses protected (`protect`), requests sent from this end
(`request`: fresh token or ANY token in the table, also that of a received request not yet answered) and responses received
(`respIn`, verified or not):
(1) whenever `coap_oscore_new_pdu_encrypted_lkd` finds an association to protect a response with token `t` under
    (`srvResponseAssoc … = some a`: `a.nonce` is what a response without Partial IV is protected with, `a.aad` / `a.piv` what
    every response is bound to), that association does not belong to a request sent from this end and its recipient context,
    AAD, nonce and Partial IV are those of the latest VERIFIED RECEIVED request with `t` — and no request sent from this end
    has used `t` since (`srvLatestReq`, Model/OscoreSrv.lean, a function of the step list alone; evaluated on two step lists in the
    `example` with the hypotheses of (2) further down);
(2) after a request sent from this end with token `t` — and whatever follows except a verified received request with `t`
    (which takes the token over with ITS nonce) — no response with `t` can be protected at all: no association is handed to
    the response path, the Partial IV decision is not reached, no Sender Context is selected.  So the nonce of that request
    (and its AAD) never reaches the AEAD a second time.
A transcription without the `is_client` test (the code before 48ee5dc) violates (1) and (2): `example` below. -/
theorem response_never_under_own_request_nonce (steps : List M.Oscore.SrvStep) :
    (∀ t a, M.Oscore.srvResponseAssoc (M.Oscore.srvRun ⟨none, []⟩ steps) t = some a →
      a.isClient = false ∧ M.Oscore.srvLatestReq steps t = some (a.rcp, a.aad, a.nonce, a.piv)) ∧
    (∀ t pos aad nonce piv o v (later : List M.Oscore.SrvStep), (∀ x ∈ later, SrvStepKeepsClient t x) →
      let s := M.Oscore.srvRun ⟨none, []⟩ (steps ++ [.request t pos aad nonce piv o v] ++ later)
      M.Oscore.srvResponseAssoc s t = none ∧ M.Oscore.srvResponseCtx s t = none ∧
      (∀ d ask, M.Oscore.srvOwnPiv s t d ask = none) ∧ M.Oscore.srvProtect s t = s) := by
  refine ⟨srvResponseAssoc_latest steps, ?_⟩
  · intro t pos aad nonce piv o v later hl s
    have hcl : ∀ a, M.Oscore.findSAssoc s.as t = some a → a.isClient = true := by
      show ∀ a, M.Oscore.findSAssoc (M.Oscore.srvRun _ _).as t = some a → _
      rw [srvRun_snoc_append]
      apply client_run_keeps later t hl
      intro a ha
      rw [show M.Oscore.srvStep _ (.request t pos aad nonce piv o v) = M.Oscore.srvRequest _ t pos aad nonce piv o v from rfl,
        findSAssoc_request, if_pos rfl] at ha
      cases ha
      rfl
    unfold M.Oscore.srvOwnPiv M.Oscore.srvResponseAssoc M.Oscore.srvResponseCtx M.Oscore.srvProtect
    cases hf : M.Oscore.findSAssoc s.as t with
    | none => exact ⟨rfl, rfl, fun _ _ => rfl, rfl⟩
    | some a => simp [hcl a hf]

/-- **libcoap (M) gives every response to an Observe request its own Partial IV** (fix 155f0b4), and agrees with D14.5 on
the others.  After a verified `decrypt` step for token `t` whose plaintext carried Observe — and whatever steps follow that
leave the association alone (other tokens, forged requests with `t`) — `coap_oscore_new_pdu_encrypted_lkd` takes the
Partial IV / `oscore_increment_sender_seq` branch for a response with token `t` whether or not the response carries Observe
and whether or not the caller asked (`srvOwnPiv … = some true`); protecting that response leaves the association (so the next
response is in the same situation: the request's nonce is never handed to the AEAD).  For an association whose
`is_observe` is 0 the decision is D14.5's `ask || response carries Observe`, and protecting the response deletes it. -/
theorem observe_request_own_piv_impl (steps : List M.Oscore.SrvStep) (t : Bytes) (pos : M.Oscore.RPos) (aad nonce piv : Bytes)
    (later : List M.Oscore.SrvStep) (hl : ∀ x ∈ later, SrvStepLeaves t x) :
    (∀ d ask, M.Oscore.srvOwnPiv (M.Oscore.srvRun ⟨none, []⟩ (steps ++ [.decrypt t pos aad nonce piv true true] ++ later)) t d ask =
        some true) ∧
    M.Oscore.srvProtect (M.Oscore.srvRun ⟨none, []⟩ (steps ++ [.decrypt t pos aad nonce piv true true] ++ later)) t =
      M.Oscore.srvRun ⟨none, []⟩ (steps ++ [.decrypt t pos aad nonce piv true true] ++ later) ∧
    (∀ (s : M.Oscore.Srv) (a : M.Oscore.SAssoc) (d ask : Bool), M.Oscore.findSAssoc s.as t = some a → a.isObserve = false →
      a.isClient = false →
      M.Oscore.srvOwnPiv s t d ask = some (ownPiv ask false ⟨0, 0, 0, [], if d then [(optObserve, [])] else [], []⟩) ∧
      M.Oscore.findSAssoc (M.Oscore.srvProtect s t).as t = none) := by
  obtain ⟨_, a, ha, _, _, _, _, hobs, hncl⟩ :=
    (response_ctx_is_request_ctx_impl steps).2 t pos aad nonce piv true later hl
  have hio : a.isObserve = true := hobs rfl
  refine ⟨?_, ?_, ?_⟩
  · intro d ask
    unfold M.Oscore.srvOwnPiv M.Oscore.srvResponseAssoc
    rw [ha]
    cases d <;> cases ask <;> simp [hio, hncl]
  · unfold M.Oscore.srvProtect
    rw [ha]
    simp [hio, hncl]
  · intro s a0 d ask hf hno hnc
    constructor
    · unfold M.Oscore.srvOwnPiv M.Oscore.srvResponseAssoc
      rw [hf]
      cases d <;> cases ask <;> simp [hno, hnc, ownPiv, hasObserve]
    · unfold M.Oscore.srvProtect
      rw [hf]
      simp only [hno, hnc, Bool.false_eq_true, if_false]
      rw [findSAssoc_filter]
      simp

/-! ### Non-vacuity: concrete instances of the hypotheses -/

example : (pivBytes 20).length ≤ 5 ∧ (pivBytes (2 ^ 40 - 2)).length ≤ 5 ∧ 2 ^ 40 - 2 ≤ maxSeq := by decide

example : (optEncode ⟨pivBytes 20, some [0x37, 0xcb], some [0x01]⟩).length ≤ 255 := by decide

example : optDecode (optEncode ⟨[0x14], none, some []⟩) = some ⟨[0x14], none, some []⟩ := by decide

/-- a client context and the server's mirror image match -/
example : Matching ⟨[], [1], none, 10, [1, 2], [3, 4], [5]⟩ ⟨[1], [], none, 10, [3, 4], [1, 2], [5]⟩ :=
  ⟨rfl, rfl, rfl, rfl, rfl⟩

/-- `hplain` of `unprotect_protect_request_of_plain` on the RFC 8613 C.4 request (GET, Uri-Host outer, Uri-Path "tv1" inner) -/
example : decPlain (encPlain 1 (innerOpts true [(3, [0x6c]), (11, [0x74, 0x76, 0x31])]) []) =
    some (1, innerOpts true [(3, [0x6c]), (11, [0x74, 0x76, 0x31])], []) := by decide

example : ([(3, [0x6c]), (11, [0x74, 0x76, 0x31])] : List Opt).Pairwise (fun a b => a.1 ≤ b.1) := by decide

/-- inner / outer split of a request with Observe, Uri-Host, Uri-Path, Max-Age, Proxy-Scheme -/
example : outerOpts [(3, [1]), (6, []), (11, [2]), (14, [3]), (39, [4])] = [(3, [1]), (6, []), (39, [4])] ∧
    innerOpts true [(3, [1]), (6, []), (11, [2]), (14, [3]), (39, [4])] = [(6, []), (11, [2]), (14, [3])] := by decide

/-! ### Non-vacuity of the injectivity / M = S / round-trip theorems -/

/-- heads of all five widths; a byte string is not a prefix of another; kid / piv boundaries in the AAD are not ambiguous -/
example : cborHead 2 23 = [0x57] ∧ cborHead 2 24 = [0x58, 24] ∧ cborHead 4 256 = [0x99, 1, 0] ∧
    cborHead 0 65536 = [0x1a, 0, 1, 0, 0] ∧ cborHead 0 4294967296 = [0x1b, 0, 0, 0, 1, 0, 0, 0, 0] := by decide
example : cborBstr [1] ++ [2] ≠ cborBstr [1, 2] ++ [] ∧ cborBstr [] ++ [0x41, 7] ≠ cborBstr [7] := by decide
example : aad 10 [1] [0x14] ≠ aad 10 [] [1, 0x14] ∧ aad 10 [1] [0x14] ≠ aad (-10) [1] [0x14] ∧
    aadArray 10 [] [0x14] = [0x85, 0x01, 0x81, 0x0a, 0x40, 0x41, 0x14, 0x40] := by decide

/-- RFC 8613 C.4 nonce through M; and the limits of `nonce_eq_spec` are sharp: 8 id bytes overwrite the length
byte (M ≠ S), 9 id bytes are out of bounds -/
example : M.Oscore.generateNonce [0x46, 0x22, 0xd4, 0xdd, 0x6d, 0x94, 0x41, 0x68, 0xee, 0xfb, 0x54, 0x98, 0x7c] [] [0x14] =
    R.ok [0x46, 0x22, 0xd4, 0xdd, 0x6d, 0x94, 0x41, 0x68, 0xee, 0xfb, 0x54, 0x98, 0x68] := by decide
example : M.Oscore.generateNonce (List.replicate 13 0) [1, 2, 3, 4, 5, 6, 7, 8] [9] ≠
    R.ok (nonce (List.replicate 13 0) [1, 2, 3, 4, 5, 6, 7, 8] [9]) ∧
    M.Oscore.generateNonce (List.replicate 13 0) (List.replicate 9 1) [9] = R.oob := by decide

/-- why `nonce_injective` needs minimal-length Partial IVs: a leading zero byte is invisible in the nonce -/
example : nonce (List.replicate 13 0) [] [0, 1] = nonce (List.replicate 13 0) [] [1] ∧ pivMinimal [0, 1] = false ∧
    pivMinimal [0] = true ∧ pivMinimal [1, 0] = true ∧ pivMinimal [] = false := by decide
example : pivBytes 0 = [0] ∧ pivBytes 255 = [0xff] ∧ pivBytes 256 = [1, 0] ∧ pivBytes (2 ^ 40 - 1) = [0xff, 0xff, 0xff, 0xff, 0xff] := by
  decide
example : nonce (List.replicate 13 0) [1] (pivBytes 255) ≠ nonce (List.replicate 13 0) [1] (pivBytes 256) := by decide
example : ([0, 1, 255, 256, 2 ^ 40 - 2] : List Nat).Pairwise (· ≠ ·) := by decide

/-- option value through M (RFC 8613 C.5 shape); an empty kid context is where M and S differ (excluded by D14.10);
a buffer that is too small is refused -/
example : M.Oscore.encodeOptionValue 48 [0x14] (some [0x37, 0xcb]) (some [1]) = R.ok (optEncode ⟨[0x14], some [0x37, 0xcb], some [1]⟩) ∧
    M.Oscore.encodeOptionValue 48 [0x14] (some []) none ≠ R.ok (optEncode ⟨[0x14], some [], none⟩) ∧
    M.Oscore.encodeOptionValue 4 [0x14] (some [0x37, 0xcb]) (some [1]) = R.rej := by decide
example : M.Oscore.decodeOptionValue [0x19, 0x14, 0x02, 0x37, 0xcb, 0x01] = R.ok ⟨[0x14], some [0x37, 0xcb], some [1]⟩ ∧
    M.Oscore.decodeOptionValue [0x0e] = R.rej ∧ optDecode [0x0e] = none := by decide

/-- the split through M; Proxy-Uri (35) is where M and S differ (excluded by D14.10); unsorted input is sorted by M -/
example : M.Oscore.protectSplit false [(3, [1]), (6, [5]), (11, [2]), (14, [3]), (39, [4])] =
    ([(3, [1]), (6, [5]), (39, [4])], [(6, []), (11, [2]), (14, [3])]) ∧
    M.Oscore.protectSplit true [(35, [1])] ≠ (outerOpts [(35, [1])], innerOpts true [(35, [1])]) ∧
    M.Oscore.protectSplit true [(11, [1]), (8, [2])] ≠ (outerOpts [(11, [1]), (8, [2])], innerOpts true [(11, [1]), (8, [2])]) := by
  decide
example : M.Oscore.decryptMerge false [0, 1, 2, 3] [(3, [1]), (9, [7]), (39, [4])] [(6, []), (11, [2])] =
    [(3, [1]), (6, [1, 2, 3]), (11, [2]), (39, [4])] := by decide

/-- the hypotheses of `unprotect_protect` on a notification-like message, and `protect` does produce something (toy cipher) -/
example : (∀ o ∈ ([(6, [1]), (11, [0x74, 0x76, 0x31]), (12, [])] : List Opt), o.1 ≤ 65535 ∧ o.2.length ≤ 65804) := by decide
example : (protectRequest (fun _ b => b) ⟨[], [1], none, 10, [1, 2], [3, 4], [5]⟩ ⟨0, 1, 7, [9], [(3, [0x6c]), (11, [0x74])], [1]⟩ 20).isSome = true ∧
    (protectResponse (fun _ b => b) ⟨[1], [], none, 10, [3, 4], [1, 2], [5]⟩ ⟨[], [0x14], [0]⟩ ⟨2, 69, 7, [9], [(6, [1]), (12, [])], [1]⟩
      (some 300) none).isSome = true ∧
    (protectResponse (fun _ b => b) ⟨[1], [], none, 10, [3, 4], [1, 2], [5]⟩ ⟨[], [0x14], [0]⟩ ⟨2, 69, 7, [9], [(12, [])], [1]⟩
      none (some 8)).isSome = true := by decide
/-- D14.3: what the recipient of a notification with Partial IV 0x012c sees -/
example : normalize false (pivBytes 300) ⟨2, 69, 7, [9], [(6, [1]), (12, [])], [1]⟩ = ⟨2, 69, 7, [9], [(6, [1, 0x2c]), (12, [])], [1]⟩ := by
  decide

/-! ### Non-vacuity of the sequence theorems -/

/-- token re-use: request (seq 20), a forged datagram with that token (rejected, nothing changes), request with the same
token (seq 21): the binding is that of request 21; `latestRequest` says the same -/
example :
    (sFind (clientRun (fun _ b => b) ⟨[], [1], none, 10, [1, 2], [3, 4], [5]⟩ []
      [.send ⟨0, 1, 7, [9], [(11, [0x74])], []⟩ 20, .recv ⟨2, 68, 7, [9], [(9, [])], [1, 2, 3]⟩,
       .send ⟨0, 1, 8, [9], [(11, [0x75])], []⟩ 21]) [9]).map (fun e => (e.b.piv, e.keep)) = some ([21], false) ∧
    (latestRequest (fun _ b => b) ⟨[], [1], none, 10, [1, 2], [3, 4], [5]⟩
      [.send ⟨0, 1, 7, [9], [(11, [0x74])], []⟩ 20, .send ⟨0, 1, 8, [9], [(11, [0x75])], []⟩ 21] [9]).map (·.piv) = some [21] := by
  decide

/-- the hypotheses of `sequence_roundtrip` on those requests -/
example : ([(11, [0x74])] : List Opt).Pairwise (fun a b => a.1 ≤ b.1) ∧ (1 : Nat) < 256 ∧
    (∀ o ∈ ([(11, [0x74])] : List Opt), o.1 ≤ 65535 ∧ o.2.length ≤ 65804) ∧
    (optEncode ⟨pivBytes 21, none, some []⟩).length ≤ 255 := by decide

/-- M: libcoap's update rule on re-use replaces aad, nonce and partial_iv and takes is_observe from the new request; a
response that is not verified leaves the association, a verified one deletes it unless is_observe -/
example :
    M.Oscore.assocRun [] [.protect [9] [1] [2] [3] false 0, .decrypt [9] false, .protect [9] [4] [5] [6] true 0] =
      [⟨[9], [4], [5], [6], true⟩] ∧
    M.Oscore.assocRun [] [.protect [9] [1] [2] [3] false 0, .decrypt [9] true] = [] ∧
    M.Oscore.assocRun [] [.protect [9] [1] [2] [3] true 0, .decrypt [9] true, .protect [9] [4] [5] [6] true 1] =
      [⟨[9], [4], [5], [6], false⟩] ∧
    M.Oscore.assocLatest [.protect [9] [1] [2] [3] false 0, .protect [8] [7] [7] [7] false 0, .protect [9] [4] [5] [6] true 0] [9] =
      some ([4], [5], [6]) := by decide

/-- D14.16: Observe 0 registers, Observe 1 (cancellation) and no Observe do not -/
example : isRegistration [(6, []), (11, [1])] = true ∧ isRegistration [(6, [0])] = true ∧ isRegistration [(6, [1])] = false ∧
    isRegistration [(11, [1])] = false := by decide


/-! ### Non-vacuity of the context-lookup theorems -/

/-- RFC 8613 C.6's client (empty Sender ID, ID Context 37cbf3210017a2d3) at a server that holds, before its context, one
with the same empty Recipient ID under another ID Context, one without ID Context and one with two recipients: the store
is unambiguous and the lookup returns the third context's only recipient; an unknown ID Context finds nothing. -/
example :
    let cs : M.Oscore.CtxStore :=
      [⟨some [0xa1, 0xa2], [[]]⟩, ⟨none, [[]]⟩, ⟨some [0x37, 0xcb, 0xf3, 0x21, 0x00, 0x17, 0xa2, 0xd3], [[]]⟩,
       ⟨some [0x37, 0xcb, 0xf3, 0x21, 0x00, 0x17, 0xa2, 0xd3], [[2], [1]]⟩]
    (positions cs).length = 5 ∧
    M.Oscore.findContext cs [] (some [0x37, 0xcb, 0xf3, 0x21, 0x00, 0x17, 0xa2, 0xd3]) none = some (2, 0) ∧
    M.Oscore.findContext cs [1] (some [0x37, 0xcb, 0xf3, 0x21, 0x00, 0x17, 0xa2, 0xd3]) none = some (3, 1) ∧
    M.Oscore.findContext cs [] (some []) none = some (1, 0) ∧
    M.Oscore.findContext cs [] (some [0x37]) none = none ∧
    M.Oscore.findContext cs [1] none none = some (3, 1) := by decide

example : StoreUnambiguous [⟨some [0xa1, 0xa2], [[]]⟩, ⟨none, [[]]⟩, ⟨some [0x37], [[]]⟩, ⟨some [0x37], [[2], [1]]⟩] := by
  unfold StoreUnambiguous; decide

/-- the mismatch counter carried over from recipient to recipient (not reset): the same lookup fails — such a
transcription does not satisfy `find_context_complete` -/
example :
    let walk : Nat → List (Bytes × Option Bytes) → Option Nat := fun ok0 l =>
      (l.foldl (fun (st : Nat × Nat × Option Nat) (p : Bytes × Option Bytes) =>
        match st.2.2 with
        | some _ => st
        | none =>
          let ok := if p.1 ≠ [] then 0 else st.1     -- empty kid: `ok` keeps its old value
          let ok' := ok + (if p.2.getD [] ≠ [0x37] then 1 else 0)
          (ok', st.2.1 + 1, if ok' = 0 then some st.2.1 else none)) (ok0, 0, none)).2.2
    walk 0 [([], some [0xa1]), ([], some [0x37])] = none ∧ walk 0 [([], some [0x37])] = some 0 := by decide

/-- S: two derived contexts with the same (empty) Recipient ID under different ID Contexts are an unambiguous set, and the
compressed COSE object of a request for the second names the second only -/
example :
    Unambiguous [⟨[1], [], some [0xa1], 10, [1], [2], [3]⟩, ⟨[1], [], some [0x37], 10, [4], [5], [6]⟩] ∧
    selectCtx [⟨[1], [], some [0xa1], 10, [1], [2], [3]⟩, ⟨[1], [], some [0x37], 10, [4], [5], [6]⟩] ⟨[0x14], some [0x37], some []⟩ =
      some ⟨[1], [], some [0x37], 10, [4], [5], [6]⟩ ∧
    selectCtx [⟨[1], [], some [0xa1], 10, [1], [2], [3]⟩] ⟨[0x14], some [0x37], some []⟩ = none := by
  refine ⟨?_, by decide, by decide⟩
  unfold Unambiguous; decide


/-- RFC 8613 C.1.1 `info` for the Common IV through M -/
example : M.Oscore.composeInfo 10 [] none labelIV 13 = [0x85, 0x40, 0xf6, 0x0a, 0x62, 0x49, 0x56, 0x0d] := by decide

-- several contexts on one server session: request 1 for context (0,0), request 2 for context (1,0), then the response to
-- request 1 — libcoap (M) protects it with (0,0); `session->recipient_ctx` is (1,0) by then (what seed C14-10 reads)
example :
    let s := M.Oscore.srvRun ⟨none, []⟩ [.decrypt [1] (0, 0) [] [] [0x14] true false, .decrypt [2] (1, 0) [] [] [0x15] true false]
    M.Oscore.srvResponseCtx s [1] = some (0, 0) ∧ s.rcp = some (1, 0) ∧
    M.Oscore.srvLatest [.decrypt [1] (0, 0) [] [] [0x14] true false, .decrypt [2] (1, 0) [] [] [0x15] true false] [1] = some (0, 0) ∧
    M.Oscore.srvResponseCtx (M.Oscore.srvProtect s [1]) [1] = none := by decide
example : (∀ s ∈ [XStep.recv ⟨0, 2, 7, [2], [(9, [9, 0x15, 0x0b])], [1, 2, 3]⟩, XStep.send ⟨1, 69, 9, [3], [], []⟩ false 7 none], s.token ≠ [1]) := by
  decide
example : Unambiguous [⟨[1], [0x0a], none, 10, [1], [2], [3]⟩, ⟨[2], [0x0b], none, 10, [4], [5], [6]⟩] := by
  unfold Unambiguous; decide
/-- the second arm of `hmid`: a request that names a held context (kid 0x0b) but does not verify (toy cipher: the tag does
not match) — with any token, also the one of the pending exchange -/
example : unprotectRequestAny (fun _ b => b) [⟨[1], [0x0a], none, 10, [1], [2], [3]⟩, ⟨[2], [0x0b], none, 10, [4], [5], [6]⟩]
    ⟨0, 2, 7, [1], [(9, [9, 0x15, 0x0b])], [1, 2, 3, 4, 5, 6, 7, 8, 9, 10]⟩ = .rej := by decide

/-! ### Non-vacuity of the D14.5 / verify-then-bind theorems -/

/-- D14.5: who gets a Partial IV — asked for; a notification; ANY response to a request that carried Observe (also a 4.04
without Observe option); not: a plain response to a plain request -/
example : ownPiv true false ⟨2, 69, 7, [9], [], []⟩ = true ∧ ownPiv false false ⟨2, 69, 7, [9], [(6, [1])], []⟩ = true ∧
    ownPiv false true ⟨2, 132, 7, [9], [], []⟩ = true ∧ ownPiv false false ⟨2, 69, 7, [9], [(12, [])], []⟩ = false := by decide

/-- a 4.04 without Observe answering an Observe request: OSCORE option 01 2a (own Partial IV 42), and another request nonce
in the binding gives the same message; answering a plain request: empty option, and the request nonce matters -/
example :
    ((protectResponseFor (fun _ b => b) ⟨[1], [], none, 10, [3, 4], [1, 2], [5]⟩ ⟨[], [0x14], [0]⟩ true ⟨2, 132, 7, [9], [], []⟩
      false 42 none).map fun r => oscoreValue r.opts) = some (some [1, 42]) ∧
    protectResponseFor (fun _ b => b) ⟨[1], [], none, 10, [3, 4], [1, 2], [5]⟩ ⟨[], [0x14], [0]⟩ true ⟨2, 132, 7, [9], [], []⟩ false 42 none =
      protectResponseFor (fun _ b => b) ⟨[1], [], none, 10, [3, 4], [1, 2], [5]⟩ ⟨[], [0x14], [77]⟩ true ⟨2, 132, 7, [9], [], []⟩ false 42 none ∧
    ((protectResponseFor (fun _ b => b) ⟨[1], [], none, 10, [3, 4], [1, 2], [5]⟩ ⟨[], [0x14], [0]⟩ false ⟨2, 132, 7, [9], [], []⟩
      false 42 none).map fun r => oscoreValue r.opts) = some (some []) := by decide

/-- M, fix b3c6528: genuine request (token 01, context (0,0), nonce 07), then a forged request with the SAME token for
context (1,0) that fails the AEAD: `session->recipient_ctx` moves, the association keeps context, nonce, AAD and Partial IV
of the genuine request (the order before the fix — refresh, then verify — gives nonce 09 / context (1,0) here); a forged
request with a new token leaves no association behind -/
example :
    let s := M.Oscore.srvRun ⟨none, []⟩ [.decrypt [1] (0, 0) [5] [7] [0x14] true false, .decrypt [1] (1, 0) [6] [9] [0x99] false false,
                                         .decrypt [2] (1, 0) [6] [9] [0x99] false true]
    s.as = [⟨[1], (0, 0), [5], [7], [0x14], false, false⟩] ∧ s.rcp = some (1, 0) ∧
    SrvStepLeaves [1] (.decrypt [1] (1, 0) [6] [9] [0x99] false false) ∧ SrvStepLeaves [1] (.decrypt [2] (1, 0) [6] [9] [0x99] false true) := by
  refine ⟨by decide, by decide, Or.inr rfl, Or.inl (by decide)⟩

/-- M, fix 155f0b4: the association of an Observe request forces the Partial IV for a response without Observe that did not
ask for one, and stays; the association of a plain request does not, and goes with the response -/
example :
    let s := M.Oscore.srvRun ⟨none, []⟩ [.decrypt [1] (0, 0) [5] [7] [0x14] true true, .decrypt [2] (0, 0) [5] [8] [0x15] true false]
    M.Oscore.srvOwnPiv s [1] false false = some true ∧ M.Oscore.srvOwnPiv s [2] false false = some false ∧
    M.Oscore.srvOwnPiv s [2] true false = some true ∧ M.Oscore.srvOwnPiv s [2] false true = some true ∧
    M.Oscore.srvOwnPiv s [3] false true = none ∧
    M.Oscore.srvOwnPiv (M.Oscore.srvProtect s [1]) [1] false false = some true ∧
    M.Oscore.srvOwnPiv (M.Oscore.srvProtect s [2]) [2] false false = none := by decide

/-- M, fix 48ee5dc, both orders on ONE session.  (a) request 01 received (nonce 07), then a request SENT with token 01 (own
nonce 0a): the association is the sent request's (`is_client`), no response with token 01 can be protected — the code before
the fix handed nonce 0a to the response (`findSAssoc` shows what it would have used).  (b) request SENT with token 01 first,
then request 01 received and verified: the received request takes the token over, the response is protected under nonce 07.
Hypotheses of `response_never_under_own_request_nonce` (2): every step but a verified received request with the token. -/
example :
    let a := M.Oscore.srvRun ⟨none, []⟩ [.decrypt [1] (0, 0) [5] [7] [0x14] true false, .request [1] (0, 0) [6] [0x0a] [0x02] false 0]
    let b := M.Oscore.srvRun ⟨none, []⟩ [.decrypt [9] (0, 0) [4] [6] [0x13] true false, .request [1] (0, 0) [6] [0x0a] [0x02] false 0,
                                         .decrypt [1] (0, 0) [5] [7] [0x14] true false]
    M.Oscore.srvResponseAssoc a [1] = none ∧ M.Oscore.srvResponseCtx a [1] = none ∧ M.Oscore.srvOwnPiv a [1] false false = none ∧
    (M.Oscore.findSAssoc a.as [1]).map (fun x => (x.nonce, x.isClient)) = some ([0x0a], true) ∧
    (M.Oscore.srvResponseAssoc b [1]).map (fun x => (x.nonce, x.aad, x.piv, x.isClient)) = some ([7], [5], [0x14], false) ∧
    M.Oscore.srvLatestReq [.decrypt [9] (0, 0) [4] [6] [0x13] true false, .request [1] (0, 0) [6] [0x0a] [0x02] false 0,
                           .decrypt [1] (0, 0) [5] [7] [0x14] true false] [1] = some ((0, 0), [5], [7], [0x14]) ∧
    M.Oscore.srvLatestReq [.decrypt [1] (0, 0) [5] [7] [0x14] true false, .request [1] (0, 0) [6] [0x0a] [0x02] false 0] [1] = none ∧
    SrvStepKeepsClient [1] (.decrypt [1] (1, 0) [6] [9] [0x99] false false) ∧ SrvStepKeepsClient [1] (.respIn [1] true) ∧
    SrvStepKeepsClient [1] (.protect [1]) ∧ SrvStepLeaves [1] (.request [2] (0, 0) [6] [0x0b] [0x03] true 0) := by
  refine ⟨by decide, by decide, by decide, by decide, by decide, by decide, by decide, Or.inr rfl, trivial, trivial, (by decide : ([2] : Bytes) ≠ [1])⟩

/-! ### Outer class E options incl. RFC 9177, OSCORE option of more than 255 bytes, OSCORE only resources -/

/-- Q-Block1 (19) and Q-Block2 (31) are class E (RFC 9177 §4.1) in S's table and in the skip list of
`coap_oscore_decrypt_pdu` (after fix 44cf280); the sender protects them as inner options. -/
theorem qblock_is_class_e :
    classE 19 = true ∧ classE 31 = true ∧ M.Oscore.decryptSkips 19 = true ∧ M.Oscore.decryptSkips 31 = true ∧
    M.Oscore.protectClass 19 = 3 ∧ M.Oscore.protectClass 31 = 3 ∧ classUOnly 19 = false ∧ classUOnly 31 = false := by
  decide

/-- **No outer class E option reaches the unprotected message** (§8.2 / §8.4 step 1), for EVERY outer option list — whatever
was added on the path — and every inner list: an option of class E (Q-Block1 / Q-Block2 included) in the merged list is
one of the inner, protected options. -/
theorem outer_class_e_discarded (outer inner : List Opt) (o : Opt) (ho : o ∈ mergeOpts outer inner)
    (he : classE o.1 = true) : o ∈ inner := by
  unfold mergeOpts at ho
  rw [List.mem_merge] at ho
  rcases ho with h | h
  · rw [List.mem_filter] at h
    have := h.2
    simp [he] at this
  · exact h

example : ((19, [8]) : Opt) ∉ mergeOpts [(3, [1]), (9, []), (19, [8])] [(11, [2])] := fun h => by
  have := outer_class_e_discarded _ _ _ h (by decide)
  simp at this

/-- §2: an OSCORE option value of more than 255 bytes is no OSCORE option — S rejects the message (request and response,
every cipher, context and binding) and `oscore_decode_option_value` rejects it too.  (In libcoap `coap_pdu_parse()` already
refuses such an option, so the `uint8_t osc_size` of `coap_oscore_decrypt_pdu` never narrows anything: op `olen`.) -/
theorem oversized_oscore_option_rejected (cipher : Bytes → Bytes → Bytes) (c : Ctx) (m : Msg) (ov : Bytes)
    (hov : oscoreValue m.opts = some ov) (hl : 255 < ov.length) :
    unprotectRequest cipher c m = .rej ∧ (∀ b, unprotectResponse cipher c b m = .rej) ∧
    M.Oscore.decodeOptionValue ov = R.rej := by
  have hd : optDecode ov = none := by
    cases ov with
    | nil => simp at hl
    | cons f r =>
      have hr : r.length ≥ 255 := by simp at hl; omega
      simp [optDecode, hr]
  refine ⟨?_, ?_, ?_⟩
  · unfold unprotectRequest
    rw [hov]
    by_cases hp : m.payload = [] <;> simp [hp, hd]
  · intro b
    unfold unprotectResponse
    rw [hov]
    by_cases hp : m.payload = [] <;> simp [hp, hd]
  · rw [option_value_eq_spec.2 ov, hd]

example : oscoreValue ({ type := 0, code := 1, mid := 0, token := [], opts := [(9, List.replicate 256 0)], payload := [1] } : Msg).opts =
    some (List.replicate 256 0) ∧ 255 < (List.replicate 256 (0 : UInt8)).length :=
  ⟨rfl, by rw [List.length_replicate]; omega⟩

/-- **An unprotected request never reaches the handler of an OSCORE only resource**, whatever the session has seen before
(any list of protected requests — verified or not — and plain requests): it is answered 4.01 or not at all, never with a
protected response; and on any session the handler runs exactly for a VERIFIED protected request or a plain request to a
resource that is not OSCORE only.  (`session->oscore_encryption`, which stays set after the first verified request, decided
before fix a9dbe3e: `dispatchOld`, example below.) -/
theorem plain_request_never_reaches_oscore_only_handler (hc : Nat) (s : M.Oscore.DSess) (rs : List M.Oscore.DReq) :
    ((M.Oscore.dispatch hc (M.Oscore.dispatchRun hc s rs) (.plain true)).handler = false ∧
     ((M.Oscore.dispatch hc (M.Oscore.dispatchRun hc s rs) (.plain true)).out = .nothing ∨
      (M.Oscore.dispatch hc (M.Oscore.dispatchRun hc s rs) (.plain true)).out = .clear 129) ∧
     (M.Oscore.dispatch hc (M.Oscore.dispatchRun hc s rs) (.plain true)).sess = M.Oscore.dispatchRun hc s rs) ∧
    (∀ r, (M.Oscore.dispatch hc (M.Oscore.dispatchRun hc s rs) r).handler = true ↔
      ((∃ only, r = .osc true only) ∨ r = .plain false)) := by
  generalize M.Oscore.dispatchRun hc s rs = t
  refine ⟨⟨?_, ?_, ?_⟩, ?_⟩
  · simp [M.Oscore.dispatch]
  · cases h : t.enc <;> simp [M.Oscore.dispatch, h]
  · simp [M.Oscore.dispatch]
  · intro r
    cases r with
    | plain only => cases only <;> simp [M.Oscore.dispatch]
    | osc v only => cases v <;> simp [M.Oscore.dispatch]

/-- the witness: after ONE verified protected request the old test let a plain request to the OSCORE only resource through -/
example : (M.Oscore.dispatchOld 68 (M.Oscore.dispatch 68 ⟨false⟩ (.osc true true)).sess (.plain true)).handler = true ∧
    (M.Oscore.dispatch 68 (M.Oscore.dispatch 68 ⟨false⟩ (.osc true true)).sess (.plain true)).handler = false ∧
    (M.Oscore.dispatchOld 68 ⟨false⟩ (.plain true)).handler = false := by decide

end Coap.C14
