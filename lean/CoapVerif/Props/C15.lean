import CoapVerif.Lemmas.Replay
import CoapVerif.Lemmas.ReplayEndp
import CoapVerif.Lemmas.ReplayReqNonce
import CoapVerif.Model.ReplayB2
import CoapVerif.Spec.Replay
/-
C15 — OSCORE never accepts a replay or reuses a nonce; forgeries leave no trace.

All theorems are about M, for every configuration (`cfg.window`, `cfg.b12` arbitrary), every state where stated and every history,
by induction, no bound.  In this order:
  * the recipient context (Model/Replay.lean `step` = `recv` / `recvRsp`, the request and response branch of
    coap_oscore_decrypt_pdu, `validate`, `rollback`): a history is a `List Msg` in which protected requests and protected responses
    (notifications with a Partial IV of their own, responses without, authentic or forged) of one peer are interleaved in any order;
    at most once (also across restarts with Appendix B.1.2), forgeries leave no trace, no undefined shift, liveness;
  * the sender (`protect`, `restart`, histories `srun`): no Partial IV twice, also across restarts;
  * M ⊑ S (Spec/Replay.lean, the monitor) and what S implies; datagrams of any ciphertext length (`stepD`);
  * the endpoint (`nstep`, histories `nrun`): which nonce a message is protected with, no (Sender Key, nonce) pair twice;
  * Appendix B.2 (Model/ReplayB2.lean): forged messages leave the security context untouched, client and server side;
  * non-vacuity: the `decide`d witnesses of the defects.  The constants against the code: Props/C15Consts.lean.
-/
namespace Coap.C15
open Coap.Replay

/-- Every Partial IV is recorded in the replay window at most once, by a request or by a response: in every history
of a fresh recipient context the recorded PIVs are pairwise distinct. -/
theorem recorded_at_most_once (cfg : Cfg) (ms : List Msg) : (recorded cfg Recip.fresh ms).Nodup :=
  (run_good cfg ms Recip.fresh [] 0 (good_fresh 0)).1

/-- **A protected request is accepted by a recipient context at most once**, whatever the arrival order, window size
and Appendix B.1.2 setting, and whatever responses (with older or newer Partial IVs, authentic or forged) arrive in
between on the same context: in every history of a fresh recipient context the Partial IVs of the accepted requests
are pairwise distinct. -/
theorem accept_at_most_once (cfg : Cfg) (ms : List Msg) : (accepted cfg Recip.fresh ms).Nodup :=
  (recorded_at_most_once cfg ms).sublist (accepted_sublist cfg ms _)

/-- The same from any state that is consistent with a set `A` of already recorded PIVs: nothing of `A` is accepted
again, and nothing is accepted twice. -/
theorem accept_at_most_once_from (cfg : Cfg) (r : Recip) (A : List Nat) (F : Nat) (g : Good r.view A F) (ms : List Msg) :
    (accepted cfg r ms).Nodup ∧ ∀ p ∈ accepted cfg r ms, p ∉ A :=
  ⟨(run_good cfg ms r A F g).1.sublist (accepted_sublist cfg ms _),
    fun p hp => (run_good cfg ms r A F g).2.1 p ((accepted_sublist cfg ms r).subset hp)⟩

/-- **… also across restarts with Appendix B.1.2.**  A recipient context lives several lives (`ls`: the history of each
life, every life starts from a fresh context — the replay window is lost in the crash).  With B.1.2 enabled, and the
Echo exchange fresh (`EchoFresh`; the sender side is `piv_strictly_increasing`), the Partial IVs of the requests accepted over ALL lives are pairwise distinct: a datagram
accepted before the crash is never accepted again, however close below the Partial IV of the Echo request it lies
(fix a6e248b: that Partial IV is the lower edge of the new window, RFC 8613 B.1.2). -/
theorem accept_at_most_once_across_restarts (cfg : Cfg) (hb : cfg.b12 = true) (ls : List (List Msg))
    (hf : EchoFresh cfg [] ls) : (acceptedLives cfg ls).Nodup :=
  (acceptedLives_nodup cfg hb ls [] hf).1

/-- After the Appendix B.1.2 exchange nothing below the Partial IV of the request that completed it is ever accepted. -/
theorem nothing_below_echo_request (cfg : Cfg) (hb : cfg.b12 = true) (ms : List Msg) (p : Nat)
    (hp : p ∈ accepted cfg Recip.fresh ms) : ∃ ev, Msg.req ev ∈ ms ∧ ev.echo = .good ∧ ev.piv ≤ p :=
  (accepted_above_floor cfg hb ms Recip.fresh [] 0 (good_fresh 0) p hp).2 rfl

/-- Only messages that authenticate are accepted (requests and responses, any state). -/
theorem forged_never_accepted (cfg : Cfg) (r : Recip) (m : Msg) (h : m.authentic = false) :
    (step cfg r m).2 ≠ .acc := by
  cases m with
  | req ev =>
    simp only [step]
    rw [recv_snd]
    rcases vrecv_cases cfg r.view ev with ⟨_, _, ha, _⟩ | ⟨_, h2, _⟩
    · have h' : ev.authentic = false := h
      rw [h'] at ha; cases ha
    · exact h2
  | rsp x =>
    simp only [step]
    rw [recvRsp_snd, (vrecvRsp_forged h).1]
    nofun

/-- A request that fails authentication leaves the replay window and sequence state exactly as before — in every
state (reachable or not), every configuration, any claimed Partial IV. -/
theorem forged_request_no_trace (cfg : Cfg) (r : Recip) (ev : Ev) (h : ev.authentic = false) :
    (recv cfg r ev).1.view = r.view := by
  rw [recv_fst_view]
  rcases vrecv_cases cfg r.view ev with ⟨_, _, ha, _⟩ | ⟨h1, _, _⟩
  · rw [h] at ha; cases ha
  · exact h1

/-- **Messages that fail authentication leave the replay window and sequence state exactly as before** — requests
and responses, every configuration, any claimed Partial IV (or none), in every state in which `last_seq` is below
`OSCORE_SEQ_MAX` once the window is initialised (`Sane`; every reachable state is, `reachable_sane`). -/
theorem forgery_no_trace (cfg : Cfg) (r : Recip) (m : Msg) (h : m.authentic = false) (hs : Sane r.view) :
    (step cfg r m).1.view = r.view := by
  cases m with
  | req ev => exact forged_request_no_trace cfg r ev h
  | rsp x =>
    simp only [step]
    rw [recvRsp_fst_view]
    exact (vrecvRsp_forged h).2 hs

theorem reachable_sane (cfg : Cfg) (ms : List Msg) : Sane (final cfg Recip.fresh ms).view :=
  (good_final cfg ms).lt

theorem forgery_no_trace_reachable (cfg : Cfg) (ms : List Msg) (m : Msg) (h : m.authentic = false) :
    (step cfg (final cfg Recip.fresh ms) m).1.view = (final cfg Recip.fresh ms).view :=
  forgery_no_trace cfg _ m h (reachable_sane cfg ms)

/-- The verdicts of a history depend on the view of the starting state only (the roll-back scratch fields never
matter). -/
theorem verdicts_view (cfg : Cfg) (ms : List Msg) : ∀ r r' : Recip, r.view = r'.view →
    verdicts cfg r ms = verdicts cfg r' ms := by
  induction ms with
  | nil => intro _ _ _; rfl
  | cons m ms ih =>
    intro r r' h
    simp only [verdicts]
    have h1 : (step cfg r m).2 = (step cfg r' m).2 := by rw [step_snd, step_snd, h]
    have h2 : (step cfg r m).1.view = (step cfg r' m).1.view := by rw [step_fst_view, step_fst_view, h]
    rw [h1, ih _ _ h2]

/-- **… so later genuine messages are still accepted**: whatever follows a message that failed authentication
(requests and responses) gets exactly the verdicts it would have got had the forged message never arrived. -/
theorem forgery_invisible (cfg : Cfg) (r : Recip) (m : Msg) (h : m.authentic = false) (hs : Sane r.view)
    (ms : List Msg) : verdicts cfg (step cfg r m).1 ms = verdicts cfg r ms :=
  verdicts_view cfg ms _ _ (forgery_no_trace cfg r m h hs)

/-- **No 64-bit shift by 64 or more** is executed by `oscore_validate_sender_seq` (the model exposes every shift
amount through `shl64`), in any state, for any Partial IV; hence none in `step` (request or response) either. -/
theorem no_ub_shift (cfg : Cfg) (r : Recip) (piv : Nat) : validate cfg r piv ≠ .ub := by
  rw [validate_view]
  split <;> nofun

theorem no_ub_recv (cfg : Cfg) (r : Recip) (m : Msg) : (step cfg r m).2 ≠ .ub := by
  cases m with
  | req ev =>
    simp only [step]
    rw [recv_snd]
    rcases vrecv_cases cfg r.view ev with ⟨_, _, _, ⟨he, _⟩ | ⟨_, _, _, he⟩⟩ | ⟨_, _, h3⟩
    · rw [he]; intro h; cases h
    · rw [he]; intro h; cases h
    · exact h3
  | rsp x =>
    simp only [step]
    rw [recvRsp_snd]
    exact vrecvRsp_not_ub cfg r.view x


/-- **Liveness: a genuine request inside the replay window is accepted.**  After any history of requests and
responses of a fresh recipient context, a request that authenticates, whose Partial IV was never recorded (accepted
in a request, or in a validated response), is below the sequence number limit and is less than `min window 64` below
every recorded PIV (i.e. not older than the window), is accepted — provided the Appendix B.1.2 exchange is not
pending (B.1.2 off, or something was recorded already) or the request carries the right Echo value. -/
theorem fresh_in_window_accepted (cfg : Cfg) (ms : List Msg) (ev : Ev)
    (ha : ev.authentic = true) (hp : ev.piv < SEQ_MAX)
    (hn : ev.piv ∉ recorded cfg Recip.fresh ms)
    (hw : ∀ q ∈ recorded cfg Recip.fresh ms, q < ev.piv + min cfg.window 64)
    (hs : cfg.b12 = false ∨ recorded cfg Recip.fresh ms ≠ [] ∨ ev.echo = .good)
    (hf : floorOf cfg Recip.fresh ms 0 ≤ ev.piv) :
    (step cfg (final cfg Recip.fresh ms) (.req ev)).2 = .acc := by
  have g := good_final cfg ms
  obtain ⟨v', hv⟩ := vvalidate_live (cfg := cfg) g hp (by simpa using hn) (by simpa using hw) (fun _ => hf)
  simp only [step]
  rw [recv_snd]
  apply vrecv_acc ha hv
  rcases hs with hs | hs | hs
  · left; simp [hs]
  · left
    cases hi : (final cfg Recip.fresh ms).view.init with
    | false => simp
    | true =>
      have := g.fresh hi
      simp at this
      exact absurd this hs
  · right; exact hs

/-- Liveness for responses: a genuine response without Partial IV is accepted in every state. -/
theorem response_without_piv_accepted (cfg : Cfg) (r : Recip) :
    step cfg r (.rsp ⟨true, none⟩) = (r, .acc) := rfl

/-- A genuine response (notification) whose Partial IV is below the limit, was never recorded and is not older than the window
is accepted after any history (`hl`, before the window is initialised: provided no Partial IV ≥ 2^40 − 1 was accepted, D15f). -/
theorem fresh_response_accepted (cfg : Cfg) (ms : List Msg) (p : Nat) (hp : p < SEQ_MAX)
    (hn : p ∉ recorded cfg Recip.fresh ms)
    (hw : ∀ q ∈ recorded cfg Recip.fresh ms, q < p + min cfg.window 64)
    (hl : (final cfg Recip.fresh ms).init = true → (final cfg Recip.fresh ms).last < SEQ_MAX)
    (hf : floorOf cfg Recip.fresh ms 0 ≤ p) :
    (step cfg (final cfg Recip.fresh ms) (.rsp ⟨true, some p⟩)).2 = .acc := by
  have g := good_final cfg ms
  obtain ⟨v', hv'⟩ := vvalidate_live (cfg := cfg) g hp (by simpa using hn) (by simpa using hw) (fun _ => hf)
  simp only [step]
  rw [recvRsp_snd]
  rcases vrecvRsp_cases cfg (final cfg Recip.fresh ms).view ⟨true, some p⟩ with
    ⟨_, ha | ⟨q, hq, ⟨hi, h1⟩ | ⟨_, hv⟩⟩⟩ | ⟨_, hq, _⟩ | ⟨_, _, _, _, _, e⟩ | ⟨q, v1, hq, _, hv, ⟨h1, _⟩ | ⟨_, _, e⟩⟩
  · cases ha
  · exact absurd (hl hi) (Nat.not_lt_of_ge h1)
  · cases hq
    rw [hv] at hv'; cases hv'
  · cases hq
  · rw [e]
  · cases hq
    exact absurd (vvalidate_last_lt hv g.lt) (Nat.not_lt_of_ge h1)
  · rw [e]

/-- **A sender context never protects two messages with the same Partial IV, also across restarts** that resume from
the value last handed to the save callback: for every `ssn_freq` (also changed at a restart), every start value a
save callback can have produced, and every sequence of protect / crash-and-restart operations (a crash may happen
between any two operations, i.e. anywhere between two save-callback invocations), the Partial IVs put on the wire
are strictly increasing.  (`ops.length < 2^63`: beyond that the `uint64_t` counter itself would wrap.) -/
theorem piv_strictly_increasing (f start : Nat) (ops : List SOp) (hs : start ≤ SEQ_MAX + 2 ^ 32)
    (hl : ops.length < 2 ^ 63) : (pivs (srun (SSys.start f start) ops)).Pairwise (· < ·) :=
  (srun_increasing ops _ [] 0 (sgood_start f start hs) (by omega)).2

theorem piv_never_reused (f start : Nat) (ops : List SOp) (hs : start ≤ SEQ_MAX + 2 ^ 32)
    (hl : ops.length < 2 ^ 63) : ReplaySpec.senderOk (pivs (srun (SSys.start f start) ops)) :=
  (piv_strictly_increasing f start ops hs hl).imp (fun h => Nat.ne_of_lt h)


/-- **P1: M refines S.**  The trace of every history of requests and responses of a fresh recipient context conforms
to the specification monitor (every outcome is one the monitor allows: forgeries rejected, accepted request PIVs
rejected, fresh in-window requests and responses accepted, Appendix B.1.2 outcomes). -/
theorem recv_conforms_spec (cfg : Cfg) (ms : List Msg) :
    ReplaySpec.conforms cfg.window (ReplaySpec.St.start cfg.b12) (strace cfg Recip.fresh ms) :=
  strace_conforms cfg ms Recip.fresh [] _ (rel_start cfg)

/-- **P2: S ⊨ at most once.**  Whatever implementation produced it, a trace that conforms to the monitor accepts
every request Partial IV at most once, whatever responses are interleaved. -/
theorem spec_accept_at_most_once (w : Nat) (b12 : Bool) (t : List (ReplaySpec.Msg × ReplaySpec.Out))
    (h : ReplaySpec.conforms w (ReplaySpec.St.start b12) t) : (tracc t).Nodup :=
  (conforms_nodup w t _ (fun _ => rfl) h).1

/-- P2: a trace that conforms to the monitor rejects every message (request or response) that does not
authenticate, and the monitor state is then unchanged. -/
theorem spec_forged_rejected (w : Nat) (s : ReplaySpec.St) (m : ReplaySpec.Msg) (o : ReplaySpec.Out)
    (t : List (ReplaySpec.Msg × ReplaySpec.Out)) (h : ReplaySpec.conforms w s ((m, o) :: t))
    (hq : m.authentic = false) : o = .reject ∧ ReplaySpec.next s m o = s := by
  have := h.1
  have ho : o = .reject := by
    cases m with
    | req q =>
      have hq' : q.authentic = false := hq
      simpa [ReplaySpec.allowed, ReplaySpec.allowedReq, hq'] using this
    | rsp x =>
      have hq' : x.authentic = false := hq
      simpa [ReplaySpec.allowed, ReplaySpec.allowedRsp, hq'] using this
  exact ⟨ho, next_not_accept _ _ _ (by rw [ho]; intro h; cases h)⟩

/-- P1 ∘ P2: `accept_at_most_once` again, this time through the specification. -/
theorem accepted_via_spec (cfg : Cfg) (ms : List Msg) : (accepted cfg Recip.fresh ms).Nodup := by
  rw [← tracc_strace]
  exact spec_accept_at_most_once cfg.window cfg.b12 _ (recv_conforms_spec cfg ms)

/-! ### Datagrams: ciphertext absent or not longer than the AEAD tag (seed C15-11) -/

/-- A protected message without any payload is dropped before anything is looked at. -/
theorem no_payload_dropped (cfg : Cfg) (r : Recip) (m : Msg) : stepD cfg r ⟨m, 0⟩ = (r, .drop) := by
  simp [stepD]

theorem short_ciphertext_forged (d : Dgram) (hw : d.wf) (hl : d.clen ≤ TAG_LEN) : d.msg.authentic = false := by
  cases h : d.msg.authentic with
  | false => rfl
  | true => have := hw h; omega

/-- **A message whose ciphertext is not longer than the AEAD tag (0..8 bytes) is never accepted** … -/
theorem short_ciphertext_never_accepted (cfg : Cfg) (r : Recip) (d : Dgram) (hw : d.wf) (hl : d.clen ≤ TAG_LEN) :
    (stepD cfg r d).2 ≠ .acc := by
  unfold stepD
  split
  · intro h; cases h
  · exact forged_never_accepted cfg r d.msg (short_ciphertext_forged d hw hl)

/-- … **and leaves the replay window and sequence state exactly as before** (request or response, any claimed Partial
IV, every `Sane` state). -/
theorem short_ciphertext_no_trace (cfg : Cfg) (r : Recip) (d : Dgram) (hw : d.wf) (hl : d.clen ≤ TAG_LEN)
    (hs : Sane r.view) : (stepD cfg r d).1.view = r.view := by
  unfold stepD
  split
  · rfl
  · exact forgery_no_trace cfg r d.msg (short_ciphertext_forged d hw hl) hs

theorem short_ciphertext_no_trace_reachable (cfg : Cfg) (ds : List Dgram) (d : Dgram) (hw : d.wf)
    (hl : d.clen ≤ TAG_LEN) :
    (stepD cfg (finalD cfg Recip.fresh ds) d).1.view = (finalD cfg Recip.fresh ds).view := by
  apply short_ciphertext_no_trace cfg _ d hw hl
  rw [finalD_eq]
  exact reachable_sane cfg _

/-- `accept_at_most_once` over histories of datagrams of any ciphertext length. -/
theorem accept_at_most_once_dgram (cfg : Cfg) (ds : List Dgram) : (acceptedD cfg Recip.fresh ds).Nodup := by
  rw [acceptedD_eq]
  exact accept_at_most_once cfg _

/-! ### Which nonce a message is protected with (seed C15-12): step facts

Every notification, every response to an Observe request, every request takes the Sender Sequence Number (which then
increases), and a request that fails authentication never changes the nonce a response is protected with. -/

theorem ownPiv_fresh (y : SSys) (h : y.s.seq < 2 ^ 64 - 1) :
    ((ownPiv y).2 = none ∨ (ownPiv y).2 = some y.s.seq) ∧ (ownPiv y).1.s.seq = y.s.seq + 1 := by
  unfold ownPiv
  rcases protect_cases y.f y.s (by omega) with ⟨_, e⟩ | ⟨_, _, e⟩ | ⟨_, _, e⟩ <;> rw [e]
  · exact ⟨Or.inl rfl, rfl⟩
  · exact ⟨Or.inr rfl, rfl⟩
  · exact ⟨Or.inr rfl, rfl⟩

/-- A response that has to carry a Partial IV of its own — Observe option, `OSCORE_SEND_PARTIAL_IV`, or the association
of an Observe request — fails or is protected with the current Sender Sequence Number, never with the nonce of the
request. -/
theorem respond_own_piv (e : Endp) (t : Nat) (o s : Bool) (h : e.snd.seq < 2 ^ 64 - 1)
    (hw : (o || s) = true ∨ ∃ a, e.assocs t = some a ∧ a.observe = true) :
    (respond e t o s).2 = .err ∨
    ((respond e t o s).2 = .sent (some e.snd.seq) (.own e.snd.seq) ∧ (respond e t o s).1.snd.seq = e.snd.seq + 1) := by
  obtain ⟨h1, h2⟩ := ownPiv_fresh e.sys h
  rcases respond_cases e t o s with he | ⟨_, he⟩ | ⟨_, p, _, _, hp, he⟩ | ⟨a, ha, _, hos, hob, _⟩
  · exact Or.inl (congrArg Prod.snd he)
  · exact Or.inl (congrArg Prod.snd he)
  · rw [he]
    rcases h1 with h1 | h1
    · rw [h1] at hp; cases hp
    · rw [h1] at hp; cases hp
      exact Or.inr ⟨rfl, h2⟩
  · exfalso
    rcases hw with hw | ⟨a', ha', ho⟩
    · rw [hos] at hw; cases hw
    · rw [ha] at ha'; cases ha'
      rw [hob] at ho; cases ho

/-- **A notification is always protected with a fresh Partial IV of its own** (never with the nonce of the request). -/
theorem notification_fresh_piv (cfg : Cfg) (e : Endp) (t : Nat) (sendPiv : Bool) (h : e.snd.seq < 2 ^ 64 - 1) :
    (nstep cfg e (.sendRsp t true sendPiv)).2 = .err ∨
    ((nstep cfg e (.sendRsp t true sendPiv)).2 = .sent (some e.snd.seq) (.own e.snd.seq) ∧
      (nstep cfg e (.sendRsp t true sendPiv)).1.snd.seq = e.snd.seq + 1) :=
  respond_own_piv e t true sendPiv h (Or.inl rfl)

/-- So is every response (with or without Observe option) to an Observe request: its association is kept, the nonce of
the request could otherwise be used twice (fix 155f0b4). -/
theorem observe_response_fresh_piv (cfg : Cfg) (e : Endp) (t : Nat) (a : Assoc) (obsOpt sendPiv : Bool)
    (ha : e.assocs t = some a) (ho : a.observe = true) (h : e.snd.seq < 2 ^ 64 - 1) :
    (nstep cfg e (.sendRsp t obsOpt sendPiv)).2 = .err ∨
    ((nstep cfg e (.sendRsp t obsOpt sendPiv)).2 = .sent (some e.snd.seq) (.own e.snd.seq) ∧
      (nstep cfg e (.sendRsp t obsOpt sendPiv)).1.snd.seq = e.snd.seq + 1) :=
  respond_own_piv e t obsOpt sendPiv h (Or.inr ⟨a, ha, ho⟩)

/-- A request that fails authentication changes no association: the nonce a response is protected with is never one
an attacker chose (fix b3c6528). -/
theorem forged_request_no_association (cfg : Cfg) (e : Endp) (t : Nat) (ev : Ev) (obs : Bool) (h : ev.authentic = false) :
    (nstep cfg e (.reqIn t ev obs)).1.assocs = e.assocs := by
  have hd : decrypted cfg e.rcp ev = false := by
    unfold decrypted
    simp only [h]
    split <;> rfl
  obtain ⟨hacc, hch⟩ := recv_of_not_decrypted hd
  simp [nstep, hd, hacc, hch]

/-- **An association that belongs to a request sent from this end never protects a response** (fix bba9d79: the table is
keyed by the token only and shared by both roles; the nonce it holds is the one that request was protected with). -/
theorem client_association_never_responds (cfg : Cfg) (e : Endp) (t : Nat) (a : Assoc) (obsOpt sendPiv : Bool)
    (ha : e.assocs t = some a) (hc : a.client = true) :
    nstep cfg e (.sendRsp t obsOpt sendPiv) = (e, .err) := by
  simp [nstep, respond, ha, hc]

/-! ### Nonces over whole histories of the sender side

`nrun cfg (Endp.start f start) ops`: every history of one endpoint that is client and server on one security context
and one session — protected requests of the peer arrive (authentic or forged, any token, any Partial IV, with / without /
with a wrong Echo value, Observe or not), the endpoint protects requests of its own (their tokens in the SAME table as
those of the requests it received), responses without Partial IV, with `OSCORE_SEND_PARTIAL_IV`, notifications and the
Appendix B.1.2 challenge, the save callback runs at the `ssn_freq` watermark (Appendix B.1.1), the process crashes
anywhere and restarts from the value last handed to the callback (also with another `ssn_freq`).  Every message is
protected with the Sender Key; `nonces` is the ghost log of the nonces handed to the AEAD. -/

/-- **The Partial IVs used with the endpoint's own Sender ID are strictly increasing along every history** — requests,
responses with their own Partial IV, notifications, Echo challenges; across save watermarks, crashes and restarts;
whatever arrives, whatever the tokens, Appendix B.1.2 on or off: no (Sender Key, own nonce) pair is used twice. -/
theorem own_piv_strictly_increasing (cfg : Cfg) (f start : Nat) (ops : List NOp) (hs : start ≤ SEQ_MAX + 2 ^ 32)
    (hl : ops.length < 2 ^ 63) : (ownsOf (nonces (nrun cfg (Endp.start f start) ops))).Pairwise (· < ·) := by
  -- they are the Partial IVs of a history of the sending process
  obtain ⟨sops, hl', e⟩ := nrun_srun cfg ops (Endp.start f start) [] 0 [] (rinv_start 0)
  rw [e]
  exact piv_strictly_increasing f start sops hs (Nat.lt_of_le_of_lt hl' hl)

theorem own_nonce_never_reused (cfg : Cfg) (f start : Nat) (ops : List NOp) (hs : start ≤ SEQ_MAX + 2 ^ 32)
    (hl : ops.length < 2 ^ 63) : (ownsOf (nonces (nrun cfg (Endp.start f start) ops))).Nodup :=
  (own_piv_strictly_increasing cfg f start ops hs hl).imp (fun h => Nat.ne_of_lt h)

/-- **A response is never protected with a nonce of the endpoint's own** other than the fresh one of its own Partial
IV: every message that goes out without a Partial IV uses the nonce of a request of the PEER (`Nonce.ofReq`) — in every
state reached by any history (fix bba9d79; before it an own request with the token of an unanswered received request
handed its nonce to the response). -/
theorem response_nonce_is_peers (cfg : Cfg) (f start : Nat) (ops : List NOp) (hs : start ≤ SEQ_MAX + 2 ^ 32)
    (hl : ops.length < 2 ^ 63) (op : NOp) (n : Nonce)
    (h : (nstep cfg (nfinal cfg (Endp.start f start) ops) op).2 = .sent none n) : ∃ q, n = .ofReq q := by
  obtain ⟨_, _, _, g⟩ := nrun_rinv cfg ops (Endp.start f start) [] 0 [] (rinv_start 0)
  exact sent_none_ofReq g.peerNonces op n h

/-- **A response that re-uses the nonce of the request it answers does so at most once per accepted request**: along
every history of an endpoint as above — also requests replayed, the same datagram under another token, responses of every kind
for ANY token (also for tokens it was never given a request for, also twice) — as long as the process is not restarted, the
request nonces handed to the AEAD (`Nonce.ofReq`, always with the Sender Key) are pairwise distinct.  No hypothesis on the
application.  Needs fix 60e0cb3 (a request caught by the Appendix B.1.2 trap leaves no association): invariant `RInv` — every
association that can protect a response holds the nonce of a request whose Partial IV is recorded in the replay window and that
no response has used yet. -/
theorem request_nonce_used_at_most_once (cfg : Cfg) (f start : Nat) (ops : List NOp)
    (hc : ∀ op ∈ ops, ∀ f', op ≠ .crash f') : (ofReqsOf (nonces (nrun cfg (Endp.start f start) ops))).Nodup :=
  (nrun_ofReqs cfg ops (Endp.start f start) [] 0 [] (rinv_start 0) hc).2

/-- the same for every life of the endpoint: after any history `ops1` (restarts included) and a restart, the request
nonces used until the next restart are pairwise distinct -/
theorem request_nonce_used_at_most_once_per_life (cfg : Cfg) (f start : Nat) (ops1 : List NOp) (f' : Nat) (ops2 : List NOp)
    (hc : ∀ op ∈ ops2, ∀ f'', op ≠ .crash f'') :
    (ofReqsOf (nonces (nrun cfg (nfinal cfg (Endp.start f start) (ops1 ++ [.crash f'])) ops2))).Nodup := by
  rw [nfinal_append]
  exact (nrun_ofReqs cfg ops2 _ [] 0 [] (rinv_start 0) hc).2

/-- **No (Sender Key, nonce) pair is used twice** in a life of the endpoint: the own nonces (`own_nonce_never_reused`)
and the request nonces (`request_nonce_used_at_most_once`) together — every nonce handed to the AEAD along a history
without a restart is different from every other one. -/
theorem nonce_never_reused (cfg : Cfg) (f start : Nat) (ops : List NOp) (hs : start ≤ SEQ_MAX + 2 ^ 32)
    (hl : ops.length < 2 ^ 63) (hc : ∀ op ∈ ops, ∀ f', op ≠ .crash f') :
    (nonces (nrun cfg (Endp.start f start) ops)).Nodup :=
  nodup_of_halves _ (own_nonce_never_reused cfg f start ops hs hl) (request_nonce_used_at_most_once cfg f start ops hc)

/- Why "without a restart": after a crash the replay window is fresh; with Appendix B.1.2 off the peer's old request is
accepted again and answered under the same nonce (RFC 8613 7.5.1 — a deployment that restarts needs B.1.2 or a persisted
window; witness below).  With B.1.2 on, `accept_at_most_once_across_restarts` (under `EchoFresh`) gives distinct accepted
Partial IVs over all lives; lifting `request_nonce_used_at_most_once` over restarts along it is not done. -/

/-! ### Appendix B.2, client side: a response that does not verify leaves the security context untouched

`ReplayB2.recvForged`: the response branch of `coap_oscore_decrypt_pdu` while `b_2_step != NONE` takes the kid context of
the OSCORE option — not authenticated — and re-derives the context (`oscore_update_ctx`) before the response is verified.
After fix 6ebee56 every error exit puts `b_2_step` and the ID Context (with it Sender Key, Recipient Key, Common IV)
back. -/

theorem _root_.Coap.ReplayB2.b2Update_cases {s s1 : ReplayB2.B2} {kc : Option (List Nat)} (h : ReplayB2.b2Update s kc = some s1) :
    s1.step = 3 ∨ (s1.step = 5 ∧ s1.idctx = s.idctx) := by
  unfold ReplayB2.b2Update at h
  cases kc with
  | none => simp at h; subst h; right; exact ⟨rfl, rfl⟩
  | some w =>
    dsimp only at h
    cases hu : ReplayB2.unwrap w with
    | none => rw [hu] at h; cases h
    | some k =>
      rw [hu] at h
      dsimp only at h
      by_cases hk : k ≠ s.idctx
      · rw [if_pos hk] at h; injection h with h; subst h; left; rfl
      · rw [if_neg hk] at h; injection h with h; subst h; right; exact ⟨rfl, rfl⟩

/-- **A forged Appendix B.2 message leaves the context untouched**: whatever the step of the exchange (also `NONE`),
whatever the ID Context, whatever the kid context field of the OSCORE option (absent, empty, not a CBOR byte string, any
byte string, the current ID Context itself) — a response that does not verify is dropped and `b_2_step` and the ID
Context (hence every key derived from it) are exactly as before. -/
theorem forged_b2_response_no_trace (s : ReplayB2.B2) (kc : Option (List Nat)) :
    (ReplayB2.recvForged s kc).1 = s ∧ (ReplayB2.recvForged s kc).2 = .drop := by
  unfold ReplayB2.recvForged
  by_cases h0 : s.step = 0
  · rw [if_pos h0]; exact ⟨rfl, rfl⟩
  · rw [if_neg h0]
    dsimp only
    cases hu : ReplayB2.b2Update s kc with
    | none => exact ⟨rfl, rfl⟩
    | some s1 =>
      dsimp only
      refine ⟨?_, rfl⟩
      rcases ReplayB2.b2Update_cases hu with h3 | ⟨h5, hid⟩
      · rw [if_pos h3]
      · have : ¬ s1.step = 3 := by rw [h5]; decide
        rw [if_neg this]
        dsimp only
        rw [hid]

/-- any number of forged responses, any interleaving of kid contexts: every one is dropped and the state never moves -/
theorem forged_b2_history_no_trace (kcs : List (Option (List Nat))) : ∀ s : ReplayB2.B2,
    ∀ x ∈ ReplayB2.run s kcs, x = (Verdict.drop, s) := by
  induction kcs with
  | nil => intro s x hx; cases hx
  | cons kc r ih =>
    intro s x hx
    obtain ⟨h1, h2⟩ := forged_b2_response_no_trace s kc
    simp only [ReplayB2.run, List.mem_cons] at hx
    rw [h1, h2] at hx
    rcases hx with rfl | hx
    · rfl
    · exact ih s x hx

/-! ### Appendix B.2, server side: a request that does not verify leaves the security contexts untouched -/

theorem _root_.Coap.ReplayB2.srvUpdate_cases {s s1 : ReplayB2.Srv} {w : List Nat} {b : Bool} (h : ReplayB2.srvUpdate s w = some (s1, b)) :
    s1.r2 = s.r2 ∧ (b = false → ReplayB2.findExact s.ctxs w ≠ none ∧ s1 = { s with step := 0 }) := by
  unfold ReplayB2.srvUpdate at h
  cases hf : ReplayB2.findExact s.ctxs w with
  | some i =>
    rw [hf] at h
    simp only [Option.some.injEq, Prod.mk.injEq] at h
    obtain ⟨h1, h2⟩ := h
    subst h1
    exact ⟨rfl, fun _ => ⟨by simp, rfl⟩⟩
  | none =>
    rw [hf] at h
    dsimp only at h
    split at h
    · split at h
      · cases h
      · split at h
        · cases h
        · split at h
          · simp only [Option.some.injEq, Prod.mk.injEq] at h
            obtain ⟨h1, h2⟩ := h
            subst h1; subst h2
            exact ⟨rfl, fun hb => by cases hb⟩
          · simp only [Option.some.injEq, Prod.mk.injEq] at h
            obtain ⟨h1, h2⟩ := h
            subst h1; subst h2
            exact ⟨rfl, fun hb => by cases hb⟩
    · cases h

/-- **Server side: a forged Appendix B.2 request leaves the context untouched.**  For every state of the server (any step,
`oscore_r2` set or not, any set of security contexts) and every kid context field: a request that does not verify is
answered 4.01 / 4.00 and `b_2_step`, `oscore_r2` and the security contexts (their number, the ID Context of each) are
exactly as before — no context is left behind at step 2, the ID Context of the exchange is not replaced at step 4.
Hypothesis: the kid context field is not literally the ID Context of an existing context, or no exchange is under way
(such a request takes the ordinary path, which ends the exchange: `b_2_step = NONE` — "server finished" — before the
verification; the genuine request #2 sets it again). -/
theorem forged_b2_request_no_trace (s : ReplayB2.Srv) (w : List Nat)
    (h : ReplayB2.findExact s.ctxs w = none ∨ s.step = 0) :
    (ReplayB2.recvForgedReq s w).1 = s ∧ (ReplayB2.recvForgedReq s w).2 ≠ .acc := by
  unfold ReplayB2.recvForgedReq
  cases hu : ReplayB2.srvUpdate s w with
  | none => exact ⟨rfl, by simp⟩
  | some x =>
    obtain ⟨s1, b⟩ := x
    obtain ⟨hr, hb⟩ := ReplayB2.srvUpdate_cases hu
    cases b with
    | true =>
      refine ⟨?_, by simp⟩
      simp only [if_true]
      cases s1; cases s
      simp only at hr
      simp [hr]
    | false =>
      refine ⟨?_, by simp⟩
      obtain ⟨hne, hs1⟩ := hb rfl
      simp only [Bool.false_eq_true, if_false]
      rcases h with h | h
      · exact absurd h hne
      · rw [hs1]; cases s; simp only at h; simp [h]

/-- any number of forged requests in any order: the server never moves -/
theorem forged_b2_requests_no_trace (ws : List (List Nat)) : ∀ s : ReplayB2.Srv,
    (∀ w ∈ ws, ReplayB2.findExact s.ctxs w = none ∨ s.step = 0) → ∀ x ∈ ReplayB2.runSrv s ws, x.2 = s := by
  induction ws with
  | nil => intro s _ x hx; cases hx
  | cons w r ih =>
    intro s h x hx
    have h1 := (forged_b2_request_no_trace s w (h w List.mem_cons_self)).1
    simp only [ReplayB2.runSrv, List.mem_cons] at hx
    rw [h1] at hx
    rcases hx with rfl | hx
    · rfl
    · exact ih s (fun w' hw' => h w' (List.mem_cons_of_mem _ hw')) x hx

/-! ### Non-vacuity: concrete histories (the minimal witnesses of the defects fixed in libcoap, see design/C15.md) -/

private def a (p : Nat) : Msg := .req ⟨true, p, .none⟩
private def e (p : Nat) : Msg := .req ⟨true, p, .good⟩
private def x (p : Nat) : Msg := .req ⟨false, p, .none⟩
private def n (p : Nat) : Msg := .rsp ⟨true, some p⟩      -- authentic notification with its own Partial IV
private def y (p : Nat) : Msg := .rsp ⟨false, some p⟩     -- forged response claiming a Partial IV
private def rr : Msg := .rsp ⟨true, none⟩                -- authentic response without Partial IV
private def z : Msg := .rsp ⟨false, none⟩                -- forged response without Partial IV

-- 10, 12, replay of 10, fresh 11, replay of 11 (pinned tree: replay of 10 accepted, 11 rejected)
example : verdicts ⟨32, true⟩ Recip.fresh [e 10, a 12, a 10, a 11, a 11] = [.acc, .acc, .rej401, .acc, .rej401] := by decide
-- without Appendix B.1.2 (pinned tree: everything accepted)
example : verdicts ⟨32, false⟩ Recip.fresh [a 10, a 10, x 5, a 5] = [.acc, .rej401, .rej400, .acc] := by decide
-- forged 50 after genuine 0 (pinned tree: last_seq stayed 50 and genuine 1 was rejected)
example : verdicts ⟨32, true⟩ Recip.fresh [e 0, x 50, a 1] = [.acc, .rej400, .acc] := by decide
example : (final ⟨32, true⟩ Recip.fresh [e 0, x 50]).view = (final ⟨32, true⟩ Recip.fresh [e 0]).view := by decide
-- 10, 12, 8, replay of 12 (pinned tree: last_seq lowered to 8, 12 accepted again)
example : verdicts ⟨32, false⟩ Recip.fresh [a 10, a 12, a 8, a 12] = [.acc, .acc, .acc, .rej401] := by decide
-- a jump of 95 (pinned tree: window << 95)
example : verdicts ⟨32, true⟩ Recip.fresh [e 5, a 100, a 5, a 101] = [.acc, .acc, .rej401, .acc] := by decide
-- Appendix B.1.2 exchange: challenge, then the Echo request, its replay, then the challenged request itself: below the
-- lower edge of the new window (it may have been accepted before the restart), refused; the next one is accepted
example : verdicts ⟨32, true⟩ Recip.fresh [a 4, e 5, e 5, a 4, a 6] = [.chal, .acc, .rej401, .rej401, .acc] := by decide
example : (final ⟨32, true⟩ Recip.fresh [a 4, e 5]).view = ⟨false, 5, 2 ^ 64 - 1⟩ ∧ floorOf ⟨32, true⟩ Recip.fresh [a 4, e 5] 0 = 5 := by
  decide
-- across a restart (defect 11): life 1 accepts 3, life 2 completes the Echo exchange with 8, the datagram with Partial IV
-- 3 arrives again while 8 - 3 < window: refused (before fix a6e248b: accepted a second time, `acceptedLives` = [3, 8, 3])
example : acceptedLives ⟨32, true⟩ [[e 3], [a 7, e 8, a 3, a 9]] = [3, 8, 9] ∧
    EchoFresh ⟨32, true⟩ [] [[e 3], [a 7, e 8, a 3, a 9]] := by
  refine ⟨by decide, ?_⟩
  simp only [EchoFresh, and_true]
  refine ⟨fun _ _ _ q hq => (by cases hq), ?_⟩
  intro ev hm he q hq
  have hq' : q = 3 := by
    have : accepted ⟨32, true⟩ Recip.fresh [e 3] = [3] := by decide
    rw [this] at hq; simpa using hq
  subst hq'
  simp only [a, e, List.mem_cons, Msg.req.injEq, List.not_mem_nil, or_false] at hm
  rcases hm with rfl | rfl | rfl | rfl <;> simp_all
-- `EchoFresh` is needed: a life-2 "Echo" request that is older than what life 1 accepted lets life-1 datagrams in again
example : acceptedLives ⟨32, true⟩ [[e 5, a 6], [e 4, a 6]] = [5, 6, 4, 6] := by decide
-- a non-trivial history of the kind `fresh_in_window_accepted` speaks of
example : accepted ⟨3, false⟩ Recip.fresh [a 10, a 12, x 11] = [10, 12] := by decide

/-! Requests and responses interleaved on one recipient context. -/
-- The reordered notification: the peer sent request 0, notification 1 (delayed), requests 2 and 3; the notification
-- arrives last.  It is accepted and recorded, last_seq stays 3 (guarded assignment), and the replays of requests 3
-- and 2 are rejected.  (With the assignment unconditional last_seq would drop to 1 under an unchanged bitmap and the
-- replay of request 3 would be accepted a second time: caught by the differential run, and `vrecvRsp_good` fails.)
example : verdicts ⟨32, false⟩ Recip.fresh [a 0, a 2, a 3, n 1, a 3, a 2] = [.acc, .acc, .acc, .acc, .rej401, .rej401] := by
  decide
example : (final ⟨32, false⟩ Recip.fresh [a 0, a 2, a 3, n 1]).view = ⟨false, 3, 15⟩ := by decide
example : recorded ⟨32, false⟩ Recip.fresh [a 0, a 2, a 3, n 1, a 3, a 2] = [0, 2, 3, 1] ∧
    accepted ⟨32, false⟩ Recip.fresh [a 0, a 2, a 3, n 1, a 3, a 2] = [0, 2, 3] := by decide
-- why the guard matters: the state an unconditional assignment would leave after that notification (last_seq 1 under
-- the bitmap 15 that is aligned to 3) is not `Good` for [0, 2, 3, 1] — it accepts request 3 a second time
example : (step ⟨32, false⟩ { Recip.fresh with init := false, last := 1, win := 15 } (a 3)).2 = .acc := by decide
-- a notification and a request can never share a sequence number; replays of notifications are rejected once validated
example : verdicts ⟨32, false⟩ Recip.fresh [a 0, n 1, a 1, n 1, a 2] = [.acc, .acc, .rej401, .drop, .acc] := by decide
-- forged response claiming 50 after genuine request 0 (pinned tree: no roll back in the response branch, last_seq stayed
-- 50 and the genuine request 1 was rejected); forged response claiming 3 (pinned tree: bit of 3 stayed set, genuine
-- request 3 rejected as a replay)
example : verdicts ⟨32, false⟩ Recip.fresh [a 0, y 50, a 1] = [.acc, .drop, .acc] := by decide
example : (final ⟨32, false⟩ Recip.fresh [a 0, y 50]).view = (final ⟨32, false⟩ Recip.fresh [a 0]).view := by decide
example : verdicts ⟨32, false⟩ Recip.fresh [a 5, z, rr, y 3, a 3, n 4, y 4] = [.acc, .drop, .acc, .drop, .acc, .acc, .drop] := by
  decide
-- before the window is initialised (pinned tree: the forged 2^40-1 stayed in last_seq and every later notification
-- failed the SEQ_MAX check)
example : verdicts ⟨32, true⟩ Recip.fresh [y SEQ_MAX, n 5, n 6] = [.drop, .acc, .acc] := by decide
example : (final ⟨32, true⟩ Recip.fresh [y SEQ_MAX]).view = Recip.fresh.view := by decide
-- `Sane` is needed in `forgery_no_trace`: in the unreachable state initial_state = 0, last_seq = SEQ_MAX the SEQ_MAX
-- exit of the response branch is taken after oscore_validate_sender_seq has recorded the claimed Partial IV
example : (step ⟨32, false⟩ { Recip.fresh with init := false, last := SEQ_MAX, win := 1 } (y (SEQ_MAX - 1))).1.view
    = ⟨false, SEQ_MAX, 3⟩ := by decide
-- a non-trivial history of the kind `fresh_response_accepted` / `forgery_invisible` speak of
example : recorded ⟨3, false⟩ Recip.fresh [n 7, a 10, n 12, y 11] = [10, 12] ∧
    (final ⟨3, false⟩ Recip.fresh [n 7, a 10, n 12, y 11]).view = ⟨false, 12, 5⟩ := by decide
-- sender: ssn_freq 4, crash after PIV 5 (stored value 8), resume at 8
example : pivs (srun (SSys.start 4 0) [.protect, .protect, .protect, .protect, .protect, .protect, .crash 4, .protect])
    = [0, 1, 2, 3, 4, 5, 8] := by decide


/-! Datagram layer and nonces. -/
-- forged requests / responses without payload, with 3 and 8 bytes of ciphertext between genuine messages: no trace
example : (finalD ⟨32, false⟩ Recip.fresh [⟨a 0, 14⟩, ⟨x 50, 0⟩, ⟨x 50, 3⟩, ⟨y 51, 8⟩, ⟨a 1, 14⟩]).view = ⟨false, 1, 3⟩ ∧
    acceptedD ⟨32, false⟩ Recip.fresh [⟨a 0, 14⟩, ⟨x 50, 0⟩, ⟨x 50, 3⟩, ⟨y 51, 8⟩, ⟨a 1, 14⟩] = [0, 1] := by decide
example : (⟨x 50, 3⟩ : Dgram).wf ∧ ¬ (⟨a 50, 3⟩ : Dgram).wf := by
  constructor <;> simp [Dgram.wf, x, a, Msg.authentic, TAG_LEN]
-- request 5 (token 0), forged request re-using token 0 claiming 7, response; request 7 (token 1), response: nonces differ
-- (pinned tree: the first response was protected with the nonce of the forged request, 7, and so was the second)
example : nonces (nrun ⟨32, false⟩ Endp.fresh [.reqIn 0 ⟨true, 5, .none⟩ false, .reqIn 0 ⟨false, 7, .none⟩ false,
    .sendRsp 0 false false, .reqIn 1 ⟨true, 7, .none⟩ false, .sendRsp 1 false false]) = [.ofReq 5, .ofReq 7] := by decide
-- Observe registration, notification, two responses without Observe option, own request: all with the sequence number
example : nrun ⟨32, false⟩ Endp.fresh [.reqIn 1 ⟨true, 1, .none⟩ true, .sendRsp 1 true false, .sendRsp 1 false false,
    .sendRsp 1 false false, .sendReq 9 false false, .sendRsp 2 false false] =
    [.verdict .acc, .sent (some 0) (.own 0), .sent (some 1) (.own 1), .sent (some 2) (.own 2), .sent (some 3) (.own 3), .err] := by
  decide
-- the token collision (defect 10): request 5 with token 1 arrives, the endpoint sends a request of its own with token 1,
-- then answers: before fix bba9d79 the response went out under the nonce of the own request (`02.0` twice)
example : nrun ⟨32, false⟩ Endp.fresh [.reqIn 1 ⟨true, 5, .none⟩ false, .sendReq 1 false false, .sendRsp 1 false false] =
    [.verdict .acc, .sent (some 0) (.own 0), .err] := by decide
-- Appendix B.1.2 + crash: challenge (own Partial IV 0, watermark 3), Echo request, response, crash (resume at 3), the
-- challenge after the restart takes Partial IV 3
example : nrun ⟨32, true⟩ (Endp.start 3 0) [.reqIn 1 ⟨true, 5, .none⟩ false, .reqIn 1 ⟨true, 6, .good⟩ false,
    .sendRsp 1 false false, .crash 3, .reqIn 1 ⟨true, 7, .none⟩ false] =
    [.chal (some 0), .verdict .acc, .sent none (.ofReq 6), .resumed 3, .chal (some 3)] := by decide

-- own Partial IVs over a history with a token collision, an Echo challenge, a crash (hypotheses of
-- own_piv_strictly_increasing / response_nonce_is_peers on a non-trivial instance)
example : ownsOf (nonces (nrun ⟨32, true⟩ (Endp.start 3 0) [.reqIn 1 ⟨true, 5, .none⟩ false, .reqIn 1 ⟨true, 6, .good⟩ false,
    .sendReq 1 false false, .sendRsp 1 false false, .crash 2, .reqIn 1 ⟨true, 7, .none⟩ false, .sendReq 2 true false])) = [0, 1, 3, 4] := by
  decide
example : (nstep ⟨32, false⟩ (nfinal ⟨32, false⟩ (Endp.start 3 0) [.reqIn 1 ⟨true, 5, .none⟩ false]) (.sendRsp 1 false false)).2
    = .sent none (.ofReq 5) := by decide

-- request nonces: why "no restart" is needed (Appendix B.1.2 off: the old request is accepted again in the new life)
example : ofReqsOf (nonces (nrun ⟨32, false⟩ (Endp.start 1 0) [.reqIn 1 ⟨true, 5, .none⟩ false, .sendRsp 1 false false, .crash 1,
    .reqIn 1 ⟨true, 5, .none⟩ false, .sendRsp 1 false false])) = [5, 5] := by decide
-- the history of defect 12 (fix 60e0cb3): request 5 (token 1) with a wrong Echo value is dropped by the Appendix B.1.2 trap, the Echo
-- exchange completes with 4, the datagram with Partial IV 5 arrives under token 3 and is answered, then a response goes
-- out for token 1: `err` (before the fix the association of the dropped request was still there: `ofReq 5` twice);
-- two dropped requests with one Partial IV under two tokens: nothing to answer them with
example : nrun ⟨32, true⟩ (Endp.start 1 0) [.reqIn 1 ⟨true, 5, .bad⟩ false, .reqIn 2 ⟨true, 4, .good⟩ false, .sendRsp 2 false false,
    .reqIn 3 ⟨true, 5, .none⟩ false, .sendRsp 3 false false, .sendRsp 1 false false] =
    [.verdict .drop, .verdict .acc, .sent none (.ofReq 4), .verdict .acc, .sent none (.ofReq 5), .err] := by decide
example : nrun ⟨32, true⟩ (Endp.start 1 0) [.reqIn 1 ⟨true, 5, .bad⟩ false, .reqIn 2 ⟨true, 5, .bad⟩ false, .sendRsp 1 false false,
    .sendRsp 2 false false] = [.verdict .drop, .verdict .drop, .err, .err] := by decide
-- the hypothesis of request_nonce_used_at_most_once / nonce_never_reused on a non-trivial history
example : (∀ op ∈ [NOp.reqIn 1 ⟨true, 5, .none⟩ false, .reqIn 2 ⟨true, 7, .none⟩ false, .sendRsp 2 false false, .sendRsp 1 false false],
    ∀ f', op ≠ .crash f') ∧
    nonces (nrun ⟨32, false⟩ (Endp.start 1 0) [.reqIn 1 ⟨true, 5, .none⟩ false, .reqIn 2 ⟨true, 7, .none⟩ false, .sendRsp 2 false false,
      .sendRsp 1 false false]) = [.ofReq 7, .ofReq 5] := by
  refine ⟨?_, by decide⟩
  intro op h f'
  simp only [List.mem_cons, List.not_mem_nil, or_false] at h
  rcases h with rfl | rfl | rfl | rfl <;> simp

/-! Appendix B.2. -/
-- the server defect: before the fix every forged request #1 left a security context behind (step 2), and during an
-- exchange (R2 = 01 … 08 handed out) one forged request replaced the ID Context R2 || ID1 (step 4)
example : ReplayB2.recvForgedReqUnpatched ⟨0, none, [none]⟩ [0x42, 0xc0, 0xc1] = ⟨2, none, [none, some [0xc0, 0xc1]]⟩ := by decide
example : ReplayB2.recvForgedReqUnpatched ⟨0, some [1, 2, 3, 4, 5, 6, 7, 8], [some [1, 2, 3, 4, 5, 6, 7, 8, 0x11]]⟩ [0x41, 0xc0] =
    ⟨4, some [1, 2, 3, 4, 5, 6, 7, 8], [some [0xc0]]⟩ := by decide
example : ReplayB2.recvForgedReq ⟨0, none, [none]⟩ [0x42, 0xc0, 0xc1] = (⟨0, none, [none]⟩, .rej400) ∧
    ReplayB2.recvForgedReq ⟨0, none, [none]⟩ [0x5f, 1] = (⟨0, none, [none]⟩, .rej401) ∧
    ReplayB2.findExact [none] [0x42, 0xc0, 0xc1] = none := by decide

-- the defect: what the code did before the fix with ONE forged response carrying the kid context c0 … c7 (ID1 =
-- 11 22 … 88): ID Context c0 … c7 11 … 88, step 3 — and the next one prepends again
example : ReplayB2.recvForgedUnpatched ⟨1, [0x11, 0x22, 0x33, 0x44, 0x55, 0x66, 0x77, 0x88]⟩
    (some [0x48, 0xc0, 0xc1, 0xc2, 0xc3, 0xc4, 0xc5, 0xc6, 0xc7]) =
    ⟨3, [0xc0, 0xc1, 0xc2, 0xc3, 0xc4, 0xc5, 0xc6, 0xc7, 0x11, 0x22, 0x33, 0x44, 0x55, 0x66, 0x77, 0x88]⟩ := by decide
example : ReplayB2.run ⟨1, [0x11, 0x22]⟩ [some [0x42, 0xc0, 0xc1], none, some [0x5f, 0x01], some [], some [0x42, 0x11, 0x22]] =
    [(.drop, ⟨1, [0x11, 0x22]⟩), (.drop, ⟨1, [0x11, 0x22]⟩), (.drop, ⟨1, [0x11, 0x22]⟩), (.drop, ⟨1, [0x11, 0x22]⟩),
     (.drop, ⟨1, [0x11, 0x22]⟩)] := by decide
-- the CBOR unwrapping: short form, one-byte length form, truncated, not enough bytes
example : ReplayB2.unwrap [0x42, 7, 8] = some [7, 8] ∧ ReplayB2.unwrap [0x58, 2, 7, 8, 9] = some [7, 8] ∧
    ReplayB2.unwrap [0x5f, 1] = none ∧ ReplayB2.unwrap [0x43, 7, 8] = none ∧ ReplayB2.unwrap [] = none := by decide

end Coap.C15
