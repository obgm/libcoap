import CoapVerif.Lemmas.SessionsTimeout
import CoapVerif.Lemmas.SessionsClient
/-
C12 — sessions map 1:1 to peers, live while referenced; everything is released.

  M = Coap.Sessions (CoapVerif/Model/Sessions.lean): transcription of libcoap's server-session bookkeeping with an
      allocation ledger;  `St.step : St → Event → St × Outcome`, `St.run` = fold over a history.
  S = `Peer ⇀ session` (`St.lookup`, injective), `refs s = #holders s` (`St.holds`).
  Every theorem quantifies over ALL histories `es : List Event` from a fresh context with any endpoints / resources
  (induction over the history: `Inv.run`), none over samples.

SPEC DECISIONS D9, D13, D14, D16, D17: see the head of Model/Sessions.lean.
-/
namespace Coap.C12
open Coap.Sessions

def Reachable (st : St) : Prop := ∃ eps nres es, st = (St.init eps nres).run es

theorem reachable_inv {st : St} (h : Reachable st) : Inv st := by
  obtain ⟨eps, nres, es, rfl⟩ := h; exact Inv.run eps nres es

/-! ### the verified monitor -/

/-- The ledger monitor that judges the REAL allocation trace accepts exactly the traces with no double free, no free
of something that was never allocated, and nothing left allocated at the end. -/
theorem ledgerOk_iff (tr : List AllocEvent) :
    ledgerOk tr = true ↔ (NoDoubleFree tr ∧ NoFreeOfUnallocated tr ∧ NothingLiveAtEnd tr) := by
  rw [ledgerOk_eq_true_iff]
  constructor
  · intro h
    obtain ⟨a, b⟩ := (runLedger_isSome_iff tr).mp ⟨[], h⟩
    refine ⟨b, a, fun i => ?_⟩
    have := runLedger_count tr [] [] h i
    simp at this
    omega
  · intro ⟨b, a, c⟩
    obtain ⟨l', hl⟩ := (runLedger_isSome_iff tr).mpr ⟨a, b⟩
    have hc := runLedger_count tr [] l' hl
    have : l' = [] := by
      apply List.eq_nil_iff_forall_not_mem.mpr
      intro i hi
      have h1 : 0 < l'.count i := List.count_pos_iff.mpr hi
      have h2 := hc i
      have h3 := c i
      simp at h2
      omega
    rw [hl, this]

/-! ### references -/

/-- `session->ref` equals the number of holders (application references, observer entries, async entries, queued
messages) — in every reachable state, for every live session. -/
theorem ref_eq_holders {st : St} (h : Reachable st) : ∀ s ∈ st.sessions, s.ref = st.holds s.sid :=
  (reachable_inv h).H.ref

/-- Whatever refers to a session refers to a LIVE session: in no reachable state does an application reference, an
observation, an async entry or a queued message point at a session that has been freed … -/
theorem no_free_while_referenced {st : St} (h : Reachable st) :
    ∀ x ∈ st.holders, ∃ s ∈ st.sessions, s.sid = x.sid :=
  (reachable_inv h).H.live

/-- … because the only operation that frees a session does nothing while anything holds it. -/
theorem reclaim_noop_while_held {st : St} (h : Reachable st) (s : Sess) (hs : s ∈ st.sessions)
    (hh : 0 < st.holds s.sid) : st.reclaim s.sid = st := by
  have hI := reachable_inv h
  refine reclaim_eq_self (getSess_of_mem hI.S hs) ?_
  rw [hI.H.ref s hs]
  omega

/-! ### observer entries: token replacement and Reset -/

/-- `coap_add_observer` for a request whose token is new but whose resource and query (cache key) already have an
observation on this session — "re-registration under a new token": the old subscription is replaced by the new one
(one freed, one allocated), the set of sessions is unchanged, every session has exactly as many holders as before, and NO
session's reference count changes — in particular not the observing session's (the release of the deleted entry and the
reference of the new one cancel). -/
theorem reregistration_keeps_refcount {st : St} (h : Reachable st) (sid k q tok : Nat) (old : Holder)
    (hnew : st.findHolder sid (isObsTok k tok) = none)
    (hold : st.findHolder sid (isObsKey k q) = some old) :
    (st.addObserver sid k q tok).holders = st.holders.erase old ++ [⟨st.next, sid, .obs k q tok 0⟩] ∧
    (st.addObserver sid k q tok).sids = st.sids ∧
    (∀ y, (st.addObserver sid k q tok).holds y = st.holds y) ∧
    ∀ s ∈ st.sessions, ∀ t ∈ (st.addObserver sid k q tok).sessions, t.sid = s.sid → t.ref = s.ref := by
  have hI := reachable_inv h
  obtain ⟨hm, hsid, _⟩ := findHolder_some hold
  have hl : ∃ s ∈ st.sessions, s.sid = sid := by
    obtain ⟨s, hs, e⟩ := hI.H.live old hm; exact ⟨s, hs, by rw [e, hsid]⟩
  have hI' := Inv.closed.addObserver hI sid k q tok hl
  have heq : st.addObserver sid k q tok = (st.dropHolder old).addHolder sid (.obs k q tok 0) := by
    unfold St.addObserver; rw [hnew, hold]
  have hholds : ∀ y, (st.addObserver sid k q tok).holds y = st.holds y := by
    intro y
    rw [heq, holds_addHolder, holds_dropHolder st old hm y, hsid]
  refine ⟨?_, ?_, hholds, ?_⟩
  · rw [heq, holders_addHolder_obs, holders_dropHolder_mem st old hm]
    have : (st.dropHolder old).next = st.next := by unfold St.dropHolder; simp [hm]
    rw [this]
  · rw [heq, sids_addHolder, sids_dropHolder]
  · intro s hs t ht e
    have := ref_of_holds hI hI' (fun _ => 0) (by intro y; rw [hholds y]; rfl) s hs t ht e
    omega

/-- The RST branch of `coap_dispatch` for a Reset that answers the last notification of an observation (message id not
in the send queue): `reference … coap_delete_observer … nack handler … release`.  Exactly that one observer entry
disappears, no session appears or disappears, the observing session's reference count goes down by EXACTLY one and no
other session's count changes — the temporary reference and its release cancel. -/
theorem rst_releases_exactly_one {st : St} (h : Reachable st) (sid n : Nat) (x : Holder)
    (hx : st.findHolder sid (hasNote n) = some x) :
    (st.rstNote sid n).holders = st.holders.erase x ∧ (st.rstNote sid n).sids = st.sids ∧
    ∀ s ∈ st.sessions, ∀ t ∈ (st.rstNote sid n).sessions, t.sid = s.sid →
      s.ref = t.ref + (if s.sid = sid then 1 else 0) := by
  have hI := reachable_inv h
  obtain ⟨hm, hsid, _⟩ := findHolder_some hx
  have hI' := Inv.closed.rstNote hI sid n
  have heq : st.rstNote sid n = st.dropHolder x := by
    unfold St.rstNote; rw [hx]; exact rstCancel_eq st sid x hm
  refine ⟨by rw [heq, holders_dropHolder_mem st x hm], by rw [heq, sids_dropHolder], ?_⟩
  intro s hs t ht e
  have := ref_of_holds hI hI' (fun y => if x.sid = y then 1 else 0)
    (by intro y; rw [heq]; exact holds_dropHolder st x hm y) s hs t ht e
  rw [this, hsid]
  by_cases c : s.sid = sid
  · simp [c]
  · have : ¬ sid = s.sid := fun e => c e.symm
    simp [c, this]

/-- a Reset for a notification that is no longer the last one of any observation (or of none at all) changes nothing -/
theorem rst_stale_changes_nothing (st : St) (sid n : Nat) (hx : st.findHolder sid (hasNote n) = none) :
    st.rstNote sid n = st := by
  unfold St.rstNote; rw [hx]

/-! ### peers ↔ sessions -/

/-- The live sessions are a partial INJECTIVE map from `(remote address+port, local port, protocol)`: the same triple
means the same session object, different triples mean different session objects (D9). -/
theorem peer_session_functional_injective {st : St} (h : Reachable st) :
    ∀ s₁ ∈ st.sessions, ∀ s₂ ∈ st.sessions,
      (s₁.peer = s₂.peer → s₁ = s₂) ∧ (s₁.peer ≠ s₂.peer → s₁.sid ≠ s₂.sid) := by
  intro s₁ h₁ s₂ h₂
  rcases pairwise_mem (reachable_inv h).S.pw h₁ h₂ with e | r | r
  · subst e; exact ⟨fun _ => rfl, fun c => absurd rfl c⟩
  · exact ⟨fun e => absurd e r.1, fun _ => r.2⟩
  · exact ⟨fun e => absurd e.symm r.1, fun _ e => r.2 e.symm⟩

/-- A datagram from a peer that has a live session is handled by THAT session, and no session is created or deleted
on the way to the handler. -/
theorem same_peer_same_session (st : St) (p : Peer) (s : Sess) (hl : st.lookup p = some s) :
    (st.getSession p).2 = s.sid ∧ (st.getSession p).1.events = st.events := by
  unfold St.getSession; simp [hl, St.updSess]

/-- The session a datagram is handled by is live afterwards and is keyed by the datagram's triple. -/
theorem handled_session_is_the_peers (st : St) (p : Peer) :
    ∃ s ∈ (st.getSession p).1.sessions, s.sid = (st.getSession p).2 ∧ s.peer = p :=
  getSession_live st p

/-! ### events -/

/-- Exactly one session-new event per session ever created, at most one session-deleted event, never a deleted event
without (or before the only) new event; a live session has had its new event and no deleted event, a session that is
gone has had exactly as many deleted as new events — unless it ended as a CLIENT session (`handed`, M's ghost record of
`coap_session_release` freeing a session the application had taken over with coap_session_set_type_client: libcoap
raises no SERVER_SESSION_DEL for it, it is no server session any more): deleted + handed = new. -/
theorem one_new_one_del_per_session {st : St} (h : Reachable st) (x : Nat) :
    st.events.count (.new x) ≤ 1 ∧ st.events.count (.del x) ≤ st.events.count (.new x) ∧
    (x ∈ st.sids → st.events.count (.new x) = 1 ∧ st.events.count (.del x) = 0 ∧ st.events.count (.handed x) = 0) ∧
    (x ∉ st.sids → st.events.count (.del x) + st.events.count (.handed x) = st.events.count (.new x)) := by
  have hS := (reachable_inv h).S
  by_cases hx : x ∈ st.sids
  · have := hS.evLive x hx
    exact ⟨by omega, by omega, fun _ => this, fun c => absurd hx c⟩
  · have := hS.evDead x hx
    exact ⟨this.2, by omega, fun c => absurd c hx, fun _ => this.1⟩


/-! ### the idle limit -/

/-- When a datagram from a NEW peer arrives and the endpoint already has `max_idle_sessions` (> 0) or more idle sessions,
exactly one session is evicted before the new one is created: an idle session of that endpoint (reference count 0, no
delayed message) whose `last_rx_tx` is minimal among the idle ones; it gets its session-deleted event, then the new
session its session-new event, and the evicted session is gone. -/
theorem oldest_idle_evicted_at_limit {st : St} (h : Reachable st) (p : Peer) (hl : st.lookup p = none)
    (hm : 0 < st.maxIdle) (hn : st.maxIdle ≤ (st.idleOn p.lport p.proto).length) :
    ∃ o ∈ st.idleOn p.lport p.proto, (∀ s ∈ st.idleOn p.lport p.proto, o.last ≤ s.last) ∧
      (st.getSession p).1.events = st.events ++ [.del o.sid, .new st.next] ∧
      ∀ s ∈ (st.getSession p).1.sessions, s.sid ≠ o.sid := by
  have hI := (reachable_inv h).H
  have hne : st.idleOn p.lport p.proto ≠ [] := by
    intro e; rw [e] at hn; simp at hn; omega
  obtain ⟨o, ho, hmem, hmin, _⟩ := oldestOf_spec (st.idleOn p.lport p.proto) none (Or.inr hne)
  have hmem' : o ∈ st.idleOn p.lport p.proto := by
    rcases hmem with hmem | hmem
    · exact hmem
    · cases hmem
  have hidle : o.idle = true := (List.mem_filter.mp hmem').2
  have hoS : o ∈ st.sessions := (List.mem_filter.mp (List.mem_filter.mp hmem').1).1
  refine ⟨o, hmem', hmin, ?_⟩
  have hrec : st.reclaim o.sid = st.unlink o.sid (.del o.sid) :=
    reclaim_eq_unlink (getSess_of_mem (reachable_inv h).S hoS) (Sess.idle_iff.mp hidle).1
  have hcond : (decide (st.maxIdle > 0) && decide ((st.idleOn p.lport p.proto).length ≥ st.maxIdle)) = true := by
    simp; exact ⟨hm, hn⟩
  unfold St.getSession
  simp only [hl, hcond, if_true, ho, hrec]
  constructor
  · simp [St.newSession, St.unlink, St.dropPartial]
  · intro s hs
    rcases mem_newSession hs with h1 | rfl
    · exact (mem_unlink.mp h1).2
    · have := hI.fresh o hoS
      show st.next ≠ o.sid
      omega


/-! ### teardown -/

/-- After `coap_free_context` — at ANY point of ANY history — M's allocation ledger is accepted by the verified
monitor: every object allocated since the context was created (sessions, the partly received PDUs hanging off stream
sessions, subscriptions, async entries, queue nodes, endpoints, resources, the context) has been freed exactly once,
nothing was freed twice or without having been allocated, and no session, partly received PDU, observer, async entry or
queued message is left. -/
theorem teardown_state_empty {st : St} (h : Reachable st) (hf : st.freed = false) :
    ledgerOk (st.step .freeContext).1.ledger = true ∧ (st.step .freeContext).1.sessions = [] ∧
    (st.step .freeContext).1.holders = [] ∧ (st.step .freeContext).1.freed = true ∧
    (st.step .freeContext).1.partials = [] := by
  rw [step_freeContext hf]
  obtain ⟨hl, hs, hh, hp⟩ := freeRest_empty (Inv.closed.freeHolders (reachable_inv h))
  exact ⟨hl, hs, hh, rfl, hp⟩

/-- the same for a history that goes on after the teardown (nothing that follows has any effect) -/
theorem teardown_ledger_empty (eps : List (Nat × Nat)) (nres : Nat) (es₁ es₂ : List Event)
    (hf : ((St.init eps nres).run es₁).freed = false) :
    ledgerOk ((St.init eps nres).run (es₁ ++ .freeContext :: es₂)).ledger = true := by
  have h := teardown_state_empty ⟨eps, nres, es₁, rfl⟩ hf
  rw [run_append]
  show ledgerOk (St.run (((St.init eps nres).run es₁).step .freeContext).1 es₂).ledger = true
  rw [run_freed _ h.2.2.2.1]
  exact h.1

/-- and at every moment before, every free in M's ledger hit a live object (no double free, no free of something
unallocated, in any prefix of any history) -/
theorem ledger_never_bad {st : St} (h : Reachable st) : NoDoubleFree st.ledger ∧ NoFreeOfUnallocated st.ledger := by
  obtain ⟨live, hr, _⟩ := (reachable_inv h).L
  exact ((runLedger_isSome_iff st.ledger).mp ⟨live, hr⟩).symm


/-! ### the session timeout -/

/-- The reclamation test of `coap_io_prepare_io_lkd` applied to an idle session (reference count 0, no delayed
message) whose `last_rx_tx + session_timeout ≤ now` or whose connection is closed: the session gets its session-deleted
event and is gone.  This is the body of the SESSIONS_ITER_SAFE loop for one session of a reachable state. -/
theorem reclaim_step_deletes_timed_out {st : St} (h : Reachable st) (now : Nat) (s : Sess) (hs : s ∈ st.sessions)
    (hidle : s.idle = true) (ht : s.last + st.timeoutTicks ≤ now ∨ s.closed = true) :
    (st.reclaimStep now s.sid).events = st.events ++ [.del s.sid] ∧
    ∀ t ∈ (st.reclaimStep now s.sid).sessions, t.sid ≠ s.sid := by
  rw [reclaimStep_fires (reachable_inv h).S now hs hidle ((expired_iff s _ now).mpr ht)]
  exact ⟨rfl, fun u hu => (mem_unlink.mp hu).2⟩

/-- "Unreferenced idle server sessions are reclaimed after the session timeout": after a WHOLE I/O pass
`coap_io_prepare_io_lkd(ctx, …, now)` — notifications, delayed async responses, retransmissions, then the walk over
every endpoint's session table — from any reachable state and for any `now` argument, no session is left that is
unreferenced, has no delayed message, and whose `last_rx_tx + session_timeout ≤ now` — nor one whose connection is
closed (a stream session in state NONE). -/
theorem idle_reclaimed_after_timeout {st : St} (h : Reachable st) (now : Nat) :
    ∀ s ∈ (st.prepareIoAt now).sessions, ¬ (s.idle = true ∧ (s.last + st.timeoutTicks ≤ now ∨ s.closed = true)) :=
  fun s hs => ((mem_prepareIoAt (reachable_inv h) now s).mp hs).2

/-- … and ONLY then: a session that is there when the reclamation loop of the pass starts and
is gone when the pass returns was UNREFERENCED, had no delayed message, and either `last_rx_tx + session_timeout ≤ now`
held for the `now` ARGUMENT of the pass — whatever the clock says, in particular also when handlers that ran earlier in
the same pass took time, so that `last_rx_tx` of some session is LATER than `now` — or its connection was closed (a stream
session the peer or the application has disconnected: `state == COAP_SESSION_STATE_NONE`).  The reference test guards
both: a closed session something still refers to is not reclaimed. -/
theorem reclaimed_only_after_timeout {st : St} (h : Reachable st) (now : Nat) (t : Sess)
    (ht : t ∈ (st.preReclaim now).sessions) (hgone : t ∉ (st.prepareIoAt now).sessions) :
    t.idle = true ∧ (t.last + st.timeoutTicks ≤ now ∨ t.closed = true) :=
  Decidable.not_not.mp fun hc => hgone ((mem_prepareIoAt (reachable_inv h) now t).mpr ⟨ht, hc⟩)

/-- for a session whose connection is open (every datagram session, every stream session that has not been
disconnected) this is the session timeout alone -/
theorem open_session_reclaimed_only_after_timeout {st : St} (h : Reachable st) (now : Nat) (t : Sess)
    (ht : t ∈ (st.preReclaim now).sessions) (hgone : t ∉ (st.prepareIoAt now).sessions) (ho : t.closed = false) :
    t.idle = true ∧ t.last + st.timeoutTicks ≤ now := by
  obtain ⟨h1, h2⟩ := reclaimed_only_after_timeout h now t ht hgone
  rcases h2 with h2 | h2
  · exact ⟨h1, h2⟩
  · rw [ho] at h2; cases h2

theorem survives_pass {st : St} (h : Reachable st) (now : Nat) {t : Sess} (ht : t ∈ (st.preReclaim now).sessions)
    (hc : ¬ (t.idle = true ∧ (t.last + st.timeoutTicks ≤ now ∨ t.closed = true))) :
    t ∈ (st.prepareIoAt now).sessions ∧ (st.prepareIoAt now).events.count (.del t.sid) = 0 := by
  have hk := (mem_prepareIoAt (reachable_inv h) now t).mpr ⟨ht, hc⟩
  have hI' : Inv (st.prepareIoAt now) := Inv.closedIO.prepareIoAt (reachable_inv h) now
  exact ⟨hk, (hI'.S.evLive t.sid (List.mem_map.mpr ⟨t, hk, rfl⟩)).2.1⟩

/-- "A session stays valid while the application, an observation, an async entry or a queued message refers to it" —
through a whole I/O pass, whatever the session's state: a session that has a holder (`ref ≠ 0`) when the reclamation loop
starts — in particular a stream session whose peer has closed the connection (`closed`, state NONE) while the application or
an async entry still holds it, and however long ago it was last used — is still in its endpoint's table when the pass
returns and has no session-deleted event. -/
theorem referenced_session_survives_pass {st : St} (h : Reachable st) (now : Nat) (t : Sess)
    (ht : t ∈ (st.preReclaim now).sessions) (hr : t.ref ≠ 0) :
    t ∈ (st.prepareIoAt now).sessions ∧ (st.prepareIoAt now).events.count (.del t.sid) = 0 := by
  exact survives_pass h now ht (fun hc => hr (Sess.idle_iff.mp hc.1).1)

/-- A session with an open connection that was used at or after the `now` of the pass (its `last_rx_tx ≥ now`: e.g. the
delayed response of a slow handler has just been sent on it and its async entry — the only reference — has been dropped)
survives the pass: it is still in the table, with the same reference count and `last_rx_tx`, and has no session-deleted
event, so the peer's next datagram is handled by the same session (`same_peer_same_session`). -/
theorem session_used_after_now_survives {st : St} (h : Reachable st) (now : Nat) (t : Sess)
    (ht : t ∈ (st.preReclaim now).sessions) (hu : now ≤ t.last) (ho : t.closed = false) :
    t ∈ (st.prepareIoAt now).sessions ∧ (st.prepareIoAt now).events.count (.del t.sid) = 0 := by
  have hpos := timeoutTicks_pos st
  apply survives_pass h now ht
  intro hc
  rcases hc.2 with h2 | h2
  · omega
  · rw [ho] at h2; cases h2

/-! ### what hangs off a session goes with it -/

/-- In every reachable state every partly received PDU (`session->partial_pdu` of a stream session) that M's ledger
holds live — and every Confirmable that waits in a datagram session's delay queue: `St.partials` holds both — belongs to a session that is in its endpoint's table: no such PDU outlives its session — whichever way the
session went (session timeout, closed connection, context teardown), the PDU was released with it … -/
theorem partial_pdu_hangs_off_live_session {st : St} (h : Reachable st) :
    ∀ x ∈ st.partials, ∃ s ∈ st.sessions, s.sid = x.2 :=
  (reachable_inv h).P

/-- … because the operation that frees a session (`SESSION_DEL; coap_session_free` → `coap_session_mfree`) frees, when
it fires, exactly the session's partly received PDU(s) and then the session: the ledger grows by these frees and the
other sessions' PDUs stay. -/
theorem reclaim_releases_partial_pdu {st : St} (h : Reachable st) (s : Sess) (hs : s ∈ st.sessions) (hr : s.ref = 0) :
    (st.reclaim s.sid).ledger =
      st.ledger ++ ((st.partials.filter (fun x => x.2 == s.sid)).map fun x => .free x.1) ++ [.free s.sid] ∧
    (st.reclaim s.sid).partials = st.partials.filter (fun x => x.2 != s.sid) ∧
    ∀ t ∈ (st.reclaim s.sid).sessions, t.sid ≠ s.sid := by
  rw [reclaim_eq_unlink (getSess_of_mem (reachable_inv h).S hs) hr]
  exact ⟨rfl, rfl, fun u hu => (mem_unlink.mp hu).2⟩

/-! ### call home: a server session the application takes over as a client session (seed C12-17) -/

/-- `coap_session_set_type_client(session)` on a SERVER datagram session takes exactly ONE reference, and the application
holds it: the holders grow by the application's call-home token, the session's reference count grows by one and its type
becomes CLIENT; every other session is untouched; nothing is allocated, freed or announced — the session stays where it
is, in its endpoint's table. -/
theorem call_home_takes_one_reference (st : St) (p : Peer) (s : Sess) (hf : st.freed = false) (hl : st.lookup p = some s)
    (hc : s.client = false) (hr : p.reliable = false) :
    (st.step (.callHome p)).1.holders = st.holders ++ [⟨0, s.sid, .home⟩] ∧
    (st.step (.callHome p)).1.sessions =
      st.sessions.map (fun t => if t.sid = s.sid then { t with client := true, ref := t.ref + 1 } else t) ∧
    (st.step (.callHome p)).1.ledger = st.ledger ∧ (st.step (.callHome p)).1.events = st.events := by
  unfold St.step
  simp only [hf, Bool.false_eq_true, if_false, hl, hc, hr, Bool.or_self]
  refine ⟨by simp [St.addHolder, HKind.isAlloc], ?_, by simp [St.addHolder, HKind.isAlloc, St.updSess],
    by simp [St.addHolder, HKind.isAlloc, St.updSess]⟩
  simp only [St.addHolder, HKind.isAlloc, Bool.false_eq_true, if_false, St.updSess, List.map_map]
  apply List.map_congr_left
  intro t _
  by_cases e : t.sid = s.sid <;> simp [e, Sess.reference]

/-- `coap_session_release_lkd` frees nothing on a SERVER session (it idles at 0 and waits for the timeout / the idle limit /
the teardown) and nothing while a reference is left: the free at its end is the identity on such a session. -/
theorem release_frees_only_unreferenced_client_sessions {st : St} (h : Reachable st) (s : Sess) (hs : s ∈ st.sessions)
    (hc : s.client = false ∨ s.ref ≠ 0) : st.clientFree s.sid = st :=
  clientFree_eq_self (getSess_of_mem (reachable_inv h).S hs) hc

/-- … and on a CLIENT session whose last reference has just gone it is `coap_session_free`: what hangs off the session is
released, the session is UNLINKED FROM THE TABLE IT LIVES IN — its endpoint's, whatever `session->type` says — and
freed exactly once; no SERVER_SESSION_DEL is raised (the ghost event `handed` records the end). -/
theorem client_free_releases_and_unlinks {st : St} (hS : SInv st) (s : Sess) (hs : s ∈ st.sessions) (hr : s.ref = 0)
    (hc : s.client = true) :
    (st.clientFree s.sid).ledger =
      st.ledger ++ ((st.partials.filter (fun x => x.2 == s.sid)).map fun x => .free x.1) ++ [.free s.sid] ∧
    (st.clientFree s.sid).partials = st.partials.filter (fun x => x.2 != s.sid) ∧
    (st.clientFree s.sid).sessions = st.sessions.filter (fun t => t.sid ≠ s.sid) ∧
    (st.clientFree s.sid).events = st.events ++ [.handed s.sid] ∧
    (st.clientFree s.sid).holders = st.holders := by
  rw [clientFree_eq_unlink (getSess_of_mem hS hs) hr hc]
  exact ⟨rfl, rfl, rfl, rfl, rfl⟩

/-! ### the call-home reference may be released at ANY time (D16) -/

/-- THE LAST RELEASE, from whatever code path (`St.releaseHolder` is what every library object does when it goes: an
observation in coap_delete_observer, an async entry in coap_free_async_sub, a queued message in coap_delete_node_lkd, the
application's coap_session_release): if the holder that goes is the only one left (`ref = 1`) on a session the application
has turned into a CLIENT session, the session is in no table afterwards, the holder is gone and NO holder points at the
session (nothing dangling), the ledger grew by the holder's own free, the frees of what hung off the session and ONE
free of the session, and the only event is the ghost `handed` (no session-deleted event). -/
theorem last_release_frees_client_session {st : St} (h : Reachable st) (x : Holder) (hx : x ∈ st.holders) (s : Sess)
    (hs : s ∈ st.sessions) (hsx : s.sid = x.sid) (hr : s.ref = 1) (hc : s.client = true) :
    (∀ t ∈ (st.releaseHolder x).sessions, t.sid ≠ s.sid) ∧
    (st.releaseHolder x).holders = st.holders.erase x ∧
    (∀ y ∈ (st.releaseHolder x).holders, y.sid ≠ s.sid) ∧
    (st.releaseHolder x).ledger = (st.dropHolder x).ledger ++
      (((st.dropHolder x).partials.filter (fun y => y.2 == s.sid)).map fun y => .free y.1) ++ [.free s.sid] ∧
    (st.releaseHolder x).events = st.events ++ [.handed s.sid] := by
  have hI := reachable_inv h
  have hI' : Inv (st.releaseHolder x) := Inv.closed.releaseHolder hI x
  have hde : (st.dropHolder x).events = st.events := by unfold St.dropHolder; rw [if_pos hx]; rfl
  rw [last_release_eq_unlink hI hx hs hsx hr hc] at hI' ⊢
  have hnone : ∀ t ∈ ((st.dropHolder x).unlink s.sid (.handed s.sid)).sessions, t.sid ≠ s.sid :=
    fun t ht => (mem_unlink.mp ht).2
  refine ⟨hnone, holders_dropHolder_mem st x hx, ?_, rfl, congrArg (· ++ [SEvent.handed s.sid]) hde⟩
  intro y hy e
  obtain ⟨t, ht, e'⟩ := hI'.H.live y hy
  exact hnone t ht (e'.trans e)

/-- … and while ANOTHER reference is left, or on a server session, the release frees nothing: it is the plain
`--ref` + unlink of the holder (`St.dropHolder`), the session stays where it is. -/
theorem release_keeps_referenced_session {st : St} (h : Reachable st) (x : Holder) (hx : x ∈ st.holders) (s : Sess)
    (hs : s ∈ st.sessions) (hsx : s.sid = x.sid) (hc : s.client = false ∨ s.ref ≠ 1) :
    st.releaseHolder x = st.dropHolder x ∧ Sess.release s ∈ (st.releaseHolder x).sessions := by
  have hI := reachable_inv h
  have hI1 : Inv (st.dropHolder x) := Inv.closed.dropHolder _ _ hI
  have hs1 := released_session_mem x hx s hs hsx
  have hg := getSess_of_mem hI1.S hs1
  have hpos : 0 < s.ref := by
    rw [hI.H.ref s hs]
    unfold St.holds
    exact List.countP_pos_iff.mpr ⟨x, hx, by simp [hsx]⟩
  have hrel : st.releaseHolder x = st.dropHolder x := by
    unfold St.releaseHolder
    rw [← hsx]
    refine clientFree_eq_self (s := Sess.release s) hg ?_
    rcases hc with hc | hc
    · exact Or.inl hc
    · exact Or.inr (show s.ref - 1 ≠ 0 by omega)
  exact ⟨hrel, by rw [hrel]; exact hs1⟩

/-- `coap_session_release(session)` with the call-home reference at ANY time: the step is the release of the application's
token in full -/
theorem end_call_home_is_release (st : St) (p : Peer) (s : Sess) (x : Holder) (hf : st.freed = false)
    (hl : st.lookup p = some s) (hx : st.findHolder s.sid isHome = some x) :
    (st.step (.endCallHome p)).1 = st.releaseHolder x ∧ (st.step (.endCallHome p)).2 = .ok := by
  obtain ⟨_, hxs, _⟩ := findHolder_some hx
  have hxs' : x.sid = s.sid := by simpa using hxs
  unfold St.step
  unfold St.releaseHolder
  simp only [hf, Bool.false_eq_true, if_false, hl, hx, hxs', and_self]

/-- The end of a call-home session (D16: the application lets go last — `ref = 1`, its own token): after
`coap_session_release(session)` the session is in NO table any more — the peer has no session, so its next datagram is
served by a fresh one (`St.getSession` with `lookup = none`) —, no holder points at it, the only holder that went is the
application's token, the ledger grew by exactly the frees of what hung off the session and ONE free of the session, and
no session-deleted event was raised. -/
theorem end_call_home_frees_and_unlinks {st : St} (h : Reachable st) (p : Peer) (s : Sess) (x : Holder)
    (hf : st.freed = false) (hl : st.lookup p = some s) (hx : st.findHolder s.sid isHome = some x) (hr : s.ref = 1)
    (hc : s.client = true) :
    (st.step (.endCallHome p)).1.lookup p = none ∧
    (∀ t, t ∈ (st.step (.endCallHome p)).1.sessions ↔ t ∈ st.sessions ∧ t.sid ≠ s.sid) ∧
    (st.step (.endCallHome p)).1.holders = st.holders.erase x ∧
    (∀ y ∈ (st.step (.endCallHome p)).1.holders, y.sid ≠ s.sid) ∧
    (st.step (.endCallHome p)).1.ledger =
      st.ledger ++ ((st.partials.filter (fun y => y.2 == s.sid)).map fun y => .free y.1) ++ [.free s.sid] ∧
    (st.step (.endCallHome p)).1.events = st.events ++ [.handed s.sid] := by
  have hI := reachable_inv h
  obtain ⟨hsm, hsp⟩ := lookup_some hl
  obtain ⟨hxm, hxs, hk⟩ := findHolder_some hx
  have hxs' : s.sid = x.sid := hxs.symm
  obtain ⟨hnone, hH, hdang, hL, hE⟩ := last_release_frees_client_session h x hxm s hsm hxs' hr hc
  have hrel := last_release_eq_unlink hI hxm hsm hxs' hr hc
  rw [(end_call_home_is_release st p s x hf hl hx).1]
  have hd := dropHolder_home hxm hk
  rw [← hxs'] at hd
  have hmem : ∀ t, t ∈ (st.releaseHolder x).sessions ↔ t ∈ st.sessions ∧ t.sid ≠ s.sid := by
    intro t
    rw [hrel, mem_unlink, hd]
    constructor
    · rintro ⟨ht, hne⟩
      rcases mem_updSess_cases ht with ⟨u, _, c, rfl⟩ | ⟨ht, _⟩
      · exact absurd c hne
      · exact ⟨ht, hne⟩
    · rintro ⟨ht, hne⟩
      exact ⟨mem_updSess.mpr ⟨t, ht, by simp [hne]⟩, hne⟩
  refine ⟨?_, hmem, hH, hdang, by rw [hL, hd]; rfl, hE⟩
  unfold St.lookup
  rw [List.find?_eq_none]
  intro t ht
  obtain ⟨htm, hne⟩ := (hmem t).mp ht
  intro e
  have hts : t = s := ((peer_session_functional_injective h) t htm s hsm).1 (by rw [hsp]; simpa using e)
  exact hne (by rw [hts])

/-- EARLY release (D16): the application lets its call-home reference go while something else still refers to the
session (`ref ≠ 1`: an observation, an async entry, a queued message, a reference of its own).  Nothing is freed: the
session stays in its endpoint's table as a CLIENT session with one reference less, the only holder that went is the
application's token, ledger and events are unchanged — from now on the session's life ends with its LAST holder
(`last_release_frees_client_session`), wherever that one lets go. -/
theorem early_release_keeps_session {st : St} (h : Reachable st) (p : Peer) (s : Sess) (x : Holder)
    (hf : st.freed = false) (hl : st.lookup p = some s) (hx : st.findHolder s.sid isHome = some x) (hr : s.ref ≠ 1) :
    Sess.release s ∈ (st.step (.endCallHome p)).1.sessions ∧
    (st.step (.endCallHome p)).1.holders = st.holders.erase x ∧
    (st.step (.endCallHome p)).1.ledger = st.ledger ∧ (st.step (.endCallHome p)).1.events = st.events := by
  obtain ⟨hsm, _⟩ := lookup_some hl
  obtain ⟨hxm, hxs, hk⟩ := findHolder_some hx
  have hxs' : s.sid = x.sid := by simpa using hxs.symm
  rw [(end_call_home_is_release st p s x hf hl hx).1]
  obtain ⟨hrel, hmem⟩ := release_keeps_referenced_session h x hxm s hsm hxs' (Or.inr hr)
  refine ⟨hmem, ?_⟩
  rw [hrel, dropHolder_home hxm hk]
  exact ⟨rfl, rfl, rfl⟩

/-- A session the application has taken over is never reclaimed by an I/O pass, however long it is idle (the reclamation
walk and the idle accounting are for `type == COAP_SESSION_TYPE_SERVER`): it is the application's to end. -/
theorem client_session_survives_pass {st : St} (h : Reachable st) (now : Nat) (t : Sess)
    (ht : t ∈ (st.preReclaim now).sessions) (hc : t.client = true) :
    t ∈ (st.prepareIoAt now).sessions ∧ (st.prepareIoAt now).events.count (.del t.sid) = 0 := by
  apply survives_pass h now ht
  intro hx
  have := (Sess.idle_iff.mp hx.1).2.2
  rw [hc] at this
  cases this


/-! ### "a CLIENT-type session that sits in a table is referenced" as a GLOBAL invariant -/

/-- The invariant is inductive for ANY state that satisfies it together with `Inv` (not only reachable ones), over
every event: the formulation that works is over the WHOLE `coap_session_release_lkd` (`St.releaseHolder` = `--ref` + the
free test), the release/reference pair of coap_add_observer's token replacement, releases on sessions that are not client
sessions, and coap_session_disconnected_lkd under D17 — the raw `--ref` (`St.dropHolder`) alone breaks it (example
below), which is why it does not fit `Closed`. -/
theorem client_invariant_step {st : St} (hI : Inv st) (hC : CInv st) (e : Event) :
    Inv (st.step e).1 ∧ CInv (st.step e).1 :=
  let j := J.step ⟨hI, hC⟩ e
  ⟨j.I, j.C⟩

/-- In EVERY reachable state — after any history of datagrams, stream traffic, observations, notifications, Resets, ACKs,
async entries, Confirmables, call home, releases in any order, I/O passes, disconnects, teardown — every session of
`type == COAP_SESSION_TYPE_CLIENT` that sits in an endpoint's table has `ref ≥ 1`, at least one holder object points at
it, and it is a datagram session.  (What the oracle checks after every event.) -/
theorem client_session_in_table_is_referenced {st : St} (h : Reachable st) :
    ∀ s ∈ st.sessions, s.client = true → 1 ≤ s.ref ∧ 1 ≤ st.holds s.sid ∧ s.peer.reliable = false := by
  obtain ⟨eps, nres, es, rfl⟩ := h
  intro s hs hc
  have j := J.run eps nres es
  have h1 := j.C s hs hc
  exact ⟨h1.1, by rw [← j.I.H.ref s hs]; exact h1.1, h1.2⟩

/-- Corollary: between events an unreferenced session is a SERVER session, so the `type == COAP_SESSION_TYPE_SERVER`
conjunct of the idle test (eviction scan of coap_endpoint_get_session, reclamation test of coap_io_prepare_io_lkd) only
matters in the middle of an event: `idle` is `ref == 0 && delayqueue == NULL`. -/
theorem unreferenced_session_is_server_session {st : St} (h : Reachable st) (s : Sess) (hs : s ∈ st.sessions)
    (hr : s.ref = 0) : s.client = false ∧ s.idle = (s.ref == 0 && s.delayq == 0) := by
  have hc : s.client = false := by
    cases hc : s.client with
    | false => rfl
    | true => have := (client_session_in_table_is_referenced h s hs hc).1; omega
  exact ⟨hc, by simp [Sess.idle, hc]⟩


/-- Client sessions PROPER (`coap_new_client_session` on the same context, lifetime slice): the call creates
ONE new session object (ledger `alloc`, owned by the context) and touches nothing of the endpoints' tables — the sessions,
the peer ⇀ session map (`lookup`, so `peer_session_functional_injective` stays a statement about the sessions born on
endpoints and the client session is OUTSIDE that map), the holders and the SERVER_SESSION_NEW/DEL event log are unchanged.
All theorems above are statements over `Reachable`, i.e. over histories that MIX these calls with everything else;
`teardown_ledger_empty` then says that `coap_free_context` with such sessions still referenced by the application frees
every one of them exactly once (after fix a610d3d). -/
theorem own_client_session_outside_peer_map (st : St) (hf : st.freed = false) (k : Nat) :
    (st.step (.ownClient k)).1.sessions = st.sessions ∧ (st.step (.ownClient k)).1.events = st.events ∧
    (st.step (.ownClient k)).1.holders = st.holders ∧ (∀ p, (st.step (.ownClient k)).1.lookup p = st.lookup p) ∧
    (st.step (.ownClient k)).1.ledger = st.ledger ++ [.alloc st.next] ∧
    (st.step (.ownClient k)).1.ctxObjs = st.ctxObjs ++ [st.next] ∧ (st.step (.ownClient k)).1.nown = st.nown + 1 := by
  have e : (st.step (.ownClient k)).1 = st.newOwned := by
    unfold St.step
    rw [if_neg (by rw [hf]; decide)]
  rw [e]
  exact ⟨rfl, rfl, rfl, fun _ => rfl, rfl, rfl, rfl⟩


/-! ### non-vacuity: concrete histories -/

def pA : Peer := ⟨1, 0, 1⟩
def pB : Peer := ⟨2, 0, 1⟩
def st0 : St := St.init [(0, 1), (1, 1)] 4

/-- a history with a request, an observation, an application reference and a queued CON reaches a state with a
session of reference count 3 -/
example : ((st0.run [.rx pA .plain, .rx pA (.obsReg 0 0 0), .appRef pA, .ping pA]).sessions.map (·.ref)) = [3] := by decide

/-- re-registration of /o0 under a new token: still ONE subscription and reference count 1; a different query is a
second observation (count 2) -/
example : let st := st0.run [.rx pA (.obsReg 0 0 0), .rx pA (.obsReg 0 0 1)]
    st.sessions.map (·.ref) = [1] ∧ st.holders.map (·.kind) = [.obs 0 0 1 0] := by decide
example : ((st0.run [.rx pA (.obsReg 0 0 0), .rx pA (.obsReg 0 1 1)]).sessions.map (·.ref)) = [2] := by decide

/-- the hypotheses of `reregistration_keeps_refcount` and `rst_releases_exactly_one` are satisfiable -/
example : let st := st0.run [.rx pA (.obsReg 0 0 0)]
    st.findHolder 8 (isObsTok 0 1) = none ∧ (st.findHolder 8 (isObsKey 0 0)).isSome = true := by decide
example : let st := st0.run [.rx pA (.obsReg 0 0 0), .rx pA (.obsReg 1 0 0), .changed 0, .io]
    (st.findHolder 8 (hasNote 1)).isSome = true ∧ st.sessions.map (·.ref) = [2] := by decide

/-- two observations, /o0 changes, the peer resets the notification: ONE reference goes, the session survives the
session timeout because /o1 still observes; with the second observation cancelled as well it is reclaimed -/
example : let st := st0.run [.rx pA (.obsReg 0 0 0), .rx pA (.obsReg 1 0 0), .changed 0, .io, .noteRst pA 0,
      .advance 300001, .io]
    st.sessions.map (·.ref) = [1] ∧ st.events = [.new 8] := by decide
example : (st0.run [.rx pA (.obsReg 0 0 0), .rx pA (.obsReg 1 0 0), .changed 0, .io, .noteRst pA 0,
      .rx pA (.obsDereg 1 0 0), .advance 300001, .io]).events = [.new 8, .del 8] := by decide

/-- a Reset for an older notification cancels nothing -/
example : ((st0.run [.rx pA (.obsReg 0 0 0), .changed 0, .io, .changed 0, .io, .noteRst pA 1]).sessions.map (·.ref)) = [1] := by
  decide

/-- teardown while the application still holds its reference: everything is released, DEL is raised (D13) -/
example : let st := st0.run [.rx pA .plain, .appRef pA, .freeContext]
    ledgerOk st.ledger = true ∧ st.events = [.new 8, .del 8] := by decide

/-- idle limit 1: the second peer evicts the first -/
example : (st0.run [.setMaxIdle 1, .rx pA .plain, .advance 5, .rx pB .plain]).events = [.new 8, .del 8, .new 9] := by decide

/-- a delayed response: the request is parked for 40 ms, the handler takes 5 ms to produce the answer when libcoap
re-invokes it from the I/O pass that started at 1040; the response leaves at 1045, the async entry is dropped; the
session (reference count 0, `last_rx_tx` = 1045 > `now` of the pass) is NOT reclaimed, the peer's next request is handled
by the same session -/
example : let st := st0.run [.rx pA (.slow 40 5), .advance 40, .io]
    st.sessions.map (fun s => (s.ref, s.last)) = [(0, 1045)] ∧ st.events = [.new 8] ∧ st.holders = [] ∧ st.now = 1045 := by
  decide
example : (st0.run [.rx pA (.slow 40 5), .advance 40, .io, .rx pA .plain, .freeContext]).events = [.new 8, .del 8] := by decide
/-- the hypotheses of `session_used_after_now_survives` are satisfiable with `now < last_rx_tx` -/
example : let st := st0.run [.rx pA (.slow 40 5), .advance 40]
    (st.preReclaim st.now).sessions.map (fun s => (s.idle, decide (st.now < s.last))) = [(true, true)] := by decide
/-- the handler takes longer than the session timeout (1 s): still not reclaimed in that pass nor in the next one at
once, but 1 s after the response -/
example : let st := st0.run [.setTimeout 1, .rx pA (.slow 40 2000), .advance 40, .io, .io]
    st.sessions.map (fun s => (s.ref, s.last)) = [(0, 3040)] ∧ st.events = [.new 8] := by decide
example : (st0.run [.setTimeout 1, .rx pA (.slow 40 2000), .advance 40, .io, .advance 1000, .io]).events = [.new 8, .del 8] := by
  decide
/-- an I/O pass with a `now` that the application read 3 ms before the session's last datagram -/
example : (st0.run [.setTimeout 1, .rx pA .plain, .advance 5, .rx pA .plain, .ioStale 3, .advance 999, .io]).events = [.new 8] := by
  decide
example : (st0.run [.setTimeout 1, .rx pA .plain, .advance 5, .rx pA .plain, .ioStale 3, .advance 1000, .ioStale 0]).events =
    [.new 8, .del 8] := by decide

/-! stream sessions (CoAP over TCP): context with two UDP endpoints and one TCP endpoint, 5 resources: ledger ids 1..9 -/
def pS : Peer := ⟨50, 2, COAP_PROTO_TCP⟩
def st1 : St := St.init [(0, COAP_PROTO_UDP), (1, COAP_PROTO_UDP), (2, COAP_PROTO_TCP)] 5

/-- a stream peer connects, the application takes a reference, the peer closes the connection: the session stays
(closed, reference count 1) through I/O passes and far beyond the session timeout, without a session-deleted event … -/
example : let st := st1.run [.connect pS, .appRef pS, .peerClose pS, .io, .advance 400000, .io]
    st.sessions.map (fun s => (s.ref, s.closed)) = [(1, true)] ∧ st.events = [.new 10] := by decide
/-- … and is reclaimed by the first pass after the release (no timeout needed: the connection is gone) -/
example : (st1.run [.connect pS, .appRef pS, .peerClose pS, .io, .appRelease pS]).events = [.new 10] := by decide
example : (st1.run [.connect pS, .appRef pS, .peerClose pS, .io, .appRelease pS, .io]).events = [.new 10, .del 10] := by
  decide
/-- the same with an async entry as the only holder, and with a delayed response that fires on the closed session
(nothing is sent: `last_rx_tx` stays; the entry is dropped and the same pass reclaims the session) -/
example : let st := st1.run [.connect pS, .rx pS .async, .peerClose pS, .io]
    st.sessions.map (fun s => (s.ref, s.closed)) = [(1, true)] ∧ st.events = [.new 10] := by decide
example : (st1.run [.connect pS, .rx pS .async, .peerClose pS, .io, .asyncFree pS, .io]).events = [.new 10, .del 10] := by
  decide
example : let st := st1.run [.connect pS, .rx pS (.slow 40 5), .peerClose pS, .advance 40, .io]
    st.events = [.new 10, .del 10] ∧ st.now = 1045 ∧ st.holders = [] := by decide
/-- an unreferenced session is reclaimed by the pass that ends the event in which the peer closes the connection -/
example : (st1.run [.connect pS, .rx pS .plain, .peerClose pS]).events = [.new 10, .del 10] := by decide
/-- the hypotheses of `referenced_session_survives_pass` are satisfiable with a CLOSED session -/
example : let st := st1.run [.connect pS, .appRef pS, .peerClose pS]
    (st.preReclaim st.now).sessions.map (fun s => (s.closed, decide (s.ref ≠ 0))) = [(true, true)] := by decide

/-- the peer stops in the middle of a message: from the 3rd byte on the partly received PDU (ledger id 11) hangs off
the session (10); the rest of the message releases it -/
example : (st1.run [.connect pS, .partialRx pS 2]).partials = [] ∧
    (st1.run [.connect pS, .partialRx pS 3]).partials = [(11, 10)] ∧
    (st1.run [.connect pS, .partialRx pS 23, .restRx pS]).partials = [] := by decide
/-- `coap_free_context` with the partial PDU still there: it is freed (before its session), the ledger is clean -/
example : let st := st1.run [.connect pS, .partialRx pS 23, .freeContext]
    ledgerOk st.ledger = true ∧ st.partials = [] ∧ st.ledger.drop 11 = [.free 11, .free 10, .free 1, .free 2, .free 3,
      .free 4, .free 5, .free 6, .free 7, .free 8, .free 9] := by decide
/-- the peer stays silent in the middle of the message until the session timeout (1 s): the pass reclaims the session and
releases the PDU with it; the peer closes the connection in the middle of the message: the same -/
example : let st := st1.run [.setTimeout 1, .connect pS, .partialRx pS 23, .advance 1000, .io]
    st.events = [.new 10, .del 10] ∧ st.partials = [] ∧ st.ledger.drop 11 = [.free 11, .free 10] := by decide
example : let st := st1.run [.connect pS, .partialRx pS 23, .appRef pS, .peerClose pS]
    st.partials = [] ∧ st.sessions.map (fun s => (s.ref, s.closed, s.pend)) = [(1, true, 0)] ∧
      st.ledger.drop 11 = [.free 11] := by decide
/-- the hypotheses of `reclaim_releases_partial_pdu` are satisfiable with a PDU to release -/
example : let st := st1.run [.connect pS, .partialRx pS 23]
    st.sessions.map (fun s => (s.sid, s.ref)) = [(10, 0)] ∧ st.partials.filter (fun x => x.2 == 10) = [(11, 10)] := by decide
/-- the idle limit is that of `coap_endpoint_get_session` (datagram endpoints): accepting a connection evicts nothing -/
example : (st1.run [.setMaxIdle 1, .connect pS, .connect ⟨51, 2, COAP_PROTO_TCP⟩]).events = [.new 10, .new 11] := by decide

/-! ### Confirmables of a session: the delay queue (NSTART) and the replies that end an exchange (seeds C12-10, C12-12) -/

/-- ANY reply that matches the Confirmable a session has outstanding ends the exchange in the same way: an empty ACK, an
ACK that coap_dispatch classifies as a bad packet (request code in an ACK, invalid code class) and a Reset leave the SAME
state — the node is unlinked, the NSTART slot is given back, a Confirmable waiting in the delay queue is sent, and the
node, its PDU and its session reference are released (`coap_delete_node_lkd(sent)` at `cleanup:` is unconditional). -/
theorem any_reply_ends_exchange (st : St) (p : Peer) (bad : Bool) :
    (st.step (.ack p bad)).1 = (st.step (.rst p)).1 := by
  unfold St.step
  by_cases hf : st.freed = true
  · rw [if_pos hf, if_pos hf]
  · rw [if_neg hf, if_neg hf]
    dsimp only
    split
    · rfl
    · split <;> rfl

/-- a Confirmable that has to wait for its NSTART slot (`coap_session_delay_pdu(session, pdu, NULL)`) takes NO reference:
holders and every reference count are unchanged; the new node hangs off the session (it is in `partials`, so by
`partial_pdu_hangs_off_live_session` its session is live and by `reclaim_releases_partial_pdu` / `teardown_state_empty`
it is released with it), and the session is not idle any more (`delayqueue != NULL`). -/
theorem delayed_send_takes_no_reference (st : St) (p : Peer) (s : Sess) (hf : st.freed = false) (hl : st.lookup p = some s)
    (hr : s.peer.reliable = false) (hcl : s.client = false) (hc : s.conActive ≥ NSTART) :
    (st.step (.sendCon p)).1.holders = st.holders ∧
    (st.step (.sendCon p)).1.sessions.map (fun t => (t.sid, t.ref)) = st.sessions.map (fun t => (t.sid, t.ref)) ∧
    (st.step (.sendCon p)).1.partials = st.partials ++ [(st.next, s.sid)] := by
  unfold St.step
  simp only [hf, Bool.false_eq_true, if_false, hl, hr, hcl, Bool.or_self, hc, if_true]
  refine ⟨rfl, ?_, rfl⟩
  simp only [St.addPartial, St.updSess, List.map_map]
  apply List.map_congr_left
  intro t _
  by_cases e : t.sid = s.sid <;> simp [e]

/-- when the delayed Confirmable gets its slot (`coap_session_connected` → `coap_wait_ack`) the SAME node (no allocation,
no free) becomes a queued message and takes exactly one reference on its session: the holders grow by that node, the
session's holder count grows by one, the ledger is unchanged.  (That the reference COUNT grows with it is
`ref_eq_holders`, which holds in every reachable state.) -/
theorem flush_takes_reference (st : St) (x : Nat × Nat) (due : Nat) (hx : x ∈ st.partials) :
    (st.promote x due).holders = st.holders ++ [⟨x.1, x.2, .node 0 due⟩] ∧
    (st.promote x due).holds x.2 = st.holds x.2 + 1 ∧
    (∀ y, y ≠ x.2 → (st.promote x due).holds y = st.holds y) ∧
    (st.promote x due).ledger = st.ledger ∧ (st.promote x due).partials = st.partials.erase x := by
  unfold St.promote
  rw [if_pos hx]
  refine ⟨rfl, ?_, ?_, rfl, rfl⟩
  · unfold St.holds; simp [List.countP_append]
  · intro y hy
    unfold St.holds
    have : ¬ x.2 = y := fun e => hy e.symm
    simp [List.countP_append, this]

/-- two separate Confirmables back to back: the second waits (no reference), the ACK of the first — also a BAD one — sends
and queues it (one reference: node 10 is the same object), its own ACK releases everything; the session is then idle and
is reclaimed after the session timeout; the ledger is clean after teardown -/
example : let st := st0.run [.rx pA .plain, .sendCon pA, .sendCon pA]
    st.sessions.map (fun s => (s.ref, s.conActive, s.delayq)) = [(1, 1, 1)] ∧ st.partials = [(10, 8)] ∧
      st.holders.map (fun h => (h.hid, h.kind)) = [(9, .node 0 3000)] := by decide
example : let st := st0.run [.rx pA .plain, .sendCon pA, .sendCon pA, .ack pA true]
    st.sessions.map (fun s => (s.ref, s.conActive, s.delayq)) = [(1, 1, 0)] ∧ st.partials = [] ∧
      st.holders.map (fun h => (h.hid, h.kind)) = [(10, .node 0 3000)] ∧ st.ledger.drop 7 = [.alloc 8, .alloc 9, .alloc 10, .free 9] := by
  decide
example : let st := st0.run [.rx pA .plain, .sendCon pA, .sendCon pA, .ack pA true, .ack pA false, .advance 300000, .io]
    st.events = [.new 8, .del 8] ∧ st.holders = [] ∧ st.partials = [] := by decide
example : let st := st0.run [.rx pA .plain, .appRef pA, .sendCon pA, .sendCon pA, .ack pA false, .rst pA]
    st.sessions.map (fun s => (s.ref, s.conActive, s.delayq)) = [(1, 0, 0)] ∧ st.holders.map (·.kind) = [.app] := by decide
/-- teardown / disconnect with a Confirmable still waiting in the delay queue: released with the session -/
example : let st := st0.run [.rx pA .plain, .sendCon pA, .sendCon pA, .sendCon pA, .freeContext]
    ledgerOk st.ledger = true ∧ st.partials = [] ∧ st.events = [.new 8, .del 8] := by decide
example : let st := st0.run [.rx pA .plain, .sendCon pA, .sendCon pA, .disconnect pA]
    st.sessions.map (fun s => (s.ref, s.conActive, s.delayq)) = [(0, 0, 0)] ∧ st.partials = [] ∧ st.holders = [] := by decide
/-- a session with a delayed Confirmable is not idle: it survives the session timeout although nothing refers to it
(the first Confirmable is given up after 4 retransmissions at 1000 + 62000; that flushes the second one) -/
example : let st := st0.run [.setTimeout 1, .rx pA .plain, .sendCon pA, .sendCon pA, .advance 2000, .io, .advance 4000, .io]
    st.events = [.new 8] ∧ st.sessions.map (·.delayq) = [1] := by decide
/-- the hypotheses of `delayed_send_takes_no_reference` and `flush_takes_reference` are satisfiable -/
example : let st := st0.run [.rx pA .plain, .sendCon pA]
    (st.lookup pA).map (fun s => (s.peer.reliable, decide (s.conActive ≥ NSTART))) = some (false, true) := by decide
example : (10, 8) ∈ (st0.run [.rx pA .plain, .sendCon pA, .sendCon pA]).partials := by decide

/-! call home (seed C12-17): a request creates the session, the application takes it over and lets go again -/
example : let st := st0.run [.rx pA .plain, .callHome pA]
    st.sessions.map (fun s => (s.ref, s.client)) = [(1, true)] ∧ st.holders.map (·.kind) = [.home] ∧ st.events = [.new 8] := by
  decide
/-- the hypotheses of `end_call_home_frees_and_unlinks` are satisfiable -/
example : let st := st0.run [.rx pA .plain, .callHome pA]
    st.freed = false ∧
    (st.lookup pA).map (fun s => (s.ref, s.client, (st.findHolder s.sid isHome).isSome)) = some (1, true, true) := by decide
/-- … and its conclusion on that history: the table is empty, ONE free of the session, no session-deleted event -/
example : let st := st0.run [.rx pA .plain, .callHome pA, .endCallHome pA]
    st.sessions = [] ∧ st.holders = [] ∧ st.events = [.new 8, .handed 8] ∧ st.ledger.count (.free 8) = 1 := by decide
/-- the peer's next datagram gets a FRESH session, and the whole ledger is accepted after teardown -/
example : let st := st0.run [.rx pA .plain, .callHome pA, .endCallHome pA, .rx pA .plain, .freeContext]
    st.events = [.new 8, .handed 8, .new 9, .del 9] ∧ ledgerOk st.ledger = true := by decide
/-- D16: the application releases its call-home reference while an observation still refers to the session — the
    session lives on as a CLIENT session with the observation's reference; the peer's Observe deregistration then lets the
    LAST holder go from inside the receive path: the session is freed when the datagram has been dealt with (`handed`, no
    session-deleted event), the table is empty and no holder is left -/
example : let st := st0.run [.rx pA (.obsReg 0 0 0), .callHome pA, .endCallHome pA]
    st.sessions.map (fun s => (s.ref, s.client)) = [(1, true)] ∧ st.holders.map (·.kind) = [.obs 0 0 0 0] := by decide
example : let st := st0.run [.rx pA (.obsReg 0 0 0), .callHome pA, .endCallHome pA, .rx pA (.obsDereg 0 0 0)]
    st.sessions = [] ∧ st.holders = [] ∧ st.events = [.new 8, .handed 8] ∧ st.ledger.count (.free 8) = 1 := by decide
/-- … the same with the last holder being: the observation cancelled by a Reset of its notification, a queued ping
    answered by an ACK / given up after the last retransmission, a deferred response being sent, the application's own
    coap_free_async / coap_session_release, the deletion of the resource, the teardown -/
example : let st := st0.run [.rx pA (.obsReg 0 0 0), .callHome pA, .endCallHome pA, .changed 0, .io, .noteRst pA 0]
    st.sessions = [] ∧ st.holders = [] ∧ st.events = [.new 8, .handed 8] := by decide
example : let st := st0.run [.rx pA .plain, .ping pA, .callHome pA, .endCallHome pA, .ack pA false]
    st.sessions = [] ∧ st.holders = [] ∧ st.events = [.new 8, .handed 8] := by decide
example : let st := st0.run [.rx pA .plain, .ping pA, .callHome pA, .endCallHome pA, .advance 2000, .io, .advance 4000, .io,
      .advance 8000, .io, .advance 16000, .io, .advance 32000, .io]
    st.sessions = [] ∧ st.holders = [] ∧ st.events = [.new 8, .handed 8] := by decide
example : let st := st0.run [.rx pA (.slow 40 5), .callHome pA, .endCallHome pA, .advance 40, .io]
    st.sessions = [] ∧ st.holders = [] ∧ st.events = [.new 8, .handed 8] := by decide
example : let st := st0.run [.rx pA .async, .callHome pA, .endCallHome pA, .asyncFree pA]
    st.sessions = [] ∧ st.holders = [] ∧ st.events = [.new 8, .handed 8] := by decide
example : let st := st0.run [.rx pA .plain, .appRef pA, .callHome pA, .endCallHome pA, .appRelease pA]
    st.sessions = [] ∧ st.holders = [] ∧ st.events = [.new 8, .handed 8] := by decide
example : let st := st0.run [.rx pA (.obsReg 0 0 0), .callHome pA, .endCallHome pA, .delResource 0]
    st.sessions = [] ∧ st.holders = [] ∧ st.events = [.new 8, .handed 8] := by decide
example : let st := st0.run [.rx pA (.obsReg 0 0 0), .callHome pA, .endCallHome pA, .freeContext]
    st.sessions = [] ∧ st.events = [.new 8, .handed 8] ∧ ledgerOk st.ledger = true := by decide
/-- the hypotheses of `last_release_frees_client_session` (the observation is the only holder left of a client session) and
    of `early_release_keeps_session` / `release_keeps_referenced_session` (`ref = 2`, the application's token is there) are
    satisfiable -/
example : let st := st0.run [.rx pA (.obsReg 0 0 0), .callHome pA, .endCallHome pA]
    st.sessions.map (fun s => (s.sid, s.ref, s.client)) = [(8, 1, true)] ∧ st.holders.map (·.sid) = [8] := by decide
example : let st := st0.run [.rx pA (.obsReg 0 0 0), .callHome pA]
    st.freed = false ∧
    (st.lookup pA).map (fun s => (s.ref, s.client, (st.findHolder s.sid isHome).isSome)) = some (2, true, true) := by decide
/-- D17: coap_session_disconnected on a client session the application holds no reference on is skipped -/
example : ((st0.run [.rx pA (.obsReg 0 0 0), .callHome pA, .endCallHome pA]).step (.disconnect pA)).2 = .skip ∧
    ((st0.run [.rx pA (.obsReg 0 0 0), .callHome pA]).step (.disconnect pA)).2 = .ok := by decide
/-- a call-home session is not reclaimed by the session timeout; at teardown it is deleted like every session of the table;
    a second coap_session_set_type_client, a ping and a coap_send on it are refused -/
example : let st := st0.run [.rx pA .plain, .callHome pA, .callHome pA, .ping pA, .sendCon pA, .advance 400000, .io]
    st.sessions.map (fun s => (s.ref, s.client)) = [(1, true)] ∧ st.holders.length = 1 := by decide
example : let st := st0.run [.rx pA .plain, .callHome pA, .advance 400000, .io, .freeContext]
    st.events = [.new 8, .del 8] ∧ ledgerOk st.ledger = true := by decide
/-- the hypotheses of `release_frees_only_unreferenced_client_sessions` / `call_home_takes_one_reference` -/
example : let st := st0.run [.rx pA .plain, .appRef pA, .appRelease pA]
    st.sessions.map (fun s => (s.ref, s.client)) = [(0, false)] ∧ (st.clientFree 8).sessions = st.sessions := by decide

/-- the raw `--ref` breaks the invariant, the whole coap_session_release_lkd keeps it (why `CInv` is not `Closed`);
    the hypotheses of `client_invariant_step` / `unreferenced_session_is_server_session` are satisfiable -/
example : let st := st0.run [.rx pA (.obsReg 0 0 0), .callHome pA, .endCallHome pA]
    st.sessions.map (fun s => (s.ref, s.client)) = [(1, true)] ∧
    (st.holders.map fun x => (st.dropHolder x).sessions.map (fun s => (s.ref, s.client))) = [[(0, true)]] ∧
    (st.holders.map fun x => (st.releaseHolder x).sessions.map (fun s => (s.ref, s.client))) = [[]] := by decide
example : let st := st0.run [.rx pA .plain, .rx pB (.obsReg 0 0 0), .callHome pB]
    st.sessions.map (fun s => (s.ref, s.client)) = [(0, false), (2, true)] := by decide

/-- client sessions proper mixed with server sessions: no events, outside the tables, freed by the teardown (also when the
    application still holds them, and next to a server session it still references) -/
example : let st := st0.run [.rx pA .plain, .ownClient 1, .appRef pA, .ownClient 0, .callHome pB, .rx pB .plain, .ownClient 2]
    st.events = [.new 8, .new 11] ∧ st.sessions.map (·.sid) = [8, 11] ∧ st.nown = 3 ∧ st.freed = false ∧
    ledgerOk st.ledger = false ∧ ledgerOk (st.step .freeContext).1.ledger = true ∧
    (st.step .freeContext).1.events = [.new 8, .new 11, .del 8, .del 11] := by decide

/-- the monitor rejects a double free, a free of something unallocated and a leak -/
example : ledgerOk [.alloc 1, .free 1, .free 1] = false ∧ ledgerOk [.free 7] = false ∧ ledgerOk [.alloc 1] = false ∧
    ledgerOk [.alloc 1, .alloc 2, .free 2, .free 1] = true := by decide

end Coap.C12
