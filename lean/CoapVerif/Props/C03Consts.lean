import CoapVerif.Model.OptFilter
import CoapVerif.Spec.OptFilter
import CoapVerif.Generated.Consts2
/-
C03 / T1 — the numerals of the option-filter model and specification are those of the current tree.

`Generated.C2.*` is rewritten from /repo's working tree on every check (extract/consts2.c, extract/consts2_opt.c).
A changed macro / struct layout makes one of these named proof obligations fail.
-/
namespace Coap.C03
open Coap Coap.M Coap.Generated

/-- `coap_option_filter_clear`: COAP_OPT_FILTER_LONG long slots and COAP_OPT_FILTER_SHORT short slots, all free -/
theorem optFilter_slots_matches_code :
    OptFilter.Flt.clear = ⟨List.replicate C2.COAP_OPT_FILTER_LONG (false, 0), List.replicate C2.COAP_OPT_FILTER_SHORT (false, 0)⟩ := by
  decide

theorem optFilter_capLong_matches_code : Spec.OptFilter.capLong = C2.COAP_OPT_FILTER_LONG := by decide
theorem optFilter_capShort_matches_code : Spec.OptFilter.capShort = C2.COAP_OPT_FILTER_SHORT := by decide

/-- `is_long_option` of the compiled code is a threshold test (evaluated over 0..65535) and the threshold is the one
the model and the specification split on (`number > 255`) -/
theorem optFilter_longThreshold_matches_code :
    C2.optFilterLongMonotone = 1 ∧ C2.optFilterLongThreshold = 255 + 1 ∧ C2.optFilterShortMax = 255 := by decide

/-- the model's class split, for every option number: the long class is taken exactly from the compiled threshold on -/
theorem optFilter_op_class_matches_code (f : OptFilter.Flt) (n : Nat) (op : OptFilter.Op) :
    f.op n op =
      if n ≥ C2.optFilterLongThreshold then
        ({ f with long := (OptFilter.opOn f.long n op).1 }, (OptFilter.opOn f.long n op).2)
      else
        ({ f with short := (OptFilter.opOn f.short (n % (C2.optFilterShortMax + 1)) op).1 },
         (OptFilter.opOn f.short (n % (C2.optFilterShortMax + 1)) op).2) := by
  unfold OptFilter.Flt.op
  show _ = if n ≥ 256 then _ else _
  by_cases h : n > 255
  · rw [if_pos h, if_pos (show n ≥ 256 from h)]
  · rw [if_neg h, if_neg (show ¬ n ≥ 256 by omega)]
    rfl

/-- the mask layout: the long class owns the low COAP_OPT_FILTER_LONG bits (LONG_MASK), the short class the next
COAP_OPT_FILTER_SHORT (SHORT_MASK), and both fit the `uint16_t mask` -/
theorem optFilter_mask_matches_code :
    (OptFilter.Flt.mask ⟨List.replicate 2 (true, 0), List.replicate 6 (false, 0)⟩ = C2.optFilterLongMask) ∧
    (OptFilter.Flt.mask ⟨List.replicate 2 (false, 0), List.replicate 6 (true, 0)⟩ = C2.optFilterShortMask) ∧
    C2.COAP_OPT_FILTER_LONG + C2.COAP_OPT_FILTER_SHORT ≤ C2.optFilterMaskBits := by decide

/-- `opt_finished` stops at the payload marker COAP_PAYLOAD_START -/
theorem optFilter_payloadMarker_matches_code (b : UInt8) (r : Bytes) :
    OptFilter.finished (b :: r) = (b.toNat == C2.COAP_PAYLOAD_START) := by
  have h : C2.COAP_PAYLOAD_START = 255 := by decide
  rw [h]
  simp only [OptFilter.finished]
  rw [Bool.eq_iff_iff]
  simp [← UInt8.toNat_inj]

example : (OptFilter.Flt.clear.op 300 OptFilter.Op.set).2 = 1 := by decide
example : (OptFilter.Flt.clear.op 17 OptFilter.Op.set).2 = 1 := by decide

end Coap.C03
