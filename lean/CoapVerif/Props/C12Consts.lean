import CoapVerif.Model.Sessions
import CoapVerif.Generated.Consts2
/-
C12 / T1 — the timing defaults, retransmission parameters and protocol numbers of the session-lifetime
model are those of the current tree (`Generated.C2.*`, rewritten from /repo's working tree on every check).
-/
namespace Coap.C12
open Coap Coap.Generated

theorem sessionTimeout_matches_code : Sessions.COAP_DEFAULT_SESSION_TIMEOUT = C2.COAP_DEFAULT_SESSION_TIMEOUT := by decide
theorem ticksPerSecond_matches_code : Sessions.TICKS_PER_SECOND = C2.COAP_TICKS_PER_SECOND := by decide
/-- `coap_calc_timeout(session, r = 0)` of the compiled code on a default session -/
theorem ackTimeoutTicks_matches_code : Sessions.ACK_TIMEOUT_TICKS = C2.calcTimeoutDefault.getD 0 0 := by decide
theorem maxRetransmit_matches_code : Sessions.MAX_RETRANSMIT = C2.COAP_DEFAULT_MAX_RETRANSMIT := by decide
theorem nstart_matches_code : Sessions.NSTART = C2.COAP_DEFAULT_NSTART := by decide
theorem protoUdp_matches_code : Sessions.COAP_PROTO_UDP = C2.COAP_PROTO_UDP := by decide
theorem protoTcp_matches_code : Sessions.COAP_PROTO_TCP = C2.COAP_PROTO_TCP := by decide

/-- `COAP_PROTO_RELIABLE(p)` is `p == TCP || p == TLS || p == WS || p == WSS`; the model tests `p ≥ COAP_PROTO_TCP`:
the two agree on every value of the enum because the reliable protocols are exactly the values from TCP up -/
theorem protoReliable_matches_code :
    ∀ p, p ≤ C2.COAP_PROTO_WSS →
      (decide (p ≥ Sessions.COAP_PROTO_TCP) =
        (p == C2.COAP_PROTO_TCP || p == C2.COAP_PROTO_TLS || p == C2.COAP_PROTO_WS || p == C2.COAP_PROTO_WSS)) := by
  decide

/-- the header part of the two-part stream request fits `session->read_header` -/
theorem partHdr_fits_matches_code : Sessions.PART_HDR ≤ C2.sizeofReadHeader := by decide

end Coap.C12
