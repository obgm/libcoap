import CoapVerif.Model.Duplicate
import CoapVerif.Generated.Consts2
/-
C04 / T1 — the option filter consulted by coap_pdu_duplicate_lkd (Model/Duplicate.lean `filterSet`):
slot counts COAP_OPT_FILTER_LONG / _SHORT and the `is_long_option` threshold EVALUATED over 0..65535; C04 shares
Model/Build.lean with C01, whose numerals are tied in Props/C01Consts.lean (the editing functions are re-stated here).
-/
namespace Coap.C04
open Coap Coap.M Coap.Generated

/-- `coap_option_filter_set`: for every filter and number.  `is_long_option` is a threshold test
(`optFilterLongMonotone = 1`, all 65536 numbers evaluated) with least long number `optFilterLongThreshold` -/
theorem filterSet_matches_code (f : List Nat) (n : Nat) :
    C2.optFilterLongMonotone = 1 ∧
    filterSet f n =
      if f.contains n then (1, f)
      else if n ≥ C2.optFilterLongThreshold then
        (if (f.filter fun x => decide (x ≥ C2.optFilterLongThreshold)).length < C2.COAP_OPT_FILTER_LONG then (1, f ++ [n]) else (0, f))
      else
        (if (f.filter fun x => decide (x < C2.optFilterLongThreshold)).length < C2.COAP_OPT_FILTER_SHORT then (1, f ++ [n]) else (0, f)) := by
  refine ⟨rfl, ?_⟩
  have ht : C2.optFilterLongThreshold = 256 := rfl
  have h1 : (fun x => decide (x ≥ C2.optFilterLongThreshold)) = (fun x : Nat => decide (x > 255)) := by
    funext x; rw [ht]; simp only [ge_iff_le, gt_iff_lt]; congr 1
  have h2 : (fun x => decide (x < C2.optFilterLongThreshold)) = (fun x : Nat => decide (x ≤ 255)) := by
    funext x; rw [ht]; congr 1; exact propext Nat.lt_succ_iff
  rw [h1, h2]
  unfold filterSet
  by_cases hn : n > 255
  · have : n ≥ C2.optFilterLongThreshold := hn
    simp only [hn, this, if_true]; rfl
  · have : ¬ n ≥ C2.optFilterLongThreshold := hn
    simp only [hn, this, if_false]; rfl

/-- `coap_update_token` / `coap_add_token` bias selection used by the editing paths -/
theorem tokBias_matches_code (len : Nat) :
    tokBias len =
      if len < C2.COAP_TOKEN_EXT_1B_BIAS then some 0 else if len < C2.COAP_TOKEN_EXT_2B_BIAS then some 1
      else if len ≤ C2.COAP_TOKEN_EXT_MAX then some 2 else none := rfl

/-- `coap_opt_encode_size` as used by coap_insert_option / coap_update_option / coap_remove_option to size the move -/
theorem optEncodeSize_matches_code (delta length : Nat) :
    optEncodeSize delta length =
      1 + (if delta ≥ C2.optDeltaExt1 then (if delta < C2.optDeltaExt2 then 1 else 2) else 0)
        + (if length ≥ C2.optLenExt1 then (if length < C2.optLenExt2 then 1 else 2) else 0) + length := rfl

/-- the delta thresholds `13` / `269` in the in-place delta rewrites of `removeOption` / `insertOption`, the `% 65536`
of `uint16_t max_opt -= delta`, the `data.length > 65804` refusal of `updateOption` -/
theorem edit_numerals_match_code :
    (13 : Nat) = C2.optDeltaExt1 ∧ (269 : Nat) = C2.optDeltaExt2 ∧ (65536 : Nat) = C2.maxOptModulus ∧
    (65804 : Nat) = C2.COAP_TOKEN_EXT_MAX := by decide

end Coap.C04
