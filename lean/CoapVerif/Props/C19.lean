import CoapVerif.Lemmas.TlsGate
import CoapVerif.Lemmas.TlsLedger
import CoapVerif.Lemmas.TlsOrder
import CoapVerif.Lemmas.TlsNack
import CoapVerif.Lemmas.PskSelect
import CoapVerif.Spec.TlsCreds
/-
C19 — (D)TLS sessions exchange application data only after an authenticated handshake.

  M = Coap.TlsGate (CoapVerif/Model/TlsGate.lean): libcoap's DTLS and TLS session gating with GnuTLS as an oracle whose answers
      are part of every event.  `Sess.run` = a whole history of a session: ANY list of events (application sends, datagram
      arrivals, DTLS timer expiries, CoAP retransmission timer expiries, disconnects, release, reclamation), each with ANY
      list of oracle answers.  The trace theorems quantify over all of them (induction over the history, invariant
      `Inv` closed under every move M makes: Lemmas/TlsGate.lean, Lemmas/TlsMoves.lean); `Out.hsOkMark` marks the point where the oracle
      reported a completed handshake (emitted by `doHandshake` on `HsRes.ok` and nowhere else).
  ORACLE ASSUMPTION (trusted): GnuTLS reports a completed handshake only when both sides accepted the credentials.
  SPEC DECISIONS D19a–c, g: head of Model/TlsGate.lean; D19d, e: head of Spec/TlsCreds.lean.
-/
namespace Coap.C19
open Coap.TlsGate Coap.TlsGate.Ctx

/-- a DTLS or TLS session (`Proto.dtls`, `Proto.tls`: anything but plain UDP) on which the oracle has not reported
success and which is not established -/
structure Unauth (s : Sess) : Prop where
  est : s.est = false
  st : s.state ≠ .established
  proto : s.proto ≠ .udp

theorem unauth_sessOk {s : Sess} (h : Unauth s) : SessOk ⟨true, false⟩ s :=
  ⟨rfl, by simp [h.est], fun hs => absurd hs h.st, h.proto⟩

/-- the gate over a whole life: `out0` = what the creating call emitted, `s` the session it left -/
theorem gated {out0 : List Out} {s : Sess} (h0 : SessOk ((⟨true, false⟩ : Mon).run out0) s) (evs : List (Ev × List Orc))
    (pre post : List Out) (o : Out) (htr : out0 ++ (s.run evs).2 = pre ++ o :: post) :
    (o.needsHs = true → Out.hsOkMark ∈ pre) ∧ o.isClear = false := by
  have hk := (run_sessOk evs h0).ok
  rw [← Mon.run_append, htr] at hk
  exact accepted_split pre post o hk

/-! ### the property, over ALL histories -/

/-- No request is delivered to a server handler and no response to a client handler unless the TLS library reported a
completed handshake EARLIER on that session: in every history of a session that starts unauthenticated, every handler
call in the trace is preceded by the oracle's success. -/
theorem no_handler_before_hsOk {s : Sess} (h : Unauth s) (evs : List (Ev × List Orc)) (pre post : List Out) (o : Out)
    (htr : (s.run evs).2 = pre ++ o :: post) (ho : o.isHandler = true) : Out.hsOkMark ∈ pre :=
  (gated (out0 := []) (unauth_sessOk h) evs pre post o htr).1 (by cases o <;> first | rfl | cases ho)

/-- Nothing the application queued — nothing at all — is written for the session before the handshake completed: every
PDU written in any history of an unauthenticated session is preceded by the oracle's success … -/
theorem nothing_queued_written_before_established {s : Sess} (h : Unauth s) (evs : List (Ev × List Orc))
    (pre post : List Out) (tls : Bool) (v : View) (sn : Option Nat)
    (htr : (s.run evs).2 = pre ++ Out.tx tls v sn cnt :: post) : Out.hsOkMark ∈ pre :=
  (gated (out0 := []) (unauth_sessOk h) evs pre post _ htr).1 rfl

/-- … and every PDU of a DTLS session is written through the TLS layer (coap_dtls_send), never by the plain datagram
write: nothing goes out in clear, in any history. -/
theorem no_cleartext_on_dtls_session {s : Sess} (h : Unauth s) (evs : List (Ev × List Orc)) :
    ∀ o ∈ (s.run evs).2, ∀ v sn cnt, o ≠ Out.tx false v sn cnt := by
  intro o ho v sn cnt heq
  obtain ⟨pre, post, htr⟩ := List.append_of_mem ho
  have := (gated (out0 := []) (unauth_sessOk h) evs pre post o htr).2
  subst heq
  cases this

/-- With credentials that do not match the oracle never reports success (oracle assumption); then the session never
becomes established: a session that IS established at the end of a history has the oracle's success in its trace. -/
theorem failure_never_establishes {s : Sess} (h : Unauth s) (evs : List (Ev × List Orc))
    (hst : (s.run evs).1.state = .established) : Out.hsOkMark ∈ (s.run evs).2 :=
  mark_of_seen _ ((run_sessOk evs (unauth_sessOk h)).st hst)

/-- the same for GnuTLS' own flag -/
theorem est_flag_only_after_hsOk {s : Sess} (h : Unauth s) (evs : List (Ev × List Orc))
    (he : (s.run evs).1.est = true) : Out.hsOkMark ∈ (s.run evs).2 :=
  mark_of_seen _ ((run_sessOk evs (unauth_sessOk h)).est he)

theorem both_fresh_ctx (s : Sess) (orc : List Orc) (hp : s.proto ≠ .udp := by simp) (he : s.est = false := by rfl)
    (hst : s.state ≠ .established := by simp) (h1 : s.inflight = [] := by rfl) (h2 : s.delayq = [] := by rfl)
    (h3 : s.lgCrcv = [] := by rfl) :
    Both ⟨true, false⟩ (fun _ => 0) false false 0 { s := s, orc := orc } :=
  ⟨⟨rfl, by simp [he], by simp [hst], by simp, hp⟩,
   Or.inr ⟨h1, by simp [h2], by simp [h2], by simp [h3], by simp [h3], by simp, by simp, by simp, by simp, by simp⟩⟩

theorem newClient_both (orc : List Orc) (bm : Bool) : Both ⟨true, false⟩ (fun _ => 0) false false 0 (newClientCtx orc bm) :=
  both_mv mv_dtlsEstablishClient (both_fresh_ctx _ orc)

theorem endpoint_both (orc : List Orc) : Both ⟨true, false⟩ (fun _ => 0) false false 0 (endpointRxUnknownCtx orc) := by
  unfold endpointRxUnknownCtx
  exact both_mv ((Mv.emit _).trans mv_handleDgramForProto)
    (both_fresh_ctx _ orc)

theorem newClientTls_both (now : Bool) (orc : List Orc) (bm : Bool) :
    Both ⟨true, false⟩ (fun _ => 0) false false 0 (newClientTlsCtx now orc bm) :=
  have h0 := both_fresh_ctx { proto := .tls, typ := .client, blockMode := bm } orc
  ite_ind (fun _ => both_mv mv_tlsEstablish h0) fun _ =>
    both_tame h0 (tame_upd _ (hE := fun e => by cases e) (hN := fun e => by cases e))

theorem accept_both (orc : List Orc) : Both ⟨true, false⟩ (fun _ => 0) false false 0 (acceptCtx orc) :=
  both_mv (((Mv.emit _).trans (Mv.emit _)).trans mv_tlsEstablish) (both_fresh_ctx _ orc)

/-- The sessions histories start from are unauthenticated unless the oracle says otherwise in the creating call: the
client session made by coap_new_client_session_psk2 … -/
theorem newClient_sessOk (orc : List Orc) (bm : Bool := false) :
    SessOk ((⟨true, false⟩ : Mon).run (newClient orc bm).2) (newClient orc bm).1 :=
  sessOk_of_inv (newClient_both orc bm).inv

/-- … and the server session made for a ClientHello. -/
theorem endpoint_sessOk (orc : List Orc) :
    SessOk ((⟨true, false⟩ : Mon).run (endpointRxUnknownCtx orc).out) (endpointRxUnknownCtx orc).s :=
  sessOk_of_inv (endpoint_both orc).inv

/-- whole life of a client session, from coap_new_client_session_psk2 on (context with or without
COAP_BLOCK_USE_LIBCOAP: `bm`): no handler call, no PDU written before the oracle's success; nothing in clear -/
theorem client_life_gated (orc0 : List Orc) (evs : List (Ev × List Orc)) (pre post : List Out) (o : Out) (bm : Bool := false)
    (htr : (newClient orc0 bm).2 ++ ((newClient orc0 bm).1.run evs).2 = pre ++ o :: post) (ho : o.needsHs = true) :
    Out.hsOkMark ∈ pre ∧ o.isClear = false :=
  (gated (newClient_sessOk orc0 bm) evs pre post o htr).imp (· ho) id

/-- whole life of a server session, from the ClientHello that created it on -/
theorem server_life_gated (orc0 : List Orc) (evs : List (Ev × List Orc)) (pre post : List Out) (o : Out)
    (htr : (endpointRxUnknownCtx orc0).out ++ ((endpointRxUnknownCtx orc0).s.run evs).2 = pre ++ o :: post)
    (ho : o.needsHs = true) : Out.hsOkMark ∈ pre ∧ o.isClear = false :=
  (gated (endpoint_sessOk orc0) evs pre post o htr).imp (· ho) id

/-- the mark is the oracle's word: `doHandshake` emits it exactly when `gnutls_handshake` answered success -/
theorem mark_iff_oracle_ok (c : Ctx) :
    c.doHandshake.out = c.popHs.out ++ (if c.popHs.hsR = .ok then [Out.hsOkMark] else
      if c.popHs.hsR = .nocert ∨ c.popHs.hsR = .decrypt ∨ ((c.popHs.hsR = .certerr ∨ c.popHs.hsR = .cipher) ∧ c.popHs.s.sentAlert = false)
      then [Out.alert] else []) := by
  unfold Ctx.doHandshake
  simp only
  cases h : c.popHs.hsR <;> simp [Ctx.emit, Ctx.upd, Ctx.setRet] <;> split <;> simp_all

/-! ### cleartext CoAP at a DTLS endpoint -/

/-- A cleartext CoAP datagram (first byte 0x40..0x7f: version 1) from a peer without a session does not get past the
ClientHello pre-filter of coap_endpoint_get_session: no session, no output, no handler — whatever the oracle would say. -/
theorem cleartext_coap_at_dtls_endpoint_dropped (b : List Nat) (orc : List Orc) (h0 : 64 ≤ b.getD 0 0) :
    endpointRxUnknown (classify b) orc = (none, []) := by
  have hk : classify b ≠ .hello := by
    unfold classify
    split
    · exact fun e => by cases e
    · split
      · exact fun e => by cases e
      · split
        · exact fun e => by cases e
        · rename_i h1 h2
          -- a ClientHello record starts with content type 22
          exact absurd (Or.inl (by omega)) h2
  unfold endpointRxUnknown prefilterCreates
  cases hc : classify b <;> first | rfl | exact absurd hc hk

/-- From a peer WITH a session the bytes go to the TLS library and nowhere else (coap_handle_dgram_for_proto): a
session without a TLS object ignores the datagram altogether … -/
theorem dgram_without_tls_ignored (c : Ctx) (hp : c.s.proto = .dtls) (ht : c.s.tls = false) (hy : c.s.typ ≠ .hello) :
    c.handleDgramForProto = c := by
  unfold Ctx.handleDgramForProto
  simp [hp, ht, hy]

/-! ### the delay queue: failure and success (one step, exact) -/

/-- The failure step, exactly, for EVERY protocol of M (`Proto.dtls` and `Proto.tls`); over whole histories:
`queued_con_one_nack_on_failure`.  Whenever coap_session_disconnected_lkd runs for a reason other than an ICMP error
(handshake failure, DTLS retransmissions exhausted, alert, TCP connection closed by the peer, application disconnect) on a
session with nothing in flight — before establishment nothing is — it NACKs each Confirmable of the delay queue once, in
queue order.  The only other NACK that names a message — the request of the first lg_crcv entry, block mode — is raised only
when the delay queue held no Confirmable, so a queued Confirmable that also has an lg_crcv entry (an Observe registration)
is never reported twice.  Then come the TCP / session events and the close; the delay queue and the lg_crcv list are empty
afterwards and nothing is in flight: the messages are gone. -/
theorem queued_con_one_nack_on_failure_partial (c : Ctx) (r : Nack) (hr : r ≠ .icmp) (hi : c.s.inflight = []) :
    ∃ rest, (c.disconnected r).out = c.out ++ ((c.s.delayq.filter fun q : QMsg => q.con).map (nackOf r) ++ rest) ∧
      (∀ o ∈ rest, ∀ r' t sn, o = Out.nack r' (some t) sn →
        (c.s.delayq.filter fun q : QMsg => q.con) = [] ∧ ∃ g t', c.s.lgCrcv = g :: t' ∧ o = nackOf r g) ∧
      (c.disconnected r).s.delayq = [] ∧ (c.disconnected r).s.inflight = [] ∧ (c.disconnected r).s.lgCrcv = [] := by
  -- what follows `discCore` (TCP / session events, the close) is inside the TLS layer: silent outputs, the queues stay as they are
  have t := ((disconnected_cases r c).resolve_left fun e => hr e.1).2
  obtain ⟨l, hl, hsil, _⟩ := t.out
  have hF : c.discFirst r = [] := by simp [Ctx.discFirst, hi]
  have hD : c.discDq r = (c.s.delayq.filter fun q : QMsg => q.con).map (nackOf r) := by simp [Ctx.discDq, hr]
  refine ⟨c.discLg r ++ (if (c.discFirst r ++ c.discDq r ++ c.discLg r).isEmpty then [.nack r none none] else []) ++ l,
    ?_, ?_, t.dq, t.infl, t.lg⟩
  · rw [hl]; simp [discCore, Ctx.upd, hi, Ctx.discOuts, hF, hD]
  · intro o ho r' t' sn heq
    rcases List.mem_append.mp ho with ho | ho
    · rcases List.mem_append.mp ho with ho | ho
      · obtain ⟨he, g, tl, hg, e⟩ := mem_discLg ho
        rw [hF, hD, List.nil_append, List.map_eq_nil_iff] at he
        exact ⟨he, g, tl, hg, e⟩
      · split at ho
        · simp at ho; subst ho; cases heq
        · cases ho
    · subst heq; cases hsil _ ho

/-- does this output report the message with ghost serial number `sn` to the application? -/
def names (sn : Nat) : Out → Bool
  | .nack _ (some _) (some k) => k == sn
  | _ => false

/-- "each queued Confirmable request is reported by EXACTLY ONE NACK" at the failure step, as a count: with distinct
messages in the delay queue (ghost serial numbers; `appSend`/`appSendL` hand out fresh ones), the outputs
coap_session_disconnected_lkd adds contain exactly one NACK naming each queued Confirmable — whether or not the request
also has an lg_crcv entry (block mode: Observe, Non-confirmable, reliable transport) -/
theorem queued_con_exactly_one_nack_on_failure (c : Ctx) (r : Nack) (hr : r ≠ .icmp) (hi : c.s.inflight = [])
    (hnd : (c.s.delayq.map (·.sn)).Nodup) (q : QMsg) (hq : q ∈ c.s.delayq) (hc : q.con = true) :
    ∃ new, (c.disconnected r).out = c.out ++ new ∧ new.countP (names q.sn) = 1 := by
  obtain ⟨rest, h1, h2, _⟩ := queued_con_one_nack_on_failure_partial c r hr hi
  refine ⟨_, h1, ?_⟩
  have hqf : q ∈ c.s.delayq.filter fun q : QMsg => q.con := by simp [hq, hc]
  have hrest : rest.countP (names q.sn) = 0 := by
    rw [List.countP_eq_zero]
    intro o ho hn
    cases o with
    | nack r' t sn =>
      cases t with
      | none => simp [names] at hn
      | some t =>
        have := (h2 _ ho r' t sn rfl).1
        rw [this] at hqf; simp at hqf
    | _ => simp [names] at hn
  have hndf : ((c.s.delayq.filter fun q : QMsg => q.con).map (·.sn)).Nodup :=
    List.Nodup.sublist (List.Sublist.map _ List.filter_sublist) hnd
  have hdq : ((c.s.delayq.filter fun q : QMsg => q.con).map (nackOf r)).countP (names q.sn) = 1 := by
    rw [List.countP_map]
    have : (names q.sn ∘ nackOf r) = fun m : QMsg => m.sn == q.sn := by
      funext m; simp [names, nackOf]
    rw [this]
    exact countP_sn_one _ hndf q hqf
  rw [List.countP_append, hdq, hrest]

/-- the same at release, for every protocol: coap_session_free -> coap_session_mfree NACKs every Confirmable still in
the delay queue once (reason TLS failure on a DTLS session, NOT_DELIVERABLE otherwise), after deleting the lg_crcv
entries silently and closing the TLS object, and empties the queue -/
theorem queued_con_one_nack_on_release_any (c : Ctx) :
    ∃ l, c.sessionFree.out = c.out ++ (l ++ (c.s.delayq.filter fun q : QMsg => q.con).map
        (nackOf (if c.s.proto = .dtls then .tls else .undeliv))) ∧
      (∀ o ∈ l, o = Out.bye ∨ o = Out.ev .closed) ∧ c.sessionFree.s.delayq = [] ∧ c.sessionFree.s.freed = true ∧
      c.sessionFree.s.lgCrcv = [] := by
  have t := tame_sessionClose (c.upd fun s => { s with lgCrcv := [] })
  obtain ⟨l, h1, h2⟩ := sessionClose_outs (c.upd fun s => { s with lgCrcv := [] })
  refine ⟨l, ?_, h2, rfl, rfl, t.lg⟩
  show (c.upd fun s => { s with lgCrcv := [] }).sessionClose.out ++ _ = _
  rw [h1, t.dq, t.proto, List.append_assoc]
  rfl

theorem queued_con_one_nack_on_release (c : Ctx) (hp : c.s.proto = .dtls) :
    ∃ l, c.sessionFree.out = c.out ++ (l ++ (c.s.delayq.filter fun q : QMsg => q.con).map (nackOf .tls)) ∧
      (∀ o ∈ l, o = Out.bye ∨ o = Out.ev .closed) ∧ c.sessionFree.s.delayq = [] ∧ c.sessionFree.s.freed = true ∧
      c.sessionFree.s.lgCrcv = [] := by
  simpa [hp] using queued_con_one_nack_on_release_any c

theorem tls_queued_con_one_nack_on_release (c : Ctx) (hp : c.s.proto = .tls) :
    ∃ l, c.sessionFree.out = c.out ++ (l ++ (c.s.delayq.filter fun q : QMsg => q.con).map (nackOf .undeliv)) ∧
      (∀ o ∈ l, o = Out.bye ∨ o = Out.ev .closed) ∧ c.sessionFree.s.delayq = [] ∧ c.sessionFree.s.freed = true ∧
      c.sessionFree.s.lgCrcv = [] := by
  simpa [hp] using queued_con_one_nack_on_release_any c

/-- While the session is not established the gate holds everything back: coap_send writes nothing, NACKs nothing and
appends the message to the delay queue (submission order).  `hm`: a message id already waiting there is refused
(`sendInternal_pre`). -/
theorem send_before_established_is_held (c : Ctx) (con : Bool) (code mid : Nat) (tok : String)
    (hs : c.s.state ≠ .established) (hc : c.s.typ = .client) (hp : c.s.proto = .dtls)
    (hm : c.s.delayq.any (·.mid = mid) = false) :
    (c.appSend con code mid tok).out = c.out ∧
      (c.appSend con code mid tok).s.delayq = c.s.delayq ++ [{ sn := c.s.next, con := con, code := code, mid := mid, tok := tok }] := by
  unfold Ctx.appSend Ctx.sendInternal Ctx.sendPdu Ctx.delayPdu
  simp [Ctx.upd, Ctx.setRet, hs, hc, hp, hm, DELAYED]

/-- the same with COAP_BLOCK_USE_LIBCOAP (`appSendL`): held back, nothing written, nothing NACKed; a request that needs
large-receive / observe tracking (Non-confirmable, or Observe option) ALSO gets an lg_crcv entry, at the head of the list —
the very situation in which `queued_con_exactly_one_nack_on_failure` matters -/
theorem send_before_established_is_held_block_mode (c : Ctx) (con obs : Bool) (code mid : Nat) (tok : String)
    (hs : c.s.state ≠ .established) (hc : c.s.typ = .client) (hp : c.s.proto = .dtls) (hb : c.s.blockMode = true)
    (hm : c.s.delayq.any (·.mid = mid) = false) :
    (c.appSendL con obs code mid tok).out = c.out ∧
      (c.appSendL con obs code mid tok).s.delayq = c.s.delayq ++ [{ sn := c.s.next, con := con, code := code, mid := mid, tok := tok }] ∧
      (c.appSendL con obs code mid tok).s.lgCrcv =
        (if !con || obs then { sn := c.s.next, con := con, code := code, mid := mid, tok := tok } :: eraseTok tok c.s.lgCrcv
         else c.s.lgCrcv) := by
  unfold Ctx.appSendL Ctx.sendLkdTail Ctx.needLgCrcv Ctx.sendInternal Ctx.sendPdu Ctx.delayPdu
  cases con <;> cases obs <;> simp [Ctx.upd, Ctx.setRet, hs, hc, hp, hb, hm, DELAYED]

theorem appSendL_no_block_mode (c : Ctx) (con obs : Bool) (code mid : Nat) (tok : String) (hb : c.s.blockMode = false) :
    c.appSendL con obs code mid tok = c.appSend con code mid tok := by
  unfold Ctx.appSendL Ctx.appSend Ctx.sendLkdTail
  simp [Ctx.upd, hb]

/-- which messages one pass of coap_session_connected writes: everything up to (not including) the first Confirmable
that finds another Confirmable active (NSTART = 1) -/
def sentPrefix : Nat → List QMsg → List QMsg
  | _, [] => []
  | ca, m :: t => if m.con then (if ca ≥ NSTART then [] else m :: sentPrefix (ca + 1) t) else m :: sentPrefix ca t

theorem sentPrefix_isPrefix (ca : Nat) (q : List QMsg) : sentPrefix ca q <+: q := by
  induction q generalizing ca with
  | nil => simp [sentPrefix]
  | cons m t ih =>
    unfold sentPrefix
    split
    · split
      · exact List.nil_prefix
      · exact List.cons_prefix_cons.mpr ⟨rfl, ih _⟩
    · exact List.cons_prefix_cons.mpr ⟨rfl, ih _⟩

theorem sentPrefix_all_non (q : List QMsg) (h : ∀ m ∈ q, m.con = false) (ca : Nat) : sentPrefix ca q = q := by
  induction q with
  | nil => rfl
  | cons m t ih =>
    have hm := h m (by simp)
    simp [sentPrefix, hm, ih fun x hx => h x (by simp [hx])]

/-- "the TLS library accepts the writes": with a message to write there is an answer, it is `snd ok`, and the rest accepts too -/
theorem accepting_head {orc : List Orc} (ho : ∀ n, orc.drop n = [] ∨ ∃ t, orc.drop n = Orc.snd .ok :: t) {k : Nat}
    (hlen : k + 1 ≤ orc.length) :
    ∃ t, orc = Orc.snd .ok :: t ∧ (∀ n, t.drop n = [] ∨ ∃ t', t.drop n = Orc.snd .ok :: t') ∧ k ≤ t.length := by
  rcases ho 0 with h | ⟨t, h⟩
  · rw [List.drop_zero] at h; rw [h] at hlen; cases hlen
  · rw [List.drop_zero] at h
    refine ⟨t, h, fun n => ?_, ?_⟩
    · have := ho (n + 1); rwa [h, List.drop_succ_cons] at this
    · rw [h] at hlen; exact Nat.le_of_succ_le_succ hlen

/-- which messages one pass of coap_session_connected writes on a DTLS (`rel = false`: `sentPrefix`) or a TLS session
(`rel = true`: a reliable transport knows no NSTART, the whole queue goes out) -/
def sentPrefixB (rel : Bool) : Nat → List QMsg → List QMsg
  | _, [] => []
  | ca, m :: t => if m.con && !rel then (if ca ≥ NSTART then [] else m :: sentPrefixB rel (ca + 1) t) else m :: sentPrefixB rel ca t

theorem sentPrefixB_dtls (ca : Nat) (q : List QMsg) : sentPrefixB false ca q = sentPrefix ca q := by
  induction q generalizing ca with
  | nil => rfl
  | cons m t ih => simp [sentPrefixB, sentPrefix, ih]

theorem sentPrefixB_tls (ca : Nat) (q : List QMsg) : sentPrefixB true ca q = q := by
  induction q with
  | nil => rfl
  | cons m t ih => simp [sentPrefixB, ih]

/-- the PDU as the transport logs it: a CoAP-over-TCP message has no type and no message id -/
def wireView (rel : Bool) (m : QMsg) : View := if rel then m.strmView else m.view false

theorem flushOne_accepted (rel : Bool) (c : Ctx) (q : QMsg) (dq : List QMsg) (t : List Orc)
    (hp : c.s.proto = if rel then .tls else .dtls) (he : c.s.est = true) (hs : c.s.state = .established) (ht : c.orc = Orc.snd .ok :: t) :
    (c.flushOne q dq).out = c.out ++ [Out.tx true (wireView rel q) (some q.sn) q.cnt] ∧ (c.flushOne q dq).ret = 1 ∧
    (c.flushOne q dq).orc = t ∧
    (c.flushOne q dq).s = { c.s with delayq := dq, dtlsEvent := none,
                                     conActive := if q.con && !rel then c.s.conActive + 1 else c.s.conActive,
                                     inflight := if q.con && !rel then c.s.inflight ++ [q] else c.s.inflight } := by
  cases rel
  · unfold Ctx.flushOne Ctx.sessionSendPdu Ctx.dtlsSend Ctx.dtlsSendCore Ctx.sndResult Ctx.popSnd Ctx.sendTail
    simp [Ctx.upd, Ctx.emit, Ctx.setRet, hp, he, hs, ht, QMsg.snOf, wireView]
  · unfold Ctx.flushOne Ctx.sessionSendPdu Ctx.tlsWrite Ctx.tlsRecordSend Ctx.popSnd Ctx.tlsTail
    simp [Ctx.upd, Ctx.emit, Ctx.setRet, hp, he, hs, ht, QMsg.snOf, wireView]

theorem flushLoop_accepting (rel : Bool) (fuel : Nat) (c : Ctx) (hp : c.s.proto = if rel then .tls else .dtls)
    (he : c.s.est = true) (hs : c.s.state = .established)
    (ho : ∀ n, c.orc.drop n = [] ∨ ∃ t, c.orc.drop n = Orc.snd .ok :: t) (hlen : c.s.delayq.length ≤ c.orc.length) :
    ((c.s.dtlsEvent = none → (Ctx.flushLoop fuel c).s.dtlsEvent = none) ∧ (Ctx.flushLoop fuel c).s.appRef = c.s.appRef ∧
      (Ctx.flushLoop fuel c).s.typ = c.s.typ ∧ (Ctx.flushLoop fuel c).s.freed = c.s.freed ∧
      (Ctx.flushLoop fuel c).s.state = .established) ∧
    (c.s.delayq.length < fuel →
      (Ctx.flushLoop fuel c).out = c.out ++ (sentPrefixB rel c.s.conActive c.s.delayq).map (fun m => Out.tx true (wireView rel m) (some m.sn) m.cnt) ∧
      (Ctx.flushLoop fuel c).s.delayq = c.s.delayq.drop (sentPrefixB rel c.s.conActive c.s.delayq).length) := by
  induction fuel generalizing c with
  | zero => exact ⟨⟨id, rfl, rfl, rfl, hs⟩, fun hf => absurd hf (Nat.not_lt_zero _)⟩
  | succ n ih =>
    unfold Ctx.flushLoop
    cases hq : c.s.delayq with
    | nil => exact ⟨⟨id, rfl, rfl, rfl, hs⟩, fun _ => by simp [sentPrefixB, hq]⟩
    | cons q rest =>
      simp only [hs, ne_eq, not_true_eq_false, if_false]
      have hpt : (c.s.proto = .tls) ↔ rel = true := by rw [hp]; cases rel <;> simp
      by_cases hblock : (q.con && decide (c.s.proto ≠ Proto.tls) && decide (c.s.conActive ≥ NSTART)) = true
      · simp only [hblock, if_true]
        have hb : (q.con = true ∧ rel = false) ∧ c.s.conActive ≥ NSTART := by simpa [hpt] using hblock
        exact ⟨⟨id, trivial, trivial, trivial, hs⟩, fun _ => by simp [sentPrefixB, hb.1.1, hb.1.2, hb.2, hq]⟩
      · simp only [hblock]
        obtain ⟨t, ht, ho', hlen'⟩ := accepting_head ho (k := rest.length) (by rw [hq] at hlen; exact hlen)
        obtain ⟨o1, o3, o4, oS⟩ := flushOne_accepted rel c q rest t hp he hs ht
        have hps : (c.flushOne q rest).s.proto = c.s.proto := by rw [oS]
        have hlt : ¬ ((c.flushOne q rest).ret < 0) := by rw [o3]; omega
        have hle : ¬ ((c.flushOne q rest).ret ≤ 0) := by rw [o3]; omega
        simp only [hlt, hle, if_false, Bool.false_eq_true, ite_self]
        have hrec := ih (c.flushOne q rest) (by rw [hps]; exact hp) (by rw [oS]; exact he) (by rw [oS]; exact hs)
          (by rw [o4]; exact ho') (by rw [oS, o4]; exact hlen')
        refine ⟨?_, fun hf => ?_⟩
        · rw [oS] at hrec; exact ⟨fun _ => hrec.1.1 rfl, hrec.1.2⟩
        · have h2 := hrec.2 (by rw [oS]; simp only [List.length_cons] at hf; exact Nat.lt_of_succ_lt_succ hf)
          rw [h2.1, h2.2, o1, oS]
          have hnb : ¬((q.con = true ∧ rel = false) ∧ c.s.conActive ≥ NSTART) := fun hb => hblock (by simpa [hpt] using hb)
          by_cases hc : (q.con && !rel) = true
          · have : ¬ c.s.conActive ≥ NSTART := fun h => hnb ⟨by simpa using hc, h⟩
            simp [sentPrefixB, hc, this, List.append_assoc]
          · simp [sentPrefixB, hc, List.append_assoc]

/-- One pass of coap_session_connected, exactly; over whole histories: `queued_first_flush_in_order_once_on_success`,
`queued_delivered_in_order_once_on_success`.  On an established DTLS session whose TLS library accepts the writes (answers
`snd ok` to each) the pass writes — through coap_dtls_send, `tx true` — exactly the prefix `sentPrefix` of the delay queue,
in queue order, each message once, and leaves exactly the rest queued (the rest goes out by the same function when the
active Confirmable is acknowledged: `ackFlush`).  With `send_before_established_is_held` (queue order = submission order)
this is "in order, exactly once". -/
theorem queued_delivered_in_order_once_on_success_partial (fuel : Nat) (c : Ctx) (hp : c.s.proto = .dtls)
    (he : c.s.est = true) (hs : c.s.state = .established) (hd : c.s.dtlsEvent = none)
    (ho : ∀ n, c.orc.drop n = [] ∨ ∃ t, c.orc.drop n = Orc.snd .ok :: t) (hlen : c.s.delayq.length ≤ c.orc.length)
    (hf : c.s.delayq.length < fuel) :
    (Ctx.flushLoop fuel c).out = c.out ++ (sentPrefix c.s.conActive c.s.delayq).map (fun m => Out.tx true (m.view false) (some m.sn) m.cnt) ∧
      (Ctx.flushLoop fuel c).s.delayq = c.s.delayq.drop (sentPrefix c.s.conActive c.s.delayq).length :=
  by simpa [sentPrefixB_dtls, wireView] using (flushLoop_accepting false fuel c hp he hs ho hlen).2 hf

/-! ### TLS over TCP (`Proto.tls`), explicitly -/

/-- the TLS client session made by coap_new_client_session_psk2 — connect() completed at once (`now`) or still in
progress — is unauthenticated unless the oracle says otherwise in the creating call … -/
theorem newClientTls_sessOk (now : Bool) (orc : List Orc) (bm : Bool := false) :
    SessOk ((⟨true, false⟩ : Mon).run (newClientTlsCtx now orc bm).out) (newClientTlsCtx now orc bm).s :=
  sessOk_of_inv (newClientTls_both now orc bm).inv

/-- … and so is the server session made for an accepted TCP connection. -/
theorem accept_sessOk (orc : List Orc) : SessOk ((⟨true, false⟩ : Mon).run (acceptCtx orc).out) (acceptCtx orc).s :=
  sessOk_of_inv (accept_both orc).inv

/-- `no_handler_before_hsOk` on a TLS session: in every history (connect completions, socket reads and writes,
application sends, disconnects, release, each with any answers of the TLS library) every handler call is preceded by the
oracle's success -/
theorem tls_no_handler_before_hsOk {s : Sess} (hp : s.proto = .tls) (he : s.est = false) (hst : s.state ≠ .established)
    (evs : List (Ev × List Orc)) (pre post : List Out) (o : Out)
    (htr : (s.run evs).2 = pre ++ o :: post) (ho : o.isHandler = true) : Out.hsOkMark ∈ pre :=
  no_handler_before_hsOk ⟨he, hst, by simp [hp]⟩ evs pre post o htr ho

/-- … and every PDU written (the CSM included) is preceded by it and goes through coap_tls_write -/
theorem tls_nothing_written_before_hsOk {s : Sess} (hp : s.proto = .tls) (he : s.est = false) (hst : s.state ≠ .established)
    (evs : List (Ev × List Orc)) (pre post : List Out) (tls : Bool) (v : View) (sn : Option Nat)
    (htr : (s.run evs).2 = pre ++ Out.tx tls v sn cnt :: post) : Out.hsOkMark ∈ pre ∧ tls = true := by
  have hu : Unauth s := ⟨he, hst, by simp [hp]⟩
  refine ⟨nothing_queued_written_before_established hu evs pre post tls v sn htr, ?_⟩
  cases tls with
  | true => rfl
  | false => exact absurd rfl (no_cleartext_on_dtls_session hu evs _ (by rw [htr]; simp) v sn cnt)

/-- whole life of a TLS client session, from coap_new_client_session_psk2 on -/
theorem tls_client_life_gated (now : Bool) (orc0 : List Orc) (evs : List (Ev × List Orc)) (pre post : List Out) (o : Out)
    (bm : Bool := false)
    (htr : (newClientTlsCtx now orc0 bm).out ++ ((newClientTlsCtx now orc0 bm).s.run evs).2 = pre ++ o :: post)
    (ho : o.needsHs = true) : Out.hsOkMark ∈ pre ∧ o.isClear = false :=
  (gated (newClientTls_sessOk now orc0 bm) evs pre post o htr).imp (· ho) id

/-- whole life of a TLS server session, from the accept on -/
theorem tls_server_life_gated (orc0 : List Orc) (evs : List (Ev × List Orc)) (pre post : List Out) (o : Out)
    (htr : (acceptCtx orc0).out ++ ((acceptCtx orc0).s.run evs).2 = pre ++ o :: post)
    (ho : o.needsHs = true) : Out.hsOkMark ∈ pre ∧ o.isClear = false :=
  (gated (accept_sessOk orc0) evs pre post o htr).imp (· ho) id

/-- `queued_con_one_nack_on_failure_partial` on a TLS session, with what is special there spelled out: the delay-queue
NACKs do NOT depend on the transport being unreliable — every request queued on a TLS session (coap_send has made it
Confirmable) is NACKed once, in order, before the TCP / session events and the close; the session is back in state
NONE, `doing_first` is cleared. -/
theorem tls_queued_con_one_nack_on_failure (c : Ctx) (hp : c.s.proto = .tls) (r : Nack) (hr : r ≠ .icmp)
    (hi : c.s.inflight = []) :
    ∃ rest, (c.disconnected r).out = c.out ++ ((c.s.delayq.filter fun q : QMsg => q.con).map (nackOf r) ++ rest) ∧
      (∀ o ∈ rest, ∀ r' t sn, o = Out.nack r' (some t) sn →
        (c.s.delayq.filter fun q : QMsg => q.con) = [] ∧ ∃ g t', c.s.lgCrcv = g :: t' ∧ o = nackOf r g) ∧
      (c.disconnected r).s.delayq = [] ∧ (c.disconnected r).s.inflight = [] ∧
      (c.disconnected r).s.state = .none ∧ (c.disconnected r).s.doingFirst = false := by
  obtain ⟨rest, h1, h2, h3, h4, _⟩ := queued_con_one_nack_on_failure_partial c r hr hi
  have hpp : (discCore c r).s.proto = .tls := hp
  have hps : (discCore c r).s.state = .none := by simp [discCore, Ctx.upd, hp]
  have a := sessionClose_state ((discCore c r).relTail c.s.state)
  have b := relTail_state_tls c.s.state (discCore c r) hpp
  refine ⟨rest, h1, h2, h3, h4, ?_, ?_⟩
  · rw [disconnected_eq c r hr, a.1, b.1, hps]
  · rw [disconnected_eq c r hr, a.2, b.2]

/-- `queued_delivered_in_order_once_on_success_partial` on a TLS session: once the peer's CSM has arrived
(coap_session_connected), with the TLS library accepting the writes, the WHOLE delay queue is written through
coap_tls_write, in queue order, each message once (no NSTART on a reliable transport), and the queue is empty. -/
theorem tls_queued_delivered_in_order_once_on_success (fuel : Nat) (c : Ctx) (hp : c.s.proto = .tls)
    (he : c.s.est = true) (hs : c.s.state = .established)
    (ho : ∀ n, c.orc.drop n = [] ∨ ∃ t, c.orc.drop n = Orc.snd .ok :: t) (hlen : c.s.delayq.length ≤ c.orc.length)
    (hf : c.s.delayq.length < fuel) :
    (Ctx.flushLoop fuel c).out = c.out ++ c.s.delayq.map (fun m => Out.tx true m.strmView (some m.sn) m.cnt) ∧
      (Ctx.flushLoop fuel c).s.delayq = [] := by
  simpa [sentPrefixB_tls, wireView] using (flushLoop_accepting true fuel c hp he hs ho hlen).2 hf

/-! ### which key is a client checked against?  (server side, `Coap.PskSelect`) -/

open Coap.PskSelect in
/-- "with a pre-shared key that differs … the session never becomes established", for a server that has served other
clients before: WHATEVER handshakes the server context has seen (any server names — cached by the first client that asks
for them —, any identities, handshakes that got as far as the key exchange or not), the key libcoap's callbacks hand the
TLS library for a ClientHello with server name `sni` and identity `id` is the key S says the server holds for them — the
one configured for that name (validate_sni_call_back) or identity (validate_id_call_back), never another name's, never the
context default in its place.  (An empty key is nobody's: `normKey`.) -/
theorem server_key_history_independent (cfg : TlsCreds.Cfg) (hist : List (String × Option String)) (sni id : String) :
    normKey (handshakeKey (toSrv cfg) (runHist (toSrv cfg) [] hist) sni id).2 = TlsCreds.serverKey cfg sni id :=
  (handshakeKey_spec cfg _ (runHist_cacheOk cfg hist [] (fun _ _ e he => by simp at he)) sni id).2

/-- S is about that key: a configuration is acceptable only if the key the server holds for the client's server name and
identity IS the client's key (so: `server_key_history_independent` + a TLS library that completes a PSK handshake only
between equal keys = no client is established against a key that is not the one configured for it) -/
theorem accepts_ok_key (cfg : TlsCreds.Cfg) (h : TlsCreds.accepts cfg = .ok) :
    TlsCreds.serverKey cfg (cfg.sni.getD "") cfg.ci = some cfg.ck := by
  have ite_ok : ∀ (p : Prop) [Decidable p], (if p then TlsCreds.Verdict.ok else TlsCreds.Verdict.fail) = .ok → p := by
    intro p _ hp; by_cases hq : p
    · exact hq
    · simp [hq] at hp
  unfold TlsCreds.accepts at h
  unfold TlsCreds.serverKey
  by_cases h0 : cfg.ck = "" ∨ cfg.ci = ""
  · simp [h0] at h
  · simp only [h0, if_false] at h
    cases hs : TlsCreds.served cfg (cfg.sni.getD "") with
    | none => simp [hs] at h
    | some hk =>
      obtain ⟨hint, dk⟩ := hk
      simp only [hs] at h ⊢
      cases hst : cfg.st with
      | none =>
        simp only [hst] at h ⊢
        obtain ⟨_, hne, heq⟩ := ite_ok _ h
        rw [if_neg hne, heq]
      | some t2 =>
        simp only [hst] at h ⊢
        cases hl : TlsCreds.lookup2 cfg.ci t2 with
        | none => simp [hl] at h
        | some k =>
          simp only [hl] at h ⊢
          obtain ⟨_, hne, heq⟩ := ite_ok _ h
          rw [if_neg hne, heq]

/-! ### the serial-number ledger: the delay queue over WHOLE histories (`Core`: Lemmas/TlsLedger.lean)

`nk j tr` = the number of NACKs in `tr` that name message `j`; the advisory COAP_NACK_ICMP_ISSUE notification is not counted
(`icmp_notification_is_extra`). -/

/-- what the ledger needs at the start of a history: nothing in flight, the delay queue in submission order with serials
already handed out, lg_crcv entries likewise, a Confirmable with an lg_crcv entry is queued (all trivially true of a new
session: everything is empty) -/
structure Ledger0 (s : Sess) : Prop where
  infl : s.inflight = []
  srt : (s.delayq.map (·.sn)).Pairwise (· < ·)
  lt : ∀ q ∈ s.delayq, q.sn < s.next
  lgl : ∀ g ∈ s.lgCrcv, g.sn < s.next
  lgc : ∀ g ∈ s.lgCrcv, g.con = true → g ∈ s.delayq

theorem ledOk_start {s : Sess} (h : Unauth s) (hl : Ledger0 s) : LedOk ⟨true, false⟩ (fun _ => 0) false 0 s :=
  ⟨unauth_sessOk h, Or.inr fun _ => ⟨hl.infl, hl.srt, hl.lt, hl.lgl, hl.lgc, by simp, by simp, by simp, by simp, by simp⟩⟩

theorem core_of_no_mark {s : Sess} (h : Unauth s) (hl : Ledger0 s) (evs : List (Ev × List Orc))
    (hnm : Out.hsOkMark ∉ (s.run evs).2) (orc : List Orc) :
    Core (fun j => 0 + nk j (s.run evs).2) false 0 { s := (s.run evs).1, orc := orc } :=
  (run_ledOk evs (ledOk_start h hl)).led.resolve_left (mt (mark_of_seen _) hnm) orc

theorem no_tx_of_no_mark {s : Sess} (h : Unauth s) (evs : List (Ev × List Orc)) (hnm : Out.hsOkMark ∉ (s.run evs).2) :
    ∀ o ∈ (s.run evs).2, ∀ tls v sn cnt, o ≠ Out.tx tls v sn cnt := by
  intro o ho tls v sn cnt heq
  subst heq
  obtain ⟨a, b, hab⟩ := List.append_of_mem ho
  exact hnm (hab ▸ List.mem_append_left _ (nothing_queued_written_before_established h evs a b tls v sn hab))

/-- THE LEDGER, over all histories in which the TLS library never reports a completed handshake (credentials that do not
match, a handshake that never finishes, a session that is abandoned or released): at the end of EVERY such history of a
session — any events, any answers of the TLS library —
  * no message at all has been reported more than once (Confirmable or not: D19g's lg_crcv report included);
  * the delay queue holds its messages in submission order (serials strictly increasing: each message once);
  * nothing that is queued has been reported; nothing is in flight (nothing was written: `nothing_queued_written_before_established`). -/
theorem ledger_before_established {s : Sess} (h : Unauth s) (hl : Ledger0 s) (evs : List (Ev × List Orc))
    (hnm : Out.hsOkMark ∉ (s.run evs).2) :
    (∀ j, nk j (s.run evs).2 ≤ 1) ∧ ((s.run evs).1.delayq.map (·.sn)).Pairwise (· < ·) ∧
      (∀ x ∈ (s.run evs).1.delayq, nk x.sn (s.run evs).2 = 0) ∧ (s.run evs).1.inflight = [] := by
  have hc := core_of_no_mark h hl evs hnm []
  exact ⟨fun j => by simpa using hc.n1 j, hc.srt, fun x hx => by simpa using hc.nq x hx, hc.infl⟩

/-- EXACTLY ONE NACK, trace level.  `pre ++ rest`: ANY history of a session that starts unauthenticated in which the TLS
library never reports a completed handshake; `q`: a Confirmable in the delay queue after `pre` while the session is live (a
handshake is under way, the session is not freed).  Whatever the events of `rest` and the answers of the TLS library: nothing
is ever written; at the end `q` is either still queued on the still-live session and unreported, or gone from the queue and
reported by exactly ONE NACK in the whole history; and once the session has failed (state NONE: handshake failure, alert,
DTLS retransmissions exhausted, connection closed, coap_session_disconnected) or was freed (released / reclaimed) it is the
second case.
Carved out (and only this): NACKs with reason COAP_NACK_ICMP_ISSUE are not counted — coap_session_disconnected_lkd(ICMP) names
the first lg_crcv entry's request and returns, the request stays queued and is reported again when the session fails
(`icmp_notification_is_extra`). -/
theorem queued_con_one_nack_on_failure {s : Sess} (h : Unauth s) (hl : Ledger0 s) (pre rest : List (Ev × List Orc)) (q : QMsg)
    (hq : q ∈ (s.run pre).1.delayq) (hc : q.con = true) (hal : (s.run pre).1.state ≠ .none)
    (hfr : (s.run pre).1.freed = false) (hnm : Out.hsOkMark ∉ (s.run (pre ++ rest)).2) :
    (∀ o ∈ (s.run (pre ++ rest)).2, ∀ tls v sn cnt, o ≠ Out.tx tls v sn cnt) ∧
    ((∃ x ∈ (s.run (pre ++ rest)).1.delayq, x.sn = q.sn ∧ x.con = true ∧ (s.run (pre ++ rest)).1.state ≠ .none ∧
        (s.run (pre ++ rest)).1.freed = false ∧ nk q.sn (s.run (pre ++ rest)).2 = 0) ∨
     ((∀ x ∈ (s.run (pre ++ rest)).1.delayq, x.sn ≠ q.sn) ∧ nk q.sn (s.run (pre ++ rest)).2 = 1)) ∧
    ((s.run (pre ++ rest)).1.state = .none ∨ (s.run (pre ++ rest)).1.freed = true →
      nk q.sn (s.run (pre ++ rest)).2 = 1) := by
  -- the third claim follows from the second: a session that failed or was freed is not in its first case
  suffices hdich : _ ∨ _ from ⟨no_tx_of_no_mark h (pre ++ rest) hnm, hdich, fun hend =>
    hdich.elim (fun ⟨_, _, _, _, e3, e4, _⟩ => hend.elim (absurd · e3) fun e => absurd (e4 ▸ e) (by decide)) And.right⟩
  rw [Sess.run_append] at hnm ⊢
  simp only [List.mem_append, not_or] at hnm
  -- the ledger of `pre`, from there on tracking `q`, carried through `rest`
  have h1 : LedOk ((⟨true, false⟩ : Mon).run (s.run pre).2) (fun j => 0 + nk j (s.run pre).2) true q.sn (s.run pre).1 :=
    ⟨(run_ledOk pre (ledOk_start h hl)).ok, Or.inr fun orc => core_track (core_of_no_mark h hl pre hnm.1 orc) q hq hc hal hfr⟩
  rcases (run_ledOk rest h1).led with hs | hcore
  · rw [← Mon.run_append] at hs
    exact absurd (mark_of_seen _ hs) (by simp [hnm.1, hnm.2])
  · have hcore := hcore []
    simp only [Nat.zero_add, ← nk_append] at hcore
    exact (hcore.trk rfl).imp (fun ⟨x, hx, e1, e2, e3, e4⟩ => ⟨x, hx, e1, e2, e3, e4, e1 ▸ hcore.nq x hx⟩) id

theorem start_of_both {c : Ctx} (hb : Both ⟨true, false⟩ (fun _ => 0) false false 0 c) (hnm : Out.hsOkMark ∉ c.out) :
    Unauth c.s ∧ Ledger0 c.s := by
  have hns := mt (mark_of_seen _) hnm
  refine ⟨⟨?_, fun hs => hns (hb.inv.st hs), hb.inv.proto⟩, ?_⟩
  · cases he : c.s.est with
    | false => rfl
    | true => exact absurd (hb.inv.est he) hns
  · rcases hb.led with hs | hc
    · exact absurd hs hns
    · exact ⟨hc.infl, hc.srt, hc.lt, hc.lgl, hc.lgc⟩

/-- the hypotheses `Unauth`, `Ledger0` of the ledger theorems hold for EVERY session as libcoap creates it, unless the TLS
library reported success inside the creating call: the DTLS client session of coap_new_client_session_psk2 … -/
theorem newClient_start (orc : List Orc) (bm : Bool) (hnm : Out.hsOkMark ∉ (newClient orc bm).2) :
    Unauth (newClient orc bm).1 ∧ Ledger0 (newClient orc bm).1 :=
  start_of_both (newClient_both orc bm) hnm

/-- … the DTLS server session made for a ClientHello (coap_read_endpoint / coap_session_new_dtls_session) … -/
theorem endpoint_start (orc : List Orc) (hnm : Out.hsOkMark ∉ (endpointRxUnknownCtx orc).out) :
    Unauth (endpointRxUnknownCtx orc).s ∧ Ledger0 (endpointRxUnknownCtx orc).s :=
  start_of_both (endpoint_both orc) hnm

/-- … the TLS client session (connect() completed at once or in progress) and the TLS server session after accept -/
theorem newClientTls_start (now : Bool) (orc : List Orc) (bm : Bool) (hnm : Out.hsOkMark ∉ (newClientTlsCtx now orc bm).out) :
    Unauth (newClientTlsCtx now orc bm).s ∧ Ledger0 (newClientTlsCtx now orc bm).s :=
  start_of_both (newClientTls_both now orc bm) hnm

theorem accept_start (orc : List Orc) (hnm : Out.hsOkMark ∉ (acceptCtx orc).out) :
    Unauth (acceptCtx orc).s ∧ Ledger0 (acceptCtx orc).s :=
  start_of_both (accept_both orc) hnm

/-- do_gnutls_handshake reports success on a session in HANDSHAKE state: the mark, then coap_session_connected flushes from
the context `E` -/
theorem hsThenConnect_ok (c : Ctx) (snds : List Orc) (horc : c.orc = .hs .ok :: snds) (hst : c.s.state = .handshake) :
    ∃ E : Ctx, c.hsThenConnect = (Ctx.flushLoop (c.s.delayq.length + 1) E).setFlag true ∧ E.orc = snds ∧
      E.out = c.out ++ [.hsOkMark] ∧ E.s = { c.s with est := true, state := .established } := by
  refine ⟨{ c with orc := snds, hsR := .ok, ret := 1, out := c.out ++ [.hsOkMark],
                   s := { c.s with est := true, state := .established } }, ?_, rfl, rfl, rfl⟩
  unfold Ctx.hsThenConnect Ctx.doHandshake Ctx.popHs Ctx.sessionConnected
  simp [horc, hst, Ctx.upd, Ctx.emit, Ctx.setRet]

theorem recvHs_ok (c : Ctx) (snds : List Orc) (horc : c.orc = .hs .ok :: snds) (hp : c.s.proto = .dtls)
    (hst : c.s.state = .handshake) (hd : c.s.dtlsEvent = none)
    (ho : ∀ n, snds.drop n = [] ∨ ∃ t, snds.drop n = Orc.snd .ok :: t) (hlen : c.s.delayq.length ≤ snds.length) :
    c.recvHs.out = c.out ++ Out.hsOkMark :: (sentPrefix c.s.conActive c.s.delayq).map (fun m => Out.tx true (m.view false) (some m.sn) m.cnt) ∧
    c.recvHs.s.delayq = c.s.delayq.drop (sentPrefix c.s.conActive c.s.delayq).length ∧
    c.recvHs.s.state = .established ∧ c.recvHs.s.appRef = c.s.appRef ∧ c.recvHs.s.typ = c.s.typ ∧
    c.recvHs.s.freed = c.s.freed := by
  obtain ⟨E, hE, e1, e2, e3⟩ := hsThenConnect_ok c snds horc hst
  obtain ⟨⟨f1, f2, f3, f4, f5⟩, p⟩ := flushLoop_accepting false (c.s.delayq.length + 1) E (by rw [e3]; exact hp) (by rw [e3]) (by rw [e3])
    (by rw [e1]; exact ho) (by rw [e1, e3]; exact hlen)
  replace f1 := f1 (by rw [e3]; exact hd)
  simp only [sentPrefixB_dtls, wireView] at p
  obtain ⟨p1, p2⟩ := p (by rw [e3]; exact Nat.lt_succ_self _)
  unfold Ctx.recvHs
  rw [hE]
  simp only [Ctx.setFlag, if_true, Ctx.receiveTail, f1]
  rw [p1, p2, f2, f3, f4, f5, e2, e3]
  simp

theorem establishing_dgram (s : Sess) (snds : List Orc) (hp : s.proto = .dtls) (hty : s.typ ≠ .hello) (htls : s.tls = true)
    (hest : s.est = false) (hst : s.state = .handshake) (hfr : s.freed = false) (hap : s.appRef = true)
    (ho : ∀ n, snds.drop n = [] ∨ ∃ t, snds.drop n = Orc.snd .ok :: t) (hlen : s.delayq.length ≤ snds.length) :
    (s.step .dgram (.hs .ok :: snds)).2 =
      Out.hsOkMark :: (sentPrefix s.conActive s.delayq).map (fun m => Out.tx true (m.view false) (some m.sn) m.cnt) ∧
    (s.step .dgram (.hs .ok :: snds)).1.delayq = s.delayq.drop (sentPrefix s.conActive s.delayq).length ∧
    (s.step .dgram (.hs .ok :: snds)).1.state = .established := by
  have hr := recvHs_ok (({ s := s, orc := .hs .ok :: snds } : Ctx).upd fun s => { s with dtlsEvent := none }) snds rfl hp hst rfl
    ho hlen
  have hstep : s.stepCtx .dgram (.hs .ok :: snds) =
      ((({ s := s, orc := .hs .ok :: snds } : Ctx).upd fun s => { s with dtlsEvent := none }).recvHs).maybeFree := by
    unfold Sess.stepCtx Ctx.handleDgramForProto Ctx.dtlsReceive
    simp [hfr, hp, hty, htls, hest, Ctx.upd]
  unfold Sess.step
  simp only [hstep]
  generalize (({ s := s, orc := .hs .ok :: snds } : Ctx).upd fun s => { s with dtlsEvent := none }).recvHs = R at hr
  obtain ⟨r1, r2, r3, r4, r5, r6⟩ := hr
  have hm : R.maybeFree = R := by
    unfold Ctx.maybeFree
    have : R.s.appRef = true := by rw [r4]; exact hap
    simp [this]
  rw [hm, r1, r2, r3]
  simp [Ctx.upd]

/-- IN ORDER, ONCE, trace level — every history up to and including the datagram that completes the handshake.  `pre`: ANY
history of a session that starts unauthenticated in which the TLS library has not reported success, ending on a DTLS session
in HANDSHAKE state that the application still holds; then the datagram arrives with which the TLS library reports the
completed handshake and accepts the writes that follow.  In the WHOLE trace nothing was written before the oracle's success;
after the mark exactly `sentPrefix` of the queue is handed to the TLS layer, in submission order, each message ONCE, and
nothing else is output; the rest stays queued, in order; nothing that was queued has been NACKed and no message at all has
been reported twice.
NOT covered here: the later passes of coap_session_connected that send the rest of the queue when the active Confirmable is
acknowledged, and retransmissions (both in `queued_delivered_in_order_once_on_success`); that every queued message is written
— false when the TLS library refuses a write: coap_session_connected stops draining (`if (bytes_written < 0) break;`), the
known finding `drain_break_strands_delayed` of C06. -/
theorem queued_first_flush_in_order_once_on_success {s : Sess} (h : Unauth s) (hl : Ledger0 s) (pre : List (Ev × List Orc))
    (hnm : Out.hsOkMark ∉ (s.run pre).2) (snds : List Orc)
    (hp : (s.run pre).1.proto = .dtls) (hty : (s.run pre).1.typ ≠ .hello) (htls : (s.run pre).1.tls = true)
    (hst : (s.run pre).1.state = .handshake) (hfr : (s.run pre).1.freed = false) (hap : (s.run pre).1.appRef = true)
    (ho : ∀ n, snds.drop n = [] ∨ ∃ t, snds.drop n = Orc.snd .ok :: t) (hlen : (s.run pre).1.delayq.length ≤ snds.length) :
    (∀ o ∈ (s.run pre).2, ∀ tls v sn cnt, o ≠ Out.tx tls v sn cnt) ∧
    ((s.run pre).1.delayq.map (·.sn)).Pairwise (· < ·) ∧
    (s.run (pre ++ [(.dgram, .hs .ok :: snds)])).2 = (s.run pre).2 ++ Out.hsOkMark ::
      (sentPrefix (s.run pre).1.conActive (s.run pre).1.delayq).map (fun m => Out.tx true (m.view false) (some m.sn) m.cnt) ∧
    (s.run (pre ++ [(.dgram, .hs .ok :: snds)])).1.delayq =
      (s.run pre).1.delayq.drop (sentPrefix (s.run pre).1.conActive (s.run pre).1.delayq).length ∧
    (s.run (pre ++ [(.dgram, .hs .ok :: snds)])).1.state = .established ∧
    (∀ j, wr j (s.run (pre ++ [(.dgram, .hs .ok :: snds)])).2 ≤ 1) ∧
    (∀ x ∈ sentPrefix (s.run pre).1.conActive (s.run pre).1.delayq, wr x.sn (s.run (pre ++ [(.dgram, .hs .ok :: snds)])).2 = 1) ∧
    (∀ j, nk j (s.run (pre ++ [(.dgram, .hs .ok :: snds)])).2 ≤ 1) ∧
    (∀ x ∈ (s.run pre).1.delayq, nk x.sn (s.run (pre ++ [(.dgram, .hs .ok :: snds)])).2 = 0) := by
  have hnotx := no_tx_of_no_mark h pre hnm
  obtain ⟨l1, l2, l3, _⟩ := ledger_before_established h hl pre hnm
  have hest : (s.run pre).1.est = false := Bool.eq_false_iff.mpr fun he => hnm (est_flag_only_after_hsOk h pre he)
  obtain ⟨g1, g2, g3⟩ := establishing_dgram (s.run pre).1 snds hp hty htls hest hst hfr hap ho hlen
  rw [Sess.run_snoc]
  simp only [g1, g2, g3]
  have hsp : ((sentPrefix (s.run pre).1.conActive (s.run pre).1.delayq).map (·.sn)).Pairwise (· < ·) :=
    List.Pairwise.sublist (List.Sublist.map _ (sentPrefix_isPrefix _ _).sublist) l2
  refine ⟨hnotx, l2, trivial, trivial, trivial, ?_⟩
  generalize sentPrefix (s.run pre).1.conActive (s.run pre).1.delayq = sp at hsp ⊢
  generalize (s.run pre).2 = tr at hnotx l1 l3 ⊢
  -- in the whole trace the writes are those of the flush, the reports those of `pre`
  have hwf : ∀ j, wr j (tr ++ Out.hsOkMark :: sp.map fun m => Out.tx true (m.view false) (some m.sn) m.cnt) =
      sp.countP (fun m => m.sn == j) := by
    intro j
    have hw0 : tr.countP (Out.writes j) = 0 := by
      rw [List.countP_eq_zero]
      intro o ho' hwr
      cases o with
      | tx a v sn cnt => exact hnotx _ ho' a v sn cnt rfl
      | _ => cases hwr
    unfold wr
    rw [List.countP_append, hw0, List.countP_cons, List.countP_map]
    simp only [Out.writes, Bool.false_eq_true, if_false, Nat.zero_add, Nat.add_zero]
    congr 1
  have hnf : ∀ j, nk j (tr ++ Out.hsOkMark :: sp.map fun m => Out.tx true (m.view false) (some m.sn) m.cnt) = nk j tr := by
    intro j
    rw [nk_append, nk_quiet j (Out.hsOkMark :: _), Nat.add_zero]
    intro o ho'
    simp only [List.mem_cons, List.mem_map] at ho'
    rcases ho' with rfl | ⟨m, _, rfl⟩ <;> rfl
  refine ⟨fun j => ?_, fun x hx => ?_, fun j => ?_, fun x hx => ?_⟩
  · rw [hwf]; exact countP_sn_le_one _ hsp j
  · rw [hwf]; exact Nat.le_antisymm (countP_sn_le_one _ hsp x.sn) (countP_sn_pos _ x hx)
  · rw [hnf]; exact l1 j
  · rw [hnf]; exact l3 x hx

/-! ### non-vacuity -/

section PskSelectExamples
open Coap.PskSelect

/-- a server whose key is selected by server name: "host" -> key "kex" (hint "h"); the context default key is "key" -/
def sniCfg : TlsCreds.Cfg := { sk := "6b6579", ss := some [("686f7374", "68", "6b6578")] }

/-- the FIRST ClientHello for "host" fills the cache and is checked against "kex" … -/
example : handshakeKey (toSrv sniCfg) [] "686f7374" "6964" = ([⟨"686f7374", "68", "6b6578"⟩], some "6b6578") := rfl
/-- … and so is the SECOND one, served from the cache: not against the context default "key" -/
example : (handshakeKey (toSrv sniCfg) (runHist (toSrv sniCfg) [] [("686f7374", some "6964")]) "686f7374" "6964").2 = some "6b6578" := rfl
/-- a name outside the table is refused, cache unchanged; no name at all likewise -/
example : handshakeKey (toSrv sniCfg) [⟨"686f7374", "68", "6b6578"⟩] "686f7375" "6964" = ([⟨"686f7374", "68", "6b6578"⟩], none) := rfl
example : (handshakeKey (toSrv sniCfg) [] "" "6964").2 = none := rfl
/-- an identity table decides alone; an unknown identity gets no key -/
example : (handshakeKey (toSrv { sniCfg with st := some [("6964", "6b6b")] }) [] "686f7374" "6964").2 = some "6b6b" := rfl
example : (handshakeKey (toSrv { sniCfg with st := some [("6964", "6b6b")] }) [] "686f7374" "6162").2 = none := rfl
/-- S on the same cases -/
example : TlsCreds.serverKey sniCfg "686f7374" "6964" = some "6b6578" := rfl
example : TlsCreds.accepts { sniCfg with sni := some "686f7374", ck := "6b6579" } = .fail := rfl
example : TlsCreds.accepts { sniCfg with sni := some "686f7374", ck := "6b6578" } = .ok := rfl

end PskSelectExamples

/-- a TLS client session as coap_new_client_session_psk2 leaves it when connect() completed at once: HANDSHAKE -/
def tlsHsClient : Sess := (newClientTlsCtx true [.env true, .hs .again]).s

example : tlsHsClient.proto = .tls ∧ tlsHsClient.est = false ∧ tlsHsClient.state = .handshake := ⟨rfl, rfl, rfl⟩

/-- TLS: two requests queued during the handshake, the peer closes the connection (keys differ): each is NACKed once,
in order, then the TCP / session events, the close, and coap_read_session's own (anonymous) NACK — exactly what
harness/tls.c observes (`tls ck=6b6579 sk=6b6578 conn=prog acc=early wait=client q=CC`) -/
example :
    (tlsHsClient.run [(.appSendStrm false 1 0 "01", []), (.appSendStrm false 1 0 "02", []), (.strmRead, [.hs .eof])]).2 =
      [.nack .tls (some "01") (some 0), .nack .tls (some "02") (some 1), .evTcp .closed, .evTcp .sessFailed, .bye,
       .ev .closed, .nack .undeliv none none] := rfl

/-- TLS: the handshake completes, the CSM goes out; when the peer's CSM arrives the queue is flushed in order; the
server's response reaches the handler -/
example :
    (tlsHsClient.run [(.appSendStrm false 1 0 "01", []), (.appSendStrm false 1 0 "02", []),
                      (.strmRead, [.hs .ok, .snd .ok, .recv .again]),
                      (.strmRead, [.recv (.data ⟨0, 225, 0, "-", ""⟩), .snd .ok, .snd .ok]),
                      (.strmRead, [.recv (.data ⟨0, 69, 0, "01", "6869"⟩)])]).2 =
      [.hsOkMark, .ev .connected, .tx true ⟨0, 225, 0, "-", ""⟩ (some 2) 0,
       .evTcp .sessConnected, .tx true ⟨0, 1, 0, "01", ""⟩ (some 0) 0, .tx true ⟨0, 1, 0, "02", ""⟩ (some 1) 0,
       .rsp "01" 69] := rfl

/-- TLS: release with a queued request while the handshake hangs (the server ignored its own failure): closed, then
NACKed once, NOT_DELIVERABLE -/
example : (tlsHsClient.run [(.appSendStrm false 1 0 "01", []), (.release, [])]).2 =
      [.bye, .ev .closed, .nack .undeliv (some "01") (some 0)] := rfl

/-- TLS: connect() still in progress — CONNECTING, doing_first set; the server session after accept: HANDSHAKE -/
example : (newClientTlsCtx false []).s.state = .connecting ∧ (newClientTlsCtx false []).s.doingFirst = true := ⟨rfl, rfl⟩
example : (acceptCtx [.env true, .hs .again]).out = [.evTcp .connected, .evNew] ∧ (acceptCtx [.env true, .hs .again]).s.state = .handshake := ⟨rfl, rfl⟩

/-- a client session in HANDSHAKE state as coap_new_client_session_psk2 leaves it -/
def hsClient : Sess := { proto := .dtls, typ := .client, state := .handshake, tls := true }

example : Unauth hsClient := ⟨rfl, by decide, by decide⟩
example : Unauth tlsHsClient := ⟨by decide, by decide, by decide⟩

/-- two requests queued, then the handshake completes: both are written through the TLS layer, in order, after the
mark; the CON waits for its ACK, the response reaches the handler -/
example :
    (hsClient.run [(.appSend true 1 7 "01", []), (.appSend false 1 8 "02", []),
                   (.dgram, [.hs .ok, .snd .ok, .snd .ok]),
                   (.dgram, [.recv (.data ⟨2, 69, 7, "01", "6869"⟩)])]).2 =
      [.hsOkMark, .tx true ⟨0, 1, 7, "01", ""⟩ (some 0) 0, .tx true ⟨1, 1, 8, "02", ""⟩ (some 1) 0, .rsp "01" 69] := rfl

/-- the handshake fails with an alert: the CON is NACKed once, the NON dropped, nothing written, session NONE -/
example :
    (hsClient.run [(.appSend true 1 7 "01", []), (.appSend false 1 8 "02", []), (.dgram, [.hs .fatalrx])]) =
      ({ hsClient with state := .none, tls := false, sentAlert := false, dtlsEvent := some .closed, next := 2 },
       [.nack .tls (some "01") (some 0), .ev .closed]) := rfl

/-- block mode (COAP_BLOCK_USE_LIBCOAP): a Confirmable Observe registration and a plain Confirmable queued during the
handshake — the first has an lg_crcv entry as well; the handshake fails with an alert: each is NACKed exactly once (the
lg_crcv entry is NOT reported on top of the delay-queue NACK), the lg_crcv list is gone -/
example :
    (({ hsClient with blockMode := true } : Sess).run
        [(.appSendL true true 1 7 "01", []), (.appSendL true false 1 8 "02", []), (.dgram, [.hs .fatalrx])]) =
      ({ hsClient with blockMode := true, state := .none, tls := false, sentAlert := false, dtlsEvent := some .closed, next := 2 },
       [.nack .tls (some "01") (some 0), .nack .tls (some "02") (some 1), .ev .closed]) := rfl

/-- … the instance of `queued_con_exactly_one_nack_on_failure` on that state: request "01" (serial 0) is named once -/
example :
    let s : Sess := (({ hsClient with blockMode := true } : Sess).run [(.appSendL true true 1 7 "01", []), (.appSendL true false 1 8 "02", [])]).1
    s.lgCrcv.map (·.tok) = ["01"] ∧ s.delayq.map (·.tok) = ["01", "02"] ∧
      ((({ s := s } : Ctx).disconnected .tls).out.countP (names 0)) = 1 := by
  decide

/-- block mode, only Non-confirmables queued (each has an lg_crcv entry; most recent first): nothing was reported from
the queues, so the request of the FIRST lg_crcv entry is (one NACK, instead of the anonymous one) -/
example :
    (({ hsClient with blockMode := true } : Sess).run
        [(.appSendL false false 1 7 "01", []), (.appSendL false false 1 8 "02", []), (.dgram, [.hs .fatalrx])]).2 =
      [.nack .tls (some "02") (some 1), .ev .closed] := rfl

/-- block mode, success: the response expires the lg_crcv entry of its token -/
example :
    (({ hsClient with blockMode := true } : Sess).run
        [(.appSendL true true 1 7 "01", []), (.dgram, [.hs .ok, .snd .ok]),
         (.dgram, [.recv (.data ⟨2, 69, 7, "01", "6869"⟩)])]).1.lgCrcv = [] := rfl

/-- DTLS retransmissions exhausted (fifth timer expiry): same outcome through coap_dtls_handle_timeout -/
example :
    (({ hsClient with tmoCount := 4 } : Sess).run [(.appSend true 1 7 "01", []), (.tlsTimeout, [])]).2 =
      [.nack .tls (some "01") (some 0), .bye, .ev .closed] := rfl

/-- release with a queued CON: closed first, then NACKed once -/
example : (hsClient.run [(.appSend true 1 7 "01", []), (.release, [])]).2 =
      [.bye, .ev .closed, .nack .tls (some "01") (some 0)] := rfl

/-- the ledger's start condition holds for the sessions histories start from (everything empty) -/
example : Ledger0 hsClient := ⟨rfl, by decide, by decide, by decide, by decide⟩
example : Ledger0 tlsHsClient := ⟨by decide, by decide, by decide, by decide, by decide⟩
example : Ledger0 (newClient [.env true, .hs .again]).1 := ⟨by decide, by decide, by decide, by decide, by decide⟩

/-- an instance of every hypothesis of `queued_con_one_nack_on_failure`: `pre` = two Confirmables and a Non-confirmable are
queued, `rest` = a third Confirmable is queued, the DTLS timer fires, an alert arrives (handshake failed), another request is
submitted on the dead session, the application releases it.  Message 0 is in the queue of a live session after `pre`, no
success in the whole history … -/
def failHist : List (Ev × List Orc) × List (Ev × List Orc) :=
  ([(.appSend true 1 7 "01", []), (.appSend false 1 8 "02", []), (.appSend true 1 9 "03", [])],
   [(.appSend true 1 10 "04", []), (.tlsTimeout, [.hs .again]), (.dgram, [.hs .fatalrx]), (.appSend true 1 11 "05", []),
    (.release, [])])

example : (⟨0, true, 1, 7, "01", 0⟩ : QMsg) ∈ (hsClient.run failHist.1).1.delayq ∧ (hsClient.run failHist.1).1.state ≠ .none ∧
    (hsClient.run failHist.1).1.freed = false ∧ Out.hsOkMark ∉ (hsClient.run (failHist.1 ++ failHist.2)).2 := by decide

/-- … and what the theorem says about it, computed: one NACK each for 0, 2, 3 (at the failure) and 4 (at the release), none
for the Non-confirmable 1, nothing written -/
example : (hsClient.run (failHist.1 ++ failHist.2)).2 =
    [.nack .tls (some "01") (some 0), .nack .tls (some "03") (some 2), .nack .tls (some "04") (some 3), .ev .closed,
     .nack .tls (some "05") (some 4)] ∧
    (List.range 6).map (fun j => nk j (hsClient.run (failHist.1 ++ failHist.2)).2) = [1, 0, 1, 1, 1, 0] := ⟨rfl, rfl⟩

/-- THE CARVE-OUT of `queued_con_one_nack_on_failure` is real: block mode, a Confirmable Observe registration queued during the
handshake, coap_session_disconnected_lkd(COAP_NACK_ICMP_ISSUE) (the peer's port is unreachable) reports the first lg_crcv
entry's request and returns — the request stays queued —, then the handshake times out: the application sees the same request
in two NACK callbacks (ICMP_ISSUE, then TLS_FAILED); `nk` counts the second only. -/
theorem icmp_notification_is_extra :
    (({ hsClient with blockMode := true, tmoCount := 4 } : Sess).run
        [(.appSendL true true 1 7 "01", []), (.appDisconnect .icmp, []), (.tlsTimeout, [])]).2 =
      [.nack .icmp (some "01") (some 0), .nack .tls (some "01") (some 0), .bye, .ev .closed] ∧
    nk 0 [.nack .icmp (some "01") (some 0), .nack .tls (some "01") (some 0), .bye, .ev .closed] = 1 ∧
    List.countP (names 0) [.nack .icmp (some "01") (some 0), .nack .tls (some "01") (some 0), .bye, .ev .closed] = 2 := ⟨rfl, rfl, rfl⟩

/-- the creating calls without oracle success (the hypothesis of `newClient_start` … `accept_start`) -/
example : Out.hsOkMark ∉ (newClient [.env true, .hs .again] true).2 ∧ Out.hsOkMark ∉ (endpointRxUnknownCtx [.env true, .ck true, .hs .again]).out ∧
    Out.hsOkMark ∉ (newClientTlsCtx true [.env true, .hs .again] false).out ∧ Out.hsOkMark ∉ (acceptCtx [.env true, .hs .again]).out := by
  decide

/-- "the TLS library accepts the writes": `k` answers `snd ok` satisfy the oracle hypothesis of the flush theorems -/
theorem accepting_replicate (k : Nat) :
    ∀ n, (List.replicate k (Orc.snd .ok)).drop n = [] ∨ ∃ t, (List.replicate k (Orc.snd .ok)).drop n = Orc.snd .ok :: t := by
  induction k with
  | zero => intro n; left; simp
  | succ k ih =>
    intro n
    cases n with
    | zero => right; exact ⟨List.replicate k (Orc.snd .ok), by simp [List.replicate_succ]⟩
    | succ n => simpa [List.replicate_succ] using ih n

/-- an instance of every hypothesis of `queued_first_flush_in_order_once_on_success`: NON, CON, CON queued (and a DTLS timer
expiry in between), then the handshake completes with three accepted writes available … -/
def okPre : List (Ev × List Orc) :=
  [(.appSend false 1 7 "01", []), (.tlsTimeout, [.hs .again]), (.appSend true 1 8 "02", []), (.appSend true 1 9 "03", [])]

example : Out.hsOkMark ∉ (hsClient.run okPre).2 ∧ (hsClient.run okPre).1.proto = .dtls ∧ (hsClient.run okPre).1.typ ≠ .hello ∧
    (hsClient.run okPre).1.tls = true ∧ (hsClient.run okPre).1.state = .handshake ∧ (hsClient.run okPre).1.freed = false ∧
    (hsClient.run okPre).1.appRef = true ∧ (hsClient.run okPre).1.delayq.length ≤ (List.replicate 3 (Orc.snd .ok)).length := by
  decide

/-- … and the whole trace: the mark, the NON and the first CON through the TLS layer, in submission order; the second CON
waits for the ACK (NSTART) -/
example : (hsClient.run (okPre ++ [(.dgram, .hs .ok :: List.replicate 3 (Orc.snd .ok))])).2 =
    [.hsOkMark, .tx true ⟨1, 1, 7, "01", ""⟩ (some 0) 0, .tx true ⟨0, 1, 8, "02", ""⟩ (some 1) 0] ∧
    ((hsClient.run (okPre ++ [(.dgram, .hs .ok :: List.replicate 3 (Orc.snd .ok))])).1.delayq.map (·.sn)) = [2] := ⟨rfl, rfl⟩

/-- a cleartext CoAP CON GET (0x41 …) at the endpoint from an unknown peer: nothing -/
example : endpointRxUnknown (classify [0x41, 1, 0x77, 1, 0xee, 0xB1, 0x72, 0xFF, 73, 78, 74, 69, 67, 84, 69, 68]) [.env true, .ck false] = (none, []) := rfl

/-- … while a ClientHello creates the HELLO session and gets the cookie exchange -/
example : (endpointRxUnknown (classify [22, 254, 255, 0, 0, 0, 0, 0, 0, 0, 0, 0, 50, 1, 0]) [.env true, .ck false]).2 = [.evNew, .cookie] := rfl

/-- the flush writes NON, CON and stops at the second CON -/
example : sentPrefix 0 [⟨0, false, 1, 1, "01", 0⟩, ⟨1, true, 1, 2, "02", 0⟩, ⟨2, true, 1, 3, "03", 0⟩] =
    [⟨0, false, 1, 1, "01", 0⟩, ⟨1, true, 1, 2, "02", 0⟩] := rfl

/-- S: the credential verdicts of the property's cases -/
example : Coap.TlsCreds.accepts {} = .ok := rfl
example : Coap.TlsCreds.accepts { ck := "6b6579", sk := "6b6578" } = .fail := rfl
example : Coap.TlsCreds.accepts { ck := "6b65", sk := "6b6579" } = .fail := rfl
example : Coap.TlsCreds.accepts { ck := "" } = .nosession := rfl
example : Coap.TlsCreds.accepts { st := some [("6162", "6b6579")] } = .fail := rfl
example : Coap.TlsCreds.accepts { sh := some "68696e74", ih := .list ["6162"] } = .fail := rfl
example : Coap.TlsCreds.accepts { sni := some "686f7374", ss := some [("686f7375", "68", "6b6579")] } = .fail := rfl

/-! ### the first-transmission ledger: beyond the establishment (`Ord`, `firsts`, `fresh0`: Lemmas/TlsOrder.lean) -/

theorem ord_of_sorted (s : Sess) (hp : s.proto = .dtls) (hs : (s.delayq.map (·.sn)).Pairwise (· < ·))
    (hlt : ∀ q ∈ s.delayq, q.sn < s.next) (N : Nat) (hN : N ≤ s.next) (t : Bool) (k : Nat)
    (hk : t = true → k < N ∧ k ∈ fresh0 s.delayq) : Ord N [] false t k { s := s } := by
  refine ⟨?_, ?_, hN, (fun _ hj => nomatch hj), hp, fun ht => ⟨(hk ht).1, Or.inl (hk ht).2⟩⟩
  · simp only [firsts_nil, List.append_nil, List.nil_append]
    exact List.Pairwise.sublist (List.Sublist.map _ List.filter_sublist) hs
  · intro j hj
    obtain ⟨q, hq, _, rfl⟩ := mem_fresh0.mp hj
    exact hlt q hq

/-- DELIVERED IN ORDER, EACH ONCE — trace level, through and BEYOND the establishment.  `pre`: any history of a DTLS session that
starts unauthenticated in which the TLS library has not reported success; `N` = the next serial at its end, so the serials
below `N` are exactly the messages submitted during the handshake.  `rest`: ANY continuation — the datagram that completes the
handshake, ACKs, responses, RSTs, CoAP retransmission timers, further coap_send calls, disconnects, release — with ANY answers
of the TLS library (a refused write is covered too: `tx` = the PDU was handed to coap_dtls_send).  Over the WHOLE trace:
  * the first transmissions of the messages queued during the handshake happen in SUBMISSION ORDER, AT MOST ONCE each — nothing
    overtakes, whichever pass of coap_session_connected (handshake completion or a later ACK / give-up) takes a message off
    the queue;
  * every message `q` that was in the delay queue at the end of `pre` is, at the end, EITHER still queued and never
    transmitted, OR transmitted for the first time EXACTLY ONCE — unless the queue was given up: a NACK other than the ICMP
    notification was raised (coap_session_disconnected_lkd always raises one) or the session was freed (coap_session_mfree).
Hypothesis `q.cnt = 0`: what coap_send submits (retransmit_cnt 0).
Not claimed (and false, C06/C08's open finding drain_break_strands_delayed / the NON-response path that lowers con_active
without a flush): that a message still queued on an established session will eventually be taken off the queue. -/
theorem queued_delivered_in_order_once_on_success {s : Sess} (h : Unauth s) (hl : Ledger0 s) (hp : s.proto = .dtls)
    (pre rest : List (Ev × List Orc)) (hnm : Out.hsOkMark ∉ (s.run pre).2) :
    (firsts (s.run pre).1.next (s.run (pre ++ rest)).2 ++ fresh0 (s.run (pre ++ rest)).1.delayq).Pairwise (· < ·) ∧
    (∀ q ∈ (s.run pre).1.delayq, q.cnt = 0 →
      (q.sn ∈ fresh0 (s.run (pre ++ rest)).1.delayq ∧ (firsts (s.run pre).1.next (s.run (pre ++ rest)).2).count q.sn = 0) ∨
      (q.sn ∉ fresh0 (s.run (pre ++ rest)).1.delayq ∧
        ((firsts (s.run pre).1.next (s.run (pre ++ rest)).2).count q.sn = 1 ∨
          (s.run (pre ++ rest)).2.any Out.isFail = true ∨ (s.run (pre ++ rest)).1.freed = true))) := by
  -- nothing was written during `pre`
  have hnotx : ∀ o ∈ (s.run pre).2, ∀ j, o.firstSn = some j → (s.run pre).1.next ≤ j := by
    intro o ho j hj
    cases o with
    | tx a v sn cnt => exact absurd rfl (no_tx_of_no_mark h pre hnm _ ho a v sn cnt)
    | _ => cases hj
  have hf0 : ∀ l, firsts (s.run pre).1.next ((s.run pre).2 ++ l) = firsts (s.run pre).1.next l := by
    intro l; rw [firsts_append, firsts_quiet _ _ hnotx]; rfl
  -- the ledger of the handshake phase at the end of `pre`
  have hc := core_of_no_mark h hl pre hnm []
  -- the protocol never changes
  have hp1 : (s.run pre).1.proto = .dtls :=
    (run_ord s pre (ord_of_sorted s hp hl.srt hl.lt 0 (Nat.zero_le _) false 0 (fun e => by cases e))).proto
  have hmem : ∀ q ∈ (s.run pre).1.delayq, q.cnt = 0 → q.sn ∈ fresh0 (s.run pre).1.delayq :=
    fun q hq hc0 => mem_fresh0.mpr ⟨q, hq, hc0, rfl⟩
  have key : ∀ (t : Bool) (k : Nat), (t = true → k < (s.run pre).1.next ∧ k ∈ fresh0 (s.run pre).1.delayq) →
      Ord (s.run pre).1.next ([] ++ firsts (s.run pre).1.next ((s.run pre).1.run rest).2)
        (false || ((s.run pre).1.run rest).2.any Out.isFail) t k { s := ((s.run pre).1.run rest).1 } := by
    intro t k hk
    exact run_ord (s.run pre).1 rest (ord_of_sorted _ hp1 hc.srt hc.lt _ (Nat.le_refl _) t k hk)
  rw [Sess.run_append]
  simp only [hf0]
  have hsrt := (key false 0 (by simp)).srt
  simp only [firsts_nil, List.append_nil, List.nil_append] at hsrt
  refine ⟨hsrt, ?_⟩
  intro q hq hc0
  have hk := (key true q.sn fun _ => ⟨hc.lt q hq, hmem q hq hc0⟩).trk rfl
  simp only [firsts_nil, List.append_nil, List.nil_append, Bool.false_or] at hk
  have hcnt := count_le_one_of_sorted _ (List.pairwise_append.mp hsrt).1 q.sn
  by_cases hin : q.sn ∈ fresh0 ((s.run pre).1.run rest).1.delayq
  · left
    refine ⟨hin, List.count_eq_zero.mpr fun hm => sorted_append_disjoint _ _ hsrt q.sn hm hin⟩
  · right
    refine ⟨hin, ?_⟩
    rcases hk.2 with b | b | b | b | b
    · exact absurd b hin
    · left
      have := List.count_pos_iff.mpr b
      omega
    · right; left
      simp only [List.any_append, b, Bool.or_true]
    · simp at b
    · right; right; exact b

/-- the first-transmission ledger of ANY history of a DTLS session whose delay queue starts in submission order (no gate needed):
first transmissions of serials below the starting `next`, then the never-transmitted rest of the queue: strictly increasing.
This is the form that also covers a session that is already established. -/
theorem first_transmissions_in_order (s : Sess) (hp : s.proto = .dtls)
    (hs : (fresh0 s.delayq).Pairwise (· < ·)) (hlt : ∀ j ∈ fresh0 s.delayq, j < s.next) (evs : List (Ev × List Orc)) :
    (firsts s.next (s.run evs).2 ++ fresh0 (s.run evs).1.delayq).Pairwise (· < ·) := by
  have h0 : Ord s.next [] false false 0 { s := s } :=
    ⟨by simpa using hs, hlt, Nat.le_refl _, by simp, hp, by simp⟩
  simpa using (run_ord s evs h0).srt

/-- an instance of every hypothesis of `queued_delivered_in_order_once_on_success`, and a continuation that goes well beyond
the establishing datagram: NON 0, CON 1, CON 2 queued (`okPre`); the handshake completes (0 and 1 go out, 2 waits: NSTART); the
CoAP timer of 1 fires (retransmission, count 1); a fourth message is submitted (serial 3, waits behind 2); the ACK of 1 arrives:
the later pass of coap_session_connected transmits 2; the peer resets 2: pass three transmits 3 -/
def okRest : List (Ev × List Orc) :=
  [(.dgram, .hs .ok :: List.replicate 3 (Orc.snd .ok)), (.retransmit 8, [.snd .ok]), (.appSend true 1 10 "04", []),
   (.dgram, [.recv (.data ⟨2, 69, 8, "02", ""⟩), .snd .ok]), (.dgram, [.recv (.data ⟨3, 0, 9, "", ""⟩), .snd .ok])]

example : Unauth hsClient ∧ Ledger0 hsClient ∧ hsClient.proto = .dtls ∧ Out.hsOkMark ∉ (hsClient.run okPre).2 ∧
    (hsClient.run okPre).1.delayq.map (fun q => (q.sn, q.cnt)) = [(0, 0), (1, 0), (2, 0)] ∧ (hsClient.run okPre).1.next = 3 :=
  ⟨⟨rfl, by decide, by decide⟩, ⟨rfl, by decide, by decide, by decide, by decide⟩, rfl, by decide, by decide, by decide⟩

/-- … the trace: first transmissions 0, 1, 2 in submission order, the retransmission of 1 (count 1) in between is not one; serial
3 (submitted after the establishment) is outside `firsts 3` -/
example : (hsClient.run (okPre ++ okRest)).2.filterMap (fun o => match o with | .tx _ _ (some j) cnt => some (j, cnt) | _ => none) =
      [(0, 0), (1, 0), (1, 1), (2, 0), (3, 0)] ∧
    firsts 3 (hsClient.run (okPre ++ okRest)).2 = [0, 1, 2] ∧ fresh0 (hsClient.run (okPre ++ okRest)).1.delayq = [] := ⟨rfl, rfl, rfl⟩

/-- a refused write during the first flush (the TLS library answers an error for the NON): the CON behind it is still
transmitted once, in order; the third stays queued, never transmitted — the two cases of the theorem side by side -/
example : firsts 3 (hsClient.run (okPre ++ [(.dgram, [.hs .ok, .snd .err, .snd .ok])])).2 = [0] ∧
    fresh0 (hsClient.run (okPre ++ [(.dgram, [.hs .ok, .snd .err, .snd .ok])])).1.delayq = [1, 2] := ⟨rfl, rfl⟩

/-- teardown after the establishment with a message still queued: it is never transmitted, the trace has the NACKs -/
example : firsts 3 (hsClient.run (okPre ++ [(.dgram, .hs .ok :: List.replicate 3 (Orc.snd .ok)), (.appDisconnect .tls, [])])).2 = [0, 1] ∧
    fresh0 (hsClient.run (okPre ++ [(.dgram, .hs .ok :: List.replicate 3 (Orc.snd .ok)), (.appDisconnect .tls, [])])).1.delayq = [] ∧
    (hsClient.run (okPre ++ [(.dgram, .hs .ok :: List.replicate 3 (Orc.snd .ok)), (.appDisconnect .tls, [])])).2.any Out.isFail = true := ⟨rfl, rfl, rfl⟩

/-- An ICMP error reported to a session with nothing in flight and no lg_crcv entry (coap_session_disconnected_lkd with
COAP_NACK_ICMP_ISSUE while requests wait behind the handshake, no block mode): exactly ONE notification that names NO message;
the delay queue, the state and everything else are untouched — a queued Confirmable is not reported by it, however often it
happens (the lg_crcv case is `icmp_notification_is_extra`).  Tied by the harness' `icmp` segments. -/
theorem icmp_report_names_nothing_queued (c : Ctx) (hi : c.s.inflight = []) (hl : c.s.lgCrcv = []) :
    (c.disconnected .icmp).out = c.out ++ [.nack .icmp none none] ∧ (c.disconnected .icmp).s = c.s := by
  simp [disconnected_icmp, Ctx.discOuts, Ctx.discFirst, Ctx.discDq, Ctx.discLg, hi, hl]

/-- … on `okPre`'s session (NON, CON, CON queued, handshake pending), twice: two anonymous notifications, queue unchanged -/
example : ((hsClient.run okPre).1.run [(.appDisconnect .icmp, []), (.appDisconnect .icmp, [])]) =
    ((hsClient.run okPre).1, [.nack .icmp none none, .nack .icmp none none]) := rfl

/-! ### the NACK ledger AFTER the establishment (`Nak`, `Dbl`: Lemmas/TlsNack.lean): the send queue is in the accounting

Hypotheses of this section: `Ledger0 s` (true of every new session), DTLS, no block mode (`blockMode = false`, `lgCrcv = []` — with
lg_crcv entries coap_session_disconnected_lkd reports the first entry's request when nothing else was reported, which may name a
message given up long before). -/

theorem run_nak0 {s : Sess} (hl : Ledger0 s) (hp : s.proto = .dtls) (hb : s.blockMode = false) (hg : s.lgCrcv = [])
    (evs : List (Ev × List Orc)) (k : Nat) : Nak ([] ++ (s.run evs).2) [] false k { s := (s.run evs).1 } :=
  run_nak s evs (nak_start s hl.infl hl.srt hl.lt hg hb hp k)

/-- THE NACK LEDGER OF ANY HISTORY (handshake, establishment, ACKs, RSTs, retransmissions, give-ups, refused writes, disconnects,
release; any answers of the TLS library): at the end
  * a message the library still holds — in the delay queue or in the send queue — has NOT been reported: no NACK names it;
  * no message is named by more than TWO NACKs;
  * a message named by two NACKs is named by the pattern `Dbl`: same reason (not ICMP), nothing but NACKs in between — one call
    of coap_session_disconnected_lkd (`double_report_only_first_inflight` says which message). -/
theorem nack_ledger_any_history {s : Sess} (hl : Ledger0 s) (hp : s.proto = .dtls) (hb : s.blockMode = false) (hg : s.lgCrcv = [])
    (evs : List (Ev × List Orc)) :
    (∀ q ∈ (s.run evs).1.delayq ++ (s.run evs).1.inflight, nk q.sn (s.run evs).2 = 0) ∧
    (∀ j, nk j (s.run evs).2 ≤ 2) ∧ (∀ j, nk j (s.run evs).2 = 2 → Dbl j (s.run evs).2) := by
  have h := run_nak0 hl hp hb hg evs 0
  refine ⟨fun q hq => ?_, fun j => ?_, fun j hj => ?_⟩
  · simpa using h.z q.sn (hc_pos_of_mem _ q hq)
  · simpa using h.le2 j
  · simpa using h.dbl j (by simpa using hj)

/-- A message queued during the handshake is NOT NACKed while the library holds it: take any history `pre` (the handshake
phase), a message `q` in the delay queue at its end, ANY continuation `rest`; if at the end a node with `q`'s serial is still in
the delay queue or in the send queue (the session has not failed, was not released, the message was not given up after
MAX_RETRANSMIT, not reset, not acknowledged) then no NACK in the WHOLE trace names it. -/
theorem queued_not_nacked_while_held {s : Sess} (hl : Ledger0 s) (hp : s.proto = .dtls) (hb : s.blockMode = false)
    (hg : s.lgCrcv = []) (pre rest : List (Ev × List Orc)) (q : QMsg) (_hq : q ∈ (s.run pre).1.delayq)
    (q2 : QMsg) (hq2 : q2 ∈ (s.run (pre ++ rest)).1.delayq ++ (s.run (pre ++ rest)).1.inflight) (hsn : q2.sn = q.sn) :
    nk q.sn (s.run (pre ++ rest)).2 = 0 := by
  rw [← hsn]
  exact (nack_ledger_any_history hl hp hb hg (pre ++ rest)).1 q2 hq2

/-- D19a IS THE ONLY WAY A MESSAGE IS REPORTED TWICE.  In any history: at most two NACKs name a message, and two only in the
pattern `Dbl` — both inside one call of coap_session_disconnected_lkd; and for the event that produces it —
coap_session_disconnected(reason ≠ ICMP) after ANY history — the event's NACKs name a serial twice EXACTLY WHEN it is the
Confirmable at the head of the send queue (reported by the first loop of coap_session_disconnected_lkd and again by
coap_cancel_session_messages); every other message on either queue is named at most once. -/
theorem double_report_only_first_inflight {s : Sess} (hl : Ledger0 s) (hp : s.proto = .dtls) (hb : s.blockMode = false)
    (hg : s.lgCrcv = []) (evs : List (Ev × List Orc)) :
    (∀ j, nk j (s.run evs).2 ≤ 2 ∧ (nk j (s.run evs).2 = 2 → Dbl j (s.run evs).2)) ∧
    (∀ (r : Nack) (o : List Orc) (j : Nat), r ≠ .icmp → (s.run evs).1.freed = false →
      (nk j ((s.run evs).1.step (.appDisconnect r) o).2 = 2 ↔
        ∃ q0 tl, (s.run evs).1.inflight = q0 :: tl ∧ q0.sn = j ∧ q0.con = true)) := by
  have hA := nack_ledger_any_history hl hp hb hg evs
  refine ⟨fun j => ⟨hA.2.1 j, hA.2.2 j⟩, ?_⟩
  intro r o j hr hfr
  have h := run_nak0 hl hp hb hg evs 0
  rw [step_appDisconnect _ r o hfr]
  simp only [disconnected_nk r hr j, nk_nil, Nat.zero_add]
  exact (disc_counts r hr (nak_rebase o h) j).2

/-- AFTER A LATER FAILURE each still-unacknowledged Confirmable that was queued during the handshake gets AT LEAST ONE NACK and
— unless it is the first in-flight message of the session (D19a) — EXACTLY ONE.  `pre`: the handshake phase, `q` queued at its
end; `rest`: ANY continuation (establishment, flushes, retransmissions, …; any TLS-library answers) at whose end a Confirmable
node with `q`'s serial is still on the delay queue or the send queue; then coap_session_disconnected(reason ≠ ICMP).  Over the
WHOLE trace: `q` is named by at least one NACK, by at most two, by two exactly when it was the head of the send queue; both
queues are empty afterwards. -/
theorem queued_con_nacked_on_later_failure {s : Sess} (hl : Ledger0 s) (hp : s.proto = .dtls) (hb : s.blockMode = false)
    (hg : s.lgCrcv = []) (pre rest : List (Ev × List Orc)) (q : QMsg) (_hq : q ∈ (s.run pre).1.delayq)
    (q2 : QMsg) (hq2 : q2 ∈ (s.run (pre ++ rest)).1.delayq ++ (s.run (pre ++ rest)).1.inflight) (hsn : q2.sn = q.sn)
    (hcon : q2.con = true) (hfr : (s.run (pre ++ rest)).1.freed = false) (r : Nack) (hr : r ≠ .icmp) (o : List Orc) :
    1 ≤ nk q.sn (s.run (pre ++ rest ++ [(.appDisconnect r, o)])).2 ∧
    nk q.sn (s.run (pre ++ rest ++ [(.appDisconnect r, o)])).2 ≤ 2 ∧
    (nk q.sn (s.run (pre ++ rest ++ [(.appDisconnect r, o)])).2 = 2 ↔
      ∃ q0 tl, (s.run (pre ++ rest)).1.inflight = q0 :: tl ∧ q0.sn = q.sn ∧ q0.con = true) ∧
    (s.run (pre ++ rest ++ [(.appDisconnect r, o)])).1.delayq = [] ∧
    (s.run (pre ++ rest ++ [(.appDisconnect r, o)])).1.inflight = [] := by
  have h := run_nak0 hl hp hb hg (pre ++ rest) 0
  have hd := disc_counts r hr (nak_rebase o h) q.sn
  have hz := (nack_ledger_any_history hl hp hb hg (pre ++ rest)).1 q2 hq2
  rw [hsn] at hz
  have hle := (nack_ledger_any_history hl hp hb hg (pre ++ rest ++ [(.appDisconnect r, o)])).2.1 q.sn
  have hpos := hd.1 ⟨q2, hq2, hsn, hcon⟩
  have hqs := disconnected_queues (c := { s := (s.run (pre ++ rest)).1, orc := o }) r hr
  rw [Sess.run_snoc] at hle ⊢
  simp only [step_appDisconnect _ r o hfr, nk_append, disconnected_nk r hr q.sn, nk_nil, Nat.zero_add, hz] at hle ⊢
  have hd2 := hd.2
  simp only [nk_append] at hpos hd2
  exact ⟨hpos, hle, hd2, hqs.1, hqs.2⟩

/-- DELIVERED ONCE, OR A NACK NAMING IT — `queued_delivered_in_order_once_on_success` with the coarse "given up" disjunct (some
non-ICMP NACK somewhere in the trace, or the session freed) replaced, for a Confirmable, by "a NACK naming `q`" (coap_session_mfree
reports the Confirmables of the delay queue too, so "freed" is covered by it).  Same `pre` / `rest`; every Confirmable `q` that was
in the delay queue at the end of `pre` is at the end EITHER still queued, never transmitted and not reported, OR no longer waiting
and then transmitted for the first time EXACTLY once or named by a NACK. -/
theorem queued_con_delivered_once_or_nacked {s : Sess} (h : Unauth s) (hl : Ledger0 s) (hp : s.proto = .dtls)
    (hb : s.blockMode = false) (hg : s.lgCrcv = []) (pre rest : List (Ev × List Orc)) (hnm : Out.hsOkMark ∉ (s.run pre).2) :
    ∀ q ∈ (s.run pre).1.delayq, q.con = true → q.cnt = 0 →
      (q.sn ∈ fresh0 (s.run (pre ++ rest)).1.delayq ∧ (firsts (s.run pre).1.next (s.run (pre ++ rest)).2).count q.sn = 0 ∧
        nk q.sn (s.run (pre ++ rest)).2 = 0) ∨
      (q.sn ∉ fresh0 (s.run (pre ++ rest)).1.delayq ∧
        ((firsts (s.run pre).1.next (s.run (pre ++ rest)).2).count q.sn = 1 ∨ 1 ≤ nk q.sn (s.run (pre ++ rest)).2)) := by
  intro q hq hcon hcnt
  obtain ⟨hsrt, hcase⟩ := queued_delivered_in_order_once_on_success h hl hp pre rest hnm
  have hN := run_nak0 hl hp hb hg pre 0
  have hlt : q.sn < (s.run pre).1.next := hN.lt q.sn (hc_pos_of_mem _ q (List.mem_append_left _ hq))
  have hE := (run_nak (s.run pre).1 rest (nak_track hN ⟨q, hq, rfl, hcon, hcnt⟩)).trk rfl
  have hA := (nack_ledger_any_history hl hp hb hg (pre ++ rest)).1
  -- everything in terms of the two phases
  rw [Sess.run_append] at hsrt hcase hA ⊢
  simp only [List.nil_append, List.append_nil] at hE
  have hcnt1 := count_le_one_of_sorted _ (List.pairwise_append.mp hsrt).1 q.sn
  rcases hcase q hq hcnt with ⟨hin, hz⟩ | ⟨hin, _⟩
  · left
    refine ⟨hin, hz, ?_⟩
    obtain ⟨q', hq', _, hsn⟩ := mem_fresh0.mp hin
    exact hsn ▸ hA q' (List.mem_append_left _ hq')
  · right
    refine ⟨hin, ?_⟩
    rcases hE with ⟨q', hq', h1, _, h3⟩ | b | b
    · exact absurd (mem_fresh0.mpr ⟨q', hq', h3, h1⟩) hin
    · left
      exact Nat.le_antisymm hcnt1 (List.count_pos_iff.mpr (mem_firsts.mpr ⟨b, hlt⟩))
    · right; exact b

/-- `icmp_report_names_nothing_queued` AT TRACE LEVEL (outside block mode): after ANY history of the handshake phase (any events,
any answers of the TLS library, the oracle has not reported success) coap_session_disconnected(COAP_NACK_ICMP_ISSUE) raises
exactly ONE notification, which names NO message, and leaves the session exactly as it was — however many requests wait in the
delay queue, however often it happens. -/
theorem icmp_report_names_nothing_queued_trace {s : Sess} (h : Unauth s) (hl : Ledger0 s) (hp : s.proto = .dtls)
    (hb : s.blockMode = false) (hg : s.lgCrcv = []) (pre : List (Ev × List Orc)) (hnm : Out.hsOkMark ∉ (s.run pre).2)
    (hfr : (s.run pre).1.freed = false) (o : List Orc) :
    (s.run pre).1.step (.appDisconnect .icmp) o = ((s.run pre).1, [.nack .icmp none none]) := by
  have hinf := (core_of_no_mark h hl pre hnm []).infl
  have hlg := (run_nak0 hl hp hb hg pre 0).lg
  have := icmp_report_names_nothing_queued { s := (s.run pre).1, orc := o } hinf hlg
  simp only [Sess.step, Sess.stepCtx, hfr, Bool.false_eq_true, if_false]
  rw [this.1, this.2]
  rfl

/-- … and after ANY history at all (also beyond the establishment): the notification leaves the session as it was, and a message it
names is the first node of the send queue — never a message of the delay queue. -/
theorem icmp_report_names_no_queued_message {s : Sess} (hl : Ledger0 s) (hp : s.proto = .dtls) (hb : s.blockMode = false)
    (hg : s.lgCrcv = []) (evs : List (Ev × List Orc)) (o : List Orc) :
    ((s.run evs).1.step (.appDisconnect .icmp) o).1 = (s.run evs).1 ∧
    ∀ r tok j, Out.nack r tok (some j) ∈ ((s.run evs).1.step (.appDisconnect .icmp) o).2 →
      (∃ q0 tl, (s.run evs).1.inflight = q0 :: tl ∧ q0.sn = j) ∧ ∀ q ∈ (s.run evs).1.delayq, q.sn ≠ j := by
  have hN := run_nak0 hl hp hb hg evs 0
  have hlg : (s.run evs).1.lgCrcv = [] := hN.lg
  by_cases hfr : (s.run evs).1.freed = true
  · simp [Sess.step, Sess.stepCtx, hfr]
  · have hfr' : (s.run evs).1.freed = false := by simpa using hfr
    refine ⟨by simp [Sess.step, Sess.stepCtx, hfr', disconnected_icmp], ?_⟩
    intro r tok j hm
    simp only [Sess.step, Sess.stepCtx, hfr', Bool.false_eq_true, if_false, disconnected_icmp, List.nil_append,
      Ctx.discOuts, Ctx.discFirst, Ctx.discDq, Ctx.discLg, hlg] at hm
    cases hi : (s.run evs).1.inflight with
    | nil => simp [hi] at hm
    | cons q0 tl =>
      simp [hi, nackOf] at hm
      obtain ⟨_, _, rfl⟩ := hm
      refine ⟨⟨q0, tl, rfl, rfl⟩, fun q hq hqs => ?_⟩
      have hnd := hN.nd q0.sn
      have h1 := countP_sn_pos _ q hq
      rw [countP_sn_count, hqs] at h1
      simp only [hc, List.count_nil, Nat.zero_add, hi, sns, List.map_cons, List.count_cons_self] at hnd
      simp only [sns] at h1
      omega

/-! ### instances (every hypothesis of the theorems of this section on a non-trivial history) -/

/-- the establishing datagram: the handshake completes, NON 0 and CON 1 go out, CON 2 waits (NSTART) -/
def estDgram : Ev × List Orc := (.dgram, .hs .ok :: List.replicate 3 (Orc.snd .ok))

example : Ledger0 hsClient ∧ hsClient.proto = .dtls ∧ hsClient.blockMode = false ∧ hsClient.lgCrcv = [] :=
  ⟨⟨rfl, by decide, by decide, by decide, by decide⟩, rfl, rfl, rfl⟩

/-- after `okPre ++ [estDgram]`: CON 1 is the head of the send queue, CON 2 is in the delay queue, nothing reported so far, the
session is live — the hypotheses of `queued_not_nacked_while_held` / `queued_con_nacked_on_later_failure` for serials 1 and 2 -/
example : ((hsClient.run (okPre ++ [estDgram])).1.inflight.map fun q => (q.sn, q.con)) = [(1, true)] ∧
    ((hsClient.run (okPre ++ [estDgram])).1.delayq.map fun q => (q.sn, q.con)) = [(2, true)] ∧
    (hsClient.run (okPre ++ [estDgram])).1.freed = false ∧
    (List.range 4).map (fun j => nk j (hsClient.run (okPre ++ [estDgram])).2) = [0, 0, 0, 0] := ⟨rfl, rfl, rfl, rfl⟩

/-- D19a, the `decide`d WITNESS: the established session is torn down (coap_session_disconnected, TLS_FAILED).  The first in-flight
Confirmable (serial 1) is named by TWO NACKs — first loop of coap_session_disconnected_lkd, then coap_cancel_session_messages —,
the queued Confirmable (serial 2) by exactly ONE, the NON (serial 0, written and deleted) by none. -/
theorem d19a_first_inflight_reported_twice :
    (List.range 4).map (fun j => nk j (hsClient.run (okPre ++ [estDgram] ++ [(.appDisconnect .tls, [])])).2) = [0, 2, 1, 0] ∧
    (hsClient.run (okPre ++ [estDgram] ++ [(.appDisconnect .tls, [])])).2.filter Out.isNack =
      [.nack .tls (some "02") (some 1), .nack .tls (some "03") (some 2), .nack .tls (some "02") (some 1)] := by decide

/-- give-up after MAX_RETRANSMIT on the established session: serial 1 is reported ONCE (TOO_MANY_RETRIES), is off the send queue
while coap_session_connected flushes serial 2, and a later teardown does not name it again; serial 2 — now the first in-flight
message — is the one reported twice -/
example : (List.range 4).map (fun j => nk j (hsClient.run (okPre ++ [estDgram] ++
      [(.retransmit 8, [.snd .ok]), (.retransmit 8, [.snd .ok]), (.retransmit 8, [.snd .ok]), (.retransmit 8, [.snd .ok]),
       (.retransmit 8, [.snd .ok])])).2) = [0, 1, 0, 0] ∧
    (List.range 4).map (fun j => nk j (hsClient.run (okPre ++ [estDgram] ++
      [(.retransmit 8, [.snd .ok]), (.retransmit 8, [.snd .ok]), (.retransmit 8, [.snd .ok]), (.retransmit 8, [.snd .ok]),
       (.retransmit 8, [.snd .ok]), (.appDisconnect .tls, [])])).2) = [0, 1, 2, 0] := ⟨rfl, rfl⟩

/-- the write of the flush is refused AND the TLS library reports a fatal alert inside coap_session_connected: the session is torn
down while serial 0 is a detached node (neither queue holds it); the queued Confirmables 1 and 2 are reported once each -/
example : (List.range 4).map (fun j => nk j (hsClient.run (okPre ++ [(.dgram, [.hs .ok, .snd .fatalrx])])).2) = [0, 1, 1, 0] ∧
    (hsClient.run (okPre ++ [(.dgram, [.hs .ok, .snd .fatalrx])])).1.state = .none := ⟨rfl, rfl⟩

/-- ICMP after the establishment names the first in-flight message (advisory, not counted), never the queued one; the session is
untouched -/
example : ((hsClient.run (okPre ++ [estDgram])).1.step (.appDisconnect .icmp) []) =
    ((hsClient.run (okPre ++ [estDgram])).1, [.nack .icmp (some "02") (some 1)]) := rfl

/-- why "outside block mode": with an lg_crcv entry (CON + Observe, block mode) a Confirmable given up after MAX_RETRANSMIT
(reported: TOO_MANY_RETRIES) is reported AGAIN by a later coap_session_disconnected_lkd that finds nothing else to report — two
NACKs that are NOT the D19a pattern.  Model level (the harness has no give-up scenario in block mode); an in-flight matter (D19a:
C06/C07), recorded in design/C19.md. -/
example : nk 0 (({ hsClient with blockMode := true } : Sess).run
    [(.appSendL true true 1 7 "01", []), (.dgram, [.hs .ok, .snd .ok]),
     (.retransmit 7, [.snd .ok]), (.retransmit 7, [.snd .ok]), (.retransmit 7, [.snd .ok]), (.retransmit 7, [.snd .ok]),
     (.retransmit 7, []), (.appDisconnect .tls, [])]).2 = 2 := rfl

end Coap.C19
