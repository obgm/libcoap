import CoapVerif.Lemmas.Lock
import CoapVerif.Generated.ThreadCfg
/-
C13 — advertised thread safety: concurrent API use is serialised and never deadlocks.

  M = CoapVerif/Model/Lock.lean: `global_lock`, coap_lock_lock_func / coap_lock_unlock_func (both variants, `rc`),
      the four callback macros and the release window of an internal function (`Cb`), a repeated coap_startup() (the `startup`
      token), N threads (`Tid → …`, any number) each running a well-nested token program (`wn`), interleaved one token at a
      time (`Step`), blocking on the mutex (`tokStep … = none`).
  T1 = Generated/ThreadCfg.lean: what the build systems configure (is `#if COAP_THREAD_SAFE` taken, what does
      coap_threadsafe_is_supported() say), every COAP_API wrapper and every callback invocation site of the tree,
      the lock balance of every function that releases / takes the lock itself (`lockWindows`), and for every function that
      runs under the lock whether it calls a function that takes the lock itself (`heldFns`).

All theorems below hold for **any** number of threads, **any** well-nested programs, **any** interleaving (they are
statements about every `Reach`able state, proved from the invariant `Inv` of Lemmas/Lock.lean) and for both variants
of the lock functions.  The invariant and the lemmas about it live in CoapVerif/Lemmas/Lock.lean.
-/
namespace Coap.C13
open Coap Coap.Lock

variable {rc : Bool} {progs : Tid → List Tok} {s : Sys}

/-! ## T1: what is configured and what the source tree brackets -/

/-- in every build configuration: when coap_threadsafe_is_supported() says yes, the locking code is compiled in -/
theorem advertised_implies_compiled_all : ∀ c ∈ Generated.buildCfgs, c.advertised = true → c.compiledIn = true := by
  decide

/-- the default (CMake) configuration -/
theorem advertised_implies_compiled : Generated.advertised = true → Generated.lockingCompiledIn = true := by
  decide

/-- every COAP_API function takes the lock, calls its worker under the lock, and unlocks on every path -/
theorem api_sites_bracketed : ∀ a ∈ Generated.apiSites, a.locks = true ∧ a.callsLkd = true ∧ a.unlocks = true := by
  decide

/- Full statement — every invocation of an application-supplied function pointer goes through one of the
   coap_lock_callback* macros:
     theorem callback_sites_wrapped : ∀ c ∈ Generated.callbackSites, c.wrapped = true
   It is FALSE on the current tree (open finding `unwrapped-aux-callback`, KNOWN_FINDINGS.txt): the observe-persistence
   tracking callbacks (coap_persist_track_funcs), the OSCORE save_seq_num_func and two GnuTLS set-up callbacks are invoked
   under the lock without `in_callback++`, so a public-API call from inside them self-deadlocks.  Witness: -/
example : ∃ c ∈ Generated.callbackSites, c.listed = false ∧ c.wrapped = false := by decide

/-- every invocation of a callback of the types the property enumerates (request, response, NACK, event, ping and pong
handlers) goes through one of the coap_lock_callback* macros -/
theorem callback_sites_wrapped_partial : ∀ c ∈ Generated.callbackSites, c.listed = true → c.wrapped = true := by
  decide

/-- **release windows inside the library are balanced.**  Every function of the compiled sources that releases or
takes the global lock itself (COAP_API wrappers, coap_new_context, the callback-release sites, and the window around
the blocking wait in coap_io_process_with_fds_lkd: `coap_lock_unlock(ctx); epoll_wait(…); coap_lock_lock(ctx, …)`)
reaches every `return` / its end / every loop back-edge at the lock level it was entered with, the failure action of
every re-lock leaves the function, and nothing inside a release window touches library state.  (T1: the facts are
recomputed from the tree by extract/lockbal.py on every run — path-sensitive over the statement tree.) -/
theorem internal_windows_balanced : ∀ f ∈ Generated.lockWindows, f.balanced = true := by
  have h : Generated.lockWindows.all LockFn.balanced = true := by decide
  exact fun f hf => List.all_eq_true.mp h f hf

/-- the scan saw the construct: a non-API function entered with the lock held that unlocks and re-locks -/
theorem internal_windows_seen :
    ∃ f ∈ Generated.lockWindows, f.api = false ∧ f.entryHeld = true ∧ 0 < f.unlocks ∧ 0 < f.locks := by
  decide

/-- **library code never calls the lock-taking public API.**  No function of the compiled sources that runs under the
global lock — the `*_lkd` workers, everything reached from them by direct calls (the timer work of
coap_io_prepare_io_lkd: keepalive pings, retransmissions, session expiry; the receive path; …), the COAP_API wrappers
between their coap_lock_lock and coap_lock_unlock — calls a function that takes the lock at its own entry level
(a COAP_API wrapper, coap_new_context).  `lib_api_call_deadlocks_or_faults` below is why: such a call cannot succeed.
(T1: extract/lockbal.py `held_functions`, recomputed from the tree on every run; calls through function pointers are
not followed, the `func` arguments of the callback macros are application code.) -/
theorem no_api_call_under_lock : ∀ f ∈ Generated.heldFns, f.apiCalls = 0 := by
  decide +kernel

/-- the scan saw the construct: functions entered with the lock held that make calls under it (among them the timer
work of the I/O loop), and functions that take the lock themselves -/
theorem held_functions_seen :
    (∃ f ∈ Generated.heldFns, f.name = "coap_io_prepare_io_lkd" ∧ f.entersHeld = true ∧ 0 < f.heldCalls) ∧
    (∃ f ∈ Generated.heldFns, f.entersHeld = false ∧ 0 < f.heldCalls) := by
  decide +kernel

/-- the scan saw something -/
theorem sites_nonempty : Generated.apiSites ≠ [] ∧ Generated.callbackSites ≠ [] ∧ Generated.buildCfgs ≠ [] := by
  decide

/-! ## the lock protocol -/

/-- no `assert()` of the lock functions / macros can fail and the mutex is never unlocked by a thread that does not
hold it; `global_lock` stays consistent with its mutex -/
theorem no_assert_fails (hw : ∀ t, wn [] (progs t) = true) (hr : Reach rc progs s) : s.g.fault = false :=
  (inv_reach hw hr).cons.nofault

/-- a thread executing library code holds the mutex and is the recorded `pid` -/
theorem lib_holds_mutex (hw : ∀ t, wn [] (progs t) = true) (hr : Reach rc progs s) {t : Tid} (hl : inLib s t) :
    s.g.owner = some t ∧ s.g.pid = selfPid t := by
  have hi := inv_reach hw hr
  have ho := (view_lib (hi.lib_view hl)).1
  exact ⟨ho, hi.cons.own t ho⟩

/-- Library state is touched by at most one thread at a time -/
theorem mutual_exclusion (hw : ∀ t, wn [] (progs t) = true) (hr : Reach rc progs s) {t u : Tid}
    (ht : inLib s t) (hu : inLib s u) : t = u :=
  Option.some.inj ((lib_holds_mutex hw hr ht).1.symm.trans (lib_holds_mutex hw hr hu).1)

/-- **why library code must not call the public API itself** (the hypothesis `wn` makes about library code, checked on
the tree by T1 `no_api_call_under_lock`): for a thread that is executing library code, coap_lock_lock_func() — the entry
of every COAP_API wrapper — either blocks on the mutex the thread holds itself (`in_callback = 0`: self-deadlock, and with
it every other thread's API call blocks for ever), or, nested under a lock-keeping callback, returns with
`assert(global_lock.in_callback == global_lock.lock_count)` violated.  It never simply succeeds.
(Seeded defect C13-8: the keepalive branch of coap_io_prepare_io_lkd called coap_session_send_ping().) -/
theorem lib_api_call_deadlocks_or_faults (hw : ∀ t, wn [] (progs t) = true) (hr : Reach rc progs s) {t : Tid}
    (hl : inLib s t) :
    (lockFunc rc t s.g = none ∧ s.g.owner = some t) ∨ (∃ g', lockFunc rc t s.g = some g' ∧ g'.fault = true) := by
  have hi := inv_reach hw hr
  obtain ⟨ho, hk, hcn⟩ := view_lib (hi.lib_view hl)
  rw [lockFunc_eq hi.cons, if_neg (by simp [ho])]
  by_cases h0 : s.g.inCb = 0
  · rw [if_neg (by simp [h0])]
    exact Or.inl ⟨rfl, ho⟩
  · rw [if_pos ⟨ho, h0⟩]
    refine Or.inr ⟨_, rfl, ?_⟩
    -- `lock_count + 1` against `in_callback = lock_count`
    have hne : ¬ s.g.inCb = u32 (s.g.cnt + 1) := by unfold u32; omega
    simp [G.assert, hne]

/-- a thread runs under the lock: it is in library code or in a callback invoked with the lock kept -/
def underLock (s : Sys) (t : Tid) : Prop :=
  match (s.thr t).stack with
  | .api :: _ => True
  | .cb k :: _ => k.releases = false
  | [] => False

theorem underLock_owner (hi : Inv s) {v : Tid} (hv : underLock s v) : s.g.owner = some v := by
  refine (hi.thr v).owner_iff.2 ?_
  unfold underLock at hv
  generalize (s.thr v).stack = st at hv ⊢
  match st, hv with
  | .api :: _, _ => exact Or.inl rfl
  | .cb k :: _, h => exact Or.inr (by simp [keeps, h])

/-- the critical sections (library code *and* lock-keeping callbacks) of different threads never overlap -/
theorem critical_sections_exclusive (hw : ∀ t, wn [] (progs t) = true) (hr : Reach rc progs s) {t u : Tid}
    (ht : underLock s t) (hu : underLock s u) : t = u := by
  have hi := inv_reach hw hr
  exact Option.some.inj ((underLock_owner hi ht).symm.trans (underLock_owner hi hu))

/-- whoever changes `global_lock` while the mutex is taken is its holder: every token of every other thread blocks —
except a repeated coap_startup(), which any thread may issue at any time and which leaves `global_lock` untouched -/
theorem only_holder_moves (hw : ∀ t, wn [] (progs t) = true) (hr : Reach rc progs s) {t : Tid}
    {tok : Tok} {rest : List Tok} {g' : G} (hp : (s.thr t).prog = tok :: rest) (hs : tokStep rc t tok s.g = some g') :
    (tok = .startup ∧ g' = s.g) ∨ s.g.owner = none ∨ s.g.owner = some t := by
  have hi := inv_reach hw hr
  exact (tok_sim hi.cons (hi.thr_at hp) hs).2.2.imp_right And.left

/-- **a repeated coap_startup() is ignored** (man page: "subsequent calls are ignored"): whoever issues it, whenever,
`global_lock` and its mutex stay as they are — in particular while another thread is inside the library.  All theorems
of this file quantify over programs that may contain such calls at every application-level point (`wn`). -/
theorem repeated_startup_ignored (t : Tid) (g : G) : tokStep rc t .startup g = some g := rfl

/-- … so it never blocks and never lets a second thread into the library -/
theorem startup_enabled {t : Tid} {rest : List Tok} (hp : (s.thr t).prog = .startup :: rest) : enabled rc s t :=
  ⟨_, _, _, hp, rfl⟩

/-- **re-entry only by the owner from inside a callback**: if coap_lock_lock() succeeds while the mutex is taken, the
caller is the holder, it is inside an application callback, and `in_callback > 0` -/
theorem reentry_only_by_owner_in_callback (hw : ∀ t, wn [] (progs t) = true) (hr : Reach rc progs s)
    {t u : Tid} {rest : List Tok} {g' : G} (hp : (s.thr t).prog = .lock :: rest)
    (hs : tokStep rc t .lock s.g = some g') (ho : s.g.owner = some u) :
    u = t ∧ 0 < s.g.inCb ∧ ∃ k st, (s.thr t).stack = .cb k :: st := by
  have hi := inv_reach hw hr
  have ht := hi.thr_at hp
  have hl : lockFunc rc t s.g = some g' := hs
  rw [lockFunc_eq hi.cons, if_neg (by simp [ho])] at hl
  split at hl
  · next h =>
    obtain rfl : u = t := Option.some.inj (ho.symm.trans h.1)
    refine ⟨rfl, Nat.pos_of_ne_zero h.2, ?_⟩
    match hst : (s.thr u).stack with
    | .cb k :: st => exact ⟨k, st, rfl⟩
    | [] => exact absurd ho (ht.top_not_owner hst)
    | .api :: st => have := (wn_lock ht.wn).1; simp [hst, isApiTop] at this
  · cases hl

/-- When a thread's top-level API call returns (the `unlock` that empties its call stack), the mutex is
free, `pid = 0`, `in_callback = 0`, `lock_count = 0` and no assertion has failed -/
theorem balanced (hw : ∀ t, wn [] (progs t) = true) (hr : Reach rc progs s) {t : Tid} {rest : List Tok} {g' : G}
    (hst : (s.thr t).stack = [.api]) (hp : (s.thr t).prog = .unlock :: rest)
    (hs : tokStep rc t .unlock s.g = some g') :
    g' = G.init := by
  have hi := inv_reach hw hr
  obtain ⟨c', ti', hoo⟩ := tok_sim hi.cons (hi.thr_at hp) hs
  refine c'.init_of_free ?_
  rcases hoo with h | ⟨_, h | h⟩
  · cases h.1
  · exact h
  · exact absurd h (ti'.top_not_owner (by rw [hst]; rfl))

/-- balanced, state form: whenever every thread is at its top level, `global_lock` is in its initial state -/
theorem balanced_quiescent (hw : ∀ t, wn [] (progs t) = true) (hr : Reach rc progs s)
    (hq : ∀ t, (s.thr t).stack = []) : s.g = G.init := by
  have hi := inv_reach hw hr
  refine hi.cons.init_of_free (Option.eq_none_iff_forall_ne_some.2 fun t => ?_)
  exact (hi.thr t).top_not_owner (hq t)

/-- a blocked thread is blocked by *another* thread holding the mutex — never by itself -/
theorem no_self_deadlock (hw : ∀ t, wn [] (progs t) = true) (hr : Reach rc progs s) {t : Tid}
    (hb : blocked rc s t) : ∃ u, u ≠ t ∧ s.g.owner = some u := by
  have hi := inv_reach hw hr
  obtain ⟨tok, rest, hp, hs⟩ := hb
  exact tok_blocked hi.cons (hi.thr_at hp) hs

theorem holder_not_blocked (hw : ∀ t, wn [] (progs t) = true) (hr : Reach rc progs s) {t : Tid}
    (ho : s.g.owner = some t) : ¬ blocked rc s t := by
  intro hb
  obtain ⟨u, hu, hou⟩ := no_self_deadlock hw hr hb
  rw [ho] at hou
  exact hu (Option.some.inj hou).symm

/-- Inside a callback invoked with the lock kept (coap_lock_callback / coap_lock_callback_ret) a call
of the public API is never refused; inside a callback invoked with the lock released it is refused only while a
*different* thread holds the mutex -/
theorem reentrancy_ok (hw : ∀ t, wn [] (progs t) = true) (hr : Reach rc progs s) {t : Tid} {k : Cb}
    {st : List Frame} {rest : List Tok} (hst : (s.thr t).stack = .cb k :: st) (hp : (s.thr t).prog = .lock :: rest) :
    (k.releases = false → ∃ g', tokStep rc t .lock s.g = some g') ∧
    (tokStep rc t .lock s.g = none → ∃ u, u ≠ t ∧ s.g.owner = some u) := by
  refine ⟨fun hk => ?_, fun hn => no_self_deadlock hw hr ⟨_, _, hp, hn⟩⟩
  cases hs : tokStep rc t .lock s.g with
  | some g' => exact ⟨g', rfl⟩
  | none =>
    -- t runs under the lock, so it is the holder
    have ho := underLock_owner (inv_reach hw hr) (v := t) (by simp [underLock, hst, hk])
    exact (holder_not_blocked hw hr ho ⟨_, _, hp, hs⟩).elim

/-- Whenever a thread is blocked, the thread holding the mutex is a different one and is able to
take its next step — so there is no reachable state in which a thread is blocked while every other thread has
terminated or is itself blocked -/
theorem no_deadlock (hw : ∀ t, wn [] (progs t) = true) (hr : Reach rc progs s) {t : Tid}
    (hb : blocked rc s t) : ∃ u, u ≠ t ∧ s.g.owner = some u ∧ enabled rc s u := by
  have hi := inv_reach hw hr
  obtain ⟨u, hu, ho⟩ := no_self_deadlock hw hr hb
  refine ⟨u, hu, ho, ?_⟩
  have htu := hi.thr u
  -- u holds the mutex, so its stack is not empty, so its program is not finished
  have hne : (s.thr u).stack ≠ [] := fun he => htu.top_not_owner he ho
  obtain ⟨f, st, hst⟩ := List.exists_cons_of_ne_nil hne
  have hwn := htu.wn
  rw [hst] at hwn
  obtain ⟨tok, rest, hp⟩ := List.exists_cons_of_ne_nil (wn_nonempty hwn)
  exact (enabled_or_blocked hp).resolve_right (holder_not_blocked hw hr ho)

theorem enabled_not_blocked {t : Tid} (he : enabled rc s t) : ¬ blocked rc s t ∧ ¬ terminated s t := by
  obtain ⟨tok, rest, g', hp, hs⟩ := he
  refine ⟨fun ⟨tok', rest', hp', hs'⟩ => ?_, fun ht => ?_⟩
  · rw [hp] at hp'; cases hp'; rw [hs] at hs'; cases hs'
  · unfold terminated at ht; rw [hp] at ht; cases ht

/-- the property's wording: no thread blocks forever once the others return — if every other thread has terminated
(or is blocked) then `t` is not blocked -/
theorem not_blocked_once_others_return (hw : ∀ t, wn [] (progs t) = true) (hr : Reach rc progs s) {t : Tid}
    (ho : ∀ u, u ≠ t → terminated s u ∨ blocked rc s u) : ¬ blocked rc s t := by
  intro hb
  obtain ⟨u, hu, _, he⟩ := no_deadlock hw hr hb
  have := enabled_not_blocked he
  rcases ho u hu with h | h
  · exact this.2 h
  · exact this.1 h

/-- progress: as long as some thread has not finished, the system can take a step -/
theorem progress (hw : ∀ t, wn [] (progs t) = true) (hr : Reach rc progs s) {t : Tid}
    (hn : ¬ terminated s t) : ∃ s', Step rc s s' := by
  obtain ⟨tok, rest, hp⟩ := List.exists_cons_of_ne_nil hn
  have mk : ∀ u, enabled rc s u → ∃ s', Step rc s s' := fun u ⟨tok, rest, g', hp, hs⟩ =>
    ⟨_, Step.mk s u tok rest g' hp hs⟩
  rcases enabled_or_blocked (rc := rc) hp with he | hb
  · exact mk t he
  · obtain ⟨u, _, _, he⟩ := no_deadlock hw hr hb
    exact mk u he

/-- every call completes with the library's own bookkeeping intact: after any run in which all threads have
finished, the lock is back in its initial state -/
theorem all_done_lock_initial (hw : ∀ t, wn [] (progs t) = true) (hr : Reach rc progs s)
    (hd : ∀ t, terminated s t) : s.g = G.init := by
  apply balanced_quiescent hw hr
  intro t
  have ht := (inv_reach hw hr).thr t
  have hwn := ht.wn
  match hst : (s.thr t).stack with
  | [] => rfl
  | f :: st => rw [hst] at hwn; exact absurd (hd t) (wn_nonempty hwn)

/-! ## release windows (`Cb.win`): the I/O thread waiting in coap_io_process()

`mutual_exclusion`, `balanced`, `no_deadlock`, … above are stated for all well-nested programs, and `wn` admits
`cbIn win … cbOut win` wherever it admits a callback macro, so they cover programs with release windows.  The two
theorems below are what the window is *for*. -/

/-- a thread inside a release window (or a `…_release` callback) directly under a top-level API call does not hold
the mutex -/
theorem window_mutex_free (hw : ∀ t, wn [] (progs t) = true) (hr : Reach rc progs s) {t : Tid} {k : Cb}
    (hk : k.releases = true) (hst : (s.thr t).stack = [.cb k, .api]) : s.g.owner ≠ some t := by
  intro ho
  have := ((inv_reach hw hr).thr t).owner_iff.1 ho
  simp [hst, isApiTop, keeps, hk] at this

/-- **while another thread sits in coap_io_process()** (inside the release window around its blocking wait) and all
remaining threads are at their top level, a public API call of any other thread is not refused -/
theorem api_call_enters_during_window (hw : ∀ t, wn [] (progs t) = true) (hr : Reach rc progs s) {t u : Tid} {k : Cb}
    (hk : k.releases = true) (hst : (s.thr t).stack = [.cb k, .api]) (hothers : ∀ v, v ≠ t → (s.thr v).stack = [])
    {rest : List Tok} (hp : (s.thr u).prog = .lock :: rest) : enabled rc s u := by
  have hi := inv_reach hw hr
  have hno : s.g.owner = none := by
    refine Option.eq_none_iff_forall_ne_some.2 fun v => ?_
    by_cases hvt : v = t
    · subst hvt; exact window_mutex_free hw hr hk hst
    · exact (hi.thr v).top_not_owner (hothers v hvt)
  refine (enabled_or_blocked hp).resolve_right fun hb => ?_
  obtain ⟨v, _, hv⟩ := no_self_deadlock hw hr hb
  rw [hno] at hv
  cases hv

/-- thread 0: coap_io_process() = an API call with a release window; thread 1: an API call that runs an event handler -/
def ioProgs : Tid → List Tok
  | 0 => [.lock, .cbIn .win, .cbOut .win, .unlock]
  | 1 => [.lock, .cbIn .keep, .cbOut .keep, .unlock]
  | _ => []

example : ∀ t, wn [] (ioProgs t) = true := by
  intro t
  match t with
  | 0 => decide
  | 1 => decide
  | _ + 2 => rfl

/-- non-vacuity: the I/O thread is in its window, thread 1 has entered the library meanwhile; the I/O thread's re-lock
(`cbOut win`) is refused until thread 1 returns — which it can (the seeded defect "EINTR path skips the re-lock" is a
program that is *not* of this shape: T1 `internal_windows_balanced` is what excludes it) -/
example : ∃ s, Reach false ioProgs s ∧ (s.thr 0).stack = [.cb .win, .api] ∧ inLib s 1 ∧ blocked false s 0 ∧
    enabled false s 1 := by
  refine ⟨_, Reach.step (Reach.step (Reach.step Reach.init
    (Step.mk (Sys.init ioProgs) 0 .lock _ _ rfl rfl)) (Step.mk _ 0 (.cbIn .win) _ _ rfl rfl))
    (Step.mk _ 1 .lock _ _ rfl rfl), rfl, rfl, ?_, ?_⟩
  · exact ⟨.cbOut .win, _, rfl, by decide⟩
  · exact ⟨.cbIn .keep, _, _, rfl, rfl⟩

/-- one thread alone: `lock; window; unlock` runs through and leaves the lock in its initial state -/
example : runSeq (tokStep false) 0 (ioProgs 0) G.init =
    [some ⟨true, 0, 0, true, false⟩, some ⟨false, 0, 0, false, false⟩, some ⟨true, 0, 0, true, false⟩,
     some ⟨false, 0, 0, false, false⟩] := by decide

/-! ## the pinned defect, as a `decide`d witness: `[api [callback_ret []]]`

With coap_lock_callback_ret as it was in the pinned tree (no-recursive-check variant: `in_callback++` twice, `--` once)
one thread running `lock; cbIn ret; cbOut ret; unlock` ends with the mutex still held, `in_callback = 1`, the
`assert(lock_count > 0)` of coap_lock_unlock_func violated and `lock_count` wrapped to 2^32-1: `balanced` is false for
that macro.  The same run through the fixed macros (M) ends in `G.init`. -/

def witness : List Tok := [.lock, .cbIn .ret, .cbOut .ret, .unlock]

example : wn [] witness = true := by decide

example : runSeq (Pinned.tokStep false) 0 witness G.init =
    [some ⟨true, 0, 0, true, false⟩, some ⟨true, 2, 0, true, false⟩, some ⟨true, 1, 0, true, false⟩,
     some ⟨true, 1, 4294967295, true, true⟩] := by decide

example : runSeq (tokStep false) 0 witness G.init =
    [some ⟨true, 0, 0, true, false⟩, some ⟨true, 1, 0, true, false⟩, some ⟨true, 0, 0, true, false⟩,
     some ⟨false, 0, 0, false, false⟩] := by decide

/-! ## non-vacuity: concrete well-nested programs and a concrete reachable, contended state -/

/-- thread 0: an API call whose event callback re-enters the API; thread 1: an API call with a released request
handler that calls the API; all other threads: nothing -/
def exProgs : Tid → List Tok
  | 0 => [.lock, .cbIn .ret, .lock, .unlock, .cbOut .ret, .unlock]
  | 1 => [.lock, .cbIn .rel, .lock, .unlock, .cbOut .rel, .unlock]
  | _ => []

example : ∀ t, wn [] (exProgs t) = true := by
  intro t
  match t with
  | 0 => decide
  | 1 => decide
  | _ + 2 => rfl

/-- thread 0 has entered the API: thread 1 is blocked, thread 0 is enabled (hypotheses of `no_deadlock`) -/
example : ∃ s, Reach false exProgs s ∧ blocked false s 1 ∧ enabled false s 0 ∧ inLib s 0 := by
  refine ⟨_, Reach.step Reach.init (Step.mk (Sys.init exProgs) 0 .lock _ _ rfl rfl), ?_, ?_, ?_⟩
  · exact ⟨.lock, _, rfl, by decide⟩
  · exact ⟨.cbIn .ret, _, _, rfl, rfl⟩
  · rfl

/-! ## repeated coap_startup() (seeded defect C13-7) and a library → API call (C13-8): witnesses -/

/-- thread 0: an API call running an event handler that itself calls coap_startup(); thread 1: coap_startup() again, then
an API call -/
def startupProgs : Tid → List Tok
  | 0 => [.lock, .cbIn .ret, .startup, .cbOut .ret, .unlock]
  | 1 => [.startup, .lock, .unlock, .startup]
  | _ => []

example : ∀ t, wn [] (startupProgs t) = true := by
  intro t
  match t with
  | 0 => decide
  | 1 => decide
  | _ + 2 => rfl

/-- library code may not call coap_startup() through the grammar either (it is an application-level token) -/
example : wn [] [.lock, .startup, .unlock] = false := by decide

/-- non-vacuity: thread 0 is inside the library, thread 1 has issued its repeated coap_startup(): its API call is
still refused, thread 0 goes on -/
example : ∃ s, Reach false startupProgs s ∧ inLib s 0 ∧ (s.thr 1).prog = [.lock, .unlock, .startup] ∧
    blocked false s 1 ∧ enabled false s 0 := by
  refine ⟨_, Reach.step (Reach.step Reach.init (Step.mk (Sys.init startupProgs) 0 .lock _ _ rfl rfl))
    (Step.mk _ 1 .startup _ _ rfl rfl), rfl, rfl, ?_, ?_⟩
  · exact ⟨.lock, _, rfl, by decide⟩
  · exact ⟨.cbIn .ret, _, _, rfl, rfl⟩

/-- with the lock initialised in front of the `coap_started` guard (`Seeded.startupFunc`) the same schedule lets thread 1
into the library while thread 0 is in it: after `lock₀; startup₁; lock₁` the mutex belongs to thread 1 and thread 0's
unlock finds `pid` ≠ itself (`fault`) and releases a mutex it does not hold -/
example : (do
      let g ← Seeded.tokStep false 0 .lock G.init
      let g ← Seeded.tokStep false 1 .startup g
      let g ← Seeded.tokStep false 1 .lock g          -- must block; it does not
      let g' ← Seeded.tokStep false 0 .unlock g
      pure (g.owner, g'.fault)) = some (some 1, true) := by decide

/-- the fixed order: the same three tokens leave thread 1 blocked -/
example : (do
      let g ← tokStep false 0 .lock G.init
      let g ← tokStep false 1 .startup g
      tokStep false 1 .lock g) = none := by decide

/-- C13-8's shape, both variants: a thread in library code (`[api]`, in_callback = 0) calling a COAP_API function blocks
on its own mutex -/
example : (tokStep false 0 .lock G.init).bind (lockFunc false 0) = none ∧
    (tokStep true 0 .lock G.init).bind (lockFunc true 0) = none := by decide

/-- … nested under a lock-keeping callback (`[api, cb keep, api]`) the call returns, with the assertion violated -/
example : ((runSeq (tokStep false) 0 [.lock, .cbIn .keep, .lock] G.init).getLast? = some (some ⟨true, 1, 1, true, false⟩)) ∧
    (((tokStep false 0 .lock G.init).bind (tokStep false 0 (.cbIn .keep))).bind (tokStep false 0 .lock)).bind
      (lockFunc false 0) = some ⟨some 0, 1, 1, 2, true⟩ := by decide

end Coap.C13
