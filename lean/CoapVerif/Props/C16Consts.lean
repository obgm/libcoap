import CoapVerif.Model.Uri
import CoapVerif.Generated.Consts2
/-
C16 / T1 — the character tables and the scheme table of the URI model come from Generated/UriTab.lean
(extract/uritab.c evaluates libcoap's own functions and dumps `coap_uri_scheme[]`); here that table is
cross-checked against the macros / enum values of extract/consts2.c, and the remaining numerals of Model/Uri.lean
(UINT16_MAX of the port loop, the default-port switch of coap_uri_into_optlist, option numbers) are tied.
-/
namespace Coap.C16
open Coap Coap.MU Coap.Generated

/-- `coap_uri_scheme[]` as dumped: scheme ids are the `coap_uri_scheme_t` enum values in order, `COAP_URI_SCHEME_LAST`
entries; the coap / coaps / +tcp entries carry COAP_DEFAULT_PORT / COAPS_DEFAULT_PORT by the secure bit -/
theorem schemeTable_matches_code :
    Uri.schemes.map (·.2.2.2) =
      [C2.COAP_URI_SCHEME_COAP, C2.COAP_URI_SCHEME_COAPS, C2.COAP_URI_SCHEME_COAP_TCP, C2.COAP_URI_SCHEME_COAPS_TCP,
       C2.COAP_URI_SCHEME_HTTP, C2.COAP_URI_SCHEME_HTTPS, C2.COAP_URI_SCHEME_COAP_WS, C2.COAP_URI_SCHEME_COAPS_WS] ∧
    Uri.schemes.length = C2.COAP_URI_SCHEME_LAST ∧ Uri.defaultPort = C2.COAP_DEFAULT_PORT ∧
    (∀ e ∈ Uri.schemes, e.2.2.2 < C2.COAP_URI_SCHEME_HTTP →
      e.2.1 = if e.2.2.2 % 2 = C2.COAP_URI_SCHEME_SECURE_MASK then C2.COAPS_DEFAULT_PORT else C2.COAP_DEFAULT_PORT) := by decide

/-- the guard `e.2.2.2 < COAP_URI_SCHEME_HTTP` above is met by table entries (coap … coaps+tcp) -/
example : ∃ e ∈ Uri.schemes, e.2.2.2 < C2.COAP_URI_SCHEME_HTTP ∧ e.2.1 = C2.COAPS_DEFAULT_PORT := by decide

/-- the "Add in UriPort if not default" switch of coap_uri_into_optlist (the `dflt` of `uriIntoOptlist`): for every scheme
of the table, the port the model compares with is the table's default port, and it is the port the C switch names
(80 / 443 literals by source scan, else COAPS_DEFAULT_PORT / COAP_DEFAULT_PORT by the secure bit) -/
theorem defaultPortSwitch_matches_code :
    ∀ e ∈ Uri.schemes,
      (if e.2.2.2 = 4 || e.2.2.2 = 6 then 80 else if e.2.2.2 = 5 || e.2.2.2 = 7 then 443
       else if e.2.2.2 % 2 = 1 then 5684 else 5683) = e.2.1 ∧
      e.2.1 =
        (if e.2.2.2 = C2.COAP_URI_SCHEME_HTTP || e.2.2.2 = C2.COAP_URI_SCHEME_COAP_WS then C2.uriHttpPort
         else if e.2.2.2 = C2.COAP_URI_SCHEME_HTTPS || e.2.2.2 = C2.COAP_URI_SCHEME_COAPS_WS then C2.uriHttpsPort
         else if e.2.2.2 % 2 = C2.COAP_URI_SCHEME_SECURE_MASK then C2.COAPS_DEFAULT_PORT else C2.COAP_DEFAULT_PORT) := by decide

/-- `while ((p < q) && (uri_port <= UINT16_MAX))`, for every digit string and accumulator -/
theorem portLoop_matches_code (ds : Bytes) (v : Nat) :
    portLoop ds v =
      match ds with
      | [] => v
      | c :: r => if v ≤ C2.UINT16_MAX then portLoop r (v * 10 + (c.toNat - 48)) else v := by
  cases ds <;> rfl

/-- `seg.length % 65536`: coap option lengths handed on as `uint16_t`-ranged values -/
theorem optVal_matches_code (seg : Bytes) : optVal seg = seg.take (seg.length % (C2.UINT16_MAX + 1)) := rfl

/-- `if (uri_port > UINT16_MAX) error`, `uri->port` is a `uint16_t`; option numbers Uri-Host 3, Uri-Port 7, Uri-Path 11,
Uri-Query 15 of `uriIntoOptlist` -/
theorem uri_numerals_match_code :
    (65535 : Nat) = C2.UINT16_MAX ∧ (65536 : Nat) = C2.uriPortModulus ∧ (3 : Nat) = C2.COAP_OPTION_URI_HOST ∧
    (7 : Nat) = C2.COAP_OPTION_URI_PORT ∧ (11 : Nat) = C2.COAP_OPTION_URI_PATH ∧ (15 : Nat) = C2.COAP_OPTION_URI_QUERY := by decide

end Coap.C16
