import CoapVerif.Lemmas.ServerProps
import CoapVerif.Lemmas.Async
import CoapVerif.Lemmas.AsyncRefs
import CoapVerif.Lemmas.AsyncPass
/-
C10 — server answers each request datagram once, with the protocol-prescribed code.

P1  `decision_eq_spec`: M (transcription of coap_dispatch / handle_request, Model/Server.lean) = S (Spec/Server.lean)
    up to the diagnostic content of library-generated replies (SPEC DECISION D4), for all configurations, tables, requests.
P2  the clauses of the property as theorems about S (and, through P1, about M): reply count, token echo, message id,
    NON never ACKed, 4.02/Reset, 4.04/2.02, 4.05, 4.12, 4.15, 5.05, 5.08/4.00, the handler call and its request view,
    No-Response / multicast suppression.
T1  tables regenerated from the code are proved equal to the RFC tables of S; the handlers the resource constructors
    register by themselves are proved to be the documented ones.
SEQ sequences of datagrams from several peers at one context (deferred responses, duplicate proxied requests):
    `sequence_eq_spec` (M = S on every sequence from every history), `pending_of_others_irrelevant` (a request is decided
    as on a fresh context unless the SAME peer has a deferred request with the SAME token / sent the same message id to the
    proxy handler before), `deferred_retransmission_acked`, reply shape and count for every history.
ASYNC the deferred-response machine (Model/Async.lean: entry list, session references, idle reaper, the second pass of
    handle_request on the stored copy), for every pair of decision procedures and every event sequence: what
    coap_check_async hands over and the wait it reports, one entry per (session, token), the reference balance `L.Bal`,
    the second pass against the first under an unchanged and under a changed resource table.
-/
namespace Coap.C10
open Coap Coap.Server Coap.Server.L Coap.Generated.Server

/-! ### T1 tables against S -/
/-- the built-in list of coap_option_check_critical is RFC 7252's critical options + Block1/Block2 -/
theorem critical_table_matches_rfc : criticalBuiltin = S.recognisedCritical := critical_eq
/-- coap_option_check_repeatable rejects exactly the options the RFCs define as non-repeatable -/
theorem repeatable_table_matches_rfc : nonRepeatable = S.nonRepeatable := nonrep_eq
/-- coap_check_code_class on UDP accepts exactly classes 0, 2, 3, 4, 5 -/
theorem code_class_table_matches_rfc : ∀ c, inIvs codeOk c = S.validCode c := codeOk_eq
/-- the executable S of the differential run uses the legal part of the implementation's escape choice: it is the
choice itself.  This is the one fact about the tables that is read off them byte by byte (2 × 256 bytes, evaluated by
the kernel); `escape_tables_legal` follows from it. -/
theorem escape_restrict_id : S.Esc.restrict E = E := by decide +kernel

/-- what coap_get_uri_path / coap_get_query leave unescaped is allowed unescaped by RFC 3986: the tables are their own
legal part, and the legal part of any choice is legal (`restrict_legal`) -/
theorem escape_tables_legal : S.Esc.legal E := escape_restrict_id ▸ restrict_legal E

/-- the escape choice the executable S of the differential run works with (`Driver/Server.lean`: `S.Esc.restrict` of the
generated tables) is legal whatever the tables are -/
theorem restricted_tables_legal : S.Esc.legal (S.Esc.restrict E) := restrict_legal E

example : fits ⟨true, 8, [65001, 21, 2049]⟩ := by decide

/-- P1 for a request that finds state left by earlier datagrams: for every configuration, table, request and whatever
it finds (`hit`, `dup`), M = S up to D4 -/
theorem decisionA_eq_specA (hit dup : Bool) (cfg : Cfg) (tbl : Table) (rq : Request) (hfit : fits cfg) :
    (M.serverDecisionA hit dup cfg tbl rq).erase = S.serverSpecA E hit dup cfg tbl rq := by
  unfold M.serverDecisionA S.serverSpecA
  simp only [codeOk_eq]
  by_cases h1 : S.validCode rq.msg.code = true
  · simp only [h1, not_true_eq_false, if_false]
    by_cases h2 : isRequestCode rq.msg.code = true
    · simp only [h2, not_true_eq_false, if_false]
      by_cases h3 : rq.verdict.code = 168
      · simp [h3, Outcome.erase, Outcome.outOfScope]
      · simp only [h3, if_false]
        have hfwd : decide (tbl.prx.isSome = true ∧ (hasOpt rq.msg.opts 35 = true ∨ hasOpt rq.msg.opts 39 = true)) =
            (tbl.prx.isSome && (hasOpt rq.msg.opts 35 || hasOpt rq.msg.opts 39)) := by
          cases tbl.prx.isSome <;> cases hasOpt rq.msg.opts 35 <;> cases hasOpt rq.msg.opts 39 <;> rfl
        rw [hfwd]
        generalize (tbl.prx.isSome && (hasOpt rq.msg.opts 35 || hasOpt rq.msg.opts 39)) = fwd
        obtain ⟨hok, hcrit⟩ := critCheck_spec hfit fwd rq.msg.opts
        cases hbad : S.badOption cfg fwd rq.msg.opts with
        | true =>
          -- 4.02 / Reset / nothing, by the type of the request
          have hok' : (M.critCheck (M.knownFilter cfg) fwd rq.msg.opts).ok = false := by rw [hok, hbad]; rfl
          by_cases hn : rq.msg.type = NON
          · cases rq.mcast <;> simp [hok', hn, Outcome.erase, erase_emptyMsg]
          · by_cases hc : rq.msg.type = CON
            · simp [hok', hc, CON, NON, erase_outcome, erase_errReply]
            · simp [hok', hn, hc, Outcome.erase, Outcome.nothing]
        | false =>
          have hok' : (M.critCheck (M.knownFilter cfg) fwd rq.msg.opts).ok = true := by rw [hok, hbad]; rfl
          simp only [hok', not_true_eq_false, if_false, Bool.false_eq_true]
          by_cases h9 : hasOpt rq.msg.opts 9 = true
          · simp [h9, Outcome.erase, Outcome.outOfScope]
          by_cases ha : rq.msg.type = ACK
          · simp [h9, ha, Outcome.erase, Outcome.nothing]
          by_cases hr : rq.msg.type = RST
          · simp [h9, hr, Outcome.erase, Outcome.nothing]
          simp only [h9, ha, hr, or_self, if_false]
          by_cases htok : rq.msg.token.length > cfg.mts
          · by_cases hm : cfg.mts > 8
            · simp [htok, hm, erase_outcome, erase_errReply]
            · by_cases hx : rq.mcast = true ∧ rq.msg.type = NON <;> simp [htok, hm, hx, Outcome.erase, erase_emptyMsg]
          · simp only [htok, if_false]
            rw [hcrit hok']
            exact handleA_eq hit dup cfg tbl rq _ h3
    · simp [h2, Outcome.erase, Outcome.outOfScope]
  · simp only [h1]
    by_cases ht : rq.msg.type = CON <;> simp [ht, Outcome.erase, erase_emptyMsg]

/-- P1: the transcription M of coap_dispatch()/handle_request() prescribes, up to the diagnostic content of
library-generated replies (SPEC DECISION D4), exactly the outcome S prescribes — for every configuration whose option
registrations fit, every resource table and every request. -/
theorem decision_eq_spec (cfg : Cfg) (tbl : Table) (rq : Request) (hfit : fits cfg) :
    (M.serverDecision cfg tbl rq).erase = S.serverSpec E cfg tbl rq := by
  rw [← serverDecisionA_fresh, ← serverSpecA_fresh]
  exact decisionA_eq_specA false false cfg tbl rq hfit

example : (M.serverDecision ⟨false, 8, []⟩ ⟨none, none, [⟨[97], 1, 0, false⟩]⟩
    ⟨false, ⟨0, 1, 7, [1], [(11, [97])], []⟩, ⟨69, [104, 105]⟩, .absent⟩).erase =
    ⟨true, [⟨.app, ACK, 69, 7, [1], [], .bytes [104, 105]⟩], some ⟨.res 0, 1, [97], [], [(11, [97])], []⟩⟩ := by decide

/-! ### reply count and shape -/
theorem erase_fields (x : Reply) : x.erase.type = x.type ∧ x.erase.code = x.code ∧ x.erase.mid = x.mid ∧ x.erase.token = x.token := by
  unfold Reply.erase; cases x.src <;> simp

/-- `erase` keeps type, code, message id and token of every reply, and the handler call -/
theorem shape_of_erase {rq : Request} {o s : Outcome} (he : o.erase = s) (h : outcomeOk rq s) :
    (∀ x ∈ o.replies, replyOk rq x) ∧
    (o.replies.length ≤ 1 ∨
      ∃ a x, o.replies = [a, x] ∧ a.type = ACK ∧ a.code = 0 ∧ a.mid = rq.msg.mid ∧ x.type = CON ∧
        ∃ c, o.call = some c ∧ c.who = .prx) := by
  subst he
  constructor
  · intro x hx
    have hx' := h.1 x.erase (List.mem_map_of_mem hx)
    obtain ⟨t, c, m, k⟩ := erase_fields x
    unfold replyOk at hx' ⊢
    rw [t, c, m, k] at hx'
    exact hx'
  · rcases h.2 with h2 | ⟨x, h1, h2, c, h3, h4⟩
    · exact Or.inl (List.length_map (f := Reply.erase) ▸ h2)
    · obtain ⟨a, l, hl, ha, h1⟩ := List.map_eq_cons_iff.1 h1
      obtain ⟨b, l', rfl, hb, h1⟩ := List.map_eq_cons_iff.1 h1
      obtain rfl := List.map_eq_nil_iff.1 h1
      obtain ⟨t, cd, m, _⟩ := erase_fields a
      rw [ha] at t cd m
      exact Or.inr ⟨a, b, hl, t.symm, cd.symm, m.symm, (erase_fields b).1.symm.trans (hb ▸ h2), c, h3, h4⟩

theorem model_reply_ok (cfg : Cfg) (tbl : Table) (rq : Request) (hfit : fits cfg) :
    ∀ x ∈ (M.serverDecision cfg tbl rq).replies, replyOk rq x :=
  (shape_of_erase (decision_eq_spec cfg tbl rq hfit) (outcome_ok E cfg tbl rq)).1

/-- "it emits at most one direct reply": at most one message — or, for a proxied Confirmable request, the Empty ACK
followed by the separate Confirmable response of the proxy handler (SPEC DECISION D8) -/
theorem at_most_one_reply (cfg : Cfg) (tbl : Table) (rq : Request) (hfit : fits cfg) :
    (M.serverDecision cfg tbl rq).replies.length ≤ 1 ∨
    ∃ a x, (M.serverDecision cfg tbl rq).replies = [a, x] ∧ a.type = ACK ∧ a.code = 0 ∧ a.mid = rq.msg.mid ∧
      x.type = CON ∧ ∃ c, (M.serverDecision cfg tbl rq).call = some c ∧ c.who = .prx :=
  (shape_of_erase (decision_eq_spec cfg tbl rq hfit) (outcome_ok E cfg tbl rq)).2

example : (M.serverDecision ⟨false, 8, []⟩ ⟨none, some ⟨127, 0, [112]⟩, []⟩
    ⟨false, ⟨0, 1, 7, [1], [(3, [104]), (39, [99])], []⟩, ⟨69, []⟩, .absent⟩).replies.length = 2 := by decide

/-- "which, unless it is an Empty ACK, echoes the request's token" -/
theorem reply_echoes_token (cfg : Cfg) (tbl : Table) (rq : Request) (hfit : fits cfg) :
    ∀ x ∈ (M.serverDecision cfg tbl rq).replies, x.code ≠ 0 → x.token = rq.msg.token :=
  fun x hx => (model_reply_ok cfg tbl rq hfit x hx).2.1

/-- "and, for a Confirmable request, acknowledges its message id": every message carries the request's message id, a
Reset is empty, and a Confirmable message only answers a Confirmable request (that an ACK only answers a Confirmable
request is `non_never_acked`) -/
theorem con_reply_acks_mid (cfg : Cfg) (tbl : Table) (rq : Request) (hfit : fits cfg) :
    ∀ x ∈ (M.serverDecision cfg tbl rq).replies,
      x.mid = rq.msg.mid ∧ (x.type = RST → x.code = 0) ∧ (x.type = CON → rq.msg.type = CON) :=
  fun x hx => let h := model_reply_ok cfg tbl rq hfit x hx; ⟨h.1, h.2.2.2.1, h.2.2.2.2⟩

/-- "Non-confirmable requests are never answered with ACK" -/
theorem non_never_acked (cfg : Cfg) (tbl : Table) (rq : Request) (hfit : fits cfg) (hn : rq.msg.type ≠ CON) :
    ∀ x ∈ (M.serverDecision cfg tbl rq).replies, x.type ≠ ACK :=
  fun x hx ha => hn ((model_reply_ok cfg tbl rq hfit x hx).2.2.1 ha)

example : (M.serverDecision ⟨false, 8, []⟩ ⟨none, none, []⟩
    ⟨false, ⟨1, 1, 7, [1], [(11, [97])], []⟩, ⟨69, []⟩, .absent⟩).replies.map (·.type) = [NON] := by decide

/-! ### clause theorems (P2): each clause of the property as a theorem about S -/

/-- "unknown critical or illegally repeated option gives 4.02 (Reset for NON)": CON → 4.02 ACK echoing the token,
NON → Reset (nothing when the request came by multicast, RFC 7252 §8.1), ACK/RST → ignored; no handler runs. -/
theorem unknown_critical_402_or_rst (e : S.Esc) (cfg : Cfg) (tbl : Table) (rq : Request)
    (hc : isRequestCode rq.msg.code = true) (hv : rq.verdict.code ≠ 168)
    (hbad : S.badOption cfg (fwdOf tbl rq) rq.msg.opts = true) :
    S.serverSpec e cfg tbl rq =
      if rq.msg.type = NON then ⟨true, if rq.mcast then [] else [S.lib RST 0 rq.msg.mid []], none⟩
      else if rq.msg.type = CON then ⟨true, [S.lib ACK 130 rq.msg.mid rq.msg.token], none⟩
      else Outcome.nothing := by
  unfold fwdOf at hbad
  unfold S.serverSpec
  simp only [validCode_of_request hc, hc, hv, hbad, not_true_eq_false, if_false, if_true]
  by_cases h1 : rq.msg.type = NON
  · simp [h1]
  · by_cases h2 : rq.msg.type = CON
    · simp [h2, S.errReply, S.respType]
    · simp [h1, h2]

example : S.serverSpec E ⟨false, 8, []⟩ ⟨none, none, []⟩ ⟨false, ⟨0, 1, 7, [1], [(65001, [1])], []⟩, ⟨69, []⟩, .absent⟩ =
    ⟨true, [S.lib ACK 130 7 [1]], none⟩ := by decide

/-- a request past the message-level checks that fails the proxy / Hop-Limit stage gets that stage's error response,
subject to the No-Response / multicast rules -/
theorem spec_pre_fail (e : S.Esc) {cfg : Cfg} {tbl : Table} {rq : Request} (h : Admitted cfg tbl rq) {code : Nat}
    {fl : Option Nat} (hpre : S.pre e tbl rq (tolOf cfg tbl rq) (clearBlock2M rq.msg.opts) = .fail code fl) :
    S.serverSpec e cfg tbl rq = ⟨true, S.deliver cfg rq fl false (S.errReply rq.msg code), none⟩ := by
  rw [spec_admitted e h]
  simp only [S.stages, hpre]

/-- … and one that fails a precondition of the selected resource gets that precondition's error response -/
theorem spec_precond_fail (e : S.Esc) {cfg : Cfg} {tbl : Table} {rq : Request} (h : Admitted cfg tbl rq) {ip : Bool}
    {os : Opts} {path : Bytes} {sel : Sel} {code : Nat}
    (hpre : S.pre e tbl rq (tolOf cfg tbl rq) (clearBlock2M rq.msg.opts) = .go ip os path)
    (hsel : S.select tbl rq.msg.code ip path = .inr sel) (hck : S.precond cfg rq os sel = some code) :
    S.serverSpec e cfg tbl rq = ⟨true, S.deliver cfg rq (some sel.flags) false (S.errReply rq.msg code), none⟩ := by
  rw [spec_admitted e h]
  simp only [S.stages, hpre, hsel, hck]

/-- "no matching resource gives 4.04 (2.02 for DELETE) unless an unknown-resource handler exists" — subject to the
No-Response / multicast rules (`S.deliver`) -/
theorem no_resource_404_or_202 (e : S.Esc) (cfg : Cfg) (tbl : Table) (rq : Request) (h : Admitted cfg tbl rq)
    (os : Opts) (path : Bytes)
    (hpre : S.pre e tbl rq (tolOf cfg tbl rq) (clearBlock2M rq.msg.opts) = .go false os path)
    (hfind : findRes tbl.res path 0 = none)
    (hunk : ∀ u, tbl.unk = some u → handlerBit u.mask rq.msg.code = false)
    (hwk : path ≠ wellKnownCore) :
    S.serverSpec e cfg tbl rq =
      ⟨true, S.deliver cfg rq none false (S.errReply rq.msg (if rq.msg.code = 4 then 66 else 132)), none⟩ := by
  rw [spec_admitted e h]
  have hsel : S.select tbl rq.msg.code false path = .inl (if rq.msg.code = 4 then 66 else 132) := by
    unfold S.select
    simp only [Bool.false_eq_true, if_false, hfind]
    cases hu : tbl.unk with
    | none => simp [hwk]; split <;> rfl
    | some u => simp [hunk u hu, hwk]; split <;> rfl
  simp only [S.stages, hpre, hsel]

/-- "missing method handler 4.05" -/
theorem no_handler_405 (e : S.Esc) (cfg : Cfg) (tbl : Table) (rq : Request) (h : Admitted cfg tbl rq)
    (ip : Bool) (os : Opts) (path : Bytes) (sel : Sel)
    (hpre : S.pre e tbl rq (tolOf cfg tbl rq) (clearBlock2M rq.msg.opts) = .go ip os path)
    (hsel : S.select tbl rq.msg.code ip path = .inr sel)
    (hosc : flag sel.flags F_OSCORE_ONLY = false) (hinm : ¬ (sel.exists_ = true ∧ hasOpt os 5 = true))
    (hh : handlerBit sel.mask rq.msg.code = false) :
    S.serverSpec e cfg tbl rq = ⟨true, S.deliver cfg rq (some sel.flags) false (S.errReply rq.msg 133), none⟩ :=
  spec_precond_fail e h hpre hsel (by simp [S.precond, hosc, hinm, hh])

/-- "If-None-Match on an existing resource 4.12" -/
theorem inm_existing_412 (e : S.Esc) (cfg : Cfg) (tbl : Table) (rq : Request) (h : Admitted cfg tbl rq)
    (ip : Bool) (os : Opts) (path : Bytes) (sel : Sel)
    (hpre : S.pre e tbl rq (tolOf cfg tbl rq) (clearBlock2M rq.msg.opts) = .go ip os path)
    (hsel : S.select tbl rq.msg.code ip path = .inr sel)
    (hosc : flag sel.flags F_OSCORE_ONLY = false) (hex : sel.exists_ = true) (hinm : hasOpt os 5 = true) :
    S.serverSpec e cfg tbl rq = ⟨true, S.deliver cfg rq (some sel.flags) false (S.errReply rq.msg 140), none⟩ :=
  spec_precond_fail e h hpre hsel (by simp [S.precond, hosc, hex, hinm])

/-- "FETCH without Content-Format 4.15" -/
theorem fetch_no_cf_415 (e : S.Esc) (cfg : Cfg) (tbl : Table) (rq : Request) (h : Admitted cfg tbl rq)
    (ip : Bool) (os : Opts) (path : Bytes) (sel : Sel)
    (hpre : S.pre e tbl rq (tolOf cfg tbl rq) (clearBlock2M rq.msg.opts) = .go ip os path)
    (hsel : S.select tbl rq.msg.code ip path = .inr sel)
    (hosc : flag sel.flags F_OSCORE_ONLY = false) (hinm : ¬ (sel.exists_ = true ∧ hasOpt os 5 = true))
    (hh : handlerBit sel.mask rq.msg.code = true) (hf : rq.msg.code = 5) (hcf : hasOpt os 12 = false) :
    S.serverSpec e cfg tbl rq = ⟨true, S.deliver cfg rq (some sel.flags) false (S.errReply rq.msg 143), none⟩ :=
  spec_precond_fail e h hpre hsel (by rw [hf] at hh; simp [S.precond, hosc, hinm, hh, hf, hcf])

/-- "proxy options without proxy support 5.05" (no proxy resource, or none for this method); a Proxy-Scheme without
Uri-Host is 4.02 instead (`proxy_scheme_needs_host`) -/
theorem proxy_505 (e : S.Esc) (cfg : Cfg) (tbl : Table) (rq : Request) (h : Admitted cfg tbl rq)
    (hp : hasOpt rq.msg.opts 39 = true ∨ hasOpt rq.msg.opts 35 = true)
    (hps : ¬ (hasOpt rq.msg.opts 39 = true ∧ ¬ hasOpt rq.msg.opts 3 = true))
    (hno : tbl.prx = none ∨ ∃ p, tbl.prx = some p ∧ 1 ≤ rq.msg.code ∧ rq.msg.code ≤ 7 ∧ handlerBit p.mask rq.msg.code = false) :
    S.serverSpec e cfg tbl rq = ⟨true, S.deliver cfg rq none false (S.errReply rq.msg 165), none⟩ := by
  refine spec_pre_fail e h ?_
  unfold S.pre
  simp only [hasOpt_clear, hps, hp, if_false, if_true]
  rcases hno with hn | ⟨p, hn, h1, h2, h3⟩
  · simp [hn]
  · simp [hn, h1, h2, h3]

theorem proxy_scheme_needs_host (e : S.Esc) (cfg : Cfg) (tbl : Table) (rq : Request) (h : Admitted cfg tbl rq)
    (hps : hasOpt rq.msg.opts 39 = true ∧ hasOpt rq.msg.opts 3 = false) :
    S.serverSpec e cfg tbl rq = ⟨true, S.deliver cfg rq none false (S.errReply rq.msg 130), none⟩ := by
  refine spec_pre_fail e h ?_
  unfold S.pre
  simp [hasOpt_clear, hps.1, hps.2]

/-- "Hop-Limit exhaustion 5.08/4.00": a request without proxy options whose Hop-Limit is 1 gets 5.08, 0 gets 4.00 -/
theorem hop_limit_508_400 (e : S.Esc) (cfg : Cfg) (tbl : Table) (rq : Request) (h : Admitted cfg tbl rq)
    (hnp : hasOpt rq.msg.opts 39 = false ∧ hasOpt rq.msg.opts 35 = false) (v : Bytes)
    (hv : firstOpt rq.msg.opts 16 = some v) (hex : uintOf v % 4294967296 ≤ 1 ∨ uintOf v % 4294967296 > 255) :
    S.serverSpec e cfg tbl rq =
      ⟨true, S.deliver cfg rq none false (S.errReply rq.msg (if uintOf v % 4294967296 = 1 then 168 else 128)), none⟩ := by
  refine spec_pre_fail e h ?_
  unfold S.pre
  simp only [hasOpt_clear, hnp.1, hnp.2, Bool.false_eq_true, false_and, or_self, if_false]
  unfold S.hopLimit
  simp only [firstOpt_clear _ 16 (by decide), hv, Bool.false_eq_true, if_false]
  by_cases h1 : uintOf v % 4294967296 = 1
  · simp [h1]
  · have : uintOf v % 4294967296 < 1 ∨ uintOf v % 4294967296 > 255 := by omega
    simp only [h1, if_false]
    rw [if_pos this]

/-- "otherwise exactly the handler registered for that path and method runs once with the request's path, query,
options and payload": when no earlier clause applies and the request is not a refused Observe registration, the one
handler call is for the selected resource — which has a handler for the method — and sees the reconstructed Uri-Path,
the query, the request view `os` and the payload.  (`Outcome.call` is an `Option`: there is never a second call.) -/
theorem handler_runs_once_with_request_view (e : S.Esc) (cfg : Cfg) (tbl : Table) (rq : Request) (h : Admitted cfg tbl rq)
    (ip : Bool) (os : Opts) (path : Bytes) (sel : Sel) (who : Who)
    (hpre : S.pre e tbl rq (tolOf cfg tbl rq) (clearBlock2M rq.msg.opts) = .go ip os path)
    (hsel : S.select tbl rq.msg.code ip path = .inr sel)
    (hck : S.precond cfg rq os sel = none) (hwho : sel.who = some who)
    (hblk : (sel.observable && (rq.msg.code == 1 || rq.msg.code == 5) && hasOpt os 6 &&
              (uintOf ((firstOpt os 6).getD []) % 4294967296 == 0) && S.blockNonZero os) = false) :
    (S.serverSpec e cfg tbl rq).call = some ⟨who, rq.msg.code, path, S.uriQuery e os, os, rq.msg.payload⟩ ∧
    handlerBit sel.mask rq.msg.code = true := by
  refine ⟨?_, precond_none_handler hck⟩
  rw [spec_admitted e h]
  simp only [S.stages, hpre, hsel, hck, S.run]
  rw [if_neg (by simpa using hblk), finish_call, hwho]
  rfl

/-- the request view handed to the handler is the request's option list except for the value of Hop-Limit
(decremented, RFC 8768) and of Block2 (M bit cleared, RFC 7959 §2.2) — SPEC DECISION D7 -/
theorem request_view_is_request (e : S.Esc) (cfg : Cfg) (tbl : Table) (rq : Request) (ip : Bool) (os : Opts) (path : Bytes)
    (hpre : S.pre e tbl rq (tolOf cfg tbl rq) (clearBlock2M rq.msg.opts) = .go ip os path) :
    os.filter keep = rq.msg.opts.filter keep :=
  (pre_view hpre).trans (clear_keep _)

/-- "subject to the No-Response … suppression rules" (RFC 7967): for a response of class ≥ 2 to a request carrying
No-Response, the class bit decides — set: nothing for a Non-confirmable request, the Empty ACK for a Confirmable one;
clear: the response is sent (also to a multicast request, RFC 7967 §2.1) -/
theorem no_response_suppression (cfg : Cfg) (rq : Request) (fl : Option Nat) (obs : Bool) (r : Reply) (v : Bytes)
    (hc : codeClass r.code ≠ 0) (hv : firstOpt rq.msg.opts 258 = some v) :
    S.deliver cfg rq fl obs r =
      if (2 ^ (codeClass r.code - 1)) &&& (uintOf v % 4294967296) > 0 then (if r.type = ACK then [emptied r] else [])
      else [stripObserve obs r] := by
  unfold S.deliver S.noResponseSays
  simp only [hc, if_false, hv, Option.map]
  by_cases hb : (2 ^ (codeClass r.code - 1)) &&& (uintOf v % 4294967296) > 0 <;> simp [hb]

/-- "… and multicast suppression rules": without a No-Response option and without per-resource multicast
configuration, a response of class 4.xx / 5.xx to a multicast request is not sent, a 2.xx one is -/
theorem multicast_suppression (cfg : Cfg) (rq : Request) (fl : Option Nat) (obs : Bool) (r : Reply)
    (hc : codeClass r.code ≠ 0) (hv : firstOpt rq.msg.opts 258 = none) (hm : rq.mcast = true) (hp : cfg.mpr = false) :
    S.deliver cfg rq fl obs r = if codeClass r.code > 2 then [] else [stripObserve obs r] := by
  unfold S.deliver S.noResponseSays S.mcastSuppressed
  simp only [hc, if_false, hv, Option.map, hm, hp, Bool.true_and]
  cases fl <;> by_cases h2 : codeClass r.code > 2 <;> simp [h2]

/-- a handler only ever runs as the handler registered, for the request's method, on the resource the request was mapped
to, with the request's payload — in every other clause (all error replies, Reset, ignored messages) none runs -/
theorem handler_only_when_registered (e : S.Esc) (cfg : Cfg) (tbl : Table) (rq : Request) (c : Call)
    (h : (S.serverSpec e cfg tbl rq).call = some c) :
    ∃ sel : Sel, sel.who = some c.who ∧ handlerBit sel.mask rq.msg.code = true ∧ c.code = rq.msg.code ∧
      c.payload = rq.msg.payload := by
  obtain ⟨_, os, path, sel, _, _, hck, hc⟩ := stages_call e cfg tbl rq _ c (spec_call e cfg tbl rq c h)
  obtain ⟨who, hw, rfl⟩ := Option.map_eq_some_iff.1 hc
  exact ⟨sel, hw, precond_none_handler hck, rfl, rfl⟩

example : (S.serverSpec E ⟨false, 8, []⟩ ⟨none, none, [⟨[97], 1, 0, false⟩]⟩
    ⟨false, ⟨0, 1, 7, [1], [(11, [97])], []⟩, ⟨69, []⟩, .absent⟩).call = some ⟨.res 0, 1, [97], [], [(11, [97])], []⟩ := by decide

/-! ### non-vacuity: concrete requests meeting the hypotheses of the clause theorems -/
def exCfg : Cfg := ⟨false, 8, []⟩
/-- /a with GET and FETCH handlers -/
def exTbl : Table := ⟨none, none, [⟨[97], 17, 0, false⟩]⟩
def exReq (code : Nat) (opts : Opts) : Request := ⟨false, ⟨0, code, 7, [1], opts, []⟩, ⟨69, [104, 105]⟩, .absent⟩
theorem exAdmitted (code : Nat) (opts : Opts) (h1 : isRequestCode code = true)
    (h2 : S.badOption exCfg (fwdOf exTbl (exReq code opts)) opts = false) (h3 : hasOpt opts 9 = false) :
    Admitted exCfg exTbl (exReq code opts) :=
  ⟨h1, by simp [exReq], h2, h3, Or.inl rfl, by simp [exReq, exCfg], by intro h; cases h⟩

-- GET /c : 4.04
example := no_resource_404_or_202 E exCfg exTbl (exReq 1 [(11, [99])]) (exAdmitted _ _ (by decide) (by decide) (by decide))
  [(11, [99])] [99] (by decide) (by decide) (by intro u hu; cases hu) (by decide)
-- PUT /a : 4.05
example := no_handler_405 E exCfg exTbl (exReq 3 [(11, [97])]) (exAdmitted _ _ (by decide) (by decide) (by decide))
  false [(11, [97])] [97] (.res 0 ⟨[97], 17, 0, false⟩) (by decide) (by decide) (by decide) (by decide) (by decide)
-- GET /a with If-None-Match : 4.12
example := inm_existing_412 E exCfg exTbl (exReq 1 [(5, []), (11, [97])]) (exAdmitted _ _ (by decide) (by decide) (by decide))
  false [(5, []), (11, [97])] [97] (.res 0 ⟨[97], 17, 0, false⟩) (by decide) (by decide) (by decide) (by decide) (by decide)
-- FETCH /a without Content-Format : 4.15
example := fetch_no_cf_415 E exCfg exTbl (exReq 5 [(11, [97])]) (exAdmitted _ _ (by decide) (by decide) (by decide))
  false [(11, [97])] [97] (.res 0 ⟨[97], 17, 0, false⟩) (by decide) (by decide) (by decide) (by decide) (by decide)
  (by decide) (by decide)
-- GET with Proxy-Uri, no proxy resource : 5.05
example := proxy_505 E exCfg exTbl (exReq 1 [(35, [99])]) (exAdmitted _ _ (by decide) (by decide) (by decide))
  (Or.inr (by decide)) (by decide) (Or.inl rfl)
-- Proxy-Scheme without Uri-Host : 4.02
example := proxy_scheme_needs_host E exCfg exTbl (exReq 1 [(39, [99])]) (exAdmitted _ _ (by decide) (by decide) (by decide))
  ⟨by decide, by decide⟩
-- GET /a with Hop-Limit 1 : 5.08
example := hop_limit_508_400 E exCfg exTbl (exReq 1 [(11, [97]), (16, [1])]) (exAdmitted _ _ (by decide) (by decide) (by decide))
  ⟨by decide, by decide⟩ [1] (by decide) (Or.inl (by decide))
-- GET /a?x with Hop-Limit 5: the GET handler of /a runs once and sees Hop-Limit 4
example := handler_runs_once_with_request_view E exCfg exTbl (exReq 1 [(11, [97]), (15, [120]), (16, [5])])
  (exAdmitted _ _ (by decide) (by decide) (by decide))
  false [(11, [97]), (15, [120]), (16, [4])] [97] (.res 0 ⟨[97], 17, 0, false⟩) (.res 0) (by decide) (by decide) (by decide)
  (by decide) (by decide)
-- No-Response 2 (not interested in 2.xx) on a NON request: a 2.05 is not sent
example : S.deliver exCfg ⟨false, ⟨1, 1, 7, [1], [(258, [2])], []⟩, ⟨69, []⟩, .absent⟩ none false
    ⟨.app, NON, 69, 7, [1], [], .bytes []⟩ = [] := by
  rw [no_response_suppression _ _ _ _ _ [2] (by decide) (by decide)]; decide
-- 4.04 to a multicast request: suppressed
example : S.deliver exCfg ⟨true, ⟨1, 1, 7, [1], [], []⟩, ⟨69, []⟩, .absent⟩ none false
    ⟨.lib, NON, 132, 7, [1], [], .bytes []⟩ = [] := by
  rw [multicast_suppression _ _ _ _ _ (by decide) (by decide) rfl rfl]; decide

/-! ### T1: constructor presets -/
/-- coap_resource_init registers no handler, coap_resource_unknown_init2 the PUT handler, coap_resource_proxy_uri_init2
a handler for every method 0.01–0.07 — as coap_resource(3) documents -/
theorem constructor_presets_match_api :
    presetRes = S.docPresetRes ∧ presetUnk = S.docPresetUnk ∧ presetPrx = S.docPresetPrx := by decide

/-- hence (`effMask_self`) the handler table of a real resource is exactly what the application asked for -/
theorem handlers_as_registered : ∀ mask, mask < 128 →
    M.effMask S.docPresetRes presetRes mask = mask ∧ M.effMask S.docPresetUnk presetUnk mask = mask ∧
    M.effMask S.docPresetPrx presetPrx mask = mask := fun mask h => by
  obtain ⟨h1, h2, h3⟩ := constructor_presets_match_api
  rw [h1, h2, h3, effMask_self, effMask_self, effMask_self, Nat.mod_eq_of_lt h]
  exact ⟨rfl, rfl, rfl⟩

def Table.small (t : Table) : Prop :=
  (∀ u, t.unk = some u → u.mask < 128) ∧ (∀ p, t.prx = some p → p.mask < 128) ∧ ∀ r ∈ t.res, r.mask < 128

/-- the table M is run on in the differential test (constructor presets + registrations) is the table S is run on -/
theorem impl_table_eq (t : Table) (h : Table.small t) : M.implTable t = t := by
  obtain ⟨hu, hp, hr⟩ := h
  obtain ⟨unk, prx, res⟩ := t
  unfold M.implTable
  simp only at hu hp hr ⊢
  congr 1
  · cases unk with
    | none => rfl
    | some u => simp only [Option.map]; rw [(handlers_as_registered u.mask (hu u rfl)).2.1]
  · cases prx with
    | none => rfl
    | some p => simp only [Option.map]; rw [(handlers_as_registered p.mask (hp p rfl)).2.2]
  · induction res with
    | nil => rfl
    | cons r rs ih =>
      simp only [List.map_cons]
      rw [(handlers_as_registered r.mask (hr r List.mem_cons_self)).1, ih (fun x hx => hr x (List.mem_cons_of_mem _ hx))]

example : Table.small ⟨some ⟨4, 0⟩, some ⟨127, 0, [112]⟩, [⟨[97], 17, 0, false⟩]⟩ := by
  refine ⟨?_, ?_, ?_⟩
  · intro u hu; cases hu; decide
  · intro p hp; cases hp; decide
  · intro r hr; simp at hr; subst hr; decide

/-! ### sequences of datagrams at one context: deferred responses, duplicates (D11, D12) -/

/-- a request that finds nothing is decided by the single-datagram functions (to which all theorems above apply) -/
theorem nothing_found_is_fresh (cfg : Cfg) (tbl : Table) (rq : Request) :
    M.serverDecisionA false false cfg tbl rq = M.serverDecision cfg tbl rq ∧
    ∀ e, S.serverSpecA e false false cfg tbl rq = S.serverSpec e cfg tbl rq :=
  ⟨serverDecisionA_fresh cfg tbl rq, fun e => serverSpecA_fresh e cfg tbl rq⟩

/-- M = S (up to D4) on EVERY sequence of datagrams from any peers, starting from any history -/
theorem sequence_eq_spec (cfg : Cfg) (tbl : Table) (hfit : fits cfg) (h : Hist) (evs : List Ev) :
    (M.serverSeq cfg tbl h evs).map Outcome.erase = S.seqSpec E cfg tbl h evs :=
  seq_eq cfg tbl (fun hit dup rq => decisionA_eq_specA hit dup cfg tbl rq hfit) evs h

/-- "For each request datagram …": after ANY sequence `pre` of datagrams from any peers at a fresh context, a datagram
is decided exactly as on a fresh context — unless the SAME peer sent, earlier, a request with the SAME token whose
response was deferred (D11), or a Confirmable request with the SAME message id (D12).  In particular deferred requests
of OTHER peers, whatever their tokens, never change what a request gets. -/
theorem pending_of_others_irrelevant (cfg : Cfg) (tbl : Table) (pre : List Ev) (ev : Ev)
    (htok : ∀ p ∈ pre, p.peer = ev.peer → p.defer = true → p.rq.msg.token ≠ ev.rq.msg.token)
    (hmid : ∀ p ∈ pre, p.peer = ev.peer → p.rq.msg.type = CON → p.rq.msg.mid ≠ ev.rq.msg.mid) :
    M.serverSeq cfg tbl Hist.empty (pre ++ [ev]) = M.serverSeq cfg tbl Hist.empty pre ++ [M.serverDecision cfg tbl ev.rq] ∧
    ∀ e, S.seqSpec e cfg tbl Hist.empty (pre ++ [ev]) = S.seqSpec e cfg tbl Hist.empty pre ++ [S.serverSpec e cfg tbl ev.rq] := by
  refine ⟨?_, fun e => ?_⟩
  · unfold M.serverSeq
    rw [seq_last_fresh _ pre ev htok hmid, serverDecisionA_fresh]
  · unfold S.seqSpec
    rw [seq_last_fresh _ pre ev htok hmid, serverSpecA_fresh]

/-- a request of a peer whose request with the same token is pending (deferred), once past the message-level checks:
a Confirmable one is acknowledged again (Empty ACK with its message id), nothing else is sent, no handler runs -/
theorem deferred_retransmission_acked (e : S.Esc) (dup : Bool) (cfg : Cfg) (tbl : Table) (rq : Request)
    (h : Admitted cfg tbl rq) :
    S.serverSpecA e true dup cfg tbl rq =
      ⟨true, if rq.msg.type = CON then [S.lib ACK 0 rq.msg.mid []] else [], none⟩ :=
  specA_admitted e true dup h

/-- whatever a request finds of its predecessors: the fresh-context outcome, or the repeated Empty ACK of D11 / D12 -/
theorem history_changes_only_by_ack_again (e : S.Esc) (hit dup : Bool) (cfg : Cfg) (tbl : Table) (rq : Request) :
    S.serverSpecA e hit dup cfg tbl rq = S.serverSpec e cfg tbl rq ∨
    (S.serverSpecA e hit dup cfg tbl rq = ⟨true, if rq.msg.type = CON then [S.lib ACK 0 rq.msg.mid []] else [], none⟩ ∧
      hit = true) ∨
    (S.serverSpecA e hit dup cfg tbl rq = ⟨true, [S.lib ACK 0 rq.msg.mid []], none⟩ ∧ rq.msg.type = CON ∧ dup = true) :=
  specA_elim (P := fun o o' => o = o' ∨ (o = retrans rq ∧ hit = true) ∨
    (o = ackAgain rq ∧ rq.msg.type = CON ∧ dup = true)) e hit dup cfg tbl rq (fun _ _ _ => Or.inl rfl)
    (handleA_cases e hit dup cfg tbl rq _)

/-- reply count and shape (at most one reply or the proxied pair; message id, token echo, NON never ACKed, Reset empty)
for every datagram of every sequence: stated for whatever the datagram finds -/
theorem reply_shape_any_history (hit dup : Bool) (cfg : Cfg) (tbl : Table) (rq : Request) (hfit : fits cfg) :
    (∀ x ∈ (M.serverDecisionA hit dup cfg tbl rq).replies, replyOk rq x) ∧
    ((M.serverDecisionA hit dup cfg tbl rq).replies.length ≤ 1 ∨
      ∃ a x, (M.serverDecisionA hit dup cfg tbl rq).replies = [a, x] ∧ a.type = ACK ∧ a.code = 0 ∧ x.type = CON ∧
        ∃ c, (M.serverDecisionA hit dup cfg tbl rq).call = some c ∧ c.who = .prx) := by
  have hs := shape_of_erase (decisionA_eq_specA hit dup cfg tbl rq hfit) (outcomeA_ok E hit dup cfg tbl rq)
  exact ⟨hs.1, hs.2.imp id fun ⟨a, x, h1, h2, h3, _, h5⟩ => ⟨a, x, h1, h2, h3, h5⟩⟩

/-! non-vacuity: peer 1's GET /a (token 01) is deferred; peer 2's GET /a with the same token runs the handler and gets its
2.05; peer 1's retransmission only gets the Empty ACK -/
def exDefer : Ev := ⟨1, true, ⟨false, ⟨0, 1, 7, [1], [(11, [97])], []⟩, ⟨0, []⟩, .absent⟩⟩
def exOther : Ev := ⟨2, false, ⟨false, ⟨0, 1, 9, [1], [(11, [97])], []⟩, ⟨69, [104, 105]⟩, .absent⟩⟩
def exAgain : Ev := ⟨1, false, ⟨false, ⟨0, 1, 7, [1], [(11, [97])], []⟩, ⟨69, [104, 105]⟩, .absent⟩⟩
example : (M.serverSeq exCfg exTbl Hist.empty [exDefer, exOther, exAgain]).map (fun o => (o.replies.map (·.code), o.call.isSome)) =
    [([0], true), ([69], true), ([0], false)] := by decide
example := (pending_of_others_irrelevant exCfg exTbl [exDefer] exOther (by decide) (by decide)).1
example : Admitted exCfg exTbl exAgain.rq := exAdmitted _ _ (by decide) (by decide) (by decide)

/-! ## ASYNC — deferred responses: the delayed invocation (coap_async.c, coap_check_async), Model/Async.lean.
The decision procedures `dec` of handle_request are arbitrary; `Async.serverDec cfg tbl` is the C10 model. -/
section Async
-- `L.x` below is `Coap.Async.L.x` (Lemmas/Async*.lean); unqualified lemma names are `Coap.Server.L` (Lemmas/Server*.lean)
open Coap.Async

/-- coap_check_async hands to the application exactly the entries whose time has come (`delay ≠ 0 ∧ delay ≤ now`), each
exactly once, in list order, each with exactly its stored request (`dec.again entry.req v`), and exactly these are
removed; an entry whose time has not come (or that waits for a trigger: delay 0) is never handed over -/
theorem async_fires_exactly_the_due (c : Async.Cfg) (dec : Dec) (v : Verdict) (st : St) :
    (prepare c dec v st).2.fired.map (·.entry) = st.async.filter (L.due st.now) ∧
    (prepare c dec v st).1.async = st.async.filter (fun e => !L.due st.now e) ∧
    (∀ f ∈ (prepare c dec v st).2.fired, f.out = dec.again f.entry.req v) ∧
    (∀ f ∈ (prepare c dec v st).2.fired, f.entry ∈ st.async ∧ f.entry.delay ≠ 0 ∧ f.entry.delay ≤ st.now) := by
  refine ⟨?_, L.prepare_kept c dec v st, fun f hf => (L.prepare_fired_mem c dec v st f hf).2,
    fun f hf => (L.prepare_fired_mem c dec v st f hf).1⟩
  rw [L.prepare_fired, List.map_map]
  exact List.map_id _

/-- every event: whatever is handed to the application by a delayed invocation was registered (in the list before the
event, or registered by this very datagram) and its time has come; an entry that was freed or has fired is in no later
list (`async_fires_exactly_the_due`: the list afterwards has no due entry), so it is never handed over again -/
theorem async_fired_were_registered (c : Async.Cfg) (dec : Dec) (st : St) (ev : Async.Ev) :
    ∀ f ∈ (step c dec st ev).2.fired,
      (f.entry ∈ st.async ∨ (step c dec st ev).2.registered = some f.entry) ∧ f.entry.delay ≠ 0 ∧
      f.entry.delay ≤ (step c dec st ev).1.now ∧ f.out = dec.again f.entry.req
        (match ev with | .rx _ _ rq => rq.verdict | .io _ v => v | _ => ⟨0, []⟩) := by
  intro f hf
  cases ev with
  | rx p defer rq =>
    simp only [step] at hf ⊢
    obtain ⟨⟨h1, h2, h3⟩, h4⟩ := L.prepare_fired_mem c dec rq.verdict _ f hf
    refine ⟨?_, h2, h3, h4⟩
    rcases L.rxOwn_cases c dec st p defer rq with hr | ⟨e, he1, he2⟩
    · rw [hr.1] at h1; exact Or.inl h1
    · rw [he2] at h1
      rcases List.mem_cons.mp h1 with hm | hm
      · exact Or.inr (by rw [he1, hm])
      · exact Or.inl hm
  | io dt v =>
    simp only [step] at hf ⊢
    obtain ⟨⟨h1, h2, h3⟩, h4⟩ := L.prepare_fired_mem c dec v _ f hf
    exact ⟨Or.inl h1, h2, h3, h4⟩
  | trigger k => simp [step] at hf
  | setDelay k d => simp [step] at hf
  | free k =>
    simp only [step] at hf
    split at hf <;> simp at hf

/-- the wait coap_check_async reports is not 0 and not later than the earliest deadline among the entries that stay
(clock not 0, delays below 2^64: what coap_async_set_delay / coap_async_trigger store) -/
theorem async_wait_le_earliest_deadline (c : Async.Cfg) (dec : Dec) (v : Verdict) (st : St)
    (hnow : 0 < st.now ∧ st.now < W) (hl : ∀ e ∈ st.async, e.delay < W) :
    ∀ e ∈ (prepare c dec v st).1.async, e.delay ≠ 0 →
      ∃ w, (prepare c dec v st).2.wait = some w ∧ 0 < w ∧ st.now < e.delay ∧ w ≤ e.delay - st.now := by
  intro e he h0
  rw [L.prepare_kept, List.mem_filter] at he
  have hd : L.due st.now e = false := by simpa using he.2
  have hlt : st.now < e.delay := Nat.lt_of_not_le fun hle => by
    rw [L.due_pos ⟨h0, hle⟩] at hd
    cases hd
  have hw := (L.check_wait dec v st.now hnow st.async st.sess 0 hl).2 e he.1 hd
  rw [L.dist_eq hnow.2 (hl e he.1) hlt] at hw
  exact ⟨_, rfl, Nat.pos_of_ne_zero hw.1, hlt, hw.2⟩

/-- after EVERY event sequence at a fresh context there is at most one entry per (session, token) -/
theorem async_one_entry_per_session_token (c : Async.Cfg) (dec : Dec) (evs : List Async.Ev) :
    ((final c dec (St.init c) evs).async.map L.key).Nodup :=
  L.final_uniq c dec evs (St.init c) List.nodup_nil

/-- a request of a session that has an entry with the request's token (a retransmission of the deferred request, D11):
handle_request is told so (`hit = true`), nothing is registered — no second entry —, and the list only loses what the
I/O step that follows hands to the application -/
theorem async_retransmission_no_second_entry (c : Async.Cfg) (dec : Dec) (st : St) (p : Nat) (defer : Option Nat) (rq : Request)
    (e : Entry) (h : find st.async p rq.msg.token = some e) :
    (step c dec st (.rx p defer rq)).2.registered = none ∧
    (step c dec st (.rx p defer rq)).2.first =
      some (dec.first true (if defer.isSome then { rq with verdict := ⟨0, []⟩ } else rq)) ∧
    (step c dec st (.rx p defer rq)).1.async = st.async.filter (fun e => !L.due st.now e) := by
  have hh := L.rxOwn_hit c dec st p defer rq e h
  simp only [step]
  refine ⟨by rw [hh.1], by rw [hh.2], ?_⟩
  rw [L.prepare_kept, hh.1]

/-- … and with the C10 model of handle_request that retransmission is answered by an Empty ACK only (Confirmable) or
not at all (Non-confirmable), no handler runs -/
theorem async_retransmission_acked_only (cfg : Server.Cfg) (tbl : Table) (rq : Request) (hfit : fits cfg)
    (h : Admitted cfg tbl rq) (hobs : hasOpt rq.msg.opts 6 = false) :
    ((serverDec cfg tbl).first true rq).erase =
      ⟨true, if rq.msg.type = CON then [S.lib ACK 0 rq.msg.mid []] else [], none⟩ := by
  simp only [serverDec, hobs, Bool.false_eq_true, if_false]
  rw [decisionA_eq_specA true false cfg tbl rq hfit]
  exact deferred_retransmission_acked E false cfg tbl rq h

/-! ### the session reference of an entry (coap_session_reference_lkd in coap_register_async, coap_session_release_lkd in
coap_free_async_sub) and the idle reaper — for EVERY event sequence from the fresh context (requests that defer,
retransmissions, time, trigger, set_delay, free, the reaper at the end of every I/O step).  The `coap_async_t` is the
machine's one holder kind; coap_session_release by the application / session close are C12's (Lemmas/AsyncRefs.lean). -/

/-- after EVERY event sequence: `session->ref` of every session = the number of entries of `context->async_state` whose
`session` it is (each entry holds exactly one reference from coap_register_async to coap_free_async / its delayed
invocation), and there is one session per peer address -/
theorem async_refs_balanced (c : Async.Cfg) (dec : Dec) (evs : List Async.Ev) :
    (∀ s ∈ (final c dec (St.init c) evs).sess, s.ref = L.cnt (final c dec (St.init c) evs).async s.peer) ∧
    ((final c dec (St.init c) evs).sess.map (·.peer)).Nodup :=
  ⟨(L.reach_bal c dec evs).refs, (L.reach_bal c dec evs).nodup⟩

/-- after EVERY event sequence every entry names a session that is in the endpoint's table, and that session's
reference count is not 0; and whatever event comes next, no entry of the list afterwards names a session the event's
reaper pass freed -/
theorem async_no_entry_of_freed_session (c : Async.Cfg) (dec : Dec) (evs : List Async.Ev) :
    (∀ e ∈ (final c dec (St.init c) evs).async, ∃ s ∈ (final c dec (St.init c) evs).sess, s.peer = e.sess ∧ 0 < s.ref) ∧
    (∀ ev, ∀ e ∈ (step c dec (final c dec (St.init c) evs) ev).1.async,
      e.sess ∉ (step c dec (final c dec (St.init c) evs) ev).2.reaped) := by
  have hb := L.reach_bal c dec evs
  constructor
  · intro e he
    rcases List.mem_map.mp (hb.live _ (List.mem_map_of_mem he)) with ⟨s, hs, hse⟩
    refine ⟨s, hs, hse, ?_⟩
    rw [hb.refs s hs, hse]
    exact L.cnt_pos_of_mem he
  · intro ev e he hr
    have := (L.step_bal c dec _ ev hb).2 _ hr
    have h2 := L.cnt_pos_of_mem he
    omega

/-- the idle reaper (`ref == 0 && last_rx_tx + session_timeout <= now`) never reclaims a session with a pending entry:
in every reachable state a session that an entry names is not idle however long nothing was received from the peer, and
the sessions an event reclaims have no entry left (an entry that fired in the same coap_io_prepare_io call released its
reference before the reaper looked) -/
theorem async_pending_session_not_reclaimed (c : Async.Cfg) (dec : Dec) (evs : List Async.Ev) :
    (∀ now, ∀ s ∈ (final c dec (St.init c) evs).sess, (∃ e ∈ (final c dec (St.init c) evs).async, e.sess = s.peer) →
      idle c now s = false) ∧
    (∀ ev, ∀ p ∈ (step c dec (final c dec (St.init c) evs) ev).2.reaped,
      L.cnt (step c dec (final c dec (St.init c) evs) ev).1.async p = 0 ∧
      ∀ e ∈ (step c dec (final c dec (St.init c) evs) ev).1.async, e.sess ≠ p) := by
  have hb := L.reach_bal c dec evs
  constructor
  · intro now s hs ⟨e, he, hes⟩
    have h1 := hb.refs s hs
    have h2 := L.cnt_pos_of_mem he
    rw [hes] at h2
    have : s.ref ≠ 0 := by omega
    simp [idle, this]
  · intro ev p hp
    exact ⟨(L.step_bal c dec _ ev hb).2 p hp, fun e he hep =>
      (async_no_entry_of_freed_session c dec evs).2 ev e he (hep ▸ hp)⟩

/-- the invariant is inductive: it holds in the fresh state and every event preserves it from ANY state that has it -/
theorem async_balance_inductive (c : Async.Cfg) (dec : Dec) :
    L.Bal (St.init c) ∧ ∀ st ev, L.Bal st → L.Bal (step c dec st ev).1 :=
  ⟨L.init_bal c, fun st ev h => (L.step_bal c dec st ev h).1⟩

/-! ### the second pass: handle_request(context, async->session, async->pdu) from coap_check_async.
libcoap keeps no pointer to the resource (or the handler) in the `coap_async_t`: the second pass selects the resource
again from the Uri-Path of the stored copy, in the resource table as it is THEN. -/

/-- configuration and resource table unchanged in between: the second pass calls the same handler of the same resource
as the first pass did, with exactly the first call's request view (method, path, query, options, payload) — whatever
message id the copy got, whatever the handler answers this time.  (Scope of the machine: no proxy options — a stored
request for the proxy-URI resource is `oos` —, no Observe; a handler that sets no code / 5.08 in the second pass is
D13 / D8.) -/
theorem async_second_pass_same_handler (cfg : Server.Cfg) (tbl : Table) (rq : Request) (call : Call) (mid : Nat)
    (v : Verdict) (hprx : hasOpt rq.msg.opts 35 = false ∧ hasOpt rq.msg.opts 39 = false)
    (hv : v.code ≠ 0 ∧ v.code ≠ 168)
    (h1 : ((serverDec cfg tbl).first false rq).call = some call) :
    ((serverDec cfg tbl).again ⟨rq.msg.type, call.code, mid, rq.msg.token, call.opts, call.payload⟩ v).call =
      some call := by
  simp only [serverDec] at h1 ⊢
  by_cases h6 : hasOpt rq.msg.opts 6 = true
  · rw [if_pos h6] at h1; cases h1
  · rw [if_neg h6] at h1
    have h6' : hasOpt rq.msg.opts 6 = false := by simpa using h6
    rcases L.decisionA_call false false cfg tbl rq with hn | ⟨crit, hv1, hA⟩
    · rw [hn] at h1; cases h1
    rw [hA] at h1
    obtain ⟨who, os', sel, hopt, hs, hc, hw, rfl⟩ := L.handleA_call cfg tbl rq crit call hv1 hprx.1 hprx.2 h1
    exact (L.handleD_call cfg tbl _ v _ ((hopt _).trans hprx.1) ((hopt _).trans hprx.2) ((hopt _).trans h6')).2
      ⟨hv, sel, who, hs, L.checkStage_again cfg rq _ os' sel rfl rfl hc, hw, rfl⟩

/-- the table may have CHANGED in between (coap_delete_resource, coap_add_resource, handlers re-registered): whatever
the table `tbl'` is when the stored copy `m` is handed over, a handler that runs is the handler registered THEN for the
stored method — of the resource that has the stored Uri-Path in `tbl'` (at the index reported), or the
unknown-resource handler of `tbl'` —, and it is given exactly the stored options, payload and method -/
theorem async_second_pass_handler_of_current_table (cfg : Server.Cfg) (tbl' : Table) (m : Msg) (v : Verdict) (call : Call)
    (hprx : hasOpt m.opts 35 = false ∧ hasOpt m.opts 39 = false) (h6 : hasOpt m.opts 6 = false)
    (h : ((serverDec cfg tbl').again m v).call = some call) :
    call.code = m.code ∧ call.path = M.uriPath m.opts ∧ call.query = M.query m.opts ∧ call.opts = m.opts ∧
    call.payload = m.payload ∧
    (match call.who with
     | .res i => ∃ r, tbl'.res[i]? = some r ∧ r.path = M.uriPath m.opts ∧ handlerBit r.mask m.code = true
     | .unk => ∃ u, tbl'.unk = some u ∧ handlerBit u.mask m.code = true
     | .prx => False) := by
  obtain ⟨_, sel, who, hs, hc, hw, rfl⟩ := (L.handleD_call cfg tbl' m v call hprx.1 hprx.2 h6).1 h
  have hb := precond_none_handler hc
  have ht := L.select_in_table hs
  cases sel with
  | res i r => cases hw; exact ⟨rfl, rfl, rfl, rfl, rfl, r, ht.1, ht.2, hb⟩
  | unk u => cases hw; exact ⟨rfl, rfl, rfl, rfl, rfl, u, ht.1, hb⟩
  | prx p => exact ht.elim
  | wk => cases hw

/-- … in particular: the resource was deleted in between (no resource of the current table has the stored Uri-Path):
no handler of an ordinary resource runs — the stored request goes to the unknown-resource handler if the current table
has one for the method, else it is answered 4.04 (2.02 for DELETE) / by `.well-known/core` like a received request
(as a separate response: Confirmable for a Confirmable request, see `async_second_pass_error_is_separate_response`) -/
theorem async_deleted_resource_handler_never_runs (cfg : Server.Cfg) (tbl' : Table) (m : Msg) (v : Verdict) (call : Call)
    (hprx : hasOpt m.opts 35 = false ∧ hasOpt m.opts 39 = false) (h6 : hasOpt m.opts 6 = false)
    (hdel : ∀ r ∈ tbl'.res, r.path ≠ M.uriPath m.opts)
    (h : ((serverDec cfg tbl').again m v).call = some call) :
    call.who = .unk ∧ ∃ u, tbl'.unk = some u ∧ handlerBit u.mask m.code = true := by
  have := (async_second_pass_handler_of_current_table cfg tbl' m v call hprx h6 h).2.2.2.2.2
  cases hw : call.who with
  | res i =>
    rw [hw] at this
    obtain ⟨r, hr, hp, _⟩ := this
    exact absurd hp (hdel r (List.mem_of_getElem? hr))
  | unk => rw [hw] at this; exact ⟨rfl, this⟩
  | prx => rw [hw] at this; exact absurd this id

/-- an error response of the second pass (only possible when the table changed in between) is a separate response too:
never an ACK — its message id is the stored copy's, which acknowledges nothing the client sent -/
theorem async_second_pass_error_is_separate_response (cfg : Server.Cfg) (rq : Request) (os : Opts) (resp : Nat)
    (res : Option Nat) : ∀ r ∈ (failResponseD cfg rq os resp res).replies, r.type ≠ ACK := by
  intro r hr
  unfold failResponseD at hr
  dsimp only at hr
  have ht : (M.errReply rq.msg os resp M.Filter.empty).type = M.respType rq.msg.type := rfl
  by_cases ha : (M.errReply rq.msg os resp M.Filter.empty).type = ACK
  · rw [if_pos ha] at hr
    rw [deliver_type _ _ _ _ _ (show CON ≠ RST by decide) r hr]
    show CON ≠ ACK
    decide
  · rw [if_neg ha] at hr
    rw [deliver_type _ _ _ _ _ (ht ▸ respType_ne_rst _) r hr]
    exact ha

/-- the machine with a changing table (`stepT`): the balance is untouched by coap_delete_resource, and whatever the
events before (deletions included) a delayed invocation is decided by the table as it is at that moment — so
`async_second_pass_handler_of_current_table` / `async_deleted_resource_handler_never_runs` apply to everything that
fires with `tbl' := x.tbl` -/
theorem async_changing_table (c : Async.Cfg) (cfg : Server.Cfg) (x : StT) (ev : EvT) (hb : L.Bal x.st) :
    L.Bal (stepT c cfg x ev).1.st ∧
    (∀ f ∈ (stepT c cfg x ev).2.fired, ∃ v, f.out = (serverDec cfg x.tbl).again f.entry.req v) ∧
    (∀ k, ev = .delRes k → (stepT c cfg x ev).1.st = x.st ∧ (stepT c cfg x ev).2.fired = []) := by
  cases ev with
  | ev e =>
    refine ⟨(L.step_bal c _ x.st e hb).1, ?_, by intro k hk; cases hk⟩
    intro f hf
    exact ⟨_, (async_fired_were_registered c (serverDec cfg x.tbl) x.st e f hf).2.2.2⟩
  | delRes k =>
    exact ⟨hb, by intro f hf; simp [stepT] at hf, fun _ _ => ⟨rfl, rfl⟩⟩

/-- the machine: the entry a deferring datagram registered, when it is handed over under the unchanged table, reaches
the handler call the datagram itself reached -/
theorem async_registered_entry_second_pass (c : Async.Cfg) (cfg : Server.Cfg) (tbl : Table) (st : St) (p : Nat)
    (defer : Option Nat) (rq : Request) (e : Entry) (v : Verdict)
    (hprx : hasOpt rq.msg.opts 35 = false ∧ hasOpt rq.msg.opts 39 = false) (hv : v.code ≠ 0 ∧ v.code ≠ 168)
    (hreg : (rxOwn c (serverDec cfg tbl) st p defer rq).1.2 = some e) :
    ∃ call, (rxOwn c (serverDec cfg tbl) st p defer rq).2.call = some call ∧
      ((serverDec cfg tbl).again e.req v).call = some call := by
  unfold rxOwn at hreg ⊢
  dsimp only at hreg ⊢
  split at hreg
  · rename_i d call hcall
    obtain ⟨hf, mid, he⟩ := L.register_some hreg
    dsimp only at hf
    refine ⟨call, hcall, ?_⟩
    rw [hf] at hcall
    rw [he]
    simp only [Option.isSome_none, Option.isSome_some, if_true] at hcall
    exact async_second_pass_same_handler cfg tbl { rq with verdict := ⟨0, []⟩ } call mid v hprx hv hcall
  · cases hreg

/-! non-vacuity: GET /a from peer 1 deferred for 500 ticks, retransmitted, 499 ticks pass (nothing), 1 more tick (the
delayed invocation: the handler is given the stored request and its 2.05 goes out as a separate Confirmable response) -/
def exACfg : Async.Cfg := ⟨1000, 2000, 32896⟩
def exARun : List Async.Ev :=
  [.rx 1 (some 500) exAgain.rq, .rx 1 none exAgain.rq, .io 499 ⟨69, [104, 105]⟩, .io 1 ⟨69, [104, 105]⟩]
example : (run exACfg (serverDec exCfg exTbl) (St.init exACfg) exARun).map
      (fun o => [(o.first.map (fun x => x.replies.map (·.code))).getD [], (o.first.map (fun x => x.replies.map (·.type))).getD [],
                 [(o.registered.map (·.delay)).getD 0, o.wait.getD 0],
                 o.fired.map (·.entry.id), (o.fired.map (fun f => f.out.replies.map (·.code))).flatten,
                 (o.fired.map (fun f => f.out.replies.map (·.type))).flatten,
                 (o.fired.map (fun f => f.out.replies.map (·.mid))).flatten,
                 (o.fired.map (fun f => (f.out.call.map (fun c => c.opts.map (·.1))).getD [])).flatten]) =
    [[[0], [2], [1500, 500], [], [], [], [], []], [[0], [2], [0, 500], [], [], [], [], []],
     [[], [], [0, 1], [], [], [], [], []], [[], [], [0, 0], [0], [69], [0], [32897], [11]]] := by decide
def exASt : St := (step exACfg (serverDec exCfg exTbl) (St.init exACfg) (.rx 1 (some 500) exAgain.rq)).1
example : (find exASt.async 1 exAgain.rq.msg.token).isSome = true := by decide
example : (0 < exASt.now ∧ exASt.now < W) ∧ (∀ e ∈ exASt.async, e.delay < W) ∧ exASt.async ≠ [] := by decide
example : fits exCfg ∧ hasOpt exAgain.rq.msg.opts 6 = false := by decide

/-! non-vacuity of the balance: deferred for 5000 ticks; 3000 ticks later the session has long been silent (timeout 2000)
but holds a reference: not reclaimed; at 6000 the entry fires (reference dropped, response sent); 2000 ticks later the
session is reclaimed -/
def exBRun : List Async.Ev :=
  [.rx 1 (some 5000) exAgain.rq, .io 3000 ⟨69, [104, 105]⟩, .io 2000 ⟨69, [104, 105]⟩, .io 2000 ⟨69, [104, 105]⟩]
example : (run exACfg (serverDec exCfg exTbl) (St.init exACfg) exBRun).map (fun o => (o.fired.length, o.reaped)) =
    [(0, []), (0, []), (1, []), (0, [1])] := by decide
example : ((final exACfg (serverDec exCfg exTbl) (St.init exACfg) (exBRun.take 2)).sess.map (fun s => (s.peer, s.ref, s.last)),
           (final exACfg (serverDec exCfg exTbl) (St.init exACfg) (exBRun.take 2)).now) = ([(1, 1, 1000)], 4000) := by decide

/-! non-vacuity of the second-pass theorems: GET /a with Hop-Limit 5 and a query (the handler's view has Hop-Limit 4:
the stored copy; the second pass must not decrement again), unchanged table ⇒ the same call; table without /a ⇒ 4.04 as a
separate Confirmable response with the copy's message id and no handler; table without /a but with an unknown-resource handler ⇒ that one -/
def exHop : Request := ⟨false, ⟨0, 1, 7, [1], [(11, [97]), (15, [120]), (16, [5])], []⟩, ⟨0, []⟩, .absent⟩
def exHopCall : Call := ⟨.res 0, 1, [97], [120], [(11, [97]), (15, [120]), (16, [4])], []⟩
def exStored : Msg := ⟨0, 1, 32897, [1], exHopCall.opts, []⟩
example : ((serverDec exCfg exTbl).first false exHop).call = some exHopCall ∧
    (hasOpt exHop.msg.opts 35 = false ∧ hasOpt exHop.msg.opts 39 = false) := by decide
example : ((serverDec exCfg exTbl).again exStored ⟨69, [104, 105]⟩).call = some exHopCall :=
  async_second_pass_same_handler exCfg exTbl exHop exHopCall 32897 ⟨69, [104, 105]⟩ (by decide) (by decide) (by decide)
def exTblDel : Table := ⟨none, none, []⟩
def exTblDelUnk : Table := ⟨some ⟨1, 0⟩, none, []⟩
example : (∀ r ∈ exTblDel.res, r.path ≠ M.uriPath exStored.opts) ∧
    (((serverDec exCfg exTblDel).again exStored ⟨69, [104, 105]⟩).call = none) ∧
    (((serverDec exCfg exTblDel).again exStored ⟨69, [104, 105]⟩).replies.map (fun r => (r.type, r.code, r.mid))) =
      [(CON, 132, 32897)] := by decide
example : (∀ r ∈ exTblDelUnk.res, r.path ≠ M.uriPath exStored.opts) ∧
    (((serverDec exCfg exTblDelUnk).again exStored ⟨69, [104, 105]⟩).call.map (·.who)) = some .unk := by decide
example : (rxOwn exACfg (serverDec exCfg exTbl) (St.init exACfg) 1 (some 500) exHop).1.2.map (·.req) = some exStored := by
  decide

/-! observation: an entry waiting for a trigger (`delay == 0`) is not skipped by the `next_due` computation of
coap_check_async: it contributes `0 - now` (uint64_t).  With only such entries the function returns 2^64 − now — not a
deadline of anything.  No property is contradicted: C10 does not speak about waits, `async_wait_le_earliest_deadline`
(the returned wait is never LATER than the earliest real deadline) holds regardless because 2^64 − now only loses
against real distances, and C06's wait statement is about retransmission deadlines; the effect is a wake-up of the
application's I/O loop that finds nothing to do (coap_io_prepare_io truncates the value to its timeout type). -/
theorem async_wait_of_untriggered_entry_witness :
    (prepare exACfg (serverDec exCfg exTbl) ⟨69, [104, 105]⟩
      (step exACfg (serverDec exCfg exTbl) (St.init exACfg) (.rx 1 (some 0) exAgain.rq)).1).2.wait =
      some (W - 1000) ∧
    (step exACfg (serverDec exCfg exTbl) (St.init exACfg) (.rx 1 (some 0) exAgain.rq)).1.async.map (·.delay) = [0] := by
  decide

end Async

end Coap.C10
