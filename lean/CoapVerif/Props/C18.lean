import CoapVerif.Model.AllocOracle
import CoapVerif.Lemmas.AllocBlock
import CoapVerif.Lemmas.Sessions
/-
C18 — any single allocation failure is survived (property theorems about the allocation-oracle model M,
Model/AllocOracle.lean).  All statements are ∀ oracle (any pattern of failing requests, not just one), ∀ arguments.
In this order: the primitive helpers of the PDU layer (a failure is atomic, nothing leaks, request counts); the ownership skeleton
of coap_send and the drain of the delay queue; coap_add_observer / coap_delete_observer with the session's reference count; whole
helper scripts (the ledger invariant `Heap.Replays` after every script, the reference count balanced); then the two containers of
the Block layer (Model/AllocBlock.lean, lemmas in Lemmas/AllocBlock.lean): the client's lg_crcv with its list of Observe tokens, the
server's lg_srcv of a Block1 transfer.

How the proofs are organised: each big helper is brought into a normal form once (`addToken_cases`, `addOption_cases`,
`addData_cases`: the guards, then the common ending `stored`; for the send path `send_cases`: one case per way through) and the
theorems are case analyses over it; what holds of a heap after ANY helper (the ledger invariant, memory stays available) is proved
once for every property preserved by the three allocator calls (`Closed`); an allocator call is used through its outcome, `Granted`
or `Refused`.  The allocator level — `Heap.Replays` with `ledger_replay`, `AllTrue`, `Closed` with its lemma per helper, `Regrown`,
`Owns`, the normal forms of the PDU helpers, `Granted` / `Refused` — is Lemmas/AllocOracle.lean; here: the property theorems, the
send path, whole scripts.
-/
namespace Coap.C18
open Coap Coap.AllocOracle
open Coap.Sessions (runLedger ledgerOk AllocEvent)
open Coap.AllocBlock (alloc_none alloc_some realloc_none realloc_some)

/-- The primitive helpers of the PDU layer, as one family. -/
inductive Prim where
  | resize (n : Nat)
  | check (n : Nat)
  | token (d : Bytes)
  | option (num : Nat) (v : Bytes)
  | data (d : Bytes)

/-- result code (0 = failure), PDU and heap after the call -/
def Prim.apply (p : OPdu) (h : Heap) : Prim → Nat × OPdu × Heap
  | .resize n => AllocOracle.resize p n h
  | .check n => AllocOracle.checkResize p n h
  | .token d => addToken p d h
  | .option num v => match addOption p num v h with
    | (.val rc, p1, h1) => (rc, p1, h1)
    | (.unmodelled, p1, h1) => (0, p1, h1)
  | .data d => addData p d h

theorem addToken_fail (p : OPdu) (d : Bytes) (h : Heap) :
    (addToken p d h).1 = 0 → (addToken p d h).2.1 = p ∧ (addToken p d h).2.2.live = h.live :=
  (addToken_spec p d h).fail

theorem addOption_fail (p : OPdu) (num : Nat) (v : Bytes) (h : Heap) :
    ((addOption p num v h).1 = .val 0 ∨ (addOption p num v h).1 = .unmodelled) →
    (addOption p num v h).2.1 = p ∧ (addOption p num v h).2.2.live = h.live := by
  rcases addOption_cases p num v h with e | e | e
  · rw [e]; exact fun _ => ⟨rfl, rfl⟩
  · rw [e]; exact fun _ => ⟨rfl, rfl⟩
  · rw [e]
    unfold stored
    by_cases hz : (checkResize p (p.buf.length + M.optEncodeSize (num - p.maxOpt) v.length) h).1 = 0
    · rw [if_pos hz]; exact fun _ => ⟨rfl, ((checkResize_spec p _ h).fail hz).2⟩
    · rw [if_neg hz]
      -- an encoded option is never empty, so the success code is not 0
      have : M.optEncodeSize (num - p.maxOpt) v.length ≠ 0 := by unfold M.optEncodeSize; omega
      intro hf
      simp [this] at hf

theorem addData_fail (p : OPdu) (d : Bytes) (h : Heap) :
    (addData p d h).1 = 0 → (addData p d h).2.1 = p ∧ (addData p d h).2.2.live = h.live :=
  (addData_spec p d h).fail

/-- Whichever primitive helper fails — because the oracle refused the (re)allocation or for any other
reason — the PDU is exactly what it was and the ledger's live set is unchanged (only the oracle has been consumed). -/
theorem failure_atomic (op : Prim) (p : OPdu) (h : Heap) (hf : (op.apply p h).1 = 0) :
    (op.apply p h).2.1 = p ∧ (op.apply p h).2.2.live = h.live := by
  cases op with
  | resize n => exact (resize_spec p n h).fail hf
  | check n => exact (checkResize_spec p n h).fail hf
  | token d => exact addToken_fail p d h hf
  | option num v =>
    have := addOption_fail p num v h
    simp only [Prim.apply] at hf ⊢
    generalize addOption p num v h = a at this hf ⊢
    obtain ⟨rc, p1, h1⟩ := a
    cases rc with
    | val n => have hn : n = 0 := hf; subst hn; exact this (Or.inl rfl)
    | unmodelled => exact this (Or.inr rfl)
  | data d => exact addData_fail p d h hf

/-- For every helper that creates or grows an object — on failure the ledger is what it was,
on success it is the old ledger plus exactly the owned result (a grown buffer replaces the old one). -/
theorem no_leak_on_failure (size : Nat) (op : Prim) (p : OPdu) (ol : List Opt) (num : Nat) (v : Bytes) (h : Heap) :
    -- coap_pdu_init
    ((pduInit size h).1 = none → (pduInit size h).2.live = h.live) ∧
    (∀ q, (pduInit size h).1 = some q → (pduInit size h).2.live = q.bufId :: q.id :: h.live) ∧
    -- resize / check_resize / add_token / add_option / add_data
    ((op.apply p h).1 = 0 → (op.apply p h).2.2.live = h.live) ∧
    -- coap_new_optlist + coap_insert_optlist
    ((optlistAdd ol num v h).1 = 0 → (optlistAdd ol num v h).2.1 = ol ∧ (optlistAdd ol num v h).2.2.live = h.live) ∧
    ((optlistAdd ol num v h).1 ≠ 0 → ∃ i, (optlistAdd ol num v h).2.1 = ol ++ [⟨i, num % 65536, v⟩] ∧
        (optlistAdd ol num v h).2.2.live = i :: h.live) ∧
    -- coap_new_string / coap_new_str_const / coap_new_bin_const
    ((newString h).1 = none → (newString h).2.live = h.live) ∧
    (∀ i, (newString h).1 = some i → (newString h).2.live = i :: h.live) := by
  refine ⟨(pduInit_ledger size h).1, (pduInit_ledger size h).2, fun hf => (failure_atomic op p h hf).2, ?_, ?_,
    fun hf => (alloc_none (Prod.ext hf rfl : h.alloc = (none, h.alloc.2))).live,
    fun i hi => (alloc_some (Prod.ext hi rfl : h.alloc = (some i, h.alloc.2))).live⟩
  · unfold optlistAdd
    rcases ha : h.alloc with ⟨_ | i, h1⟩
    · exact fun _ => ⟨rfl, (alloc_none ha).live⟩
    · exact fun hz => absurd hz (Nat.succ_ne_zero 0)
  · unfold optlistAdd
    rcases ha : h.alloc with ⟨_ | i, h1⟩
    · exact fun hz => absurd rfl hz
    · exact fun _ => ⟨i, rfl, (alloc_some ha).live⟩

/-- coap_send_pdu DELAYS the message (coap_session_delay_pdu) instead of writing it: the session is not established yet
(DTLS handshake, TCP connect, CSM pending) — whatever the type of the message —, or it is a CON and the NSTART slots are
taken -/
def MustDelay (con : Bool) (s : Sess) : Prop := s.established = false ∨ (con = true ∧ s.conActive ≥ s.nstart)

instance (con : Bool) (s : Sess) : Decidable (MustDelay con s) := by unfold MustDelay; exact inferInstance

theorem sendInternal_cond (con : Bool) (s : Sess) :
    (¬ (s.established = true) ∨ (con = true ∧ s.conActive ≥ s.nstart)) ↔ MustDelay con s := by
  unfold MustDelay
  cases s.established <;> simp

/-- the ways through `coap_send` with result `r`, each with the condition under which it is taken -/
inductive SendCase (con : Bool) (p : OPdu) (s : Sess) (h : Heap) (r : SendRes × Sess × Heap) : Prop where
  | tokTooLong (ht : p.tokLen > s.maxTok) (e : r = (.error, s, pduDelete p h))
  | delayRefused (ht : ¬ p.tokLen > s.maxTok) (hd : MustDelay con s) (h1 : Heap) (ha : h.alloc = (none, h1))
      (e : r = (.error, s, pduDelete p h1))
  | delayed (ht : ¬ p.tokLen > s.maxTok) (hd : MustDelay con s) (n : Nat) (h1 : Heap) (ha : h.alloc = (some n, h1))
      (e : r = (.delayed, { s with delayq := s.delayq ++ [⟨n, p, con⟩] }, h1))
  | writeFailed (ht : ¬ p.tokLen > s.maxTok) (hd : ¬ MustDelay con s) (hw : s.writeOk = false)
      (e : r = (.error, s, pduDelete p h))
  | nonSent (ht : ¬ p.tokLen > s.maxTok) (hd : ¬ MustDelay con s) (hw : s.writeOk = true) (hc : con = false)
      (e : r = (.sentFreed, s, pduDelete p h))
  | nodeRefused (ht : ¬ p.tokLen > s.maxTok) (hd : ¬ MustDelay con s) (hw : s.writeOk = true) (hc : con = true) (h1 : Heap)
      (ha : h.alloc = (none, h1)) (e : r = (.error, s, pduDelete p h1))
  | queued (ht : ¬ p.tokLen > s.maxTok) (hd : ¬ MustDelay con s) (hw : s.writeOk = true) (hc : con = true) (n : Nat) (h1 : Heap)
      (ha : h.alloc = (some n, h1))
      (e : r = (.queued, { s with conActive := s.conActive + 1, sendq := s.sendq ++ [⟨n, p, con⟩] }, h1))

theorem send_cases (con : Bool) (p : OPdu) (s : Sess) (h : Heap) : SendCase con p s h (send con p s h) := by
  unfold send
  by_cases ht : p.tokLen > s.maxTok
  · rw [if_pos ht]; exact .tokTooLong ht rfl
  · rw [if_neg ht]
    unfold sendInternal
    by_cases hd : MustDelay con s
    · rw [if_pos ((sendInternal_cond con s).mpr hd)]
      rcases ha : h.alloc with ⟨_ | n, h1⟩
      · exact .delayRefused ht hd h1 ha rfl
      · exact .delayed ht hd n h1 ha rfl
    · rw [if_neg (fun hx => hd ((sendInternal_cond con s).mp hx))]
      by_cases hw : ¬ s.writeOk = true
      · rw [if_pos hw]; exact .writeFailed ht hd (by simpa using hw) rfl
      · rw [if_neg hw]
        by_cases hc : ¬ con = true
        · rw [if_pos hc]; exact .nonSent ht hd (Decidable.not_not.mp hw) (by simpa using hc) rfl
        · rw [if_neg hc]
          rcases ha : h.alloc with ⟨_ | n, h1⟩
          · exact .nodeRefused ht hd (Decidable.not_not.mp hw) (Decidable.not_not.mp hc) h1 ha rfl
          · exact .queued ht hd (Decidable.not_not.mp hw) (Decidable.not_not.mp hc) n h1 ha rfl

/-- Whatever the oracle answers, whatever the socket does, whatever the state of the session
(established or not, NSTART slot free or not), `coap_send` ends in exactly one of two ways: the PDU has been released
(`coap_delete_pdu` ran exactly once on it: the trace grows by `free bufId, free id` and by nothing else that mentions them)
and no queue holds it; or it has NOT been released and exactly one new queue node owns it.  `COAP_INVALID_MID` is returned
only in the first way: a PDU given to coap_send is consumed even on failure — in particular when the message has to be
DELAYED and the delay-queue node cannot be allocated. -/
theorem send_consumes_pdu (con : Bool) (p : OPdu) (s : Sess) (h : Heap) :
    let r := send con p s h
    ( -- released, not queued
      (r.1 = .sentFreed ∨ r.1 = .error) ∧ r.2.1.sendq = s.sendq ∧ r.2.1.delayq = s.delayq ∧
        ∃ hm : Heap, r.2.2 = pduDelete p hm ∧ hm.trace = h.trace ∧ hm.live = h.live ) ∨
    ( -- kept: exactly one new node, which owns it; nothing freed
      (r.1 = .queued ∨ r.1 = .delayed) ∧
        ∃ n, r.2.2.live = n :: h.live ∧ r.2.2.trace = h.trace ++ [.alloc n] ∧
          ((r.1 = .queued ∧ r.2.1.sendq = s.sendq ++ [⟨n, p, con⟩] ∧ r.2.1.delayq = s.delayq) ∨
           (r.1 = .delayed ∧ r.2.1.delayq = s.delayq ++ [⟨n, p, con⟩] ∧ r.2.1.sendq = s.sendq)) ) := by
  intro r
  show _ ∨ _
  simp only [r]
  cases send_cases con p s h with
  | tokTooLong _ e => rw [e]; exact Or.inl ⟨Or.inr rfl, rfl, rfl, h, rfl, rfl, rfl⟩
  | delayRefused _ _ h1 ha e => rw [e]; exact Or.inl ⟨Or.inr rfl, rfl, rfl, h1, rfl, (alloc_none ha).trace, (alloc_none ha).live⟩
  | delayed _ _ n _ ha e => rw [e]; exact Or.inr ⟨Or.inr rfl, n, (alloc_some ha).live, (alloc_some ha).trace, Or.inr ⟨rfl, rfl, rfl⟩⟩
  | writeFailed _ _ _ e => rw [e]; exact Or.inl ⟨Or.inr rfl, rfl, rfl, h, rfl, rfl, rfl⟩
  | nonSent _ _ _ _ e => rw [e]; exact Or.inl ⟨Or.inl rfl, rfl, rfl, h, rfl, rfl, rfl⟩
  | nodeRefused _ _ _ _ h1 ha e => rw [e]; exact Or.inl ⟨Or.inr rfl, rfl, rfl, h1, rfl, (alloc_none ha).trace, (alloc_none ha).live⟩
  | queued _ _ _ _ n _ ha e => rw [e]; exact Or.inr ⟨Or.inl rfl, n, (alloc_some ha).live, (alloc_some ha).trace, Or.inl ⟨rfl, rfl, rfl⟩⟩

/-- For EVERY allocation oracle, every session state and every PDU, the ledger events
`coap_send` adds are exactly one of: `free buffer, free header` (the PDU was SENT and released, or REFUSED — COAP_INVALID_MID —
and released: once, by coap_send_internal's own exit, and no queue refers to it), or `alloc n` with `n` the node that now
owns the PDU in the send queue (QUEUED for retransmission) or in the session's delay queue (DELAYED).  Nothing else is
allocated or released, so the PDU handed to coap_send is consumed exactly once whichever way the call goes. -/
theorem send_pdu_consumed_exactly_once (con : Bool) (p : OPdu) (s : Sess) (h : Heap) :
    let r := send con p s h
    (r.2.2.trace = h.trace ++ [.free p.bufId, .free p.id] ∧ (r.1 = .sentFreed ∨ r.1 = .error) ∧
        r.2.1.sendq = s.sendq ∧ r.2.1.delayq = s.delayq) ∨
    (∃ n, r.2.2.trace = h.trace ++ [.alloc n] ∧
        ((r.1 = .queued ∧ r.2.1.sendq = s.sendq ++ [⟨n, p, con⟩] ∧ r.2.1.delayq = s.delayq) ∨
         (r.1 = .delayed ∧ r.2.1.delayq = s.delayq ++ [⟨n, p, con⟩] ∧ r.2.1.sendq = s.sendq))) := by
  intro r
  rcases send_consumes_pdu con p s h with ⟨ho, hs, hd, hm, he, ht, _⟩ | ⟨_, n, _, ht, hq⟩
  · left
    refine ⟨?_, ho, hs, hd⟩
    show (send con p s h).2.2.trace = _
    rw [he, ← ht]
    simp [pduDelete, Heap.free]
  · right; exact ⟨n, ht, hq⟩

/-- The DELAYED outcome: exactly when the token fits, coap_send_pdu has to delay the message and the
oracle grants the delay-queue node -/
theorem send_delayed_iff (con : Bool) (p : OPdu) (s : Sess) (h : Heap) :
    (send con p s h).1 = .delayed ↔ (p.tokLen ≤ s.maxTok ∧ MustDelay con s ∧ h.orc.head = true) := by
  cases send_cases con p s h with
  | tokTooLong ht e => rw [e]; exact ⟨fun hx => (nomatch hx), fun hx => absurd hx.1 (by omega)⟩
  | delayRefused _ _ _ ha e => rw [e, (alloc_none ha).head]; exact ⟨fun hx => (nomatch hx), fun hx => (nomatch hx.2.2)⟩
  | delayed ht hd _ _ ha e => rw [e]; exact ⟨fun _ => ⟨by omega, hd, (alloc_some ha).head⟩, fun _ => rfl⟩
  | writeFailed _ hd _ e => rw [e]; exact ⟨fun hx => (nomatch hx), fun hx => absurd hx.2.1 hd⟩
  | nonSent _ hd _ _ e => rw [e]; exact ⟨fun hx => (nomatch hx), fun hx => absurd hx.2.1 hd⟩
  | nodeRefused _ hd _ _ _ _ e => rw [e]; exact ⟨fun hx => (nomatch hx), fun hx => absurd hx.2.1 hd⟩
  | queued _ hd _ _ _ _ _ e => rw [e]; exact ⟨fun hx => (nomatch hx), fun hx => absurd hx.2.1 hd⟩

/-- The case seeded C18-16 corrupts: the message has to be delayed and the
request for the delay-queue node is refused.  The call returns COAP_INVALID_MID, the session (both queues, `con_active`) is
exactly as before, ONE request was made, and the ledger grows by exactly `free buffer, free header`: the PDU is released once
(by coap_send_internal's `error:` exit; coap_session_delay_pdu itself releases nothing). -/
theorem delayed_send_node_failure_releases_once (con : Bool) (p : OPdu) (s : Sess) (h : Heap)
    (ht : p.tokLen ≤ s.maxTok) (hd : MustDelay con s) (hf : h.orc.head = false) :
    (send con p s h).1 = .error ∧ (send con p s h).2.1 = s ∧
    (send con p s h).2.2.trace = h.trace ++ [.free p.bufId, .free p.id] ∧
    (send con p s h).2.2.live = (h.live.erase p.bufId).erase p.id ∧
    (send con p s h).2.2.reqs = h.reqs + 1 := by
  unfold send
  have : ¬ p.tokLen > s.maxTok := by omega
  simp only [this, if_false]
  unfold sendInternal
  rw [if_pos ((sendInternal_cond con s).mpr hd)]
  unfold Heap.alloc
  simp [hf, pduDelete, Heap.free]

/-- … and with memory available the same delayed send is accepted: one node, appended to the delay queue, owns the PDU;
nothing is released, `con_active` and the send queue are untouched -/
theorem delayed_send_succeeds_with_memory (con : Bool) (p : OPdu) (s : Sess) (h : Heap)
    (ht : p.tokLen ≤ s.maxTok) (hd : MustDelay con s) (hf : h.orc.head = true) :
    (send con p s h).1 = .delayed ∧ (send con p s h).2.1 = { s with delayq := s.delayq ++ [⟨h.next, p, con⟩] } ∧
    (send con p s h).2.2.trace = h.trace ++ [.alloc h.next] ∧ (send con p s h).2.2.live = h.next :: h.live := by
  unfold send
  have : ¬ p.tokLen > s.maxTok := by omega
  simp only [this, if_false]
  unfold sendInternal
  rw [if_pos ((sendInternal_cond con s).mpr hd)]
  unfold Heap.alloc
  simp [hf]

-- the hypotheses are satisfiable: NSTART slot taken / session not established, oracle refusing the next request
example : MustDelay true { conActive := 1 } ∧ MustDelay false { established := false } ∧ ¬ MustDelay false { conActive := 1 } := by decide
example : (send true ⟨1, 2, 8, 8, [], 0, 0, none⟩ { conActive := 1 } { orc := [false], next := 3, live := [2, 1] }).1 = .error ∧
    (send true ⟨1, 2, 8, 8, [], 0, 0, none⟩ { conActive := 1 } { orc := [false], next := 3, live := [2, 1] }).2.2.live = [] := by decide

/-- a failed send gives the NSTART slot back (after the fix: `con_active` is what it was) -/
theorem send_error_keeps_slot (con : Bool) (p : OPdu) (s : Sess) (h : Heap) (he : (send con p s h).1 = .error) :
    (send con p s h).2.1 = s := by
  cases send_cases con p s h with
  | tokTooLong _ e | delayRefused _ _ _ _ e | writeFailed _ _ _ e | nodeRefused _ _ _ _ _ _ e => rw [e]
  | delayed _ _ _ _ _ e | nonSent _ _ _ _ e | queued _ _ _ _ _ _ _ e => rw [e] at he; exact nomatch he

theorem drain_cons_blocked (q : Node) (rest : List Node) (s : Sess) (h : Heap) (hb : q.con = true ∧ s.conActive ≥ s.nstart) :
    drain (q :: rest) s h = ({ s with delayq := q :: rest }, h) := by
  unfold drain; rw [if_pos hb]

theorem drain_cons_con (q : Node) (rest : List Node) (s : Sess) (h : Heap) (hc : q.con = true)
    (hb : ¬ (q.con = true ∧ s.conActive ≥ s.nstart)) :
    drain (q :: rest) s h =
      if s.writeOk = false then ({ s with conActive := s.conActive + 1, sendq := s.sendq ++ [q], delayq := rest }, h)
      else drain rest { s with conActive := s.conActive + 1, sendq := s.sendq ++ [q] } h := by
  rw [drain, if_neg hb]; simp only [hc, if_true]

theorem drain_cons_non (q : Node) (rest : List Node) (s : Sess) (h : Heap) (hc : q.con = false) :
    drain (q :: rest) s h =
      if s.writeOk = false then ({ s with delayq := rest }, nodeDelete q h) else drain rest s (nodeDelete q h) := by
  rw [drain, if_neg (by simp [hc])]; simp [hc]

/-- coap_session_connected's loop over the delay queue, for every queue and every session state:
the queue splits into the nodes `taken` off its head and the nodes `kept`; the CONs among the taken ones are in the send
queue afterwards — the SAME nodes, still owning their PDUs, each counted in `con_active` —, every other taken node has been
released with its PDU exactly once (coap_delete_node_lkd, in queue order), and nothing else has happened to the ledger: no
request is made.  So a PDU that coap_send delayed is, after any number of drains, still owned by exactly one node or has
been released exactly once. -/
theorem connected_drain_spec (dq : List Node) (s : Sess) (h : Heap) :
    ∃ taken kept, dq = taken ++ kept ∧ (drain dq s h).1.delayq = kept ∧
      (drain dq s h).1.sendq = s.sendq ++ taken.filter (·.con) ∧
      (drain dq s h).1.conActive = s.conActive + (taken.filter (·.con)).length ∧
      (drain dq s h).2 = (taken.filter (fun q => !q.con)).foldl (fun h q => nodeDelete q h) h := by
  induction dq generalizing s h with
  | nil => exact ⟨[], [], rfl, rfl, by simp [drain], by simp [drain], by simp [drain]⟩
  | cons q rest ih =>
    by_cases hb : q.con = true ∧ s.conActive ≥ s.nstart
    · rw [drain_cons_blocked q rest s h hb]
      exact ⟨[], q :: rest, rfl, rfl, by simp, by simp, by simp⟩
    · cases hc : q.con with
      | true =>
        rw [drain_cons_con q rest s h hc hb]
        split
        · exact ⟨[q], rest, rfl, rfl, by simp [hc], by simp [hc], by simp [hc]⟩
        · obtain ⟨taken, kept, h1, h2, h3, h4, h5⟩ :=
            ih { s with conActive := s.conActive + 1, sendq := s.sendq ++ [q] } h
          refine ⟨q :: taken, kept, by rw [h1]; rfl, h2, ?_, ?_, ?_⟩
          · rw [h3]; simp [hc]
          · rw [h4]; simp [hc]; omega
          · rw [h5]; simp [hc]
      | false =>
        rw [drain_cons_non q rest s h hc]
        split
        · exact ⟨[q], rest, rfl, rfl, by simp [hc], by simp [hc], by simp [hc]⟩
        · obtain ⟨taken, kept, h1, h2, h3, h4, h5⟩ := ih s (nodeDelete q h)
          refine ⟨q :: taken, kept, by rw [h1]; rfl, h2, ?_, ?_, ?_⟩
          · rw [h3]; simp [hc]
          · rw [h4]; simp [hc]
          · rw [h5]; simp [hc]

/-- the drain reaches the heap only through `coap_delete_node_lkd` -/
theorem drain_heap_ind {P : Heap → Prop} (hn : ∀ q h, P h → P (nodeDelete q h)) (dq : List Node) (s : Sess) (h : Heap)
    (hp : P h) : P (drain dq s h).2 := by
  obtain ⟨taken, _, _, _, _, _, h5⟩ := connected_drain_spec dq s h
  rw [h5]
  exact foldl_inv P (fun h q => hn q h) _ h hp

theorem Closed.drain {P : Heap → Prop} (c : Closed P) (dq : List Node) (s : Sess) (h : Heap) (hp : P h) :
    P (drain dq s h).2 :=
  drain_heap_ind (fun q h hp => c.free _ q.id (c.pduDelete q.pdu h hp)) dq s h hp

/-- the drain makes no allocation request and keeps the ledger invariant -/
theorem drain_reqs_replays (dq : List Node) (s : Sess) (h : Heap) :
    (drain dq s h).2.reqs = h.reqs ∧ (h.Replays → (drain dq s h).2.Replays) :=
  ⟨drain_heap_ind (P := fun h' => h'.reqs = h.reqs) (fun _ _ e => e) dq s h rfl, replays_closed.drain dq s h⟩

example :
    let q1 : Node := ⟨3, ⟨1, 2, 8, 8, [], 0, 0, none⟩, false⟩
    let q2 : Node := ⟨6, ⟨4, 5, 8, 8, [], 0, 0, none⟩, true⟩
    let q3 : Node := ⟨9, ⟨7, 8, 8, 8, [], 0, 0, none⟩, true⟩
    let r := connected { established := false, delayq := [q1, q2, q3] } { orc := [], next := 10, live := [9, 8, 7, 6, 5, 4, 3, 2, 1] }
    r.1.delayq = [q3] ∧ r.1.sendq = [q2] ∧ r.1.conActive = 1 ∧ r.2.live = [9, 8, 7, 6, 5, 4] ∧ r.2.ok = true := by decide

theorem grow_ge (fuel size ns : Nat) : ns ≤ grow fuel size ns := by
  induction fuel generalizing ns with
  | zero => simp [grow]
  | succ k ih =>
    unfold grow
    split
    · exact Nat.le_trans (by omega) (ih (ns * 2))
    · exact Nat.le_refl _

/-- Once memory is available again (an all-true oracle — in particular the exhausted one), every
modelled operation succeeds provided it would fit at all (the `max_size` test is not an allocation failure):
coap_pdu_init returns a PDU, coap_pdu_resize returns 1, new optlist nodes / strings are created, and a send whose socket
write works is never answered COAP_INVALID_MID. -/
theorem next_op_succeeds (h : Heap) (ho : AllTrue h.orc) :
    (∀ size, size ≤ 8388864 - 6 → ((pduInit size h).1).isSome) ∧
    (∀ p n, (p.maxSize = 0 ∨ n ≤ p.maxSize) → (resize p n h).1 = 1) ∧
    (∀ ol num v, (optlistAdd ol num v h).1 = 1) ∧
    ((newString h).1).isSome ∧
    (∀ con p s, p.tokLen ≤ s.maxTok → s.writeOk = true → (send con p s h).1 ≠ .error) := by
  obtain ⟨h1, ea, _⟩ := alloc_granted h ho
  refine ⟨?_, fun p n hfit => resize_allTrue p n h ho hfit, ?_, ?_, ?_⟩
  · intro size hs
    obtain ⟨p, _, hp, _⟩ := pduInit_allTrue size h ho hs
    rw [hp]; rfl
  · intro ol num v
    unfold optlistAdd
    rw [ea]
  · unfold newString; rw [ea]; rfl
  · intro con p s ht hw
    cases send_cases con p s h with
    | tokTooLong ht' _ => omega
    | delayRefused _ _ _ hn _ | nodeRefused _ _ _ _ _ hn _ => rw [ea] at hn; exact nomatch hn
    | writeFailed _ _ hw' _ => rw [hw] at hw'; exact nomatch hw'
    | delayed _ _ _ _ _ e | nonSent _ _ _ _ e | queued _ _ _ _ _ _ _ e => rw [e]; exact fun hx => nomatch hx

/-- The number of allocation REQUESTS each helper makes, as a function of what happens — the
numbers the differential run compares with the real code for every script and every failing index:
coap_pdu_init 1 (first request refused, or size too large: the request is made before the size test) or 2;
coap_pdu_resize 1 iff it must grow and may (else 0); optlist node, string: 1; coap_send: 1 for a message that is delayed
(any type: the delay-queue node) or a CON that is written and reaches coap_new_node, 0 otherwise. -/
theorem alloc_count_matches (h : Heap) :
    (∀ size, (pduInit size h).2.reqs = h.reqs + (if h.orc.head = false ∨ size > 8388864 - 6 then 1 else 2)) ∧
    (∀ p n, (resize p n h).2.2.reqs = h.reqs + (if n > p.allocSize ∧ ¬ (p.maxSize ≠ 0 ∧ n > p.maxSize) then 1 else 0)) ∧
    (∀ ol num v, (optlistAdd ol num v h).2.2.reqs = h.reqs + 1) ∧
    ((newString h).2.reqs = h.reqs + 1) ∧
    (∀ con p s, (send con p s h).2.2.reqs = h.reqs +
        (if p.tokLen > s.maxTok then 0 else if MustDelay con s then 1
         else if s.writeOk = false then 0 else if con = false then 0 else 1)) := by
  refine ⟨?_, ?_, ?_, ?_, ?_⟩
  · intro size
    unfold pduInit
    rcases ha : h.alloc with ⟨_ | pid, h1⟩
    · rw [if_pos (Or.inl (alloc_none ha).head)]; exact (alloc_none ha).reqs
    · have hreq := (alloc_some ha).reqs
      simp only
      by_cases hs : size > 8388864 - 6
      · rw [if_pos hs, if_pos (Or.inr hs)]; exact hreq
      · rw [if_neg hs, if_neg (by rw [(alloc_some ha).head]; simp [hs])]
        rcases hb : h1.alloc with ⟨_ | bid, h2⟩
        · show h2.reqs = h.reqs + 2
          rw [(alloc_none hb).reqs, hreq]
        · show h2.reqs = h.reqs + 2
          rw [(alloc_some hb).reqs, hreq]
  · intro p n
    unfold resize
    by_cases hgt : n > p.allocSize
    · rw [if_pos hgt]
      by_cases hmax : p.maxSize ≠ 0 ∧ n > p.maxSize
      · rw [if_pos hmax, if_neg (fun hx => hx.2 hmax)]; rfl
      · rw [if_neg hmax, if_pos ⟨hgt, hmax⟩]
        rcases hr : h.realloc p.bufId with ⟨_ | b, h1⟩
        · exact (realloc_none hr).reqs
        · exact (alloc_some (realloc_some hr)).reqs
    · rw [if_neg hgt, if_neg (fun hx => hgt hx.1)]; rfl
  · intro ol num v
    unfold optlistAdd
    rcases ha : h.alloc with ⟨_ | i, h1⟩
    · exact (alloc_none ha).reqs
    · exact (alloc_some ha).reqs
  · unfold newString
    rcases ha : h.alloc with ⟨_ | i, h1⟩
    · exact (alloc_none ha).reqs
    · exact (alloc_some ha).reqs
  · intro con p s
    cases send_cases con p s h with
    | tokTooLong ht e => rw [e, if_pos ht]; rfl
    | delayRefused ht hd _ ha e => rw [e, if_neg ht, if_pos hd]; exact (alloc_none ha).reqs
    | delayed ht hd _ _ ha e => rw [e, if_neg ht, if_pos hd]; exact (alloc_some ha).reqs
    | writeFailed ht hd hw e => rw [e, if_neg ht, if_neg hd, if_pos hw]; rfl
    | nonSent ht hd hw hc e => rw [e, if_neg ht, if_neg hd, if_neg (by rw [hw]; decide), if_pos hc]; rfl
    | nodeRefused ht hd hw hc _ ha e =>
      rw [e, if_neg ht, if_neg hd, if_neg (by rw [hw]; decide), if_neg (by rw [hc]; decide)]; exact (alloc_none ha).reqs
    | queued ht hd hw hc _ _ ha e =>
      rw [e, if_neg ht, if_neg hd, if_neg (by rw [hw]; decide), if_neg (by rw [hc]; decide)]; exact (alloc_some ha).reqs

theorem replays_deleteObserver (tok : Bytes) (o : Obs) (h : Heap) (hr : h.Replays) : (deleteObserver tok o h).2.2.Replays :=
  replays_closed.deleteObserver tok o h hr

theorem replays_addObserver (req : OPdu) (sm : Nat) (tok : Bytes) (o : Obs) (h : Heap) (hr : h.Replays) :
    (addObserver req sm tok o h).2.2.Replays :=
  replays_closed.addObserver req sm tok o h hr

/-- `session->ref` = the other holders of the session + the number of subscriptions (each holds exactly one reference) -/
def ObsBal (base : Nat) (o : Obs) : Prop := o.ref = base + o.subs.length

/-- `coap_delete_observer`: 0 = nothing changes; 1 = one subscription fewer, its reference given back, and its four
objects (request copy: buffer + header, cache key, subscription) released, in this order, nothing else -/
theorem deleteObserver_spec (tok : Bytes) (o : Obs) (h : Heap) :
    ((deleteObserver tok o h).1 = 0 ∧ (deleteObserver tok o h).2.1 = o ∧ (deleteObserver tok o h).2.2 = h) ∨
    (∃ s ∈ o.subs, s.tok = tok ∧ (deleteObserver tok o h).1 = 1 ∧
      (deleteObserver tok o h).2.1.ref = o.ref - 1 ∧
      (deleteObserver tok o h).2.1.subs.length = o.subs.length - 1 ∧
      (deleteObserver tok o h).2.2 = ((pduDelete s.pdu h).free s.keyId).free s.id) := by
  unfold deleteObserver
  split
  · left; exact ⟨rfl, rfl, rfl⟩
  · rename_i s hs
    right
    have hm := List.mem_of_find?_eq_some hs
    have ht : s.tok = tok := by have := List.find?_some hs; simpa using this
    have hne : o.subs.isEmpty = false := by
      cases ho : o.subs with
      | nil => rw [ho] at hm; cases hm
      | cons a r => rfl
    refine ⟨s, hm, ht, rfl, ?_, ?_, ?_⟩ <;> simp only [deleteObserverInternal, hne] <;> simp
    exact List.length_eraseP_of_mem hm (by simp)

theorem deleteObserver_balanced (base : Nat) (tok : Bytes) (o : Obs) (h : Heap) (hb : ObsBal base o) :
    ObsBal base (deleteObserver tok o h).2.1 := by
  rcases deleteObserver_spec tok o h with ⟨_, ho, _⟩ | ⟨s, hm, _, _, hr, hl, _⟩
  · rw [ho]; exact hb
  · unfold ObsBal at *
    have : o.subs.length ≥ 1 := List.length_pos_of_mem hm
    omega

/-- `coap_pdu_duplicate_lkd`: NULL leaves the ledger as it was (whichever of its up to four requests failed); a copy owns
exactly two new blocks -/
theorem pduDuplicate_live (old : OPdu) (sm : Nat) (tok : Bytes) (h : Heap) :
    ((pduDuplicate old sm tok h).1 = none → (pduDuplicate old sm tok h).2.live = h.live) ∧
    (∀ p, (pduDuplicate old sm tok h).1 = some p → Owns p h.live (pduDuplicate old sm tok h).2.live) := by
  unfold pduDuplicate
  have hi := pduInit_ledger (max old.maxSize sm) h
  generalize pduInit (max old.maxSize sm) h = i at hi ⊢
  rcases i with ⟨_ | p0, h1⟩
  · exact ⟨fun _ => hi.1 rfl, fun p hp => nomatch hp⟩
  · have ht := (addToken_spec p0 tok h1).owns (hi.2 p0 rfl)
    simp only
    generalize addToken p0 tok h1 = t at ht ⊢
    have hz := (resize_spec t.2.1 ((optRegion old).length + etl t.2.1) t.2.2).owns ht
    generalize resize t.2.1 ((optRegion old).length + etl t.2.1) t.2.2 = r at hz ⊢
    split
    · exact ⟨fun _ => owns_delete _ _ _ ht, fun p hp => nomatch hp⟩
    · split
      · exact ⟨fun _ => owns_delete _ _ _ hz, fun p hp => nomatch hp⟩
      · exact ⟨fun hn => (nomatch hn), fun p hp => by cases hp; exact hz⟩

/-- the key derived before the subscription is created, if any, is the newest live object; serials are fresh -/
def KeyHeld (k1 : Option (Nat × KeyMat)) (L : List Nat) (h : Heap) : Prop :=
  (match k1 with
   | some (k, _) => h.live = k :: L
   | none => h.live = L) ∧ ∀ i ∈ h.live, i < h.next

theorem deriveKey_live (p : OPdu) (h : Heap) :
    ((deriveKey p h).1 = none → (deriveKey p h).2.live = h.live ∧ (deriveKey p h).2.next = h.next) ∧
    (∀ k km, (deriveKey p h).1 = some (k, km) → (deriveKey p h).2.live = k :: h.live ∧ k = h.next ∧
      (deriveKey p h).2.next = h.next + 1 ∧ keyOf p = some km) := by
  unfold deriveKey
  split
  · exact ⟨fun _ => ⟨rfl, rfl⟩, fun k km hk => by simp at hk⟩
  · rename_i km0 hkm
    rcases ha : h.alloc with ⟨_ | i, h1⟩
    · exact ⟨fun _ => ⟨(alloc_none ha).live, (alloc_none ha).next⟩, fun k km hk => nomatch hk⟩
    · have g := alloc_some ha
      refine ⟨fun hn => (nomatch hn), fun k km hk => ?_⟩
      cases hk
      exact ⟨g.live, g.id, g.next, hkm⟩

/-- the failure exits of `coap_add_observer` once the subscription `sid` exists: everything else released already, the key
and the subscription go -/
theorem KeyHeld.undo_live {k1 : Option (Nat × KeyMat)} {L : List Nat} {h h' : Heap} (hk : KeyHeld k1 L h) {sid : Nat}
    (hs : sid = h.next) (hl : h'.live = sid :: h.live) : ((freeKey k1 h').free sid).live = L := by
  obtain ⟨hkl, hfresh⟩ := hk
  cases k1 with
  | none => simp only at hkl; simp [freeKey, Heap.free, hl, hkl]
  | some kk =>
    simp only at hkl
    -- the subscription's serial is not the key's
    have : sid ≠ kk.1 := by
      have := hfresh kk.1 (by rw [hkl]; simp)
      omega
    simp [freeKey, Heap.free, hl, hkl, this]

/-- what the second half of `coap_add_observer` does to the subscriber list, the reference count and the ledger, for EVERY
oracle: either NULL, and then subscriber list, reference count and ledger are what they were before the call (the key
derived before, if any, has been released as well): nothing leaks, no reference is kept;
or a new subscription at the head of the list, ONE more reference, and exactly its four objects added to the ledger. -/
theorem createSub_spec (req : OPdu) (sm : Nat) (tok : Bytes) (k1 : Option (Nat × KeyMat)) (o : Obs) (h : Heap)
    (L : List Nat) (hk : KeyHeld k1 L h) :
    ((createSub req sm tok k1 o h).1 = none ∧ (createSub req sm tok k1 o h).2.1 = o ∧
      (createSub req sm tok k1 o h).2.2.live = L) ∨
    (∃ s : Sub, (createSub req sm tok k1 o h).1 = some s.id ∧ s.tok = tok ∧
      (createSub req sm tok k1 o h).2.1 = { ref := o.ref + 1, subs := s :: o.subs } ∧
      ((createSub req sm tok k1 o h).2.2.live = s.pdu.bufId :: s.pdu.id :: s.id :: s.keyId :: L ∨
       (createSub req sm tok k1 o h).2.2.live = s.keyId :: s.pdu.bufId :: s.pdu.id :: s.id :: L)) := by
  unfold createSub
  rcases ha : h.alloc with ⟨_ | sid, h2⟩
  · refine Or.inl ⟨rfl, rfl, ?_⟩
    have hl := (alloc_none ha).live
    have hkl := hk.1
    cases k1 with
    | none => exact hl.trans hkl
    | some kk => simp only at hkl; simp [freeKey, Heap.free, hl, hkl]
  · have hsid := (alloc_some ha).id
    have hl2 := (alloc_some ha).live
    simp only
    have hd := pduDuplicate_live req sm tok h2
    rcases hdu : pduDuplicate req sm tok h2 with ⟨_ | p, h3⟩
    · rw [hdu] at hd
      exact Or.inl ⟨rfl, rfl, hk.undo_live hsid ((hd.1 rfl).trans hl2)⟩
    · rw [hdu] at hd
      have hown : Owns p h2.live h3.live := hd.2 p rfl
      simp only
      unfold finishSub
      have hcp : Owns (copyPayload req p h3).2.1 h2.live (copyPayload req p h3).2.2.live := by
        unfold copyPayload
        split
        · exact (addData_spec _ _ _).owns hown
        · exact hown
      generalize copyPayload req p h3 = a at hcp
      simp only
      split
      · exact Or.inl ⟨rfl, rfl, hk.undo_live hsid ((owns_delete _ _ _ hcp).trans hl2)⟩
      · unfold Owns at hcp
        cases k1 with
        | some kk =>
          obtain ⟨k, km⟩ := kk
          have hkl : h.live = k :: L := hk.1
          simp only [lateKey]
          exact Or.inr ⟨⟨sid, a.2.1, k, km, tok⟩, rfl, rfl, rfl, Or.inl (by rw [hcp, hl2, hkl])⟩
        | none =>
          have hkl : h.live = L := hk.1
          simp only [lateKey]
          have hdk := deriveKey_live req a.2.2
          rcases hdr : deriveKey req a.2.2 with ⟨_ | ⟨kid, km⟩, h5⟩
          · rw [hdr] at hdk
            have h5l : h5.live = a.2.1.bufId :: a.2.1.id :: h2.live := (hdk.1 rfl).1.trans hcp
            exact Or.inl ⟨rfl, rfl, hk.undo_live hsid ((owns_delete a.2.1 h2.live h5 h5l).trans hl2)⟩
          · rw [hdr] at hdk
            have h5l : h5.live = kid :: a.2.2.live := (hdk.2 kid km rfl).1
            exact Or.inr ⟨⟨sid, a.2.1, kid, km, tok⟩, rfl, rfl, rfl, Or.inr (by rw [h5l, hcp, hl2, hkl])⟩

theorem createSub_obs (req : OPdu) (sm : Nat) (tok : Bytes) (k1 : Option (Nat × KeyMat)) (o : Obs) (h : Heap) :
    (createSub req sm tok k1 o h).2.1 = o ∨
    ∃ s : Sub, (createSub req sm tok k1 o h).2.1 = { ref := o.ref + 1, subs := s :: o.subs } := by
  unfold createSub
  rcases h.alloc with ⟨_ | sid, h2⟩
  · exact Or.inl rfl
  · simp only
    rcases pduDuplicate req sm tok h2 with ⟨_ | p, h3⟩
    · exact Or.inl rfl
    · simp only
      unfold finishSub
      generalize copyPayload req p h3 = a
      simp only
      split
      · exact Or.inl rfl
      · generalize lateKey req k1 a.2.2 = k2
        split
        · exact Or.inl rfl
        · exact Or.inr ⟨_, rfl⟩

theorem replaceStep_obs (req : OPdu) (o : Obs) (h : Heap) :
    (replaceStep req o h).2.1 = o ∨ ∃ t h', (replaceStep req o h).2.1 = (deleteObserver t o h').2.1 := by
  unfold replaceStep
  simp only
  split
  · split
    · right; exact ⟨_, _, rfl⟩
    · left; rfl
  · left; rfl

theorem addObserver_balanced (base : Nat) (req : OPdu) (sm : Nat) (tok : Bytes) (o : Obs) (h : Heap) (hb : ObsBal base o) :
    ObsBal base (addObserver req sm tok o h).2.1 := by
  unfold addObserver
  split
  · exact hb
  · simp only
    have h1 : ObsBal base (replaceStep req o h).2.1 := by
      rcases replaceStep_obs req o h with he | ⟨t, h', he⟩
      · rw [he]; exact hb
      · rw [he]; exact deleteObserver_balanced base t o h' hb
    generalize replaceStep req o h = r at h1 ⊢
    rcases createSub_obs req sm tok r.1 r.2.1 r.2.2 with he | ⟨s, he⟩
    · rw [he]; exact h1
    · rw [he]; unfold ObsBal at *; simp only [List.length_cons]; omega

/-- `coap_add_observer` for EVERY oracle (any pattern of failing requests: the cache key, the
subscription, the two blocks of the request copy, growing the copy for the token / the options / the payload, the key
again), when no subscription of the session is replaced (none has the request's cache key): exactly one of
  (found)   a subscription with this token exists: it is returned, nothing changes, no request is made;
  (NULL)    the subscriber list, the session's reference count AND the ledger are exactly what they were: no reference
            is kept (C18-5: the reference is taken after the last step that can fail), nothing leaks;
  (new)     a new subscription with this token at the head of the list, ONE more reference, and exactly four more live
            objects: the copy's buffer and header, the subscription, the cache key. -/
theorem add_observer_spec (req : OPdu) (sm : Nat) (tok : Bytes) (o : Obs) (h : Heap)
    (hfresh : ∀ i ∈ h.live, i < h.next)
    (hnokey : ∀ km, keyOf req = some km → o.subs.find? (fun x => x.key == km) = none) :
    (∃ s ∈ o.subs, s.tok = tok ∧ addObserver req sm tok o h = (some s.id, o, h)) ∨
    ((addObserver req sm tok o h).1 = none ∧ (addObserver req sm tok o h).2.1 = o ∧
      (addObserver req sm tok o h).2.2.live = h.live) ∨
    (∃ s : Sub, (addObserver req sm tok o h).1 = some s.id ∧ s.tok = tok ∧
      (addObserver req sm tok o h).2.1 = { ref := o.ref + 1, subs := s :: o.subs } ∧
      ((addObserver req sm tok o h).2.2.live = s.pdu.bufId :: s.pdu.id :: s.id :: s.keyId :: h.live ∨
       (addObserver req sm tok o h).2.2.live = s.keyId :: s.pdu.bufId :: s.pdu.id :: s.id :: h.live)) := by
  unfold addObserver
  split
  · rename_i s hs
    left
    have ht : s.tok = tok := by have := List.find?_some hs; simpa using this
    exact ⟨s, List.mem_of_find?_eq_some hs, ht, rfl⟩
  · right
    simp only
    -- the first half only derives the key
    have hdk := deriveKey_live req h
    have hrs : replaceStep req o h = ((deriveKey req h).1, o, (deriveKey req h).2) := by
      unfold replaceStep
      simp only
      cases hk : (deriveKey req h).1 with
      | none => rfl
      | some kk =>
        obtain ⟨k, km⟩ := kk
        simp only
        rw [hnokey km (hdk.2 k km hk).2.2.2]
    rw [hrs]
    refine createSub_spec req sm tok _ o _ h.live ?_
    cases hk : (deriveKey req h).1 with
    | none =>
      obtain ⟨hl, hnx⟩ := hdk.1 hk
      rw [← hl, ← hnx] at hfresh
      exact ⟨hl, hfresh⟩
    | some kk =>
      obtain ⟨k, km⟩ := kk
      obtain ⟨hl, hkn, hnx, _⟩ := hdk.2 k km hk
      refine ⟨hl, ?_⟩
      intro i hi
      rw [hl] at hi
      rw [hnx]
      rcases List.mem_cons.mp hi with he | hm
      · omega
      · have := hfresh i hm; omega

theorem pduDuplicate_allTrue (old : OPdu) (sm : Nat) (tok : Bytes) (h : Heap) (ho : AllTrue h.orc) (b : Nat)
    (hsize : max old.maxSize sm ≤ 8388864 - 6) (hb : M.tokBias tok.length = some b)
    (hfit : (optRegion old).length + tok.length + b ≤ max old.maxSize sm) :
    ∃ p h1, pduDuplicate old sm tok h = (some p, h1) ∧ AllTrue h1.orc ∧ p.data = none := by
  unfold pduDuplicate
  obtain ⟨p0, h1, e0, ho1, hmax, hemp, _⟩ := pduInit_allTrue (max old.maxSize sm) h ho hsize
  obtain ⟨q, h2, et, ho2, tmax, ttok, tdata⟩ := addToken_allTrue p0 tok h1 ho1 b hemp hb (by omega)
  rw [e0]
  simp only
  rw [et]
  have hetl : etl q = tok.length + b := by unfold etl; rw [ttok, hb]
  have hr1 := resize_allTrue q ((optRegion old).length + etl q) h2 ho2 (by rw [tmax, hmax, hetl]; omega)
  have hrs := congrArg OPdu.data (resize_keeps q ((optRegion old).length + etl q) h2)
  have hro := allTrue_closed.resize q ((optRegion old).length + etl q) h2 ho2
  generalize resize q ((optRegion old).length + etl q) h2 = r at hr1 hrs hro ⊢
  rw [if_neg (by omega), if_neg (by omega)]
  exact ⟨_, _, rfl, hro, hrs.trans tdata⟩

theorem deriveKey_allTrue (p : OPdu) (h : Heap) (ho : AllTrue h.orc) (km : KeyMat) (hk : keyOf p = some km) :
    (deriveKey p h).1 = some (h.next, km) := by
  obtain ⟨h1, ea, _⟩ := alloc_granted h ho
  unfold deriveKey
  rw [hk]
  simp only
  rw [ea]

/-- Once memory is available again (an all-true oracle, the exhausted one in
particular) `coap_add_observer` returns a subscription, provided the request has something to derive a key from (at least
one option or a payload) and the token and the options fit the size limit of the copy.  With `observer_refs_balanced`:
the failed registration left nothing behind that makes the next one fail. -/
theorem add_observer_succeeds_with_memory (req : OPdu) (sm : Nat) (tok : Bytes) (o : Obs) (h : Heap) (ho : AllTrue h.orc)
    (km : KeyMat) (hkey : keyOf req = some km) (b : Nat) (hb : M.tokBias tok.length = some b)
    (hsize : max req.maxSize sm ≤ 8388864 - 6)
    (hfit : (optRegion req).length + tok.length + b ≤ max req.maxSize sm) :
    (addObserver req sm tok o h).1.isSome = true := by
  unfold addObserver
  split
  · rfl
  · simp only
    -- first half: the key is derived
    have hk1 := deriveKey_allTrue req h ho km hkey
    have hr1 : (replaceStep req o h).1 = some (h.next, km) := by
      unfold replaceStep
      simp only [hk1]
      split <;> rfl
    have hro := allTrue_closed.replaceStep req o h ho
    generalize replaceStep req o h = r at hr1 hro
    unfold createSub
    obtain ⟨h2, hal, ha2⟩ := alloc_granted r.2.2 hro
    rw [hal]
    simp only
    obtain ⟨p, h3, hdu, hpo, hpd⟩ := pduDuplicate_allTrue req sm tok h2 ha2 b hsize hb hfit
    rw [hdu]
    simp only
    unfold finishSub
    have hcp : (copyPayload req p h3).1 = 1 := by
      unfold copyPayload
      split
      · exact addData_allTrue _ _ _ hpo rfl hpd
      · rfl
    simp only [hcp, Nat.succ_ne_zero, if_false, lateKey, hr1]
    rfl

theorem Closed.send {P : Heap → Prop} (c : Closed P) (con : Bool) (p : OPdu) (s : Sess) (h : Heap) (hp : P h) :
    P (send con p s h).2.2 := by
  cases send_cases con p s h with
  | tokTooLong _ e | writeFailed _ _ _ e | nonSent _ _ _ _ e => rw [e]; exact c.pduDelete p h hp
  | delayRefused _ _ _ ha e | nodeRefused _ _ _ _ _ ha e => rw [e]; exact c.pduDelete p _ (c.alloc_eq ha hp)
  | delayed _ _ _ _ ha e | queued _ _ _ _ _ _ ha e => rw [e]; exact c.alloc_eq ha hp

theorem Closed.step {P : Heap → Prop} (c : Closed P) (st : St) (op : HOp) (hp : P st.heap) : P (st.step op).2.heap := by
  cases op with
  | init size =>
    unfold St.step
    simp only
    cases st.pdu with
    | none =>
      simp only
      have := c.pduInit size _ hp
      split <;> (rename_i heq; rw [heq] at this; exact this)
    | some p =>
      simp only
      have := c.pduInit size _ (c.pduDelete p _ hp)
      split <;> (rename_i heq; rw [heq] at this; exact this)
  | token len =>
    unfold St.step
    cases st.pdu with
    | none => exact hp
    | some p => exact c.addToken p (pattern len) st.heap hp
  | option num len =>
    unfold St.step
    cases st.pdu with
    | none => exact hp
    | some p => exact c.addOption p num (pattern len) st.heap hp
  | data len =>
    unfold St.step
    cases st.pdu with
    | none => exact hp
    | some p => exact c.addData p (pattern len) st.heap hp
  | resize n =>
    unfold St.step
    cases st.pdu with
    | none => exact hp
    | some p =>
      simp only
      split
      · exact hp
      · exact c.resize p n st.heap hp
  | check n =>
    unfold St.step
    cases st.pdu with
    | none => exact hp
    | some p => exact c.checkResize p n st.heap hp
  | del =>
    unfold St.step
    cases st.pdu with
    | none => exact hp
    | some p => exact c.pduDelete p _ hp
  | olAdd num len =>
    unfold St.step optlistAdd
    have := c.alloc st.heap hp
    rcases hal : st.heap.alloc with ⟨_ | i, h1⟩ <;> rw [hal] at this <;> exact this
  | olPdu =>
    unfold St.step
    cases st.pdu with
    | none => exact hp
    | some p =>
      simp only
      unfold addOptlistPdu
      split
      · exact hp
      · split
        · exact hp
        · exact c.addOpts _ p st.heap hp
  | olDel => exact c.optlistDelete _ _ hp
  | str len =>
    unfold St.step newString
    have := c.alloc st.heap hp
    rcases hal : st.heap.alloc with ⟨_ | i, h1⟩ <;> rw [hal] at this <;> exact this
  | strFree => exact c.freeAll _ _ hp
  | send con =>
    unfold St.step
    cases st.pdu with
    | none => exact hp
    | some p => exact c.send con p st.sess st.heap hp
  | write ok => exact hp
  | estab up =>
    unfold St.step
    cases up with
    | false => exact hp
    | true => exact c.drain st.sess.delayq _ st.heap hp
  | obsAdd toklen =>
    unfold St.step
    cases st.pdu with
    | none => exact hp
    | some p => exact c.addObserver p SESS_MAX_PDU (pattern toklen) st.obs st.heap hp
  | obsDel toklen => exact c.deleteObserver (pattern toklen) st.obs st.heap hp

theorem Closed.run {P : Heap → Prop} (c : Closed P) (st : St) (ops : List HOp) (hp : P st.heap) :
    P (st.run ops).2.heap := by
  induction ops generalizing st with
  | nil => exact hp
  | cons op r ih => exact ih _ (c.step st op hp)

/-- non-vacuity and a concrete run: a script under the oracle that fails the 3rd request; the buffer cannot be
grown to 300 bytes (the realloc of the 256-byte buffer fails), everything else goes through, the trace is clean after clean-up -/
example :
    let st := (St.init (oracleFailing 3 0 3)).run [.init 1152, .token 4, .check 300, .option 11 3, .data 10, .send true]
    st.1 = [.num 1, .num 1, .num 0, .num 4, .num 1, .sent .queued] ∧ st.2.heap.reqs = 4 ∧
    ledgerOk st.2.cleanup.heap.trace = true := by decide

example : ledgerOk ((St.init []).run [.init 100, .olAdd 11 2, .olAdd 3 1, .olPdu, .str 5, .send false]).2.cleanup.heap.trace = true := by
  decide

/-- **script_ledger_ok** — stated for every oracle and every script over the ops whose clean-up is a single object
(PDU life cycle and the send path; the optlist / string loops are covered by `no_leak_on_failure` per call and by
the differential run's monitor verdict on M's own trace for every script):
the heap invariant `Replays` (the model's ledger IS the monitor's replay of the model's trace) holds in every
reachable state, so `ledgerOk` of the final trace is decided by `live = [] ∧ ok`. -/
theorem script_ledger_ok (st : St) (ops : List HOp) (hr : st.heap.Replays) :
    (st.run ops).2.heap.Replays :=
  replays_closed.run st ops hr

/-- For EVERY script and EVERY oracle: the server session's reference count is the number of
its other holders plus the number of subscriptions, in every reachable state.  Whatever request fails inside
coap_add_observer (or anywhere else), no reference is left without a subscription holding it (the session would never be
reclaimed as idle) and no subscription without its reference (use after free when the idle session is reclaimed). -/
theorem observer_refs_balanced (base : Nat) (st : St) (ops : List HOp) (hb : ObsBal base st.obs) :
    ObsBal base (st.run ops).2.obs := by
  induction ops generalizing st with
  | nil => exact hb
  | cons op r ih =>
    unfold St.run
    simp only
    apply ih
    cases op with
    | obsAdd toklen =>
      unfold St.step
      cases hp : st.pdu with
      | none => exact hb
      | some p => exact addObserver_balanced base p SESS_MAX_PDU (pattern toklen) st.obs st.heap hb
    | obsDel toklen => exact deleteObserver_balanced base (pattern toklen) st.obs st.heap hb
    | _ =>
      -- no other op touches the subscriber list or the reference count
      simp only [St.step]
      (repeat' split) <;> exact hb

/-- a script that starts with no subscription and an unreferenced session: `ref` IS the number of subscriptions -/
theorem observer_refs_count (orc : Oracle) (ops : List HOp) :
    ((St.init orc).run ops).2.obs.ref = ((St.init orc).run ops).2.obs.subs.length := by
  have := observer_refs_balanced 0 (St.init orc) ops (by simp [ObsBal, St.init])
  simpa [ObsBal] using this

/-- non-vacuity: registration of the request `GET Observe /123` under token 01 02 while request 5 (the header object of the
request copy) fails — NULL, no reference, nothing live beyond the script's PDU; again with memory available — registered,
one reference; the same request under token 01 02 03 replaces it (still one reference); deleted — none. -/
example :
    let st := (St.init (oracleFailing 5 0 5)).run
      [.init 1152, .token 4, .option 6 0, .option 11 3, .obsAdd 2, .obsAdd 2, .obsAdd 2, .obsAdd 3, .obsDel 2, .obsDel 3]
    st.1 = [.num 1, .num 1, .num 1, .num 4, .num 0, .num 1, .num 1, .num 1, .num 0, .num 1] ∧
    st.2.obs.ref = 0 ∧ st.2.obs.subs = [] ∧ ledgerOk st.2.cleanup.heap.trace = true := by decide

example :
    let st := (St.init (oracleFailing 5 0 5)).run [.init 1152, .token 4, .option 6 0, .option 11 3, .obsAdd 2]
    st.2.obs.ref = 0 ∧ st.2.heap.live.length = 2 ∧ st.2.heap.reqs = 5 := by decide

example :
    let st := (St.init []).run [.init 1152, .token 4, .option 6 0, .option 11 3, .data 5, .obsAdd 2, .obsAdd 3]
    st.2.obs.ref = 1 ∧ (st.2.obs.subs.map (·.tok.length)) = [3] ∧ st.2.heap.live.length = 6 := by decide

/-- non-vacuity of the hypotheses of `add_observer_spec` / `add_observer_succeeds_with_memory`: a state with live objects
whose serials are fresh, and a request whose cache key material is its Uri-Path (Observe is not part of the key) -/
example :
    let st := ((St.init (oracleFailing 5 0 5)).run [.init 1152, .token 4, .option 6 0, .option 11 3]).2
    (∀ i ∈ st.heap.live, i < st.heap.next) ∧ st.heap.live.length = 2 ∧
    st.pdu.bind keyOf = some [(11, [1, 2, 3])] ∧
    (st.pdu.map fun p => decide ((optRegion p).length + 2 ≤ max p.maxSize SESS_MAX_PDU)) = some true ∧
    M.tokBias 2 = some 0 := by decide

/-- consequence: the monitor's verdict on the trace of ANY script under ANY oracle is read off the model's ledger -/
theorem script_verdict (orc : Oracle) (ops : List HOp) :
    let h := ((St.init orc).run ops).2.heap
    ledgerOk h.trace = (h.ok && h.live.isEmpty) := by
  intro h
  have := script_ledger_ok (St.init orc) ops (replays_init orc)
  unfold Heap.Replays at this
  unfold ledgerOk
  show (match runLedger h.trace [] with | some [] => true | _ => false) = _
  rw [this]
  cases h.ok <;> cases h.live <;> simp

/-! ## Block-layer containers: the client's list of Observe tokens, the server's Block1 reassembly state -/

section BlockContainers
open Coap.AllocBlock

/-- **client, memory safety** — for EVERY sequence of calls (any block numbers, in any order: no discipline assumed) and
EVERY oracle: no call of the model reads or writes outside the list of Observe tokens (`COut.invalid` never occurs), the
lg_crcv that is left has `obs_token_cnt ≤` the allocated length of `obs_token` and a NULL list only with count 0, and the
tear-down (`coap_block_delete_lg_crcv`, which walks `obs_token[0 .. obs_token_cnt)`) stays inside the list.
(Seeded C18-7 falsifies exactly this: the count was raised before the realloc that can fail.) -/
theorem obs_token_cnt_within_list (orc : Oracle) (evs : List CEv) :
    let r := crcvRun none { orc := orc } evs
    (∀ o ∈ r.1, o ≠ COut.invalid) ∧ (∀ c, r.2.1 = some c → c.cnt ≤ c.tab.length ∧ (c.tabId = none → c.cnt = 0)) ∧
      (crcvCleanup r.2.1 r.2.2).isSome = true := by
  intro r
  obtain ⟨h1, h2⟩ := crcvRun_bound evs none { orc := orc } (fun c e => by simp at e)
  refine ⟨h1, ?_, ?_⟩
  · intro c e
    exact ⟨(h2 c e).le, (h2 c e).cnt_zero⟩
  · cases e : r.2.1 with
    | none => simp [crcvCleanup]
    | some c =>
      obtain ⟨h', eh⟩ := deleteCrcv_some (h2 c e) r.2.2
      simp [crcvCleanup, eh]

/-- when the list of Observe tokens cannot be grown (the request of `track_fetch_observe` fails) the lg_crcv is exactly
as it was: same list, same count -/
theorem track_realloc_failure_atomic (c : Crcv) (bn tokLen : Nat) (h : Heap) (hg : c.cnt ≤ bn)
    (hf : (reallocOpt c.tabId h).1 = none) :
    trackEstablish c bn tokLen h = some (c, (reallocOpt c.tabId h).2) := by
  unfold trackEstablish
  rw [if_pos hg]
  rcases hr : reallocOpt c.tabId h with ⟨_ | t, h1⟩
  · rfl
  · rw [hr] at hf; simp at hf

/-- **client, ledger** — for every call sequence inside the callers' discipline (`feasible`: the block numbers registered
for one lg_crcv only go up, block 0 is repeated only while no later block is registered) and EVERY oracle: no object is
ever released twice or released without having been allocated (`ok`), the tear-down succeeds, and afterwards NOTHING the
lg_crcv ever allocated is live. -/
theorem lg_crcv_ledger_sound (orc : Oracle) (evs : List CEv) (hf : feasible 0 evs = true) :
    let r := crcvRun none { orc := orc } evs
    r.2.2.ok = true ∧ ∃ fin, crcvCleanup r.2.1 r.2.2 = some fin ∧ fin.ok = true ∧ fin.live = [] := by
  intro r
  obtain ⟨hi', hI⟩ := crcvRun_own evs 0 none [] { orc := orc } (Own.init_empty orc) hf
  obtain ⟨fin, e1, e2⟩ := crcvCleanup_own hI
  exact ⟨hI.ok, fin, e1, e2.ok, e2.live_nil⟩

/-- the same from any sound heap: what was live before (`L`) is exactly what is live afterwards -/
theorem lg_crcv_ledger_sound_from (h : Heap) (hok : h.ok = true) (hn : h.live.Nodup) (hfr : ∀ i ∈ h.live, i < h.next)
    (evs : List CEv) (hf : feasible 0 evs = true) :
    ∃ fin, crcvCleanup (crcvRun none h evs).2.1 (crcvRun none h evs).2.2 = some fin ∧ fin.ok = true ∧
      ∀ i, i ∈ fin.live ↔ i ∈ h.live := by
  obtain ⟨hi', hI⟩ := crcvRun_own evs 0 none h.live h (Own.init h hok hn hfr) hf
  obtain ⟨fin, e1, e2⟩ := crcvCleanup_own hI
  exact ⟨fin, e1, e2.ok, fun i => by simpa using e2.mem i⟩

/-- **server, ledger** — for EVERY sequence of Block1 requests and drops (any order, repeated blocks, the final block
early and again before the gap is filled, short blocks, …) and EVERY oracle: no object is ever released twice or released
without having been allocated (`ok`), at any time the live objects are EXACTLY the lg_srcv, its body, its last_token and
(transfer to the unknown resource, `cfg.unk`) its copy of the URI path (pairwise distinct), and once the lg_srcv is deleted
nothing is live.
(Seeded C18-8 falsifies exactly this: last_token released and still referenced when the lg_srcv is deleted.) -/
theorem lg_srcv_ledger_sound (cfg : SCfg) (orc : Oracle) (evs : List SEv) :
    let r := srcvRun cfg none { orc := orc } evs
    r.2.2.ok = true ∧ (ownedSt r.2.1).Nodup ∧ (∀ i, i ∈ r.2.2.live ↔ i ∈ ownedSt r.2.1) ∧
      (srcvCleanup r.2.1 r.2.2).ok = true ∧ (srcvCleanup r.2.1 r.2.2).live = [] := by
  intro r
  have hO := srcvRun_own cfg evs none [] { orc := orc } (Own.init_empty orc)
  have hC := srcvCleanup_own hO
  exact ⟨hO.ok, hO.onodup, fun i => by simpa using hO.mem i, hC.ok, hC.live_nil⟩

/-- the same from any sound heap -/
theorem lg_srcv_ledger_sound_from (cfg : SCfg) (h : Heap) (hok : h.ok = true) (hn : h.live.Nodup)
    (hfr : ∀ i ∈ h.live, i < h.next) (evs : List SEv) :
    let r := srcvRun cfg none h evs
    (srcvCleanup r.2.1 r.2.2).ok = true ∧ ∀ i, i ∈ (srcvCleanup r.2.1 r.2.2).live ↔ i ∈ h.live := by
  intro r
  have hC := srcvCleanup_own (srcvRun_own cfg evs none h.live h (Own.init h hok hn hfr))
  exact ⟨hC.ok, fun i => by simpa using hC.mem i⟩

theorem srcvDecide_160 (lg : ASrcv) (m chunk tokLen : Nat) (h : Heap) :
    (srcvDecide lg m chunk tokLen h).1 = .code 160 → (srcvDecide lg m chunk tokLen h).2.1 = none := by
  unfold srcvDecide
  simp only
  repeat' split
  all_goals simp

theorem srcvUpdate_160 (lg : ASrcv) (rec' : Block.Ranges) (len offset m chunk tokLen : Nat) (h : Heap) :
    (srcvUpdate lg rec' len offset m chunk tokLen h).1 = .code 160 →
      (srcvUpdate lg rec' len offset m chunk tokLen h).2.1 = none := by
  unfold srcvUpdate
  simp only
  split
  · simp
  · exact srcvDecide_160 _ _ _ _ _

theorem srcvStore_160 (cap : Nat) (lg : ASrcv) (num m len chunk tokLen : Nat) (h : Heap) :
    (srcvStore cap lg num m len chunk tokLen h).1 = .code 160 → (srcvStore cap lg num m len chunk tokLen h).2.1 = none := by
  unfold srcvStore
  simp only
  split
  · simp
  · split
    · simp
    · split
      · exact srcvUpdate_160 _ _ _ _ _ _ _ _
      · exact srcvDecide_160 _ _ _ _ _

/-- **server, clean failure** — a Block1 request that is answered 5.00 (the only answer of this path for a failed
allocation) leaves NO transfer state: the lg_srcv with everything it owned is gone (by `lg_srcv_ledger_sound`: released
exactly once), so the client's next attempt starts from scratch -/
theorem lg_srcv_failure_drops_state (cap : Nat) (st : Option ASrcv) (num m szx plen tokLen : Nat) (size1 : Option Nat)
    (unk : Bool) (h : Heap) :
    (srcvStep cap st num m szx plen tokLen size1 unk h).1 = .code 160 →
      (srcvStep cap st num m szx plen tokLen size1 unk h).2.1 = none := by
  unfold srcvStep
  simp only
  by_cases h1 : num = 0 ∧ m = 0
  · rw [if_pos h1]; exact fun hx => nomatch hx
  · rw [if_neg h1]
    by_cases h2 : ¬ plen > 2 ^ (szx + 4) ∧ m = 1 ∧ plen ≠ 2 ^ (szx + 4)
    · rw [if_pos h2]; exact fun hx => nomatch hx
    · rw [if_neg h2]
      rcases srcvLocate st szx size1 unk h with ⟨_ | lg, h1⟩
      · exact fun _ => rfl
      · simp only
        split
        · exact fun hx => nomatch hx
        · exact srcvStore_160 _ _ _ _ _ _ _ _

/-- **server, the lg_srcv that cannot be set up** — no transfer state yet and the lg_srcv itself or (transfer to the unknown
resource) the copy of the URI path cannot be allocated: NO lg_srcv is left, nothing has been released that was not
allocated, and the live objects are exactly (as a list) what they were — the lg_srcv allocated first has been released
again with a plain coap_free_type, it was not yet in session->lg_srcv.  (Seeded C18-12 takes the path of the transfers
that ARE in the list, `goto free_lg_srcv`: LL_DELETE of an element that is not in an empty list dereferences NULL; the
unfixed code kept the lg_srcv with uri_path == NULL: NULL dereference in the next look-up for another resource.) -/
theorem lg_srcv_setup_failure_atomic (szx : Nat) (size1 : Option Nat) (unk : Bool) (h : Heap) (hok : h.ok = true) :
    (srcvLocate none szx size1 unk h).1 = none →
      (srcvLocate none szx size1 unk h).2.ok = true ∧ (srcvLocate none szx size1 unk h).2.live = h.live := by
  unfold srcvLocate
  simp only
  rcases hA : h.alloc with ⟨_ | i, h1⟩
  · exact fun _ => ⟨(alloc_none hA).ok.trans hok, (alloc_none hA).live⟩
  · have g := alloc_some hA
    cases unk with
    | false => simp
    | true =>
      simp only [if_true]
      rcases hB : h1.alloc with ⟨_ | p, h2⟩
      · have r := alloc_none hB
        intro _
        simp [Heap.free, r.live, r.ok, g.live, g.ok, hok]
      · simp

/-- a transfer to the unknown resource whose URI path cannot be copied is answered 5.00 and leaves the ledger as it was -/
theorem lg_srcv_uri_path_failure (cap num m szx plen tokLen : Nat) (size1 : Option Nat) (h : Heap) (hok : h.ok = true)
    (hblk : ¬ (num = 0 ∧ m = 0))
    (hlen : ¬ (¬ plen > 2 ^ (szx + 4) ∧ m = 1 ∧ plen ≠ 2 ^ (szx + 4)))
    (hA : h.alloc.1.isSome = true) (hB : h.alloc.2.alloc.1 = none) :
    let r := srcvStep cap none num m szx plen tokLen size1 true h
    r.1 = .code 160 ∧ r.2.1 = none ∧ r.2.2.ok = true ∧ r.2.2.live = h.live := by
  intro r
  have hL : (srcvLocate none szx size1 true h).1 = none := by
    unfold srcvLocate
    rcases hA' : h.alloc with ⟨_ | i, h1⟩
    · simp [hA'] at hA
    · rw [hA'] at hB
      simp only at hB
      rcases hB' : h1.alloc with ⟨_ | p, h2⟩
      · simp [hB']
      · simp [hB'] at hB
  have hS := lg_srcv_setup_failure_atomic szx size1 true h hok hL
  have hr : r = (.code 160, none, (srcvLocate none szx size1 true h).2) := by
    show srcvStep cap none num m szx plen tokLen size1 true h = _
    unfold srcvStep
    simp only [hblk, hlen, if_false]
    rcases hl : srcvLocate none szx size1 true h with ⟨_ | lg, h1⟩
    · rfl
    · rw [hl] at hL; simp at hL
  rw [hr]
  exact ⟨rfl, rfl, hS.1, hS.2⟩

theorem two_chunks_div (c : Nat) (hc : 0 < c) : (c + c - 1) / c = 1 :=
  Nat.div_eq_of_lt_le (by omega) (by omega)

theorem srcvLocate_granted (szx : Nat) (size1 : Option Nat) (unk : Bool) (h : Heap) (ho : AllTrue h.orc) :
    ∃ up h1, srcvLocate none szx size1 unk h = (some { id := h.next, totalLen := size1.getD 0, szx := szx, uriPath := up }, h1) ∧
      AllTrue h1.orc ∧ up.isSome = unk := by
  obtain ⟨h1, hA, a1⟩ := alloc_granted h ho
  obtain ⟨h2, hB, a2⟩ := alloc_granted h1 a1
  unfold srcvLocate
  rw [hA]
  cases unk with
  | false => exact ⟨none, h1, rfl, a1, rfl⟩
  | true => simp only [if_true]; rw [hB]; exact ⟨some h1.next, h2, rfl, a2, rfl⟩

/-- **server, the next operation succeeds** — with memory available and no transfer state (as after a failure, see
`lg_srcv_failure_drops_state`) the first block of a body is accepted: 2.31, a new lg_srcv with the block recorded and stored -/
theorem lg_srcv_restart_succeeds (cap szx tokLen : Nat) (size1 : Option Nat) (unk : Bool) (h : Heap) (hc : 2 ≤ cap)
    (ho : AllTrue h.orc) :
    ∃ lg h', srcvStep cap none 0 1 szx (2 ^ (szx + 4)) tokLen size1 unk h = (.code 95, some lg, h') ∧
      lg.recv = [(0, 0)] ∧ lg.body.isSome = true ∧ lg.lastTok = none ∧ lg.uriPath.isSome = unk := by
  have hpos : 0 < 2 ^ (szx + 4) := Nat.pow_pos (by omega)
  obtain ⟨up, h1, hl, a1, hu⟩ := srcvLocate_granted szx size1 unk h ho
  obtain ⟨h2, hB, _⟩ := alloc_granted h1 a1
  have hrl : Block.recvLoop cap 1 [] 0 false = some ([(0, 0)], true) := by
    have : ¬ (0 = cap - 1) := by omega
    simp [Block.recvLoop, Block.checkIfReceived, Block.updateReceived, Block.updateLoop, this]
  unfold srcvStep
  rw [hl]
  generalize hT : (if size1.getD 0 < 2 ^ (szx + 4) then 2 ^ (szx + 4) else size1.getD 0) = T
  have hT1 : 2 ^ (szx + 4) ≤ T := by rw [← hT]; split <;> omega
  have hT0 : T ≠ 0 := by omega
  -- block 0 with More and a full chunk: `recvLoop` records `(0, 0)` (`hrl`), `buildBody` allocates `T` = max (Size1, chunk) bytes
  -- (`hB`) and the block fits (`hT1`), then `srcvDecide` with `m = 1` and no final block seen yet asks for the next block (2.31)
  simp only [Nat.lt_irrefl, not_false_eq_true, ne_eq, not_true_eq_false, and_false, if_false, if_true,
    srcvStore, Nat.mod_self, Nat.zero_mul, Nat.zero_add, two_chunks_div _ hpos, hrl, srcvUpdate, buildBody, hT, hB,
    Bool.false_eq_true]
  simp [hT0, hT1, srcvDecide, hu]

/-- **client, the next operation succeeds** — with memory available coap_block_new_lg_crcv for a FETCH with Observe 0 gives
an lg_crcv whose list holds exactly the token of block 0 -/
theorem lg_crcv_new_succeeds_with_memory (tokLen : Nat) (h : Heap) (ho : AllTrue h.orc) :
    ∃ c h', newCrcv true (some 0) tokLen h = some (some c, h') ∧ c.cnt = 1 ∧ c.tab.map (Option.map (·.2)) = [some tokLen] ∧
      c.tabId.isSome = true := by
  obtain ⟨h1, e1, a1⟩ := alloc_granted h ho
  obtain ⟨h2, e2, a2⟩ := alloc_granted h1 a1
  obtain ⟨h3, e3, a3⟩ := alloc_granted h2 a2
  obtain ⟨h4, e4, a4⟩ := alloc_granted h3 a3
  obtain ⟨h5, e5, _⟩ := alloc_granted h4 a4
  simp [newCrcv, e1, e2, e3, track, trackEstablish, reallocOpt, e4, storeToken, freeOpt, ser, e5]

/-- the callers' discipline is satisfiable: new lg_crcv, blocks 1, 2, 5 registered, a cancel look-up, deleted, again -/
example : feasible 0 [.new true (some 0) 4, .track (some 0) 1 8, .track (some 0) 2 8, .track (some 0) 5 8, .track (some 1) 2 2,
    .del, .new true (some 0) 2, .track (some 0) 0 8] = true := by decide

/-- the list cannot be grown for the first block (request 4 of coap_block_new_lg_crcv fails): the lg_crcv is there with
count 0 and a NULL list; with memory available block 1 is then registered (entries: NULL, the token) -/
example :
    let r := crcvRun none { orc := oracleFailing 4 0 4 } [.new true (some 0) 4, .track (some 0) 1 8]
    r.1 = [.num 1, .null] ∧ (r.2.1.map fun c => (c.cnt, c.tab.map (Option.map (·.2)))) = some (2, [none, some 8]) ∧
      (crcvCleanup r.2.1 r.2.2).map (fun h => (h.ok, h.live)) = some (true, []) := by decide

/-- the state seeded C18-7 produces (count 1, list NULL) is outside the invariant: the tear-down reads outside the list -/
example : deleteCrcv { id := 1, cnt := 1 } { orc := [] } = none := by decide

/-- the discipline is needed for the LEDGER part (not for memory safety): registering block 0 again after block 2 lowers
the count to 1, the tokens of blocks 1 and 2 are never released (a leak of the real code WITHOUT any allocation failure,
reachable only through the Echo repeat of check_freshness in the middle of a block-wise FETCH; not C18's subject) -/
example :
    let r := crcvRun none { orc := [] } [.new true (some 0) 4, .track (some 0) 1 8, .track (some 0) 2 8, .track (some 0) 0 8]
    feasible 0 [.new true (some 0) 4, .track (some 0) 1 8, .track (some 0) 2 8, .track (some 0) 0 8] = false ∧
      (crcvCleanup r.2.1 r.2.2).map (fun h => (h.ok, h.live.length)) = some (true, 2) := by decide

/-- server: blocks 0, 4 (final, early), 4 again — the token copy of the repeat fails (request 5): 5.00, no state, nothing
live; the body sent again in order with memory available is handed over complete -/
example :
    let cfg : SCfg := { cap := 4, szx := 5, tokLen := 2, size1 := none }
    let r := srcvRun cfg none { orc := oracleFailing 5 0 5 }
      [.block 0 1 512, .block 4 0 452, .block 4 0 452, .block 0 1 512, .block 1 1 512, .block 2 1 512, .block 3 1 512, .block 4 0 452]
    r.1 = [.code 95, .code 0, .code 160, .code 95, .code 95, .code 95, .code 95, .deliver 2500] ∧ r.2.1 = none ∧
      r.2.2.ok = true ∧ r.2.2.live = [] := by decide

/-- server, transfer to the UNKNOWN resource (`unk`): the copy of the URI path (request 2) cannot be made — 5.00, no state,
nothing live (`lg_srcv_uri_path_failure` on a concrete heap); the body sent again with memory available, the final block
early: handed over complete, and the path copy is released with the lg_srcv (nothing live at the end) -/
example :
    let cfg : SCfg := { cap := 4, szx := 5, tokLen := 2, size1 := none, unk := true }
    let r := srcvRun cfg none { orc := oracleFailing 2 0 2 }
      [.block 0 1 512, .block 0 1 512, .block 2 0 100, .block 1 1 512]
    r.1 = [.code 160, .code 95, .code 0, .deliver 1124] ∧ r.2.1 = none ∧ r.2.2.ok = true ∧ r.2.2.live = [] ∧
      r.2.2.reqs = 9 := by decide

end BlockContainers

end Coap.C18
