import CoapVerif.Lemmas.ServerBlock
/-
C10, block mode kept across the requests of a session (Model/ServerBlock.lean, op `srvb`).

"For each request datagram … exactly the handler … runs once with the request's … payload" at a context whose block
mode is COAP_BLOCK_USE_LIBCOAP (with or without COAP_BLOCK_SINGLE_BODY): handle_request() saves session->block_mode,
forces COAP_BLOCK_SINGLE_BODY around coap_handle_request_put_block() for a FETCH / a force-single-body resource and
restores it.  The theorems are about EVERY sequence of request datagrams from any peers (induction over the sequence).
-/
namespace Coap.C10
open Coap Coap.Server Coap.Server.MB Coap.Block

/-- After ANY sequence of request datagrams at a context configured with block mode `mode` — FETCH requests, requests
for force-single-body resources, Block1 uploads complete or abandoned, errors, any peers — the block mode of EVERY
session is the configured one: the COAP_BLOCK_SINGLE_BODY that handle_request() forces for one request never outlives
it, and a configured COAP_BLOCK_SINGLE_BODY is never lost. -/
theorem block_mode_restored (cfg : Cfg) (tbl : Table) (mode : Nat) (evs : List BEv) (peer : Nat) :
    ((finalB cfg tbl (BHist.fresh mode) evs).get peer).mode = mode := by
  obtain ⟨a, b⟩ := finalB_inv cfg tbl evs (BHist.fresh mode) (fresh_inv mode)
  rw [a peer, b]
  rfl

/-- … and that is what is observable after every single datagram of the sequence (the `bm=` field of op `srvb`) -/
theorem block_mode_reported_is_configured (cfg : Cfg) (tbl : Table) (mode : Nat) (evs : List BEv) :
    ∀ x, x ∈ runB cfg tbl (BHist.fresh mode) evs → x.2 = mode :=
  fun x hx => runB_modes cfg tbl evs (BHist.fresh mode) (fresh_inv mode) x hx

/-- one request never changes the block mode of its session, whatever state the session is in -/
theorem block_mode_unchanged_by_request (s : BSess) (cfg : Cfg) (tbl : Table) (rq : Request) :
    (serverDecisionB s cfg tbl rq).2.mode = s.mode := decisionB_mode s cfg tbl rq

/-- without COAP_BLOCK_USE_LIBCOAP the stage does not exist: the datagram is decided by the block-mode-0 model
(`decision_eq_spec`, `sequence_eq_spec`) and the session state is untouched -/
theorem block_mode_zero_is_plain (s : BSess) (cfg : Cfg) (tbl : Table) (rq : Request) (h : useLibcoap s.mode = false) :
    serverDecisionB s cfg tbl rq = (⟨M.serverDecisionA false false cfg tbl rq, 0, rq.msg.payload.length⟩, s) := by
  unfold serverDecisionB
  simp [h]

/-- SINGLE BODY: at a session in ANY state (any lg_srcv list) whose block mode has COAP_BLOCK_USE_LIBCOAP, a request
that reaches the handler stage (`serverDecisionA … .call = some c`) carrying a Block1 option with the More bit, handled
in single-body mode (configured, or the request is a FETCH, or its resource is a force-single-body resource), is NEVER
handed to the application handler — a fragment of a body does not reach the handler block by block. -/
theorem single_body_fragment_never_reaches_handler_any_state (s : BSess) (cfg : Cfg) (tbl : Table)
    (rq : Request) (c : Call) (num szx : Nat) (hu : useLibcoap s.mode = true)
    (hcall : (M.serverDecisionA false false cfg tbl rq).call = some c)
    (hb : (firstOpt c.opts 27).bind block = some (num, true, szx)) (hsingle : SingleFor s.mode tbl rq c) :
    (serverDecisionB s cfg tbl rq).1.o.call = none := by
  unfold serverDecisionB
  dsimp only
  rw [if_neg (by simp [hu])]
  split
  · rfl
  · rw [hcall]
    exact blockStage_more_no_call s cfg tbl rq c num szx hb hsingle

/-- … and after ANY history: at a context configured COAP_BLOCK_USE_LIBCOAP (± COAP_BLOCK_SINGLE_BODY), after ANY
sequence `evs` of earlier request datagrams, every session is in such a state (`block_mode_restored`), whatever FETCH /
force-single-body requests it has seen before. -/
theorem single_body_fragment_never_reaches_handler (cfg : Cfg) (tbl : Table) (mode : Nat) (evs : List BEv) (peer : Nat)
    (rq : Request) (c : Call) (num szx : Nat) (hu : useLibcoap mode = true)
    (hcall : (M.serverDecisionA false false cfg tbl rq).call = some c)
    (hb : (firstOpt c.opts 27).bind block = some (num, true, szx)) (hsingle : SingleFor mode tbl rq c) :
    (serverDecisionB ((finalB cfg tbl (BHist.fresh mode) evs).get peer) cfg tbl rq).1.o.call = none := by
  have hm := block_mode_restored cfg tbl mode evs peer
  exact single_body_fragment_never_reaches_handler_any_state _ cfg tbl rq c num szx (by rw [hm]; exact hu) hcall hb
    (by rw [hm]; exact hsingle)

/-! ### concrete instances (`decide`): the hypotheses are satisfiable, the re-assembly delivers once -/
def bxB0 : Bytes := List.replicate 16 7
def bxB1 : Bytes := List.replicate 16 9
def bxTail : Bytes := [1, 2, 3]
def bxOs (v : Bytes) : Opts := [(11, [97]), (27, v)]

set_option maxRecDepth 20000 in
/-- a 3-block upload in single-body mode on a session without a pending transfer: 2.31, 2.31, then ONE call with the
concatenation (offset 0, total 35), the Block1 option removed from the handler's view, the lg_srcv gone -/
example :
    let r0 := putBlock 3 [] (some 0) (bxOs [0x08]) bxB0
    let r1 := putBlock 3 r0.1 (some 0) (bxOs [0x18]) bxB1
    let r2 := putBlock 3 r1.1 (some 0) (bxOs [0x20]) bxTail
    r0.2 = .skip 95 [(27, [0x08])] false ∧ r1.2 = .skip 95 [(27, [0x18])] false ∧
    r2 = ([], .call (bxB0 ++ bxB1 ++ bxTail) 0 35 [(11, [97])] [] false) := by decide

set_option maxRecDepth 20000 in
/-- the same blocks in per-block mode: each one is handed over with its place in the body -/
example :
    (putBlock 1 [] (some 0) (bxOs [0x08]) bxB0).2 = .call bxB0 0 17 (bxOs [0x08]) [(27, [0x08])] true ∧
    (putBlock 1 [] (some 0) (bxOs [0x20]) bxTail).2 = .call bxTail 32 35 (bxOs [0x20]) [(27, [0x20])] false := by decide

def bxCfg : Cfg := ⟨false, 8, []⟩
def bxTbl : Table := ⟨none, none, [⟨[97], 127, 0, false⟩]⟩
/-- CON PUT /a, Block1 NUM 0 More SZX 0, 16 bytes -/
def bxRq : Request := ⟨false, ⟨0, 3, 0x2000, [0x20], bxOs [0x08], bxB0⟩, ⟨68, []⟩, .absent⟩
/-- CON FETCH /a with Content-Format -/
def bxFetch : Request := ⟨false, ⟨0, 5, 0x1000, [0x0f], [(11, [97]), (12, [0x32])], [113]⟩, ⟨69, [104, 105]⟩, .absent⟩

set_option maxRecDepth 40000 in
/-- the hypotheses of `single_body_fragment_never_reaches_handler` hold for the first block of a PUT after a FETCH on the
same session at a context configured USE_LIBCOAP|SINGLE_BODY — and the outcome is the 2.31 with the Block1 echo, no
handler, block mode 3 -/
example :
    (M.serverDecisionA false false bxCfg bxTbl bxRq).call = some ⟨.res 0, 3, [97], [], bxOs [0x08], bxB0⟩ ∧
    (firstOpt (bxOs [0x08]) 27).bind block = some (0, true, 0) ∧
    (runB bxCfg bxTbl (BHist.fresh 3) [⟨1, bxFetch⟩, ⟨1, bxRq⟩]).map (fun x => (x.1.o.replies.map (·.code), x.1.o.call.isSome, x.2)) =
      [([69], true, 3), ([95], false, 3)] := by decide

end Coap.C10
