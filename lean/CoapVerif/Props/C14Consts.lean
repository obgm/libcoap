import CoapVerif.Model.Oscore
import CoapVerif.Spec.Oscore
import CoapVerif.Generated.Consts2
/-
C14 / T1 — the option classification of the OSCORE model (Model/Oscore.lean `protectClass`,
`decryptSkips`) is the set of case labels of the two `switch (opt_iter.number)` statements of src/coap_oscore.c (source
scan of the labels, macro names evaluated by the compiler through extract/consts2.c), for EVERY option number; the nonce
layout numerals are the literals of oscore_generate_nonce and of its callers; AES-CCM-16-64-128 parameters are
`cose_key_len` / `cose_nonce_len` / `cose_tag_len` evaluated.
-/
namespace Coap.C14
open Coap Coap.M.Oscore Coap.Generated

/-- the protect switch of coap_oscore_new_pdu_encrypted_lkd: class 0 = the first label group (outer only), 1 = the second
(Observe), 2 = the third (Proxy-Uri), 3 = `default:` (inner), for every option number -/
theorem protectClass_matches_code (n : Nat) :
    protectClass n =
      if C2.oscoreProtectOuter.contains n then 0 else if C2.oscoreProtectObserve.contains n then 1
      else if C2.oscoreProtectProxyUri.contains n then 2 else 3 := by
  simp only [protectClass, C2.oscoreProtectOuter, C2.oscoreProtectObserve, C2.oscoreProtectProxyUri, List.contains_cons,
    List.contains_nil, Bool.or_false, Bool.or_eq_true, beq_iff_eq]

/-- the label groups are the Class U options RFC 8613 4.1 lists that libcoap keeps outer, by name -/
theorem protectGroups_match_code :
    C2.oscoreProtectOuter = [C2.COAP_OPTION_URI_HOST, C2.COAP_OPTION_URI_PORT, C2.COAP_OPTION_PROXY_SCHEME, C2.COAP_OPTION_HOP_LIMIT] ∧
    C2.oscoreProtectObserve = [C2.COAP_OPTION_OBSERVE] ∧ C2.oscoreProtectProxyUri = [C2.COAP_OPTION_PROXY_URI] := by decide

/-- the first switch of coap_oscore_decrypt_pdu: an outer option is dropped iff its number is one of the case labels, for
every option number -/
theorem decryptSkips_matches_code (n : Nat) : decryptSkips n = C2.oscoreDecryptSkips.contains n := by
  -- the labels in the order of the model's disjunction
  have hp : C2.oscoreDecryptSkips.Perm
      [1, 4, 5, 6, 8, 11, 12, 14, 15, 17, 20, 23, 27, 28, 60, 258, 252, 292, 9, 31, 19] := by decide
  rw [Bool.eq_iff_iff, List.contains_iff_mem, hp.mem_iff]
  simp only [decryptSkips, Bool.or_eq_true, decide_eq_true_eq, List.mem_cons, List.not_mem_nil, or_false, or_assoc]

/-- `decryptMerge`: the OSCORE option (COAP_OPTION_OSCORE) is skipped, Observe (COAP_OPTION_OBSERVE) of a response is
rewritten, for all arguments -/
theorem decryptMerge_matches_code (req : Bool) (pivObs : Bytes) (outer inner : List (Nat × Bytes)) :
    decryptMerge req pivObs outer inner =
      inner.foldl (fun acc o =>
        if o.1 = C2.COAP_OPTION_OSCORE then acc
        else if o.1 = C2.COAP_OPTION_OBSERVE ∧ ¬ req then insertOpt acc (C2.COAP_OPTION_OBSERVE, pivObs.drop (pivObs.length - 3))
        else insertOpt acc o) (outer.filter fun o => !decryptSkips o.1) := rfl

/-- `oscore_generate_nonce(cose, ctx, nonce_buffer, 13)`: buffer size from the call sites, `size - 5` from the function,
for all inputs -/
theorem generateNonce_matches_code (commonIV kid piv : Bytes) :
    generateNonce commonIV kid piv =
      (let b0 := UInt8.ofNat (kid.length % 256) :: List.replicate (C2.oscoreNonceSize - 1) 0
       if kid.length > C2.oscoreNonceSize - C2.oscoreNoncePivLen then R.oob else
       let b1 := writeAt b0 (C2.oscoreNonceSize - C2.oscoreNoncePivLen - kid.length) kid
       if piv.length > C2.oscoreNonceSize then R.oob else
       let b2 := writeAt b1 (C2.oscoreNonceSize - piv.length) piv
       if commonIV.length < C2.oscoreNonceSize then R.oob else
       R.ok (xorLoop b2 commonIV)) := rfl

/-- AES-CCM-16-64-128: the algorithm id of S (`Spec.Oscore.algAesCcm`, RFC 9053) is the enum value of the code, the key /
nonce / tag lengths used by S's key derivation (16, 13) and by the nonce buffer are `cose_key_len`, `cose_nonce_len`,
`cose_tag_len` evaluated and the `_KEY_LEN` / `_NONCE_LEN` / `_TAG_LEN` macros -/
theorem aesCcm_parameters_match_code :
    Spec.Oscore.algAesCcm = Int.ofNat C2.COSE_ALGORITHM_AES_CCM_16_64_128 ∧
    (16 : Nat) = C2.aesCcmKeyLen ∧ C2.aesCcmKeyLen = C2.COSE_ALGORITHM_AES_CCM_16_64_128_KEY_LEN ∧
    (13 : Nat) = C2.aesCcmNonceLen ∧ C2.aesCcmNonceLen = C2.COSE_ALGORITHM_AES_CCM_16_64_128_NONCE_LEN ∧
    C2.oscoreNonceSize = C2.aesCcmNonceLen ∧
    (8 : Nat) = C2.aesCcmTagLen ∧ C2.aesCcmTagLen = C2.COSE_ALGORITHM_AES_CCM_16_64_128_TAG_LEN := by decide

/-- the option numbers S names (`Spec.Oscore.optUriHost` / `optObserve` / `optOscore`; M writes the literals) and the range of
sequence numbers S uses (`maxSeq + 1 = OSCORE_SEQ_MAX`) -/
theorem oscoreOptionNumbers_match_code :
    Spec.Oscore.optUriHost = C2.COAP_OPTION_URI_HOST ∧ Spec.Oscore.optObserve = C2.COAP_OPTION_OBSERVE ∧
    Spec.Oscore.optOscore = C2.COAP_OPTION_OSCORE ∧ Spec.Oscore.maxSeq + 1 = C2.OSCORE_SEQ_MAX := by decide

end Coap.C14
