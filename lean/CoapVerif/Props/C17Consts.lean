import CoapVerif.Model.Persist
import CoapVerif.Generated.Consts2
/-
C17 / T1 — the record field sizes of the persist-file model are the `sizeof`s of the current tree as
the compiler sees them; the line buffer, the field-size bound, the initial Observe value and the 24-bit mask are literals
of src/coap_subscribe.c / src/coap_resource.c (source scan).
-/
namespace Coap.C17
open Coap Coap.Generated

/-- `fwrite(&observe_key, sizeof(observe_key), …)`: a pointer-sized key -/
theorem szKey_matches_code : Persist.szKey = C2.sizeofPtr := by decide
theorem szProto_matches_code : Persist.szProto = C2.sizeofProto := by decide
theorem szAddr_matches_code : Persist.szAddr = C2.sizeofAddress := by decide
theorem szTuple_matches_code : Persist.szTuple = C2.sizeofAddrTuple := by decide
theorem szLen_matches_code : Persist.szLen = C2.sizeofSsize ∧ Persist.szLen = C2.sizeofSize := by decide
/-- `(ssize_t)-1` as the model writes it -/
theorem minusOne_matches_code : Persist.minusOne = 2 ^ (8 * C2.sizeofSsize) - 1 := by decide
/-- `if (size < 0 || size > 0x10000)` -/
theorem maxLen_matches_code : Persist.maxLen = C2.persistMaxField := by decide
/-- `char buf[1500]` of the three `fgets` loops -/
theorem cntBuf_matches_code : Persist.cntBuf = C2.persistLineBuf := by decide
/-- `r->observe = 2` in coap_resource_init -/
theorem initialObserve_matches_code : Persist.initialObserve = C2.resourceInitialObserve := by decide
/-- `& 0xffffff` on the Observe counter, for every value -/
theorem mask24_matches_code (n : Nat) : Persist.mask24 n = n &&& C2.observeCounterMask := by
  have h : C2.observeCounterMask = 2 ^ 24 - 1 := by decide
  rw [h, Nat.and_two_pow_sub_one_eq_mod]; rfl
theorem protoUdp_matches_code : Persist.protoUdp = C2.COAP_PROTO_UDP := by decide

end Coap.C17
