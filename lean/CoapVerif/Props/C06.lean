import CoapVerif.Lemmas.SendQueue
import CoapVerif.Lemmas.TimerAbs
import CoapVerif.Lemmas.TimerSim
import CoapVerif.Lemmas.SchedInv
import CoapVerif.Lemmas.TimerSimFull
import CoapVerif.Lemmas.Conserve
import CoapVerif.Lemmas.PduFixed
import CoapVerif.Lemmas.MsgHold
import CoapVerif.Lemmas.MsgLayerW
import CoapVerif.Lemmas.MsgLayerWRefuse
import CoapVerif.Lemmas.ObserveWait
import CoapVerif.Lemmas.ObserveWaitInv
import CoapVerif.Lemmas.MsgLayerI
/-
C06 — the retransmission queue: every pending message is (re)transmitted on the RFC 7252 §4.2 schedule and
ends in exactly one outcome.

  S = Coap.Spec.SQ / Coap.Timer  (absolute deadlines, ordered; timer system; CoapVerif/Spec/SendQueue.lean, Timer.lean)
  M = Coap.SQ / Coap.Msg         (delta-time queue of src/coap_net.c, message layer; CoapVerif/Model/*.lean)

The property theorems with their witnesses; the lemmas are in CoapVerif/Lemmas (SendQueue, TimerAbs, SchedInv, Conserve,
TimerSim, TimerSimFull, PduFixed, MsgHold, MsgLayerW, MsgLayerWRefuse, ObserveWait, ObserveWaitInv, MsgLayerI).
-/
namespace Coap.C06
open Coap Coap.SQ
open Coap.Spec.SQ (Entry sched)

/-! ## (1) the delta list represents the ordered multiset of absolute deadlines -/

/-- the operations the code performs on `context->sendqueue` -/
inductive QOp where
  | enqueue (now delay : Nat) (n : Node)
  | insertRaw (n : Node)
  | pop
  | remove (s mid : Nat)
  | removeTok (s tok : Nat)
  | cancelSession (s : Nat)
  | adjust (now : Nat)
  deriving Repr, DecidableEq

def applyM (q : Queue) : QOp → Queue
  | .enqueue now delay n => SQ.enqueue q now delay n
  | .insertRaw n => { q with nodes := insertNode q.nodes n }
  | .pop => match popNext q.nodes with
    | none => q
    | some (_, r) => { q with nodes := r }
  | .remove s mid => { q with nodes := (removeNode q.nodes s mid).2 }
  | .removeTok s tok => { q with nodes := (SQ.removeTok q.nodes s tok).2 }
  | .cancelSession s => { q with nodes := (SQ.cancelSession q.nodes s).2 }
  | .adjust now => (adjustBasetime q now).2

/-- S state: the reference time (needed to read a raw relative insert) and the absolute deadlines -/
abbrev SState := Nat × List Entry

def applyS (st : SState) : QOp → SState
  | .enqueue now delay n =>
    (if st.2 = [] then now else st.1, Spec.SQ.insert st.2 ⟨now + delay, n.sess, n.mid, n.tok⟩)
  | .insertRaw n => (st.1, Spec.SQ.insert st.2 ⟨st.1 + n.t, n.sess, n.mid, n.tok⟩)
  | .pop => match Spec.SQ.pop st.2 with
    | none => st
    | some (_, r) => (st.1, r)
  | .remove s mid => (st.1, (Spec.SQ.remove st.2 s mid).2)
  | .removeTok s tok => (st.1, (Spec.SQ.removeTok st.2 s tok).2)
  | .cancelSession s => (st.1, (Spec.SQ.cancelSession st.2 s).2)
  | .adjust now => (now, Spec.SQ.adjust st.2 now)

def absState (q : Queue) : SState := (q.base, abs q)

/-- when the code's time arithmetic is exact: `coap_wait_ack`/`coap_retransmit` are called with `now` not before
the base time (or on an empty queue); the base time moves backward (or the queue is empty). -/
def OpOk (q : Queue) : QOp → Prop
  | .enqueue now _ _ => q.nodes = [] ∨ q.base ≤ now
  | .adjust now => now ≤ q.base ∨ q.nodes = []
  | _ => True

def OpsOk (q : Queue) : List QOp → Prop
  | [] => True
  | op :: ops => OpOk q op ∧ OpsOk (applyM q op) ops

instance (q : Queue) (op : QOp) : Decidable (OpOk q op) := by
  cases op <;> simp only [OpOk] <;> infer_instance

instance decOpsOk : (ops : List QOp) → (q : Queue) → Decidable (OpsOk q ops)
  | [], _ => isTrue trivial
  | op :: ops, q => by
    unfold OpsOk
    exact @instDecidableAnd _ _ _ (decOpsOk ops _)

theorem step_commutes (q : Queue) (op : QOp) (h : OpOk q op) :
    absState (applyM q op) = applyS (absState q) op := by
  cases op with
  | enqueue now delay n =>
    simp only [applyM, applyS, absState]
    rw [abs_enqueue q now delay n h, enqueue_base]
    simp [abs, absFrom_eq_nil]
  | insertRaw n => simp [applyM, applyS, absState, abs, absFrom_insertNode]
  | pop =>
    have := absPop_popNext q.base q.nodes
    simp only [applyM, applyS, absState, abs]
    cases hp : popNext q.nodes with
    | none => rw [hp] at this; simp [absPop] at this; simp [← this]
    | some p => rw [hp] at this; simp [absPop] at this; simp [← this]
  | remove s mid => simp [applyM, applyS, absState, abs, removeNode_rest]
  | removeTok s tok => simp [applyM, applyS, absState, abs, removeTok_rest]
  | cancelSession s => simp [applyM, applyS, absState, abs, cancelSession_rest]
  | adjust now =>
    have := abs_adjust_backward q now h
    simp [applyM, applyS, absState, this.1, this.2]

/-- for every sequence of queue operations (each within the range where the code's
time arithmetic is exact, `OpsOk`), running the code on the delta list and then reading off the absolute
deadlines is the same as running the specification on the absolute deadlines; and what the delta list
represents is always ordered by deadline. -/
theorem queue_abs_invariant : ∀ (ops : List QOp) (q : Queue), OpsOk q ops →
    (absState (ops.foldl applyM q) = ops.foldl applyS (absState q)) ∧ Sorted (abs (ops.foldl applyM q)) := by
  intro ops
  induction ops with
  | nil => intro q _; exact ⟨rfl, abs_sorted q⟩
  | cons op ops ih =>
    intro q h
    have := ih (applyM q op) h.2
    simp only [List.foldl_cons]
    rw [← step_commutes q op h.1]
    exact this

/-- `coap_insert_node` = ordered insert of the absolute deadline `base + t` -/
theorem insert_commutes (q : Queue) (n : Node) :
    abs { q with nodes := insertNode q.nodes n } =
      Spec.SQ.insert (abs q) ⟨q.base + n.t, n.sess, n.mid, n.tok⟩ :=
  absFrom_insertNode _ _ _

/-- the time arithmetic of `coap_wait_ack` / `coap_retransmit` followed by `coap_insert_node` = ordered insert
of the absolute deadline `now + delay`, provided `now` is not before the base time (or the queue is empty) -/
theorem enqueue_commutes (q : Queue) (now delay : Nat) (n : Node) (h : q.nodes = [] ∨ q.base ≤ now) :
    abs (enqueue q now delay n) = Spec.SQ.insert (abs q) ⟨now + delay, n.sess, n.mid, n.tok⟩ :=
  abs_enqueue q now delay n h

/-- `coap_pop_next` = the entry due first leaves, with its absolute deadline; nobody else's deadline changes -/
theorem pop_commutes (q : Queue) :
    (popNext q.nodes = none → Spec.SQ.pop (abs q) = none) ∧
    (∀ n r, popNext q.nodes = some (n, r) →
      Spec.SQ.pop (abs q) = some (⟨q.base + n.t, n.sess, n.mid, n.tok⟩, abs { q with nodes := r })) := by
  have := absPop_popNext q.base q.nodes
  constructor
  · intro h; rw [h] at this; exact this.symm
  · intro n r h; rw [h] at this; exact this.symm

/-- `coap_remove_from_queue` = the first entry of (session, message id) leaves — the same message is reported
(or none), and nobody else's deadline changes -/
theorem remove_commutes (q : Queue) (s mid : Nat) :
    abs { q with nodes := (removeNode q.nodes s mid).2 } = (Spec.SQ.remove (abs q) s mid).2 ∧
    (removeNode q.nodes s mid).1.map nodeId = (Spec.SQ.remove (abs q) s mid).1.map entryId :=
  removeNode_abs q.base q.nodes s mid

/-- one step of `coap_cancel_all_messages` = the first entry of (session, token) leaves -/
theorem removeTok_commutes (q : Queue) (s tok : Nat) :
    abs { q with nodes := (SQ.removeTok q.nodes s tok).2 } = (Spec.SQ.removeTok (abs q) s tok).2 ∧
    (SQ.removeTok q.nodes s tok).1.map nodeId = (Spec.SQ.removeTok (abs q) s tok).1.map entryId :=
  removeTok_abs q.base q.nodes s tok

/-- `coap_cancel_session_messages` = exactly the entries of the session leave (reported in queue order), the
deadline of every other entry is unchanged -/
theorem cancel_commutes (q : Queue) (s : Nat) :
    abs { q with nodes := (SQ.cancelSession q.nodes s).2 } = (Spec.SQ.cancelSession (abs q) s).2 ∧
    (SQ.cancelSession q.nodes s).1.map nodeId = (Spec.SQ.cancelSession (abs q) s).1.map entryId :=
  ⟨cancelSession_rest _ _ _, cancelSession_gone _ _ _⟩

/-- `coap_adjust_basetime` moving the base time backward (or on an empty queue) changes no deadline and agrees
with D13.
Full intended statement (FALSE for the code as it is, see `adjust_forward_witness`):
  `∀ q now, abs (adjustBasetime q now).2 = Spec.SQ.adjust (abs q) now`. -/
theorem adjust_commutes_partial (q : Queue) (now : Nat) (h : now ≤ q.base ∨ q.nodes = []) :
    abs (adjustBasetime q now).2 = Spec.SQ.adjust (abs q) now ∧
    abs (adjustBasetime q now).2 = abs q ∧ (adjustBasetime q now).2.base = now :=
  ⟨(abs_adjust_backward q now h).1, abs_adjust_backward_same q now h, (abs_adjust_backward q now h).2⟩

def wn : Node := { sess := 0, mid := 1, t := 10, timeout := 0, cnt := 0, tok := 1, con := true }

def wq : Queue :=
  { base := 1000, nodes := [{ sess := 0, mid := 1, t := 10, timeout := 0, cnt := 0, tok := 1, con := true },
                            { sess := 0, mid := 2, t := 20, timeout := 0, cnt := 0, tok := 2, con := true }] }

/-- moving the base time FORWARD past a pending deadline pulls later deadlines forward: base 1000, deadlines
1010 and 1030, new base 1015 — the code leaves deadlines 1015 and 1020, D13 says 1015 and 1030. -/
theorem adjust_forward_witness : ∃ q now, abs (adjustBasetime q now).2 ≠ Spec.SQ.adjust (abs q) now :=
  ⟨wq, 1015, by decide⟩

example : (abs (adjustBasetime wq 1015).2).map (·.deadline) = [1015, 1020] ∧
    (Spec.SQ.adjust (abs wq) 1015).map (·.deadline) = [1015, 1030] := by decide

/-- even without any node expiring: base 1000, one node due at 1100, new base 1010 — the code re-arms the
node for 1020 (`q->t = delta - t` instead of `q->t -= delta - t`), D13 keeps 1100. -/
example : (abs (adjustBasetime { base := 1000, nodes := [{ wn with t := 100 }] } 1010).2).map (·.deadline) = [1020] ∧
    (Spec.SQ.adjust (abs { base := 1000, nodes := [{ wn with t := 100 }] }) 1010).map (·.deadline) = [1100] := by
  decide

/-- non-vacuity: a run that uses every operation satisfies `OpsOk` -/
example : OpsOk wq [.enqueue 1005 7 wn, .insertRaw wn, .pop, .remove 0 2,
    .removeTok 0 1, .adjust 900, .cancelSession 0, .adjust 5000, .enqueue 1 1 wn] := by decide

/-! ## (2) coap_calc_timeout -/

/-- the Q6 fixed-point value of a transmission parameter is within 1/128 of the configured decimal
`ip.fp` (in units of 1/1000), as long as the `uint16_t` cast does not wrap -/
theorem qfix_approx (ip fp : Nat) (hfp : fp < 1000) (h : 64 * ip + (64 * fp + 500) / 1000 < 65536) :
    1000 * qfix ip fp ≤ 64 * (1000 * ip + fp) + 500 ∧ 64 * (1000 * ip + fp) ≤ 1000 * qfix ip fp + 500 := by
  rw [qfix_eq ip fp h]
  omega

/-- with `A = Q(ACK_TIMEOUT)`, `F = Q(ACK_RANDOM_FACTOR)` (Q6 fixed point, not
wrapping, factor ≥ 1.0) and any random byte `r`, the initial timeout `T` (ms ticks) satisfies
`A/64 s − 1/2 tick ≤ T ≤ (A/64)·(F/64) s + 8.3125 ticks`: explicit ε = 32/64 tick below and
34048/4096 ticks above (32000/4096 from the rounding `+32 >> 6` of the product in Q6 seconds, 2048/4096 from
the rounding of the conversion to ticks). -/
theorem calc_timeout_bounds (atI atF arfI arfF r : Nat) (hr : r < 256)
    (hA : 64 * atI + (64 * atF + 500) / 1000 < 65536) (hF : 64 * arfI + (64 * arfF + 500) / 1000 < 65536)
    (h1 : 1 ≤ arfI) :
    1000 * qfix atI atF ≤ 64 * calcTimeout atI atF arfI arfF r + 32 ∧
    4096 * calcTimeout atI atF arfI arfF r ≤ 1000 * (qfix atI atF * qfix arfI arfF) + 34048 := by
  rw [calcTimeout_eq atI atF arfI arfF r hr hA hF h1]
  have hF64 : 64 ≤ qfix arfI arfF := by rw [qfix_eq _ _ hF]; omega
  clear hA hF h1
  generalize qfix atI atF = A
  generalize qfix arfI arfF = F at hF64 ⊢
  have hX : (F - 64) * r ≤ (F - 64) * 255 := Nat.mul_le_mul_left _ (by omega)
  generalize (F - 64) * r = X at hX ⊢
  have hR : (X + 128) / 256 + 64 ≤ F := by omega
  generalize (X + 128) / 256 = R at hR ⊢
  clear hX hr
  have hP1 : (R + 64) * A ≤ F * A := Nat.mul_le_mul_right _ hR
  have hP2 : 64 * A ≤ (R + 64) * A := Nat.mul_le_mul_right _ (by omega)
  rw [Nat.mul_comm F A] at hP1
  generalize (R + 64) * A = P at hP1 hP2 ⊢
  generalize A * F = AF at hP1 ⊢
  omega

/-- ACK_TIMEOUT = 1024 s: `Q()`'s `uint16_t` cast wraps to 0 and the initial timeout is 0 ticks whatever the
random byte — every retransmission is due immediately. -/
theorem calc_timeout_wraps : qfix 1024 0 = 0 ∧ (∀ r, r < 256 → calcTimeout 1024 0 1 500 r = 0) := by
  have h0 : qfix 1024 0 = 0 := by decide
  refine ⟨h0, ?_⟩
  intro r _
  simp [calcTimeout, h0]

/-- the defaults (ACK_TIMEOUT 2 s, ACK_RANDOM_FACTOR 1.5): T ranges over 2000 … 3000 ticks, and they satisfy
the hypotheses of `calc_timeout_bounds` -/
example : calcTimeout 2 0 1 500 0 = 2000 ∧ calcTimeout 2 0 1 500 255 = 3000 ∧ calcTimeout 2 0 1 500 128 = 2500 := by
  decide
example : (255 < 256) ∧ 64 * 2 + (64 * 0 + 500) / 1000 < 65536 ∧ 64 * 1 + (64 * 500 + 500) / 1000 < 65536 ∧ 1 ≤ 1 := by
  decide

/-! ## (3) the wait returned by coap_io_prepare_io -/
open Coap.Msg in
/-- after the due retransmissions have run, the wait (ms) `coap_io_prepare_io` returns
never exceeds the time to the earliest pending deadline; when that time fits the `unsigned int` result it is
exactly that time, and positive (no busy loop, no oversleeping). -/
theorem wait_le_earliest (l : L) : let r := prepareCore l
    ∀ d, Spec.SQ.earliest (abs r.1.q) = some d → r.1.now < d →
      (r.2 ≤ d - r.1.now) ∧ (d - r.1.now < 4294967296 → r.2 = d - r.1.now ∧ 0 < r.2) := by
  intro r d hd hlt
  have h := prepareCore_snd l
  simp only [r] at hd hlt ⊢
  rw [hd] at h
  simp only [] at h
  rw [h]
  refine ⟨Nat.mod_le _ _, fun h32 => ?_⟩
  rw [Nat.mod_eq_of_lt h32]
  exact ⟨rfl, Nat.sub_pos_of_lt hlt⟩

open Coap.Msg in
/-- `coap_io_prepare_io` does not move the clock: `r.1.now` above is the caller's `now` -/
theorem prepare_keeps_now (l : L) : (prepareCore l).1.now = l.now :=
  kept_afterRx (kept_now l.now) l rfl

open Coap.Msg in
/-- non-vacuity of `wait_le_earliest`: one message due at 1010, now = 1003, wait = 7 -/
example : let r := prepareCore { now := 1003, q := { base := 1000, nodes := [wn] }, sess := [{}], out := [] }
    Spec.SQ.earliest (abs r.1.q) = some 1010 ∧ r.1.now < 1010 ∧ r.2 = 7 := by decide

/-! ### (3') the returned wait against every pending deadline of every session -/
open Coap.Msg in
/-- (every state, any number of messages and sessions, no scope restriction): the wait
`coap_io_prepare_io` returns never exceeds the time to ANY pending deadline of ANY session (`0` when one is already
due); it is exactly the time to the earliest one reduced to the `unsigned int` result (mod 2^32), and `0` on an empty
queue. -/
theorem wait_le_every_deadline (l : L) : let r := prepareCore l
    (∀ e ∈ abs r.1.q, r.2 ≤ e.deadline - r.1.now) ∧
    (∀ d, Spec.SQ.earliest (abs r.1.q) = some d → r.2 = (d - r.1.now) % 4294967296) ∧
    (r.1.q.nodes = [] → r.2 = 0) := by
  intro r
  have h := prepareCore_snd l
  simp only [r]
  refine ⟨fun e he => ?_, fun d hd => by rw [h, hd], fun hn => ?_⟩
  · rcases hd : Spec.SQ.earliest (abs (prepareCore l).1.q) with _ | d
    · rw [h, hd]; exact Nat.zero_le _
    · rw [h, hd]
      simp only []
      exact Nat.le_trans (Nat.mod_le _ _) (Nat.sub_le_sub_right (earliest_le (abs_sorted _) hd e he) _)
  · rw [h, abs, hn]; rfl

open Coap.Msg in
/-- non-vacuity of `wait_le_every_deadline`: two sessions, deadlines 1010 and 1030, now = 1003: wait 7 -/
example : let r := prepareCore { now := 1003, q := wq, sess := [{}, {}], out := [] }
    (abs r.1.q).map (·.deadline) = [1010, 1030] ∧ r.2 = 7 := by decide

/-! ## (4) one step of coap_retransmit -/
open Coap.Msg in
/-- a due node with retransmissions left, on an established session with NSTART room,
inside the no-wrap range: exactly one more transmission of the same message id with counter `cnt+1` goes out
now, and the same (session, mid, token) is pending again with deadline `now + T·2^(cnt+1)`; nobody else's
deadline changes (the queue is the old one with that one ordered insert). -/
theorem retransmit_step (l : L) (n : Node)
    (hc : n.cnt < (l.getS n.sess).maxRtx) (hest : (l.getS n.sess).est = true)
    (hroom : (l.getS n.sess).conActive - 1 < (l.getS n.sess).nstart)
    (h8 : n.cnt + 1 < 256) (h64 : n.timeout * 2 ^ (n.cnt + 1) < 2 ^ 64)
    (hq : l.q.nodes = [] ∨ l.q.base ≤ l.now) :
    (retransmit l n).out = Out.tx l.now n.sess n.mid (n.cnt + 1) n.con :: l.out ∧
    abs (retransmit l n).q =
      Spec.SQ.insert (abs l.q) ⟨l.now + n.timeout * 2 ^ (n.cnt + 1), n.sess, n.mid, n.tok⟩ ∧
    (retransmit l n).q = enqueue l.q l.now (n.timeout * 2 ^ (n.cnt + 1)) { n with cnt := n.cnt + 1 } := by
  rw [retransmit_resend_eq l n hc hest hroom h8 h64]
  exact ⟨rfl, abs_enqueue _ _ _ _ hq, rfl⟩

open Coap.Msg in
/-- a due CON node whose counter has reached MAX_RETRANSMIT is not sent again: the newest
output is the NACK (reason: too many retries) carrying its message id, and nothing is put back on the queue
(the queue is whatever releasing the session's `con_active` slot leaves). -/
theorem giveup_step (l : L) (n : Node) (hc : (l.getS n.sess).maxRtx ≤ n.cnt) (hcon : n.con = true) :
    (retransmit l n).out = Out.nack l.now n.sess .retries n.mid true :: (release l n.sess).out ∧
    (retransmit l n).q = (release l n.sess).q := by
  rw [retransmit_giveup_eq l n hc, hcon, if_pos rfl, release_now]
  exact ⟨rfl, rfl⟩

open Coap.Msg in
/-- non-vacuity of `retransmit_step` / `giveup_step` hypotheses (default session, con_active = 1) -/
example : let l : L := { now := 1010, q := { base := 1000, nodes := [] }, sess := [{ conActive := 1 }], out := [] }
    let n : Node := { wn with timeout := 2000, cnt := 1 }
    n.cnt < (l.getS n.sess).maxRtx ∧ (l.getS n.sess).est = true ∧
    (l.getS n.sess).conActive - 1 < (l.getS n.sess).nstart ∧ n.cnt + 1 < 256 ∧
    n.timeout * 2 ^ (n.cnt + 1) < 2 ^ 64 ∧ (l.q.nodes = [] ∨ l.q.base ≤ l.now) ∧
    (abs (retransmit l n).q).map (·.deadline) = [9010] ∧
    (l.getS n.sess).maxRtx ≤ ({ n with cnt := 4 } : Node).cnt := by decide

/-! ## the due-node loop of coap_io_prepare_io -/
open Coap.Msg in
/-- while the earliest pending deadline lies in the future, `coap_io_prepare_io`
changes nothing — no transmission, no NACK, no queue change. -/
theorem no_early_retransmit (l : L) (h : ∀ d, Spec.SQ.earliest (abs l.q) = some d → l.now < d) :
    (prepareCore l).1 = l := by
  rw [prepareCore_fst]; exact dueLoop_not_due _ l h

open Coap.Msg in
/-- when the earliest pending deadline has come (and `basetime ≤ now`, see
`base_le_now_invariant`), `coap_io_prepare_io` pops exactly that node — everybody else keeps their deadline —
and hands it to `coap_retransmit` (then goes on with the rest of the loop); `retransmit_step` / `giveup_step`
say what happens to it. -/
theorem due_head_retransmitted (l : L) (hd : Node) (r : List Node) (hn : l.q.nodes = hd :: r)
    (hb : l.q.base ≤ l.now) (hdue : l.q.base + hd.t ≤ l.now) :
    ∃ rest, popNext l.q.nodes = some (hd, rest) ∧
      abs { l.q with nodes := rest } = (abs l.q).tail ∧
      (prepareCore l).1 = dueLoop (dueFuel l - 1) (retransmit { l with q := { l.q with nodes := rest } } hd) := by
  obtain ⟨f, hf⟩ : ∃ f, dueFuel l = f + 1 := ⟨dueFuel l - 1, by unfold dueFuel; omega⟩
  obtain ⟨rest, h1, h2, h3⟩ := dueLoop_due f l hd r hn hb hdue
  refine ⟨rest, h1, ?_, ?_⟩
  · simp only [abs, hn, absFrom, List.tail_cons]; exact h2
  · rw [prepareCore_fst, hf, Nat.add_sub_cancel]; exact h3

/-! ## M level: one confirmable message on an idle endpoint runs the whole schedule

Closed forms (exact output lists) for ONE message on an otherwise idle endpoint: `_partial` in
`m_retransmit_schedule_partial` stands for that restriction. -/
open Coap.Msg in
/-- (the code model, not the S-level timer): on an idle endpoint (nothing queued, session
established and open, no CON in flight, NSTART ≥ 1) a CON message is submitted at `t0`; `T` is what
`coap_calc_timeout` yields for the PRNG byte `r`.  If `T > 0`, MAX_RETRANSMIT < 256 and `T << MAX_RETRANSMIT`
fits 64 bits, and the clock is moved exactly to each deadline before `coap_io_prepare_io` runs (`soloEvs`), then
for every `k ≤ MAX_RETRANSMIT` the outputs are exactly `soloOut`: the submission, then for j = 1 … k the
transmission numbered `j` at `t0 + (2^j − 1)·T` followed by the wait `T·2^j` to the next deadline; the message
(same mid, same token) is pending again for `t0 + (2^(k+1) − 1)·T`, and nothing else is pending. -/
theorem m_retransmit_schedule_partial (se : Sess) (t0 B mid r : Nat)
    (hopen : se.sockOpen = true) (hest : se.est = true) (hca : se.conActive = 0) (hns : 1 ≤ se.nstart)
    (h8 : se.maxRtx < 256) :
    let T := calcTimeout se.atI se.atF se.arfI se.arfF r
    0 < T → T * 2 ^ se.maxRtx < 2 ^ 64 → ∀ k, k ≤ se.maxRtx →
      let l := Msg.run (soloInit se t0 B) (.submit 0 true mid r :: soloEvs t0 T k)
      l.out = soloOut t0 T mid k ∧ abs l.q = [⟨sched t0 T (k + 1), 0, mid, mid⟩] ∧ l.now = sched t0 T k ∧
      ∀ j, j ≤ k → Out.tx (sched t0 T j) 0 mid j true ∈ l.out := by
  intro T hT h64 k hk l
  have h1 : l = soloState se t0 T mid k := by
    simp only [l, Msg.run, List.foldl_cons, Msg.step]
    rw [submit_solo se t0 B mid r hopen hest hca hns]
    exact solo_run se t0 T mid hest hns hT h8 h64 k hk
  rw [h1]
  exact ⟨rfl, abs_soloState se t0 T mid k, rfl, fun j hj => soloOut_mem t0 T mid k j hj⟩

open Coap.Msg in
/-- … and when the deadline after the last retransmission comes, the message is not sent
again: the one outcome is the NACK (too many retries) at `t0 + (2^(MAX_RETRANSMIT+1) − 1)·T`, the queue is
empty and `coap_io_prepare_io` returns 0 (nothing to wait for). -/
theorem m_solo_giveup (se : Sess) (t0 B mid r : Nat)
    (hopen : se.sockOpen = true) (hest : se.est = true) (hca : se.conActive = 0) (hns : 1 ≤ se.nstart)
    (h8 : se.maxRtx < 256) (hdq : se.delayq = []) :
    let T := calcTimeout se.atI se.atF se.arfI se.arfF r
    0 < T → T * 2 ^ se.maxRtx < 2 ^ 64 →
      let l := Msg.run (soloInit se t0 B) (.submit 0 true mid r :: (soloEvs t0 T se.maxRtx ++
        [.setNow (sched t0 T (se.maxRtx + 1)), .prepare]))
      l.out = .wait (sched t0 T (se.maxRtx + 1)) 0 ::
        .nack (sched t0 T (se.maxRtx + 1)) 0 .retries mid true :: soloOut t0 T mid se.maxRtx ∧
      l.q.nodes = [] := by
  intro T hT h64 l
  have h1 : l = Msg.step (Msg.step (soloState se t0 T mid se.maxRtx) (.setNow (sched t0 T (se.maxRtx + 1)))) .prepare := by
    simp only [l, Msg.run, List.foldl_cons, List.foldl_append, List.foldl_nil]
    have h2 := solo_run se t0 T mid hest hns hT h8 h64 se.maxRtx (Nat.le_refl _)
    simp only [Msg.run] at h2
    have h3 : Msg.step (soloInit se t0 B) (.submit 0 true mid r) = soloState se t0 T mid 0 :=
      submit_solo se t0 B mid r hopen hest hca hns
    rw [h3, h2]
  rw [h1]
  exact solo_giveup se t0 T mid hest hdq

open Coap.Msg in
/-- an ACK arriving after the `k`-th retransmission (any `k`) concludes the message
silently: no NACK, nothing more transmitted, the queue is empty and the session's `con_active` slot is free. -/
theorem m_solo_acked (se : Sess) (t0 T mid k : Nat) (hopen : se.sockOpen = true) (hest : se.est = true)
    (hdq : se.delayq = []) :
    Msg.step (soloState se t0 T mid k) (.rxAck 0 mid) =
      soloDone se (sched t0 T k) (sched t0 T k) (soloOut t0 T mid k) := by
  have h1 : rxAck (soloState se t0 T mid k) 0 mid =
      soloDone se (sched t0 T k) (sched t0 T k) (soloOut t0 T mid k) := by
    simp [rxAck, soloState, soloL, soloNode, removeNode, release, connected, drain, L.getS, L.setS, soloDone,
      hest, hdq]
  have h0 : ((soloState se t0 T mid k).getS 0).sockOpen = true := by
    simp [soloState, soloL, L.getS, hopen]
  simp only [step, h0, if_true]
  rw [h1]
  exact afterRx_empty _ rfl

open Coap.Msg in
/-- a RST concludes the message with exactly one NACK (reason RST) carrying its mid -/
theorem m_solo_rst (se : Sess) (t0 T mid k : Nat) (hopen : se.sockOpen = true) (hest : se.est = true)
    (hdq : se.delayq = []) :
    Msg.step (soloState se t0 T mid k) (.rxRst 0 mid) =
      soloDone se (sched t0 T k) (sched t0 T k) (.nack (sched t0 T k) 0 .rst mid true :: soloOut t0 T mid k) := by
  have h1 : rxRst (soloState se t0 T mid k) 0 mid =
      soloDone se (sched t0 T k) (sched t0 T k)
        (.nack (sched t0 T k) 0 .rst mid true :: soloOut t0 T mid k) := by
    simp [rxRst, soloState, soloL, soloNode, removeNode, release, connected, drain, L.getS, L.setS, L.emit,
      soloDone, hest, hdq]
  have h0 : ((soloState se t0 T mid k).getS 0).sockOpen = true := by
    simp [soloState, soloL, L.getS, hopen]
  simp only [step, h0, if_true]
  rw [h1]
  exact afterRx_empty _ rfl

open Coap.Msg in
/-- … and a concluded message stays concluded: whatever the time, `coap_io_prepare_io` transmits nothing,
reports nothing, and returns 0. -/
theorem m_solo_quiet_after (se : Sess) (N B : Nat) (o : List Out) (t : Nat) :
    Msg.step (Msg.step (soloDone se N B o) (.setNow t)) .prepare = soloDone se t B (.wait t 0 :: o) := by
  have h1 : (prepareCore (soloDone se t B o)).1 = soloDone se t B o := afterRx_empty _ rfl
  have h2 : prepareCore (soloDone se t B o) = (soloDone se t B o, 0) :=
    Prod.ext h1 (by rw [prepareCore_snd, h1]; rfl)
  show prepare (soloDone se t B o) = _
  rw [prepare_eq, h2]
  rfl

open Coap.Msg in
/-- non-vacuity: the default session (ACK_TIMEOUT 2 s, factor 1.5, MAX_RETRANSMIT 4, NSTART 1) satisfies the
hypotheses; with r = 0: T = 2000, transmissions at 0, 2000, 6000, 14000, 30000, NACK at 62000 -/
example : let se : Sess := {}
    se.sockOpen = true ∧ se.est = true ∧ se.conActive = 0 ∧ 1 ≤ se.nstart ∧ se.maxRtx < 256 ∧ se.delayq = [] ∧
    calcTimeout se.atI se.atF se.arfI se.arfF 0 = 2000 ∧ (0 < 2000) ∧ 2000 * 2 ^ se.maxRtx < 2 ^ 64 ∧
    (List.range 6).map (sched 0 2000) = [0, 2000, 6000, 14000, 30000, 62000] := by decide

/-! ## the message layer stays inside the exact range of the queue arithmetic -/
open Coap.Msg in
/-- in every run of the message layer in which time does not run backward
(`Mono`), `sendqueue_basetime ≤ now` holds throughout — so every `coap_wait_ack` / `coap_retransmit` insertion
the message layer performs satisfies the hypothesis of `enqueue_commutes` / `retransmit_step` (the `OpOk` of
`queue_abs_invariant`), and the message layer never calls `coap_adjust_basetime`. -/
theorem base_le_now_invariant (now0 : Nat) (sess : List Sess) (evs : List Ev)
    (hm : Mono (Msg.init now0 sess) evs) :
    (Msg.run (Msg.init now0 sess) evs).q.base ≤ (Msg.run (Msg.init now0 sess) evs).now :=
  baseOk_run evs (Msg.init now0 sess) (Nat.zero_le _) hm

open Coap.Msg in
theorem base_le_now_from (l : L) (evs : List Ev) (h : l.q.base ≤ l.now) (hm : Mono l evs) :
    (Msg.run l evs).q.base ≤ (Msg.run l evs).now :=
  baseOk_run evs l h hm

open Coap.Msg in
/-- non-vacuity of `Mono`: submit at 0, retransmissions at 2000 and 6000, ACK -/
example : Mono (Msg.init 0 [{}]) [.submit 0 true 1 0, .setNow 2000, .prepare, .setNow 6000, .prepare, .rxAck 0 1] ∧
    (Msg.run (Msg.init 0 [{}]) [.submit 0 true 1 0, .setNow 2000, .prepare, .setNow 6000, .prepare, .rxAck 0 1]).out
      = [.wait 6000 8000, .tx 6000 0 1 2 true, .wait 2000 4000, .tx 2000 0 1 1 true, .sub (some 1), .tx 0 0 1 0 true] := by
  simp only [Mono]; decide

/-! ## (5) schedule and outcomes (S level)

`Coap.Timer` (CoapVerif/Spec/Timer.lean, whose head comment describes the system; lemmas in CoapVerif/Lemmas/SendQueue.lean) is
the property's own reading of RFC 7252 §4.2 on top of the ordered deadline list.  Outputs are newest first. -/
open Coap.Timer

/-- consecutive transmissions of the schedule are `T·2^k` apart (binary exponential back-off) -/
theorem sched_succ (t0 T k : Nat) : sched t0 T (k + 1) = sched t0 T k + T * 2 ^ k :=
  Coap.Timer.sched_succ t0 T k

instance (ts : TS) (ev : TEv) : Decidable (EvOk ts ev) := by
  cases ev <;> simp only [EvOk] <;> infer_instance

instance decRunOk : (evs : List TEv) → (ts : TS) → Decidable (RunOk ts evs)
  | [], _ => isTrue trivial
  | ev :: evs, ts => by
    unfold RunOk
    exact @instDecidableAnd _ _ _ (decRunOk evs _)

/-- for every event list whose ticks are punctual (no tick jumps past a pending
deadline) and whose sends have a positive timeout: every transmission `tx t s mid k t0 T mx` ever emitted — the
`k`-th retransmission of the message first sent at `t0` with initial timeout `T` and limit `mx` — happens exactly at
`t = t0 + (2^k − 1)·T`, and `k ≤ MAX_RETRANSMIT`. -/
theorem retransmit_schedule (now0 : Nat) (evs : List TEv) (hok : RunOk (init now0) evs) :
    ∀ t s mid k t0 T mx, TOut.tx t s mid k t0 T mx ∈ (run (init now0) evs).outs → t = sched t0 T k ∧ k ≤ mx :=
  (run_inv evs (init now0) (tinv_init now0) hok).2

/-- and everything still pending is armed for its next slot of the same schedule -/
theorem pending_on_schedule (now0 : Nat) (evs : List TEv) (hok : RunOk (init now0) evs) :
    ∀ p ∈ (run (init now0) evs).pend, p.1 = sched p.2.t0 p.2.T (p.2.cnt + 1) ∧ p.2.cnt ≤ p.2.maxRtx :=
  fun p hp =>
    let h := (run_inv evs (init now0) (tinv_init now0) hok).1 p hp
    ⟨h.1, h.2.1⟩

/-- (conservation law, every event list, punctual or not): for every (session, mid) the
number of sends equals the number of outcomes (acked + NACK rst + NACK too-many-retries) plus the number of
entries still pending — no message is lost, none is concluded twice. -/
theorem single_outcome (s mid : Nat) (evs : List TEv) (ts : TS) :
    sc s mid evs + (oc s mid ts.outs + pc s mid ts.pend) =
      oc s mid (run ts evs).outs + pc s mid (run ts evs).pend :=
  (run_conserve s mid evs ts).symm

theorem single_outcome_init (s mid now0 : Nat) (evs : List TEv) :
    sc s mid evs = oc s mid (run (init now0) evs).outs + pc s mid (run (init now0) evs).pend := by
  have := single_outcome s mid evs (init now0)
  simpa [init, oc, pc] using this

/-- what a step other than `send` adds to the outputs contains only retransmissions
(`k ≥ 1`) of messages that were pending before the step. -/
theorem no_tx_without_pending (ts : TS) (ev : TEv) (hns : ∀ s mid T mx, ev ≠ .send s mid T mx) :
    ∃ new, (step ts ev).outs = new ++ ts.outs ∧
      ∀ t s mid k t0 T mx, TOut.tx t s mid k t0 T mx ∈ new →
        1 ≤ k ∧ ∃ p ∈ ts.pend, p.2.sess = s ∧ p.2.mid = mid := by
  refine step_rule (I := fun t' => ∃ new, t'.outs = new ++ ts.outs ∧
    ∀ t s mid k t0 T mx, TOut.tx t s mid k t0 T mx ∈ new → 1 ≤ k ∧ ∃ p ∈ ts.pend, p.2.sess = s ∧ p.2.mid = mid)
    ts ev (fun _ => ⟨[], rfl, fun _ _ _ _ _ _ _ h => (List.not_mem_nil h).elim⟩) ?_ ?_ ?_
  · intro s mid T mx he
    exact absurd he (hns s mid T mx)
  · intro now' f _ _
    exact fire_tx_pending f { ts with now := now' }
  · intro s mid m r o _ ho _
    exact ⟨[o], rfl, fun _ _ _ _ _ _ _ h => (List.not_mem_nil (ho.mem_tx h)).elim⟩

/-- when nothing is pending, every send has had exactly one outcome -/
theorem queue_empty_all_concluded (s mid now0 : Nat) (evs : List TEv) (h : (run (init now0) evs).pend = []) :
    sc s mid evs = oc s mid (run (init now0) evs).outs := by
  have := single_outcome_init s mid now0 evs
  rw [h] at this
  simpa [pc] using this

/-- (the schedule is met, not just respected): after any run whose sends have a positive
timeout, a tick at `now'` leaves nothing pending that is due at `now'` — every message whose deadline has come
has been retransmitted (and re-armed strictly later) or concluded with a NACK.  Together with
`retransmit_schedule`: under punctual ticks the `k`-th retransmission happens, and at `t0 + (2^k − 1)·T`. -/
theorem due_fires (now0 : Nat) (evs : List TEv) (hpos : ∀ ev ∈ evs, SendPos ev) (now' : Nat)
    (h : (run (init now0) evs).now ≤ now') :
    (step (run (init now0) evs) (.tick now')).now = now' ∧
    ∀ p ∈ (step (run (init now0) evs) (.tick now')).pend, now' < p.1 :=
  tick_complete _ now' (run_good evs (init now0) ⟨by simp [init, SortedP], by simp [init]⟩ hpos) h

theorem runOk_sends_positive (ts : TS) (evs : List TEv) (h : RunOk ts evs) : ∀ ev ∈ evs, SendPos ev := by
  induction evs generalizing ts with
  | nil => intro e he; cases he
  | cons ev evs ih =>
    intro e he
    rcases List.mem_cons.1 he with rfl | he
    · cases e with
      | send s mid T mx => exact h.1
      | _ => trivial
    · exact ih _ h.2 e he

def wevs : List TEv := [.send 0 1 2000 2, .tick 2000, .send 0 2 3000 4, .tick 3000, .ack 0 2, .tick 6000,
  .send 1 1 100 0, .rst 1 1, .tick 14000]

/-- non-vacuity: a punctual run with two retransmissions, an ACK, a RST and a give-up; it ends with nothing
pending and one outcome per send -/
example : RunOk (init 0) wevs ∧ (run (init 0) wevs).pend = [] ∧
    (run (init 0) wevs).outs =
      [.nackRetries 14000 0 1, .nackRst 6000 1 1, .tx 6000 1 1 0 6000 100 0, .tx 6000 0 1 2 0 2000 2,
       .acked 3000 0 2, .tx 2000 0 2 0 2000 3000 4, .tx 2000 0 1 1 0 2000 2, .tx 0 0 1 0 0 2000 2] := by decide

/-! ## (6) the code model M is simulated by the timer specification S — any number of messages and sessions

`Coap.Sim` (CoapVerif/Lemmas/TimerSim.lean: the relation `Rel`, the translation `tr`; the abstraction `absP` and the
observations `obsM` / `obsS` in CoapVerif/Lemmas/TimerAbs.lean).

Scope (`RunIn`, threaded along the run, decidable): events `setNow` (monotone), `prepare`, `submit` of a CON, `rxAck`,
`rxRst`; every session established, socket open, delay queue empty, 1 ≤ NSTART, MAX_RETRANSMIT < 256 (`SessOk`); a CON
is submitted while the session has NSTART room, with `T > 0` and `T << MAX_RETRANSMIT` < 2^64 (D7); a submission / an
RST does not happen at an instant at which a retransmission is due and `coap_io_prepare_io` has not run yet.

Why `_partial`: the FULL intended statement is the same without the two conjuncts `con_active < NSTART` and
`NothingDue` in `EvIn` (and with NON submissions, `rxNon`, `rxBad`): (a) a CON submitted without NSTART room goes to
the delay queue and is first transmitted when an outcome of another message releases the slot — possibly in the
middle of the due loop (give-up → `coap_session_connected` → transmit), which S's `tick` (fire everything due, then
return) cannot interleave with a `send`: the observable ORDER within one instant differs, so exact output equality
does not hold for S as written; (b) S fires what is due before anything else happens at an instant, M only when
`coap_io_prepare_io` runs.  Both are what T2 compares on every run (delay queue lengths, `con_active`). -/
open Coap.Sim in
/-- general form of `m_refines_timer_partial`: from any M state satisfying the scope invariant `Inv` and any S state related
to it -/
theorem m_refines_timer_from_partial (par : Nat → Msg.Sess) (P : Nat → Nat → Nat → Prop) (hp : ParOk par)
    (evs : List Msg.Ev) (l : Msg.L) (ts : Timer.TS) (hi : Inv par P l) (hr : Rel (mxOf par) l ts) (hin : RunIn l evs)
    (hP : ∀ s mid r, Msg.Ev.submit s true mid r ∈ evs →
      P s mid (calcTimeout (par s).atI (par s).atF (par s).arfI (par s).arfF r)) :
    Inv par P (Msg.run l evs) ∧ Rel (mxOf par) (Msg.run l evs) (Timer.run ts (trRun l evs)) :=
  ⟨(run_sim hp evs l ts hi hr hin hP).1, (run_sim hp evs l ts hi hr hin hP).2.1⟩

open Coap.Sim in
/-- from the initial state, any number of sessions sharing the send queue, EVERY in-scope
event list (any interleaving of submissions, clock moves, I/O steps, ACKs and RSTs — punctual or late):
* S's clock is the time of M's last I/O step;
* S's pending list (ghost `t0` erased) is exactly what M's delta list stands for: absolute deadline, session,
  message id, initial timeout `T`, retransmission counter, MAX_RETRANSMIT — in the same order;
* both have shown the same transmissions (time, session, mid, retransmission number) and the same outcome NACKs
  (time, session, mid, reason), in the same order. -/
theorem m_refines_timer_partial (now0 : Nat) (sess : List Msg.Sess) (evs : List Msg.Ev)
    (hs : ∀ se ∈ sess, SessOk se) (hin : RunIn (Msg.init now0 sess) evs) :
    let l := Msg.run (Msg.init now0 sess) evs
    let ts := Timer.run (Timer.init now0) (trRun (Msg.init now0 sess) evs)
    ts.now ≤ l.now ∧
    ts.pend.map er = absP (fun s => (parOf sess s).maxRtx) l.q.base l.q.nodes ∧
    ts.outs.filterMap obsS = l.out.filterMap obsM := by
  intro l ts
  have := (run_sim (P := fun _ _ _ => True) (parOk_of sess hs) evs _ (Timer.init now0)
    (inv_init _ now0 sess hs) (rel_init _ now0 sess) hin (fun _ _ _ _ => trivial)).2.1
  exact ⟨this.now, this.pend, this.outs⟩

def mevs : List Msg.Ev :=
  [.submit 0 true 1 0, .setNow 500, .submit 1 true 7 255, .setNow 2000, .prepare, .setNow 3500, .prepare,
   .rxAck 1 7, .setNow 6000, .prepare, .setNow 7000, .submit 1 true 8 128, .rxRst 0 1, .setNow 9500, .prepare]

open Coap.Sim in
/-- (`single_outcome` lifted from S to M through the simulation; `m_single_outcome` in section (7) is the version with the delay
queue — every in-scope event list, punctual or not): for every (session, mid), the number of `coap_send` calls equals
the number of outcome NACK-handler calls (TOO_MANY_RETRIES or RST, carrying the sent PDU) plus the number of silent
completions (an arriving ACK that found the message in the send queue) plus the number of nodes still in the send
queue.  So a message id submitted once is — at every moment — exactly one of: pending, completed by the ACK, or
reported by ONE NACK; it is never concluded twice and never lost. -/
theorem m_single_outcome_via_timer_partial (now0 : Nat) (sess : List Msg.Sess) (evs : List Msg.Ev)
    (hs : ∀ se ∈ sess, SessOk se) (hin : RunIn (Msg.init now0 sess) evs) (s mid : Nat) :
    subC s mid evs =
      nackC s mid (Msg.run (Msg.init now0 sess) evs).out + ackC s mid (Msg.init now0 sess) evs +
        pendC s mid (Msg.run (Msg.init now0 sess) evs).q.nodes := by
  have hp := parOk_of sess hs
  obtain ⟨_, hr, hack⟩ := run_sim (P := fun _ _ _ => True) hp evs _ (Timer.init now0)
    (inv_init _ now0 sess hs) (rel_init _ now0 sess) hin (fun _ _ _ _ => trivial)
  have hso := single_outcome_init s mid now0 (trRun (Msg.init now0 sess) evs)
  rw [sc_trRun, oc_split, nackS_obs, hr.outs, ← nackC_obs, hack s mid, ← pc_er, hr.pend, pc_absP] at hso
  simp only [Timer.init, ackS, Nat.zero_add] at hso
  exact hso

open Coap.Sim in
/-- non-vacuity / reading of `m_single_outcome_via_timer_partial` on the witness run: message (0,1) — one send, one RST NACK;
message (1,7) — one send, silently completed by its ACK; message (1,8) — one send, still pending -/
example : subC 0 1 mevs = 1 ∧ nackC 0 1 (Msg.run (Msg.init 0 [{}, {}]) mevs).out = 1 ∧
    ackC 0 1 (Msg.init 0 [{}, {}]) mevs = 0 ∧ pendC 0 1 (Msg.run (Msg.init 0 [{}, {}]) mevs).q.nodes = 0 ∧
    subC 1 7 mevs = 1 ∧ ackC 1 7 (Msg.init 0 [{}, {}]) mevs = 1 ∧
    nackC 1 7 (Msg.run (Msg.init 0 [{}, {}]) mevs).out = 0 ∧
    subC 1 8 mevs = 1 ∧ pendC 1 8 (Msg.run (Msg.init 0 [{}, {}]) mevs).q.nodes = 1 := by decide

open Coap.Sim in
/-- non-vacuity of `m_refines_timer_from_partial`: the initial state with two default sessions satisfies `ParOk`,
`Inv` and `Rel` -/
example : ParOk (parOf [{}, {}]) ∧ Inv (parOf [{}, {}]) (fun _ _ _ => True) (Msg.init 0 [{}, {}]) ∧
    Rel (mxOf (parOf [{}, {}])) (Msg.init 0 [{}, {}]) (Timer.init 0) :=
  ⟨parOk_of _ (by decide), inv_init _ 0 _ (by decide), rel_init _ 0 _⟩

open Coap.Sim in
/-- non-vacuity of the hypotheses of `m_refines_timer_partial`, `m_schedule_via_timer_partial`,
`m_single_outcome_via_timer_partial`: the witness run is in scope and punctual; two messages of
two sessions interleave in the queue, one is ACKed, one is RST; a third is retransmitted -/
example : (∀ se ∈ [({} : Msg.Sess), {}], SessOk se) ∧ RunIn (Msg.init 0 [{}, {}]) mevs ∧
    Punctual (Msg.init 0 [{}, {}]) mevs ∧
    (Msg.run (Msg.init 0 [{}, {}]) mevs).out.filterMap obsM =
      [.tx 9500 1 8 1 true, .nackRst 7000 0 1, .tx 7000 1 8 0 true, .tx 6000 0 1 2 true, .tx 3500 1 7 1 true,
       .tx 2000 0 1 1 true, .tx 500 1 7 0 true, .tx 0 0 1 0 true] ∧
    (Timer.run (Timer.init 0) (trRun (Msg.init 0 [{}, {}]) mevs)).outs.filterMap obsS =
      (Msg.run (Msg.init 0 [{}, {}]) mevs).out.filterMap obsM := by decide

/-! ## (7) the schedule and the fixed PDU / timeout on M for the whole C06 alphabet, INCLUDING the NSTART gate

Two ingredients.  The STRUCTURE — who is where: sessions established, `con_active ≤ NSTART`, delay queues of
never-transmitted Confirmables, every queued node as its `coap_send` built it — and the counters are carried through every
function of the code model M as an invariant (`Coap.Sched.FInv False`, CoapVerif/Lemmas/SchedInv.lean, Conserve.lean).  The
SCHEDULE — `m_schedule_all`, `m_pending_on_schedule`, `m_giveup_after_all_retransmissions` and what is combined from them — is
NOT proved a second time on M: it is the invariant of the timer system S of section (5) (`Timer.TInv`, `Timer.Made`,
`Timer.Orig`), read on M through the simulation of section (6') (`SimF.run_simF`: the S run is punctual when the M run is;
`SimF.finv_of_sim`: the pending lists, the transmission lists and the NACK lists agree, S's ghost `t0` is the witness), stated
below as `finv_run_punctual`.  The scope is that of (6'), not the narrower one of section (6), so the two cases excluded there
are covered: a Confirmable submitted without NSTART room waits in the session's delay queue and is first transmitted when an
outcome of another message releases the slot (`coap_session_connected` drains the delay queue — from the ACK / RST branch of
`coap_dispatch` or from the give-up branch of `coap_retransmit` in the middle of the due loop); and submissions / RSTs may come
at any instant.

Scope `RunG` (threaded along the run, decidable): EVERY event of the model except the two that take a session out of
the established state: `setNow` (monotone), `prepare`, `submit` of a NON or of a CON — with or without NSTART room —
whose timeout `T = coap_calc_timeout(…, r)` is positive and inside the no-wrap range D7 (`T << MAX_RETRANSMIT` < 2^64),
`rxAck`, `rxRst`, `rxNon` (a response: `coap_cancel_all_messages` by token), `rxBad` (invalid code), `connect`; any
number of sessions (`SessOk`: established, socket open, 1 ≤ NSTART, MAX_RETRANSMIT < 256, nothing delayed initially)
sharing the one send queue.  Not in `RunG`: `hold` (session not established — retransmissions are then parked in the
delay queue, off schedule by design) and `disconnect` (session failure, C08).  "The C06 alphabet" below = `RunG`. -/
/-- witness run with the NSTART gate: ONE session with NSTART 1; message 2 is submitted while message 1 is in flight
(delayed), message 1 runs out of retransmissions (MAX_RETRANSMIT 1), the give-up inside the due loop releases the
slot and message 2 is transmitted at that instant; it is retransmitted on its own schedule and then ACKed -/
def gevs : List Msg.Ev :=
  [.submit 0 true 1 0, .setNow 100, .submit 0 true 2 255, .setNow 2000, .prepare, .setNow 6000, .prepare,
   .setNow 9000, .prepare, .rxAck 0 2]

open Coap.Sim Coap.Sched in
/-- the structural invariant of `Coap.Sched` after a run from the initial state; its parameter `P s mid T` says that `T` is
the `coap_calc_timeout` value of a `coap_send` of (s, mid) in the run -/
theorem finv_run (now0 : Nat) (sess : List Msg.Sess) (evs : List Msg.Ev)
    (hs : ∀ se ∈ sess, SessOk se) (hin : RunG (Msg.init now0 sess) evs) :
    FInv False (parOf sess) (fun s mid T => ∃ r, Msg.Ev.submit s true mid r ∈ evs ∧
      T = calcTimeout (parOf sess s).atI (parOf sess s).atF (parOf sess s).arfI (parOf sess s).arfF r)
      (Msg.run (Msg.init now0 sess) evs) :=
  run_finv (gpar_of sess hs) evs _ (finv_init _ now0 sess hs) hin (fun _ _ r h => ⟨r, h, rfl⟩)

open Coap.Sim Coap.Sched in
/-- … and with its schedule clauses after a punctual run (`SimF.run_finv_sched`) -/
theorem finv_run_punctual (now0 : Nat) (sess : List Msg.Sess) (evs : List Msg.Ev)
    (hs : ∀ se ∈ sess, SessOk se) (hin : RunG (Msg.init now0 sess) evs) (hpu : Punctual (Msg.init now0 sess) evs) :
    FInv True (parOf sess) (fun s mid T => ∃ r, Msg.Ev.submit s true mid r ∈ evs ∧
      T = calcTimeout (parOf sess s).atI (parOf sess s).atF (parOf sess s).arfI (parOf sess s).arfF r)
      (Msg.run (Msg.init now0 sess) evs) :=
  SimF.run_finv_sched (gpar_of sess hs) evs _ (Timer.init now0) (finv_init _ now0 sess hs) (SimF.relF_init _ now0 sess) hin
    (fun _ => hpu) (fun _ _ r h => ⟨r, h, rfl⟩)
    (fun _ => ⟨Timer.tinv_init now0, Timer.made_init now0, Timer.orig_init _ now0⟩)

open Coap.Sim Coap.Sched in
/-- (`retransmit_schedule` on M, read off S: see the head of this section): in every punctual run over the C06 alphabet,
every transmission `tx t s mid k true`
of a Confirmable M ever emits belongs to a `coap_send` of (s, mid) in the run with PRNG byte `r`, the first
transmission `tx t0 s mid 0` of that message is in the outputs, `t = t0 + (2^k − 1)·T` with
`T = coap_calc_timeout(parameters of s, r)` — the one value drawn at that submission, used for all its
retransmissions —, and `k ≤ MAX_RETRANSMIT`. -/
theorem m_schedule_all (now0 : Nat) (sess : List Msg.Sess) (evs : List Msg.Ev)
    (hs : ∀ se ∈ sess, SessOk se) (hin : RunG (Msg.init now0 sess) evs) (hpu : Punctual (Msg.init now0 sess) evs) :
    ∀ t s mid k, Msg.Out.tx t s mid k true ∈ (Msg.run (Msg.init now0 sess) evs).out →
      ∃ t0 r, Msg.Ev.submit s true mid r ∈ evs ∧
        Msg.Out.tx t0 s mid 0 true ∈ (Msg.run (Msg.init now0 sess) evs).out ∧
        t = sched t0 (calcTimeout (parOf sess s).atI (parOf sess s).atF (parOf sess s).arfI (parOf sess s).arfF r) k ∧
        k ≤ (parOf sess s).maxRtx := by
  intro t s mid k hmem
  have hi := finv_run_punctual now0 sess evs hs hin hpu
  obtain ⟨t0, T, h0, hsch, hk, r, hsub, hT⟩ := (hi.outs trivial).1 t s mid k hmem
  exact ⟨t0, r, hsub, h0, by rw [← hT]; exact hsch, hk⟩

open Coap.Sim Coap.Sched in
/-- (`pending_on_schedule` on M, read off S likewise): … and every node in the send queue is armed for
the next slot of the schedule of its message, with ALL its transmissions so far made at their slots: for some `t0`,
transmission number `j` at `t0 + (2^j − 1)·T` is in the outputs for every `j ≤ cnt` (no slot skipped), and its absolute
deadline is `t0 + (2^(cnt+1) − 1)·T`, `T` its stored timeout. -/
theorem m_pending_on_schedule (now0 : Nat) (sess : List Msg.Sess) (evs : List Msg.Ev)
    (hs : ∀ se ∈ sess, SessOk se) (hin : RunG (Msg.init now0 sess) evs) (hpu : Punctual (Msg.init now0 sess) evs) :
    let l := Msg.run (Msg.init now0 sess) evs
    ∀ p ∈ absP (fun s => (parOf sess s).maxRtx) l.q.base l.q.nodes,
      ∃ t0, (∀ j, j ≤ p.2.cnt → Msg.Out.tx (sched t0 p.2.T j) p.2.sess p.2.mid j true ∈ l.out) ∧
        p.1 = sched t0 p.2.T (p.2.cnt + 1) := by
  intro l p hp
  exact (finv_run_punctual now0 sess evs hs hin hpu).pend p hp trivial

open Coap.Sim Coap.Sched in
/-- (read off S likewise): in every punctual run over the C06 alphabet, a TOO_MANY_RETRIES NACK
for (s, mid) is only ever reported after ALL `MAX_RETRANSMIT + 1` transmissions of that message have been made, each at
its slot `t0 + (2^j − 1)·T` (j = 0 … MAX_RETRANSMIT), and exactly at the next slot `t0 + (2^(MAX_RETRANSMIT+1) − 1)·T`;
`T` is the `coap_calc_timeout` value of a `coap_send` of (s, mid) in the run. -/
theorem m_giveup_after_all_retransmissions (now0 : Nat) (sess : List Msg.Sess) (evs : List Msg.Ev)
    (hs : ∀ se ∈ sess, SessOk se) (hin : RunG (Msg.init now0 sess) evs) (hpu : Punctual (Msg.init now0 sess) evs) :
    ∀ t s mid, Msg.Out.nack t s .retries mid true ∈ (Msg.run (Msg.init now0 sess) evs).out →
      ∃ t0 r, Msg.Ev.submit s true mid r ∈ evs ∧
        (∀ j, j ≤ (parOf sess s).maxRtx →
          Msg.Out.tx (sched t0 (calcTimeout (parOf sess s).atI (parOf sess s).atF (parOf sess s).arfI
            (parOf sess s).arfF r) j) s mid j true ∈ (Msg.run (Msg.init now0 sess) evs).out) ∧
        t = sched t0 (calcTimeout (parOf sess s).atI (parOf sess s).atF (parOf sess s).arfI (parOf sess s).arfF r)
          ((parOf sess s).maxRtx + 1) := by
  intro t s mid hmem
  have hi := finv_run_punctual now0 sess evs hs hin hpu
  obtain ⟨t0, T, hall, ht, r, hsub, hT⟩ := (hi.outs trivial).2 t s mid hmem
  subst hT
  exact ⟨t0, r, hsub, hall, ht⟩

open Coap.Sim Coap.Sched in
/-- non-vacuity of `m_giveup_after_all_retransmissions`: in the gated witness run message 1 (MAX_RETRANSMIT 1,
T = 2000) is given up at 6000 = 0 + (2^2 − 1)·2000 after transmissions 0 and 1 at 0 and 2000 -/
example : Msg.Out.nack 6000 0 .retries 1 true ∈ (Msg.run (Msg.init 0 [{ maxRtx := 1 }]) gevs).out ∧
    sched 0 2000 2 = 6000 ∧ Msg.Out.tx (sched 0 2000 0) 0 1 0 true ∈ (Msg.run (Msg.init 0 [{ maxRtx := 1 }]) gevs).out ∧
    Msg.Out.tx (sched 0 2000 1) 0 1 1 true ∈ (Msg.run (Msg.init 0 [{ maxRtx := 1 }]) gevs).out := by decide

open Coap.Sim Coap.Sched in
/-- (byte identity of retransmissions and `T` drawn ONCE, as an invariant): in every
run over the C06 alphabet, punctual or late, every node in the send queue and every
node in any session's delay queue — whatever has happened to it: delayed by the NSTART gate, drained, any number of
re-insertions by `coap_retransmit`, pops, removals and insertions of other messages around it — still carries
exactly what its `coap_send` put there: the fields standing for the PDU (message id, token, type CON) are unchanged,
and the stored `timeout` is the value `coap_calc_timeout` drew at that submission.  Only the relative time `t` and
`retransmit_cnt` ever change (`cnt = 0` while delayed, `cnt ≤ MAX_RETRANSMIT` always), so every retransmission delay
is `timeout << cnt` of that one `T`; and `con_active` never exceeds NSTART. -/
theorem m_pdu_and_timeout_fixed (now0 : Nat) (sess : List Msg.Sess) (evs : List Msg.Ev)
    (hs : ∀ se ∈ sess, SessOk se) (hin : RunG (Msg.init now0 sess) evs) :
    let l := Msg.run (Msg.init now0 sess) evs
    (∀ n ∈ l.q.nodes,
      n.con = true ∧ n.tok = n.mid ∧ n.cnt ≤ (parOf sess n.sess).maxRtx ∧
      ∃ r, Msg.Ev.submit n.sess true n.mid r ∈ evs ∧
        n.timeout = calcTimeout (parOf sess n.sess).atI (parOf sess n.sess).atF (parOf sess n.sess).arfI
          (parOf sess n.sess).arfF r) ∧
    (∀ s, ∀ n ∈ (l.getS s).delayq,
      n.con = true ∧ n.tok = n.mid ∧ n.cnt = 0 ∧
      ∃ r, Msg.Ev.submit s true n.mid r ∈ evs ∧
        n.timeout = calcTimeout (parOf sess s).atI (parOf sess s).atF (parOf sess s).arfI (parOf sess s).arfF r) ∧
    (∀ s, (l.getS s).conActive ≤ (l.getS s).nstart) := by
  have hi := finv_run now0 sess evs hs hin
  refine ⟨?_, ?_, ?_⟩
  · intro n hn
    obtain ⟨hcon, htok, _, hcnt, _, hP⟩ := hi.nodes n hn
    exact ⟨hcon, htok, hcnt, hP⟩
  · intro s n hn
    obtain ⟨ca, dq, hg, _, hdq⟩ := hi.sess s
    rw [hg] at hn
    obtain ⟨hcon, htok, _, _, hcnt, _, hP⟩ := hdq n hn
    exact ⟨hcon, htok, hcnt, hP⟩
  · intro s
    obtain ⟨ca, dq, hg, hle, _⟩ := hi.sess s
    rw [hg]; exact hle

open Coap.Sim Coap.Sched in
/-- non-vacuity of `m_schedule_all` / `m_pending_on_schedule` / `m_pdu_and_timeout_fixed`: the gated witness run is in
scope and punctual (it is NOT in the scope `RunIn` of the exact simulation); message 2 (T = 3000) is first transmitted
at 6000 — the instant message 1 is given up — and again at 9000 -/
example : (∀ se ∈ [({ maxRtx := 1 } : Msg.Sess)], SessOk se) ∧ RunG (Msg.init 0 [{ maxRtx := 1 }]) gevs ∧
    Punctual (Msg.init 0 [{ maxRtx := 1 }]) gevs ∧ ¬ RunIn (Msg.init 0 [{ maxRtx := 1 }]) gevs ∧
    (Msg.run (Msg.init 0 [{ maxRtx := 1 }]) gevs).out.filterMap obsM =
      [.tx 9000 0 2 1 true, .nackRetries 6000 0 1, .tx 6000 0 2 0 true, .tx 2000 0 1 1 true, .tx 0 0 1 0 true] := by
  decide

open Coap.Sim Coap.Sched in
/-- (why the exact simulation of section (6) must exclude the NSTART gate): on the gated
witness run M lets the delayed message 2 in from INSIDE the give-up of message 1 (`coap_retransmit` →
`coap_session_connected` → transmit, then the NACK is reported): `tx 6000 (0,2) 0` comes BEFORE `nack 6000 (0,1)`.
S's clock only moves with a `tick`, which fires everything due first, so the `send` of message 2 at 6000 can only follow
the `tick 6000` that reports the NACK: the natural translation gives the same observations as a multiset, in a different
order within the instant 6000. -/
theorem sim_gate_order_witness :
    let obsS' := (Timer.run (Timer.init 0) [.tick 0, .send 0 1 2000 1, .tick 2000, .tick 6000, .send 0 2 3000 1,
      .tick 9000, .ack 0 2, .tick 9000]).outs.filterMap obsS
    let obsM' := (Msg.run (Msg.init 0 [{ maxRtx := 1 }]) gevs).out.filterMap obsM
    obsS'.isPerm obsM' = true ∧ obsS' ≠ obsM' ∧
    obsM' = [.tx 9000 0 2 1 true, .nackRetries 6000 0 1, .tx 6000 0 2 0 true, .tx 2000 0 1 1 true, .tx 0 0 1 0 true] ∧
    obsS' = [.tx 9000 0 2 1 true, .tx 6000 0 2 0 true, .nackRetries 6000 0 1, .tx 2000 0 1 1 true, .tx 0 0 1 0 true] := by
  decide

open Coap.Sim Coap.Sched in
/-- (`single_outcome` on M — conservation law for every run over the C06 alphabet, punctual or late): for every (session, mid)

  accepted `coap_send` calls of a CON  =  outcome NACK-handler calls (TOO_MANY_RETRIES or RST, carrying the sent PDU)
                               + completions without such a NACK (`remC`: an arriving ACK that finds the message in the
                                 send queue — the silent completion —; in the wider alphabet also an invalid-code ACK
                                 that finds it, and a response carrying its token: `coap_cancel_all_messages`)
                               + nodes still in the send queue + nodes still in the session's delay queue.

(`coap_send` refuses a Confirmable only when the same message id is already waiting in the delay queue.)  So a
message id accepted once is — at every moment — exactly one of: waiting for NSTART room, pending, completed by its
ACK (or cancelled by the response / invalid code), or reported by exactly ONE NACK; it is never concluded twice and
never lost.  In runs with only ACK / RST arrivals `remC` counts exactly the ACKs that found the message. -/
theorem m_single_outcome (now0 : Nat) (sess : List Msg.Sess) (evs : List Msg.Ev)
    (hs : ∀ se ∈ sess, SessOk se) (hin : RunG (Msg.init now0 sess) evs) (s mid : Nat) :
    let l := Msg.run (Msg.init now0 sess) evs
    accC s mid (Msg.init now0 sess) evs =
      nackC s mid l.out + remC s mid (Msg.init now0 sess) evs + pendC s mid l.q.nodes +
        midC mid (l.getS s).delayq := by
  intro l
  have h := (run_keeps (P := fun _ _ _ => True) (gpar_of sess hs) s mid evs _
    (finv_init _ now0 sess hs) hin (fun _ _ _ _ => trivial)).1
  rw [phi_init s mid now0 sess hs] at h
  simp only [Phi] at h
  simp only [l]
  omega

open Coap.Sim Coap.Sched in
/-- split any run over the C06 alphabet at any point at which (session, mid) is neither
in the send queue nor in the delay queue — by `m_single_outcome` every accepted `coap_send` of it so far has had its ONE
outcome (ACK, NACK RST, NACK TOO_MANY_RETRIES).  If the rest of the run does not submit (session, mid) again, the
number of transmissions of (session, mid) never grows — it is never sent again, whatever else happens on this or any
other session — and it never re-enters a queue. -/
theorem m_never_sent_again (now0 : Nat) (sess : List Msg.Sess) (evs1 evs2 : List Msg.Ev)
    (hs : ∀ se ∈ sess, SessOk se) (hin : RunG (Msg.init now0 sess) (evs1 ++ evs2)) (s mid : Nat)
    (hq : pendC s mid (Msg.run (Msg.init now0 sess) evs1).q.nodes = 0)
    (hd : midC mid ((Msg.run (Msg.init now0 sess) evs1).getS s).delayq = 0)
    (h2 : accC s mid (Msg.run (Msg.init now0 sess) evs1) evs2 = 0) :
    txC s mid (Msg.run (Msg.init now0 sess) (evs1 ++ evs2)).out = txC s mid (Msg.run (Msg.init now0 sess) evs1).out ∧
    pendC s mid (Msg.run (Msg.init now0 sess) (evs1 ++ evs2)).q.nodes = 0 ∧
    midC mid ((Msg.run (Msg.init now0 sess) (evs1 ++ evs2)).getS s).delayq = 0 := by
  have hp := gpar_of sess hs
  rw [runG_append] at hin
  have hi := run_finv (P := fun _ _ _ => True) hp evs1 _ (finv_init _ now0 sess hs) hin.1 (fun _ _ _ _ => trivial)
  have := (run_keeps hp s mid evs2 _ hi hin.2 (fun _ _ _ _ => trivial)).2.2 (by simp only [Psi]; omega) h2
  have e : Msg.run (Msg.init now0 sess) (evs1 ++ evs2) = Msg.run (Msg.run (Msg.init now0 sess) evs1) evs2 := by
    simp [Msg.run, List.foldl_append]
  rw [e]
  have h3 := this.2
  simp only [Psi] at h3
  exact ⟨this.1, by omega, by omega⟩

open Coap.Sim Coap.Sched in
/-- non-vacuity / reading of `m_single_outcome` and `m_never_sent_again` on the gated witness run: message (0,1) — one
accepted send, one TOO_MANY_RETRIES NACK; message (0,2) — one accepted send, delayed after 3 events (counted in the
delay queue), silently completed by its ACK at the end; after its give-up (7 events) message (0,1) has been sent
twice and is still sent twice at the end -/
example : accC 0 1 (Msg.init 0 [{ maxRtx := 1 }]) gevs = 1 ∧
    nackC 0 1 (Msg.run (Msg.init 0 [{ maxRtx := 1 }]) gevs).out = 1 ∧
    accC 0 2 (Msg.init 0 [{ maxRtx := 1 }]) gevs = 1 ∧ remC 0 2 (Msg.init 0 [{ maxRtx := 1 }]) gevs = 1 ∧
    midC 2 ((Msg.run (Msg.init 0 [{ maxRtx := 1 }]) (gevs.take 3)).getS 0).delayq = 1 ∧
    RunG (Msg.init 0 [{ maxRtx := 1 }]) (gevs.take 7 ++ gevs.drop 7) ∧
    pendC 0 1 (Msg.run (Msg.init 0 [{ maxRtx := 1 }]) (gevs.take 7)).q.nodes = 0 ∧
    midC 1 ((Msg.run (Msg.init 0 [{ maxRtx := 1 }]) (gevs.take 7)).getS 0).delayq = 0 ∧
    accC 0 1 (Msg.run (Msg.init 0 [{ maxRtx := 1 }]) (gevs.take 7)) (gevs.drop 7) = 0 ∧
    txC 0 1 (Msg.run (Msg.init 0 [{ maxRtx := 1 }]) (gevs.take 7)).out = 2 ∧
    txC 0 1 (Msg.run (Msg.init 0 [{ maxRtx := 1 }]) gevs).out = 2 := by decide

open Coap.Sim Coap.Sched in
/-- (`due_fires` on M — the schedule is met, not just respected): after every run over the C06
alphabet, when `coap_io_prepare_io` has run no pending message of any session is
due: each one whose deadline had come has been retransmitted (and re-armed strictly later) or concluded with its NACK
— the due loop has fuel for all of them, including the delayed messages a give-up lets in.  With
`m_pending_on_schedule` / `m_schedule_all`: in a punctual run the `k`-th retransmission happens, and at
`t0 + (2^k − 1)·T`; and by `wait_le_every_deadline` the wait then returned is positive and never beyond the next
deadline. -/
theorem m_due_fires (now0 : Nat) (sess : List Msg.Sess) (evs : List Msg.Ev)
    (hs : ∀ se ∈ sess, SessOk se) (hin : RunG (Msg.init now0 sess) evs) :
    let l := Msg.run (Msg.init now0 sess) evs
    ∀ e ∈ abs (Msg.prepareCore l).1.q, (Msg.prepareCore l).1.now < e.deadline := by
  intro l e he
  have hnd : NothingDue (Msg.prepareCore l).1 :=
    prepareCore_nothingDue (gpar_of sess hs) _ (finv_run now0 sess evs hs hin)
  -- the earliest deadline lies in the future, and the deadlines are in order
  cases habs : abs (Msg.prepareCore l).1.q with
  | nil => rw [habs] at he; cases he
  | cons x r =>
    have hx : Spec.SQ.earliest (abs (Msg.prepareCore l).1.q) = some x.deadline := by rw [habs]; rfl
    exact Nat.lt_of_lt_of_le (hnd _ hx) (earliest_le (abs_sorted _) hx e he)

open Coap.Sim Coap.Sched in
/-- non-vacuity of `m_due_fires` on the gated witness: at 6000 message 1 is due (give-up) and message 2 is let in;
afterwards the only pending deadline is 9000 and the wait is 3000 -/
example : let l := Msg.run (Msg.init 0 [{ maxRtx := 1 }]) (gevs.take 6)
    (abs l.q).map (·.deadline) = [6000] ∧ l.now = 6000 ∧
    (abs (Msg.prepareCore l).1.q).map (·.deadline) = [9000] ∧ (Msg.prepareCore l).2 = 3000 := by decide

open Coap.Sim Coap.Sched in
/-- (every run over the C06 alphabet, punctual or late): the number of transmissions of (session, mid) never exceeds `MAX_RETRANSMIT + 1` per accepted `coap_send` of
it — one first transmission and at most MAX_RETRANSMIT retransmissions; what is still queued keeps a budget of
`MAX_RETRANSMIT − retransmit_cnt` each, what is still delayed `MAX_RETRANSMIT + 1` each.  With `m_schedule_all` (every
transmission number `k` at its slot) and `m_pending_on_schedule` (numbers 0 … cnt all made): each slot is used, and
used once. -/
theorem m_at_most_max_retransmissions (now0 : Nat) (sess : List Msg.Sess) (evs : List Msg.Ev)
    (hs : ∀ se ∈ sess, SessOk se) (hin : RunG (Msg.init now0 sess) evs) (s mid : Nat) :
    let l := Msg.run (Msg.init now0 sess) evs
    txC s mid l.out + budC s mid (parOf sess s).maxRtx l.q.nodes +
        ((parOf sess s).maxRtx + 1) * midC mid (l.getS s).delayq ≤
      ((parOf sess s).maxRtx + 1) * accC s mid (Msg.init now0 sess) evs := by
  intro l
  have h := (run_keeps (P := fun _ _ _ => True) (gpar_of sess hs) s mid evs _
    (finv_init _ now0 sess hs) hin (fun _ _ _ _ => trivial)).2.1
  rw [W_init s mid _ now0 sess hs, Nat.zero_add] at h
  exact h

open Coap.Sim Coap.Sched in
/-- non-vacuity / reading of `m_at_most_max_retransmissions` on the gated witness (MAX_RETRANSMIT 1): message (0,1) was
transmitted 2 = (1+1)·1 times; message (0,2) 2 times -/
example : txC 0 1 (Msg.run (Msg.init 0 [{ maxRtx := 1 }]) gevs).out = 2 ∧
    txC 0 2 (Msg.run (Msg.init 0 [{ maxRtx := 1 }]) gevs).out = 2 ∧
    accC 0 1 (Msg.init 0 [{ maxRtx := 1 }]) gevs = 1 := by decide

open Coap.Sim Coap.Sched in
/-- ("retransmitted after T, 2T, 4T, …", exactly): in every punctual run, for every
node in the send queue whose (session, mid) was accepted by `coap_send` exactly once: the number of transmissions of
that message so far is exactly `retransmit_cnt + 1` — numbers 0 … cnt, each made once, at `t0 + (2^j − 1)·T`
(`m_pending_on_schedule`), nothing else (`m_at_most_max_retransmissions`) — and it is the only node of that message. -/
theorem m_transmissions_exactly (now0 : Nat) (sess : List Msg.Sess) (evs : List Msg.Ev)
    (hs : ∀ se ∈ sess, SessOk se) (hin : RunG (Msg.init now0 sess) evs) (hpu : Punctual (Msg.init now0 sess) evs) :
    let l := Msg.run (Msg.init now0 sess) evs
    ∀ n ∈ l.q.nodes, accC n.sess n.mid (Msg.init now0 sess) evs = 1 →
      txC n.sess n.mid l.out = n.cnt + 1 ∧ pendC n.sess n.mid l.q.nodes = 1 := by
  intro l n hn hacc
  obtain ⟨d, hd⟩ := mem_absP_of_mem (fun s => (parOf sess s).maxRtx) l.q.base l.q.nodes n hn
  obtain ⟨t0, hall, _⟩ := m_pending_on_schedule now0 sess evs hs hin hpu (d, toP _ n) hd
  have hge := txC_ge n.sess n.mid n.cnt l.out (fun j => sched t0 n.timeout j) hall
  have hbud := m_at_most_max_retransmissions now0 sess evs hs hin n.sess n.mid
  have hb : _ ≤ budC n.sess n.mid (parOf sess n.sess).maxRtx l.q.nodes := budC_eq .. ▸ wsum_ge_mem hn
  have hcnt := ((m_pdu_and_timeout_fixed now0 sess evs hs hin).1 n hn).2.2.1
  have hso := m_single_outcome now0 sess evs hs hin n.sess n.mid
  have hpos : _ ≤ pendC n.sess n.mid l.q.nodes := pendC_eq .. ▸ wsum_ge_mem hn
  rw [hacc, Nat.mul_one] at hbud
  simp only [l, and_self, if_true] at hge hb hcnt hso hpos ⊢
  rw [hacc] at hso
  constructor
  · omega
  · omega

open Coap.Sim Coap.Sched in
/-- ("… or MAX_RETRANSMIT retransmissions have been made"): in every punctual run, when a
TOO_MANY_RETRIES NACK has been reported for a (session, mid) accepted by `coap_send` exactly once, that message has been
transmitted exactly `MAX_RETRANSMIT + 1` times: once, and MAX_RETRANSMIT retransmissions — no fewer
(`m_giveup_after_all_retransmissions`), no more (`m_at_most_max_retransmissions`). -/
theorem m_giveup_exactly_max (now0 : Nat) (sess : List Msg.Sess) (evs : List Msg.Ev)
    (hs : ∀ se ∈ sess, SessOk se) (hin : RunG (Msg.init now0 sess) evs) (hpu : Punctual (Msg.init now0 sess) evs) :
    ∀ t s mid, Msg.Out.nack t s .retries mid true ∈ (Msg.run (Msg.init now0 sess) evs).out →
      accC s mid (Msg.init now0 sess) evs = 1 →
      txC s mid (Msg.run (Msg.init now0 sess) evs).out = (parOf sess s).maxRtx + 1 := by
  intro t s mid hmem hacc
  obtain ⟨t0, r, _, hall, _⟩ := m_giveup_after_all_retransmissions now0 sess evs hs hin hpu t s mid hmem
  have hge := txC_ge s mid (parOf sess s).maxRtx _ _ hall
  have hbud := m_at_most_max_retransmissions now0 sess evs hs hin s mid
  rw [hacc, Nat.mul_one] at hbud
  simp only [] at hbud
  omega

open Coap.Sim Coap.Sched in
/-- non-vacuity of `m_transmissions_exactly` / `m_giveup_exactly_max` on the gated witness (MAX_RETRANSMIT 1): after 9
events message 2 is pending with `retransmit_cnt = 1` and has been transmitted twice; message 1 was given up after
exactly 2 transmissions -/
example : (Msg.run (Msg.init 0 [{ maxRtx := 1 }]) (gevs.take 9)).q.nodes.map (fun n => (n.mid, n.cnt)) = [(2, 1)] ∧
    accC 0 2 (Msg.init 0 [{ maxRtx := 1 }]) (gevs.take 9) = 1 ∧
    txC 0 2 (Msg.run (Msg.init 0 [{ maxRtx := 1 }]) (gevs.take 9)).out = 2 ∧
    RunG (Msg.init 0 [{ maxRtx := 1 }]) (gevs.take 9) ∧ Punctual (Msg.init 0 [{ maxRtx := 1 }]) (gevs.take 9) ∧
    Msg.Out.nack 6000 0 .retries 1 true ∈ (Msg.run (Msg.init 0 [{ maxRtx := 1 }]) gevs).out ∧
    txC 0 1 (Msg.run (Msg.init 0 [{ maxRtx := 1 }]) gevs).out = 2 := by decide

/-- witness run over the wider alphabet: a NON in between, message 2 delayed by the NSTART gate, a response carrying
token 1 cancels message 1 (which lets message 2 in at 500), message 2 is retransmitted at 3500 = 500 + 3000, a
`coap_session_connected`, then an invalid-code ACK ends message 2 (NACK "bad response") -/
def xevs : List Msg.Ev :=
  [.submit 0 true 1 0, .submit 0 false 5 0, .submit 0 true 2 255, .setNow 500, .rxNon 0 77 1, .setNow 3500, .prepare,
   .connect 0, .rxBad 0 2, .setNow 9000, .prepare]

open Coap.Sim Coap.Sched in
/-- non-vacuity of the section (7) theorems on the wider alphabet: the run is in `RunG` and punctual; both Confirmables
are accepted once and concluded once without a TOO_MANY_RETRIES / RST NACK; the NON is not counted -/
example : RunG (Msg.init 0 [{}]) xevs ∧ Punctual (Msg.init 0 [{}]) xevs ∧ ClockOk (Msg.init 0 [{}]) xevs ∧
    accC 0 1 (Msg.init 0 [{}]) xevs = 1 ∧ remC 0 1 (Msg.init 0 [{}]) xevs = 1 ∧
    accC 0 2 (Msg.init 0 [{}]) xevs = 1 ∧ remC 0 2 (Msg.init 0 [{}]) xevs = 1 ∧
    accC 0 5 (Msg.init 0 [{}]) xevs = 0 ∧ txC 0 2 (Msg.run (Msg.init 0 [{}]) xevs).out = 2 ∧
    Msg.Out.tx 3500 0 2 1 true ∈ (Msg.run (Msg.init 0 [{}]) xevs).out ∧ sched 500 3000 1 = 3500 := by decide

/-! ### where punctuality comes from: sleeping no longer than the returned wait -/
open Coap.Sim Coap.Sched in
/-- after every run over the C06 alphabet, let `coap_io_prepare_io` run and return the
wait `w`; moving the clock to any `t ≤ now + w` does not move it past a pending deadline of any session (`m_due_fires`:
nothing is due after the I/O step; `wait_le_every_deadline`: `w` does not exceed the time to any deadline — the
32-bit reduction only makes it smaller).  This is `EvClock` for the `setNow` that follows. -/
theorem sleep_returned_wait_ok (now0 : Nat) (sess : List Msg.Sess) (evs : List Msg.Ev)
    (hs : ∀ se ∈ sess, SessOk se) (hin : RunG (Msg.init now0 sess) evs) :
    let r := Msg.prepareCore (Msg.run (Msg.init now0 sess) evs)
    ∀ t, t ≤ r.1.now + r.2 → ∀ e ∈ abs r.1.q, t ≤ e.deadline := by
  intro r t ht e he
  have h1 := m_due_fires now0 sess evs hs hin e he
  have h2 := (wait_le_every_deadline (Msg.run (Msg.init now0 sess) evs)).1 e he
  simp only [r] at ht
  omega

open Coap.Sim Coap.Sched in
/-- (no busy loop, no oversleeping, in runs): after every run over the C06 alphabet,
the wait `coap_io_prepare_io` returns while something is pending is exactly the time to the earliest pending deadline
of all sessions whenever that fits the `unsigned int` result, and it is positive (the hypothesis `now < d` of
`wait_le_earliest` is discharged by `m_due_fires`). -/
theorem m_wait_exact_and_positive (now0 : Nat) (sess : List Msg.Sess) (evs : List Msg.Ev)
    (hs : ∀ se ∈ sess, SessOk se) (hin : RunG (Msg.init now0 sess) evs) :
    let r := Msg.prepareCore (Msg.run (Msg.init now0 sess) evs)
    ∀ d, Spec.SQ.earliest (abs r.1.q) = some d → d - r.1.now < 4294967296 → r.2 = d - r.1.now ∧ 0 < r.2 := by
  intro r d hd h32
  have hlt : r.1.now < d := by
    cases habs : abs r.1.q with
    | nil => rw [habs] at hd; cases hd
    | cons x rest =>
      rw [habs] at hd
      cases hd
      exact m_due_fires now0 sess evs hs hin x (by rw [habs]; exact List.mem_cons_self ..)
  exact (wait_le_earliest (Msg.run (Msg.init now0 sess) evs) d hd hlt).2 h32

open Coap.Sim Coap.Sched in
/-- non-vacuity of `m_wait_exact_and_positive`: after the first 6 events of the gated witness the earliest deadline
after the I/O step is 9000, now = 6000, wait = 3000 -/
example : let r := Msg.prepareCore (Msg.run (Msg.init 0 [{ maxRtx := 1 }]) (gevs.take 6))
    Spec.SQ.earliest (abs r.1.q) = some 9000 ∧ 9000 - r.1.now < 4294967296 ∧ r.2 = 3000 := by decide

open Coap.Sim Coap.Sched in
/-- a run over the C06 alphabet in which the clock is never moved past a pending
deadline (`ClockOk` — by `sleep_returned_wait_ok` what an application gets that sleeps no longer than the wait the
library returned and calls `coap_io_prepare_io` after each `coap_send`) is punctual: submissions, arrivals, I/O steps,
the NSTART gate and the due loop themselves never leave an overdue node behind.  So `m_schedule_all`,
`m_pending_on_schedule`, `m_giveup_after_all_retransmissions` hold for every such run. -/
theorem punctual_of_clock (now0 : Nat) (sess : List Msg.Sess) (evs : List Msg.Ev)
    (hs : ∀ se ∈ sess, SessOk se) (hin : RunG (Msg.init now0 sess) evs) (hck : ClockOk (Msg.init now0 sess) evs) :
    Punctual (Msg.init now0 sess) evs :=
  punctual_of_clockOk evs _ (Nat.zero_le _) (fun _ _ he => nomatch he) (runG_mono evs _ hin) hck

open Coap.Sim Coap.Sched in
/-- non-vacuity of `punctual_of_clock` / `sleep_returned_wait_ok`: the gated witness run never moves the clock past a
pending deadline; after its first 5 events (I/O step at 2000) the wait is 4000 and the next deadline 6000 -/
example : ClockOk (Msg.init 0 [{ maxRtx := 1 }]) gevs ∧
    (let r := Msg.prepareCore (Msg.run (Msg.init 0 [{ maxRtx := 1 }]) (gevs.take 5))
     r.1.now = 2000 ∧ r.2 = 4000 ∧ (abs r.1.q).map (·.deadline) = [6000]) := by decide

/-! ### (6') the simulation M ⊑ S for EVERY event sequence: NSTART gate and coincident instants included

`Coap.SimF` (CoapVerif/Lemmas/TimerSimFull.lean; its head comment says how the S events are computed along the code path and
what the relation `SimF.RelF` compares), without the two scope conditions of `m_refines_timer_partial`.  The invariant is
`Coap.Sched.FInv`: a message held by NSTART is part of it; its S `send` (and so its schedule) happens when the code really
transmits it.  Not represented by `RelF`: the interleaving of ONE outcome with the first transmissions it unblocks at the same
instant — the code transmits the delayed message and THEN calls the NACK handler (`coap_retransmit`: release, then NACK; RST
branch likewise); S reports the outcome and then sends.  `sim_order_witness`: with a message id re-used while
the first use is still in flight no translation at all can give the full observation lists in the same order.

Scope: `RunG`, the C06 alphabet of section (7). -/
open Coap.Sim Coap.Sched in
/-- (general form): from any M state satisfying the invariant (delay queues allowed) and any S
state related to it, for EVERY event list: the runs end in related states, the invariant still holds, and every `send` of
the S run carries the `coap_calc_timeout` value `P` vouches for and the session's MAX_RETRANSMIT. -/
theorem m_refines_timer_from (par : Nat → Msg.Sess) (P : Nat → Nat → Nat → Prop) (hp : GPar par)
    (evs : List Msg.Ev) (l : Msg.L) (ts : Timer.TS) (hi : FInv False par P l) (hr : SimF.RelF (mxOf par) l ts)
    (hin : RunG l evs)
    (hP : ∀ s mid r, Msg.Ev.submit s true mid r ∈ evs →
      P s mid (calcTimeout (par s).atI (par s).atF (par s).arfI (par s).arfF r)) :
    FInv False par P (Msg.run l evs) ∧ SimF.RelF (mxOf par) (Msg.run l evs) (Timer.run ts (SimF.trRun l evs)) ∧
    SimF.SendsOk par P (SimF.trRun l evs) :=
  let h := SimF.run_simF (pu := False) hp evs l ts hi hr hin (fun h => h.elim) hP
  ⟨h.finv, h.rel, h.sends⟩

open Coap.Sim Coap.Sched in
/-- from the initial state, EVERY event list of the alphabet — Confirmables submitted with or without NSTART room,
submissions / ACKs / RSTs at instants at which retransmissions are due, punctual or late:
* S's clock is at most M's;
* S's pending list (ghost `t0` erased) is exactly what M's delta list stands for: absolute deadline, session, message id,
  initial timeout `T`, retransmission counter, MAX_RETRANSMIT — in the same order;
* both have shown the same transmissions (time, session, mid, retransmission number), in the same order;
* both have shown the same outcome NACKs (time, session, mid, reason), in the same order. -/
theorem m_refines_timer (now0 : Nat) (sess : List Msg.Sess) (evs : List Msg.Ev)
    (hs : ∀ se ∈ sess, SessOk se) (hin : RunG (Msg.init now0 sess) evs) :
    let l := Msg.run (Msg.init now0 sess) evs
    let ts := Timer.run (Timer.init now0) (SimF.trRun (Msg.init now0 sess) evs)
    ts.now ≤ l.now ∧
    ts.pend.map er = absP (fun s => (parOf sess s).maxRtx) l.q.base l.q.nodes ∧
    SimF.txsS ts.outs = SimF.txsM l.out ∧ SimF.nksS ts.outs = SimF.nksM l.out := by
  intro l ts
  have := (SimF.run_simF (pu := False) (P := fun _ _ _ => True) (gpar_of sess hs) evs _ (Timer.init now0)
    (finv_init _ now0 sess hs) (SimF.relF_init _ now0 sess) hin (fun h => h.elim)
    (fun _ _ _ _ => trivial)).rel
  exact ⟨this.now, this.pend, this.txs, this.nacks⟩

open Coap.Sim Coap.Sched in
/-- (`retransmit_schedule` lifted from S to M through the simulation): the statement of `m_schedule_all` of section (7),
which is proved this way — the two are one theorem.  For a message that waited for an NSTART slot, `t0` is the instant it left
the delay queue. -/
theorem m_schedule_via_timer (now0 : Nat) (sess : List Msg.Sess) (evs : List Msg.Ev)
    (hs : ∀ se ∈ sess, SessOk se) (hin : RunG (Msg.init now0 sess) evs) (hpu : Punctual (Msg.init now0 sess) evs) :
    ∀ t s mid k, Msg.Out.tx t s mid k true ∈ (Msg.run (Msg.init now0 sess) evs).out →
      ∃ t0 r, Msg.Ev.submit s true mid r ∈ evs ∧
        Msg.Out.tx t0 s mid 0 true ∈ (Msg.run (Msg.init now0 sess) evs).out ∧
        t = sched t0 (calcTimeout (parOf sess s).atI (parOf sess s).atF (parOf sess s).arfI (parOf sess s).arfF r) k ∧
        k ≤ (parOf sess s).maxRtx :=
  m_schedule_all now0 sess evs hs hin hpu

open Coap.Sim in
/-- the scope `RunIn` of section (6) lies inside `RunG` (`Sim.runIn_runG`), so this is `m_schedule_via_timer` on it; what the
exact relation of section (6) adds: on its scope EVERY transmission `tx t s mid k con` of M is one S shows too, hence of a
Confirmable. -/
theorem m_schedule_via_timer_partial (now0 : Nat) (sess : List Msg.Sess) (evs : List Msg.Ev)
    (hs : ∀ se ∈ sess, SessOk se) (hin : RunIn (Msg.init now0 sess) evs) (hpu : Punctual (Msg.init now0 sess) evs) :
    ∀ t s mid k con, Msg.Out.tx t s mid k con ∈ (Msg.run (Msg.init now0 sess) evs).out →
      con = true ∧ ∃ t0 r, Msg.Ev.submit s true mid r ∈ evs ∧
        Msg.Out.tx t0 s mid 0 true ∈ (Msg.run (Msg.init now0 sess) evs).out ∧
        t = sched t0 (calcTimeout (parOf sess s).atI (parOf sess s).atF (parOf sess s).arfI (parOf sess s).arfF r) k ∧
        k ≤ (parOf sess s).maxRtx := by
  intro t s mid k con hmem
  obtain rfl : con = true := (obs_tx_M_to_S (m_refines_timer_partial now0 sess evs hs hin).2.2 hmem).1
  exact ⟨rfl, m_schedule_via_timer now0 sess evs hs (runIn_runG evs _ hin) hpu t s mid k hmem⟩

open Coap.Sim Coap.Sched in
/-- (`single_outcome` lifted from S to M through the simulation; every run over the C06 alphabet): for every (session, mid), the
number of FIRST transmissions of the Confirmable — `coap_send`s that passed the NSTART gate at once plus messages that left
the delay queue — equals the number of outcome NACK-handler calls (TOO_MANY_RETRIES or RST, carrying the sent PDU) plus the
number of completions without such a NACK (`remC`: an arriving ACK — empty, or with an invalid / request code — that found the
message in the send queue) plus the number of nodes still in the send queue.  So a message that has been transmitted is — at
every moment — exactly one of: pending, completed by its ACK, or reported by ONE NACK.  (`m_single_outcome` adds: accepted = first
transmissions + still delayed.) -/
theorem m_single_outcome_via_timer (now0 : Nat) (sess : List Msg.Sess) (evs : List Msg.Ev)
    (hs : ∀ se ∈ sess, SessOk se) (hin : RunG (Msg.init now0 sess) evs) (s mid : Nat) :
    SimF.tx0C s mid (Msg.run (Msg.init now0 sess) evs).out =
      nackC s mid (Msg.run (Msg.init now0 sess) evs).out + remC s mid (Msg.init now0 sess) evs +
        pendC s mid (Msg.run (Msg.init now0 sess) evs).q.nodes := by
  have hp := gpar_of sess hs
  have hi := finv_init (fun _ _ _ => True) now0 sess hs
  have hr := SimF.relF_init (mxOf (parOf sess)) now0 sess
  obtain ⟨_, hr2, _, _, hack⟩ := SimF.run_simF (pu := False) hp evs _ (Timer.init now0) hi hr hin (fun h => h.elim)
    (fun _ _ _ _ => trivial)
  -- S: sends = outcomes + pending, and sends = first transmissions; both read on M through the relation
  have hso := Timer.run_conserve s mid (SimF.trRun (Msg.init now0 sess) evs) (Timer.init now0)
  have htx := SimF.run_tx0 s mid (SimF.trRun (Msg.init now0 sess) evs) (Timer.init now0)
  rw [oc_split, SimF.nackS_nks, hr2.nacks, ← SimF.nackC_nks, hack s mid, ← pc_er, hr2.pend, pc_absP] at hso
  rw [SimF.tx0S_obs, hr2.txs] at htx
  simp only [Timer.init, ackS, SimF.tx0S, Timer.oc, Timer.pc, Nat.zero_add, Nat.add_zero] at hso htx
  unfold SimF.tx0C
  omega

/-- witness run with coincident instants: two sessions; at 2000 the retransmission of message (0,1) is due, and BEFORE the I/O
loop runs a `coap_send` on session 1 and an RST for (0,1) arrive; then the I/O step -/
def cevs : List Msg.Ev :=
  [.submit 0 true 1 0, .submit 0 true 2 255, .setNow 2000, .submit 1 true 7 255, .rxRst 0 1, .prepare, .setNow 5000, .prepare]

open Coap.Sim Coap.Sched in
/-- non-vacuity of section (6'): the witnesses `gevs` and `cevs` are in scope `RunG`, punctual, and NOT in the scope `RunIn` of
the partial theorems; pending lists, transmission lists and NACK lists of S and M agree -/
example : (∀ se ∈ [({ maxRtx := 1 } : Msg.Sess)], SessOk se) ∧ RunG (Msg.init 0 [{ maxRtx := 1 }]) gevs ∧
    Punctual (Msg.init 0 [{ maxRtx := 1 }]) gevs ∧ ¬ RunIn (Msg.init 0 [{ maxRtx := 1 }]) gevs ∧
    RunG (Msg.init 0 [{}, {}]) cevs ∧ Punctual (Msg.init 0 [{}, {}]) cevs ∧ ¬ RunIn (Msg.init 0 [{}, {}]) cevs ∧
    SimF.txsM (Msg.run (Msg.init 0 [{}, {}]) cevs).out =
      [.tx 5000 0 2 1 true, .tx 5000 1 7 1 true, .tx 2000 0 2 0 true, .tx 2000 1 7 0 true, .tx 0 0 1 0 true] ∧
    SimF.nksM (Msg.run (Msg.init 0 [{}, {}]) cevs).out = [.nackRst 2000 0 1] ∧
    SimF.txsS (Timer.run (Timer.init 0) (SimF.trRun (Msg.init 0 [{}, {}]) cevs)).outs =
      SimF.txsM (Msg.run (Msg.init 0 [{}, {}]) cevs).out ∧
    SimF.tx0C 0 2 (Msg.run (Msg.init 0 [{}, {}]) cevs).out = 1 ∧
    pendC 0 2 (Msg.run (Msg.init 0 [{}, {}]) cevs).q.nodes = 1 ∧
    RunG (Msg.init 0 [{}, {}]) (cevs ++ [.connect 1, .rxBad 0 2, .setNow 9000, .prepare]) ∧
    remC 0 2 (Msg.init 0 [{}, {}]) (cevs ++ [.connect 1, .rxBad 0 2, .setNow 9000, .prepare]) = 1 ∧
    pendC 0 2 (Msg.run (Msg.init 0 [{}, {}]) (cevs ++ [.connect 1, .rxBad 0 2, .setNow 9000, .prepare])).q.nodes = 0 ∧
    -- the wider-alphabet witness `xevs` (a NON, the NSTART gate, a response cancelling by token, connect, an invalid-code ACK)
    SimF.txsS (Timer.run (Timer.init 0) (SimF.trRun (Msg.init 0 [{}]) xevs)).outs =
      SimF.txsM (Msg.run (Msg.init 0 [{}]) xevs).out ∧
    SimF.txsM (Msg.run (Msg.init 0 [{}]) xevs).out = [.tx 3500 0 2 1 true, .tx 500 0 2 0 true, .tx 0 0 1 0 true] ∧
    (Timer.run (Timer.init 0) (SimF.trRun (Msg.init 0 [{}]) xevs)).pend = [] := by
  decide

open Coap.Sim Coap.Sched in
/-- non-vacuity of `m_refines_timer_from`: the initial state with two sessions satisfies `GPar`, `FInv` and `RelF`; so does the
state in the MIDDLE of the gated witness (message 2 waiting in the delay queue) with the S state reached so far -/
example : GPar (parOf [{ maxRtx := 1 }]) ∧
    FInv False (parOf [{ maxRtx := 1 }]) (fun _ _ _ => True) (Msg.run (Msg.init 0 [{ maxRtx := 1 }]) (gevs.take 3)) ∧
    SimF.RelF (mxOf (parOf [{ maxRtx := 1 }])) (Msg.run (Msg.init 0 [{ maxRtx := 1 }]) (gevs.take 3))
      (Timer.run (Timer.init 0) (SimF.trRun (Msg.init 0 [{ maxRtx := 1 }]) (gevs.take 3))) ∧
    ((Msg.run (Msg.init 0 [{ maxRtx := 1 }]) (gevs.take 3)).getS 0).delayq.map (·.mid) = [2] ∧
    RunG (Msg.run (Msg.init 0 [{ maxRtx := 1 }]) (gevs.take 3)) (gevs.drop 3) := by
  have hs : ∀ se ∈ [({ maxRtx := 1 } : Msg.Sess)], SessOk se := by decide
  have hin : RunG (Msg.init 0 [{ maxRtx := 1 }]) (gevs.take 3) := by decide
  have h := m_refines_timer_from (parOf [{ maxRtx := 1 }]) (fun _ _ _ => True) (gpar_of _ hs) (gevs.take 3) _ (Timer.init 0)
    (finv_init _ 0 _ hs) (SimF.relF_init _ 0 _) hin (fun _ _ _ _ => trivial)
  exact ⟨gpar_of _ hs, h.1, h.2.1, by decide, by decide⟩

/-- witness for the order remark: ONE session, NSTART 1; message id 5 is submitted, retransmitted at 2000 (next deadline 6000),
submitted AGAIN while the first use is in flight (held by NSTART), and an RST for id 5 arrives at 2500 -/
def oevs : List Msg.Ev :=
  [.submit 0 true 5 0, .setNow 2000, .prepare, .submit 0 true 5 0, .setNow 2500, .rxRst 0 5]

open Coap.Sim Coap.Sched in
/-- (why the relation compares the transmission list and the NACK list, not their interleaving): the code
removes the first use of id 5 from the send queue, transmits the second use (`coap_session_connected`), THEN calls the NACK
handler: `tx 2500 (0,5) 0` before `nack RST 2500 (0,5)`.  S's `rst` takes the first pending entry of (0,5) in deadline order:
had the `send` of the second use (deadline 4500) come first, `rst` would remove IT and leave the first use (deadline 6000)
pending; with `rst` first, the NACK precedes the transmission.  The transmission lists and the NACK lists agree, the pending
lists agree, the full observation lists do not. -/
theorem sim_order_witness :
    let l := Msg.run (Msg.init 0 [{}]) oevs
    let ts := Timer.run (Timer.init 0) (SimF.trRun (Msg.init 0 [{}]) oevs)
    RunG (Msg.init 0 [{}]) oevs ∧
    l.out.filterMap obsM = [.nackRst 2500 0 5, .tx 2500 0 5 0 true, .tx 2000 0 5 1 true, .tx 0 0 5 0 true] ∧
    ts.outs.filterMap obsS = [.tx 2500 0 5 0 true, .nackRst 2500 0 5, .tx 2000 0 5 1 true, .tx 0 0 5 0 true] ∧
    SimF.txsS ts.outs = SimF.txsM l.out ∧ SimF.nksS ts.outs = SimF.nksM l.out ∧
    ts.pend.map er = absP (fun _ => 4) l.q.base l.q.nodes ∧ ts.pend.map (·.1) = [4500] := by decide

/-! ## (8) no function of the model ever modifies a node's PDU fields or its stored timeout — whole alphabet, no scope -/
open Coap.Pdu in
/-- (byte identity / `T` drawn once, at full generality): for EVERY state of the
message layer and EVERY event of the model — the whole alphabet of `Msg.Ev`: clock moves, `coap_send` of CON or NON,
I/O steps, ACK, RST, NON response (cancel by token), invalid code, hold, connect, disconnect; no scope condition at all
— every node that is in the send queue or in any session's delay queue after the step carries the fields standing for
its PDU (message id, token, type) and the stored `timeout` of a node that was in the send queue or a delay queue before
the step, or (for a `coap_send`) of the node that call builds (`timeout = coap_calc_timeout(…, r)` for a CON, 0 for a
NON).  `coap_insert_node`, `coap_pop_next`, the removals, `coap_wait_ack`, `coap_retransmit` (re-queue AND the move to
the delay queue), the delay-queue drain, cancel and disconnect only ever change `t`, `retransmit_cnt` and the session
index. -/
theorem pdu_and_timeout_never_modified_step (l : Msg.L) (ev : Msg.Ev) : ∀ n, InL (Msg.step l ev) n →
    (∃ n', InL l n' ∧ pduOf n = pduOf n') ∨
    (∃ s con mid r, ev = .submit s con mid r ∧ pduOf n = pduOf (fresh l s con mid r)) := by
  have hQ : Stable (fun n => (∃ n', InL l n' ∧ pduOf n = pduOf n') ∨
      (∃ s con mid r, ev = .submit s con mid r ∧ pduOf n = pduOf (fresh l s con mid r))) := by
    intro n t c s h; exact h
  have h0 : AllQ (fun n => (∃ n', InL l n' ∧ pduOf n = pduOf n') ∨
      (∃ s con mid r, ev = .submit s con mid r ∧ pduOf n = pduOf (fresh l s con mid r))) l :=
    (allQ_iff _ l).2 (fun n hn => Or.inl ⟨n, hn, rfl⟩)
  exact (allQ_iff _ _).1 (step_allQ hQ l ev h0 (fun s con mid r he => Or.inr ⟨s, con, mid, r, he, rfl⟩))

open Coap.Pdu in
/-- (whole runs): from ANY state, after ANY event list, every node in the send queue
or in a delay queue has the PDU fields and the stored timeout of a node of the initial state or of the node built by a
`coap_send` of the run (`Created`: with the session parameters at that moment and that call's PRNG byte) — `T` is
drawn ONCE per message and what is retransmitted is what was submitted. -/
theorem pdu_and_timeout_never_modified (l : Msg.L) (evs : List Msg.Ev) : ∀ n, InL (Msg.run l evs) n →
    (∃ n0, InL l n0 ∧ pduOf n = pduOf n0) ∨ Created l evs n := by
  induction evs generalizing l with
  | nil => intro n hn; exact Or.inl ⟨n, hn, rfl⟩
  | cons ev evs ih =>
    intro n hn
    simp only [Msg.run, List.foldl_cons] at hn
    rcases ih (Msg.step l ev) n hn with ⟨n1, h1, hp1⟩ | hc
    · rcases pdu_and_timeout_never_modified_step l ev n1 h1 with ⟨n0, h0, hp0⟩ | ⟨s, con, mid, r, he, hp⟩
      · exact Or.inl ⟨n0, h0, hp1.trans hp0⟩
      · exact Or.inr (Or.inl ⟨s, con, mid, r, he, hp1.trans hp⟩)
    · exact Or.inr (Or.inr hc)

/-- witness run outside every scope of sections (6)/(7): NSTART gate, hold (the retransmission of message 1 moves its node
to the delay queue), connect (the drain lets message 2 in), a NON, a disconnect of another session -/
def pevs : List Msg.Ev :=
  [.submit 0 true 1 0, .submit 0 true 2 255, .submit 1 false 9 0, .hold 0, .setNow 2000, .prepare, .connect 0,
   .disconnect 1, .setNow 5000, .prepare]

open Coap.Pdu in
/-- … at the end message 2 (retransmitted once) is in the send queue and message 1 (`retransmit_cnt = 1`) waits in the
delay queue; both still have the PDU fields and the timeout (T = 3000, T = 2000) of their `coap_send` -/
example : (Msg.run (Msg.init 0 [{}, {}]) pevs).q.nodes.map pduOf = [(2, 2, true, 3000)] ∧
    ((Msg.run (Msg.init 0 [{}, {}]) pevs).getS 0).delayq.map pduOf = [(1, 1, true, 2000)] ∧
    ((Msg.run (Msg.init 0 [{}, {}]) pevs).getS 0).delayq.map (·.cnt) = [1] := by decide

/-! ## (9) a Confirmable waiting for an NSTART slot is never stranded — whole alphabet -/
open Coap.Msg Coap.MsgX in
/-- ("every Confirmable accepted for sending is transmitted", for the messages the NSTART gate
holds back): after EVERY event list of the model (the whole alphabet, give-ups inside the due loop, hold / connect /
disconnect included), if an established session with NSTART ≥ 1 still holds a message in its delay queue, then a
Confirmable of that session is pending in the send queue.  So the send queue is not empty — `coap_io_prepare_io` does
not report "nothing to wait for" (`wait_le_every_deadline`, `m_wait_exact_and_positive`) — and whatever ends that pending
message (ACK, RST, TOO_MANY_RETRIES: `m_single_outcome`) releases its slot in the same step (`no_idle_hold` is kept by
every event), which transmits the held message.  A give-up that does not let the next held message in leaves a state this
theorem excludes. -/
theorem m_delayed_has_pending (now0 : Nat) (sess : List Sess) (evs : List Ev) (s : Nat)
    (hss : ∀ se ∈ sess, se.conActive = 0 ∧ se.delayq = [] ∧ se.nstart ≤ 255) (hs : s < sess.length)
    (he : ((run (init now0 sess) evs).getS s).est = true) (hn : 1 ≤ ((run (init now0 sess) evs).getS s).nstart)
    (hd : ((run (init now0 sess) evs).getS s).delayq ≠ []) :
    ∃ n ∈ (run (init now0 sess) evs).q.nodes, n.sess = s ∧ n.con = true := by
  have hw := wf_run evs _ (wf_init now0 sess hss)
  have hnih := nih_run evs _ (wf_init now0 sess hss) (nih_init now0 sess hss)
  have hlt : s < (run (init now0 sess) evs).sess.length := by rw [run_len]; exact hs
  generalize run (init now0 sess) evs = l at *
  cases hq : (l.getS s).delayq with
  | nil => exact absurd hq hd
  | cons x rest =>
    have h1 := hnih s hlt he x (by simp [hq])
    have h2 := hw.2 s hlt
    have hpos : 0 < inflight l s := by omega
    unfold inflight at hpos
    obtain ⟨n, hn'⟩ := List.exists_mem_of_length_pos hpos
    have hm := List.mem_filter.mp hn'
    exact ⟨n, hm.1, by simpa using hm.2, hw.1.mem hm.1⟩

open Coap.Msg in
/-- non-vacuity of `m_delayed_has_pending`: in the gated witness, after message 2 was submitted (3 events), session 0 holds
message 2 and message 1 is pending; after the give-up of message 1 (7 events) nothing is held any more -/
example : (((run (init 0 [{ maxRtx := 1 }]) (gevs.take 3)).getS 0).delayq.map (·.mid) = [2]) ∧
    ((run (init 0 [{ maxRtx := 1 }]) (gevs.take 3)).q.nodes.map (·.mid) = [1]) ∧
    (((run (init 0 [{ maxRtx := 1 }]) (gevs.take 7)).getS 0).delayq = []) ∧
    ((run (init 0 [{ maxRtx := 1 }]) (gevs.take 7)).q.nodes.map (·.mid) = [2]) := by decide

/-! ## (10) socket-write failures: a retransmission that cannot be written is a datagram lost on the wire

`Model/MsgLayerW.lean` gives the model one more input — what `coap_socket_send()` returns for each datagram (ECONNREFUSED
after an ICMP error, ENOBUFS, …).  An `Out.tx` there is a write ATTEMPT; the ghost list `failed` marks the attempts that
failed.  `dev` (ghost) is set exactly when the write of a FIRST transmission fails: `coap_send` then refuses the message
(it was never accepted) and the drain loop of `coap_session_connected` stops (`break`) — the state then differs from
the base model's by design.  Every other failure (any number of failed RETRANSMISSIONS of any messages) is invisible to
the message layer. -/
open Coap.Msg Coap.MsgW in
/-- (every state, every oracle): while retransmissions are left,
`coap_retransmit` with a write that fails does to the send queue, to the sessions (`con_active`, delay queues) and to
the output list exactly what it does with a write that succeeds: the node is back in the send queue with
`retransmit_cnt + 1` and the deadline `now + (T << cnt)` (`retransmit_step`), the message keeps its NSTART slot, and
the attempt is in the outputs.  (A `coap_retransmit` that drops the node when the write fails, or forgets the slot,
contradicts this.) -/
theorem w_failed_retransmission_is_lost_datagram (lw : LW) (n : Node) (hc : n.cnt < (lw.l.getS n.sess).maxRtx) :
    (retransmitW lw n).l = retransmit lw.l n ∧ (retransmitW lw n).dev = lw.dev :=
  retransmitW_resend lw n hc

open Coap.Msg Coap.MsgW in
/-- for EVERY event list and EVERY write oracle, from any state: unless the write of a first
transmission failed (`dev`), the run of the write-failure model ends in exactly the state — send queue with all
deadlines and counters, `con_active`, delay queues, clock, output list — of the base model's run over the same events.
Failed retransmissions, however many and wherever, change nothing but the ghost marks.

`_partial`: the statement without the `dev` hypothesis is false by design (a `coap_send` whose first write fails is
refused; a failed write stops the drain loop).  Full statement:
  `∀ lw evs, (runW lw evs).l = Msg.run lw.l evs`. -/
theorem w_run_tracks_m_partial (lw : LW) (evs : List Ev) (h : (runW lw evs).dev = false) :
    (runW lw evs).l = run lw.l evs :=
  (runW_tracks evs lw h).2

open Coap.Msg Coap.MsgW in
/-- (the write-failure model is a conservative extension, full): with an oracle that never says
"fails" (in particular the empty one), for EVERY event list from any state, the write-failure model does exactly what
the base model does — so every theorem of sections (3)–(9) is a theorem about it, and the comparison of the compiled code
with `Coap.MsgW.stepW` on lines with failing writes ties the same transcription as the comparison with `Coap.Msg.step`. -/
theorem w_no_failure_is_m (lw : LW) (evs : List Ev) (hnf : ∀ b ∈ lw.wf, b = false) (hd : lw.dev = false) :
    (runW lw evs).l = run lw.l evs ∧ (runW lw evs).dev = false := by
  have hq := runW_quiet evs lw hnf
  have hdev : (runW lw evs).dev = false := by rw [hq.2]; exact hd
  exact ⟨(runW_tracks evs lw hdev).2, hdev⟩

open Coap.Msg Coap.MsgW Coap.Sim Coap.Sched in
/-- (`m_single_outcome` with write failures): it holds in every run over the C06 alphabet in which any writes of
RETRANSMISSIONS fail.  A message whose retransmission could not be written is still exactly one of: pending, waiting,
concluded once — never lost.  (`_partial`: as `w_run_tracks_m_partial`.) -/
theorem w_single_outcome_partial (now0 : Nat) (sess : List Sess) (wf : List Bool) (evs : List Ev)
    (hs : ∀ se ∈ sess, SessOk se) (hin : RunG (init now0 sess) evs)
    (hdev : (runW (initW now0 sess wf) evs).dev = false) (s mid : Nat) :
    let lw := runW (initW now0 sess wf) evs
    accC s mid (init now0 sess) evs =
      nackC s mid lw.l.out + remC s mid (init now0 sess) evs + pendC s mid lw.l.q.nodes +
        midC mid (lw.l.getS s).delayq := by
  intro lw
  have h := w_run_tracks_m_partial (initW now0 sess wf) evs hdev
  simp only [lw, h]
  exact m_single_outcome now0 sess evs hs hin s mid

open Coap.Msg Coap.MsgW Coap.Sim Coap.Sched in
/-- (`m_schedule_all` + `m_giveup_after_all_retransmissions` with write failures): they hold of the write ATTEMPTS of a
Confirmable — written or not — in every punctual run over the C06 alphabet in which any writes of retransmissions fail.  A
failed write neither shifts the schedule nor costs or adds a retransmission.  (`_partial`: as `w_run_tracks_m_partial`.) -/
theorem w_attempts_on_schedule_partial (now0 : Nat) (sess : List Sess) (wf : List Bool) (evs : List Ev)
    (hs : ∀ se ∈ sess, SessOk se) (hin : RunG (init now0 sess) evs) (hpu : Punctual (init now0 sess) evs)
    (hdev : (runW (initW now0 sess wf) evs).dev = false) :
    let out := (runW (initW now0 sess wf) evs).l.out
    (∀ t s mid k, Out.tx t s mid k true ∈ out →
      ∃ t0 r, Ev.submit s true mid r ∈ evs ∧ Out.tx t0 s mid 0 true ∈ out ∧
        t = sched t0 (calcTimeout (parOf sess s).atI (parOf sess s).atF (parOf sess s).arfI (parOf sess s).arfF r) k ∧
        k ≤ (parOf sess s).maxRtx) ∧
    (∀ t s mid, Out.nack t s .retries mid true ∈ out →
      ∃ t0 r, Ev.submit s true mid r ∈ evs ∧
        (∀ j, j ≤ (parOf sess s).maxRtx →
          Out.tx (sched t0 (calcTimeout (parOf sess s).atI (parOf sess s).atF (parOf sess s).arfI
            (parOf sess s).arfF r) j) s mid j true ∈ out) ∧
        t = sched t0 (calcTimeout (parOf sess s).atI (parOf sess s).atF (parOf sess s).arfI (parOf sess s).arfF r)
          ((parOf sess s).maxRtx + 1)) := by
  intro out
  have h := w_run_tracks_m_partial (initW now0 sess wf) evs hdev
  simp only [out, h]
  exact ⟨m_schedule_all now0 sess evs hs hin hpu, m_giveup_after_all_retransmissions now0 sess evs hs hin hpu⟩

/-- witness run with write failures: MAX_RETRANSMIT 2, NSTART 1; message 2 waits behind message 1; the writes number 1 and 2
(both retransmissions of message 1) fail; message 1 is given up at 14000 and message 2 goes out at that instant -/
def wfevs : List Msg.Ev :=
  [.submit 0 true 1 0, .submit 0 true 2 0, .setNow 2000, .prepare, .setNow 6000, .prepare, .setNow 14000, .prepare]

open Coap.Msg Coap.MsgW Coap.Sim Coap.Sched in
/-- non-vacuity of section (10): the witness is in scope and punctual, no first transmission fails (`dev = false`), the two
failed attempts are marked (output positions 3 and 5, counted from the oldest: the attempts at 2000 and 6000), message 1 still gets its ONE
TOO_MANY_RETRIES after 3 attempts and message 2 is transmitted; with a failing FIRST write `coap_send` refuses
(`dev = true`, nothing queued) -/
example : (∀ se ∈ [({ maxRtx := 2 } : Sess)], SessOk se) ∧ RunG (init 0 [{ maxRtx := 2 }]) wfevs ∧
    Punctual (init 0 [{ maxRtx := 2 }]) wfevs ∧
    (runW (initW 0 [{ maxRtx := 2 }] [false, true, true]) wfevs).dev = false ∧
    (runW (initW 0 [{ maxRtx := 2 }] [false, true, true]) wfevs).failed = [5, 3] ∧
    (runW (initW 0 [{ maxRtx := 2 }] [false, true, true]) wfevs).l.out.filterMap obsM =
      [.nackRetries 14000 0 1, .tx 14000 0 2 0 true, .tx 6000 0 1 2 true, .tx 2000 0 1 1 true, .tx 0 0 1 0 true] ∧
    (runW (initW 0 [{ maxRtx := 2 }] [false, true, true]) wfevs).l.q.nodes.map (·.mid) = [2] ∧
    (runW (initW 0 [{}] [true]) [.submit 0 true 1 0]).dev = true ∧
    (runW (initW 0 [{}] [true]) [.submit 0 true 1 0]).l.q.nodes = [] ∧
    (runW (initW 0 [{}] [true]) [.submit 0 true 1 0]).l.out = [.sub none, .tx 0 0 1 0 true] := by decide

open Coap.Msg Coap.MsgW in
/-- (open finding `drain_break_strands_delayed`, the domain the `_partial` theorems of this
section exclude through `dev`): a session that is not established holds a NON (101) and a Confirmable (102);
`coap_session_connected` takes the NON out of the delay queue, its write fails, the NON is deleted and the loop stops
(`if (bytes_written < 0) break;`).  No Confirmable of the session is in flight, so nothing will call
`coap_session_connected` again: the session is established, `con_active = 0`, the send queue is empty,
`coap_io_prepare_io` returns 0 — and the accepted Confirmable 102 is still in the delay queue. -/
theorem w_drain_break_strands_witness :
    let lw := runW (initW 0 [{}] [true]) [.hold 0, .submit 0 false 101 0, .submit 0 true 102 0, .connect 0, .prepare]
    lw.dev = true ∧ (lw.l.getS 0).est = true ∧ (lw.l.getS 0).conActive = 0 ∧
    (lw.l.getS 0).delayq.map (·.mid) = [102] ∧ lw.l.q.nodes = [] ∧ lw.l.out.head? = some (.wait 0 0) := by decide

/-! ### (10') the branch the `_partial` theorems above exclude: `coap_send` refuses a message whose first write fails

`dev` is set in two places.  (i) `coap_send_internal`: `bytes_written < 0` → `goto error` — covered HERE by full theorems: the
caller is told (COAP_INVALID_MID), nothing is queued, and the whole later run is the run without that call.  (ii) the `break`
in the drain loop of `coap_session_connected` — the open finding `drain_break_strands_delayed` (`w_drain_break_strands_witness`),
where the property itself fails; that is why `w_run_tracks_m_partial` & co. keep their suffix. -/
open Coap.Msg Coap.MsgW in
/-- (every state, every oracle): a `coap_send` that reaches the socket (socket open, the
gate of `coap_send_pdu` lets it through) and whose write FAILS returns COAP_INVALID_MID to the caller (`.sub none`), leaves the
attempt on record (marked failed) — and changes nothing else: the send queue, every session record (`con_active`, delay
queues) and the clock are what they were.  Nothing is queued, no NSTART slot is taken. -/
theorem w_send_refused_nothing_queued (lw : LW) (s : Nat) (con : Bool) (mid r : Nat)
    (hopen : (lw.l.getS s).sockOpen = true) (hgate : gate (lw.l.getS s) con = false)
    (hfail : lw.wf.headD false = true) :
    let lw' := submitW lw s con mid r
    lw'.l.out = .sub none :: .tx lw.l.now s mid 0 con :: lw.l.out ∧
    lw'.l.q = lw.l.q ∧ lw'.l.sess = lw.l.sess ∧ lw'.l.now = lw.l.now ∧
    lw'.dev = true ∧ lw'.wf = lw.wf.tail ∧ lw'.failed = lw.l.out.length :: lw.failed := by
  intro lw'
  have h := submitW_refused lw s con mid r hopen hgate hfail
  simp only [lw', h]
  trivial

open Coap.Msg Coap.MsgW in
/-- (every state, every oracle, EVERY later event list): after a refused `coap_send` the
whole later run — retransmissions, arrivals, give-ups, further sends, further write failures — is, event for event, the run
that happens WITHOUT that call (the oracle one answer further): same clock, same send queue with the same deadlines and
counters, same sessions, same remaining oracle, and the same NEW outputs in the same order on top of the two outputs of the
refused call.  So the refused message gets no NACK and is never transmitted later: nothing that happens later depends on the
call having been made. -/
theorem w_refused_send_leaves_no_trace (lw : LW) (s : Nat) (con : Bool) (mid r : Nat) (evs : List Ev)
    (hopen : (lw.l.getS s).sockOpen = true) (hgate : gate (lw.l.getS s) con = false)
    (hfail : lw.wf.headD false = true) :
    let a := runW (submitW lw s con mid r) evs
    let b := runW { lw with wf := lw.wf.tail } evs
    a.l.now = b.l.now ∧ a.l.q = b.l.q ∧ a.l.sess = b.l.sess ∧ a.wf = b.wf ∧
    ∃ new, a.l.out = new ++ .sub none :: .tx lw.l.now s mid 0 con :: lw.l.out ∧ b.l.out = new ++ lw.l.out := by
  intro a b
  obtain ⟨h1, h2⟩ := runW_after_refused lw s con mid r evs hopen hgate hfail
  simp only [a, b, h1, h2]
  exact ⟨rfl, rfl, rfl, rfl, _, rfl, rfl⟩

open Coap.Msg Coap.MsgW in
/-- (complement of `w_run_tracks_m_partial`): a run `evs1`, a `coap_send` that is
refused because its first write fails, then `evs2` — any event lists, any oracle, any pattern of failing RETRANSMISSION writes
— with no other first-write failure (`dev = false` for the run without the call): the write-failure model ends in exactly
the state of the BASE model's run over `evs1 ++ evs2`, the event list WITHOUT the refused `coap_send`; its outputs are the
base model's with the failed attempt and COAP_INVALID_MID inserted where the call was made.  So every theorem of sections
(3)–(9) about `evs1 ++ evs2` is a theorem about the run with the refused call. -/
theorem w_run_with_refused_send_is_m_without_it (lw0 : LW) (evs1 evs2 : List Ev) (s : Nat) (con : Bool) (mid r : Nat)
    (hopen : ((runW lw0 evs1).l.getS s).sockOpen = true) (hgate : gate ((runW lw0 evs1).l.getS s) con = false)
    (hfail : (runW lw0 evs1).wf.headD false = true)
    (hdev : (runW { runW lw0 evs1 with wf := (runW lw0 evs1).wf.tail } evs2).dev = false) :
    let a := runW lw0 (evs1 ++ .submit s con mid r :: evs2)
    let m1 := run lw0.l evs1
    let m := run lw0.l (evs1 ++ evs2)
    a.l.now = m.now ∧ a.l.q = m.q ∧ a.l.sess = m.sess ∧
    ∃ new, m.out = new ++ m1.out ∧ a.l.out = new ++ .sub none :: .tx m1.now s mid 0 con :: m1.out := by
  intro a m1 m
  have hb := runW_tracks evs2 _ hdev
  have h1 := runW_tracks evs1 lw0 hb.1
  have ha : a = runW (submitW (runW lw0 evs1) s con mid r) evs2 := by
    simp only [a, runW, List.foldl_append, List.foldl_cons, stepW]
  have hm : m = Msg.run (runW lw0 evs1).l evs2 := by
    rw [h1.2]
    simp only [m, Msg.run, List.foldl_append]
  obtain ⟨e1, e2, e3, _, new, e5, e6⟩ := w_refused_send_leaves_no_trace (runW lw0 evs1) s con mid r evs2 hopen hgate hfail
  rw [hb.2] at e1 e2 e3 e6
  rw [ha, hm]
  refine ⟨e1, e2, e3, new, ?_, ?_⟩
  · rw [e6, h1.2]
  · rw [e5, h1.2]

open Coap.Msg Coap.MsgW Coap.Sim Coap.Sched in
/-- (complement of `w_single_outcome_partial`): in a run over the C06 alphabet with one refused `coap_send` (and any failing
retransmission writes), conservation holds with the refused call NOT counted as accepted, for every (session, mid) — the
refused one included.  The refused call adds no NACK, no queued node, no delayed node. -/
theorem w_single_outcome_refused (now0 : Nat) (sess : List Sess) (wf : List Bool) (evs1 evs2 : List Ev)
    (s : Nat) (con : Bool) (mid r : Nat)
    (hs : ∀ se ∈ sess, SessOk se) (hin : RunG (init now0 sess) (evs1 ++ evs2))
    (hopen : ((runW (initW now0 sess wf) evs1).l.getS s).sockOpen = true)
    (hgate : gate ((runW (initW now0 sess wf) evs1).l.getS s) con = false)
    (hfail : (runW (initW now0 sess wf) evs1).wf.headD false = true)
    (hdev : (runW { runW (initW now0 sess wf) evs1 with wf := (runW (initW now0 sess wf) evs1).wf.tail } evs2).dev = false)
    (s' mid' : Nat) :
    let a := runW (initW now0 sess wf) (evs1 ++ .submit s con mid r :: evs2)
    accC s' mid' (init now0 sess) (evs1 ++ evs2) =
      nackC s' mid' a.l.out + remC s' mid' (init now0 sess) (evs1 ++ evs2) + pendC s' mid' a.l.q.nodes +
        midC mid' (a.l.getS s').delayq := by
  intro a
  obtain ⟨_, e2, e3, new, e4, e5⟩ :=
    w_run_with_refused_send_is_m_without_it (initW now0 sess wf) evs1 evs2 s con mid r hopen hgate hfail hdev
  have hso := m_single_outcome now0 sess (evs1 ++ evs2) hs hin s' mid'
  simp only [] at e2 e3 e4 e5 hso
  have hg : a.l.getS s' = (run (init now0 sess) (evs1 ++ evs2)).getS s' := by
    simp only [L.getS, a]; rw [e3]; rfl
  have hn : nackC s' mid' a.l.out = nackC s' mid' (run (init now0 sess) (evs1 ++ evs2)).out := by
    simp only [a]
    rw [e5]
    show _ = nackC s' mid' (run (initW now0 sess wf).l (evs1 ++ evs2)).out
    rw [e4, nackC_append, nackC_append]
    simp [nackC, nackW, obsM]
  rw [hn, hg]
  simp only [a]
  rw [e2]
  exact hso

open Coap.Msg Coap.MsgW Coap.Sim Coap.Sched in
/-- (complement of `w_attempts_on_schedule_partial`): in a punctual run over the C06
alphabet with one refused `coap_send` (and any failing retransmission writes), every write attempt of a Confirmable is
either THE attempt of the refused call (at the time of the call, number 0 — it has no retransmission: nothing else in the
outputs stems from it) or an attempt of a message accepted in `evs1 ++ evs2`, at its slot `t0 + (2^k − 1)·T` of the one `T`
drawn at its `coap_send`, `k ≤ MAX_RETRANSMIT`; and every TOO_MANY_RETRIES NACK comes after all `MAX_RETRANSMIT + 1` attempts
of an ACCEPTED message, one slot after the last — never for the refused one. -/
theorem w_attempts_on_schedule_refused (now0 : Nat) (sess : List Sess) (wf : List Bool) (evs1 evs2 : List Ev)
    (s : Nat) (con : Bool) (mid r : Nat)
    (hs : ∀ se ∈ sess, SessOk se) (hin : RunG (init now0 sess) (evs1 ++ evs2))
    (hpu : Punctual (init now0 sess) (evs1 ++ evs2))
    (hopen : ((runW (initW now0 sess wf) evs1).l.getS s).sockOpen = true)
    (hgate : gate ((runW (initW now0 sess wf) evs1).l.getS s) con = false)
    (hfail : (runW (initW now0 sess wf) evs1).wf.headD false = true)
    (hdev : (runW { runW (initW now0 sess wf) evs1 with wf := (runW (initW now0 sess wf) evs1).wf.tail } evs2).dev = false) :
    let out := (runW (initW now0 sess wf) (evs1 ++ .submit s con mid r :: evs2)).l.out
    (∀ t s' mid' k, Out.tx t s' mid' k true ∈ out →
      (t = (Msg.run (init now0 sess) evs1).now ∧ s' = s ∧ mid' = mid ∧ k = 0 ∧ con = true) ∨
      ∃ t0 r', Ev.submit s' true mid' r' ∈ evs1 ++ evs2 ∧ Out.tx t0 s' mid' 0 true ∈ out ∧
        t = sched t0 (calcTimeout (parOf sess s').atI (parOf sess s').atF (parOf sess s').arfI (parOf sess s').arfF r') k ∧
        k ≤ (parOf sess s').maxRtx) ∧
    (∀ t s' mid', Out.nack t s' .retries mid' true ∈ out →
      ∃ t0 r', Ev.submit s' true mid' r' ∈ evs1 ++ evs2 ∧
        (∀ j, j ≤ (parOf sess s').maxRtx →
          Out.tx (sched t0 (calcTimeout (parOf sess s').atI (parOf sess s').atF (parOf sess s').arfI
            (parOf sess s').arfF r') j) s' mid' j true ∈ out) ∧
        t = sched t0 (calcTimeout (parOf sess s').atI (parOf sess s').atF (parOf sess s').arfI (parOf sess s').arfF r')
          ((parOf sess s').maxRtx + 1)) := by
  intro out
  obtain ⟨_, _, _, new, e4, e5⟩ :=
    w_run_with_refused_send_is_m_without_it (initW now0 sess wf) evs1 evs2 s con mid r hopen hgate hfail hdev
  have e4' : (Msg.run (init now0 sess) (evs1 ++ evs2)).out = new ++ (Msg.run (init now0 sess) evs1).out := e4
  have e5' : out = new ++ .sub none :: .tx (Msg.run (init now0 sess) evs1).now s mid 0 con ::
      (Msg.run (init now0 sess) evs1).out := e5
  -- the outputs are the base model's with the two outputs of the refused call inserted
  have hout : ∀ o, o ∈ out ↔ o = .sub none ∨ o = .tx (Msg.run (init now0 sess) evs1).now s mid 0 con ∨
      o ∈ (Msg.run (init now0 sess) (evs1 ++ evs2)).out := fun o => by
    rw [e5', e4']
    simp only [List.mem_append, List.mem_cons]
    exact or_left_comm.trans (or_congr_right or_left_comm)
  have hsub : ∀ o, o ∈ (Msg.run (init now0 sess) (evs1 ++ evs2)).out → o ∈ out := fun o ho => (hout o).2 (.inr (.inr ho))
  refine ⟨?_, ?_⟩
  · intro t s' mid' k hmem
    rcases (hout _).1 hmem with h | h | h
    · cases h
    · simp only [Out.tx.injEq] at h
      exact Or.inl ⟨h.1, h.2.1, h.2.2.1, h.2.2.2.1, h.2.2.2.2.symm⟩
    · obtain ⟨t0, r', h1, h2, h3, h4⟩ := m_schedule_all now0 sess (evs1 ++ evs2) hs hin hpu t s' mid' k h
      exact Or.inr ⟨t0, r', h1, hsub _ h2, h3, h4⟩
  · intro t s' mid' hmem
    rcases (hout _).1 hmem with h | h | h
    · cases h
    · cases h
    · obtain ⟨t0, r', h1, h2, h3⟩ := m_giveup_after_all_retransmissions now0 sess (evs1 ++ evs2) hs hin hpu t s' mid' h
      exact ⟨t0, r', h1, fun j hj => hsub _ (h2 j hj), h3⟩

open Coap.Msg Coap.MsgW in
/-- non-vacuity of section (10'): MAX_RETRANSMIT 2; message 1 is sent at 0; at 2000 its retransmission is written; at 2500 a
`coap_send` of message 7 on session 1 is refused (its write fails); the run goes on: the hypotheses hold, message 7 is nowhere,
message 1 is retransmitted at 6000 as if nothing had happened -/
example : let lw0 := initW 0 [{ maxRtx := 2 }, { maxRtx := 2 }] [false, false, true]
    let evs1 : List Ev := [.submit 0 true 1 0, .setNow 2000, .prepare, .setNow 2500]
    let evs2 : List Ev := [.setNow 6000, .prepare]
    ((runW lw0 evs1).l.getS 1).sockOpen = true ∧ gate ((runW lw0 evs1).l.getS 1) true = false ∧
    (runW lw0 evs1).wf.headD false = true ∧
    (runW { runW lw0 evs1 with wf := (runW lw0 evs1).wf.tail } evs2).dev = false ∧
    (runW lw0 (evs1 ++ .submit 1 true 7 0 :: evs2)).dev = true ∧
    (runW lw0 (evs1 ++ .submit 1 true 7 0 :: evs2)).l.q.nodes.map (·.mid) = [1] ∧
    (runW lw0 (evs1 ++ .submit 1 true 7 0 :: evs2)).l.out =
      [.wait 6000 8000, .tx 6000 0 1 2 true, .sub none, .tx 2500 1 7 0 true, .wait 2000 4000, .tx 2000 0 1 1 true,
       .sub (some 1), .tx 0 0 1 0 true] ∧
    Coap.Sched.RunG (init 0 [{ maxRtx := 2 }, { maxRtx := 2 }]) (evs1 ++ evs2) ∧
    Coap.Sim.Punctual (init 0 [{ maxRtx := 2 }, { maxRtx := 2 }]) (evs1 ++ evs2) := by decide

/-! ## (11) an ACK that carries the message id ends the Confirmable whatever code it carries (seed C06-11)

"… until an ACK or RST carrying its message id arrives from that peer": the ACK branch of `coap_dispatch` removes the
node by (session, message id) BEFORE it looks at the code.  `Msg.rxAckReq` transcribes the branch for an ACK whose code
is a request method (0.01 … 0.31): it is the same function as `Msg.rxBad` (the invalid-class check at the top of
`coap_dispatch`), so `Ev.rxBad` stands for both and every whole-run theorem of section (7) — `m_single_outcome`
(`remC` counts it), `m_never_sent_again`, `m_schedule_all`, `m_due_fires` — ranges over such ACKs at any time. -/
open Coap.Msg in
/-- (every state): an ACK with a request code is handled exactly like an ACK with an
invalid code class: node removed by (session, mid), NSTART slot released (delay queue drained), ONE NACK BAD_RESPONSE
with the sent PDU iff a node was found. -/
theorem ack_request_code_is_bad_ack (l : L) (s mid : Nat) : rxAckReq l s mid = rxBad l s mid := by
  unfold rxAckReq rxBad
  cases h : removeNode l.q.nodes s mid with
  | mk sent rest => cases sent <;> rfl

open Coap.Msg in
/-- ONE Confirmable on an idle endpoint, an ACK with its message id and a request code
arriving after the `k`-th retransmission (any `k`): the queue is empty, the slot is free, exactly one NACK
(BAD_RESPONSE) — and by `m_solo_quiet_after` nothing is ever transmitted again. -/
theorem m_solo_ack_request_code (se : Sess) (t0 T mid k : Nat) (hopen : se.sockOpen = true) (hest : se.est = true)
    (hdq : se.delayq = []) :
    afterRx (rxAckReq (soloState se t0 T mid k) 0 mid) =
      soloDone se (sched t0 T k) (sched t0 T k) (.nack (sched t0 T k) 0 .bad mid true :: soloOut t0 T mid k) ∧
    Msg.step (soloState se t0 T mid k) (.rxBad 0 mid) =
      soloDone se (sched t0 T k) (sched t0 T k) (.nack (sched t0 T k) 0 .bad mid true :: soloOut t0 T mid k) := by
  have h1 : rxBad (soloState se t0 T mid k) 0 mid =
      soloDone se (sched t0 T k) (sched t0 T k)
        (.nack (sched t0 T k) 0 .bad mid true :: soloOut t0 T mid k) := by
    simp [rxBad, soloState, soloL, soloNode, removeNode, release, connected, drain, L.getS, L.setS, L.emit,
      soloDone, hest, hdq]
  have h0 : ((soloState se t0 T mid k).getS 0).sockOpen = true := by
    simp [soloState, soloL, L.getS, hopen]
  refine ⟨?_, ?_⟩
  · rw [ack_request_code_is_bad_ack, h1]
    exact afterRx_empty _ rfl
  · simp only [Msg.step, h0, if_true]
    rw [h1]
    exact afterRx_empty _ rfl

open Coap.Msg in
/-- non-vacuity / witness (the driver's replay of `msg 2.0.1.500.4.1 - s:0:c:1:0 t:100 q:0:1:1 t:3000`): CON 1 at 0, an ACK
with code 0.01 for it at 100: one NACK BAD_RESPONSE, queue empty, at 3100 (past the former deadline 2000) nothing is
sent and the wait is 0 -/
example : (Msg.run (Msg.init 0 [{}]) [.submit 0 true 1 0, .setNow 100, .rxBad 0 1, .setNow 3100, .prepare]).out =
      [.wait 3100 0, .nack 100 0 .bad 1 true, .sub (some 1), .tx 0 0 1 0 true] ∧
    rxAckReq (Msg.run (Msg.init 0 [{}]) [.submit 0 true 1 0, .setNow 100]) 0 1 =
      rxBad (Msg.run (Msg.init 0 [{}]) [.submit 0 true 1 0, .setNow 100]) 0 1 ∧
    (rxAckReq (Msg.run (Msg.init 0 [{}]) [.submit 0 true 1 0, .setNow 100]) 0 1).q.nodes = [] := by decide

/-! ## (12) a Confirmable transmitted from inside `coap_io_prepare_io` counts for the wait it returns (seed C06-12)

`coap_io_prepare_io_lkd` of a context with observable resources calls `coap_check_notify_lkd` FIRST; a Confirmable Observe
notification sent there goes through `coap_send_internal` / `coap_wait_ack` like any `coap_send` (`Msg.notifyAll` =
`submit` per notification), then the due loop runs, then the wait is computed (`Msg.prepareNotify`).  The server side of
the exchange (observer list, dirty flags, which notifications are due) is C11's model `Coap.Observe`; `Model/ObserveWait.lean`
adds the returned wait to it and is what the compiled code is compared with (op `obsw`). -/
open Coap.Msg in
/-- (every state, every list of notifications sent from inside the call, any number of
sessions, with or without NSTART room): the wait `coap_io_prepare_io` returns is the one computed AFTER the notifications
were queued: it never exceeds the time to any pending deadline — those of the notifications just transmitted included —,
is exactly the time to the earliest one (mod 2^32), and is the value reported to the caller. -/
theorem notify_wait_le_every_deadline (l : L) (ns : List Notif) :
    let r := prepareCore (notifyAll l ns)
    (prepareNotify l ns).out.head? = some (.wait r.1.now r.2) ∧
    (prepareNotify l ns).q = r.1.q ∧
    (∀ e ∈ abs r.1.q, r.2 ≤ e.deadline - r.1.now) ∧
    (∀ d, Spec.SQ.earliest (abs r.1.q) = some d → r.2 = (d - r.1.now) % 4294967296) := by
  intro r
  have h := wait_le_every_deadline (notifyAll l ns)
  refine ⟨?_, ?_, h.1, h.2.1⟩
  · simp only [prepareNotify, prepare, L.emit, List.head?_cons]; rfl
  · simp only [prepareNotify, prepare, L.emit]; rfl

open Coap.Msg in
/-- non-vacuity / witness: an idle endpoint (empty send queue), one Confirmable notification (PRNG byte 0: T = 2000) sent
from inside `coap_io_prepare_io` at 5000: it is pending for 7000 and the wait reported is 2000 — not 0 ("nothing
pending"), which is what computing the wait BEFORE `coap_check_notify` (seed C06-12) reports: second conjunct. -/
example : (prepareNotify (Msg.init 5000 [{}]) [⟨0, true, 7, 0⟩]).out =
      [.wait 5000 2000, .sub (some 7), .tx 5000 0 7 0 true] ∧
    (abs (prepareNotify (Msg.init 5000 [{}]) [⟨0, true, 7, 0⟩]).q).map (·.deadline) = [7000] ∧
    (notifyAll (prepare (Msg.init 5000 [{}])) [⟨0, true, 7, 0⟩]).out =
      [.sub (some 7), .tx 5000 0 7 0 true, .wait 5000 0] := by decide

open Coap.Observe Coap.ObsWait in
/-- the same clause on C11's SERVER model (`Coap.Observe`: observers, dirty flags,
`checkNotify` inside `io`), which is what the compiled code is compared with on `obsw` lines.  For every state in which the
send queue is in deadline order, nothing in it is due and no unreferenced session is past its idle timeout (`NoExpired` — what
the session loop leaves, `io_noExpired`): the wait in ticks is positive ("something is pending" is never reported as 0), and
neither it nor the `unsigned int` milliseconds returned exceed the time to ANY queued deadline; they are equal below 2^32.
`_partial`: the two queue hypotheses are invariants of `Coap.Observe` runs (section (12'): `obs_queue_sorted_nothing_due`);
`obs_wait_le_every_deadline` is the statement without them.  On the compiled code both are checked on every `obsw` line
(oracle `oracle_obsw` + exact tie of `Q[…]`). -/
theorem obs_wait_le_every_deadline_partial (st : State) (ncli : Nat)
    (hsorted : st.sendq.Pairwise (fun a b => a.due ≤ b.due))
    (hnd : ∀ q ∈ st.sendq, st.now < q.due) (hid : NoExpired st) :
    ∀ q ∈ st.sendq, 0 < tickWait st ncli ∧ tickWait st ncli ≤ q.due - st.now ∧
      waitOf st ncli ≤ q.due - st.now ∧ (tickWait st ncli < 4294967296 → waitOf st ncli = tickWait st ncli) := by
  intro q hq
  have hw : waitOf st ncli = tickWait st ncli % 4294967296 := by
    unfold waitOf
    have : (tickWait st ncli * 1000 + 999) / 1000 = tickWait st ncli := by omega
    rw [this]
  cases hsq : st.sendq with
  | nil => rw [hsq] at hq; cases hq
  | cons h rest =>
    rw [hsq] at hq hsorted hnd
    have hh : st.now < h.due := hnd h (List.mem_cons_self ..)
    have hqw : qWait st = h.due - st.now := by simp [qWait, hsq]
    have hb := idleFold_bounds st hid (List.range ncli) (qWait st) (by omega)
    have hle : h.due ≤ q.due := by
      rcases List.mem_cons.mp hq with he | hm
      · rw [he]; exact Nat.le_refl _
      · exact (List.pairwise_cons.mp hsorted).1 q hm
    have ht : tickWait st ncli ≤ q.due - st.now := by
      unfold tickWait; omega
    refine ⟨hb.1, ht, ?_, ?_⟩
    · rw [hw]; exact Nat.le_trans (Nat.mod_le _ _) ht
    · intro hlt; rw [hw]; exact Nat.mod_eq_of_lt hlt

open Coap.Observe Coap.ObsWait in
/-- `coap_io_prepare_io_lkd` itself (`ioWait` = `checkNotify`, due loop, session
loop, wait) from EVERY state: the value returned is computed from the state the call LEAVES — after the notifications of this
call were queued — and, when that queue is in deadline order with nothing due, it is positive and not beyond any deadline in
it, the notification just transmitted included.  (`_partial` for the same two hypotheses.) -/
theorem obs_io_wait_le_every_deadline_partial (st : State) (ncli : Nat)
    (hsorted : (io st).1.sendq.Pairwise (fun a b => a.due ≤ b.due))
    (hnd : ∀ q ∈ (io st).1.sendq, (io st).1.now < q.due) :
    (ioWait st ncli).2.2 = waitOf (io st).1 ncli ∧
    ∀ q ∈ (io st).1.sendq, 0 < tickWait (io st).1 ncli ∧ waitOf (io st).1 ncli ≤ q.due - (io st).1.now ∧
      (tickWait (io st).1 ncli < 4294967296 → waitOf (io st).1 ncli = tickWait (io st).1 ncli) := by
  refine ⟨?_, ?_⟩
  · rcases h : io st with ⟨st1, o⟩
    simp only [ioWait, h]
  · intro q hq
    have h := obs_wait_le_every_deadline_partial (io st).1 ncli hsorted hnd (io_noExpired st) q hq
    exact ⟨h.1, h.2.2.1, h.2.2.2⟩

open Coap.Observe in
/-- non-vacuity / witness (`obsw st=30 R=c0 C=1 reg:0:0:… chg:0 adv:500`): a NOTIFY_CON resource, one observer, a change,
then the I/O step at 1500 with an EMPTY send queue: the notification goes out from inside the call, is queued for 3500, the
hypotheses hold and the wait returned is 2000 -/
example : let st := (Coap.Observe.run (init [mkRes 0 true false 0] 30000) [.reg 0 0 1 0 true 1, .chg 0, .adv 500]).1
    st.sendq.map (·.due) = [3500] ∧ st.now = 1500 ∧ waitOf st 1 = 2000 ∧
    st.sendq.Pairwise (fun a b => a.due ≤ b.due) ∧ (∀ q ∈ st.sendq, st.now < q.due) := by decide

/-! ### (12') the two queue invariants of `Coap.Observe` runs: the `_partial` theorems without their hypotheses

`Lemmas/ObserveWaitInv.lean`: every function of C11's server model either leaves the send queue alone, removes nodes (ACK, RST,
cancel by token, session loss, give-up), or inserts in deadline order a node armed strictly after `now` (`coap_wait_ack` of a
Confirmable notification: `now + 2000`; `coap_retransmit`: `now + 2000·2^(cnt+1)`); the due loop `retransmitDue` — fuel
`length + 1` only — pops each due node once and never runs dry (`retransmitDue_spec`: the number of due nodes never grows). -/
open Coap.Observe Coap.ObsWait in
/-- (every run of the Observe model — every resource list, idle timeout, event list): the send
queue is in deadline order and nothing in it is due (every event that moves the clock or queues a notification ends with the
I/O step); `obs_queue_sorted_step`: deadline order is kept by every event from EVERY state. -/
theorem obs_queue_sorted_nothing_due (res : List Res) (stTicks : Nat) (evs : List Event) :
    let st := (Coap.Observe.run (init res stTicks) evs).1
    st.sendq.Pairwise (fun a b => a.due ≤ b.due) ∧ ∀ q ∈ st.sendq, st.now < q.due :=
  let h := run_qinv evs _ (qinv_init res stTicks)
  ⟨h.sorted, h.fresh⟩

open Coap.Observe Coap.ObsWait in
theorem obs_queue_sorted_step (st : State) (e : Event) (h : st.sendq.Pairwise (fun a b => a.due ≤ b.due)) :
    (Coap.Observe.step st e).1.sendq.Pairwise (fun a b => a.due ≤ b.due) := by
  rcases step_shape st e with he | ⟨st1, hs, heq⟩
  · exact he.q.sorted h
  · rw [heq]; exact ((io_spec st1).2 (hs h)).sorted

open Coap.Observe Coap.ObsWait in
/-- (every state whose queue is in deadline order, whatever is due, however late the call): after
`coap_io_prepare_io_lkd` the queue is in deadline order and NOTHING in it is due — `retransmitDue`'s fuel `length + 1` is enough
for every due node, the ones `coap_check_notify` queued in this very call included. -/
theorem obs_io_nothing_due (st : State) (h : st.sendq.Pairwise (fun a b => a.due ≤ b.due)) :
    (io st).1.sendq.Pairwise (fun a b => a.due ≤ b.due) ∧ (io st).1.now = st.now ∧
    ∀ q ∈ (io st).1.sendq, (io st).1.now < q.due :=
  ⟨((io_spec st).2 h).sorted, (io_spec st).1.now, ((io_spec st).2 h).fresh⟩

open Coap.Observe Coap.ObsWait in
/-- (every state whose queue is in deadline order — nothing else assumed: whatever
is due, however late the call): `obs_io_wait_le_every_deadline_partial` with its "nothing due" hypothesis discharged and the
"sorted" one moved from the state the call LEAVES to the state it STARTS from. -/
theorem obs_io_wait_le_every_deadline_sorted (st : State) (ncli : Nat)
    (hsorted : st.sendq.Pairwise (fun a b => a.due ≤ b.due)) :
    (ioWait st ncli).2.2 = waitOf (io st).1 ncli ∧
    ∀ q ∈ (io st).1.sendq, 0 < tickWait (io st).1 ncli ∧ waitOf (io st).1 ncli ≤ q.due - (io st).1.now ∧
      (tickWait (io st).1 ncli < 4294967296 → waitOf (io st).1 ncli = tickWait (io st).1 ncli) :=
  let hio := obs_io_nothing_due st hsorted
  obs_io_wait_le_every_deadline_partial st ncli hio.1 hio.2.2

open Coap.Observe in
/-- non-vacuity of `obs_io_wait_le_every_deadline_sorted` / `obs_io_nothing_due` / `obs_queue_sorted_step`: a state whose queue
is in deadline order but LATE — both entries overdue by 1000 ticks: the call retransmits both (fuel 3 for 2 due nodes), leaves
[8500, 8500] and returns 4000 -/
example : let st0 := (Coap.Observe.run (init [mkRes 0 true false 0, mkRes 1 true false 0] 30000)
      [.reg 0 0 1 0 true 1, .reg 1 1 2 0 true 1, .chg 0, .chg 1, .adv 500]).1
    let st : State := { st0 with now := 4500 }
    st.sendq.map (·.due) = [3500, 3500] ∧ st.sendq.Pairwise (fun a b => a.due ≤ b.due) ∧
    (io st).1.sendq.map (·.due) = [8500, 8500] ∧ waitOf (io st).1 2 = 4000 := by decide

open Coap.Observe Coap.ObsWait in
/-- (`obs_io_wait_le_every_deadline_partial` without its two hypotheses): after EVERY run of the Observe model (every resource
list, idle timeout, event list), let any time `ms` pass and call `coap_io_prepare_io_lkd` (this is the event `adv ms`;
`ms = 0`: the event `io`). -/
theorem obs_io_wait_le_every_deadline (res : List Res) (stTicks : Nat) (evs : List Event) (ms ncli : Nat) :
    let st0 := (Coap.Observe.run (init res stTicks) evs).1
    let st : State := { st0 with now := st0.now + ms }
    (Coap.Observe.step st0 (.adv ms)).1 = (io st).1 ∧
    (ioWait st ncli).2.2 = waitOf (io st).1 ncli ∧
    ∀ q ∈ (io st).1.sendq, 0 < tickWait (io st).1 ncli ∧ waitOf (io st).1 ncli ≤ q.due - (io st).1.now ∧
      (tickWait (io st).1 ncli < 4294967296 → waitOf (io st).1 ncli = tickWait (io st).1 ncli) := by
  intro st0 st
  have hs : st.sendq.Pairwise (fun a b => a.due ≤ b.due) := (run_qinv evs _ (qinv_init res stTicks)).sorted
  exact ⟨rfl, obs_io_wait_le_every_deadline_sorted st ncli hs⟩

open Coap.Observe Coap.ObsWait in
/-- (`obs_wait_le_every_deadline_partial` without hypotheses): the state ANY I/O step leaves at the end of ANY run satisfies
all three hypotheses of the partial theorem (deadline order, nothing due, no idle session past its timeout). -/
theorem obs_wait_le_every_deadline (res : List Res) (stTicks : Nat) (evs : List Event) (ms ncli : Nat) :
    let st0 := (Coap.Observe.run (init res stTicks) evs).1
    let st := (io { st0 with now := st0.now + ms }).1
    ∀ q ∈ st.sendq, 0 < tickWait st ncli ∧ tickWait st ncli ≤ q.due - st.now ∧
      waitOf st ncli ≤ q.due - st.now ∧ (tickWait st ncli < 4294967296 → waitOf st ncli = tickWait st ncli) := by
  intro st0 st
  have hs : ({ st0 with now := st0.now + ms } : State).sendq.Pairwise (fun a b => a.due ≤ b.due) :=
    (run_qinv evs _ (qinv_init res stTicks)).sorted
  have hio := obs_io_nothing_due _ hs
  exact obs_wait_le_every_deadline_partial st ncli hio.1 hio.2.2 (io_noExpired _)

open Coap.Observe in
/-- non-vacuity / reading: two NOTIFY_CON resources, two observers; changes; the I/O step at 1500 queues two notifications
(deadline 3500); at 3500 both are due and retransmitted from inside the call (re-armed for 3500 + 4000 = 7500; the notification for
the later change is held back by NSTART): the queue the call leaves is [7500, 7500] (deadline order, nothing due), the wait 4000 -/
example : let evs : List Event := [.reg 0 0 1 0 true 1, .reg 1 1 2 0 true 1, .chg 0, .chg 1, .adv 500, .chg 0]
    let st0 := (Coap.Observe.run (init [mkRes 0 true false 0, mkRes 1 true false 0] 30000) evs).1
    st0.sendq.map (·.due) = [3500, 3500] ∧ st0.now = 1500 ∧
    (io { st0 with now := st0.now + 2000 }).1.sendq.map (·.due) = [7500, 7500] ∧
    waitOf (io { st0 with now := st0.now + 2000 }).1 2 = 4000 := by decide

/-! ## (13) ICMP events (`Model/MsgLayerI.lean`, `Lemmas/MsgLayerI.lean`, `Coap.MsgI`)

An ICMP error read from the socket of a client session (`recv()` → ECONNREFUSED → `coap_session_disconnected_lkd(session,
COAP_NACK_ICMP_ISSUE)`) is REPORTED to the NACK handler and is not an outcome: the message stays queued, keeps its
schedule and later ends with its real outcome. -/

open Coap.Msg Coap.MsgI in
/-- for EVERY state, session and block-layer record, the
COAP_NACK_ICMP_ISSUE path of `coap_session_disconnected_lkd` leaves clock, send queue (nodes, deadlines, retransmission
counters), every session (`con_active`, state, delay queue) exactly as they were; the output list grows by ONE entry, the
report — about the first node of the session in the send queue if there is one (the delay queue is not looked at), else
about the `lg_crcv` record, else with `sent = NULL` and id 0. -/
theorem icmp_report_changes_nothing_but_the_report (l : L) (s : Nat) (lg : Option Nat) :
    (icmpReport l s lg).now = l.now ∧ (icmpReport l s lg).q = l.q ∧ (icmpReport l s lg).sess = l.sess ∧
    ∃ mid known, (icmpReport l s lg).out = Out.nack l.now s .icmp mid known :: l.out ∧
      (∀ n, l.q.nodes.find? (fun n => n.sess = s) = some n → mid = n.mid ∧ known = true) ∧
      (l.q.nodes.find? (fun n => n.sess = s) = none → ∀ m, lg = some m → mid = m ∧ known = true) ∧
      (l.q.nodes.find? (fun n => n.sess = s) = none → lg = none → mid = 0 ∧ known = false) := by
  unfold icmpReport
  cases hf : l.q.nodes.find? (fun n => n.sess = s) with
  | some n => exact ⟨rfl, rfl, rfl, n.mid, true, rfl, by simp, by simp, by simp⟩
  | none =>
    cases lg with
    | some m => exact ⟨rfl, rfl, rfl, m, true, rfl, by simp, by simp, by simp⟩
    | none => exact ⟨rfl, rfl, rfl, 0, false, rfl, by simp, by simp, by simp⟩

open Coap.Msg Coap.MsgI in
/-- the report C08's extended model produces (`Coap.MsgX.icmp`) is this function with no `lg_crcv` record -/
theorem icmp_report_is_x_icmp (l : L) (s : Nat) : icmpReport l s none = Coap.MsgX.icmp l s := by
  unfold icmpReport Coap.MsgX.icmp
  cases l.q.nodes.find? (fun n => n.sess = s) <;> rfl

open Coap.Msg Coap.MsgI in
/-- an ICMP report is not an outcome: the number of outcome NACKs (TOO_MANY_RETRIES / RST about a sent PDU) and of
transmissions of every message is what it was -/
theorem icmp_report_is_not_an_outcome (l : L) (s : Nat) (lg : Option Nat) (s' mid : Nat) :
    Coap.Sim.nackC s' mid (icmpReport l s lg).out = Coap.Sim.nackC s' mid l.out ∧
    Coap.Sim.txC s' mid (icmpReport l s lg).out = Coap.Sim.txC s' mid l.out := by
  have h : (icmpReport l s lg).out.filter keep = l.out.filter keep := congrArg L.out (strip_icmpReport l s lg)
  exact ⟨nackC_congr h s' mid, txC_congr h s' mid⟩

open Coap.Msg Coap.MsgI in
/-- for EVERY state and EVERY event list with ICMP events anywhere (whole base alphabet, hold /
disconnect included): the run ends with the clock, the send queue (deadlines, counters), the sessions (`con_active`,
delay queues) of the base model's run over `projI` — the same events with each ICMP event on an open socket replaced by the
I/O step that ends `coap_io_do_epoll` (on a closed socket: by nothing) — and, ICMP reports and logged waits aside, with the
same output list in the same order. -/
theorem icmp_run_is_base_run (l : L) (evs : List EvI) :
    (runI l evs).now = (run l (projI l evs)).now ∧ (runI l evs).q = (run l (projI l evs)).q ∧
    (runI l evs).sess = (run l (projI l evs)).sess ∧
    (runI l evs).out.filter keep = (run l (projI l evs)).out.filter keep :=
  strip_parts (runI_strip evs l l rfl)

/-- scope of the run theorems with ICMP events: the base events are in the C06 alphabet `RunG` (everything but hold /
disconnect), ICMP events may come at any point on any session -/
def RunGI (l : Msg.L) (evs : List Coap.MsgI.EvI) : Prop := Coap.Sched.RunG l (Coap.MsgI.projI l evs)
/-- punctuality (no I/O step / submission / arrival after the clock was moved past a pending deadline), the I/O step of
an ICMP event counted as one -/
def PunctualI (l : Msg.L) (evs : List Coap.MsgI.EvI) : Prop := Coap.Sim.Punctual l (Coap.MsgI.projI l evs)

instance (l : Msg.L) (evs : List Coap.MsgI.EvI) : Decidable (RunGI l evs) := by unfold RunGI; infer_instance
instance (l : Msg.L) (evs : List Coap.MsgI.EvI) : Decidable (PunctualI l evs) := by unfold PunctualI; infer_instance

open Coap.Msg Coap.MsgI Coap.Sim Coap.Sched in
/-- (`m_schedule_all` for the alphabet with ICMP events): ICMP reports about the message, however many and whenever, neither
shift nor cost nor add a retransmission. -/
theorem retransmit_schedule_icmp (now0 : Nat) (sess : List Sess) (evs : List EvI)
    (hs : ∀ se ∈ sess, SessOk se) (hin : RunGI (init now0 sess) evs) (hpu : PunctualI (init now0 sess) evs) :
    ∀ t s mid k, Out.tx t s mid k true ∈ (runI (init now0 sess) evs).out →
      ∃ t0 r, EvI.base (.submit s true mid r) ∈ evs ∧
        Out.tx t0 s mid 0 true ∈ (runI (init now0 sess) evs).out ∧
        t = sched t0 (calcTimeout (parOf sess s).atI (parOf sess s).atF (parOf sess s).arfI (parOf sess s).arfF r) k ∧
        k ≤ (parOf sess s).maxRtx := by
  intro t s mid k hmem
  have he := (icmp_run_is_base_run (init now0 sess) evs).2.2.2
  obtain ⟨t0, r, hsub, h0, ht, hk⟩ := m_schedule_all now0 sess _ hs hin hpu t s mid k
    ((mem_keep_iff he _ rfl).1 hmem)
  exact ⟨t0, r, projI_mem_base _ _ _ (by intro h; cases h) hsub, (mem_keep_iff he _ rfl).2 h0, ht, hk⟩

open Coap.Msg Coap.MsgI Coap.Sim Coap.Sched in
/-- with ICMP events too, TOO_MANY_RETRIES for (s, mid) is only reported after
all `MAX_RETRANSMIT + 1` transmissions were made at their slots, and exactly one slot later. -/
theorem giveup_after_all_retransmissions_icmp (now0 : Nat) (sess : List Sess) (evs : List EvI)
    (hs : ∀ se ∈ sess, SessOk se) (hin : RunGI (init now0 sess) evs) (hpu : PunctualI (init now0 sess) evs) :
    ∀ t s mid, Out.nack t s .retries mid true ∈ (runI (init now0 sess) evs).out →
      ∃ t0 r, EvI.base (.submit s true mid r) ∈ evs ∧
        (∀ j, j ≤ (parOf sess s).maxRtx →
          Out.tx (sched t0 (calcTimeout (parOf sess s).atI (parOf sess s).atF (parOf sess s).arfI
            (parOf sess s).arfF r) j) s mid j true ∈ (runI (init now0 sess) evs).out) ∧
        t = sched t0 (calcTimeout (parOf sess s).atI (parOf sess s).atF (parOf sess s).arfI (parOf sess s).arfF r)
          ((parOf sess s).maxRtx + 1) := by
  intro t s mid hmem
  have he := (icmp_run_is_base_run (init now0 sess) evs).2.2.2
  obtain ⟨t0, r, hsub, hall, ht⟩ := m_giveup_after_all_retransmissions now0 sess _ hs hin hpu t s mid
    ((mem_keep_iff he _ rfl).1 hmem)
  exact ⟨t0, r, projI_mem_base _ _ _ (by intro h; cases h) hsub, fun j hj => (mem_keep_iff he _ rfl).2 (hall j hj), ht⟩

open Coap.Msg Coap.MsgI Coap.Sim Coap.Sched in
/-- (`m_single_outcome` for the alphabet with ICMP events; only TERMINAL reasons are counted — `nackC` counts
TOO_MANY_RETRIES / RST about a sent PDU, an ICMP_ISSUE report is none): a message reported by any number of ICMP errors is
still exactly one of: pending, waiting for NSTART, concluded ONCE. -/
theorem single_outcome_icmp (now0 : Nat) (sess : List Sess) (evs : List EvI)
    (hs : ∀ se ∈ sess, SessOk se) (hin : RunGI (init now0 sess) evs) (s mid : Nat) :
    let l := runI (init now0 sess) evs
    accC s mid (init now0 sess) (projI (init now0 sess) evs) =
      nackC s mid l.out + remC s mid (init now0 sess) (projI (init now0 sess) evs) + pendC s mid l.q.nodes +
        midC mid (l.getS s).delayq := by
  intro l
  obtain ⟨_, hq, hse, ho⟩ := icmp_run_is_base_run (init now0 sess) evs
  have h := m_single_outcome now0 sess _ hs hin s mid
  simp only [l, L.getS, hq, hse, nackC_congr ho s mid]
  simpa only [L.getS] using h

open Coap.Msg Coap.MsgI Coap.Sim Coap.Sched in
/-- with ICMP events too, transmissions of (s, mid) + remaining budget of its queued /
delayed nodes ≤ `(MAX_RETRANSMIT + 1)` · accepted sends. -/
theorem at_most_max_retransmissions_icmp (now0 : Nat) (sess : List Sess) (evs : List EvI)
    (hs : ∀ se ∈ sess, SessOk se) (hin : RunGI (init now0 sess) evs) (s mid : Nat) :
    let l := runI (init now0 sess) evs
    txC s mid l.out + budC s mid (parOf sess s).maxRtx l.q.nodes +
        ((parOf sess s).maxRtx + 1) * midC mid (l.getS s).delayq ≤
      ((parOf sess s).maxRtx + 1) * accC s mid (init now0 sess) (projI (init now0 sess) evs) := by
  intro l
  obtain ⟨_, hq, hse, ho⟩ := icmp_run_is_base_run (init now0 sess) evs
  have h := m_at_most_max_retransmissions now0 sess _ hs hin s mid
  simp only [l, L.getS, hq, hse, txC_congr ho s mid]
  simpa only [L.getS] using h

open Coap.Msg Coap.MsgI Coap.Sim Coap.Sched in
/-- (S's `retransmit_schedule` / `single_outcome` reach runs with ICMP events through the simulation of (6')): the relation of
`m_refines_timer` between the run with ICMP events and the S run over the translation of its projection — an ICMP report is
invisible to S. -/
theorem refines_timer_icmp (now0 : Nat) (sess : List Sess) (evs : List EvI)
    (hs : ∀ se ∈ sess, SessOk se) (hin : RunGI (init now0 sess) evs) :
    let l := runI (init now0 sess) evs
    let ts := Timer.run (Timer.init now0) (SimF.trRun (init now0 sess) (projI (init now0 sess) evs))
    ts.now ≤ l.now ∧
    ts.pend.map er = absP (fun s => (parOf sess s).maxRtx) l.q.base l.q.nodes ∧
    SimF.txsS ts.outs = SimF.txsM l.out ∧ SimF.nksS ts.outs = SimF.nksM l.out := by
  intro l ts
  obtain ⟨hn, hq, _, ho⟩ := icmp_run_is_base_run (init now0 sess) evs
  have h := m_refines_timer now0 sess _ hs hin
  simp only [l, ts, hn, hq, txsM_congr ho, nksM_congr ho]
  exact h

open Coap.Msg Coap.MsgI in
/-- (C08 (1)/(2) for the alphabet with ICMP events, whole base alphabet incl. hold /
disconnect): after every event list `con_active` of every session is exactly the number of its nodes in the send queue,
and at most NSTART — an ICMP report neither frees nor takes a slot. -/
theorem con_active_eq_inflight_icmp (ss : List Sess) (t0 : Nat) (evs : List EvI) (s : Nat)
    (hss : ∀ se ∈ ss, se.conActive = 0 ∧ se.delayq = [] ∧ se.nstart ≤ 255) (hs : s < ss.length) :
    ((runI (init t0 ss) evs).getS s).conActive = inflight (runI (init t0 ss) evs) s ∧
    inflight (runI (init t0 ss) evs) s ≤ ((runI (init t0 ss) evs).getS s).nstart := by
  have h := wf_runI evs _ (wf_init t0 ss hss)
  have h2 := h.2 s (by rw [runI_len]; exact hs)
  exact ⟨h2.1, h2.2.1⟩

open Coap.Msg Coap.MsgI in
/-- (C08 (4) for the alphabet with ICMP events): along every run the delay queue of every
session changes only by `DqStep`s (append at the end when held; the head leaves at the moment it is transmitted, once; cleared
with one NACK per held Confirmable by a session failure) — an ICMP event itself never touches it: held messages stay held,
in order. -/
theorem held_fifo_exactly_once_icmp (l : L) (evs : List EvI) (s : Nat) (hs : s < l.sess.length) :
    Star (DqStep s) l (runI l evs) ∧
    ∀ s' lg, ((icmpReport l s' lg).getS s).delayq = (l.getS s).delayq := by
  refine ⟨runI_star evs l s hs, fun s' lg => ?_⟩
  rw [icmpReport_eq]; rfl

/-- witness run with ICMP events: message 1 (T = 2000, MAX_RETRANSMIT 1), message 2 held by NSTART; ICMP errors while 1 is
queued (at 500, and at 2000 where the I/O step of the event itself retransmits it), the give-up at 6000 lets 2 in; an ICMP
error about 2; ACK for 2; an ICMP error with nothing queued -/
def ievs : List Coap.MsgI.EvI :=
  [.base (.submit 0 true 1 0), .base (.submit 0 true 2 0), .base (.setNow 500), .icmp 0, .base (.setNow 2000), .icmp 0,
   .base (.setNow 6000), .base .prepare, .icmp 0, .base (.rxAck 0 2), .icmp 0]

open Coap.Msg Coap.MsgI Coap.Sim Coap.Sched in
/-- non-vacuity of section (13): `ievs` is in scope and punctual; the reports name message 1 twice, then 2, then nothing
(`sent = NULL`); message 1 is transmitted at 0 and 2000 and given up at 6000 — its schedule — and message 2 is let in then;
one accepted send = one outcome NACK for message 1, one silent completion for message 2 -/
example : (∀ se ∈ [({ maxRtx := 1 } : Sess)], SessOk se) ∧ RunGI (init 0 [{ maxRtx := 1 }]) ievs ∧
    PunctualI (init 0 [{ maxRtx := 1 }]) ievs ∧
    (runI (init 0 [{ maxRtx := 1 }]) ievs).out.filter (fun o => match o with | .tx .. => true | .nack .. => true | _ => false) =
      [.nack 6000 0 .icmp 0 false, .nack 6000 0 .icmp 2 true, .nack 6000 0 .retries 1 true, .tx 6000 0 2 0 true,
       .tx 2000 0 1 1 true, .nack 2000 0 .icmp 1 true, .nack 500 0 .icmp 1 true, .tx 0 0 1 0 true] ∧
    accC 0 1 (init 0 [{ maxRtx := 1 }]) (projI (init 0 [{ maxRtx := 1 }]) ievs) = 1 ∧
    nackC 0 1 (runI (init 0 [{ maxRtx := 1 }]) ievs).out = 1 ∧
    remC 0 2 (init 0 [{ maxRtx := 1 }]) (projI (init 0 [{ maxRtx := 1 }]) ievs) = 1 ∧
    (icmpReport (init 0 [{}]) 0 (some 7)).out = [.nack 0 0 .icmp 7 true] := by decide

end Coap.C06
