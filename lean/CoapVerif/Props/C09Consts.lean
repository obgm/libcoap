import CoapVerif.Model.Block
import CoapVerif.Model.BlockTok
import CoapVerif.Generated.BlockConst
import CoapVerif.Generated.Consts2
/-
C09 / T1 — the numerals of the block-wise models are those of the current tree: the NUM bound of
`coap_get_block_b` (a literal in src/coap_block.c: source scan), STATE_MAX_BLK_CNT_BITS and the STATE_TOKEN_* macros as
compiled (evaluated on all-ones), COAP_MAX_BLOCK_SZX, the block option numbers and COAP_RBLOCK_CNT.
-/
namespace Coap.C09
open Coap Coap.Generated

/-- `if (num > 0xFFFFF)` in coap_get_block_b: the model's bound, and it is the 20-bit NUM of RFC 7959 -/
theorem blockNumMax_matches_code : (0xFFFFF : Nat) = C2.blockNumMax ∧ C2.blockNumMax + 1 = 2 ^ 20 := by decide

/-- `getBlockB` refuses exactly above the compiled NUM bound and at the SZX value behind COAP_MAX_BLOCK_SZX (BERT),
for every option value -/
theorem getBlockB_matches_code (val : Bytes) :
    Block.getBlockB val =
      (let m := if val.length = 0 then 0 else (Block.endByte val / 8) % 2
       let szx := if val.length = 0 then 0 else Block.endByte val % 8
       if szx = C2.COAP_MAX_BLOCK_SZX + 1 then none
       else if Block.optBlockNum val > C2.blockNumMax then none
       else some { num := Block.optBlockNum val, m := m, szx := szx, aszx := szx, chunk := 2 ^ (szx + 4) }) := by
  have h1 : C2.COAP_MAX_BLOCK_SZX + 1 = 7 := by decide
  have h2 : C2.blockNumMax = 0xFFFFF := by decide
  rw [h1, h2]; rfl

/-- `STATE_TOKEN_BASE(t)` is `t & (0xffffffffffffffff >> STATE_MAX_BLK_CNT_BITS)`: the model's `% 2^44` is that mask
(the macro evaluated on all-ones by the compiler), for every token value -/
theorem stateTokenBase_matches_code (t : Nat) : Block.stateTokenBase t = t &&& C2.stateTokenBaseMask := by
  have h : C2.stateTokenBaseMask = 2 ^ 44 - 1 := by decide
  rw [h, Nat.and_two_pow_sub_one_eq_mod]; rfl

/-- the retry counter sits in the top STATE_MAX_BLK_CNT_BITS bits of the 64-bit state token -/
theorem stateTokenShift_matches_code :
    (44 : Nat) = 64 - C2.STATE_MAX_BLK_CNT_BITS ∧ C2.stateTokenRetryOfMax = 2 ^ C2.STATE_MAX_BLK_CNT_BITS - 1 ∧
    C2.stateTokenBaseMask + 1 = 2 ^ (64 - C2.STATE_MAX_BLK_CNT_BITS) := by decide

/-- the two extractors agree on what they both read (COAP_RBLOCK_CNT, option numbers) -/
theorem blockConst_matches_code :
    Generated.rblockCnt = C2.COAP_RBLOCK_CNT ∧ Generated.optBlock1 = C2.COAP_OPTION_BLOCK1 ∧
    Generated.optBlock2 = C2.COAP_OPTION_BLOCK2 ∧ Generated.optSize1 = C2.COAP_OPTION_SIZE1 ∧
    Generated.optSize2 = C2.COAP_OPTION_SIZE2 ∧ Generated.optRtag = C2.COAP_OPTION_RTAG ∧
    Generated.optEtag = C2.COAP_OPTION_ETAG ∧ Generated.optEcho = C2.COAP_OPTION_ECHO := by decide

/-- COAP_BLOCK_MAX_SIZE_GET extracts a 3-bit SZX (the `maxBlk` parameters of the models range over 0..7) -/
theorem blockMaxSize_matches_code :
    C2.blockMaxSizeGetOfAll = 7 ∧ C2.COAP_BLOCK_MAX_SIZE_MASK = 7 * 2 ^ C2.COAP_BLOCK_MAX_SIZE_SHIFT := by decide

example : Block.stateTokenBase (2 ^ 44 + 5) = 5 := by decide

end Coap.C09
