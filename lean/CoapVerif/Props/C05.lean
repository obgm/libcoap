import CoapVerif.Lemmas.StreamFeed
import CoapVerif.Lemmas.StreamWsClose
/-
C05 — stream transports deliver the same messages however the byte stream is cut.

  S = Coap.Spec.Stream.framesOf   (RFC 8323 §3.2 framing + RFC 8974 + Spec.decode per frame; Spec/Stream.lean)
  M = Coap.M.Stream.feed          (the TCP/TLS branch of coap_read_session, one `call` per chunk; Model/StreamReader.lean)

`m` is coap_session_max_pdu_rcv_size(session); `Cap m` : 0 < m ∧ m + 6 ≤ COAP_DEFAULT_MAX_PDU_RX_SIZE.
`conv` maps S's result to M's: the messages, and `open leftover ↦ cont (stateOf leftover)`, `closed ↦ closed`,
where `stateOf` is the reader state determined by the pending bytes (Lemmas/StreamFeed.lean).
-/
namespace Coap.C05
open Coap Coap.M.Stream Coap.Spec.Stream

/-- (P1) M = S for every segmentation: whatever way the stream is handed to the reader — any number of
chunks of any sizes, including empty ones and reads that fill the 1472-byte buffer exactly — the messages
that reach coap_dispatch, their order, whether the session is closed, and the reader's final state are
those the specification computes from the concatenated bytes alone. -/
theorem reader_eq_spec (m : Nat) (hc : Cap m) (chunks : List Bytes) :
    feed m St.init chunks = conv (framesOf m chunks.flatten) := by
  have := feed_eq_frames m hc chunks [] trivial
  simpa [stateOf, St.init] using this

/-- (the property) two segmentations of the same byte stream deliver the same messages in the same order
and end in the same state -/
theorem reader_segmentation_invariant (m : Nat) (hc : Cap m) (chunks₁ chunks₂ : List Bytes)
    (h : chunks₁.flatten = chunks₂.flatten) :
    feed m St.init chunks₁ = feed m St.init chunks₂ := by
  rw [reader_eq_spec m hc, reader_eq_spec m hc, h]

theorem segment_flatten : ∀ (cuts : List Nat) (stream : Bytes), (segment stream cuts).flatten = stream := by
  intro cuts
  induction cuts with
  | nil => intro s; simp [segment]
  | cons n ns ih => intro s; simp [segment, ih, List.take_append_drop]

/-- the same, stated over cut placements: for all streams and all ways `cuts₁`, `cuts₂` of cutting them -/
theorem reader_cut_invariant (m : Nat) (hc : Cap m) (stream : Bytes) (cuts₁ cuts₂ : List Nat) :
    feed m St.init (segment stream cuts₁) = feed m St.init (segment stream cuts₂) :=
  reader_segmentation_invariant m hc _ _ (by rw [segment_flatten, segment_flatten])

/-- a header whose declared length exceeds the configured maximum closes the session, under every
segmentation, as soon as the header is complete: the messages before it are delivered, nothing of the
oversize frame or after it is, and no reader state (no partial PDU, no buffered byte) survives -/
theorem oversize_closes (m : Nat) (hc : Cap m) (pre hdr rest : Bytes) (b0 : UInt8) (r : Bytes) (ms : List Msg)
    (hpre : framesOf m pre = (ms, .open [])) (hb : hdr = b0 :: r) (hl : hdr.length = hdrLen b0)
    (hbig : m < declared hdr) (chunks : List Bytes) (hs : chunks.flatten = pre ++ (hdr ++ rest)) :
    feed m St.init chunks = (ms, .closed) := by
  rw [reader_eq_spec m hc, hs, framesOf_append, hpre]
  simp only [after, List.nil_append]
  have ht : TooBig m hdr := ⟨b0, r, hb, Nat.le_of_eq hl.symm, by rw [List.take_of_length_le (Nat.le_of_eq hl)]; exact hbig⟩
  rw [framesOf, frames_closed m _ hdr rest ht]
  simp [conv, outOf]

/-- no message is stuck: when the session is still open after the last chunk, what the reader holds is a
proper prefix `l` of one frame (`Pend`: header incomplete, or fewer bytes than the header declares), and
everything the specification finds in the bytes received has been delivered -/
theorem no_message_stuck (m : Nat) (hc : Cap m) (chunks : List Bytes) (st : St)
    (h : (feed m St.init chunks).2 = .cont st) :
    ∃ l, st = stateOf l ∧ Pend m l ∧ framesOf m chunks.flatten = ((feed m St.init chunks).1, .open l) := by
  rw [reader_eq_spec m hc] at h ⊢
  cases hrr : framesOf m chunks.flatten with | mk ms e =>
  rw [hrr] at h
  cases e with
  | closed => simp [conv, outOf] at h
  | «open» l =>
    simp only [conv, outOf, Out.cont.injEq] at h
    exact ⟨l, h.symm, framesOf_leftover_pend hrr, rfl⟩

/-- (P2) the specification delivers every complete frame: a stream that starts with a whole frame whose
declared length is within the limit yields that frame's message (if it decodes) followed by the messages
of the rest — so, with `no_message_stuck`, every message completely contained in the bytes received has
been handed on -/
theorem spec_delivers_complete_frame (m : Nat) (frame rest : Bytes) (b0 : UInt8) (r : Bytes) (hb : frame = b0 :: r)
    (hl : hdrLen b0 ≤ frame.length) (hd : declared (frame.take (hdrLen b0)) ≤ m)
    (ht : frame.length = fixedLen b0 + declared (frame.take (hdrLen b0))) :
    framesOf m (frame ++ rest) =
      (deliver (Spec.decode .tcp frame) (framesOf m rest).1, (framesOf m rest).2) := by
  have hfr : OneFrame m frame := ⟨b0, r, hb, hl, hd, ht⟩
  have := hfr.two_le
  rw [framesOf, frames_frame m _ frame rest hfr,
    frames_fuel m _ (rest.length + 1) rest (by rw [List.length_append]; omega) (Nat.lt_succ_self _)]
  rfl

/-- the reader never indexes `read_header` at or beyond 8 and never reads a byte it has not written -/
theorem reader_no_oob (m : Nat) (hc : Cap m) (chunks : List Bytes) : (feed m St.init chunks).2 ≠ .oob := by
  rw [reader_eq_spec m hc]
  generalize framesOf m chunks.flatten = rr
  obtain ⟨ms, e⟩ := rr
  cases e <;> simp [conv, outOf]

/-- the default configuration satisfies the hypothesis: csm_max_message_size = COAP_DEFAULT_MAX_PDU_RX_SIZE -/
example : Cap (maxPduSizeInternal maxRx) := by unfold Cap; decide
example : Cap (maxPduSizeInternal 64) := by unfold Cap; decide
example : Cap (maxPduSizeInternal 1152) := by unfold Cap; decide

/-- two GETs, the second with Uri-Path "a", cut as 1,1,1,rest (the former defect), one byte per read, whole -/
example : feed 100 St.init [[0x20], [0x01], [0xb0], [0x00, 0x20, 0x01, 0xb1, 0x61]] =
    ([⟨0, 1, 0, [], [(11, []), (11, [])], []⟩, ⟨0, 1, 0, [], [(11, [0x61])], []⟩], .cont St.init) := by decide
example : framesOf 100 [0x20, 0x01, 0xb0, 0x00, 0x20, 0x01, 0xb1, 0x61] =
    ([⟨0, 1, 0, [], [(11, []), (11, [])], []⟩, ⟨0, 1, 0, [], [(11, [0x61])], []⟩], .open []) := by decide
/-- extended length + extended token header (hdrLen = 4): cut inside every header field -/
example : (feed 100 St.init [[0xdd], [0x00], [0x01], [0x00], [1,2,3,4,5,6,7,8,9,10,11,12,13, 0xff, 1,2,3,4,5,6,7,8,9,10,11,12]]).1 =
    [⟨0, 1, 0, [1,2,3,4,5,6,7,8,9,10,11,12,13], [], [1,2,3,4,5,6,7,8,9,10,11,12]⟩] := by decide
/-- oversize: Len form 4 declares 65805 + 2^24 bytes > max -/
example : feed 8388858 St.init [[0xf0, 0x01], [0x00], [0x00, 0x00, 0x01]] = ([], .closed) := by decide
/-- an undecodable frame (reserved TKL 15) is dropped, the stream goes on -/
example : (feed 100 St.init [[0x0f, 0x01, 0x00], [0x01]]).1 = [⟨0, 1, 0, [], [], []⟩] := by decide

/-! ## WebSocket sessions

  S_ws = Coap.Spec.Stream.Ws.run      (handshake lines + RFC 6455 frames; Spec/StreamWs.lean)
  M_ws = Coap.M.Ws.feed               (coap_ws_rd_http_header, coap_ws_read, WS branch of coap_read_session, all as fixed;
                                       Model/WsReader.lean)

Four parts.  What closes a session: the one-step closing lemma of M_ws in any state and the closing clauses of S_ws.
M_ws = S_ws for every chunk list of every byte stream: from a new session, HTTP upgrade included (`ws_reader_eq_spec`,
`ws_reader_segmentation_invariant`, `ws_reader_cut_invariant`, `ws_no_message_stuck`, `ws_reader_no_oob`,
`ws_reader_final_state`), and from every reader state of the invariant `WsInv` whose handshake is done, in particular
the state right after the handshake (`ws_frames_eq_spec`, `ws_frames_segmentation_invariant`, `ws_frames_cut_invariant`,
`ws_frames_no_message_stuck`, `ws_frames_no_oob`).  `coap_ws_close`'s drain.  `coap_ws_read` with any caller buffer from
any state, and the reader closing the session by itself.

There is no hypothesis on the bytes: NUL bytes inside the header block are part of S (SPEC DECISION D20: a line with a
NUL in front of its LF has no end; libcoap's strchr sees it the same way, `lfIdx_eq`), and a header line that starts
with its separator — which libcoap used to take for the end of the header block (`ws c <101 response> " x\r\n" <frame>`
delivered the frame's message from a connection whose header block had not ended) — is refused by the fixed code, from
which the model is transcribed (`ws_blank_led_line_refused`).
The method of the correspondence proof is described at the head of Lemmas/StreamWs{Defs,Hs,Frames,Feed}.lean. -/
section Ws
open Coap.M.Ws Coap.Spec.Stream.Ws

/-- M_ws, any state before the handshake is complete: with 159 bytes of a line buffered and no line end, the
next call closes the session; it reads nothing more -/
theorem ws_long_line_closes (mode : Mode) (accept : Bytes) (fuel : Nat) (st : Coap.M.Ws.St) (av : Bytes)
    (hup : st.up = false) (hlen : httpCap - 1 ≤ st.httpHdr.length) :
    readSession mode accept (fuel + 1) st av = ([], .closed, av) := by
  have e : rdHttpHeader mode accept (av.length + 2) st av = R.rej := by
    rw [rdHttpHeader_round mode accept _ st av _ hup rfl, if_pos hlen]
  simp [readSession, wsRead, hup, e]

/-- S_ws: a handshake line longer than the limit closes the session, whether its end never comes … -/
theorem ws_spec_long_line_closes {σ} (V : Validator σ) (mode : Mode) (bs : Bytes) (hlf : lfIndex bs = none)
    (hlen : maxLine < bs.length) : run V mode bs = ⟨[], false, true⟩ := by
  simp [run, handshake, hlf, hlen]

/-- … or comes too late -/
theorem ws_spec_late_line_end_closes {σ} (V : Validator σ) (mode : Mode) (bs : Bytes) (i : Nat)
    (hlf : lfIndex bs = some i) (hlen : maxLine < i) : run V mode bs = ⟨[], false, true⟩ := by
  simp [run, handshake, hlf, hlen]

/-- S_ws: a frame declaring more than the 1472-byte buffer closes the session; nothing of it is delivered -/
theorem ws_spec_oversize_frame_closes (mode : Mode) (fuel : Nat) (b0 b1 : UInt8) (r : Bytes)
    (hmask : ¬ (mode = .server ∧ ¬ b1.toNat / 128 = 1))
    (hhdr : ¬ r.length < (if b1.toNat % 128 = 127 then 8 else if b1.toNat % 128 = 126 then 2 else 0) +
        (if b1.toNat / 128 = 1 then 4 else 0))
    (hop : b0.toNat % 16 = 2)
    (hbig : maxFrame < (if (if b1.toNat % 128 = 127 then 8 else if b1.toNat % 128 = 126 then 2 else 0) = 0
        then b1.toNat % 128 else be (r.take (if b1.toNat % 128 = 127 then 8 else if b1.toNat % 128 = 126 then 2 else 0)))) :
    Coap.Spec.Stream.Ws.frames mode (fuel + 1) (b0 :: b1 :: r) = ([], true) := by
  simp only [Coap.Spec.Stream.Ws.frames]
  rw [if_neg hmask, if_neg hhdr, if_neg (by omega : ¬ (b0.toNat % 16 ≠ 2)), if_pos hbig]

/-- non-vacuity: 16-bit length 1473, unmasked, as client -/
example : Coap.Spec.Stream.Ws.frames .client 5 [0x82, 0x7e, 0x05, 0xc1, 0, 1] = ([], true) := by decide
/-- three tiny frames in one read (the former "left in the header buffer" defect), then one byte per read -/
example : (Coap.M.Ws.feed .client [] { up := true } [[0x82, 2, 0, 1, 0x82, 2, 0, 2, 0x82, 2, 0, 3]]).1 =
    [⟨0, 1, 0, [], [], []⟩, ⟨0, 2, 0, [], [], []⟩, ⟨0, 3, 0, [], [], []⟩] := by decide
example : (Coap.M.Ws.feed .client [] { up := true } [[0x82], [3], [1], [1], [0xaa]]).1 = [⟨0, 1, 0, [0xaa], [], []⟩] := by
  decide
/-- masked frame to the server side, payload cut in two (the former "payload in the caller's stack" defect) -/
example : (Coap.M.Ws.feed .server [] { up := true } [[0x82, 0x83, 1, 2, 3, 4, 0], [3, 0xa9]]).1 =
    [⟨0, 1, 0, [0xaa], [], []⟩] := by decide


/-- the reader state of a new session satisfies the invariant: handshake phase, nothing consumed -/
theorem ws_init_inv (mode : Mode) : WsInv mode {} (.hs {} []) :=
  ⟨⟨rfl, rfl, (by decide), rfl, rfl, rfl⟩, rfl, rfl⟩

/-- the reader state right after the handshake (nothing carried over) satisfies the invariant -/
theorem ws_up_inv (mode : Mode) : WsInv mode { up := true } (.fr []) := Or.inl ⟨⟨rfl, rfl, rfl, rfl⟩, trivial⟩

/-- (P1, frame phase) from every reader state `st` whose handshake is done and that satisfies the
invariant with pending bytes `p` (header bytes in `rd_header`, or complete header ++ the payload bytes in
`rx_data`): whatever way the following bytes are handed to the reader, the messages that reach coap_dispatch,
their order and whether the session is closed are what RFC 6455 framing (S) yields on `p ++` the concatenated
bytes; the reader never leaves its buffers (`oob`) and never stalls with bytes available (`stuck`). -/
theorem ws_frames_eq_spec (mode : Mode) (accept : Bytes) (st : Coap.M.Ws.St) (p : Bytes) (hinv : WsInv mode st (.fr p))
    (chunks : List Bytes) :
    wsObs (Coap.M.Ws.feed mode accept st chunks) =
      specObs ⟨(frames mode ((p ++ chunks.flatten).length + 1) (p ++ chunks.flatten)).1, true,
               (frames mode ((p ++ chunks.flatten).length + 1) (p ++ chunks.flatten)).2⟩ :=
  wsObs_of_rem mode accept _ _ (feed_spec mode accept chunks st (.fr p) hinv)

/-- (the property, frame phase) two segmentations of the same bytes: same messages, same order, same end -/
theorem ws_frames_segmentation_invariant (mode : Mode) (accept : Bytes) (st : Coap.M.Ws.St) (p : Bytes)
    (hinv : WsInv mode st (.fr p)) (chunks₁ chunks₂ : List Bytes) (h : chunks₁.flatten = chunks₂.flatten) :
    wsObs (Coap.M.Ws.feed mode accept st chunks₁) = wsObs (Coap.M.Ws.feed mode accept st chunks₂) := by
  rw [ws_frames_eq_spec mode accept st p hinv, ws_frames_eq_spec mode accept st p hinv, h]

/-- the same over cut placements, from the state right after the handshake -/
theorem ws_frames_cut_invariant (mode : Mode) (accept : Bytes) (stream : Bytes) (cuts₁ cuts₂ : List Nat) :
    wsObs (Coap.M.Ws.feed mode accept { up := true } (segment stream cuts₁)) =
      wsObs (Coap.M.Ws.feed mode accept { up := true } (segment stream cuts₂)) :=
  ws_frames_segmentation_invariant mode accept _ [] (ws_up_inv mode) _ _ (by rw [segment_flatten, segment_flatten])

/-- no message is stuck (frame phase): when the session is open after the last chunk, the reader is not stalled,
its state satisfies the invariant for some pending bytes `p'` in which S finds no message (a proper prefix of one
frame), and everything S finds in the bytes received has been delivered -/
theorem ws_frames_no_message_stuck (mode : Mode) (accept : Bytes) (st : Coap.M.Ws.St) (p : Bytes)
    (hinv : WsInv mode st (.fr p)) (chunks : List Bytes) (st' : Coap.M.Ws.St)
    (h : (Coap.M.Ws.feed mode accept st chunks).2.1 = .open st') :
    (Coap.M.Ws.feed mode accept st chunks).2.2 = false ∧
    (∃ p', WsInv mode st' (.fr p') ∧ frames mode (p'.length + 1) p' = ([], false)) ∧
    frames mode ((p ++ chunks.flatten).length + 1) (p ++ chunks.flatten) = ((Coap.M.Ws.feed mode accept st chunks).1, false) := by
  obtain ⟨hst, a', hi, hR⟩ := feed_open hinv h
  have hup : st'.up = true := by
    have := congrArg Res.up hR
    simp only [specFrom, frRes] at this
    exact this.symm
  refine ⟨hst, ?_, ?_⟩
  · cases a' with
    | hs s l => have := hi.1.1; rw [hup] at this; cases this
    | fr p' => exact ⟨p', hi, frOf_pend mode st' p' hi⟩
  · have h1 := congrArg Res.msgs hR
    have h2 := congrArg Res.closed hR
    simp only [specFrom, frRes] at h1 h2
    exact Prod.ext h1 h2

/-- the reader never indexes `rd_header` at or beyond 14 and never reads a byte it has not written (frame phase) -/
theorem ws_frames_no_oob (mode : Mode) (accept : Bytes) (st : Coap.M.Ws.St) (p : Bytes) (hinv : WsInv mode st (.fr p))
    (chunks : List Bytes) : (wsObs (Coap.M.Ws.feed mode accept st chunks)).2 ≠ .oob ∧
      (wsObs (Coap.M.Ws.feed mode accept st chunks)).2 ≠ .stuck := by
  rw [ws_frames_eq_spec mode accept st p hinv]
  simp only [specObs]
  constructor <;> split <;> simp

/-- (P1, whole connection) for EVERY byte stream and EVERY way of handing it to the reader — any
number of chunks of any sizes, cuts inside handshake lines, between CR and LF, inside frame headers, mask keys and
payloads; NUL bytes, binary bytes and blank-led lines inside the header block included — the messages that reach
coap_dispatch, their order, whether the WebSocket session came up and whether it is closed are what S_ws computes
from the concatenated bytes alone. -/
theorem ws_reader_eq_spec (mode : Mode) (accept : Bytes) (chunks : List Bytes) :
    wsObs (Coap.M.Ws.feed mode accept {} chunks) = specObs (run (validator mode accept) mode chunks.flatten) := by
  rw [← specFrom_init]
  exact wsObs_of_rem mode accept _ _ (feed_spec mode accept chunks {} (.hs {} []) (ws_init_inv mode))

/-- (the property, whole connection) equal concatenation ⇒ equal observation -/
theorem ws_reader_segmentation_invariant (mode : Mode) (accept : Bytes) (chunks₁ chunks₂ : List Bytes)
    (h : chunks₁.flatten = chunks₂.flatten) :
    wsObs (Coap.M.Ws.feed mode accept {} chunks₁) = wsObs (Coap.M.Ws.feed mode accept {} chunks₂) := by
  rw [ws_reader_eq_spec mode accept chunks₁, ws_reader_eq_spec mode accept chunks₂, h]

/-- … over cut placements: for all byte streams and all ways of cutting them -/
theorem ws_reader_cut_invariant (mode : Mode) (accept : Bytes) (stream : Bytes) (cuts₁ cuts₂ : List Nat) :
    wsObs (Coap.M.Ws.feed mode accept {} (segment stream cuts₁)) =
      wsObs (Coap.M.Ws.feed mode accept {} (segment stream cuts₂)) :=
  ws_reader_segmentation_invariant mode accept _ _ (by rw [segment_flatten, segment_flatten])

/-- no message is stuck (whole connection): open after the last chunk ⇒ not stalled, the state satisfies the
invariant for a parser position `a` at which S finds nothing further, and S's result on the bytes received is
exactly the messages delivered -/
theorem ws_no_message_stuck (mode : Mode) (accept : Bytes) (chunks : List Bytes) (st' : Coap.M.Ws.St)
    (h : (Coap.M.Ws.feed mode accept {} chunks).2.1 = .open st') :
    (Coap.M.Ws.feed mode accept {} chunks).2.2 = false ∧
    (∃ a, WsInv mode st' a ∧ specFrom mode accept a [] = ⟨[], st'.up, false⟩) ∧
    run (validator mode accept) mode chunks.flatten = ⟨(Coap.M.Ws.feed mode accept {} chunks).1, st'.up, false⟩ := by
  obtain ⟨hst, a', hi, hR⟩ := feed_open (ws_init_inv mode) h
  exact ⟨hst, ⟨a', hi, specFrom_pend mode accept st' a' hi⟩, by rw [← specFrom_init]; exact hR⟩

/-- for EVERY byte stream and every segmentation the reader stays
inside its buffers — no index ≥ 160 into `http_hdr`, none ≥ 14 into `rd_header`, the bytes carried over after the
empty line fit `rd_header`, no byte read that was not written — and never stalls with bytes available (every
`coap_read_session` call consumes at least one byte or closes) -/
theorem ws_reader_no_oob (mode : Mode) (accept : Bytes) (chunks : List Bytes) :
    (wsObs (Coap.M.Ws.feed mode accept {} chunks)).2 ≠ .oob ∧ (wsObs (Coap.M.Ws.feed mode accept {} chunks)).2 ≠ .stuck := by
  rw [ws_reader_eq_spec]
  simp only [specObs]
  constructor <;> split <;> simp

/-- no message is held back, for EVERY byte stream: when the session is open after the last chunk
the reader is either still in the handshake (line buffer below its capacity, `strchr` finds no LF in it) or at a
frame-parser position `p` of S — a proper prefix of one frame, in which S finds no message -/
theorem ws_reader_final_state (mode : Mode) (accept : Bytes) (chunks : List Bytes) (st' : Coap.M.Ws.St)
    (h : (Coap.M.Ws.feed mode accept {} chunks).2.1 = .open st') :
    (st'.up = false ∧ lfIdx st'.httpHdr = none ∧ st'.httpHdr.length < httpCap) ∨
    ∃ p, WsInv mode st' (.fr p) ∧ wsAbs st' = .fr p ∧ frames mode (p.length + 1) p = ([], false) := by
  obtain ⟨_, a, ha, _⟩ := feed_open (ws_init_inv mode) h
  cases a with
  | hs s l => exact Or.inl ⟨ha.1.1, by rw [lfIdx_eq]; exact ha.1.2.1, by have := ha.1.2.2.1; omega⟩
  | fr p => exact Or.inr ⟨p, ha, wsAbs_of_inv mode st' _ ha, frOf_pend mode st' p ha⟩

/-- a server-side connection: the upgrade request, a masked GET, a frame without data, a second masked GET -/
def wsDemo : Bytes :=
  asc "GET /.well-known/coap HTTP/1.1\r\nHost: x\r\nUpgrade: websocket\r\nConnection: Upgrade\r\nSec-WebSocket-Key: AAECAwQFBgcICQoLDA0ODw==\r\nSec-WebSocket-Protocol: coap\r\nSec-WebSocket-Version: 13\r\n\r\n" ++
  [0x82, 0x82, 1, 2, 3, 4, 1, 3,  0x82, 0x80, 9, 9, 9, 9,  0x82, 0x83, 1, 2, 3, 4, 1, 3, 0xb3]

/-- the runs of the examples below, evaluated in one statement: the kernel then works through the header lines of the
upgrade request (nearly all of the cost) once for all of them -/
theorem wsDemo_runs :
    specObs (run (validator .server []) .server wsDemo) =
      ([⟨0, 1, 0, [], [], []⟩, ⟨0, 1, 0, [], [(11, [])], []⟩], .open true) ∧
    wsObs (Coap.M.Ws.feed .server [] {} (segment (wsDemo.take (wsDemo.length - 1)) [180, 2])) =
      ([⟨0, 1, 0, [], [], []⟩], .open true) ∧
    (match (Coap.M.Ws.feed .server [] {} (segment (wsDemo.take (wsDemo.length - 1)) [180, 2])).2.1 with
      | .open st => wsAbs st | _ => .hs {} []) = .fr [0x82, 0x83, 1, 2, 3, 4, 1, 3] ∧
    (match (Coap.M.Ws.feed .server [] {} (segment (wsDemo.take (wsDemo.length - 1)) [5, 100, 80, 1, 4, 3, 1, 9, 4])).2.1 with
      | .open st => wsAbs st | _ => .hs {} []) = .fr [0x82, 0x83, 1, 2, 3, 4, 1, 3] := by decide +kernel
/-- S: two messages, session up and open -/
example : specObs (run (validator .server []) .server wsDemo) =
    ([⟨0, 1, 0, [], [], []⟩, ⟨0, 1, 0, [], [(11, [])], []⟩], .open true) := wsDemo_runs.1
/-- M, two different cut lists: inside the first line (5) / the key line (105) / between CR and LF of the empty line
(185) / at the end of the block / in the mask key / in the payload / at a frame boundary / in the next mask key;
and 14-byte reads that carry frame bytes over from the line buffer -/
example : wsObs (Coap.M.Ws.feed .server [] {} (segment wsDemo [5, 100, 80, 1, 4, 3, 1, 9])) =
    ([⟨0, 1, 0, [], [], []⟩, ⟨0, 1, 0, [], [(11, [])], []⟩], .open true) := by
  rw [ws_reader_eq_spec, segment_flatten]; exact wsDemo_runs.1
example : wsObs (Coap.M.Ws.feed .server [] {} (segment wsDemo [180, 2])) =
    ([⟨0, 1, 0, [], [], []⟩, ⟨0, 1, 0, [], [(11, [])], []⟩], .open true) := by
  rw [ws_reader_eq_spec, segment_flatten]; exact wsDemo_runs.1
/-- the stream ends inside the payload of the last frame: one message delivered, session open, and the reader holds
exactly the bytes of the unfinished frame (`wsAbs`), under two cut lists (one byte of payload in `rd_header` / in
`rx_data` only) -/
example : wsObs (Coap.M.Ws.feed .server [] {} (segment (wsDemo.take (wsDemo.length - 1)) [5, 100, 80, 1, 4, 3, 1, 9])) =
    ([⟨0, 1, 0, [], [], []⟩], .open true) :=
  (ws_reader_cut_invariant _ _ _ _ [180, 2]).trans wsDemo_runs.2.1
example : (match (Coap.M.Ws.feed .server [] {} (segment (wsDemo.take (wsDemo.length - 1)) [180, 2])).2.1 with
    | .open st => wsAbs st | _ => .hs {} []) = .fr [0x82, 0x83, 1, 2, 3, 4, 1, 3] := wsDemo_runs.2.2.1
example : (match (Coap.M.Ws.feed .server [] {} (segment (wsDemo.take (wsDemo.length - 1)) [5, 100, 80, 1, 4, 3, 1, 9, 4])).2.1 with
    | .open st => wsAbs st | _ => .hs {} []) = .fr [0x82, 0x83, 1, 2, 3, 4, 1, 3] := wsDemo_runs.2.2.2
/-- a header line that starts with a blank used to be taken by libcoap for the
end of the header block; since the `fix:` commit it is refused, which is what S (with the per-line acceptance of
the fixed code, D17) says — under every segmentation -/
theorem ws_blank_led_line_refused :
    wsObs (Coap.M.Ws.feed .server [] {} [asc "GET /.well-known/coap HTTP/1.1\r\n x\r\n"]) = ([], .closed) ∧
    wsObs (Coap.M.Ws.feed .server [] {} (segment (asc "GET /.well-known/coap HTTP/1.1\r\n x\r\n") [3, 29, 1, 1])) = ([], .closed) ∧
    specObs (run (validator .server []) .server (asc "GET /.well-known/coap HTTP/1.1\r\n x\r\n")) = ([], .closed) := by
  decide +kernel
/-- a NUL byte in a header line (D20): the LF behind it is not a line end — model and S wait (here: the "empty line"
and a frame behind it are not looked at), under two segmentations; and after 159 bytes of that line both close -/
def wsNulDemo : Bytes := asc "GET /.well-known/coap HTTP/1.1\r\nX: a" ++ [0] ++ asc "b\r\n\r\n" ++ [0x82, 0x80, 1, 2, 3, 4]
example : wsObs (Coap.M.Ws.feed .server [] {} [wsNulDemo]) = ([], .open false) ∧
    wsObs (Coap.M.Ws.feed .server [] {} (segment wsNulDemo [31, 5, 1, 1, 1, 1, 1])) = ([], .open false) ∧
    specObs (run (validator .server []) .server wsNulDemo) = ([], .open false) := by decide +kernel
example : wsObs (Coap.M.Ws.feed .server [] {} [wsNulDemo ++ List.replicate 150 10]) = ([], .closed) ∧
    wsObs (Coap.M.Ws.feed .server [] {} (segment (wsNulDemo ++ List.replicate 150 10) [40, 100, 50])) = ([], .closed) ∧
    specObs (run (validator .server []) .server (wsNulDemo ++ List.replicate 150 10)) = ([], .closed) := by
  have h : specObs (run (validator .server []) .server (wsNulDemo ++ List.replicate 150 10)) = ([], .closed) := by
    decide +kernel
  exact ⟨by rw [ws_reader_eq_spec, List.flatten_singleton]; exact h, by rw [ws_reader_eq_spec, segment_flatten]; exact h, h⟩
/-- frame phase, client side: 16-bit length form, three frames, cut in the extended length / after the header /
one byte per read — and 17 frames without data in front of a message (more `goto next_frame` rounds in one call than `rd_header` has bytes) -/
example : wsObs (Coap.M.Ws.feed .client [] { up := true } (segment [0x82, 0x7e, 0, 3, 1, 1, 0xaa, 0x82, 0, 0x82, 2, 0, 2] [3, 1, 5])) =
    ([⟨0, 1, 0, [0xaa], [], []⟩, ⟨0, 2, 0, [], [], []⟩], .open true) := by decide
example : wsObs (Coap.M.Ws.feed .client [] { up := true } (segment [0x82, 0x7e, 0, 3, 1, 1, 0xaa, 0x82, 0, 0x82, 2, 0, 2] [1,1,1,1,1,1,1,1,1,1,1,1])) =
    ([⟨0, 1, 0, [0xaa], [], []⟩, ⟨0, 2, 0, [], [], []⟩], .open true) := by decide
example : wsObs (Coap.M.Ws.feed .client [] { up := true }
      [(List.replicate 17 [0x82, 0]).flatten ++ [0x82, 2, 0, 1]]) = ([⟨0, 1, 0, [], [], []⟩], .open true) := by decide +kernel
/-- an oversize frame closes under both segmentations; a pending frame prefix leaves the session open -/
example : wsObs (Coap.M.Ws.feed .client [] { up := true } (segment [0x82, 0x7e, 0x05, 0xc1, 0, 1] [2, 1])) = ([], .closed) := by decide
example : wsObs (Coap.M.Ws.feed .client [] { up := true } (segment [0x82, 0x7e, 0x05, 0xc1, 0, 1] [1, 1, 1])) = ([], .closed) := by decide
/-- the invariant is satisfiable in its payload clause: header `82 03` complete, one payload byte in rx_data -/
example : WsInv .client { up := true, rdHeader := [0x82, 3, 7], allHdrIn := true, dataSize := 3, dataOfs := 1, rxData := some [7] }
    (.fr [0x82, 3, 7]) :=
  Or.inr ⟨rfl, rfl, 0x82, 3, [], [7], by decide⟩

/-! ### coap_ws_close: draining the socket for the peer's Close frame

`wsClose` / `closeDrain` (Model/WsReader.lean) = the `while (!recv_close && count > 0 …)` loop: select(), then
`coap_ws_read` into a 100-byte stack buffer.  Entered by the application at any time and by the reader itself right
after it refused a frame, so the statements are for EVERY reader state (no invariant) and every pending byte string.
Tied to the code by the `wsclose` lines of the check (recv_close and the number of bytes left unread). -/

/-- the drain terminates after at most 5 `coap_ws_read` calls, whatever the reader state and whatever the peer has
sent (each call's own `goto next_frame` loop is bounded by the bytes at hand: the model's fuel) -/
theorem ws_close_drain_bounded (mode : Mode) (st : Coap.M.Ws.St) (av : Bytes) :
    (wsClose mode st av).2.2.2 ≤ 5 := closeDrain_calls_le mode drainCount st av

/-- nothing pending: nothing is read, the reader state is untouched, no Close frame seen -/
theorem ws_close_drain_idle (mode : Mode) (st : Coap.M.Ws.St) : wsClose mode st [] = (false, st, [], 0) :=
  closeDrain_idle mode drainCount st

/-- `recv_close` is only reported when a Close frame header (opcode 8) has been completed in `rd_header` -/
theorem ws_close_drain_recv (mode : Mode) (st : Coap.M.Ws.St) (av : Bytes) (h : (wsClose mode st av).1 = true) :
    ∃ b0 b1 r, (wsClose mode st av).2.1.rdHeader = b0 :: b1 :: r ∧ b0.toNat % 16 = 8 :=
  (drain mode drainCount st av).recv h

/-- the "Get in (remaining) data" part of `coap_ws_read`, ANY reader state and ANY caller buffer size `datalen`: a
payload handed back fits the caller's buffer and bytes are only consumed from the front of what is available — the
clause the former defect G violated (a frame in progress longer than coap_ws_close's 100-byte buffer) -/
theorem ws_read_data_fits (mode : Mode) (st : Coap.M.Ws.St) (av data : Bytes) (datalen : Nat) :
    (readData mode st av data datalen).2.2.length ≤ av.length ∧
    ∀ pl, (readData mode st av data datalen).1 = .pkt pl → pl.length ≤ datalen :=
  readData_fits mode st av data datalen

/-- four pending 14-byte frames are discarded and the Close frame behind them is found by the 5th call; with six of
them it is not reached (5 calls, 16 bytes left unread); frames that arrive together with the Close frame in ONE
14-byte header read stay in `rd_header`: the socket is not readable any more, the loop only waits (1 call, Close frame
not seen — an observation, not a safety matter); a frame of 101 bytes does not fit the 100-byte buffer: refused, no
further byte is read; after an unmasked frame to a server the drain cannot progress -/
example : (wsClose .client { up := true } ((List.replicate 4 [0x82, 12, 0, 1,2,3,4,5,6,7,8,9,10,11]).flatten ++ [0x88, 0])).1 = true ∧
    (wsClose .client { up := true } ((List.replicate 4 [0x82, 12, 0, 1,2,3,4,5,6,7,8,9,10,11]).flatten ++ [0x88, 0])).2.2.2 = 5 := by
  decide +kernel
example : (wsClose .client { up := true } ((List.replicate 6 [0x82, 12, 0, 1,2,3,4,5,6,7,8,9,10,11]).flatten ++ [0x88, 0])).1 = false ∧
    (wsClose .client { up := true } ((List.replicate 6 [0x82, 12, 0, 1,2,3,4,5,6,7,8,9,10,11]).flatten ++ [0x88, 0])).2.2.1.length = 16 := by
  decide +kernel
example : (wsClose .client { up := true } [0x82, 2, 0, 1, 0x82, 2, 0, 2, 0x88, 2, 3, 0xe8]).1 = false ∧
    (wsClose .client { up := true } [0x82, 2, 0, 1, 0x82, 2, 0, 2, 0x88, 2, 3, 0xe8]).2.2.2 = 1 := by decide +kernel
example : (wsClose .client { up := true } ([0x82, 101] ++ List.replicate 101 0 ++ [0x88, 0])).1 = false ∧
    (wsClose .client { up := true } ([0x82, 101] ++ List.replicate 101 0 ++ [0x88, 0])).2.2.1.length = 91 := by decide +kernel
example : (wsClose .server { up := true } [0x82, 2, 0, 1, 0x88, 0x80, 1, 2, 3, 4]).1 = false := by decide


/-- the header part AND the data part of `coap_ws_read`, for EVERY
reader state, EVERY caller buffer size `datalen`, every pending byte string and every number of `goto next_frame`
rounds: bytes are only consumed from the front of what is available, and a payload handed back has at most `datalen`
bytes (header branches: `ret = size`, `size` of `ret > size`, both behind the `size > datalen` refusal; data part:
`data_size ≤ datalen` is re-checked on entry) -/
theorem ws_read_fits (mode : Mode) (datalen fuel : Nat) (st : Coap.M.Ws.St) (av : Bytes) :
    (readFrame mode datalen fuel st av).2.2.length ≤ av.length ∧
    ∀ pl, (readFrame mode datalen fuel st av).1 = .pkt pl → pl.length ≤ datalen :=
  readFrame_fits mode datalen fuel st av

/-- `RdOk datalen` = `hdr_ofs ≤ 14` and, while a frame that fits the caller's buffer is in progress, `data_ofs ≤ data_size`
(what makes `sizeof(rd_header) - hdr_ofs` and `data_size - data_ofs` not wrap).  It is kept by `coap_ws_read` for every
buffer size, pending byte string and fuel, and a call from such a state never indexes outside `rd_header` (`oob`) -/
theorem ws_read_keeps_ok (mode : Mode) (datalen fuel : Nat) (st : Coap.M.Ws.St) (av : Bytes) (h : RdOk datalen st) :
    RdOk datalen (readFrame mode datalen fuel st av).2.1 ∧ (readFrame mode datalen fuel st av).1 ≠ .oob :=
  readFrame_ok mode datalen fuel st av h

/-- `RdOk` is inherited by a caller with a smaller buffer (`coap_read_session`: 1472 → `coap_ws_close`: 100), also right
after a 1009 refusal, whose stale `data_ofs` is never used -/
theorem ws_read_ok_smaller_buffer (d1 d2 : Nat) (st : Coap.M.Ws.St) (h : RdOk d1 st) (hd : d2 ≤ d1) : RdOk d2 st :=
  RdOk_mono h hd

/-- "Get in (remaining) data" from an `RdOk` state: the transport read goes to `[data_ofs, data_ofs + got)` of the
caller's buffer (or of `rx_data`, allocated with `data_size` bytes) and that range ends at or before `datalen` -/
theorem ws_read_data_dest_in_bounds (mode : Mode) (datalen : Nat) (st : Coap.M.Ws.St) (av data : Bytes)
    (h : RdOk datalen st) (ha : st.allHdrIn = true) (hs : st.dataSize ≤ datalen) :
    st.dataOfs + (av.take (st.dataSize - st.dataOfs)).length ≤ datalen := by
  have := h.2 ha hs
  simp only [List.length_take]
  omega

/-- one `coap_ws_read` call terminates: every `goto next_frame` round takes at least the two fixed header bytes out of
`rd_header` ++ the bytes at hand; any fuel above their number gives the same result (the model's fuel never runs out) -/
theorem ws_read_next_frame_terminates (mode : Mode) (datalen f g : Nat) (st : Coap.M.Ws.St) (av : Bytes)
    (hf : st.rdHeader.length + av.length < f) (hg : st.rdHeader.length + av.length < g) :
    readFrame mode datalen f st av = readFrame mode datalen g st av :=
  readFrame_fuel mode datalen f g st av hf hg

/-- (strengthens `ws_close_drain_*`) for EVERY reader state and EVERY pending byte string: `drainCalls` lists exactly the
`coap_ws_read(session, buf, 100)` calls of the drain; each of them hands back at most 100 bytes and only consumes pending
bytes; the drain as a whole only consumes -/
theorem ws_close_drain_fits (mode : Mode) (st : Coap.M.Ws.St) (av : Bytes) :
    (drainCalls mode drainCount st av).length = (wsClose mode st av).2.2.2 ∧
    (wsClose mode st av).2.2.1.length ≤ av.length ∧
    ∀ c ∈ drainCalls mode drainCount st av,
      (readFrame mode drainBuf (c.2.length + fsCap + 2) c.1 c.2).2.2.length ≤ c.2.length ∧
      ∀ pl, (readFrame mode drainBuf (c.2.length + fsCap + 2) c.1 c.2).1 = .pkt pl → pl.length ≤ 100 :=
  ⟨(drain mode drainCount st av).length, (drain mode drainCount st av).ok.1,
   fun c _ => readFrame_fits mode drainBuf _ c.1 c.2⟩

/-- the drain from an `RdOk` state (every state `coap_ws_read` leaves behind, see `ws_read_keeps_ok`): every call
starts from an `RdOk` state, has no more bytes pending than the drain had, never indexes outside `rd_header`, its
`goto next_frame` fuel suffices; the state left behind is `RdOk` -/
theorem ws_close_drain_in_bounds (mode : Mode) (st : Coap.M.Ws.St) (av : Bytes) (h : RdOk drainBuf st) :
    RdOk drainBuf (wsClose mode st av).2.1 ∧
    ∀ c ∈ drainCalls mode drainCount st av, RdOk drainBuf c.1 ∧ c.2.length ≤ av.length ∧
      (readFrame mode drainBuf (c.2.length + fsCap + 2) c.1 c.2).1 ≠ .oob ∧
      ∀ g, c.1.rdHeader.length + c.2.length < g →
        readFrame mode drainBuf (c.2.length + fsCap + 2) c.1 c.2 = readFrame mode drainBuf g c.1 c.2 := by
  obtain ⟨hend, hcalls⟩ := (drain mode drainCount st av).ok.2 h
  refine ⟨hend, fun c hc => ?_⟩
  have hk := hcalls c hc
  refine ⟨hk.1, hk.2, (readFrame_ok mode drainBuf _ c.1 c.2 hk.1).2, fun g hg => ?_⟩
  have := hk.1.1
  exact readFrame_fuel mode drainBuf _ g c.1 c.2 (by simp only [fsCap] at *; omega) hg

/-- `coap_ws_close` neither aborts nor loops for ever, on every input: at most `drainCount` = 5 rounds (the loop
variable is the model's structural recursion argument, a round without readable socket is a 1 ms select() timeout), at
most 5 `coap_ws_read` calls, each of them terminating (`ws_read_next_frame_terminates`) and — from an `RdOk` state —
inside its buffers; whatever the outcome (`recv_close` or not) the function goes on to `l_close`: the model's result
is total -/
theorem ws_close_terminates (mode : Mode) (st : Coap.M.Ws.St) (av : Bytes) :
    drainRounds mode drainCount st av ≤ 5 ∧ (wsClose mode st av).2.2.2 ≤ drainRounds mode drainCount st av ∧
    (wsClose mode st av).2.2.2 ≤ drainCount ∧ (wsClose mode st av).2.2.1.length ≤ av.length ∧
    (RdOk drainBuf st → ∀ c ∈ drainCalls mode drainCount st av,
      (readFrame mode drainBuf (c.2.length + fsCap + 2) c.1 c.2).1 ≠ .oob) :=
  ⟨(drain mode drainCount st av).rounds.1, (drain mode drainCount st av).rounds.2.1,
   closeDrain_calls_le mode drainCount st av, (drain mode drainCount st av).ok.1,
   fun h c hc => ((ws_close_drain_in_bounds mode st av h).2 c hc).2.2.1⟩

/-- bounded waiting, exactly: `drainRounds` = the select() calls of the loop (tied to the code by the `rounds=` field of the
`wsclose` / `wsself` lines, select() being wrapped in the harness).  If the peer's Close frame is not seen the loop runs
exactly 5 rounds — each a `coap_ws_read` call or a 1 ms timeout — and then the session is closed regardless; if it
is seen, the round that saw it is the last -/
theorem ws_close_drain_rounds (mode : Mode) (st : Coap.M.Ws.St) (av : Bytes) :
    ((wsClose mode st av).1 = false → drainRounds mode drainCount st av = 5) ∧
    ((wsClose mode st av).1 = true → 1 ≤ drainRounds mode drainCount st av ∧ drainRounds mode drainCount st av ≤ 5) :=
  have h := (drain mode drainCount st av).rounds
  ⟨h.2.2.1, fun hr => ⟨h.2.2.2 hr, h.1⟩⟩

/-- the hypothesis of `ws_close_drain_in_bounds` holds whenever the application can call `coap_ws_close`: every reader
state the event loop leaves behind in the frame phase — from the state right after the handshake (`rd_header` holding the
≤ 14 carried-over bytes) or any other `UpOk` state, after EVERY list of chunks — is `RdOk` for the 1472-byte buffer of
`coap_read_session`, hence for the drain's 100 bytes; and so is the state in which the reader itself calls
`coap_ws_close` (right after a refusal inside `coap_ws_read`: `ws_read_keeps_ok`) -/
theorem ws_frames_states_ok (mode : Mode) (accept : Bytes) (chunks : List Bytes) (st st' : Coap.M.Ws.St)
    (hup : st.up = true) (h : RdOk Coap.M.Ws.rxBuf st) (he : (Coap.M.Ws.feed mode accept st chunks).2.1 = .open st') :
    st'.up = true ∧ RdOk Coap.M.Ws.rxBuf st' ∧ RdOk drainBuf st' :=
  have := feed_pres mode accept UpOk (wsRead_upok mode accept) chunks st ⟨hup, h⟩ st' he
  ⟨this.1, this.2, RdOk_mono this.2 (by decide)⟩

/-- … and on a whole connection: after EVERY byte stream in EVERY segmentation, HTTP upgrade included, the state of an
open session is `RdOk` (so `ws_close_drain_in_bounds` applies whenever the application calls `coap_ws_close`) -/
theorem ws_reader_states_ok (mode : Mode) (accept : Bytes) (chunks : List Bytes) (st' : Coap.M.Ws.St)
    (he : (Coap.M.Ws.feed mode accept {} chunks).2.1 = .open st') :
    RdOk Coap.M.Ws.rxBuf st' ∧ RdOk drainBuf st' :=
  have := feed_pres mode accept ConnOk (wsRead_connOk mode accept) chunks {} connOk_init st' he
  ⟨this.1, RdOk_mono this.1 (by decide)⟩

/-- every way a `coap_ws_read` call (any state, any buffer size) closes the session by itself: Close frame header
completed, header refused with 1002/1003 and left in `rd_header`, or frame refused with 1009 -/
theorem ws_read_closed_cases (mode : Mode) (datalen fuel : Nat) (st : Coap.M.Ws.St) (av : Bytes)
    (h : (readFrame mode datalen fuel st av).1 = .closed) :
    recvCloseOf mode .closed (readFrame mode datalen fuel st av).2.1 = true ∨
    Refused mode (readFrame mode datalen fuel st av).2.1 ∨
    ((readFrame mode datalen fuel st av).2.1.allHdrIn = true ∧ (readFrame mode datalen fuel st av).2.1.dataSize > datalen) :=
  readFrame_closed_cases mode datalen fuel st av h

/-- the reader's own `coap_ws_close` (model `selfClose`, tied to the code by the `wsself` lines), for EVERY reader
state and EVERY chunk: either a Close frame was received (no drain at all), or the drain starts from a refused header
(1002/1003: `recv_close` stays 0, the header is refused again by every call, at most the free room of `rd_header` is read,
at most 5 calls) or from a refused frame (1009: `recv_close` stays 0, 5 calls returning -1 if bytes are pending, none
otherwise, NOTHING read, state untouched).  In each case the function returns and the session is closed. -/
theorem ws_self_close_classified (mode : Mode) (accept : Bytes) (st : Coap.M.Ws.St) (chunk : Bytes)
    (r : Bool × Coap.M.Ws.St × Bytes × Nat) (h : selfClose mode accept st chunk = some r) :
    ∃ st' av', refusalPoint mode accept (6 * (chunk.length + 1)) 0 st chunk = some (st', av') ∧
      ((recvCloseOf mode .closed st' = true ∧ r = (true, st', av', 0)) ∨
       (Refused mode st' ∧ r.1 = false ∧ Refused mode r.2.1 ∧
          av'.length ≤ r.2.2.1.length + (fsCap - st'.rdHeader.length) ∧ r.2.2.2 ≤ 5) ∨
       (st'.allHdrIn = true ∧ st'.dataSize > 1472 ∧ r = (false, st', av', if av'.length = 0 then 0 else 5))) := by
  unfold selfClose at h
  cases hp : refusalPoint mode accept (6 * (chunk.length + 1)) 0 st chunk with
  | none => rw [hp] at h; cases h
  | some p =>
    obtain ⟨st', av'⟩ := p
    rw [hp] at h
    simp only at h
    refine ⟨st', av', rfl, ?_⟩
    by_cases hr : recvCloseOf mode .closed st' = true
    · simp only [hr, if_true, Option.some.injEq] at h
      exact Or.inl ⟨hr, h.symm⟩
    · simp only [hr, Bool.false_eq_true, if_false, Option.some.injEq] at h
      subst h
      rcases refusalPoint_closed mode accept _ _ _ _ _ _ hp with hc | hc | hc
      · exact absurd hc hr
      · have := (drain mode drainCount st' av').refused hc
        exact Or.inr (Or.inl ⟨hc, this.1, this.2.1, this.2.2, closeDrain_calls_le mode drainCount st' av'⟩)
      · refine Or.inr (Or.inr ⟨hc.1, hc.2, ?_⟩)
        exact (drain mode drainCount st' av').oversize hc.1 (by have := hc.2; simp only [Coap.M.Ws.rxBuf, drainBuf] at *; omega)

/-- the hypothesis of `ws_read_closed_cases` in each class (the call closes the session by itself): Close frame, Ping,
1473-byte frame at a client; unmasked frame at a server — and the fuel bound of `ws_read_next_frame_terminates` on the
model's own fuel for a full `rd_header` -/
example : (readFrame .client 1472 20 { up := true } [0x88, 0]).1 = .closed ∧ (readFrame .client 1472 20 { up := true } [0x89, 0]).1 = .closed ∧
    (readFrame .client 1472 20 { up := true } [0x82, 0x7e, 5, 0xc1]).1 = .closed ∧
    (readFrame .server 1472 20 { up := true } [0x82, 0]).1 = .closed := by decide +kernel
example : ({ up := true, rdHeader := List.replicate 14 0 } : Coap.M.Ws.St).rdHeader.length + [1, 2, 3].length < [1, 2, 3].length + fsCap + 2 := by
  decide

/-- the three classes on concrete chunks (client side, handshake done): Close frame in front of an empty frame —
`recv_close`, no drain, 2 bytes never read; a Ping followed by a Close frame in the same header read — refused, the
Close frame is never looked at, nothing left on the socket, no call; a 1473-byte frame header with 20 more bytes —
refused, 5 calls, the 10 bytes behind the header read stay unread -/
example : (selfClose .client [] { up := true } [0x88, 0, 0x82, 0]).map (fun r => (r.1, r.2.2.1.length, r.2.2.2)) =
    some (true, 0, 0) := by decide +kernel
example : (selfClose .client [] { up := true } ([0x88, 0] ++ List.replicate 20 7)).map (fun r => (r.1, r.2.2.1.length, r.2.2.2)) =
    some (true, 8, 0) := by decide +kernel
example : (selfClose .client [] { up := true } [0x89, 0, 0x88, 0]).map (fun r => (r.1, r.2.1.rdHeader, r.2.2.1.length, r.2.2.2)) =
    some (false, [0x89, 0, 0x88, 0], 0, 0) := by decide +kernel
example : (selfClose .client [] { up := true } ([0x82, 0x7e, 0x05, 0xc1] ++ List.replicate 20 7)).map
    (fun r => (r.1, r.2.1.dataSize, r.2.2.1.length, r.2.2.2)) = some (false, 1473, 10, 5) := by decide +kernel
/-- a server: unmasked frame with 30 bytes behind it: refused (1002), the drain tops `rd_header` up … nothing more: all
14 bytes were already in, 18 bytes stay unread after 5 calls -/
example : (selfClose .server [] { up := true } ([0x82, 2, 0, 1] ++ List.replicate 28 7)).map
    (fun r => (r.1, r.2.1.rdHeader.length, r.2.2.1.length, r.2.2.2)) = some (false, 14, 18, 5) := by decide +kernel

/-- once a `coap_ws_read` call has emptied the socket the loop only waits (no
further call), whatever is left in `rd_header` — select() looks at the socket, not at `rd_header` -/
theorem ws_close_drain_socket_empty (mode : Mode) (c : Nat) (st st' : Coap.M.Ws.St) (av : Bytes) (ret : Ret) (hav : av ≠ [])
    (h : readFrame mode drainBuf (av.length + fsCap + 2) st av = (ret, st', [])) :
    closeDrain mode (c + 1) st av = (recvCloseOf mode ret st', st', [], 1) :=
  closeDrain_socket_empty mode c st st' av ret hav h

/-- … in particular a data frame that arrived in the same 14-byte header read as the peer's Close frame: the call
returns its payload, the Close frame stays in `rd_header`, `recv_close` stays 0, the session is closed after the
remaining (at most 4) 1 ms waits -/
theorem ws_close_drain_close_unseen (mode : Mode) (st st' : Coap.M.Ws.St) (av pl : Bytes) (hav : av ≠ [])
    (h : readFrame mode drainBuf (av.length + fsCap + 2) st av = (.pkt pl, st', [])) :
    wsClose mode st av = (false, st', [], 1) := by
  have e : recvCloseOf mode (.pkt pl) st' = false := by unfold recvCloseOf; split <;> simp_all
  exact (closeDrain_socket_empty mode 4 st st' av _ hav h).trans (by rw [e])

/-- after a 1009 refusal (`all_hdr_in` set, `data_size` > 100) every call
returns -1 before reading anything — 5 calls if bytes are pending, none otherwise; reader state and pending bytes
untouched, `recv_close` stays 0 -/
theorem ws_close_drain_oversize_stuck (mode : Mode) (st : Coap.M.Ws.St) (av : Bytes) (ha : st.allHdrIn = true)
    (hs : st.dataSize > 100) :
    wsClose mode st av = (false, st, av, if av.length = 0 then 0 else 5) :=
  (drain mode drainCount st av).oversize ha hs

/-- … and after a 1002 (unmasked frame to a server) or 1003 (opcode neither binary nor close) refusal, `Refused`: every
call refuses the same header again; at most the free room of `rd_header` is taken from the socket; `recv_close` stays 0 -/
theorem ws_close_drain_refused_stuck (mode : Mode) (st : Coap.M.Ws.St) (av : Bytes) (h : Refused mode st) :
    (wsClose mode st av).1 = false ∧ Refused mode (wsClose mode st av).2.1 ∧
    av.length ≤ (wsClose mode st av).2.2.1.length + (fsCap - st.rdHeader.length) :=
  (drain mode drainCount st av).refused h

/-- non-vacuity: `RdOk` holds right after the handshake, inside a payload, and after a 1009 refusal with a stale
`data_ofs`; `Refused` states: a Ping header at a client, an unmasked header at a server -/
example : RdOk 100 { up := true } := ⟨by decide, fun h => by cases h⟩
example : RdOk 1472 { up := true, rdHeader := [0x82, 3, 7], allHdrIn := true, dataSize := 3, dataOfs := 1, rxData := some [7] } :=
  ⟨by decide, fun _ _ => by decide⟩
example : RdOk 100 { up := true, rdHeader := [0x82, 0x7e, 1, 0], allHdrIn := true, dataSize := 256, dataOfs := 300 } :=
  ⟨by decide, fun _ h => absurd h (by decide)⟩
example : Refused .client { up := true, rdHeader := [0x89, 0] } :=
  ⟨rfl, 0x89, 0, [], rfl, Or.inr ⟨by decide, by decide, by decide⟩⟩
example : Refused .server { up := true, rdHeader := [0x82, 2, 0, 1] } :=
  ⟨rfl, 0x82, 2, [0, 1], rfl, Or.inl ⟨rfl, by decide⟩⟩
/-- the hypotheses of `ws_close_drain_close_unseen` / `…_oversize_stuck` on concrete inputs: a 2-byte message, a second
one and a Close frame in one 12-byte read (the first is returned, the others stay in `rd_header`); a refused 256-byte
frame with 3 bytes pending -/
example : readFrame .client drainBuf (12 + fsCap + 2) { up := true } [0x82, 2, 0, 1, 0x82, 2, 0, 2, 0x88, 2, 3, 0xe8] =
    (.pkt [0, 1], { up := true, rdHeader := [0x82, 2, 0, 2, 0x88, 2, 3, 0xe8], maskKey := [], dataSize := 2, dataOfs := 2 }, []) := by
  decide +kernel
example : wsClose .client { up := true, rdHeader := [0x82, 0x7e, 1, 0], allHdrIn := true, dataSize := 256 } [1, 2, 3] =
    (false, { up := true, rdHeader := [0x82, 0x7e, 1, 0], allHdrIn := true, dataSize := 256 }, [1, 2, 3], 5) := by decide +kernel
/-- `drainCalls` on the four-frames-then-Close example: five calls, the first with all 58 bytes pending -/
example : ((drainCalls .client drainCount { up := true } ((List.replicate 4 [0x82, 12, 0, 1,2,3,4,5,6,7,8,9,10,11]).flatten ++ [0x88, 0])).map
    (fun c => c.2.length)) = [58, 44, 30, 16, 2] := by decide +kernel

end Ws

end Coap.C05
