import CoapVerif.Model.Gate
import CoapVerif.Lemmas.Parse
import CoapVerif.Props.C03
import CoapVerif.Lemmas.QBlock
import CoapVerif.Lemmas.QBlock2
/-
C02 — arbitrary network input never breaks memory safety, liveness or the endpoint.

What is *proved* here is the part of C02 that is logic (DESIGN.md §4 C02, §6): for every byte string
 * the transcribed readers use no index outside the bytes they were given (`*_never_oob`): an
   out-of-bounds access of the algorithm is an observable value (`R.oob`) of the model, and it never occurs;
 * they terminate: every model function is a total Lean function (structural recursion on fuel that is
   bounded by the input length) — accepted by the kernel, no `partial`, no `unsafe`;
 * input the decoder rejects is never handed to the protocol layer (and hence to a handler), and draws at
   most a Reset;
 * RFC 9177 (Model/QBlock.lean), what a hostile peer can make the missing-blocks machinery do: the client's parser of a
   4.08 payload stays inside the payload, ends, and has only blocks of the body sent again, at most MAX_PAYLOADS (`q408_*`),
   and reads back what the server's encoder writes (`q408_roundtrip`, `add408Block_some_iff`); the gap walk over
   `rec_blocks` lists exactly the unrecorded numbers below a recorded one (`qblock_missing_represents`); a Q-Block2
   recovery request names increasing numbers of one payload set, inside the body (`q2_recovery_*`); the client's
   bookkeeping keeps `Q2Inv` and every request it sends names 20-bit numbers (`q2_bookkeeping_invariant`,
   `q2_requests_20bit`); a burst of `coap_send_q_blocks` stays inside one payload set (`q2_burst_bounded`).
Memory safety, use-after-free, uninitialised reads and UB of the *compiled C* are observed (ASan, UBSan,
valgrind in the thorough tier) on the inputs run by the check, not proved.
Readers owned by other properties contribute their own no-overread theorems (C05 stream reader, C16 URI
splitters, C20 filter matching, C09 block structures, C14 OSCORE option decoding); the C02 check requires
them to be present (see props/C02.py REQUIRED_ELSEWHERE).
-/
namespace Coap.C02
open Coap Coap.M

/-- the decoder never indexes outside the received bytes, on any framing, for any byte string -/
theorem parse_never_oob (p : Proto) (bs : Bytes) : M.parse p bs ≠ R.oob := parse_ne_oob p bs

/-- nor does the option walk from any starting point (it is also what debug logging repeats) -/
theorem walk_never_oob (code fuel : Nat) (bs : Bytes) (maxOpt : Nat) : walk code fuel bs maxOpt ≠ R.oob :=
  walk_ne_oob code fuel bs maxOpt

theorem dispatch_only_parsed (p : Proto) (bs : Bytes) (m : Msg) :
    gate p bs = .dispatch m → M.parse p bs = R.ok m := by
  -- where the gate looks at the parser's result, only the `R.ok` arm dispatches
  have arm : ∀ (x : R Msg) (a : Action), (∀ m', a ≠ .dispatch m') →
      (match x with | R.ok m' => Action.dispatch m' | _ => a) = .dispatch m → x = R.ok m := by
    intro x a ha hx
    cases x with
    | ok m' => injection hx with e; rw [e]
    | rej => exact absurd hx (ha m)
    | oob => exact absurd hx (ha m)
  intro h
  cases p
  · simp only [gate] at h
    split at h
    · cases h
    · rcases bs with _ | ⟨b0, r⟩
      · cases h
      · simp only [] at h
        split at h
        · cases h
        · exact arm _ _ (fun _ hh => by cases hh) h
  · exact arm _ _ (fun _ hh => by cases hh) h
  · simp only [gate] at h
    split at h
    · cases h
    · exact arm _ _ (fun _ hh => by cases hh) h

/-- whatever is handed to the protocol layer is the reference decoding of the bytes -/
theorem dispatched_is_reference_decoding (p : Proto) (bs : Bytes) (m : Msg) (h : gate p bs = .dispatch m) :
    Spec.decode p bs = some m :=
  C03.accepted_only_if_wellformed p bs m (dispatch_only_parsed p bs m h)

/-- input that is not a well-formed message is never handed to the protocol layer -/
theorem rejected_never_dispatched (p : Proto) (bs : Bytes) (h : Spec.decode p bs = none) (m : Msg) :
    gate p bs ≠ .dispatch m := by
  intro hd
  have h2 := dispatched_is_reference_decoding p bs m hd
  rw [h] at h2
  cases h2

/-- malformed input draws at most one reply, and that reply is a Reset (datagram transports only) -/
theorem malformed_reply_at_most_reset (p : Proto) (bs : Bytes) (h : Spec.decode p bs = none) :
    gate p bs = .drop ∨ gate p bs = .bad ∨ ∃ mid, gate p bs = .rst mid := by
  cases hg : gate p bs with
  | drop => simp
  | bad => simp
  | rst mid => simp
  | dispatch m => exact absurd hg (rejected_never_dispatched p bs h m)

/-- a datagram with a wrong version, or shorter than a header, is silently ignored -/
theorem wrong_version_silently_ignored (b0 : UInt8) (r : Bytes) (h : b0.toNat / 64 ≠ 1) :
    gate .udp (b0 :: r) = .drop := by
  simp only [gate]
  by_cases hl : (b0 :: r).length < 4
  · rw [if_pos hl]
  · rw [if_neg hl, if_pos h]

theorem gateMtu_dispatch (mtu : Nat) (bs : Bytes) (m : Msg) (h : gateMtu mtu bs = .dispatch m) :
    gate .udp bs = .dispatch m ∧ ¬ bs.length > mtu := by
  have key : ∀ a, (if bs.length > mtu then Action.rst 0 else a) = .dispatch m → a = .dispatch m ∧ ¬ bs.length > mtu := by
    intro a ha
    by_cases hl : bs.length > mtu
    · rw [if_pos hl] at ha; cases ha
    · rw [if_neg hl] at ha; exact ⟨ha, hl⟩
  unfold gateMtu at h
  generalize gate .udp bs = g at h ⊢
  cases g with
  | drop => cases h
  | bad => exact key _ h
  | rst mid => exact key _ h
  | dispatch m' => exact key _ h

/-- nor does the gate of a live session, whatever its MTU, hand on input that is not a well-formed message -/
theorem rejected_never_dispatched_session (mtu : Nat) (bs : Bytes) (h : Spec.decode .udp bs = none) (m : Msg) :
    gateMtu mtu bs ≠ .dispatch m :=
  fun hd => rejected_never_dispatched .udp bs h m (gateMtu_dispatch mtu bs m hd).1

/-- a datagram longer than the session's MTU is refused unparsed -/
theorem oversize_datagram_never_dispatched (mtu : Nat) (bs : Bytes) (h : bs.length > mtu) (m : Msg) :
    gateMtu mtu bs ≠ .dispatch m :=
  fun hd => (gateMtu_dispatch mtu bs m hd).2 h

example : gate .udp [0x40, 0x01, 0x12, 0x34, 0xff] = .rst 0x1234 := by decide
example : gate .udp [0x40, 0x01, 0x12, 0x34, 0xb1, 0x61] = .dispatch ⟨0, 1, 0x1234, [], [(11, [0x61])], []⟩ := by decide
example : gate .udp [0x80, 0x01, 0x12, 0x34] = .drop := by decide
example : gate .ws [0x00, 0x01, 0xff] = .bad := by decide

/-! ## RFC 9177 (Q-Block): what a hostile peer can make the missing-blocks machinery do (Model/QBlock.lean)

The client in the middle of a Q-Block1 transfer is handed a 4.08 response: `QBlock.q408Branch` is the branch of
`coap_handle_response_send_block` from the Content-Format test on (payload = ANY byte string). -/
open Coap.QBlock Coap.Block Coap.Spec.Block

theorem q408Branch_spec (maxPay : Nat) (body : Bytes) (szx : Nat) (fmt : Option Nat) (isNon : Bool) (payload : Bytes) :
    ∃ o, q408Branch maxPay body szx fmt isNon payload = R.ok o ∧ (∀ t, t ∈ o.sent → TxOk body szx t) ∧
      o.sent.length ≤ maxPay ∧ o.sent.length ≤ payload.length := by
  let P : R Q408Out → Prop := fun x =>
    ∃ o, x = R.ok o ∧ (∀ t, t ∈ o.sent → TxOk body szx t) ∧ o.sent.length ≤ maxPay ∧ o.sent.length ≤ payload.length
  have nothing : ∀ e, P (R.ok ⟨[], e⟩) := fun e => ⟨_, rfl, (fun t ht => by cases ht), Nat.zero_le _, Nat.zero_le _⟩
  show P _
  unfold q408Branch
  refine ite_ind (fun _ => nothing _) fun _ => ite_ind (fun _ => nothing _) fun _ => ?_
  unfold q408
  refine ite_ind (fun _ => nothing _) fun _ => ?_
  obtain ⟨o, ho, h1, h2, h3⟩ := q408Loop_spec body szx maxPay payload [] (by simp)
  exact ⟨o, ho, h1, by simpa using h2, by simpa using h3⟩

/-- For EVERY payload (malformed, truncated, huge CBOR), every body, block size, MAX_PAYLOADS, Content-Format and message
type: the parser never reads outside the payload (`R.oob` is what `*bp` behind the last byte would be), never fails
silently, and terminates (total function; the loop is structural recursion on the MAX_PAYLOADS countdown). -/
theorem q408_never_oob (maxPay : Nat) (body : Bytes) (szx : Nat) (fmt : Option Nat) (isNon : Bool) (payload : Bytes) :
    ∃ o, q408Branch maxPay body szx fmt isNon payload = R.ok o := by
  obtain ⟨o, ho, _⟩ := q408Branch_spec maxPay body szx fmt isNon payload
  exact ⟨o, ho⟩

/-- Whatever the 4.08 says, every block the client sends again is a block OF ITS BODY: NUM below 2^20, its offset inside the
body (no block beyond the end is ever sent — `coap_add_block` refuses it and the transfer is given up), the payload is
exactly the non-empty slice of the body at that offset, the More bit is the one of that block. -/
theorem q408_only_blocks_of_body (maxPay : Nat) (body : Bytes) (szx : Nat) (fmt : Option Nat) (isNon : Bool)
    (payload : Bytes) (o : Q408Out) (h : q408Branch maxPay body szx fmt isNon payload = R.ok o) :
    ∀ t, t ∈ o.sent →
      t.num < 2 ^ 20 ∧ blockOffset t.num szx < body.length ∧
      t.payload = (body.drop (blockOffset t.num szx)).take (2 ^ (szx + 4)) ∧ t.payload ≠ [] ∧
      t.m = moreBit body.length t.num szx := by
  obtain ⟨o', ho', h1, _⟩ := q408Branch_spec maxPay body szx fmt isNon payload
  rw [ho'] at h; cases h
  exact h1

/-- No amplification: one 4.08 makes the client send at most MAX_PAYLOADS messages, and at most one per payload byte. -/
theorem q408_bounded (maxPay : Nat) (body : Bytes) (szx : Nat) (fmt : Option Nat) (isNon : Bool)
    (payload : Bytes) (o : Q408Out) (h : q408Branch maxPay body szx fmt isNon payload = R.ok o) :
    o.sent.length ≤ maxPay ∧ o.sent.length ≤ payload.length := by
  obtain ⟨o', ho', _, h2⟩ := q408Branch_spec maxPay body szx fmt isNon payload
  rw [ho'] at h; cases h
  exact h2

/-- The server's encoder (`add_408_block`, after fix 008eb93) and the client's parser agree: for EVERY list of at most
MAX_PAYLOADS blocks of the body the payload the server builds makes the client send exactly those blocks, in that
order, and carry on (`return 1`). -/
theorem q408_roundtrip (maxPay : Nat) (body : Bytes) (szx : Nat) (ns : List Nat) (bs : Bytes)
    (hne : ns ≠ []) (henc : encode408 ns = some bs) (hlen : ns.length ≤ maxPay)
    (hin : ∀ n, n ∈ ns → blockOffset n szx < body.length) :
    q408Branch maxPay body szx (some 272) true bs = R.ok ⟨ns.map (txOf body szx), .done⟩ := by
  have hbs : bs ≠ [] := by
    rcases ns with _ | ⟨n, rest⟩
    · exact absurd rfl hne
    · obtain ⟨x, y, hx, _, rfl⟩ := encode408_cons henc
      obtain ⟨_, _, b0, t, rfl, _⟩ := derive_add408 n x y hx
      exact List.cons_ne_nil _ _
  have := q408Loop_encode body szx ns maxPay bs [] henc hlen hin
  have hf : fmtOf (some 272) = 272 := by decide
  simp only [q408Branch, q408, hbs, hf]
  simpa using this

/-- the encoder accepts exactly the block numbers a Block option can carry -/
theorem add408Block_some_iff (n : Nat) : (∃ x, add408Block n = some x) ↔ n < 2 ^ 20 := by
  rw [← Nat.not_le, ← add408Block_none_iff]
  cases add408Block n <;> simp

/-- The received-blocks bookkeeping behind the missing-blocks requests (client: `coap_request_missing_q_block2`, server:
the Q-Block1 4.08 of `coap_block_check_lg_srcv_timeouts`; same shape as `C09.rblock_represents`): after ANY sequence of
insertions into `rec_blocks` (out of order, duplicates, refused ones) the walk over the ranges asks for a block number
exactly if it was NOT recorded and lies below a recorded one — never a recorded block, never one above the highest
recorded block; hence if every recorded block is a block of the body (below `total`), so is every block asked for; and the
running `block` ends as the highest recorded number. -/
theorem qblock_missing_represents (cap : Nat) (ns : List Nat) :
    let st := ns.foldl (insertStep cap) ([], [])
    (∀ g, g ∈ (gapLoop st.1 none []).2 ↔ (g ∉ st.2 ∧ ∃ k, k ∈ st.2 ∧ g < k)) ∧
    (∀ total, (∀ k, k ∈ st.2 → k < total) → ∀ g, g ∈ (gapLoop st.1 none []).2 → g < total) ∧
    (st.1 ≠ [] → ∃ r, st.1.getLast? = some r ∧ (gapLoop st.1 none []).1 = some r.2 ∧ r.2 ∈ st.2) := by
  intro st
  obtain ⟨w, _, c⟩ := insertAll_inv cap ns ([], []) trivial (Nat.zero_le _) (by intro k; simp [Covers])
  obtain ⟨g1, g2⟩ := gapLoop_spec st.1 0 none [] w (Nat.le_refl 0)
  have hmain : ∀ g, g ∈ (gapLoop st.1 none []).2 ↔ (g ∉ st.2 ∧ ∃ k, k ∈ st.2 ∧ g < k) := by
    intro g
    rw [g1 g]
    constructor
    · rintro (h | ⟨_, h2, k, hk, hlt⟩)
      · cases h
      · exact ⟨fun hm => h2 ((c g).mpr hm), k, (c k).mp hk, hlt⟩
    · rintro ⟨hn, k, hk, hlt⟩
      exact Or.inr ⟨Nat.zero_le _, fun hc => hn ((c g).mp hc), k, (c k).mpr hk, hlt⟩
  refine ⟨hmain, ?_, ?_⟩
  · intro total ht g hg
    obtain ⟨_, k, hk, hlt⟩ := (hmain g).mp hg
    have := ht k hk; omega
  · intro hne
    obtain ⟨r, hr1, hr2⟩ := g2 hne
    exact ⟨r, hr1, hr2, (c r.2).mp (WfFrom_mem st.1 0 r w (List.mem_of_getLast? hr1)).2⟩

example : q408Branch 10 (List.replicate 100 7) 0 (some 272) true [0x01, 0x02] =
    R.ok ⟨[txOf (List.replicate 100 7) 0 1, txOf (List.replicate 100 7) 0 2], .done⟩ := by decide
example : encode408 [1, 2] = some [0x01, 0x02] ∧ [1, 2] ≠ [] ∧ [1, 2].length ≤ 10 ∧
    ∀ n, n ∈ [1, 2] → blockOffset n 0 < (List.replicate 100 (7 : UInt8)).length := by decide
/-- a block beyond the body: nothing is sent, the transfer is given up (5.00) -/
example : q408Branch 10 (List.replicate 100 7) 0 (some 272) true [0x07] = R.ok ⟨[], .failBody⟩ := by decide
/-- an initial byte announcing four bytes with three present: refused, not read (was a one-byte overread, fix 4106616) -/
example : q408Branch 10 (List.replicate 100 7) 0 (some 272) true [0x1a, 0, 0, 0] = R.ok ⟨[], .failCbor⟩ := by decide
example : add408Block 65536 = some [26, 0, 1, 0, 0] := by decide
example : (gapLoop [(0, 2), (5, 6), (9, 9)] none []) = (some 9, [3, 4, 7, 8]) := by decide
example : missing408 [(3, 4)] (some 6) = [0, 1, 2, 5, 6] := by decide
example : allInForPayloadSet 10 [(0, 9), (12, 12)] 0 = true ∧ anyNextPayloadSet 10 [(0, 9), (12, 12)] 1 = true := by decide

/-- `coap_request_missing_q_block2`, for EVERY `rec_blocks` (no well-formedness assumed), block size, total length,
MAX_PAYLOADS ≥ 1, with and without `COAP_BLOCK_USE_M_Q_BLOCK`: the Q-Block2 options of the ONE request it sends are strictly
increasing (no duplicates), at most MAX_PAYLOADS, all of ONE payload set (which becomes `processing_payload_set`), M ≤ 1, and
each number lies below the begin of a recorded range or has its offset inside `total_len`. -/
theorem q2_recovery_request_bounded (mp : Nat) (hmp : 0 < mp) (useM : Bool) (rs : Ranges) (szx totalLen : Nat) :
    ((reqMissingQ2 mp useM rs szx totalLen).1.map Prod.fst).Pairwise (· < ·) ∧
    (reqMissingQ2 mp useM rs szx totalLen).1.length ≤ mp ∧
    (∀ q, q ∈ (reqMissingQ2 mp useM rs szx totalLen).1 →
      ((∃ r, r ∈ rs ∧ q.1 < r.1) ∨ q.1 * 2 ^ (szx + 4) < totalLen) ∧ q.2 ≤ 1) ∧
    ((reqMissingQ2 mp useM rs szx totalLen).1 ≠ [] →
      ∃ s, (reqMissingQ2 mp useM rs szx totalLen).2 = some s ∧ ∀ q, q ∈ (reqMissingQ2 mp useM rs szx totalLen).1 → q.1 / mp = s) :=
  have h := reqMissingQ2_spec mp useM rs szx totalLen
  ⟨h.1, h.2.1 hmp, h.2.2⟩

/-- The bookkeeping invariant `Q2Inv` is preserved by EVERY arriving
response (`q2Step` = the Q-Block2 path of `coap_handle_response_get_block`: any NUM < 2^20 — `coap_get_block_b` delivers no
other —, M, SZX, payload length, Size2, ETag, Content-Format), hence holds after ANY arrival sequence from any state that has
it (the state after `coap_block_new_lg_crcv` has it: `q2_initial_state_inv`). -/
theorem q2_bookkeeping_invariant (cap mp : Nat) (useM isNon : Bool) : ∀ (is : List Q2In) (st0 : Q2State),
    Q2Inv cap st0 → (∀ i, i ∈ is → i.num < 2 ^ 20) →
    Q2Inv cap (is.foldl (fun st i => (q2Step cap mp useM isNon st i).1) st0) :=
  fun is st0 h0 hn =>
    foldl_inv_mem (Q2Inv cap) is (fun i hi st h => (q2Step_spec cap mp useM isNon st i (hn i hi) h).1) st0 h0

/-- a state with no block recorded (`rs = []`: what `coap_block_new_lg_crcv` leaves) has the invariant, whatever its other fields hold -/
theorem q2_initial_state_inv (cap : Nat) (etag : Bytes) (a b c d e : Nat) (x y : Bool) :
    Q2Inv cap ⟨x, y, etag, a, b, c, [], d, e⟩ :=
  ⟨by simp [WfFrom], by simp, by intro k hk; simp [Covers] at hk⟩

/-- In every state with the invariant — so after ANY arrival sequence — a recovery request names only blocks whose offset
lies inside the body (`total_len`), never a block at or beyond its end, and only 20-bit numbers — for EVERY `total_len`
(whatever Size2 the peer announced: `coap_request_missing_q_block2` limits the length it works with to the 2^20 blocks a
Q-Block2 option can address, fix 00bcbc1). -/
theorem q2_recovery_inside_body (cap mp : Nat) (hmp : 0 < mp) (useM : Bool) (st : Q2State) (h : Q2Inv cap st) :
    ∀ q, q ∈ (reqMissingQ2 mp useM st.rs st.szx st.totalLen).1 →
      q.1 * 2 ^ (st.szx + 4) < st.totalLen ∧ q.1 < 2 ^ 20 :=
  inv_req_inside cap mp useM st h

/-- `coap_request_missing_q_block2` for EVERY `rec_blocks` (no invariant, no well-formedness), block size, `total_len`,
MAX_PAYLOADS ≥ 1, with and without the M variant: if the begins of the recorded ranges are 20-bit numbers (they are block
numbers `coap_get_block_b` delivered), every number the request names is a 20-bit number: the option always encodes. -/
theorem q2_recovery_numbers_20bit (mp : Nat) (hmp : 0 < mp) (useM : Bool) (rs : Ranges) (szx totalLen : Nat)
    (hr : ∀ r, r ∈ rs → r.1 < 2 ^ 20) :
    ∀ q, q ∈ (reqMissingQ2 mp useM rs szx totalLen).1 → q.1 < 2 ^ 20 := by
  intro q hq
  rcases reqMissingQ2_20bit mp useM rs szx totalLen q hq with ⟨r, hr', hlt⟩ | hl
  · exact Nat.lt_trans hlt (hr r hr')
  · exact hl

/-- EVERY request the Q-Block2 path of `coap_handle_response_get_block` sends — the recovery requests in front of
`update_received_blocks` and behind a complete payload set, and the `continue` request for the next payload set (NUM =
range[0].end + 1) — names only 20-bit block numbers, for every response (any NUM < 2^20, M, SZX, payload length, Size2, ETag,
Content-Format) in every state with the invariant, hence along ANY arrival sequence from the state after
`coap_block_new_lg_crcv` (`q2_initial_state_inv`, `q2_bookkeeping_invariant`).  Closes finding c02-qblock2-num-2e20. -/
theorem q2_requests_20bit (cap mp : Nat) (hmp : 0 < mp) (useM isNon : Bool) : ∀ (is : List Q2In) (st0 : Q2State),
    Q2Inv cap st0 → (∀ i, i ∈ is → i.num < 2 ^ 20) →
    ∀ (pre : List Q2In) (i : Q2In) (post : List Q2In), is = pre ++ i :: post →
      ∀ rq, rq ∈ (q2Step cap mp useM isNon (pre.foldl (fun st j => (q2Step cap mp useM isNon st j).1) st0) i).2.1 →
        ∀ q, q ∈ rq → q.1 < 2 ^ 20 := by
  intro is st0 h0 hn pre i post e
  subst e
  have hpre := q2_bookkeeping_invariant cap mp useM isNon pre st0 h0 (fun j hj => hn j (by simp [hj]))
  exact q2Step_req cap mp useM isNon _ i (hn i (by simp)) hpre

/-- `coap_send_q_blocks` (NON, datagram transport), for EVERY body length, block size, MAX_PAYLOADS ≥ 1, starting block and M:
the blocks that follow the caller's block are consecutive later numbers of ONE payload set (that of `num + 1`) — at most
MAX_PAYLOADS datagrams per burst —, each a block of the body (offset inside it, the body's M bit), and a 20-bit number as long
as the body has at most 2^20 blocks (coap_add_data_large_internal caps the length at MAX_BLK_LEN = (2^20 − 1)·1024 only). -/
theorem q2_burst_bounded (mp len szx num : Nat) (hmp : 0 < mp) (m : Bool) :
    ((sendQNon mp len szx num m).map Prod.fst).Pairwise (· < ·) ∧ (sendQNon mp len szx num m).length ≤ mp ∧
    ∀ x, x ∈ sendQNon mp len szx num m →
      num < x.1 ∧ x.1 * 2 ^ (szx + 4) < len ∧ x.2 = moreBit len x.1 szx ∧ x.1 / mp = (num + 1) / mp ∧
      (len ≤ 2 ^ 20 * 2 ^ (szx + 4) → x.1 < 2 ^ 20) := by
  unfold sendQNon
  by_cases hc : m = true ∧ (num + 1) % mp + 1 ≠ mp
  · rw [if_pos hc]
    obtain ⟨l, e1, e2, e3⟩ := sendQLoop_spec mp len szx hmp len num []
    rw [e1, List.nil_append]
    refine ⟨e2, ?_, ?_⟩
    · have := pairwise_one_set mp ((num + 1) / mp) hmp (l.map Prod.fst) e2 (fun x hx => by
        obtain ⟨y, hy, rfl⟩ := List.mem_map.mp hx
        exact (e3 y hy).2.2.2)
      simpa using this
    · intro x hx
      have := e3 x hx
      refine ⟨this.1, this.2.1, this.2.2.1, this.2.2.2, fun hle => ?_⟩
      have h1 : x.1 * 2 ^ (szx + 4) < 2 ^ 20 * 2 ^ (szx + 4) := Nat.lt_of_lt_of_le this.2.1 hle
      exact Nat.lt_of_mul_lt_mul_right h1
  · rw [if_neg hc]
    exact ⟨by simp, by simp, by intro x hx; cases hx⟩

example : reqMissingQ2 3 false [(0, 0), (5, 6)] 0 200 = ([(1, 0), (2, 0)], some 0) := by decide
example : reqMissingQ2 3 false [(0, 4)] 0 200 = ([(5, 0)], some 1) := by decide
example : reqMissingQ2 3 true [(0, 1)] 0 200 = ([(2, 1)], some 0) := by decide
example : sendQNon 3 100 0 0 true = [(1, 1), (2, 1)] ∧ sendQNon 3 100 0 2 true = [(3, 1), (4, 1), (5, 1)] ∧
    sendQNon 3 100 0 1 true = [] ∧ sendQNon 10 100 0 0 true = [(1, 1), (2, 1), (3, 1), (4, 1), (5, 1), (6, 0)] := by decide
example : Q2Inv 16 ⟨false, false, [], 100, 0, 0, [(0, 1), (4, 4)], 0, 0⟩ :=
  ⟨by simp [WfFrom], by simp, by
    intro k hk
    simp [Covers] at hk
    refine ⟨by omega, ?_⟩
    show k * 2 ^ (0 + 4) < 100
    omega⟩
/-- finding c02-qblock2-num-2e20 (fixed, 00bcbc1): with `total_len` > 2^20 blocks the M variant without the clamp
(`reqMissingQ2At`) asks for block 2^20, a 21-bit number; with it the length is limited and the gap in front is asked for -/
example : reqMissingQ2At 2 true [(1048575, 1048575)] 0 16777217 = ([(1048576, 1)], some 524288) := by decide
example : reqMissingQ2 2 true [(1048575, 1048575)] 0 16777217 = ([(0, 0), (1, 0)], some 0) := by decide
example : q2ClampLen 0 16777217 = 16777216 ∧ q2ClampLen 6 4294967295 = 1073741824 ∧ q2ClampLen 2 1000 = 1000 := by decide
/-- the same finding in the `continue` request: block 0xFFFFF (M=0) first, then 0xFFFFE (M=1): the payload set counts as complete,
the `continue` would name NUM = range[0].end + 1 = 2^20; behind block 0xFFFFF none is sent (the recovery request for blocks
0, 1, 2 in front stays) -/
example : (q2Step 16 3 false true (q2Step 16 3 false true ⟨true, false, [], 0, 0, 0, [], 0, 0⟩ ⟨1048575, 0, 0, 16, none, none, 0⟩).1
      ⟨1048574, 1, 0, 16, some 16777216, none, 0⟩).2 = ([[(0, 0), (1, 0), (2, 0)]], .skip) := by decide
/-- the one request that is NOT a recovery request — the `continue` for the next payload set, NUM = range[0].end + 1 — can name
a block BEYOND the body when a hostile server sends the last block first (documented behaviour, design/C02.md): body of 97
bytes = blocks 0..6; block 6 (M=0, 1 byte), then block 5 (M=1) → a recovery request for blocks 0, 1, 2 and a `continue` for block 7. -/
example : ((q2Step 16 3 false true ⟨true, false, [], 0, 0, 0, [], 0, 0⟩ ⟨6, 0, 0, 1, none, none, 0⟩).2.2 = .skip) ∧
    (q2Step 16 3 false true (q2Step 16 3 false true ⟨true, false, [], 0, 0, 0, [], 0, 0⟩ ⟨6, 0, 0, 1, none, none, 0⟩).1
      ⟨5, 1, 0, 16, some 97, none, 0⟩).2 = ([[(0, 0), (1, 0), (2, 0)], [(7, 1)]], .next) := by decide

end Coap.C02
