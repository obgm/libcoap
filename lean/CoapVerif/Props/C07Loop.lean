import CoapVerif.Props.C07Sim
/-
C07 — the server personalities `dn` (separate Non-confirmable response) and `da` (ACK-typed response with a message id
of its own).  For them the conclusion `nRsp + nNack ≤ 1` of `exactly_once_closed_loop_partial` is FALSE in M under its own
hypotheses (`RunOk`, `SysNoLate`, `SQuiet` with de-duplication): two concrete runs of the closed loop, first in this file.
The rest of the file proves what DOES hold for every run of `Sys` (`closed_loop_dn`, `closed_loop_da` and their corollaries).
Each of these is `exch_run` (Props/C07.lean: every schedule of the exchange, whatever the shape of the response) read on
the client's events of the run (`sys_exch`); the server side is `SInv` as for the other personalities (it covers all six).
-/
namespace Coap.C07
open Coap.Exch

/-! ### why `exactly_once_closed_loop_partial` excludes `dn` and `da` -/

def wDn : Server := { pers := .dn, dedup := true, D := 300, T := 2500, txMid := 5000 }
def wDa : Server := { pers := .da, dedup := true, D := 300, T := 2500, txMid := 5000 }

/-- `dn+` (separate Non-confirmable response): the network duplicates the response, both copies arrive within
    ACK_TIMEOUT, no NACK anywhere — every hypothesis of `exactly_once_closed_loop_partial` except `pers ≠ dn` holds,
    and the handler is called TWICE: a NON response is delivered once per datagram received (D3, the property's last
    clause), so "at most one conclusion" is not a theorem for this personality -/
theorem dn_duplicate_delivered_twice_witness :
    let r := respFor wDn wReq
    let es : List SysEv := [.toS 1000 1100 wReq, .toC 1100 1200 (emptyAck 1001) true, .sApp 1400,
                            .toC 1400 1500 r true, .toC 1400 1600 r true]
    SReq wReq ∧ SQuiet wDn wReq ∧ fresh {} r ∧
    (Sys.start {} wDn 1000 wReq 2000).RunOk ackTimeout es ∧ SysNoLate r (Sys.start {} wDn 1000 wReq 2000) es ∧
    nRsp ((Sys.start {} wDn 1000 wReq 2000).run es).2 = 2 ∧ nNack ((Sys.start {} wDn 1000 wReq 2000).run es).2 = 0 := by
  refine ⟨⟨by decide, by decide⟩, ⟨by decide, by decide, by decide, by decide, by decide⟩,
    ⟨fun _ => by decide, fun _ => by decide⟩, by decide, by decide, by decide, by decide⟩

/-- `da+` (the application answers with an ACK-typed message carrying a message id of its own — not a response style of
    RFC 7252, observation O5): the Empty ACK is lost, the ACK-typed response is delivered by token but, being an ACK
    with another message id, neither matches the request on the send queue nor cancels it by token; every
    retransmission is lost: response handler AND NACK handler, with no copy of the response after the NACK
    (`SysNoLate` holds) — "never both" is not a theorem for this personality -/
theorem da_response_then_nack_witness :
    let r := respFor wDa wReq
    let es : List SysEv := [.toS 1000 1100 wReq, .sApp 1400, .toC 1400 1500 r true,
                            .cTick 3000, .cTick 7000, .cTick 15000, .cTick 31000, .cTick 63000]
    SReq wReq ∧ SQuiet wDa wReq ∧ fresh {} r ∧
    (Sys.start {} wDa 1000 wReq 2000).RunOk ackTimeout es ∧ SysNoLate r (Sys.start {} wDa 1000 wReq 2000) es ∧
    nRsp ((Sys.start {} wDa 1000 wReq 2000).run es).2 = 1 ∧ nNack ((Sys.start {} wDa 1000 wReq 2000).run es).2 = 1 := by
  refine ⟨⟨by decide, by decide⟩, ⟨by decide, by decide, by decide, by decide, by decide⟩,
    ⟨fun _ => by decide, fun _ => by decide⟩, by decide, by decide, by decide, by decide⟩

def nDelivered (r : Dgram) (es : List SysEv) : Nat := es.countP (fun e => decide (isRspS r e))

theorem nDelivered_zero {r : Dgram} {es : List SysEv} : nDelivered r es = 0 ↔ ∀ e ∈ es, ¬ isRspS r e := by
  simp [nDelivered, List.countP_eq_zero]

theorem nDelivered_cevs (r : Dgram) (es : List SysEv) : nDelivered r es = nArr r (cevs es) := by
  unfold nDelivered nArr cevs
  rw [List.countP_filterMap]
  congr 1
  funext e
  cases e <;> rfl

theorem xnon_of_server {s0 : Server} {req : Dgram} (hr : SReq req) (hp : s0.pers = .dn) :
    Resp req (respFor s0 req) ∧ (respFor s0 req).type = .non := by
  refine ⟨⟨hr.hcon, ?_, ?_, ?_⟩, ?_⟩ <;> simp [respFor, hp, isResponse]

theorem xack_of_server {s0 : Server} {req : Dgram} (hr : SReq req) (hp : s0.pers = .da)
    (hm : (s0.txMid + 1) % 65536 ≠ req.mid) :
    Resp req (respFor s0 req) ∧ (respFor s0 req).type = .ack ∧ ¬ Cancels req (respFor s0 req) := by
  refine ⟨⟨hr.hcon, ?_, ?_, ?_⟩, ?_, fun h => hm ?_⟩
  · simp [respFor, hp, isResponse]
  · simp [respFor, hp]
  · simp [respFor, hp]
  · simp [respFor, hp]
  · have := h (by simp [respFor, hp])
    simpa [respFor, hp] using this


/-- **closed loop, separate Non-confirmable response (`dn`), every run** — de-duplicating server that answers with one NON
    message `r = respFor s0 req`; no `SysNoLate`, no freshness hypothesis:
    * the response handler is called exactly once per copy of `r` the network delivers (`nRsp = nDelivered`: one call per
      delivery event, never two for one — SPEC DECISION D3, the property's last clause, for whole runs of the loop);
    * the NACK handler is called at most once;
    * never a NACK after a copy of the response was delivered: however the run is split `es = pre ++ post`, if a copy of
      `r` is delivered in `pre`, `post` contains no NACK (the first copy cancels the request by token);
    * never neither once the client is quiet, except D5: send queue empty ⇒ a NACK, or a handler call, or a copy of the
      Empty ACK was delivered (and then every copy of the NON response was lost: the count says so). -/
theorem closed_loop_dn {req : Dgram} (hr : SReq req) (s0 : Server) (hq : SQuiet s0 req) (hp : s0.pers = .dn)
    (c0 : Client) (hidle : c0.L = Idle) (now0 T Δ : Nat) (es : List SysEv)
    (hok : (Sys.start c0 s0 now0 req T).RunOk Δ es) :
    nRsp ((Sys.start c0 s0 now0 req T).run es).2 = nDelivered (respFor s0 req) es ∧
    nNack ((Sys.start c0 s0 now0 req T).run es).2 ≤ 1 ∧
    (∀ pre post, es = pre ++ post → (∃ e ∈ pre, isRspS (respFor s0 req) e) →
      nNack (((Sys.start c0 s0 now0 req T).run pre).1.run post).2 = 0) ∧
    (((Sys.start c0 s0 now0 req T).run es).1.c.L.sendq = [] →
      nNack ((Sys.start c0 s0 now0 req T).run es).2 = 1 ∨ 1 ≤ nRsp ((Sys.start c0 s0 now0 req T).run es).2 ∨
      ∃ e ∈ es, isEAckS req e) := by
  obtain ⟨X, hnon⟩ := xnon_of_server hr hp
  have hcan : Cancels req (respFor s0 req) := fun h => absurd (hnon.symm.trans h) (by decide)
  have hj := start_JG hr s0 c0 hidle now0 T
  obtain ⟨_, x⟩ := sys_exch X hr hq rfl Δ es _ hj hok
  have hR := x.calls_non hnon
  refine ⟨hR.trans (nDelivered_cevs _ es).symm, x.nack, ?_, fun hq' => ?_⟩
  · -- a copy of the response in `pre` leaves the layer idle, and an idle layer raises no NACK
    intro pre post hsplit hex
    obtain ⟨ce, hce, hi⟩ := (exists_cevs (rspS_cev _) pre).mp hex
    exact sys_ends_quiet X hr hq rfl Δ pre post _ hj (hsplit ▸ hok) ⟨ce, hce, Or.inr ⟨hcan, hi⟩⟩
  · rcases x.leave (start_shape hr.hcon c0 hidle now0 T).2.1 (idle_of_sendq_nil x.shape hq') with
      h | ⟨ce, hce, h | ⟨_, h⟩⟩
    · exact Or.inl h
    · exact Or.inr (Or.inr (eackS_cevs.mpr ⟨ce, hce, h⟩))
    · refine Or.inr (Or.inl ?_)
      rw [hR]
      exact Nat.pos_of_ne_zero (nArr_ne_zero hce h)

/-- `dn`, given that no copy of the response is delivered after the give-up (`SysNoLate`, the open finding excluded): **never
    both** — a NACK means the response handler was never called; with the count of `closed_loop_dn`: the request concludes
    by its NACK alone, or by one handler call per delivered copy of the response and no NACK. -/
theorem closed_loop_dn_never_both {req : Dgram} (hr : SReq req) (s0 : Server) (hq : SQuiet s0 req) (hp : s0.pers = .dn)
    (c0 : Client) (hidle : c0.L = Idle) (now0 T Δ : Nat) (es : List SysEv)
    (hok : (Sys.start c0 s0 now0 req T).RunOk Δ es)
    (hlate : SysNoLate (respFor s0 req) (Sys.start c0 s0 now0 req T) es) :
    nNack ((Sys.start c0 s0 now0 req T).run es).2 = 1 → nRsp ((Sys.start c0 s0 now0 req T).run es).2 = 0 := by
  intro hk
  obtain ⟨X, hnon⟩ := xnon_of_server hr hp
  obtain ⟨_, x⟩ := sys_exch X hr hq rfl Δ es _ (start_JG hr s0 c0 hidle now0 T) hok
  rw [x.calls_non hnon]
  exact x.nolate (fun h => absurd (hnon.symm.trans h) (by decide)) ((sysNoLate_cevs _ es _).mp hlate) (hk ▸ Nat.one_pos)

/-- **closed loop, ACK-typed response with a message id of its own (`da`, observation O5), every run** — response message
    id ≠ request message id, `last_ack_mid` does not hold that id at the start; no `SysNoLate`:
    * the response handler is called at most once, and exactly once iff a copy of the response is delivered
      (`nRsp = min 1 nDelivered`: `last_ack_mid` filters every later copy, however late);
    * the NACK handler is called at most once;
    * never a NACK after a copy of the Empty ACK was delivered (any split `es = pre ++ post`);
    * the client is quiet ⇒ NACK, or a copy of the Empty ACK was delivered.
    So response AND NACK (`da_response_then_nack_witness`) happens exactly when a copy of the response is delivered and
    the request is given up (`closed_loop_da_both_iff`), and the give-up requires that no copy of the Empty ACK reached the
    client before it. -/
theorem closed_loop_da {req : Dgram} (hr : SReq req) (s0 : Server) (hq : SQuiet s0 req) (hp : s0.pers = .da)
    (hm : (s0.txMid + 1) % 65536 ≠ req.mid) (c0 : Client) (hidle : c0.L = Idle) (hfresh : fresh c0 (respFor s0 req))
    (now0 T Δ : Nat) (es : List SysEv) (hok : (Sys.start c0 s0 now0 req T).RunOk Δ es) :
    nRsp ((Sys.start c0 s0 now0 req T).run es).2 = min 1 (nDelivered (respFor s0 req) es) ∧
    nNack ((Sys.start c0 s0 now0 req T).run es).2 ≤ 1 ∧
    (∀ pre post, es = pre ++ post → (∃ e ∈ pre, isEAckS req e) →
      nNack (((Sys.start c0 s0 now0 req T).run pre).1.run post).2 = 0) ∧
    (((Sys.start c0 s0 now0 req T).run es).1.c.L.sendq = [] →
      nNack ((Sys.start c0 s0 now0 req T).run es).2 = 1 ∨ ∃ e ∈ es, isEAckS req e) := by
  obtain ⟨X, hack, hcan⟩ := xack_of_server hr hp hm
  have hnn : (respFor s0 req).type ≠ .non := fun h => absurd (hack.symm.trans h) (by decide)
  have hj := start_JG hr s0 c0 hidle now0 T
  obtain ⟨_, hne, hf⟩ := start_shape hr.hcon c0 hidle now0 T
  obtain ⟨_, x⟩ := sys_exch X hr hq rfl Δ es _ hj hok
  refine ⟨(x.calls_min hnn (hf _ hfresh)).trans (by rw [nDelivered_cevs]), x.nack, ?_, fun hq' => ?_⟩
  · -- a copy of the Empty ACK in `pre` leaves the layer idle, and an idle layer raises no NACK
    intro pre post hsplit hex
    obtain ⟨ce, hce, hi⟩ := eackS_cevs.mp hex
    exact sys_ends_quiet X hr hq rfl Δ pre post _ hj (hsplit ▸ hok) ⟨ce, hce, Or.inl hi⟩
  · rcases x.leave hne (idle_of_sendq_nil x.shape hq') with h | ⟨ce, hce, h | ⟨h, _⟩⟩
    · exact Or.inl h
    · exact Or.inr (eackS_cevs.mpr ⟨ce, hce, h⟩)
    · exact absurd h hcan

/-- `da`: **both** a handler call and a NACK iff a copy of the response was delivered and the request was given up -/
theorem closed_loop_da_both_iff {req : Dgram} (hr : SReq req) (s0 : Server) (hq : SQuiet s0 req) (hp : s0.pers = .da)
    (hm : (s0.txMid + 1) % 65536 ≠ req.mid) (c0 : Client) (hidle : c0.L = Idle) (hfresh : fresh c0 (respFor s0 req))
    (now0 T Δ : Nat) (es : List SysEv) (hok : (Sys.start c0 s0 now0 req T).RunOk Δ es) :
    nRsp ((Sys.start c0 s0 now0 req T).run es).2 + nNack ((Sys.start c0 s0 now0 req T).run es).2 ≤ 2 ∧
    (nRsp ((Sys.start c0 s0 now0 req T).run es).2 + nNack ((Sys.start c0 s0 now0 req T).run es).2 = 2 ↔
      (∃ e ∈ es, isRspS (respFor s0 req) e) ∧ nNack ((Sys.start c0 s0 now0 req T).run es).2 = 1) := by
  obtain ⟨a1, a2, _, _⟩ := closed_loop_da hr s0 hq hp hm c0 hidle hfresh now0 T Δ es hok
  have hz := @nDelivered_zero (respFor s0 req) es
  refine ⟨by omega, ?_, ?_⟩
  · intro h
    refine ⟨?_, by omega⟩
    apply Classical.byContradiction
    intro hne
    have : nDelivered (respFor s0 req) es = 0 := hz.mpr (fun e he hi => hne ⟨e, he, hi⟩)
    omega
  · rintro ⟨⟨e, he, hi⟩, hk⟩
    have : nDelivered (respFor s0 req) es ≠ 0 := fun h0 => hz.mp h0 e he hi
    omega

/-- `da`: **at most one conclusion** as soon as a copy of the Empty ACK reaches the client before any give-up — i.e. "both"
    needs every Empty ACK transmitted before the give-up to be lost -/
theorem closed_loop_da_at_most_once {req : Dgram} (hr : SReq req) (s0 : Server) (hq : SQuiet s0 req) (hp : s0.pers = .da)
    (hm : (s0.txMid + 1) % 65536 ≠ req.mid) (c0 : Client) (hidle : c0.L = Idle) (hfresh : fresh c0 (respFor s0 req))
    (now0 T Δ : Nat) (pre post : List SysEv) (hok : (Sys.start c0 s0 now0 req T).RunOk Δ (pre ++ post))
    (hea : ∃ e ∈ pre, isEAckS req e) (hno : nNack ((Sys.start c0 s0 now0 req T).run pre).2 = 0) :
    nRsp ((Sys.start c0 s0 now0 req T).run (pre ++ post)).2 + nNack ((Sys.start c0 s0 now0 req T).run (pre ++ post)).2 ≤ 1 := by
  obtain ⟨a1, _, a3, _⟩ := closed_loop_da hr s0 hq hp hm c0 hidle hfresh now0 T Δ (pre ++ post) hok
  have := a3 pre post rfl hea
  have hsplit : nNack ((Sys.start c0 s0 now0 req T).run (pre ++ post)).2 =
      nNack ((Sys.start c0 s0 now0 req T).run pre).2 + nNack (((Sys.start c0 s0 now0 req T).run pre).1.run post).2 := by
    rw [Sys.run_append]; simp only [nNack_append]
  omega

/-- `da` whose message id COINCIDES with the request's (`txMid + 1 = req.mid`): the message is a piggybacked response
    (`Exchange` holds), so the conclusion of `exactly_once_closed_loop_partial` holds verbatim — partial for the same reason
    (`SysNoLate`). -/
theorem closed_loop_da_same_mid_partial {req : Dgram} (hr : SReq req) (s0 : Server) (hq : SQuiet s0 req) (hp : s0.pers = .da)
    (hm : (s0.txMid + 1) % 65536 = req.mid) (c0 : Client) (hidle : c0.L = Idle) (hfresh : fresh c0 (respFor s0 req))
    (now0 T Δ : Nat) (es : List SysEv) (hok : (Sys.start c0 s0 now0 req T).RunOk Δ es)
    (hlate : SysNoLate (respFor s0 req) (Sys.start c0 s0 now0 req T) es) :
    nRsp ((Sys.start c0 s0 now0 req T).run es).2 + nNack ((Sys.start c0 s0 now0 req T).run es).2 ≤ 1 ∧
    (((Sys.start c0 s0 now0 req T).run es).1.c.L.sendq = [] →
      nRsp ((Sys.start c0 s0 now0 req T).run es).2 + nNack ((Sys.start c0 s0 now0 req T).run es).2 = 1 ∨
      ∀ e ∈ es, ¬ isRspS (respFor s0 req) e) := by
  have X : Exchange req (respFor s0 req) := by
    refine ⟨hr.hcon, ?_, ?_, ?_, ?_⟩ <;> simp [respFor, hp, isResponse]
    exact hm
  exact closed_loop_of_exchange hr s0 hq X c0 hidle hfresh now0 T Δ es hok hlate

theorem nDelivered_erase (r : Dgram) (es : List SysEv) : nDelivered r (es.map SysEv.erase) = nDelivered r es := by
  rw [nDelivered_cevs, nDelivered_cevs, cevs_erase]


theorem isEAckS_erase (req : Dgram) (es : List SysEv) :
    (∃ e ∈ es.map SysEv.erase, isEAckS req e) ↔ ∃ e ∈ es, isEAckS req e := by
  rw [eackS_cevs, eackS_cevs, cevs_erase]


/-- **`closed_loop_dn` read on `Sim.run`**: one Confirmable request to a `dn+` server, every scripted delay below `Δ`: the
    trace gains exactly one `rsp@` entry per delivery of the NON response among the events of the run, at most one `nack@`
    entry, and when the client is quiet at the end it holds a `nack@`, an `rsp@`, or a copy of the Empty ACK was delivered -/
theorem sim_closed_loop_dn {Δ : Nat} {sim : Sim} (h : SimStart Δ sim) (hp : sim.s.pers = .dn) (fuel : Nat) :
    simRsp (Sim.run (fuel + 1) sim) =
      simRsp sim + nDelivered (respFor sim.s (firstReq sim)) (simEvents fuel (firstSend sim)) ∧
    simNack (Sim.run (fuel + 1) sim) ≤ simNack sim + 1 ∧
    ((Sim.run (fuel + 1) sim).c.L.sendq = [] →
      simNack (Sim.run (fuel + 1) sim) = simNack sim + 1 ∨ simRsp sim + 1 ≤ simRsp (Sim.run (fuel + 1) sim) ∨
      ∃ e ∈ simEvents fuel (firstSend sim), isEAckS (firstReq sim) e) := by
  obtain ⟨_, es, a1, a2, a3, a4, a5⟩ := sim_run_is_sys_run h fuel
  obtain ⟨b1, b2, _, b4⟩ := closed_loop_dn h.hreq sim.s h.hq hp sim.c h.hc sim.now sim.cT Δ es a2
  rw [← a1, nDelivered_erase]
  refine ⟨by omega, by omega, fun hq => ?_⟩
  rw [← a3.hc] at hq
  rcases b4 hq with b | b | b
  · left; omega
  · right; left; omega
  · right; right; exact (isEAckS_erase _ es).mpr b

/-- **`closed_loop_dn_never_both` read on `Sim.run`** (no response copy delivered after the NACK among the events of the run):
    a `nack@` entry excludes any `rsp@` entry -/
theorem sim_closed_loop_dn_never_both {Δ : Nat} {sim : Sim} (h : SimStart Δ sim) (hp : sim.s.pers = .dn) (fuel : Nat)
    (hlate : SysNoLate (respFor sim.s (firstReq sim)) (Sys.start sim.c sim.s sim.now (firstReq sim) sim.cT)
      (simEvents fuel (firstSend sim))) :
    simNack (Sim.run (fuel + 1) sim) = simNack sim + 1 → simRsp (Sim.run (fuel + 1) sim) = simRsp sim := by
  obtain ⟨_, es, a1, a2, a3, a4, a5⟩ := sim_run_is_sys_run h fuel
  have hl : SysNoLate (respFor sim.s (firstReq sim)) (Sys.start sim.c sim.s sim.now (firstReq sim) sim.cT) es := by
    rw [← a1] at hlate; exact (sysNoLate_erase _ es _).mp hlate
  intro hk
  have := closed_loop_dn_never_both h.hreq sim.s h.hq hp sim.c h.hc sim.now sim.cT Δ es a2 hl (by omega)
  omega

/-- **`closed_loop_da` read on `Sim.run`**: `da+` server whose response message id differs from the request's: at most one
    `rsp@` entry — exactly one iff a copy of the response is delivered among the events of the run —, at most one `nack@`
    entry, and a quiet client has a `nack@` entry or received a copy of the Empty ACK -/
theorem sim_closed_loop_da {Δ : Nat} {sim : Sim} (h : SimStart Δ sim) (hp : sim.s.pers = .da)
    (hm : (sim.s.txMid + 1) % 65536 ≠ (firstReq sim).mid) (hfresh : fresh sim.c (respFor sim.s (firstReq sim)))
    (fuel : Nat) :
    simRsp (Sim.run (fuel + 1) sim) =
      simRsp sim + min 1 (nDelivered (respFor sim.s (firstReq sim)) (simEvents fuel (firstSend sim))) ∧
    simNack (Sim.run (fuel + 1) sim) ≤ simNack sim + 1 ∧
    ((Sim.run (fuel + 1) sim).c.L.sendq = [] →
      simNack (Sim.run (fuel + 1) sim) = simNack sim + 1 ∨
      ∃ e ∈ simEvents fuel (firstSend sim), isEAckS (firstReq sim) e) := by
  obtain ⟨_, es, a1, a2, a3, a4, a5⟩ := sim_run_is_sys_run h fuel
  obtain ⟨b1, b2, _, b4⟩ := closed_loop_da h.hreq sim.s h.hq hp hm sim.c h.hc hfresh sim.now sim.cT Δ es a2
  rw [← a1, nDelivered_erase]
  refine ⟨by omega, by omega, fun hq => ?_⟩
  rw [← a3.hc] at hq
  rcases b4 hq with b | b
  · left; omega
  · right; exact (isEAckS_erase _ es).mpr b

/-! ### the hypotheses are satisfiable (concrete non-trivial instances, by evaluation) -/

/-- `closed_loop_dn`: Empty ACK, then the NON response delivered twice ⇒ two handler calls, no NACK; splitting before the
    second copy, the prefix contains a delivery of the response -/
example :
    let r := respFor wDn wReq
    let pre : List SysEv := [.toS 1000 1100 wReq, .toC 1100 1200 (emptyAck 1001) true, .sApp 1400, .toC 1400 1500 r true]
    let post : List SysEv := [.toC 1400 1600 r true, .cTick 3000]
    SReq wReq ∧ SQuiet wDn wReq ∧ wDn.pers = .dn ∧
    (Sys.start {} wDn 1000 wReq 2000).RunOk ackTimeout (pre ++ post) ∧ (∃ e ∈ pre, isRspS r e) ∧
    nDelivered r (pre ++ post) = 2 ∧ nRsp ((Sys.start {} wDn 1000 wReq 2000).run (pre ++ post)).2 = 2 ∧
    (∃ e ∈ pre ++ post, isEAckS wReq e) := by
  refine ⟨⟨by decide, by decide⟩, ⟨by decide, by decide, by decide, by decide, by decide⟩, by decide, by decide, by decide,
    by decide, by decide, by decide⟩

/-- `closed_loop_dn_never_both`: every datagram lost ⇒ `SysNoLate` holds, one NACK, no handler call, client quiet -/
example :
    let es : List SysEv := [.cTick 3000, .cTick 7000, .cTick 15000, .cTick 31000, .cTick 63000]
    (Sys.start {} wDn 1000 wReq 2000).RunOk ackTimeout es ∧
    SysNoLate (respFor wDn wReq) (Sys.start {} wDn 1000 wReq 2000) es ∧
    nNack ((Sys.start {} wDn 1000 wReq 2000).run es).2 = 1 ∧ nRsp ((Sys.start {} wDn 1000 wReq 2000).run es).2 = 0 ∧
    ((Sys.start {} wDn 1000 wReq 2000).run es).1.c.L.sendq = [] := by
  refine ⟨by decide, by decide, by decide, by decide, by decide⟩

/-- `closed_loop_da` / `closed_loop_da_both_iff`: the run of `da_response_then_nack_witness` — foreign message id, a copy of
    the response delivered, no Empty ACK delivered, the request given up ⇒ both -/
example :
    let r := respFor wDa wReq
    let es : List SysEv := [.toS 1000 1100 wReq, .sApp 1400, .toC 1400 1500 r true,
                            .cTick 3000, .cTick 7000, .cTick 15000, .cTick 31000, .cTick 63000]
    SReq wReq ∧ SQuiet wDa wReq ∧ wDa.pers = .da ∧ (wDa.txMid + 1) % 65536 ≠ wReq.mid ∧ fresh {} r ∧
    (Sys.start {} wDa 1000 wReq 2000).RunOk ackTimeout es ∧ (∃ e ∈ es, isRspS r e) ∧ ¬ (∃ e ∈ es, isEAckS wReq e) ∧
    nRsp ((Sys.start {} wDa 1000 wReq 2000).run es).2 = 1 ∧ nNack ((Sys.start {} wDa 1000 wReq 2000).run es).2 = 1 := by
  refine ⟨⟨by decide, by decide⟩, ⟨by decide, by decide, by decide, by decide, by decide⟩, by decide, by decide,
    ⟨fun _ => by decide, fun _ => by decide⟩, by decide, by decide, by decide, by decide, by decide⟩

/-- `closed_loop_da_at_most_once`: the Empty ACK is delivered before any give-up ⇒ one conclusion (the response, delivered
    twice, handed to the application once) -/
example :
    let r := respFor wDa wReq
    let pre : List SysEv := [.toS 1000 1100 wReq, .toC 1100 1200 (emptyAck 1001) true]
    let post : List SysEv := [.sApp 1400, .toC 1400 1500 r true, .toC 1400 1600 r true, .cTick 3000, .cTick 63000]
    (Sys.start {} wDa 1000 wReq 2000).RunOk ackTimeout (pre ++ post) ∧ (∃ e ∈ pre, isEAckS wReq e) ∧
    nNack ((Sys.start {} wDa 1000 wReq 2000).run pre).2 = 0 ∧ nDelivered r (pre ++ post) = 2 ∧
    nRsp ((Sys.start {} wDa 1000 wReq 2000).run (pre ++ post)).2 = 1 ∧
    nNack ((Sys.start {} wDa 1000 wReq 2000).run (pre ++ post)).2 = 0 := by
  refine ⟨by decide, by decide, by decide, by decide, by decide, by decide⟩

/-- `closed_loop_da_same_mid_partial`: the server's next message id happens to be the request's -/
def wDaS : Server := { pers := .da, dedup := true, D := 300, T := 2500, txMid := 1000 }

example :
    let r := respFor wDaS wReq
    let es : List SysEv := [.toS 1000 1100 wReq, .sApp 1400, .toC 1400 1500 r true, .cTick 3000]
    SQuiet wDaS wReq ∧ (wDaS.txMid + 1) % 65536 = wReq.mid ∧ fresh {} r ∧
    (Sys.start {} wDaS 1000 wReq 2000).RunOk ackTimeout es ∧ SysNoLate r (Sys.start {} wDaS 1000 wReq 2000) es ∧
    nRsp ((Sys.start {} wDaS 1000 wReq 2000).run es).2 = 1 ∧ nNack ((Sys.start {} wDaS 1000 wReq 2000).run es).2 = 0 ∧
    ((Sys.start {} wDaS 1000 wReq 2000).run es).1.c.L.sendq = [] := by
  refine ⟨⟨by decide, by decide, by decide, by decide, by decide⟩, by decide, ⟨fun _ => by decide, fun _ => by decide⟩,
    by decide, by decide, by decide, by decide, by decide⟩

/-- `sim_closed_loop_dn`: `xchg dn+ 300 1000 5000 … q C1 - d100,d100,u100+300` — request and Empty ACK delivered, the NON
    response duplicated: two `rsp@` entries, two deliveries among the events of the run -/
def wSimDn : Sim :=
  { s := wDn, cT := 2000, cmid := 1000, eager := false,
    fates := [.deliver 100, .deliver 100, .dup 100 300], verdicts := [],
    reqs := [{ con := true, method := 1, token := [0xc0, 7] }] }

set_option maxRecDepth 8000 in
example :
    SimStart ackTimeout wSimDn ∧ wSimDn.s.pers = .dn ∧
    nDelivered (respFor wSimDn.s (firstReq wSimDn)) (simEvents 30 (firstSend wSimDn)) = 2 ∧
    simRsp (Sim.run 31 wSimDn) = 2 ∧ simNack (Sim.run 31 wSimDn) = 0 ∧ (Sim.run 31 wSimDn).c.L.sendq = [] := by
  refine ⟨⟨by decide, by decide, rfl, rfl, rfl, rfl, ⟨by decide, by decide⟩, ⟨by decide, by decide, by decide, by decide, by decide⟩⟩,
    by decide, by decide, by decide, by decide, by decide⟩

/-- `sim_closed_loop_da`: `xchg da+ 300 1000 5000 … q C1 - d100,x,d100,x,x,x,x` — the Empty ACK and every retransmission
    lost, the ACK-typed response delivered: one `rsp@` AND one `nack@` entry (O5) -/
def wSimDa : Sim :=
  { s := wDa, cT := 2000, cmid := 1000, eager := false,
    fates := [.deliver 100, .drop, .deliver 100, .drop, .drop, .drop, .drop], verdicts := [],
    reqs := [{ con := true, method := 1, token := [0xc0, 7] }] }

set_option maxRecDepth 8000 in
example :
    SimStart ackTimeout wSimDa ∧ wSimDa.s.pers = .da ∧ (wSimDa.s.txMid + 1) % 65536 ≠ (firstReq wSimDa).mid ∧
    fresh wSimDa.c (respFor wSimDa.s (firstReq wSimDa)) ∧
    nDelivered (respFor wSimDa.s (firstReq wSimDa)) (simEvents 40 (firstSend wSimDa)) = 1 ∧
    simRsp (Sim.run 41 wSimDa) = 1 ∧ simNack (Sim.run 41 wSimDa) = 1 ∧ (Sim.run 41 wSimDa).c.L.sendq = [] := by
  refine ⟨⟨by decide, by decide, rfl, rfl, rfl, rfl, ⟨by decide, by decide⟩, ⟨by decide, by decide, by decide, by decide, by decide⟩⟩,
    by decide, by decide, ⟨fun _ => by decide, fun _ => by decide⟩, by decide, by decide, by decide,
    by decide⟩

end Coap.C07
