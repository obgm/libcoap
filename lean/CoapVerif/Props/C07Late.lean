import CoapVerif.Props.C07
/-
C07, complement of `exactly_once_partial` / `concludes_when_quiet_partial`: the case their hypothesis `NoLate` excludes,
characterised exactly through `lateArrivals` (Props/C07; `lateArrivals = 0 ↔ NoLate`).  So in M the open finding
`unsolicited_response_delivered` is the only way "exactly once" fails for a server that answers with one response message.
-/
namespace Coap.C07
open Coap.Exch

theorem first_split {α : Type} {P : α → Prop} : ∀ (l : List α), (∃ x ∈ l, P x) →
    ∃ pre x post, l = pre ++ x :: post ∧ P x ∧ ∀ y ∈ pre, ¬ P y := by
  intro l
  induction l with
  | nil => rintro ⟨_, h, _⟩; cases h
  | cons a l ih =>
    rintro ⟨x, hx, hp⟩
    by_cases ha : P a
    · exact ⟨[], a, l, rfl, ha, fun _ h => absurd h List.not_mem_nil⟩
    · obtain ⟨pre, x', post, h1, h2, h3⟩ := ih ⟨x, (List.mem_cons.mp hx).resolve_left (fun h => ha (h ▸ hp)), hp⟩
      refine ⟨a :: pre, x', post, by rw [h1]; rfl, h2, fun y hy => ?_⟩
      rcases List.mem_cons.mp hy with rfl | hy
      · exact ha
      · exact h3 y hy

/-- The first late copy is the first copy of the schedule at all — an earlier one would have left the layer idle, and an idle
    layer raises no NACK —, so the schedule is cut there and `exch_run` on the part before says the rest. -/
theorem run_late {req r : Dgram} (X : Exchange req r) (es : List CEvent) (c : Client) (hs : CShape req c)
    (hf : fresh c r) (hes : ∀ e ∈ es, ExEv req r e) (hL : lateArrivals r c es ≠ 0) :
    ∃ pre now ok post tl, es = pre ++ .rx now r ok :: post ∧
      nNack (Client.run c pre).2 = 1 ∧ nRsp (Client.run c pre).2 = 0 ∧ (Client.run c pre).1.L = Idle ∧
      ((Client.run c pre).1.step (.rx now r ok)).2 = Out.callResponse r ok :: tl := by
  obtain ⟨hk, hA⟩ := lateArrivals_pos r es c hL
  obtain ⟨pre, x, post, rfl, hx, hpre⟩ := first_split es
    (Classical.byContradiction fun h => hA (nArr_zero.mpr fun e he hi => h ⟨e, he, hi⟩))
  have xp := exch_run X.resp pre c hs (fun e h => hes e (List.mem_append_left _ h))
  have hA0 : nArr r pre = 0 := nArr_zero.mpr hpre
  cases hes x (List.mem_append_right _ (List.mem_cons_self ..)) with
  | tick now => exact hx.elim
  | emptyAck now ok => exact absurd hx (emptyAck_ne_response X.hr req.mid)
  | response now ok =>
    -- the arrival leaves the layer idle and an idle layer raises no NACK: the NACK of the schedule was raised before it
    have xs := xstep X.resp _ xp.shape _ (.response now ok)
    obtain ⟨hI, h0⟩ := xs.ends (Or.inr ⟨X.cancels, rfl⟩)
    have hpost := ((exch_run X.resp post _ xs.shape
      (fun e h => hes e (List.mem_append_right _ (List.mem_cons_of_mem _ h)))).idle hI).2
    rw [Client.run_append, nNack_append, Client.run_cons, nNack_append, h0, hpost] at hk
    obtain ⟨tl, htl⟩ := xs.out now ok rfl (xp.fresh'.mpr ⟨hf, Or.inl hA0⟩)
    exact ⟨pre, now, ok, post, tl, rfl, Nat.le_antisymm xp.nack hk, (xp.calls_min X.not_non hf).trans (by rw [hA0]; rfl),
      xp.nackIdle hk, htl⟩

/-- the count of conclusions from the count of arrivals `A`, late arrivals `L`, handler calls `a`, NACKs `k` -/
theorem late_arith {a k A L : Nat} (hR : a = min 1 A) (hk : k ≤ 1) (h0 : L = 0 → 0 < k → A = 0)
    (h1 : L ≠ 0 → 1 ≤ k ∧ A ≠ 0) : a + k ≤ 1 + L ∧ a ≤ 1 ∧ k ≤ 1 ∧ (a + k = 2 ↔ 0 < L) := by
  rcases min_one_cases A with ⟨hA, hm⟩ | ⟨hA, hm⟩ <;> rw [hm] at hR <;> subst hR
  · have hz : L = 0 := Decidable.byContradiction fun h => (h1 h).2 hA
    subst hz
    exact ⟨by omega, Nat.zero_le 1, hk, by omega⟩
  · by_cases hz : L = 0
    · have hk0 : k = 0 := (Nat.eq_zero_or_pos k).resolve_right (fun h => hA (h0 hz h))
      subst hz hk0
      exact ⟨Nat.le_refl 1, Nat.le_refl 1, hk, by omega⟩
    · have hk1 : k = 1 := Nat.le_antisymm hk (h1 hz).1
      subst hk1
      exact ⟨by omega, Nat.le_refl 1, hk, by omega⟩

/-- **The open finding is the ONLY way exactly-once fails in M** (complement of `exactly_once_partial`: no `NoLate`).
    A Confirmable request sent from a quiet session, every schedule of the exchange (`ExEv`; late copies
    included): the number of conclusions is at most `1 + lateArrivals`; never more than one NACK, never more than one handler call,
    never more than 2 in total, and exactly 2 iff there is a late copy. -/
theorem conclusions_bounded_by_late_responses {req r : Dgram} (X : Exchange req r) (c0 : Client) (hidle : c0.L = Idle)
    (hfresh : fresh c0 r) (now0 T : Nat) (es : List CEvent) (hes : ∀ e ∈ es, ExEv req r e) :
    nRsp (Client.run c0 (.appSend now0 req T :: es)).2 + nNack (Client.run c0 (.appSend now0 req T :: es)).2 ≤
      1 + lateArrivals r (c0.appSend now0 req T).1 es ∧
    nRsp (Client.run c0 (.appSend now0 req T :: es)).2 ≤ 1 ∧ nNack (Client.run c0 (.appSend now0 req T :: es)).2 ≤ 1 ∧
    (nRsp (Client.run c0 (.appSend now0 req T :: es)).2 + nNack (Client.run c0 (.appSend now0 req T :: es)).2 = 2 ↔
      0 < lateArrivals r (c0.appSend now0 req T).1 es) := by
  obtain ⟨_, e2, e3⟩ := run_start X.hreq c0 hidle now0 T es
  obtain ⟨hs, _, hf⟩ := start_shape X.hreq c0 hidle now0 T
  have x := exch_run X.resp es _ hs hes
  rw [e2, e3]
  -- without a late copy a NACK excludes any arrival of the response; with one there are a NACK and an arrival
  exact late_arith (x.calls_min X.not_non (hf r hfresh)) x.nack
    (fun hz => x.nolate X.cancels ((lateArrivals_zero_iff_noLate r es _).mp hz))
    (lateArrivals_pos r es _)


/-- **With a late response the count is exactly 2, and the second conclusion is a handler call for an exchange that has
    already concluded**: if a copy of the response arrives after the NACK, the schedule splits at the FIRST such copy
    `es = pre ++ rx now r ok :: post`; at the end of `pre` the request has concluded by its NACK (one NACK, no handler
    call) and is off the wire (layer idle: nothing with the request's token on the send queue, NSTART slot free); the
    arrival then calls the response handler with `r`, a message carrying the token of that concluded request — the client
    keeps no record of outstanding tokens (`unsolicited_response_delivered`).  Nothing else is reported, before or after:
    the totals are one NACK and one handler call. -/
theorem late_response_is_second_conclusion {req r : Dgram} (X : Exchange req r) (c0 : Client) (hidle : c0.L = Idle)
    (hfresh : fresh c0 r) (now0 T : Nat) (es : List CEvent) (hes : ∀ e ∈ es, ExEv req r e)
    (hlate : 0 < lateArrivals r (c0.appSend now0 req T).1 es) :
    nRsp (Client.run c0 (.appSend now0 req T :: es)).2 = 1 ∧ nNack (Client.run c0 (.appSend now0 req T :: es)).2 = 1 ∧
    r.token = req.token ∧
    ∃ pre now ok post tl, es = pre ++ .rx now r ok :: post ∧
      nNack (Client.run c0 (.appSend now0 req T :: pre)).2 = 1 ∧ nRsp (Client.run c0 (.appSend now0 req T :: pre)).2 = 0 ∧
      (Client.run c0 (.appSend now0 req T :: pre)).1.L = Idle ∧
      ((Client.run c0 (.appSend now0 req T :: pre)).1.step (.rx now r ok)).2 = Out.callResponse r ok :: tl := by
  obtain ⟨hs, _, hf⟩ := start_shape X.hreq c0 hidle now0 T
  obtain ⟨pre, now, ok, post, tl, d1, d2, d3, d4, d5⟩ := run_late X es _ hs (hf r hfresh) hes (Nat.ne_of_gt hlate)
  obtain ⟨_, b2, b3, b4⟩ := conclusions_bounded_by_late_responses X c0 hidle hfresh now0 T es hes
  have hsum := b4.mpr hlate
  obtain ⟨f1, f2, f3⟩ := run_start X.hreq c0 hidle now0 T pre
  refine ⟨by omega, by omega, X.htok, pre, now, ok, post, tl, d1, ?_⟩
  rw [f1, f2, f3]
  exact ⟨d2, d3, d4, d5⟩


/-- non-vacuity and sharpness: the run of `late_response_after_nack_witness` with TWO late copies of the separate
    response — `lateArrivals = 2`, the hypotheses hold, one NACK and one handler call (the second late copy is filtered
    by `last_con_mid`): the bound `1 + lateArrivals` is not attained beyond 2; and a schedule without a late copy
    (`lateArrivals = 0`, i.e. `NoLate`) -/
example :
    let es : List CEvent := [.tick 3000, .tick 7000, .tick 15000, .tick 31000, .tick 63000, .rx 76001 (wRsp 5001) true,
                             .tick 80000, .rx 90000 (wRsp 5001) true]
    Exchange wReq (wRsp 5001) ∧ (∀ e ∈ es, ExEv wReq (wRsp 5001) e) ∧
    lateArrivals (wRsp 5001) (({} : Client).appSend 1000 wReq 2000).1 es = 2 ∧
    nRsp (Client.run {} (.appSend 1000 wReq 2000 :: es)).2 = 1 ∧ nNack (Client.run {} (.appSend 1000 wReq 2000 :: es)).2 = 1 ∧
    lateArrivals (wRsp 5001) (({} : Client).appSend 1000 wReq 2000).1 [.tick 3000, .rx 3500 (wRsp 5001) true, .tick 99000] = 0 := by
  exact ⟨⟨rfl, by decide, rfl, Or.inr rfl, fun h => by cases h⟩, by decide, by decide, by decide, by decide, by decide⟩

end Coap.C07
