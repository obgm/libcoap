import CoapVerif.Spec.Server
import CoapVerif.Generated.ServerTables
/-
M — transcription, in code order, of the request path of coap_dispatch() and of handle_request(), no_response(),
coap_new_error_response(), check_token_size(), coap_option_check_critical(), coap_get_uri_path(), coap_get_query()
and of the 5.08 fix-up in coap_send_internal() (src/coap_net.c, src/coap_uri.c), for one datagram arriving at a UDP
endpoint of a fresh context (no OSCORE context, no async state, block mode 0, Q-Block not enabled, no Echo pending);
the last section (`serverDecisionA`, `serverSeq`) covers a datagram that finds deferred responses (coap_async.c) and
`last_con_mid` left by earlier datagrams of the same or of other peers.
Finite tables come from T1 (Generated/ServerTables.lean).  External calls are parameters: the application handler
(`Request.verdict`), coap_split_proxy_uri (`Request.pu`), the text of the local address used by 5.08 (`localAddrText`),
the listing of /.well-known/core (`Body.wellknown`, C20).
-/
namespace Coap.Server.M
open Coap.Generated.Server

/-! ### coap_opt_filter_t: `filterShort` slots for numbers ≤ 255, `filterLong` slots above -/
structure Filter where
  short : List Nat
  long : List Nat
  deriving DecidableEq, Repr

def Filter.empty : Filter := ⟨[], []⟩
def Filter.get (f : Filter) (n : Nat) : Bool := if n > 255 then f.long.contains n else f.short.contains n
/-- FILTER_SET: 1 if already present or stored, 0 if no free slot -/
def Filter.set (f : Filter) (n : Nat) : Filter × Bool :=
  if f.get n then (f, true)
  else if n > 255 then
    if f.long.length < filterLong then ({ f with long := f.long ++ [n] }, true) else (f, false)
  else
    if f.short.length < filterShort then ({ f with short := f.short ++ [n] }, true) else (f, false)
def Filter.unset (f : Filter) (n : Nat) : Filter :=
  if n > 255 then { f with long := f.long.filter (· != n) } else { f with short := f.short.filter (· != n) }

/-- ctx->known_options after coap_register_option() for every number of cfg.known -/
def knownFilter (cfg : Cfg) : Filter := cfg.known.foldl (fun f n => (f.set n).1) Filter.empty

/-! ### handler tables: constructor presets + the application's coap_register_request_handler() calls -/
def mbit (m i : Nat) : Bool := m / 2 ^ i % 2 == 1

/-- r->handler[] (as a bit mask) of a resource whose constructor registered `actual` by itself, after an application
that wants handlers exactly for `mask` and knows the constructor to register `doc` (coap_resource(3)) has made its
calls: it registers what `doc` lacks, unregisters what it does not want and leaves the rest to the constructor -/
def effMask (doc actual mask : Nat) : Nat :=
  (List.range 7).foldl (fun acc i =>
    acc + (if (if mbit mask i then (!mbit doc i || mbit actual i) else (!mbit doc i && mbit actual i)) then 2 ^ i else 0)) 0

/-- the handler tables of the real resources: what the constructors preset (T1) and the application's registrations -/
def implTable (t : Table) : Table :=
  ⟨t.unk.map fun u => { u with mask := effMask S.docPresetUnk presetUnk u.mask },
   t.prx.map fun p => { p with mask := effMask S.docPresetPrx presetPrx p.mask },
   t.res.map fun r => { r with mask := effMask S.docPresetRes presetRes r.mask }⟩

/-! ### coap_option_check_critical -/
structure Crit where
  ok : Bool
  unknown : Filter
  critOpt : Bool       -- pdu->crit_opt
  last : Option Nat    -- last_number
  stop : Bool          -- the `break` out of the while loop
  deriving DecidableEq, Repr

/-- one iteration of the while loop for option number `n`.  `proxyFwd`: request ∧ ctx->proxy_uri_resource ∧ the PDU has
Proxy-Uri or Proxy-Scheme. -/
def critStep (known : Filter) (proxyFwd : Bool) (st : Crit) (n : Nat) : Crit :=
  if st.stop then st else
  -- the switch on odd numbers
  let st1 : Crit :=
    if n % 2 = 1 then
      if n = 19 ∨ n = 31 then
        -- COAP_OPTION_Q_BLOCK1/2 with !(ctx->block_mode & COAP_BLOCK_TRY_Q_BLOCK)
        { st with ok := false, unknown := (st.unknown.set n).1 }
      else if criticalBuiltin.contains n then st
      else
        -- default: (also COAP_OPTION_OSCORE without ctx->p_osc_ctx)
        if known.get n then st
        else if n / 2 % 2 = 0 ∧ proxyFwd then { st with critOpt := true }
        else
          -- the `break` after a failed coap_option_filter_set only leaves the switch
          { st with ok := false, unknown := (st.unknown.set n).1 }
    else st
  if st1.last = some n then
    if nonRepeatable.contains n then
      -- ok = 0; if (coap_option_filter_set(...) == 0) break;
      let s := st1.unknown.set n
      { st1 with ok := false, unknown := s.1, last := some n, stop := !s.2 }
    else { st1 with last := some n }
  else
    -- (Block2 in a request: M bit cleared in place, see `viewOpts`; the scan's result does not depend on it)
    { st1 with last := some n }

def critCheck (known : Filter) (proxyFwd : Bool) (os : Opts) : Crit :=
  (os.map (·.1)).foldl (critStep known proxyFwd) ⟨true, Filter.empty, false, none, false⟩

/-! ### request view -/
/- coap_encode_var_safe = `minimalUint`, coap_get_block_b on UDP = `block`, the Block2 M-bit clearing of
   coap_option_check_critical = `clearBlock2M`, coap_update_option(Hop-Limit) = `setHop`: value formats shared with S
   (Spec/Server.lean, vocabulary). -/

/-- coap_get_uri_path() without Proxy-Uri -/
def uriPathLoop : (first : Bool) → Opts → Bytes
  | _, [] => []
  | first, (n, v) :: r =>
    if n = 11 then (if first then [] else [47]) ++ pctEncode unescPath v ++ uriPathLoop false r
    else uriPathLoop first r
def uriPath (os : Opts) : Bytes := uriPathLoop true os

def queryLoop : (first : Bool) → Opts → Bytes
  | _, [] => []
  | first, (n, v) :: r =>
    if n = 15 then (if first then [] else [38]) ++ pctEncode unescQuery v ++ queryLoop false r
    else queryLoop first r
/-- coap_get_query() (NULL and the empty string print alike) -/
def query (os : Opts) : Bytes := queryLoop true os

/-! ### replies -/
def phraseOf (code : Nat) : Bytes :=
  match phrases.lookup code with
  | some p => p.map UInt8.ofNat
  | none => []

def respType (reqType : Nat) : Nat := if reqType = CON then ACK else NON

/-- the copy loop of coap_new_error_response(): coap_add_option_internal() refuses a second instance of a
non-repeatable number (`number == pdu->max_opt`, max_opt starts at 0) -/
def echoLoop (f : Filter) : (maxOpt : Nat) → Opts → Opts
  | _, [] => []
  | mx, (n, v) :: r =>
    if f.get n then
      if n = mx ∧ nonRepeatable.contains n then echoLoop f mx r
      else (n, v) :: echoLoop f n r
    else echoLoop f mx r

/-- coap_new_error_response() on the request PDU as coap_option_check_critical() left it (`os`) -/
def errReply (m : Msg) (os : Opts) (code : Nat) (flt : Filter) : Reply :=
  let f := ((flt.unset 12).unset 16).unset 9
  { src := .lib, type := respType m.type, code := code, mid := m.mid, token := m.token,
    opts := echoLoop f 0 os,
    body := .bytes (if code = 168 then [] else phraseOf code) }

/-- coap_send_message_type_lkd(): empty message of the given type -/
def emptyMsg (type mid : Nat) : Reply := ⟨.lib, type, 0, mid, [], [], .bytes []⟩

/-- the address the datagram was sent to, as coap_print_addr() prints it without port (a constant of the harness) -/
def localAddrText (mcast : Bool) : Bytes :=
  if mcast then [50, 50, 52, 46, 48, 46, 49, 46, 49, 56, 55]   -- "224.0.1.187"
  else [49, 50, 55, 46, 48, 46, 48, 46, 49]                    -- "127.0.0.1"

/-- coap_send_internal(): a 5.08 without Hop-Limit option and without data gets Hop-Limit 255 and the address -/
def sendFix (mcast : Bool) (r : Reply) : Reply :=
  if r.code = 168 ∧ ¬ hasOpt r.opts 16 ∧ r.body = .bytes [] then
    { r with opts := (r.opts.filter (·.1 < 16)) ++ (16, [255]) :: r.opts.filter (·.1 ≥ 16), body := .bytes (localAddrText mcast) }
  else r

inductive Respond where
  | dflt | drop | send
  deriving DecidableEq, Repr

/-- the tail of no_response(): "Do not send error responses for requests that were received via IP multicast" -/
def mcastTail (cfg : Cfg) (rq : Request) (resFlags : Option Nat) (r : Reply) : Respond :=
  if rq.mcast then
    if rq.msg.type = NON ∧ r.type = RST then .drop
    else if (resFlags.isNone ∨ cfg.mpr = false) ∧ codeClass r.code > 2 then .drop
    else .dflt
  else .dflt

/-- no_response(): the verdict and the (possibly emptied) response -/
def noResponse (cfg : Cfg) (rq : Request) (resFlags : Option Nat) (r : Reply) : Respond × Reply :=
  let cls := codeClass r.code
  if cls > 0 then
    match firstOpt rq.msg.opts 258 with
    | some v =>
      let val := uintOf v % 4294967296
      if (2 ^ (cls - 1)) &&& val > 0 then
        if r.type = ACK then (.send, emptied r)
        else (.drop, r)
      else (.send, r)
    | none =>
      match resFlags with
      | some fl =>
        if cfg.mpr ∧ rq.mcast then
          if flag fl F_SUPPRESS_2_XX ∧ cls = 2 then (.drop, r)
          else if flag fl F_SUPPRESS_2_05 ∧ r.code = 69 then
            if r.body = .bytes [] then (.drop, r) else (mcastTail cfg rq resFlags r, r)
          else if ¬ flag fl F_DIS_SUPPRESS_4_XX ∧ cls = 4 then (.drop, r)
          else if ¬ flag fl F_DIS_SUPPRESS_5_XX ∧ cls = 5 then (.drop, r)
          else (mcastTail cfg rq resFlags r, r)
        else (mcastTail cfg rq resFlags r, r)
      | none => (mcastTail cfg rq resFlags r, r)
  else if r.code = 0 ∧ r.type = NON then (.drop, r)
  else (mcastTail cfg rq resFlags r, r)

/-- "No delays to response": coap_send_internal(); else the leisure-delayed path (coap_wait_ack), which skips the 5.08 fix-up -/
def immediate (cfg : Cfg) (rq : Request) (resFlags : Option Nat) : Bool :=
  !rq.mcast || (cfg.mpr && (match resFlags with | some fl => flag fl F_DIS_MCAST_DELAYS | none => false))

/-- skip_handler: after no_response — Observe removal, empty-ACK token stripping, send -/
def post (cfg : Cfg) (rq : Request) (resFlags : Option Nat) (observe : Bool) (p : Respond × Reply) : List Reply :=
  if p.1 = .drop then [] else
  -- coap_remove_option(response, COAP_OPTION_OBSERVE) unless 2.xx; "Remove token from otherwise-empty acknowledgment PDU"
  let r3 := ackStrip (stripObserve observe p.2)
  [if immediate cfg rq resFlags then sendFix rq.mcast r3 else r3]

def deliver (cfg : Cfg) (rq : Request) (resFlags : Option Nat) (observe : Bool) (r : Reply) : List Reply :=
  post cfg rq resFlags observe (noResponse cfg rq resFlags r)

/-! ### handle_request -/
/- where a block of handle_request() leaves is a `Pre` (Spec/Server.lean, vocabulary): `.fail resp resource` is
   `resp = …; goto fail_response` with the value `resource` has at that point (none = NULL, some flags), `.ignore` is
   `return`, `.go` is falling through with what the block computed -/
abbrev Jump := Pre

/-- `uri_path = coap_get_uri_path(pdu); if (!uri_path) return;` -/
def pathBlock (rq : Request) (isProxy : Bool) (os : Opts) : Jump :=
  if hasOpt os 35 then (match rq.pu with | .ok _ p => .go isProxy os p | _ => .ignore)
  else .go isProxy os (uriPath os)

/-- `if (!skip_hop_limit_check) { … COAP_OPTION_HOP_LIMIT … }` then the path -/
def hopBlock (rq : Request) (isProxy skipHop : Bool) (os : Opts) : Jump :=
  if skipHop then pathBlock rq isProxy os else
  match firstOpt os 16 with
  | none => pathBlock rq isProxy os
  | some v =>
    let hop := uintOf v % 4294967296
    if hop = 1 then .fail 168 none
    else if hop < 1 ∨ hop > 255 then .fail 128 none
    else pathBlock rq isProxy (setHop (hop - 1) os)

/-- lines "Proxy-Scheme requires Uri-Host" … `uri_path = coap_get_uri_path(pdu)`: proxy options, Hop-Limit, path -/
def preStage (tbl : Table) (rq : Request) (critOpt : Bool) (os : Opts) : Jump :=
  let m := rq.msg
  if hasOpt os 39 ∧ ¬ hasOpt os 3 then .fail 130 none else
  if hasOpt os 39 ∨ hasOpt os 35 then
    match tbl.prx with
    | none => .fail 165 none
    | some p =>
      if 1 ≤ m.code ∧ m.code ≤ 7 ∧ ¬ handlerBit p.mask m.code then .fail 165 none else
      -- uri.host: from coap_split_proxy_uri (Proxy-Uri) or the Uri-Host option
      let host : Option Bytes :=
        if hasOpt os 35 then (match rq.pu with | .ok h _ => some h | _ => none)
        else some ((firstOpt os 3).getD [])
      match host with
      | none => .fail 165 none
      | some h =>
        -- proxy_name_count = 1: "this server is hosting the proxy connection endpoint"
        if h.length ≠ 0 ∧ (p.name.length = 0 ∨ h = p.name) then
          if critOpt then .fail 130 (some p.flags) else hopBlock rq false true os
        else hopBlock rq true false os
  else hopBlock rq false false os

/-- "try to find the resource from the request URI" … the selection cascade; inl = `resp` of `goto fail_response` -/
def selectStage (tbl : Table) (code : Nat) (isProxy : Bool) (path : Bytes) : Nat ⊕ Sel :=
  let found : Option Sel := if isProxy then none else (findRes tbl.res path 0).map fun x => Sel.res x.1 x.2
  let unkFor : Option Special :=
    match tbl.unk with
    | some u => if handlerBit u.mask code then some u else none
    | none => none
  match found with
  | some s => .inr s
  | none =>
    if isProxy then (match tbl.prx with | some p => .inr (.prx p) | none => .inl 160)
    else match unkFor with
      | some u => if flag u.flags F_HANDLE_WKC then .inr (.unk u)
                  else if path = wellKnownCore then .inr .wk else .inr (.unk u)
      | none =>
        if path = wellKnownCore then .inr .wk
        else if code = 4 then .inl 66
        else .inl 132

/-- OSCORE-only … per-resource multicast support: `resp` of `goto fail_response`, or none -/
def checkStage (cfg : Cfg) (rq : Request) (os : Opts) (sel : Sel) : Option Nat :=
  if flag sel.flags F_OSCORE_ONLY then some 129 else
  if sel.exists_ ∧ hasOpt os 5 then some 140 else
  if ¬ handlerBit sel.mask rq.msg.code then some 133 else
  if rq.msg.code = 5 ∧ ¬ hasOpt os 12 then some 143 else
  if cfg.mpr ∧ ¬ flag sel.flags F_HAS_MCAST ∧ rq.mcast then some 133 else none

/-- "check for Observe option" … coap_add_observer: none = `response->code = 4.00; goto skip_handler` (Block2 NUM ≠ 0 in
a registration), else the response so far (Observe option added for a registration; resource->observe starts at 2) -/
def obsStage (os : Opts) (observe : Bool) (resp0 : Reply) : Option Reply :=
  if observe then
    let action := uintOf ((firstOpt os 6).getD []) % 4294967296
    if action = 0 then
      match (firstOpt os 23).bind block with
      | some (num, _, _) => if num ≠ 0 then none else some { resp0 with opts := [(6, [2])] }
      | none => some { resp0 with opts := [(6, [2])] }
    else some resp0
  else some resp0

/-- "send_early_empty_ack" … handler call … skip_handler … the end of handle_request() -/
def callStage (cfg : Cfg) (rq : Request) (os : Opts) (path : Bytes) (sel : Sel) (observe : Bool) (resp1 : Reply) : Outcome :=
  let m := rq.msg
  let fl := some sel.flags
  -- proxy: early empty ACK, the response becomes a separate CON
  let early : Bool := sel.isPrx && m.type == CON
  let pre : List Reply := if early then [emptyMsg ACK m.mid] else []
  match sel.who with
  | none =>
    -- hnd_get_wellknown_lkd
    let r : Reply := { resp1 with code := 69, opts := [(12, [40])], body := .wellknown }
    ⟨true, pre ++ deliver cfg rq fl observe r, none⟩
  | some who =>
    let call : Call := ⟨who, m.code, path, query os, os, m.payload⟩
    let r : Reply := { resp1 with code := if rq.verdict.code = 0 then resp1.code else rq.verdict.code,
                                  body := .bytes rq.verdict.payload }
    -- coap_check_code_class(session, response)
    if ¬ inIvs codeOk r.code then ⟨true, pre, some call⟩ else
    let r := if early then { r with type := CON } else r
    if early ∧ r.code = 0 then ⟨true, pre, some call⟩ else
    ⟨true, pre ++ deliver cfg rq fl observe r, some call⟩

/-- `response = coap_pdu_init(...)` … the end of handle_request() -/
def runStage (cfg : Cfg) (rq : Request) (os : Opts) (path : Bytes) (sel : Sel) : Outcome :=
  let m := rq.msg
  let resp0 : Reply := ⟨.app, respType m.type, 0, m.mid, m.token, [], .bytes []⟩
  let observe : Bool := sel.observable && (m.code == 1 || m.code == 5) && hasOpt os 6
  match obsStage os observe resp0 with
  | none => ⟨true, deliver cfg rq (some sel.flags) observe { resp0 with src := .lib, code := 128 }, none⟩
  | some resp1 => callStage cfg rq os path sel observe resp1

/-- fail_response: coap_new_error_response(pdu, resp, &opt_filter /* empty */) then `goto skip_handler` -/
def failResponse (cfg : Cfg) (rq : Request) (os : Opts) (resp : Nat) (resource : Option Nat) : Outcome :=
  ⟨true, deliver cfg rq resource false (errReply rq.msg os resp Filter.empty), none⟩

def handleRequest (cfg : Cfg) (tbl : Table) (rq : Request) (critOpt : Bool) (os : Opts) : Outcome :=
  if rq.mcast ∧ rq.msg.type ≠ NON then Outcome.nothing else
  -- (no async state on a fresh context)
  match preStage tbl rq critOpt os with
  | .fail resp res => failResponse cfg rq os resp res
  | .ignore => Outcome.nothing
  | .go isProxy os' path =>
    match selectStage tbl rq.msg.code isProxy path with
    | .inl resp => failResponse cfg rq os' resp none
    | .inr sel =>
      match checkStage cfg rq os' sel with
      | some resp => failResponse cfg rq os' resp (some sel.flags)
      | none => runStage cfg rq os' path sel

/-! ### coap_dispatch, request path -/
def serverDecision (cfg : Cfg) (tbl : Table) (rq : Request) : Outcome :=
  let m := rq.msg
  -- coap_check_code_class
  if ¬ inIvs codeOk m.code then
    ⟨true, if m.type = CON then [emptyMsg RST m.mid] else [], none⟩
  else if ¬ isRequestCode m.code then Outcome.outOfScope            -- Empty / responses: C07
  else if rq.verdict.code = 168 then Outcome.outOfScope              -- D8
  else
  let proxyFwd := tbl.prx.isSome ∧ (hasOpt m.opts 35 ∨ hasOpt m.opts 39)
  let c := critCheck (knownFilter cfg) proxyFwd m.opts
  if ¬ c.ok then
    if m.type = NON then
      -- RFC 7252 §8.1: no Reset in reply to a multicast NON
      ⟨true, if rq.mcast then [] else [emptyMsg RST m.mid], none⟩
    else if m.type = CON then ⟨true, [errReply m (clearBlock2M m.opts) 130 c.unknown], none⟩
    else Outcome.nothing
  else if hasOpt m.opts 9 then Outcome.outOfScope                    -- registered OSCORE option: coap_oscore.c
  else if m.type = ACK then Outcome.nothing                          -- "Request using ACK - ignore"
  else if m.type = RST then Outcome.nothing
  else
  -- check_token_size (server session)
  if m.token.length > cfg.mts then
    if cfg.mts > 8 then ⟨true, [errReply m (clearBlock2M m.opts) 128 Filter.empty], none⟩
    else ⟨true, if rq.mcast ∧ m.type = NON then [] else [emptyMsg RST m.mid], none⟩
  else handleRequest cfg tbl rq c.critOpt (clearBlock2M m.opts)

/-! ### a request that finds state left by earlier datagrams at the same context
`hit`: `coap_find_async_lkd(session, pdu->actual_token)` finds a registration (a handler deferred the response to an
earlier request of this session with this token by coap_register_async(…, delay 0): `async->delay == 0`);
`dup`: `pdu->mid == session->last_con_mid`.  With `hit = dup = false` these are the functions above
(`serverDecisionA_fresh` in Lemmas/Server.lean). -/

def runStageA (dup : Bool) (cfg : Cfg) (rq : Request) (os : Opts) (path : Bytes) (sel : Sel) : Outcome :=
  -- `if (send_early_empty_ack) { coap_send_ack_lkd(session, pdu); if (pdu->mid == session->last_con_mid) goto drop_it_no_debug;`
  -- (the Observe block in front of it does nothing for the proxy resource: it is never observable)
  if sel.isPrx ∧ rq.msg.type = CON ∧ dup then ⟨true, [emptyMsg ACK rq.msg.mid], none⟩
  else runStage cfg rq os path sel

def handleRequestA (hit dup : Bool) (cfg : Cfg) (tbl : Table) (rq : Request) (critOpt : Bool) (os : Opts) : Outcome :=
  if rq.mcast ∧ rq.msg.type ≠ NON then Outcome.nothing else
  -- `async = coap_find_async_lkd(session, pdu->actual_token); if (async) { … "Retransmit async response"
  --  coap_send_ack_lkd(session, pdu) /* only if CON */; return; }`
  if hit then ⟨true, if rq.msg.type = CON then [emptyMsg ACK rq.msg.mid] else [], none⟩ else
  match preStage tbl rq critOpt os with
  | .fail resp res => failResponse cfg rq os resp res
  | .ignore => Outcome.nothing
  | .go isProxy os' path =>
    match selectStage tbl rq.msg.code isProxy path with
    | .inl resp => failResponse cfg rq os' resp none
    | .inr sel =>
      match checkStage cfg rq os' sel with
      | some resp => failResponse cfg rq os' resp (some sel.flags)
      | none => runStageA dup cfg rq os' path sel

def serverDecisionA (hit dup : Bool) (cfg : Cfg) (tbl : Table) (rq : Request) : Outcome :=
  let m := rq.msg
  if ¬ inIvs codeOk m.code then
    ⟨true, if m.type = CON then [emptyMsg RST m.mid] else [], none⟩
  else if ¬ isRequestCode m.code then Outcome.outOfScope
  else if rq.verdict.code = 168 then Outcome.outOfScope
  else
  let proxyFwd := tbl.prx.isSome ∧ (hasOpt m.opts 35 ∨ hasOpt m.opts 39)
  let c := critCheck (knownFilter cfg) proxyFwd m.opts
  if ¬ c.ok then
    if m.type = NON then
      ⟨true, if rq.mcast then [] else [emptyMsg RST m.mid], none⟩
    else if m.type = CON then ⟨true, [errReply m (clearBlock2M m.opts) 130 c.unknown], none⟩
    else Outcome.nothing
  else if hasOpt m.opts 9 then Outcome.outOfScope
  else if m.type = ACK then Outcome.nothing
  else if m.type = RST then Outcome.nothing
  else
  if m.token.length > cfg.mts then
    if cfg.mts > 8 then ⟨true, [errReply m (clearBlock2M m.opts) 128 Filter.empty], none⟩
    else ⟨true, if rq.mcast ∧ m.type = NON then [] else [emptyMsg RST m.mid], none⟩
  else handleRequestA hit dup cfg tbl rq c.critOpt (clearBlock2M m.opts)

/-- the server's outcomes for a sequence of datagrams, starting from history `h` (see `Hist`, `Ev`, `seqRun`) -/
def serverSeq (cfg : Cfg) (tbl : Table) : Hist → List Ev → List Outcome :=
  seqRun (fun hit dup rq => serverDecisionA hit dup cfg tbl rq)

end Coap.Server.M
