/-
Shared helpers for the models, the line-protocol driver and the proofs (`ite_ind`, `foldl_inv`, `foldl_inv_mem`, `foldl_rel`).
Core Lean only.
-/
namespace Coap

abbrev Bytes := List UInt8

/-- Result of a faithful-model function: a value, a rejection (the C function
returns its error value), or `oob` — the transcribed algorithm would read or
write outside the buffer it was given (so an out-of-bounds access is an
observable value of the model, never a totalised default). -/
inductive R (α : Type) where
  | ok  : α → R α
  | rej : R α
  | oob : R α
  deriving Repr, DecidableEq

namespace R
@[inline] def bind {α β} (x : R α) (f : α → R β) : R β :=
  match x with
  | ok a => f a
  | rej => rej
  | oob => oob
instance : Monad R where
  pure := ok
  bind := bind
def toOption {α} : R α → Option α
  | ok a => some a
  | _ => none
def isOob {α} : R α → Bool
  | oob => true
  | _ => false
@[simp] theorem bind_ok {α β} (a : α) (f : α → R β) : (R.ok a >>= f) = f a := rfl
@[simp] theorem bind_rej {α β} (f : α → R β) : ((R.rej : R α) >>= f) = R.rej := rfl
@[simp] theorem bind_oob {α β} (f : α → R β) : ((R.oob : R α) >>= f) = R.oob := rfl
@[simp] theorem pure_eq {α} (a : α) : (pure a : R α) = R.ok a := rfl
end R

def hexDigit (n : Nat) : Char :=
  if n < 10 then Char.ofNat (48 + n) else Char.ofNat (87 + n)

def hexOfBytes (bs : Bytes) : String :=
  String.ofList (bs.flatMap fun b => [hexDigit (b.toNat / 16), hexDigit (b.toNat % 16)])

def hexVal (c : Char) : Option Nat :=
  if '0' ≤ c ∧ c ≤ '9' then some (c.toNat - 48)
  else if 'a' ≤ c ∧ c ≤ 'f' then some (c.toNat - 87)
  else if 'A' ≤ c ∧ c ≤ 'F' then some (c.toNat - 55)
  else none

def bytesOfHexChars : List Char → Option Bytes
  | [] => some []
  | [_] => none
  | a :: b :: r => do
    let x ← hexVal a
    let y ← hexVal b
    let t ← bytesOfHexChars r
    pure (UInt8.ofNat (x * 16 + y) :: t)

/-- `-` denotes the empty byte string in the line protocol. -/
def bytesOfHex (s : String) : Option Bytes :=
  if s = "-" then some [] else bytesOfHexChars s.toList

def hexOrDash (bs : Bytes) : String :=
  if bs.isEmpty then "-" else hexOfBytes bs

def words (line : String) : List String :=
  (line.trimAscii.toString.splitOn " ").filter (· ≠ "")

/-- A property of both branches holds of the conditional.  The model functions are `if` cascades: a proof about one
walks it with a chain of these, one per test (`split` would elaborate the whole remaining cascade at every level). -/
theorem ite_ind {α : Sort _} {P : α → Prop} {c : Prop} [Decidable c] {a b : α} (ha : c → P a) (hb : ¬ c → P b) :
    P (if c then a else b) := by
  by_cases h : c
  · rw [if_pos h]; exact ha h
  · rw [if_neg h]; exact hb h

/-- What every step keeps, a run keeps: the runs of the models are `List.foldl step`.  The step hypothesis is asked of the
events of the list only. -/
theorem foldl_inv_mem {σ ε : Type _} {f : σ → ε → σ} (P : σ → Prop) :
    ∀ (es : List ε), (∀ e ∈ es, ∀ s, P s → P (f s e)) → ∀ s, P s → P (es.foldl f s)
  | [], _, _, hs => hs
  | e :: es, h, s, hs => foldl_inv_mem P es (fun x hx => h x (List.mem_cons_of_mem e hx)) _ (h e List.mem_cons_self s hs)

/-- `foldl_inv_mem` for a step that keeps `P` whatever the event. -/
theorem foldl_inv {σ ε : Type _} {f : σ → ε → σ} (P : σ → Prop) (h : ∀ s e, P s → P (f s e)) :
    ∀ (es : List ε) (s : σ), P s → P (es.foldl f s) :=
  fun es => foldl_inv_mem P es fun e _ s => h s e

/-- The same for a relation between two runs over the same events (a model state and what describes it). -/
theorem foldl_rel {σ τ ε : Type _} {f : σ → ε → σ} {g : τ → ε → τ} (R : σ → τ → Prop) :
    ∀ (es : List ε), (∀ e ∈ es, ∀ s t, R s t → R (f s e) (g t e)) → ∀ s t, R s t → R (es.foldl f s) (es.foldl g t)
  | [], _, _, _, hr => hr
  | e :: es, h, s, t, hr =>
    foldl_rel R es (fun x hx => h x (List.mem_cons_of_mem e hx)) _ _ (h e List.mem_cons_self s t hr)

end Coap
